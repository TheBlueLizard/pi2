import Pi2.ModuleMOKRun
/-!
# The three loops of `execute_full` against the machine, plain or memoising

* `pubAxiomG`, `pubClaimG`: compile a pattern, publish it — the machine's memory / claim stack receive the renamed
  expansions, the journal is the list of renamed expansions;
* `stepG`: one proof expression followed by `publish_proof` — the machine reaches the conclusion (`runG`) and pops the
  claim;
* `module_acceptedG`: the serialisation of a module is accepted by the machine, for every configuration `cfg` and
  classes `Q` (patterns), `A` (axioms), `L` (loaded axioms) with `Memoable cfg Q` and `==` truthful between `A` and `L`.
  `module_acceptedK` is the case of a K trace module under the plain configuration.

Throughout, the machine's memory is the image of the tracker's (`MRel`), so the machine after a segment that ended in
tracker state `s'` is `mset ρ s' m ps`.
-/
set_option linter.unusedSimpArgs false
set_option linter.unusedVariables false
open Pat PySt

namespace KMod
open NPat

/-- the machine state after a segment that ended in tracker state `s'`: the patterns `ps` pushed, the memory the image
of the tracker's -/
def mset (ρ : Nat → Nat) (s' : PySt) (m : St) (ps : List Pat) : St :=
  mpush { m with memory := s'.memory.map (convR ρ) } ps

theorem mset_congr {ρ : Nat → Nat} {s s' : PySt} (hs : s'.memory = s.memory) (m : St) (ps : List Pat) :
    mset ρ s' m ps = mset ρ s m ps := by
  unfold mset; rw [hs]

theorem mset_claims (ρ : Nat → Nat) (s' : PySt) (m : St) (cl : List Pat) (ps : List Pat) :
    { mset ρ s' m ps with claims := cl } = mset ρ s' { m with claims := cl } ps := rfl

theorem mafter_eq_mset {ρ : Nat → Nat} {s s' : PySt} {m : St} {e : List NPat}
    (hs : s'.memory = s.memory ++ e.map .pat) (hm : MRel ρ s m) (ps : List Pat) :
    mafter ρ m e ps = mset ρ s' m ps := by
  have : (msave ρ m e).memory = s'.memory.map (convR ρ) := mrel_msave hs hm
  simp only [mafter, mset, msave] at this ⊢
  rw [this]

section
variable {cfg : Cfg} {Q A L : NPat → Prop}

/-! ## gamma and claim loops -/

theorem pub_cons_inv {n : Nat} {s s' : PySt} {acc a' : List Call} {c : Call} {a : NPat} {r : List NPat}
    (h : PModule.executeFull.pub cfg n s acc c (a :: r) = some (some (s', a'))) :
    ∃ s1 a1 s2 a2, patternF cfg n s a acc = some (some (s1, a1)) ∧
      doCalls n s1 [c] a1 = some (some (s2, a2)) ∧
      PModule.executeFull.pub cfg n s2 a2 c r = some (some (s', a')) := by
  simp only [PModule.executeFull.pub, Option.bind_eq_bind, Option.bind_eq_some_iff] at h
  obtain ⟨o1, hp, h⟩ := h
  rcases o1 with _ | ⟨s1, a1⟩
  · simp at h
  simp only [Option.bind_eq_some_iff] at h
  obtain ⟨o2, hd, h⟩ := h
  rcases o2 with _ | ⟨s2, a2⟩
  · simp at h
  exact ⟨s1, a1, s2, a2, hp, hd, h⟩

/-- what a publishing loop leaves alone, and the machine run: `cl ρ` is pushed on the machine's claims, `js ρ` is the
journal -/
def PubG (Q A : NPat → Prop) (n : Nat) (s : PySt) (acc : List Call) (s' : PySt) (a' : List Call)
    (cl js : (Nat → Nat) → List Pat) : Prop :=
  (MemG Q A s.memory → MemG Q A s'.memory) ∧ s'.claims = s.claims ∧ s'.phase = s.phase ∧
  (∃ t, s'.symtab = s.symtab ++ t) ∧
  ∃ cs, a' = acc ++ cs ∧ ∀ (ρ : Nat → Nat) (m : St), Agree ρ s'.symtab → MemG Q A s.memory → MRel ρ s m →
    ∃ is, Sg n s m cs s' (mset ρ s' { m with claims := cl ρ ++ m.claims } []) is (js ρ)

theorem mset_id {ρ : Nat → Nat} {s : PySt} {m : St} (hm : MRel ρ s m) :
    mset ρ s { m with claims := [] ++ m.claims } [] = m := by
  have hm : m.memory = _ := hm
  simp [mset, ← hm]

theorem PubG.nil {n : Nat} (s : PySt) (acc : List Call) : PubG Q A n s acc s acc (fun _ => []) fun _ => [] :=
  ⟨id, rfl, rfl, ⟨[], by simp⟩, [], by simp, fun ρ m _ _ hm => ⟨[], by rw [mset_id hm]; exact Sg.nil s m⟩⟩

theorem pubAxiomG (H : Memoable cfg Q) {n : Nat} :
    ∀ (as : List NPat) (s : PySt) (acc : List Call) (s' : PySt) (a' : List Call),
    PModule.executeFull.pub cfg n s acc .publishAxiom as = some (some (s', a')) →
    (∀ a ∈ as, a.MOK = true ∧ Q a ∧ A a) → s.phase = .gamma →
    PubG Q A n s acc s' a' (fun _ => []) fun ρ => as.map fun a => ren ρ a.expand := by
  intro as
  induction as with
  | nil =>
    intro s acc s' a' h _ hph
    simp only [PModule.executeFull.pub, Option.some.injEq, Prod.mk.injEq] at h
    obtain ⟨rfl, rfl⟩ := h
    exact PubG.nil s acc
  | cons a r ih =>
    intro s acc s' a' h has hph
    obtain ⟨s1, a1, s2, a2, hp, hd, h⟩ := pub_cons_inv h
    obtain ⟨hamok, haq, haa⟩ := has a (by simp)
    obtain ⟨e1, P1, cs1, rfl, S1⟩ := pattern_compilesG H (Nat.le_refl n) hp hamok haq
    obtain ⟨ht, rfl⟩ := MM.doCalls_one hd
    have hstk : s1.stack = entry a :: s.stack := by simpa using P1.stack
    have hph1 : s1.phase = .gamma := P1.phase.trans hph
    have htr : track1 n s1 .publishAxiom = some (some { s1 with
        stack := (.pat a, true) :: s.stack
        memory := s1.memory ++ [.proved a] }) := by
      simp [track1, hph1, hstk, entry]
    rw [htr] at ht
    simp only [Option.some.injEq] at ht
    subst ht
    obtain ⟨hmem, hcl, hph', ⟨t2, ht2⟩, cs3, rfl, S3⟩ := ih _ _ s' a' h
      (fun x hx => has x (List.mem_cons_of_mem _ hx)) hph1
    have hK2 : MemG Q A s.memory → MemG Q A (s1.memory ++ [.proved a]) := by
      intro hK
      obtain ⟨k1, k2⟩ := P1.memG hK
      refine ⟨fun q hq => k1 q (by simpa using hq), fun b hb => ?_⟩
      rcases List.mem_append.mp hb with hb | hb
      · exact k2 b hb
      · simp only [List.mem_singleton, TTerm.proved.injEq] at hb; subst hb; exact haa
    obtain ⟨t1, ht1⟩ := P1.symtab
    refine ⟨fun hK => hmem (hK2 hK), hcl.trans P1.claims, hph'.trans P1.phase,
      ⟨t1 ++ t2, by rw [ht2]; show s1.symtab ++ t2 = _; rw [ht1, List.append_assoc]⟩,
      cs1 ++ .publishAxiom :: cs3, by simp, ?_⟩
    intro ρ m hag hK hm
    have ag1 : Agree ρ s1.symtab := (ht2 ▸ hag : Agree ρ (s1.symtab ++ t2)).prefix
    obtain ⟨is1, G1⟩ := S1 ρ m ag1 hK.1 fun _ => hm
    rw [mafter_eq_mset P1.memory hm] at G1
    have G2 : Sg n s1 (mset ρ s1 m [ren ρ a.expand]) [.publishAxiom]
        { s1 with
          stack := (.pat a, true) :: s.stack
          memory := s1.memory ++ [.proved a] }
        (mset ρ { s1 with
          stack := (.pat a, true) :: s.stack
          memory := s1.memory ++ [.proved a] } m []) [.publish]
        (some (ren ρ a.expand)).toList :=
      Sg.single htr rfl (by rw [hph1]; simp [step, mset, mpush, convR]) rfl
        (sideK_mk _ _ (by simp [SideCond]) (by simp [touchesResidue, Call.arity, hstk, entry]) (by simp))
    obtain ⟨is3, G3⟩ := S3 ρ _ hag (hK2 hK) (show MRel ρ _ (mset ρ _ m []) from rfl)
    exact ⟨is1 ++ [.publish] ++ is3, by simpa [mset, mpush, List.append_assoc] using (G1.append G2).append G3⟩

theorem pubClaimG (H : Memoable cfg Q) {n : Nat} :
    ∀ (as : List NPat) (s : PySt) (acc : List Call) (s' : PySt) (a' : List Call),
    PModule.executeFull.pub cfg n s acc .publishClaim as = some (some (s', a')) →
    (∀ a ∈ as, a.MOK = true ∧ Q a) → s.phase = .claim →
    PubG Q A n s acc s' a' (fun ρ => (as.map fun a => ren ρ a.expand).reverse)
      fun ρ => as.map fun a => ren ρ a.expand := by
  intro as
  induction as with
  | nil =>
    intro s acc s' a' h _ hph
    simp only [PModule.executeFull.pub, Option.some.injEq, Prod.mk.injEq] at h
    obtain ⟨rfl, rfl⟩ := h
    exact PubG.nil s acc
  | cons a r ih =>
    intro s acc s' a' h has hph
    obtain ⟨s1, a1, s2, a2, hp, hd, h⟩ := pub_cons_inv h
    obtain ⟨hamok, haq⟩ := has a (by simp)
    obtain ⟨e1, P1, cs1, rfl, S1⟩ := pattern_compilesG H (Nat.le_refl n) hp hamok haq
    obtain ⟨ht, rfl⟩ := MM.doCalls_one hd
    have hstk : s1.stack = entry a :: s.stack := by simpa using P1.stack
    have hph1 : s1.phase = .claim := P1.phase.trans hph
    have htr : track1 n s1 .publishClaim = some (some { s1 with stack := (.pat a, true) :: s.stack }) := by
      simp [track1, hph1, hstk, entry]
    rw [htr] at ht
    simp only [Option.some.injEq] at ht
    subst ht
    obtain ⟨hmem, hcl, hph', ⟨t2, ht2⟩, cs3, rfl, S3⟩ := ih _ _ s' a' h
      (fun x hx => has x (List.mem_cons_of_mem _ hx)) hph1
    obtain ⟨t1, ht1⟩ := P1.symtab
    refine ⟨fun hK => hmem (P1.memG hK), hcl.trans P1.claims, hph'.trans P1.phase,
      ⟨t1 ++ t2, by rw [ht2]; show s1.symtab ++ t2 = _; rw [ht1, List.append_assoc]⟩,
      cs1 ++ .publishClaim :: cs3, by simp, ?_⟩
    intro ρ m hag hK hm
    have ag1 : Agree ρ s1.symtab := (ht2 ▸ hag : Agree ρ (s1.symtab ++ t2)).prefix
    obtain ⟨is1, G1⟩ := S1 ρ m ag1 hK.1 fun _ => hm
    rw [mafter_eq_mset P1.memory hm] at G1
    have G2 : Sg n s1 (mset ρ s1 m [ren ρ a.expand]) [.publishClaim]
        { s1 with stack := (.pat a, true) :: s.stack }
        (mset ρ { s1 with stack := (.pat a, true) :: s.stack } { m with claims := ren ρ a.expand :: m.claims } [])
        [.publish] (some (ren ρ a.expand)).toList :=
      Sg.single htr rfl (by rw [hph1]; simp [step, mset, mpush]) rfl
        (sideK_mk _ _ (by simp [SideCond]) (by simp [touchesResidue, Call.arity, hstk, entry]) (by simp))
    obtain ⟨is3, G3⟩ := S3 ρ _ hag (P1.memG hK)
      (show MRel ρ _ (mset ρ _ { m with claims := ren ρ a.expand :: m.claims } []) from rfl)
    exact ⟨is1 ++ [.publish] ++ is3, by simpa [mset, mpush, List.append_assoc] using (G1.append G2).append G3⟩

end

/-! ## the proof phase -/

/-- `publish_proof` on a proved term whose expansion is the next claim's -/
theorem publishC {n k : Nat} (hk : k ≤ n) (ρ : Nat → Nat) {s3 s4 : PySt} {c : NPat} {st : List (TTerm × Bool)}
    {acc a4 : List Call} (m0 : St) (ms : List Term)
    (h : doCalls k s3 [.publishProof] acc = some (some (s4, a4)))
    (hstk : s3.stack = (.proved c, false) :: st) (hph : s3.phase = .proof)
    (hc : c.Shape = true) (hcl : ∀ x ∈ s3.claims, x.Shape = true)
    (hmc : m0.claims = s3.claims.map fun x => ren ρ x.expand) :
    ∃ c0 rest, s3.claims = c0 :: rest ∧
      s4 = { s3 with stack := (.proved c, true) :: st, claims := rest } ∧ a4 = acc ++ [.publishProof] ∧
      Sg n s3 { m0 with stack := .proved (ren ρ c.expand) :: ms } [.publishProof] s4
        { m0 with stack := ms, claims := m0.claims.tail } [.publish] [] := by
  obtain ⟨ht, rfl⟩ := MM.doCalls_one h
  have htn := PySt.track1_mono hk _ _ _ ht
  cases hcls : s3.claims with
  | nil => simp [track1, hph, hstk, hcls] at htn
  | cons c0 rest =>
    have htn' := htn
    simp only [track1, hph, hstk, hcls, Option.bind_eq_bind, Option.bind_eq_some_iff] at htn'
    obtain ⟨e, hpeq, h2⟩ := htn'
    cases e with
    | false => simp at h2
    | true =>
      simp only [if_true, Option.pure_def, Option.some.injEq] at h2
      have hexp : c.expand = c0.expand := by
        have := NPat.peqF_expand n c c0 true hc (hcl c0 (by rw [hcls]; simp)) hpeq
        simpa using this.symm
      have h2' : s4 = { s3 with stack := (.proved c, true) :: st, claims := rest } := by
        rw [← h2, ← hph]
      refine ⟨c0, rest, rfl, h2', rfl, ?_⟩
      have hmc' : m0.claims = ren ρ c0.expand :: rest.map fun x => ren ρ x.expand := by
        rw [hmc, hcls]; rfl
      have := Sg.single (m := { m0 with stack := .proved (ren ρ c.expand) :: ms })
        (m1 := { m0 with stack := ms, claims := m0.claims.tail }) (i := .publish) (j := none) htn rfl
        (by rw [hph]; simp [step, hmc', hexp])
        (by rw [h2']) (sideK_mk _ _ (by simp [SideCond])
          (by simp [touchesResidue, Call.arity, hstk]) (by simp))
      simpa using this

/-- the tracker at the head of the proof loop -/
structure PInvG (Q A : NPat → Prop) (s : PySt) : Prop where
  phase : s.phase = .proof
  memK : MemG Q A s.memory
  clShape : ∀ c ∈ s.claims, c.Shape = true

/-- the side conditions of a proof expression: patterns in order, instantiations the machine accepts, substituted
values in `Q`, loaded axioms in `L` -/
def PfG (Q L : NPat → Prop) (pf : Pf) : Prop := pf.patsOK = true ∧ pf.InstOK ∧ pf.Within Q L

section
variable {cfg : Cfg} {Q A L : NPat → Prop}

/-- one proof expression followed by `publish_proof`: one claim is consumed -/
theorem stepG (H : Memoable cfg Q) (hload : ∀ n a r, A a → L r → peqF n a r = some true → a.expand = r.expand)
    {n : Nat} (ax : List NPat) {s s1 s2 : PySt} {pf : Pf} {acc a1 a2 : List Call} {c : NPat} (hpf : PfG Q L pf)
    (hrun : Pf.runF cfg ax n s pf acc = some (some (s1, a1, c)))
    (hpub : doCalls n s1 [.publishProof] a1 = some (some (s2, a2))) (hinv : PInvG Q A s) :
    PInvG Q A s2 ∧ (∃ t, s2.symtab = s.symtab ++ t) ∧ (∃ c0, s.claims = c0 :: s2.claims) ∧
    ∃ cs, a2 = acc ++ cs ∧ ∀ (ρ : Nat → Nat) (m : St), Agree ρ s2.symtab → MRel ρ s m →
      m.claims = s.claims.map (fun c => ren ρ c.expand) →
      ∃ is, Sg n s m cs s2 (mset ρ s2 { m with claims := m.claims.tail } []) is [] := by
  obtain ⟨e1, P1, hc, _, cs1, rfl, S1⟩ := runG (A := A) H hload (Nat.le_refl n) ax hrun hpf.1 hpf.2.1 hpf.2.2
  have hstk : s1.stack = (.proved c, false) :: s.stack := by simpa using P1.stack
  have hph1 : s1.phase = .proof := P1.phase.trans hinv.phase
  have hsh1 : ∀ x ∈ s1.claims, x.Shape = true := by rw [P1.claims]; exact hinv.clShape
  -- the tracker alone: any machine state with the images of the claims will do
  obtain ⟨c0, rest, hcl, rfl, rfl, _⟩ := publishC (Nat.le_refl n) (fun nm => nm) (c := c) (st := s.stack)
    ⟨[], [], s1.claims.map fun x => ren (fun nm => nm) x.expand⟩ [] hpub hstk hph1 hc hsh1 rfl
  refine ⟨⟨hph1, P1.memG hinv.memK, ?_⟩, P1.symtab, ⟨c0, by rw [← P1.claims]; exact hcl⟩,
    cs1 ++ [.publishProof], by simp, ?_⟩
  · intro x hx
    exact hsh1 x (by rw [hcl]; exact List.mem_cons_of_mem _ hx)
  intro ρ m hag hm hmc
  obtain ⟨is1, G1⟩ := S1 ρ m hag hinv.memK hm
  obtain ⟨_, _, _, _, _, G2⟩ := publishC (Nat.le_refl n) ρ (c := c) (st := s.stack) (msave ρ m e1) m.stack
    hpub hstk hph1 hc hsh1 (by rw [P1.claims]; exact hmc)
  have e : (msave ρ m e1).memory = s1.memory.map (convR ρ) := mrel_msave P1.memory hm
  have ec : (msave ρ m e1).claims = m.claims := rfl
  exact ⟨is1 ++ [.publish], by simpa [mset, mpush, mprov, ← e, ec] using G1.append G2⟩

theorem proofs_cons_inv {M : PModule} {n : Nat} {s s' : PySt} {acc a' : List Call} {pf : Pf} {r : List Pf}
    (h : PModule.executeFull.proofs cfg M n s acc (pf :: r) = some (some (s', a'))) :
    ∃ s1 a1 c s2 a2, Pf.runF cfg M.axiomsOf n s pf acc = some (some (s1, a1, c)) ∧
      doCalls n s1 [.publishProof] a1 = some (some (s2, a2)) ∧
      PModule.executeFull.proofs cfg M n s2 a2 r = some (some (s', a')) := by
  simp only [PModule.executeFull.proofs, Option.bind_eq_bind, Option.bind_eq_some_iff] at h
  obtain ⟨o1, hp, h⟩ := h
  rcases o1 with _ | ⟨s1, a1, cc⟩
  · simp at h
  simp only [Option.bind_eq_some_iff] at h
  obtain ⟨o2, hd, h⟩ := h
  rcases o2 with _ | ⟨s2, a2⟩
  · simp at h
  exact ⟨s1, a1, cc, s2, a2, hp, hd, h⟩

/-- the proof loop: one claim is discharged per proof -/
theorem proofsG (H : Memoable cfg Q) (hload : ∀ n a r, A a → L r → peqF n a r = some true → a.expand = r.expand)
    {M : PModule} {n : Nat} :
    ∀ (pfs : List Pf) (s : PySt) (acc : List Call) (s' : PySt) (a' : List Call),
    PModule.executeFull.proofs cfg M n s acc pfs = some (some (s', a')) →
    (∀ pf ∈ pfs, PfG Q L pf) → PInvG Q A s →
    (∃ t, s'.symtab = s.symtab ++ t) ∧ s.claims.length = s'.claims.length + pfs.length ∧
    ∃ cs, a' = acc ++ cs ∧ ∀ (ρ : Nat → Nat) (m : St), Agree ρ s'.symtab → MRel ρ s m →
      m.claims = s.claims.map (fun c => ren ρ c.expand) →
      ∃ is m', Sg n s m cs s' m' is [] ∧ m'.claims = s'.claims.map fun c => ren ρ c.expand := by
  intro pfs
  induction pfs with
  | nil =>
    intro s acc s' a' h _ _
    simp only [PModule.executeFull.proofs, Option.some.injEq, Prod.mk.injEq] at h
    obtain ⟨rfl, rfl⟩ := h
    exact ⟨⟨[], by simp⟩, by simp, [], by simp, fun ρ m _ _ hmc => ⟨[], m, Sg.nil s m, hmc⟩⟩
  | cons pf r ih =>
    intro s acc s' a' h hpfs hinv
    obtain ⟨s1, a1, c, s2, a2, hrun, hpub, hrest⟩ := proofs_cons_inv h
    obtain ⟨hinv2, ⟨t1, ht1⟩, ⟨c0, hc0⟩, cs1, rfl, S1⟩ :=
      stepG H hload M.axiomsOf (hpfs pf (by simp)) hrun hpub hinv
    obtain ⟨⟨t2, ht2⟩, hlen, cs2, rfl, S2⟩ := ih s2 _ s' a' hrest
      (fun x hx => hpfs x (List.mem_cons_of_mem _ hx)) hinv2
    refine ⟨⟨t1 ++ t2, by rw [ht2, ht1, List.append_assoc]⟩, by rw [hc0]; simp only [List.length_cons]; omega,
      cs1 ++ cs2, by simp, ?_⟩
    intro ρ m hag hm hmc
    have ag2 : Agree ρ s2.symtab := by rw [ht2] at hag; exact hag.prefix
    obtain ⟨is1, G1⟩ := S1 ρ m ag2 hm hmc
    obtain ⟨is2, m', G2, hm'⟩ := S2 ρ (mset ρ s2 { m with claims := m.claims.tail } []) hag rfl (by
      show m.claims.tail = _
      rw [hmc, hc0]; rfl)
    exact ⟨is1 ++ is2, m', by simpa using G1.append G2, hm'⟩

end

/-! ## the whole module -/

theorem trackAll_append_eq {n : Nat} : ∀ (cs1 cs2 : List Call) (s s1 : PySt)
    (out out1 : List Instr × List Instr × List Instr),
    trackAll n s cs1 out = some (some (s1, out1)) →
    trackAll n s (cs1 ++ cs2) out = trackAll n s1 cs2 out1 := by
  intro cs1
  induction cs1 with
  | nil =>
    intro cs2 s s1 out out1 h
    simp only [trackAll, Option.some.injEq, Prod.mk.injEq] at h
    obtain ⟨rfl, rfl⟩ := h
    rfl
  | cons c cs ih =>
    intro cs2 s s1 out out1 h
    obtain ⟨is, t, he, ht, h'⟩ := trackAll_cons n s s1 c cs out out1 h
    rw [List.cons_append, trackAll_cons_eq _ out he ht]
    exact ih cs2 t s1 _ out1 h'

section
variable {cfg : Cfg} {Q A L : NPat → Prop}

/-- `execute_full` up to the proof loop: the gamma loop, `into_claim_phase`, the claim loop, `into_proof_phase` -/
theorem executeFull_inv {n : Nat} {M : PModule} {s : PySt} {calls : List Call}
    (hex : PModule.executeFull cfg n M = some (some (s, calls))) :
    ∃ e1 a1 e3 a3,
      PModule.executeFull.pub cfg n (PySt.init M.claimsOf) [] .publishAxiom M.gammaAxioms = some (some (e1, a1)) ∧
      track1 n e1 .intoClaim = some (some { e1 with phase := .claim, stack := [] }) ∧
      PModule.executeFull.pub cfg n { e1 with phase := .claim, stack := [] } (a1 ++ [.intoClaim]) .publishClaim
        M.claimsOf.reverse = some (some (e3, a3)) ∧
      track1 n e3 .intoProof = some (some { e3 with phase := .proof, stack := [] }) ∧
      PModule.executeFull.proofs cfg M n { e3 with phase := .proof, stack := [] } (a3 ++ [.intoProof]) M.proofsOf
        = some (some (s, calls)) := by
  simp only [PModule.executeFull, Option.bind_eq_bind, Option.bind_eq_some_iff] at hex
  obtain ⟨o1, hpub1, hex⟩ := hex
  rcases o1 with _ | ⟨e1, a1⟩
  · simp at hex
  simp only [Option.bind_eq_some_iff] at hex
  obtain ⟨o2, hd1, hex⟩ := hex
  rcases o2 with _ | ⟨e2, a2⟩
  · simp at hex
  simp only [Option.bind_eq_some_iff] at hex
  obtain ⟨o3, hpub2, hex⟩ := hex
  rcases o3 with _ | ⟨e3, a3⟩
  · simp at hex
  simp only [Option.bind_eq_some_iff] at hex
  obtain ⟨o4, hd2, hex⟩ := hex
  rcases o4 with _ | ⟨e4, a4⟩
  · simp at hex
  simp only [] at hex
  obtain ⟨ht1, rfl⟩ := MM.doCalls_one hd1
  obtain ⟨ht2, rfl⟩ := MM.doCalls_one hd2
  obtain ⟨_, rfl⟩ := intoClaim_spec n e1 e2 ht1
  obtain ⟨_, rfl⟩ := intoProof_spec n e3 e4 ht2
  exact ⟨e1, a1, e3, a3, hpub1, ht1, hpub2, ht2, hex⟩

/-- where the proof loop of `execute_full` starts -/
theorem module_proof_startG (H : Memoable cfg Q) {n : Nat} (M : PModule) (s : PySt) (calls : List Call)
    (hgam : ∀ a ∈ M.gammaAxioms, a.MOK = true ∧ Q a ∧ A a)
    (hclm : ∀ a ∈ M.claimsOf, a.MOK = true ∧ Q a ∧ a.Shape = true)
    (hex : PModule.executeFull cfg n M = some (some (s, calls))) :
    ∃ e4 a4, PModule.executeFull.proofs cfg M n e4 a4 M.proofsOf = some (some (s, calls)) ∧ PInvG Q A e4 ∧
      e4.claims = M.claimsOf := by
  obtain ⟨e1, a1, e3, a3, hpub1, _, hpub2, _, hex⟩ := executeFull_inv hex
  obtain ⟨hK1, hcl1, _, _⟩ := pubAxiomG (A := A) H M.gammaAxioms _ [] e1 a1 hpub1 hgam rfl
  obtain ⟨hK3, hcl3, _, _⟩ := pubClaimG (A := A) H M.claimsOf.reverse _ _ e3 a3 hpub2
    (fun a ha => ⟨(hclm a (List.mem_reverse.mp ha)).1, (hclm a (List.mem_reverse.mp ha)).2.1⟩) rfl
  have hcl4 : e3.claims = M.claimsOf := hcl3.trans hcl1
  exact ⟨_, _, hex, ⟨rfl, hK3 (hK1 MemG.nil), fun c hc => (hclm c (hcl4 ▸ hc)).2.2⟩, hcl4⟩

/-- **acceptance of a module, plain or memoising**: axioms machine-OK, in `Q` and in `A`; claims machine-OK, in `Q`
and shaped; one proof per claim, every proof under the side conditions `PfG`.  `ρ` is any naming of the symbols that
names the symbols of the final table by their position (the number the serializer writes). -/
theorem module_acceptedG (H : Memoable cfg Q)
    (hload : ∀ n a r, A a → L r → peqF n a r = some true → a.expand = r.expand)
    {n : Nat} (M : PModule) (s : PySt) (calls : List Call)
    (hgam : ∀ a ∈ M.gammaAxioms, a.MOK = true ∧ Q a ∧ A a)
    (hclm : ∀ a ∈ M.claimsOf, a.MOK = true ∧ Q a ∧ a.Shape = true)
    (hpfs : ∀ pf ∈ M.proofsOf, PfG Q L pf) (hlen : M.claimsOf.length = M.proofsOf.length)
    (hex : PModule.executeFull cfg n M = some (some (s, calls)))
    (ρ : Nat → Nat) (hag : Agree ρ s.symtab) :
    s.claims = [] ∧ AllSideK n (PySt.init M.claimsOf) calls ∧
    ∃ g c p, PySt.trackAll n (PySt.init M.claimsOf) calls ([], [], []) = some (some (s, (g, c, p))) ∧
      verify g c p = some (M.gammaAxioms.map (fun a => ren ρ a.expand),
        M.claimsOf.reverse.map (fun a => ren ρ a.expand)) := by
  obtain ⟨e1, a1, e3, a3, hpub1, ht1, hpub2, ht2, hex⟩ := executeFull_inv hex
  obtain ⟨hK1, hcl1, _, ⟨tG, htG⟩, G, hG, SG⟩ := pubAxiomG (A := A) H M.gammaAxioms _ [] e1 a1 hpub1 hgam rfl
  obtain ⟨hK3, hcl3, hph3, ⟨tC, htC⟩, C, hC, SC⟩ := pubClaimG (A := A) H M.claimsOf.reverse _ _ e3 a3 hpub2
    (fun a ha => ⟨(hclm a (List.mem_reverse.mp ha)).1, (hclm a (List.mem_reverse.mp ha)).2.1⟩) rfl
  have hcl4 : e3.claims = M.claimsOf := hcl3.trans hcl1
  have hinv4 : PInvG Q A { e3 with phase := .proof, stack := [] } :=
    ⟨rfl, hK3 (hK1 MemG.nil), fun c hc => (hclm c (hcl4 ▸ hc)).2.2⟩
  obtain ⟨⟨tP, htP⟩, hlenP, P, hP, SP⟩ := proofsG H hload M.proofsOf _ _ s calls hex hpfs hinv4
  have hfin : s.claims = [] := by
    have : e3.claims.length = s.claims.length + M.proofsOf.length := hlenP
    rw [hcl4] at this
    exact List.length_eq_zero_iff.mp (by omega)
  simp only [List.nil_append] at hG
  subst hG hC
  have ag3 : Agree ρ e3.symtab := by have := hag; rw [htP] at this; exact this.prefix
  have ag1 : Agree ρ e1.symtab := by have := ag3; rw [htC] at this; exact this.prefix
  -- the machine: `m1` after the gamma loop, `m2` after the claim loop
  obtain ⟨isG, m1, hr1, hc1, GG⟩ : ∃ isG m1, MRel ρ e1 m1 ∧ m1.claims = [] ∧
      Sg n (PySt.init M.claimsOf) ⟨[], [], []⟩ a1 e1 m1 isG (M.gammaAxioms.map fun a => ren ρ a.expand) := by
    obtain ⟨is, G⟩ := SG ρ ⟨[], [], []⟩ ag1 MemG.nil rfl
    exact ⟨is, _, show MRel ρ e1 (mset ρ e1 _ []) from rfl, rfl, G⟩
  obtain ⟨isC, m2, hr2, hc2, GC⟩ : ∃ isC m2, MRel ρ e3 m2 ∧ m2.claims = M.claimsOf.map (fun a => ren ρ a.expand) ∧
      Sg n { e1 with phase := .claim, stack := [] } { m1 with stack := [] } C e3 m2 isC
        (M.claimsOf.reverse.map fun a => ren ρ a.expand) := by
    obtain ⟨is, G⟩ := SC ρ { m1 with stack := [] } ag3 (hK1 MemG.nil) hr1
    exact ⟨is, _, show MRel ρ e3 (mset ρ e3 _ []) from rfl, by simp [mset, mpush, hc1, List.map_reverse], G⟩
  obtain ⟨isP, m3, GP, hm3⟩ := SP ρ { m2 with stack := [] } hag hr2 (by rw [hc2, hcl4])
  rw [hfin] at hm3
  have hcalls : calls = a1 ++ .intoClaim :: (C ++ .intoProof :: P) := by rw [hP]; simp [List.append_assoc]
  subst hcalls
  refine ⟨hfin, ?_, isG, isC, isP, ?_, ?_⟩
  · -- side conditions
    have sIP : AllSideK n e3 (.intoProof :: P) :=
      ⟨Or.inl (Or.inr rfl), fun t ht => by rw [ht2] at ht; cases ht; exact GP.side⟩
    have sC := allSideK_append n C _ _ e3 GC.side GC.reach sIP
    have sIC : AllSideK n e1 (.intoClaim :: (C ++ .intoProof :: P)) :=
      ⟨Or.inl (Or.inl rfl), fun t ht => by rw [ht1] at ht; cases ht; exact sC⟩
    exact allSideK_append n a1 _ _ e1 GG.side GG.reach sIC
  · -- the replay
    have h1 := GG.trackAll ([], [], [])
    have h2 := GC.trackAll (addOut (PySt.init M.claimsOf).phase ([], [], []) isG)
    rw [trackAll_append_eq a1 _ _ e1 _ _ h1, trackAll_cons_eq _ _ (is := []) rfl ht1, addOut_nil,
      trackAll_append_eq C _ _ e3 _ _ h2, trackAll_cons_eq _ _ (is := []) rfl ht2, addOut_nil, GP.trackAll]
    rfl
  · -- the machine accepts
    have r1 : run .gamma ⟨[], [], []⟩ isG = some (_, _) := GG.run
    have r2 : run .claim _ isC = some (_, _) := GC.run
    have r3 : run .proof _ isP = some (_, _) := GP.run
    simp only [verify, r1, r2, r3, hm3, Option.bind_eq_bind, Option.bind_some, List.isEmpty_nil, if_true,
      Option.pure_def, List.map_nil]

end

/-- what `a == b` answering `True` must mean for a published axiom `a` against a rule `b` of the fragment -/
def PeqOK (a : NPat) : Prop :=
  ∀ n b, b.PF = true → NPat.peqF n a b = some true → a.expand = b.expand

theorem PeqOK.of_shape {a : NPat} (h : a.Shape = true) : PeqOK a := by
  intro n b hb hp
  have := NPat.peqF_expand n a b true h (PF.shape b hb) hp
  simpa using this.symm

def MemK (mem : List TTerm) : Prop := ∀ t ∈ mem, ∃ a, t = .proved a ∧ PeqOK a

/-- the proof expressions of a K trace -/
def KPf (pf : Pf) : Prop :=
  ∃ rule σ, rule.PF = true ∧ PFMap σ = true ∧ (σ.map (·.1)).Nodup ∧
    pf = (if σ.isEmpty then .loadAxiom rule else .dynInst (.loadAxiom rule) σ)

/-- tracker and machine in the proof phase -/
structure PRel (ρ : Nat → Nat) (s : PySt) (m : St) : Prop where
  phase : s.phase = .proof
  memory : m.memory = s.memory.map (convR ρ)
  claims : m.claims = s.claims.map fun c => ren ρ c.expand
  memK : MemK s.memory
  clShape : ∀ c ∈ s.claims, c.Shape = true

/-- the proof expressions of a K trace satisfy the side conditions: the rule is in the propositional fragment, so the
machine never rejects its instantiation -/
theorem KPf.pfG {Q : NPat → Prop} (hQ : ∀ v : NPat, v.PF = true → Q v) {pf : Pf} (h : KPf pf) :
    PfG Q (fun r => r.PF = true) pf := by
  obtain ⟨rule, σ, hrule, hσ, hnd, rfl⟩ := h
  cases hne : σ.isEmpty with
  | true => exact ⟨PF.shape _ hrule, trivial, hrule⟩
  | false =>
    have hvals : ∀ v ∈ σ.map (·.2), v.PF = true := by
      intro v hv
      obtain ⟨kv, hkv, rfl⟩ := List.mem_map.mp hv
      exact (PFMap_iff σ).mp hσ kv hkv
    refine ⟨by simp [Pf.patsOK, PF.shape _ hrule, PFMap.mok σ hσ, PFMap.shape σ hσ, hnd], ⟨trivial, ?_⟩,
      hrule, fun v hv => hQ v (hvals v hv)⟩
    intro _ A hA
    cases hA
    exact Pat.inst_PFS _ _ (PF.pfs rule hrule)

/-- the axioms a K module may publish: machine-OK, and `==` against a rule of the fragment is truthful -/
def GAx (a : NPat) : Prop := a.MOK = true ∧ PeqOK a

/-- **acceptance of a K-style module** (plain serialisation): axioms `GAx`, claims in the propositional fragment, one
proof `load_axiom` / `dynamic_inst(load_axiom)` per claim.  `ρ` is any naming of the symbols that names the symbols of
the final table by their position (the number the serializer writes). -/
theorem module_acceptedK {n : Nat} (M : PModule) (s : PySt) (calls : List Call)
    (hgam : ∀ a ∈ M.gammaAxioms, GAx a) (hclm : ∀ a ∈ M.claimsOf, a.PF = true)
    (hpfs : ∀ pf ∈ M.proofsOf, KPf pf) (hlen : M.claimsOf.length = M.proofsOf.length)
    (hex : PModule.executeFull {} n M = some (some (s, calls)))
    (ρ : Nat → Nat) (hag : Agree ρ s.symtab) :
    s.claims = [] ∧ AllSideK n (PySt.init M.claimsOf) calls ∧
    ∃ g c p, PySt.trackAll n (PySt.init M.claimsOf) calls ([], [], []) = some (some (s, (g, c, p))) ∧
      verify g c p = some (M.gammaAxioms.map (fun a => ren ρ a.expand),
        M.claimsOf.reverse.map (fun a => ren ρ a.expand)) :=
  module_acceptedG Memoable.plain (fun n a r ha hr => ha n r hr) M s calls
    (fun a ha => ⟨(hgam a ha).1, trivial, (hgam a ha).2⟩)
    (fun a ha => ⟨PF.mok a (hclm a ha), trivial, PF.shape a (hclm a ha)⟩)
    (fun pf hpf => (hpfs pf hpf).pfG fun _ _ => trivial) hlen hex ρ hag

end KMod

#print axioms KMod.module_acceptedG
