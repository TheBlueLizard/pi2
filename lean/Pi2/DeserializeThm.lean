import Pi2.Deserialize
import Pi2.TrackerThm
/-!
# Binary round trip: deserialising a serialised proof replays it (up to notation)
-/
set_option linter.unusedSimpArgs false
set_option linter.unusedVariables false

/-- the steps of the tracker have the form `do match ← x with | none => pure none | some a => …`: if the whole is
`some (some b)` then `x` is `some (some a)` -/
theorem Option.bind_some_some {α β} {x : Option (Option α)} {f : Option α → Option (Option β)} {b : β}
    (h : (x >>= f) = some (some b)) (hf : f none = some none := by rfl) : ∃ a, x = some (some a) ∧ f (some a) = some (some b) := by
  cases x with
  | none => cases h
  | some o =>
    cases o with
    | none => rw [show (some none >>= f) = f none from rfl, hf] at h; cases h
    | some a => exact ⟨a, rfl, h⟩

theorem deserialize_undecodable (n : Nat) (s : PySt) (bs : List Nat) :
    decode bs = none → PySt.deserialize n s bs = some none := by
  intro h; simp [PySt.deserialize, h]

/-! ## 1. the deserialiser makes the call that was serialised -/

/-- `indexF` without shape assumptions: the index found holds a term that is `==` to `t` -/
theorem indexF_teq (n : Nat) (t : TTerm) (mem : List TTerm) (k i : Nat)
    (h : PySt.indexF n t mem k = some (some i)) :
    ∃ j u, i = k + j ∧ mem[j]? = some u ∧ PySt.teqF n u t = some true := by
  induction mem generalizing k with
  | nil => simp [PySt.indexF] at h
  | cons u r ih =>
    simp only [PySt.indexF, Option.bind_eq_bind, Option.bind_eq_some_iff] at h
    obtain ⟨b, hb, h⟩ := h
    cases b with
    | true =>
      simp only [if_true, Option.pure_def, Option.some.injEq] at h
      subst h
      exact ⟨0, u, rfl, by simp, hb⟩
    | false =>
      simp only [Bool.false_eq_true, if_false] at h
      obtain ⟨j, u', hj, hg, ht⟩ := ih (k + 1) h
      exact ⟨j + 1, u', by omega, by simpa using hg, ht⟩

theorem callOfInstr_emit (n : Nat) (s s' : PySt) (c : Call) (i : Instr) :
    CanonTab s.symtab → (∀ nm, c = .symbol nm → nm ≤ s.symtab.length) →
    c ≠ .intoClaim → c ≠ .intoProof →
    PySt.emit1 n s c = some (some [i]) → PySt.track1 n s c = some (some s') →
    ∃ c', PySt.callOfInstr s i = some c' ∧
      (c' = c ∨ ∃ t t', c = .load t ∧ c' = .load t' ∧ PySt.teqF n t' t = some true) := by
  intro hC hsym hnc hnp he ht
  cases c with
  | symbol nm =>
    simp only [PySt.emit1, Option.some.injEq, List.cons.injEq, and_true] at he; subst he
    rw [(symId_canon s.symtab nm hC (hsym nm rfl)).1]
    exact ⟨_, rfl, Or.inl rfl⟩
  | metavar id ef sf ps ns hs =>
    dsimp only [PySt.emit1] at he
    split at he
    · next hall =>
      simp only [Bool.and_eq_true, List.isEmpty_iff] at hall
      obtain ⟨⟨⟨⟨rfl, rfl⟩, rfl⟩, rfl⟩, rfl⟩ := hall
      simp only [Option.some.injEq, List.cons.injEq, and_true] at he; subst he
      exact ⟨_, rfl, Or.inl rfl⟩
    · simp only [Option.some.injEq, List.cons.injEq, and_true] at he; subst he
      exact ⟨_, rfl, Or.inl rfl⟩
  | instantiate keys | instantiatePattern keys | publishProof | publishAxiom | publishClaim =>
    -- the dispatch looks at the top of the stack (the phase): what it sees is what let the call succeed
    simp only [PySt.emit1, Option.some.injEq, List.cons.injEq, and_true] at he; subst he
    dsimp only [PySt.track1] at ht
    split at ht
    · exact ⟨_, by simp [PySt.callOfInstr, *], Or.inl rfl⟩
    · simp at ht
  | load t =>
    dsimp only [PySt.emit1] at he
    obtain ⟨idx, hidx, he⟩ := Option.bind_some_some he
    simp only [Option.pure_def, Option.some.injEq, List.cons.injEq, and_true] at he; subst he
    obtain ⟨j, u, hj, hu, hteq⟩ := indexF_teq n t s.memory 0 idx hidx
    have : idx = j := by omega
    subst this
    exact ⟨.load u, by simp [PySt.callOfInstr, hu], Or.inr ⟨t, u, rfl, rfl, hteq⟩⟩
  | intoClaim => exact absurd rfl hnc
  | intoProof => exact absurd rfl hnp
  | _ =>
    simp only [PySt.emit1, Option.some.injEq, List.cons.injEq, and_true] at he; subst he
    exact ⟨_, rfl, Or.inl rfl⟩

/-! ## preservation of shape, phase and symbol table by one call -/

/-- the plugs `track1` takes: `k` `Pattern` entries, returned deepest first -/
theorem takePlugs_positions (k : Nat) (st : List (TTerm × Bool)) (plugs : List NPat) (st' : List (TTerm × Bool))
    (h : PySt.takePlugs k st = some (plugs, st')) :
    plugs.length = k ∧ st' = st.drop k ∧ k ≤ st.length ∧
    ∀ j, j < k → ∃ p b, plugs[j]? = some p ∧ st[k - 1 - j]? = some (.pat p, b) := by
  induction k generalizing st plugs with
  | zero =>
    simp only [PySt.takePlugs, Option.some.injEq, Prod.mk.injEq] at h
    obtain ⟨rfl, rfl⟩ := h
    simp
  | succ k ih =>
    cases st with
    | nil => simp [PySt.takePlugs] at h
    | cons e st1 =>
      obtain ⟨t, b⟩ := e
      cases t with
      | proved p => simp [PySt.takePlugs] at h
      | pat p =>
        simp only [PySt.takePlugs, Option.map_eq_some_iff] at h
        obtain ⟨⟨ps, st2⟩, h1, h2⟩ := h
        simp only [Prod.mk.injEq] at h2
        obtain ⟨rfl, rfl⟩ := h2
        obtain ⟨hl, hd, hle, hj⟩ := ih st1 ps h1
        refine ⟨by simp [hl], by simp [hd], by simp; omega, ?_⟩
        intro j hjk
        by_cases hjk' : j < k
        · obtain ⟨q, b', hq, hs⟩ := hj j hjk'
          refine ⟨q, b', ?_, ?_⟩
          · rw [List.getElem?_append_left (by omega)]; exact hq
          · have : k + 1 - 1 - j = (k - 1 - j) + 1 := by omega
            rw [this, List.getElem?_cons_succ]; exact hs
        · have : j = k := by omega
          subst this
          refine ⟨p, b, ?_, ?_⟩
          · rw [List.getElem?_append_right (by omega)]; simp [hl]
          · simp

theorem takePlugs_mem (k : Nat) (st : List (TTerm × Bool)) (plugs : List NPat)
    (st' : List (TTerm × Bool)) (h : PySt.takePlugs k st = some (plugs, st')) :
    (∀ p ∈ plugs, ∃ b, (TTerm.pat p, b) ∈ st) ∧ (∀ e ∈ st', e ∈ st) := by
  obtain ⟨hl, rfl, _, hj⟩ := takePlugs_positions k st plugs st' h
  refine ⟨fun p hp => ?_, fun e he => List.mem_of_mem_drop he⟩
  obtain ⟨j, hjl, rfl⟩ := List.getElem_of_mem hp
  obtain ⟨q, b, hq, hs⟩ := hj j (hl ▸ hjl)
  rw [List.getElem?_eq_getElem hjl, Option.some.injEq] at hq
  exact ⟨b, hq ▸ List.mem_of_getElem? hs⟩

theorem shapeMap_plugs {s : PySt} {e : TTerm × Bool} {st st' : List (TTerm × Bool)} {plugs : List NPat} (keys : List Nat)
    {k : Nat} (hSh : ShapeSt s) (hs : s.stack = e :: st) (htp : PySt.takePlugs k st = some (plugs, st')) :
    NPat.ShapeMap (keys.zip plugs) = true := by
  apply shapeMap_zip
  intro p hp
  obtain ⟨b, hb⟩ := (takePlugs_mem k st plugs st' htp).1 p hp
  exact hSh.1 (.pat p, b) (by rw [hs]; exact List.mem_cons_of_mem _ hb)

theorem shapeSt_stack (s : PySt) (S : List (TTerm × Bool)) (hSh : ShapeSt s)
    (h : ∀ e ∈ S, e.1.body.Shape = true) : ShapeSt { s with stack := S } :=
  ⟨h, hSh.2.1, hSh.2.2⟩

/-- replace the top part of the stack by one shaped entry -/
theorem shapeSt_top (s : PySt) (t : TTerm) (b : Bool) (st : List (TTerm × Bool))
    (hSh : ShapeSt s) (ht : t.body.Shape = true) (hst : ∀ e ∈ st, e ∈ s.stack) :
    ShapeSt { s with stack := (t, b) :: st } := by
  apply shapeSt_stack s _ hSh
  intro e he
  rcases List.mem_cons.mp he with rfl | he
  · exact ht
  · exact hSh.1 e (hst e he)

theorem shape_append_one {mem : List TTerm} {t : TTerm} (hm : ∀ u ∈ mem, u.body.Shape = true) (ht : t.body.Shape = true) :
    ∀ u ∈ mem ++ [t], u.body.Shape = true := by
  intro u hu
  rcases List.mem_append.mp hu with hu | hu
  · exact hm u hu
  · rw [List.mem_singleton.mp hu]; exact ht

/-- what one successful call preserves -/
def Pres (s s' : PySt) (c : Call) : Prop :=
  ShapeSt s' ∧ (c ≠ .intoClaim → c ≠ .intoProof → s'.phase = s.phase) ∧
    ((∀ nm, c ≠ .symbol nm) → s'.symtab = s.symtab)

theorem track1_pres (n : Nat) (s s' : PySt) (c : Call) (hSh : ShapeSt s)
    (hload : ∀ a, c = .load a → a.body.Shape = true)
    (hmv : ∀ id ef sf ps ns hs, c = .metavar id ef sf ps ns hs → ef = [] ∧ sf = [])
    (ht : PySt.track1 n s c = some (some s')) : Pres s s' c := by
  cases c with
  | evar x | svar x =>
    dsimp only [PySt.track1] at ht; cases ht
    exact ⟨shapeSt_top s _ _ _ hSh (by simp [TTerm.body, NPat.Shape]) (fun _ h => h),
      fun _ _ => rfl, fun _ => rfl⟩
  | symbol nm =>
    dsimp only [PySt.track1] at ht; cases ht
    exact ⟨⟨(shapeSt_top s (.pat (.sym nm)) false _ hSh (by simp [TTerm.body, NPat.Shape]) (fun _ h => h)).1, hSh.2.1,
      hSh.2.2⟩, fun _ _ => rfl, fun h => absurd rfl (h nm)⟩
  | metavar id ef sf ps ns hs =>
    obtain ⟨rfl, rfl⟩ := hmv _ _ _ _ _ _ rfl
    dsimp only [PySt.track1] at ht; cases ht
    exact ⟨shapeSt_top s _ _ _ hSh (by simp [TTerm.body, NPat.Shape]) (fun _ h => h),
      fun _ _ => rfl, fun _ => rfl⟩
  | implies | app =>
    dsimp only [PySt.track1] at ht
    split at ht
    · next r b1 l b2 st hs =>
      cases ht
      have h1 : r.Shape = true := hSh.top hs
      have h2 : l.Shape = true := hSh.snd hs
      exact ⟨shapeSt_top s _ _ _ hSh (by simp [TTerm.body, NPat.Shape, h1, h2])
        (by intro e he; rw [hs]; simp [he]), fun _ _ => rfl, fun _ => rfl⟩
    · simp at ht
  | ex x | mu x =>
    dsimp only [PySt.track1] at ht
    split at ht
    · next p b1 st hs =>
      cases ht
      have h1 : p.Shape = true := hSh.top hs
      exact ⟨shapeSt_top s _ _ _ hSh (by simp [TTerm.body, NPat.Shape, h1])
        (by intro e he; rw [hs]; simp [he]), fun _ _ => rfl, fun _ => rfl⟩
    · simp at ht
  | esubst x | ssubst x =>
    dsimp only [PySt.track1] at ht
    split at ht
    · next p b1 plug b2 st hs =>
      split at ht
      · next hmeta =>
        cases ht
        have h1 : p.Shape = true := hSh.top hs
        have h2 : plug.Shape = true := hSh.snd hs
        rw [isMetaHead_eq] at hmeta
        exact ⟨shapeSt_top s _ _ _ hSh (by simp [TTerm.body, NPat.Shape, h1, h2, hmeta])
          (by intro e he; rw [hs]; simp [he]), fun _ _ => rfl, fun _ => rfl⟩
      · simp at ht
    · simp at ht
  | prop1 | prop2 | prop3 | quantifier =>
    dsimp only [PySt.track1] at ht; cases ht
    exact ⟨shapeSt_top s _ _ _ hSh (by rfl) (fun _ h => h), fun _ _ => rfl, fun _ => rfl⟩
  | mp =>
    dsimp only [PySt.track1] at ht
    split at ht
    · next r b1 l b2 st hs =>
      obtain ⟨c, hmp, ht⟩ := Option.bind_some_some ht
      cases ht
      have h1 : r.Shape = true := hSh.top hs
      have h2 : l.Shape = true := hSh.snd hs
      obtain ⟨_, hcs⟩ := pyMP_spec n l r c h2 h1 hmp
      exact ⟨shapeSt_top s _ _ _ hSh (by simpa [TTerm.body] using hcs)
        (by intro e he; rw [hs]; simp [he]), fun _ _ => rfl, fun _ => rfl⟩
    · simp at ht
  | gen x =>
    dsimp only [PySt.track1] at ht
    split at ht
    · next a b1 st hs =>
      obtain ⟨c, hgen, ht⟩ := Option.bind_some_some ht
      cases ht
      have h1 : a.Shape = true := hSh.top hs
      obtain ⟨_, _, _, _, _, hcs⟩ := pyGen_spec n a c x h1 hgen
      exact ⟨shapeSt_top s _ _ _ hSh (by simpa [TTerm.body] using hcs)
        (by intro e he; rw [hs]; simp [he]), fun _ _ => rfl, fun _ => rfl⟩
    · simp at ht
  | instantiate keys =>
    dsimp only [PySt.track1] at ht
    split at ht
    · next a b1 st hs =>
      have h1 : a.Shape = true := hSh.top hs
      split at ht
      · cases ht
        exact ⟨shapeSt_top s _ _ _ hSh h1 (by intro e he; rw [hs]; simp [he]),
          fun _ _ => rfl, fun _ => rfl⟩
      · split at ht
        · simp at ht
        · next plugs st' htp =>
          simp only [Option.bind_eq_bind, Option.bind_eq_some_iff, Option.pure_def,
            Option.some.injEq] at ht
          obtain ⟨c, hinst, ht⟩ := ht
          subst ht
          have hsub := (takePlugs_mem keys.length st plugs st' htp).2
          have hsm := shapeMap_plugs keys hSh hs htp
          obtain ⟨_, hcs⟩ := NPat.instF_expand n _ a c h1 hsm hinst
          exact ⟨shapeSt_top s _ _ _ hSh (by simpa [TTerm.body] using hcs)
            (by intro e he; rw [hs]; exact List.mem_cons_of_mem _ (hsub e he)),
            fun _ _ => rfl, fun _ => rfl⟩
    · simp at ht
  | instantiatePattern keys =>
    dsimp only [PySt.track1] at ht
    split at ht
    · next a b1 st hs =>
      have h1 : a.Shape = true := hSh.top hs
      split at ht
      · simp at ht
      · next plugs st' htp =>
        cases ht
        have hsub := (takePlugs_mem keys.length st plugs st' htp).2
        have hsm := shapeMap_plugs keys hSh hs htp
        exact ⟨shapeSt_top s _ _ _ hSh (by simp [TTerm.body, NPat.Shape, h1, hsm])
          (by intro e he; rw [hs]; exact List.mem_cons_of_mem _ (hsub e he)),
          fun _ _ => rfl, fun _ => rfl⟩
    · simp at ht
  | pop =>
    dsimp only [PySt.track1] at ht
    split at ht
    · next e st hs =>
      cases ht
      exact ⟨shapeSt_stack s _ hSh (fun e he => hSh.1 e (by rw [hs]; exact List.mem_cons_of_mem _ he)),
        fun _ _ => rfl, fun _ => rfl⟩
    · simp at ht
  | save =>
    dsimp only [PySt.track1] at ht
    split at ht
    · next t b st hs =>
      cases ht
      have h1 := hSh.top hs
      exact ⟨⟨hSh.1, shape_append_one hSh.2.1 h1, hSh.2.2⟩, fun _ _ => rfl, fun _ => rfl⟩
    · simp at ht
  | load a =>
    dsimp only [PySt.track1] at ht
    obtain ⟨i, _, ht⟩ := Option.bind_some_some ht
    cases ht
    exact ⟨shapeSt_top s _ _ _ hSh (hload a rfl) (fun _ h => h), fun _ _ => rfl, fun _ => rfl⟩
  | publishProof =>
    dsimp only [PySt.track1] at ht
    split at ht
    · next t b st c cs hph hs hcl =>
      simp only [Option.bind_eq_bind, Option.bind_eq_some_iff] at ht
      obtain ⟨eq, _, ht⟩ := ht
      cases eq with
      | false => simp at ht
      | true =>
        simp only [if_true, Option.pure_def, Option.some.injEq] at ht; subst ht
        have hS := shapeSt_top s _ true st hSh (hSh.top hs) (by intro e he; rw [hs]; simp [he])
        exact ⟨⟨hS.1, hSh.2.1, fun c' hc' => hSh.2.2 c' (by rw [hcl]; exact List.mem_cons_of_mem _ hc')⟩,
          fun _ _ => rfl, fun _ => rfl⟩
    · simp at ht
  | publishAxiom | publishClaim =>
    dsimp only [PySt.track1] at ht
    split at ht
    · next a b st hph hs =>
      cases ht
      have h1 := hSh.top hs
      have hS := shapeSt_top s _ true st hSh h1 (by intro e he; rw [hs]; simp [he])
      -- `publish_axiom` also appends the axiom to the memory
      exact ⟨⟨hS.1, by first | exact shape_append_one hSh.2.1 h1 | exact hSh.2.1, hSh.2.2⟩, fun _ _ => rfl, fun _ => rfl⟩
    · simp at ht
  | intoClaim | intoProof =>
    dsimp only [PySt.track1] at ht
    split at ht
    · cases ht
      exact ⟨shapeSt_stack s _ hSh (by simp), fun h h' => by simp at h h', fun _ => rfl⟩
    · simp at ht

/-! ## 2. congruence of one call under equality up to notation -/

/-- equal after notation expansion -/
def StEqX (s t : PySt) : Prop :=
  s.phase = t.phase ∧
  s.stack.map (fun e => (convT e.1, e.2)) = t.stack.map (fun e => (convT e.1, e.2)) ∧
  s.memory.map convT = t.memory.map convT ∧
  s.claims.map NPat.expand = t.claims.map NPat.expand ∧ s.symtab = t.symtab

/-- a `Pattern` entry whose head is literally a metavariable/substitution object (what the typed
API of `esubst`/`ssubst` inspects) -/
def patMeta : TTerm → Bool
  | .pat p => p.isMetaHead
  | .proved _ => false

def keyS (w : Bool) (e : TTerm × Bool) : Term × Bool × Bool := (convT e.1, e.2, w && patMeta e.1)
def keyM (w : Bool) (u : TTerm) : Term × Bool := (convT u, w && patMeta u)

/-- `StEqG false` is `StEqX`; `StEqG true` additionally remembers which `Pattern` entries are
meta-headed -/
def StEqG (w : Bool) (s t : PySt) : Prop :=
  s.phase = t.phase ∧ s.stack.map (keyS w) = t.stack.map (keyS w) ∧
  s.memory.map (keyM w) = t.memory.map (keyM w) ∧
  s.claims.map NPat.expand = t.claims.map NPat.expand ∧ s.symtab = t.symtab

theorem map_eq_map_of_iff {α β γ} (f : α → β) (g : α → γ)
    (h : ∀ a b, f a = f b → g a = g b) (l1 l2 : List α) (e : l1.map f = l2.map f) :
    l1.map g = l2.map g := by
  induction l1 generalizing l2 with
  | nil => cases l2 with
    | nil => rfl
    | cons _ _ => simp at e
  | cons a l1 ih =>
    cases l2 with
    | nil => simp at e
    | cons b l2 =>
      simp only [List.map_cons, List.cons.injEq] at e ⊢
      exact ⟨h a b e.1, ih l2 e.2⟩

theorem StEqG.toX {w : Bool} {s t : PySt} (h : StEqG w s t) : StEqX s t := by
  obtain ⟨h1, h2, h3, h4, h5⟩ := h
  exact ⟨h1, map_eq_map_of_iff _ _ (by intro a b h; simp only [keyS, Prod.mk.injEq] at h; simp [h.1, h.2.1]) _ _ h2,
      map_eq_map_of_iff _ _ (by intro a b h; simp only [keyM, Prod.mk.injEq] at h; exact h.1) _ _ h3, h4, h5⟩

theorem stEqG_false_iff (s t : PySt) : StEqG false s t ↔ StEqX s t := by
  refine ⟨StEqG.toX, ?_⟩
  rintro ⟨h1, h2, h3, h4, h5⟩
  exact ⟨h1, map_eq_map_of_iff _ _ (by intro a b h; simp only [Prod.mk.injEq] at h; simp [keyS, h.1, h.2]) _ _ h2,
    map_eq_map_of_iff _ _ (by intro a b h; simp [keyM, h]) _ _ h3, h4, h5⟩

theorem StEqG.refl (w : Bool) (s : PySt) : StEqG w s s := ⟨rfl, rfl, rfl, rfl, rfl⟩

/-! ### reading the other stack -/

theorem stk_any (w : Bool) (t0 : TTerm) (b : Bool) (st T : List (TTerm × Bool))
    (h : ((t0, b) :: st).map (keyS w) = T.map (keyS w)) :
    ∃ t' st', T = (t', b) :: st' ∧ convT t' = convT t0 ∧
      (w && patMeta t') = (w && patMeta t0) ∧ st.map (keyS w) = st'.map (keyS w) := by
  cases T with
  | nil => simp at h
  | cons e' st' =>
    obtain ⟨t', b'⟩ := e'
    simp only [List.map_cons, List.cons.injEq, keyS, Prod.mk.injEq] at h
    obtain ⟨⟨h1, h2, h3⟩, h4⟩ := h
    subst h2
    exact ⟨t', st', rfl, h1.symm, h3.symm, h4⟩

theorem stk_pat (w : Bool) (p : NPat) (b : Bool) (st T : List (TTerm × Bool))
    (h : ((TTerm.pat p, b) :: st).map (keyS w) = T.map (keyS w)) :
    ∃ p' st', T = (.pat p', b) :: st' ∧ p'.expand = p.expand ∧
      (w && p'.isMetaHead) = (w && p.isMetaHead) ∧ st.map (keyS w) = st'.map (keyS w) := by
  obtain ⟨t', st', rfl, hc, hm, hst⟩ := stk_any w _ b st T h
  cases t' with
  | proved q => simp [convT] at hc
  | pat q => exact ⟨q, st', rfl, by simpa [convT] using hc, hm, hst⟩

theorem stk_proved (w : Bool) (p : NPat) (b : Bool) (st T : List (TTerm × Bool))
    (h : ((TTerm.proved p, b) :: st).map (keyS w) = T.map (keyS w)) :
    ∃ p' st', T = (.proved p', b) :: st' ∧ p'.expand = p.expand ∧
      st.map (keyS w) = st'.map (keyS w) := by
  obtain ⟨t', st', rfl, hc, _, hst⟩ := stk_any w _ b st T h
  cases t' with
  | pat q => simp [convT] at hc
  | proved q => exact ⟨q, st', rfl, by simpa [convT] using hc, hst⟩

theorem expandMap_zip (ks : List Nat) (ps : List NPat) :
    NPat.expand.expandMap (ks.zip ps) = ks.zip (ps.map NPat.expand) := by
  induction ks generalizing ps with
  | nil => simp [NPat.expand.expandMap]
  | cons a ks ih =>
    cases ps with
    | nil => simp [NPat.expand.expandMap]
    | cons p ps => simp [NPat.expand.expandMap, ih]

theorem takePlugs_congr (w : Bool) (k : Nat) (st st' : List (TTerm × Bool)) (plugs : List NPat)
    (st1 : List (TTerm × Bool)) (h : st.map (keyS w) = st'.map (keyS w))
    (htp : PySt.takePlugs k st = some (plugs, st1)) :
    ∃ plugs' st1', PySt.takePlugs k st' = some (plugs', st1') ∧
      plugs'.map NPat.expand = plugs.map NPat.expand ∧
      st1.map (keyS w) = st1'.map (keyS w) := by
  induction k generalizing st st' plugs with
  | zero =>
    simp only [PySt.takePlugs, Option.some.injEq, Prod.mk.injEq] at htp
    obtain ⟨rfl, rfl⟩ := htp
    exact ⟨[], st', by simp [PySt.takePlugs], rfl, h⟩
  | succ k ih =>
    cases st with
    | nil => simp [PySt.takePlugs] at htp
    | cons e st0 =>
      obtain ⟨t0, b⟩ := e
      cases t0 with
      | proved p => simp [PySt.takePlugs] at htp
      | pat p =>
        simp only [PySt.takePlugs, Option.map_eq_some_iff] at htp
        obtain ⟨⟨ps, st2⟩, h1, h2⟩ := htp
        simp only [Prod.mk.injEq] at h2
        obtain ⟨rfl, rfl⟩ := h2
        obtain ⟨p', st0', rfl, hp, _, hst⟩ := stk_pat w p b st0 st' h
        obtain ⟨ps', st1', htp', hps, hst1⟩ := ih st0 st0' ps hst h1
        exact ⟨ps' ++ [p'], st1', by simp [PySt.takePlugs, htp'], by simp [hps, hp], hst1⟩

/-! ### completeness of the rules, `==` and `index` on the other side -/

theorem pyMP_complete (k : Nat) (a b : NPat) (x : Option NPat) (C : Pat)
    (ha : a.Shape = true) (hb : b.Shape = true) (he : a.expand = .imp b.expand C)
    (h : NPat.pyMP k a b = some x) : ∃ c, x = some c ∧ c.expand = C := by
  simp only [NPat.pyMP, Option.bind_eq_bind, Option.bind_eq_some_iff] at h
  obtain ⟨q, hh, h⟩ := h
  obtain ⟨hq, hs, hni⟩ := NPat.headF_expand k a q ha hh
  rw [he] at hq
  cases q with
  | imp l r =>
    simp only [Option.bind_eq_some_iff, Option.pure_def, Option.some.injEq] at h
    obtain ⟨eq, hp, h⟩ := h
    have hsl : l.Shape = true ∧ r.Shape = true := by simpa [NPat.Shape] using hs
    simp only [NPat.expand, Pat.imp.injEq] at hq
    have hdec := NPat.peqF_expand k l b eq hsl.1 hb hp
    have : eq = true := by rw [hdec]; simp [hq.1]
    subst this
    exact ⟨r, by simpa using h.symm, hq.2⟩
  | inst p m => simp [NPat.isInst] at hni
  | _ => simp [NPat.expand] at hq

theorem pyGen_complete (k : Nat) (a : NPat) (x0 : VId) (y : Option NPat) (L Rr : Pat)
    (ha : a.Shape = true) (he : a.expand = .imp L Rr) (hfr : Rr.eFresh x0 = true)
    (h : NPat.pyGen k a x0 = some y) : ∃ c, y = some c ∧ c.expand = .imp (.ex x0 L) Rr := by
  simp only [NPat.pyGen, Option.bind_eq_bind, Option.bind_eq_some_iff] at h
  obtain ⟨q, hh, h⟩ := h
  obtain ⟨hq, hs, hni⟩ := NPat.headF_expand k a q ha hh
  rw [he] at hq
  cases q with
  | imp l r =>
    simp only [Option.bind_eq_some_iff, Option.pure_def, Option.some.injEq] at h
    obtain ⟨fr, hp, h⟩ := h
    have hsl : l.Shape = true ∧ r.Shape = true := by simpa [NPat.Shape] using hs
    simp only [NPat.expand, Pat.imp.injEq] at hq
    have hdec := NPat.evarIsFreeF_expand k x0 r fr hsl.2 hp
    have : fr = true := by rw [hdec, hq.2, hfr]
    subst this
    exact ⟨_, by simpa using h.symm, by simp [NPat.expand, hq.1, hq.2]⟩
  | inst p m => simp [NPat.isInst] at hni
  | _ => simp [NPat.expand] at hq

theorem teqF_conv_false (n : Nat) (t1 t2 : TTerm) (h1 : t1.body.Shape = true)
    (h2 : t2.body.Shape = true) (h : PySt.teqF n t1 t2 = some false) : convT t1 ≠ convT t2 := by
  cases t1 <;> cases t2 <;> simp only [convT, ne_eq, reduceCtorEq, not_false_eq_true, Term.pat.injEq, Term.proved.injEq]
  all_goals
    simp only [PySt.teqF, TTerm.body] at h h1 h2
    simpa using (NPat.peqF_expand n _ _ false h1 h2 h).symm

theorem indexF_none (k : Nat) (b : TTerm) (hb : b.body.Shape = true) (mem : List TTerm)
    (hm : ∀ u ∈ mem, u.body.Shape = true) (i0 : Nat)
    (h : PySt.indexF k b mem i0 = some none) : ∀ u ∈ mem, convT u ≠ convT b := by
  induction mem generalizing i0 with
  | nil => simp
  | cons u r ih =>
    simp only [PySt.indexF, Option.bind_eq_bind, Option.bind_eq_some_iff] at h
    obtain ⟨e, he, h⟩ := h
    cases e with
    | true => simp at h
    | false =>
      simp only [Bool.false_eq_true, if_false] at h
      intro v hv
      rcases List.mem_cons.mp hv with rfl | hv
      · exact teqF_conv_false k _ b (hm _ (by simp)) hb he
      · exact ih (fun u hu => hm u (List.mem_cons_of_mem _ hu)) (i0 + 1) h v hv

theorem stEqG_stack (w : Bool) (s t : PySt) (S T : List (TTerm × Bool)) (hE : StEqG w s t)
    (h : S.map (keyS w) = T.map (keyS w)) :
    StEqG w { s with stack := S } { t with stack := T } :=
  ⟨hE.1, h, hE.2.2.1, hE.2.2.2.1, hE.2.2.2.2⟩

theorem load_congr (w : Bool) (n k : Nat) (s t s' : PySt) (a b : TTerm) (r : Option PySt)
    (hE : StEqG w s t) (hSs : ShapeSt s) (hSt : ShapeSt t)
    (ha : a.body.Shape = true) (hb : b.body.Shape = true) (hab : convT a = convT b)
    (hm : w = true → patMeta a = patMeta b)
    (ht : PySt.track1 n s (.load a) = some (some s'))
    (hk : PySt.track1 k t (.load b) = some r) : ∃ t', r = some t' ∧ StEqG w s' t' := by
  simp only [PySt.track1, Option.bind_eq_bind, Option.bind_eq_some_iff] at ht hk
  obtain ⟨oi, hidx, ht⟩ := ht
  obtain ⟨oj, hjdx, hk⟩ := hk
  cases oi with
  | none => simp at ht
  | some i =>
    cases ht
    cases oj with
    | none =>
      exfalso
      obtain ⟨j, _, hj⟩ := indexF_spec n a ha s.memory hSs.2.1 0 i hidx
      have hmem : convT a ∈ s.memory.map convT := List.mem_of_getElem? hj
      have hconv : s.memory.map convT = t.memory.map convT :=
        map_eq_map_of_iff _ _ (by intro x y h; simp only [keyM, Prod.mk.injEq] at h; exact h.1)
          _ _ hE.2.2.1
      rw [hconv] at hmem
      obtain ⟨u, hu, hua⟩ := List.mem_map.mp hmem
      exact indexF_none k b hb t.memory hSt.2.1 0 hjdx u hu (hua.trans hab)
    | some j =>
      cases hk
      refine ⟨_, rfl, stEqG_stack w s t _ _ hE ?_⟩
      have : (w && patMeta a) = (w && patMeta b) := by
        cases w with
        | false => rfl
        | true => simp [hm rfl]
      simp [keyS, hab, this, hE.2.1]

theorem track1_congrG (w : Bool) (n k : Nat) (s t s' : PySt) (c c' : Call) (r : Option PySt)
    (hE : StEqG w s t) (hSs : ShapeSt s) (hSt : ShapeSt t)
    (hcc : c' = c ∨ ∃ a b, c = .load a ∧ c' = .load b ∧ a.body.Shape = true ∧
      b.body.Shape = true ∧ convT a = convT b ∧ (w = true → patMeta a = patMeta b))
    (hload : ∀ a, c = .load a → a.body.Shape = true)
    (hes : w = false → ∀ x, (c = .esubst x ∨ c = .ssubst x) →
      ∀ p b st, t.stack = (.pat p, b) :: st → p.isMetaHead = true)
    (ht : PySt.track1 n s c = some (some s')) (hk : PySt.track1 k t c' = some r) :
    ∃ t', r = some t' ∧ StEqG w s' t' := by
  rcases hcc with rfl | ⟨a, b, rfl, rfl, ha, hb, hab, hm⟩
  rotate_left
  · exact load_congr w n k s t s' a b r hE hSs hSt ha hb hab hm ht hk
  have hstk := hE.2.1
  cases c' with
  | evar x | svar x | metavar id ef sf ps ns hs | prop1 | prop2 | prop3 | quantifier =>
    dsimp only [PySt.track1] at ht hk; cases ht; cases hk
    exact ⟨_, rfl, stEqG_stack w s t _ _ hE (by simp [keyS, hstk])⟩
  | symbol nm =>
    dsimp only [PySt.track1] at ht hk; cases ht; cases hk
    exact ⟨_, rfl, hE.1, by simp [PySt.push, keyS, hstk], hE.2.2.1, hE.2.2.2.1,
      by simp [PySt.push, hE.2.2.2.2]⟩
  | implies | app =>
    dsimp only [PySt.track1] at ht
    split at ht
    · next r0 b1 l b2 st hs =>
      cases ht
      rw [hs] at hstk
      obtain ⟨r0', T1, hts, hr, _, hstk⟩ := stk_pat w r0 b1 _ _ hstk
      obtain ⟨l', st', rfl, hl, _, hstk⟩ := stk_pat w l b2 _ _ hstk
      simp only [PySt.track1, hts, Option.some.injEq] at hk; subst hk
      exact ⟨_, rfl, stEqG_stack w s t _ _ hE
        (by simp [keyS, convT, NPat.expand, patMeta, NPat.isMetaHead, hr, hl, hstk])⟩
    · simp at ht
  | ex x | mu x =>
    dsimp only [PySt.track1] at ht
    split at ht
    · next p b1 st hs =>
      cases ht
      rw [hs] at hstk
      obtain ⟨p', st', hts, hp, _, hstk⟩ := stk_pat w p b1 _ _ hstk
      simp only [PySt.track1, hts, Option.some.injEq] at hk; subst hk
      exact ⟨_, rfl, stEqG_stack w s t _ _ hE
        (by simp [keyS, convT, NPat.expand, patMeta, NPat.isMetaHead, hp, hstk])⟩
    · simp at ht
  | esubst x | ssubst x =>
    dsimp only [PySt.track1] at ht
    split at ht
    · next p b1 plug b2 st hs =>
      split at ht
      · next hmeta =>
        cases ht
        rw [hs] at hstk
        obtain ⟨p', T1, hts, hp, hpm, hstk⟩ := stk_pat w p b1 _ _ hstk
        obtain ⟨plug', st', rfl, hpl, _, hstk⟩ := stk_pat w plug b2 _ _ hstk
        have hmeta' : p'.isMetaHead = true := by
          cases w with
          | true => simpa [hmeta] using hpm
          | false => exact hes rfl x (by simp) p' b1 _ hts
        simp only [PySt.track1, hts, hmeta', if_true, Option.some.injEq] at hk; subst hk
        exact ⟨_, rfl, stEqG_stack w s t _ _ hE
          (by simp [keyS, convT, NPat.expand, patMeta, NPat.isMetaHead, hp, hpl, hstk])⟩
      · simp at ht
    · simp at ht
  | mp =>
    dsimp only [PySt.track1] at ht
    split at ht
    · next r0 b1 l b2 st hs =>
      obtain ⟨c, hmp, ht⟩ := Option.bind_some_some ht
      cases ht
      have h1 : r0.Shape = true := hSs.top hs
      have h2 : l.Shape = true := hSs.snd hs
      obtain ⟨hexp, _⟩ := pyMP_spec n l r0 c h2 h1 hmp
      rw [hs] at hstk
      obtain ⟨r0', T1, hts, hr, hstk⟩ := stk_proved w r0 b1 _ _ hstk
      obtain ⟨l', st', rfl, hl, hstk⟩ := stk_proved w l b2 _ _ hstk
      have h1' : r0'.Shape = true := hSt.top hts
      have h2' : l'.Shape = true := hSt.snd hts
      simp only [PySt.track1, hts, Option.bind_eq_bind, Option.bind_eq_some_iff] at hk
      obtain ⟨oc', hmp', hk⟩ := hk
      obtain ⟨c', rfl, hc'⟩ := pyMP_complete k l' r0' oc' c.expand h2' h1'
        (by rw [hl, hr]; exact hexp) hmp'
      cases hk
      exact ⟨_, rfl, stEqG_stack w s t _ _ hE
        (by simp [keyS, convT, patMeta, hc', hstk])⟩
    · simp at ht
  | gen x =>
    dsimp only [PySt.track1] at ht
    split at ht
    · next a b1 st hs =>
      obtain ⟨c, hgen, ht⟩ := Option.bind_some_some ht
      cases ht
      have h1 : a.Shape = true := hSs.top hs
      obtain ⟨L, Rr, hexp, hfr, hce, _⟩ := pyGen_spec n a c x h1 hgen
      rw [hs] at hstk
      obtain ⟨a', st', hts, ha', hstk⟩ := stk_proved w a b1 _ _ hstk
      have h1' : a'.Shape = true := hSt.top hts
      simp only [PySt.track1, hts, Option.bind_eq_bind, Option.bind_eq_some_iff] at hk
      obtain ⟨oc', hgen', hk⟩ := hk
      obtain ⟨c', rfl, hc'⟩ := pyGen_complete k a' x oc' L Rr h1' (by rw [ha']; exact hexp)
        hfr hgen'
      cases hk
      exact ⟨_, rfl, stEqG_stack w s t _ _ hE
        (by simp [keyS, convT, patMeta, hc', hce, hstk])⟩
    · simp at ht
  | instantiate keys =>
    dsimp only [PySt.track1] at ht
    split at ht
    · next a b1 st hs =>
      have h1 : a.Shape = true := hSs.top hs
      rw [hs] at hstk
      obtain ⟨a', st', hts, ha', hstk⟩ := stk_proved w a b1 _ _ hstk
      have h1' : a'.Shape = true := hSt.top hts
      split at ht
      · next hemp =>
        cases ht
        simp only [PySt.track1, hts, hemp, if_true, Option.some.injEq] at hk
        subst hk
        exact ⟨_, rfl, stEqG_stack w s t _ _ hE (by simp [keyS, convT, patMeta, ha', hstk])⟩
      · next hemp =>
        split at ht
        · simp at ht
        · next plugs st1 htp =>
          simp only [Option.bind_eq_bind, Option.bind_eq_some_iff, Option.pure_def,
            Option.some.injEq] at ht
          obtain ⟨c, hinst, ht⟩ := ht
          subst ht
          obtain ⟨plugs', st1', htp', hpl, hst1⟩ := takePlugs_congr w _ st st' plugs st1 hstk htp
          have hsm := shapeMap_plugs keys hSs hs htp
          have hsm' := shapeMap_plugs keys hSt hts htp'
          simp only [PySt.track1, hts, hemp, Bool.false_eq_true, if_false, htp',
            Option.bind_eq_bind, Option.bind_eq_some_iff, Option.pure_def,
            Option.some.injEq] at hk
          obtain ⟨c', hinst', hk⟩ := hk
          subst hk
          obtain ⟨hce, _⟩ := NPat.instF_expand n _ a c h1 hsm hinst
          obtain ⟨hce', _⟩ := NPat.instF_expand k _ a' c' h1' hsm' hinst'
          have : c'.expand = c.expand := by
            rw [hce, hce', expandMap_zip, expandMap_zip, hpl, ha']
          exact ⟨_, rfl, stEqG_stack w s t _ _ hE (by simp [keyS, convT, patMeta, this, hst1])⟩
    · simp at ht
  | instantiatePattern keys =>
    dsimp only [PySt.track1] at ht
    split at ht
    · next a b1 st hs =>
      rw [hs] at hstk
      obtain ⟨a', st', hts, ha', _, hstk⟩ := stk_pat w a b1 _ _ hstk
      split at ht
      · simp at ht
      · next plugs st1 htp =>
        cases ht
        obtain ⟨plugs', st1', htp', hpl, hst1⟩ := takePlugs_congr w _ st st' plugs st1 hstk htp
        simp only [PySt.track1, hts, htp', Option.some.injEq] at hk
        subst hk
        exact ⟨_, rfl, stEqG_stack w s t _ _ hE
          (by simp [keyS, convT, patMeta, NPat.isMetaHead, NPat.expand, expandMap_zip, hpl, ha',
            hst1])⟩
    · simp at ht
  | pop =>
    dsimp only [PySt.track1] at ht
    split at ht
    · next e st hs =>
      obtain ⟨t0, b⟩ := e
      cases ht
      rw [hs] at hstk
      obtain ⟨t0', st', hts, _, _, hstk⟩ := stk_any w t0 b _ _ hstk
      simp only [PySt.track1, hts, Option.some.injEq] at hk; subst hk
      exact ⟨_, rfl, stEqG_stack w s t _ _ hE hstk⟩
    · simp at ht
  | save =>
    dsimp only [PySt.track1] at ht
    split at ht
    · next t0 b st hs =>
      cases ht
      have hstk' := hstk
      rw [hs] at hstk'
      obtain ⟨t0', st', hts, hc0, hm0, _⟩ := stk_any w t0 b _ _ hstk'
      simp only [PySt.track1, hts, Option.some.injEq] at hk; subst hk
      exact ⟨_, rfl, hE.1, by simpa [hts] using hstk, by simp [keyM, hc0, hm0, hE.2.2.1], hE.2.2.2.1, hE.2.2.2.2⟩
    · simp at ht
  | load a =>
    exact load_congr w n k s t s' a a r hE hSs hSt (hload a rfl) (hload a rfl) rfl (fun _ => rfl)
      ht hk
  | publishProof =>
    dsimp only [PySt.track1] at ht
    split at ht
    · next t0 b st c0 cs hph hs hcl =>
      simp only [Option.bind_eq_bind, Option.bind_eq_some_iff] at ht
      obtain ⟨eq, hpeq, ht⟩ := ht
      cases eq with
      | false => simp at ht
      | true =>
        simp only [if_true, Option.pure_def, Option.some.injEq] at ht; subst ht
        have h1 : t0.Shape = true := hSs.top hs
        have h2 := hSs.2.2 c0 (by rw [hcl]; simp)
        have htc : t0.expand = c0.expand := by
          simpa using (NPat.peqF_expand n t0 c0 true h1 h2 hpeq).symm
        rw [hs] at hstk
        obtain ⟨t0', st', hts, ht0', hstk⟩ := stk_proved w t0 b _ _ hstk
        have hclm := hE.2.2.2.1
        rw [hcl] at hclm
        have htph : t.phase = .proof := by rw [← hE.1]; exact hph
        cases htcl : t.claims with
        | nil => rw [htcl] at hclm; simp at hclm
        | cons c0' cs' =>
          rw [htcl] at hclm
          simp only [List.map_cons, List.cons.injEq] at hclm
          have h1' : t0'.Shape = true := hSt.top hts
          have h2' := hSt.2.2 c0' (by rw [htcl]; simp)
          simp only [PySt.track1, htph, hts, htcl, Option.bind_eq_bind,
            Option.bind_eq_some_iff] at hk
          obtain ⟨eq', hpeq', hk⟩ := hk
          have hdec := NPat.peqF_expand k t0' c0' eq' h1' h2' hpeq'
          have : eq' = true := by rw [hdec]; simp [ht0', htc, hclm.1]
          subst this
          simp only [if_true, Option.pure_def, Option.some.injEq] at hk; subst hk
          exact ⟨_, rfl, hph, by simp [keyS, convT, patMeta, ht0', hstk], hE.2.2.1, hclm.2,
            hE.2.2.2.2⟩
    · simp at ht
  | publishAxiom | publishClaim =>
    dsimp only [PySt.track1] at ht
    split at ht
    · next a b st hph hs =>
      cases ht
      rw [hs] at hstk
      obtain ⟨a', st', hts, ha', hpm, hstk⟩ := stk_pat w a b _ _ hstk
      have htph := hE.1.symm.trans hph
      simp only [PySt.track1, htph, hts, Option.some.injEq] at hk; subst hk
      exact ⟨_, rfl, hph, by simp [keyS, convT, patMeta, ha', hpm, hstk],
        by simp [keyM, convT, patMeta, ha', hE.2.2.1], hE.2.2.2.1, hE.2.2.2.2⟩
    · simp at ht
  | intoClaim | intoProof =>
    dsimp only [PySt.track1] at ht
    split at ht
    · next hph =>
      cases ht
      have htph := hE.1.symm.trans hph
      simp only [PySt.track1, htph, Option.some.injEq] at hk; subst hk
      exact ⟨_, rfl, rfl, rfl, hE.2.2.1, hE.2.2.2.1, hE.2.2.2.2⟩
    · simp at ht

/-- 2. One call on two states equal up to notation.  (The hypothesis on `esubst`/`ssubst` is
necessary: the typed API inspects the *object* on the stack, which is not invariant under notation.) -/
theorem track1_congr (n k : Nat) (s t s' : PySt) (c c' : Call) (r : Option PySt) :
    StEqX s t → ShapeSt s → ShapeSt t →
    (c' = c ∨ ∃ a b, c = .load a ∧ c' = .load b ∧ a.body.Shape = true ∧ b.body.Shape = true ∧
      convT a = convT b) →
    (∀ a, c = .load a → a.body.Shape = true) →
    (∀ id ef sf ps ns hs, c = .metavar id ef sf ps ns hs → ef = [] ∧ sf = []) →
    (∀ x, (c = .esubst x ∨ c = .ssubst x) →
      ∀ p b st, t.stack = (.pat p, b) :: st → p.isMetaHead = true) →
    PySt.track1 n s c = some (some s') → PySt.track1 k t c' = some r →
    ∃ t', r = some t' ∧ StEqX s' t' ∧ ShapeSt s' ∧ ShapeSt t' := by
  intro hE hSs hSt hcc hload hmv hes ht hk
  have hcc' : c' = c ∨ ∃ a b, c = .load a ∧ c' = .load b ∧ a.body.Shape = true ∧
      b.body.Shape = true ∧ convT a = convT b ∧ (false = true → patMeta a = patMeta b) := by
    rcases hcc with h | ⟨a, b, h1, h2, h3, h4, h5⟩
    · exact Or.inl h
    · exact Or.inr ⟨a, b, h1, h2, h3, h4, h5, fun h => by simp at h⟩
  obtain ⟨t', rfl, hE'⟩ := track1_congrG false n k s t s' c c' r ((stEqG_false_iff s t).mpr hE)
    hSs hSt hcc' hload (fun _ => hes) ht hk
  refine ⟨t', rfl, hE'.toX, (track1_pres n s s' c hSs hload hmv ht).1, ?_⟩
  rcases hcc with rfl | ⟨a, b, rfl, rfl, _, hb, _⟩
  · exact (track1_pres k t t' c' hSt hload hmv hk).1
  · exact (track1_pres k t t' (.load b) hSt (fun a' e => by cases e; exact hb)
      (fun _ _ _ _ _ _ e => by cases e) hk).1

/-! ## 3. the round trip for one phase -/

/-- like `trackAll` for calls of one phase, collecting only the instructions -/
def PySt.emitAll (n : Nat) : PySt → List Call → Option (Option (PySt × List Instr))
  | s, [] => some (some (s, []))
  | s, c :: cs => do
      match ← PySt.emit1 n s c with
      | none => pure none
      | some is =>
        match ← PySt.track1 n s c with
        | none => pure none
        | some s' =>
          match ← PySt.emitAll n s' cs with
          | none => pure none
          | some (s'', js) => pure (some (s'', is ++ js))

/-- append to the stream of a phase -/
def addOut (ph : Phase) (out : List Instr × List Instr × List Instr) (is : List Instr) :
    List Instr × List Instr × List Instr :=
  match ph with
  | .gamma => (out.1 ++ is, out.2.1, out.2.2)
  | .claim => (out.1, out.2.1 ++ is, out.2.2)
  | .proof => (out.1, out.2.1, out.2.2 ++ is)

/-- well-formedness of one call in the state it is made in -/
def CallOK (n : Nat) (s : PySt) (c : Call) : Prop :=
  c ≠ .intoClaim ∧ c ≠ .intoProof ∧ (∀ nm, c = .symbol nm → nm ≤ s.symtab.length) ∧
  (∀ a, c = .load a → a.body.Shape = true ∧
    ∀ i u, PySt.indexF n a s.memory 0 = some (some i) → s.memory[i]? = some u →
      patMeta u = patMeta a) ∧
  (∀ id ef sf ps ns hs, c = .metavar id ef sf ps ns hs → ef = [] ∧ sf = [])

/-- well-formedness of a history, along `track1` -/
def CallsOK (n : Nat) : PySt → List Call → Prop
  | _, [] => True
  | s, c :: cs => CallOK n s c ∧ ∀ s', PySt.track1 n s c = some (some s') → CallsOK n s' cs

theorem emit1_single (n : Nat) (s : PySt) (c : Call) (is : List Instr)
    (hnc : c ≠ .intoClaim) (hnp : c ≠ .intoProof)
    (he : PySt.emit1 n s c = some (some is)) : ∃ i, is = [i] := by
  cases c with
  | intoClaim => exact absurd rfl hnc
  | intoProof => exact absurd rfl hnp
  | metavar id ef sf ps ns hs =>
    dsimp only [PySt.emit1] at he
    split at he <;> (simp only [Option.some.injEq] at he; exact ⟨_, he.symm⟩)
  | load t =>
    dsimp only [PySt.emit1] at he
    obtain ⟨i, _, he⟩ := Option.bind_some_some he
    simp only [Option.pure_def, Option.some.injEq] at he; exact ⟨_, he.symm⟩
  | _ => simp only [PySt.emit1, Option.some.injEq] at he; exact ⟨_, he.symm⟩

theorem track1_canon (n : Nat) (s s' : PySt) (c : Call) (hC : CanonTab s.symtab)
    (hsym : ∀ nm, c = .symbol nm → nm ≤ s.symtab.length) (hP : Pres s s' c)
    (ht : PySt.track1 n s c = some (some s')) : CanonTab s'.symtab := by
  by_cases h : ∃ nm, c = .symbol nm
  · obtain ⟨nm, rfl⟩ := h
    dsimp only [PySt.track1] at ht; cases ht
    exact (symId_canon s.symtab nm hC (hsym nm rfl)).2
  · rw [hP.2.2 (fun nm e => h ⟨nm, e⟩)]; exact hC

/-- the deserialiser's dispatch reads only what is invariant under `StEqG` (for non-`load`) -/
theorem callOfInstr_congr (w : Bool) (s t : PySt) (i : Instr) (c1 : Call) (hE : StEqG w s t)
    (h : PySt.callOfInstr s i = some c1) (hnl : ∀ u, c1 ≠ .load u) :
    PySt.callOfInstr t i = some c1 := by
  cases i with
  | instantiate ids =>
    dsimp only [PySt.callOfInstr] at h ⊢
    have hstk := hE.2.1
    split at h
    · next a b st hs =>
      rw [hs] at hstk
      obtain ⟨a', st', hts, _, _⟩ := stk_proved w a b _ _ hstk
      simp [hts, h]
    · next a b st hs =>
      rw [hs] at hstk
      obtain ⟨a', st', hts, _, _, _⟩ := stk_pat w a b _ _ hstk
      simp [hts, h]
    · simp at h
  | load idx =>
    simp only [PySt.callOfInstr, Option.map_eq_some_iff] at h
    obtain ⟨u, _, rfl⟩ := h
    exact absurd rfl (hnl u)
  | publish =>
    dsimp only [PySt.callOfInstr] at h ⊢
    rw [← hE.1]; exact h
  | _ => simp only [PySt.callOfInstr] at h ⊢; exact h

/-- the call the deserialiser makes on the replayed state for the instruction a call emitted -/
theorem replay_call (n : Nat) (s t s1 : PySt) (c : Call) (i : Instr)
    (hE : StEqG true s t) (hSs : ShapeSt s) (hSt : ShapeSt t) (hC : CanonTab s.symtab)
    (hok : CallOK n s c) (he : PySt.emit1 n s c = some (some [i]))
    (ht : PySt.track1 n s c = some (some s1)) :
    ∃ c2, PySt.callOfInstr t i = some c2 ∧
      (c2 = c ∨ ∃ a b, c = .load a ∧ c2 = .load b ∧ a.body.Shape = true ∧ b.body.Shape = true ∧
        convT a = convT b ∧ (true = true → patMeta a = patMeta b)) := by
  obtain ⟨hnc, hnp, hsym, hld, _⟩ := hok
  by_cases hl : ∃ a, c = .load a
  · obtain ⟨a, rfl⟩ := hl
    obtain ⟨hash, hpm⟩ := hld a rfl
    dsimp only [PySt.emit1] at he
    obtain ⟨idx, hidx, he⟩ := Option.bind_some_some he
    simp only [Option.pure_def, Option.some.injEq, List.cons.injEq, and_true] at he; subst he
    obtain ⟨j, u, hj, hu, hteq⟩ := indexF_teq n a s.memory 0 idx hidx
    have : idx = j := by omega
    subst this
    have hush := hSs.2.1 u (List.mem_of_getElem? hu)
    have hua := teqF_conv n u a hush hash hteq
    have hmm := hE.2.2.1
    have hk1 : (s.memory.map (keyM true))[idx]? = some (keyM true u) := by simp [hu]
    rw [hmm, List.getElem?_map] at hk1
    cases hu' : t.memory[idx]? with
    | none => simp [hu'] at hk1
    | some u' =>
      simp only [hu', Option.map_some, Option.some.injEq, keyM, Prod.mk.injEq,
        Bool.true_and] at hk1
      have hu'sh := hSt.2.1 u' (List.mem_of_getElem? hu')
      exact ⟨.load u', by simp [PySt.callOfInstr, hu'],
        Or.inr ⟨a, u', rfl, rfl, hash, hu'sh, by rw [← hua, hk1.1],
          fun _ => by rw [← hpm idx u hidx hu, hk1.2]⟩⟩
  · obtain ⟨c1, hc1, hrel⟩ := callOfInstr_emit n s s1 c i hC hsym hnc hnp he ht
    rcases hrel with rfl | ⟨a, _, rfl, _, _⟩
    · exact ⟨c1, callOfInstr_congr true s t i c1 hE hc1 (fun u e => hl ⟨u, e⟩), Or.inl rfl⟩
    · exact absurd ⟨a, rfl⟩ hl

theorem emitAll_cons (n : Nat) (s s' : PySt) (c : Call) (cs : List Call) (is : List Instr)
    (h : PySt.emitAll n s (c :: cs) = some (some (s', is))) :
    ∃ is1 s1 js, PySt.emit1 n s c = some (some is1) ∧ PySt.track1 n s c = some (some s1) ∧
      PySt.emitAll n s1 cs = some (some (s', js)) ∧ is = is1 ++ js := by
  simp only [PySt.emitAll] at h
  obtain ⟨is1, he, h⟩ := Option.bind_some_some h
  obtain ⟨s1, hs, h⟩ := Option.bind_some_some h
  obtain ⟨⟨s2, js⟩, ha, h⟩ := Option.bind_some_some h
  simp only [Option.pure_def, Option.some.injEq, Prod.mk.injEq] at h
  obtain ⟨rfl, rfl⟩ := h
  exact ⟨is1, s1, js, he, hs, ha, rfl⟩

/-- 3. deserialising the instructions a history emitted replays it, up to notation; if the replay
returns it does not raise -/
theorem replay_emitG (n k : Nat) : ∀ (cs : List Call) (s t s' : PySt) (is : List Instr)
    (r : Option PySt), StEqG true s t → ShapeSt s → ShapeSt t → CanonTab s.symtab →
    CallsOK n s cs → PySt.emitAll n s cs = some (some (s', is)) →
    PySt.replay k t is = some r → ∃ t', r = some t' ∧ StEqG true s' t' := by
  intro cs
  induction cs with
  | nil =>
    intro s t s' is r hE _ _ _ _ he hr
    simp only [PySt.emitAll, Option.some.injEq, Prod.mk.injEq] at he
    obtain ⟨rfl, rfl⟩ := he
    simp only [PySt.replay, Option.some.injEq] at hr
    exact ⟨t, hr.symm, hE⟩
  | cons c cs ih =>
    intro s t s' is r hE hSs hSt hC hok he hr
    obtain ⟨hok1, hoks⟩ := hok
    obtain ⟨is1, s1, js, he1, ht1, hes, rfl⟩ := emitAll_cons n s s' c cs is he
    obtain ⟨i, rfl⟩ := emit1_single n s c is1 hok1.1 hok1.2.1 he1
    obtain ⟨c2, hc2, hrel⟩ := replay_call n s t s1 c i hE hSs hSt hC hok1 he1 ht1
    simp only [List.singleton_append, PySt.replay, hc2, Option.bind_eq_bind,
      Option.bind_eq_some_iff] at hr
    obtain ⟨x, hx, hr⟩ := hr
    have hload : ∀ a, c = .load a → a.body.Shape = true := fun a e => (hok1.2.2.2.1 a e).1
    have hmv := hok1.2.2.2.2
    obtain ⟨t1, rfl, hE1⟩ := track1_congrG true n k s t s1 c c2 x hE hSs hSt hrel hload
      (fun h => by simp at h) ht1 hx
    have hP := track1_pres n s s1 c hSs hload hmv ht1
    have hSt1 : ShapeSt t1 := by
      rcases hrel with rfl | ⟨a, b, rfl, rfl, _, hb, _⟩
      · exact (track1_pres k t t1 c2 hSt hload hmv hx).1
      · exact (track1_pres k t t1 (.load b) hSt (fun a' e => by cases e; exact hb)
          (fun _ _ _ _ _ _ e => by cases e) hx).1
    have hC1 := track1_canon n s s1 c hC hok1.2.2.1 hP ht1
    simp only [] at hr
    exact ih s1 t1 s' js r hE1 hP.1 hSt1 hC1 (hoks s1 ht1) hes hr

theorem addOut_addOut (ph : Phase) (out : List Instr × List Instr × List Instr)
    (a b : List Instr) : addOut ph (addOut ph out a) b = addOut ph out (a ++ b) := by
  cases ph <;> simp [addOut]

/-- `trackAll`'s stream for the phase grows by exactly `emitAll` -/
theorem trackAll_emitAll (n : Nat) : ∀ (cs : List Call) (s s' : PySt)
    (out out' : List Instr × List Instr × List Instr), ShapeSt s → CallsOK n s cs →
    PySt.trackAll n s cs out = some (some (s', out')) →
    ∃ is, PySt.emitAll n s cs = some (some (s', is)) ∧ out' = addOut s.phase out is := by
  intro cs
  induction cs with
  | nil =>
    intro s s' out out' _ _ h
    simp only [PySt.trackAll, Option.some.injEq, Prod.mk.injEq] at h
    obtain ⟨rfl, rfl⟩ := h
    exact ⟨[], by simp [PySt.emitAll], by cases s.phase <;> simp [addOut]⟩
  | cons c cs ih =>
    intro s s' out out' hSs hok h
    obtain ⟨g, cl, pf⟩ := out
    obtain ⟨hok1, hoks⟩ := hok
    simp only [PySt.trackAll] at h
    obtain ⟨is1, he, h⟩ := Option.bind_some_some h
    obtain ⟨s1, hs, h⟩ := Option.bind_some_some h
    have hload : ∀ a, c = .load a → a.body.Shape = true := fun a e => (hok1.2.2.2.1 a e).1
    have hP := track1_pres n s s1 c hSs hload hok1.2.2.2.2 hs
    obtain ⟨js, hjs, hout⟩ := ih s1 s' _ out' hP.1 (hoks s1 hs) h
    refine ⟨is1 ++ js, by simp [PySt.emitAll, he, hs, hjs], ?_⟩
    rw [hout, hP.2.1 hok1.1 hok1.2.1, ← addOut_addOut]
    cases s.phase <;> rfl

/-- 3, in terms of `trackAll`; starting from states equal up to notation *with the same
meta-headed `Pattern` entries* (`StEqG true`, e.g. the same state) -/
theorem replay_emit (n k : Nat) (cs : List Call) (s t s' : PySt)
    (out out' : List Instr × List Instr × List Instr) :
    StEqG true s t → ShapeSt s → ShapeSt t → CanonTab s.symtab → CallsOK n s cs →
    PySt.trackAll n s cs out = some (some (s', out')) →
    ∃ is, out' = addOut s.phase out is ∧
      ∀ r, PySt.replay k t is = some r → ∃ t', r = some t' ∧ StEqX s' t' := by
  intro hE hSs hSt hC hok h
  obtain ⟨is, hem, hout⟩ := trackAll_emitAll n cs s s' out out' hSs hok h
  refine ⟨is, hout, fun r hr => ?_⟩
  obtain ⟨t', rfl, hE'⟩ := replay_emitG n k cs s t s' is r hE hSs hSt hC hok hem hr
  exact ⟨t', rfl, hE'.toX⟩

/-- the usual case: replaying on the state the history started from -/
theorem replay_emit_self (n k : Nat) (cs : List Call) (s s' : PySt)
    (out out' : List Instr × List Instr × List Instr) :
    ShapeSt s → CanonTab s.symtab → CallsOK n s cs →
    PySt.trackAll n s cs out = some (some (s', out')) →
    ∃ is, out' = addOut s.phase out is ∧
      ∀ r, PySt.replay k s is = some r → ∃ t', r = some t' ∧ StEqX s' t' :=
  fun hSs hC hok h => replay_emit n k cs s s s' out out' (StEqG.refl true s) hSs hSs hC hok h

#print axioms callOfInstr_emit
#print axioms track1_congr
#print axioms track1_congrG
#print axioms replay_emitG
#print axioms trackAll_emitAll
#print axioms replay_emit
#print axioms replay_emit_self
#print axioms deserialize_undecodable
