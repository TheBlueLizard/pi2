import Pi2.EndToEnd
import Pi2.DeserializeThm
import Pi2.DeserTie
import Pi2.InterpTie
/-!
# Helper lemmas for the end-to-end round trip of C14 (`Pi2/Props/C14b.lean`)

history of calls → instructions (`trackAll` / `emitAll`) → bytes of the translated serializer methods (`EndToEnd.writeAll`) →
the translated deserialiser (`Gen.Deser.step`, the branches of `deserialize_instructions` as written) → the interpreter calls it
makes, on the tracker `track1` (`PyDeser.exec`, `Gen.Deser.run`) or on the translated `StatefulInterpreter` methods
(`execI`, `InterpTie.pyCall`) → the final state, equal to the history's up to notation.

* `runWith`: the loop of `Gen.Deser.run` with the executor of one iteration as a parameter; `run_eq_runWith`;
  `execI` / `deserializeI`: the iteration that calls the translated `StatefulInterpreter` method (`InterpTie.pyCall`) instead
  of `track1`; `execI_sound`: whatever it answers, `PyDeser.exec` answers.
* `runWith_replay`: a run of the loop that returns is the model's `replay` — without the hypothesis `PrecheckAlong` of
  `DeserTie.run_eq_replay`: that the deserialiser's own claim test agrees with the tracker's follows, at every `Publish` the run
  gets past, from the run having returned (`precheck_of_exec`), when the proof on the stack proves the claim (`PubOKAlong`).
* `pubOKAlong_emit`, `emitAll_instrs`: the instructions a history emitted satisfy `PubOKAlong`, `NodupKeys`, `mvClean`.
* `roundtrip_phaseG`: the round trip for one phase, with the strong final equality `StEqG true` (needed to chain phases).
-/
set_option linter.unusedVariables false
set_option linter.unusedSimpArgs false
open PySt PyDeser

namespace EndToEnd

/-! ## the loop with the executor of one iteration as a parameter -/

/-- `Gen.Deser.run` with the executor `E` of one iteration (`PyDeser.exec n` in the generated file) as a parameter -/
def runWith (n : Nat) (E : PySt → Res → Option (Option (PySt × List Nat))) : Nat → PySt → List Nat → Option (Option PySt)
  | _, s, [] => some (some s)
  | 0, _, _ :: _ => none
  | fuel + 1, s, byte :: bs =>
      match E s (Gen.Deser.step n s byte bs) with
      | none => none
      | some none => some none
      | some (some (s', rest)) => runWith n E fuel s' rest

theorem run_eq_runWith (n : Nat) : ∀ (f : Nat) (s : PySt) (bs : List Nat),
    Gen.Deser.run n f s bs = runWith n (exec n) f s bs := by
  intro f
  induction f with
  | zero => intro s bs; cases bs <;> rfl
  | succ f ih =>
    intro s bs
    cases bs with
    | nil => rfl
    | cons b r =>
      simp only [Gen.Deser.run, runWith]
      rcases exec n s (Gen.Deser.step n s b r) with _ | _ | p
      · rfl
      · rfl
      · exact ih p.1 p.2

/-- one loop iteration on the translated `StatefulInterpreter`: as `PyDeser.exec`, but the call is made on the translated
method with the stack's own terms (`InterpTie.pyCall`) instead of `track1`.  Outer `none` = out of fuel, or a call outside the
modelled interface (`toCall` / `pyCall` answer `none`: the stack does not hold terms of the types the method's signature
demands). -/
def execI (n : Nat) (s : PySt) : Res → Option (Option (PySt × List Nat))
  | .raise => some none
  | .fuel => none
  | .noop rest => some (some (s, rest))
  | .call dc rest =>
      if dc.args.all (Arg.defined s) then
        match toCall s dc with
        | some c =>
            match InterpTie.pyCall n s c with
            | some g => g.map (Option.map (·, rest))
            | none => none
        | none => none
      else some none

/-- `deserialize_instructions(data, interpreter)` as written, `interpreter` a `StatefulInterpreter` as written -/
def deserializeI (n : Nat) (s : PySt) (data : List Nat) : Option (Option PySt) := runWith n (execI n) data.length s data

theorem deserialize_eq_runWith (n : Nat) (s : PySt) (data : List Nat) :
    Gen.Deser.deserialize n s data = runWith n (exec n) data.length s data := run_eq_runWith n _ s data

/-- an executor that answers only what `PyDeser.exec` answers, on well-shaped states -/
def ExecSound (n : Nat) (E : PySt → Res → Option (Option (PySt × List Nat))) : Prop :=
  ∀ s res x, ShapeSt s → E s res = some x → exec n s res = some x

theorem execSound_exec (n : Nat) : ExecSound n (exec n) := fun _ _ _ _ h => h

/-- whatever the iteration on the translated `StatefulInterpreter` answers, the iteration on the tracker answers
(`InterpTie.pyCall_sound`) -/
theorem execI_sound (n : Nat) : ExecSound n (execI n) := by
  intro s res x hS h
  cases res with
  | raise => exact h
  | fuel => exact h
  | noop rest => exact h
  | call dc rest =>
    simp only [execI] at h
    simp only [exec]
    split at h
    · rename_i hdef
      rw [if_pos hdef]
      cases hc : toCall s dc with
      | none => simp [hc] at h
      | some c =>
        simp only [hc] at h ⊢
        cases hg : InterpTie.pyCall n s c with
        | none => simp [hg] at h
        | some g =>
          simp only [hg] at h
          cases g with
          | none => simp at h
          | some r =>
            simp only [Option.map_some, Option.some.injEq] at h
            have := InterpTie.pyCall_sound n s c (some r) r hS.1 hg rfl
            rw [this, ← h]
            rfl
    · rename_i hdef
      rw [if_neg hdef]
      exact h

/-! ## shape along the deserialiser's calls -/

/-- a `MetaVar` instruction without freshness constraints (what `ShapeSt` of the tracker state asks of a metavariable) -/
def _root_.Instr.mvClean : Instr → Bool
  | .metavar _ ef sf _ _ _ => ef.isEmpty && sf.isEmpty
  | _ => true

theorem shape_step (n : Nat) (s s' : PySt) (i : Instr) (c : Call) (hS : ShapeSt s) (hi : i.mvClean = true)
    (hc : callOfInstr s i = some c) (ht : track1 n s c = some (some s')) : ShapeSt s' := by
  -- a dispatched `load` loads a memory entry; a dispatched `metavar` has the lists of the instruction
  have key : (∀ a, c = .load a → a.body.Shape = true) ∧
      ∀ id ef sf ps ns hs, c = .metavar id ef sf ps ns hs → ef = [] ∧ sf = [] := by
    cases i with
    | load j =>
      obtain ⟨u, hu, rfl⟩ := Option.map_eq_some_iff.mp hc
      exact ⟨fun a e => by cases e; exact hS.2.1 _ (List.mem_of_getElem? hu), fun _ _ _ _ _ _ e => Call.noConfusion e⟩
    | metavar id ef sf ps ns hs =>
      cases hc
      exact ⟨fun _ e => Call.noConfusion e, fun _ _ _ _ _ _ e => by cases e; simpa [Instr.mvClean, List.isEmpty_iff] using hi⟩
    | cleanmv id => cases hc; exact ⟨fun _ e => Call.noConfusion e, fun _ _ _ _ _ _ e => by cases e; exact ⟨rfl, rfl⟩⟩
    | instantiate ids => simp only [callOfInstr] at hc; split at hc <;> cases hc <;> exact ⟨fun _ e => Call.noConfusion e, fun _ _ _ _ _ _ e => Call.noConfusion e⟩
    | publish => simp only [callOfInstr] at hc; split at hc <;> cases hc <;> exact ⟨fun _ e => Call.noConfusion e, fun _ _ _ _ _ _ e => Call.noConfusion e⟩
    | existence | subst _ => cases hc
    | _ => cases hc; exact ⟨fun _ e => Call.noConfusion e, fun _ _ _ _ _ _ e => Call.noConfusion e⟩
  exact (track1_pres n s s' c hS key.1 key.2 ht).1

/-! ## the claim pre-check: it agrees with the tracker's test wherever the loop gets past a `Publish` -/

/-- in the proof phase the proof on top of the stack proves the next claim (up to notation) -/
def PubOK (s : PySt) : Prop :=
  ∀ t b st c cs, s.phase = .proof → s.stack = (.proved t, b) :: st → s.claims = c :: cs → t.expand = c.expand

/-- `PubOK` in every state in which the model replays a `Publish` (the shape of `DeserTie.PrecheckAlong`) -/
def PubOKAlong (n : Nat) : PySt → List Instr → Prop
  | _, [] => True
  | s, i :: is => (i = .publish → PubOK s) ∧
      ∀ c s', callOfInstr s i = some c → track1 n s c = some (some s') → PubOKAlong n s' is

/-- if the `Publish` branch as written answers at all (a state or an exception, not "out of fuel") in a well-shaped state whose
top proof proves the next claim, both comparisons (`claim == conclusion` of the deserialiser, `conclusion == claim` of
`publish_proof`) were definite, hence agree -/
theorem precheck_of_exec (n : Nat) (s : PySt) (r : List Nat) (x : Option (PySt × List Nat)) (hS : ShapeSt s) (hP : PubOK s)
    (h : exec n s (Gen.Deser.br_Publish n s r) = some x) : DeserTie.PrecheckAgrees n s := by
  intro t b st c cs hph hst hcl
  have hexp := hP t b st c cs hph hst hcl
  have hts : t.Shape = true := hS.1 (.proved t, b) (by rw [hst]; simp)
  have hcs : c.Shape = true := hS.2.2 c (by rw [hcl]; simp)
  obtain ⟨ph, stk, mem, cl, sy⟩ := s
  simp only at hph hst hcl
  subst hph hst hcl
  cases h1 : NPat.peqF n c t with
  | none =>
    simp [Gen.Deser.br_Publish, assertThat, isProved, Arg.term, ifM, pyOr, pyNot, claimHeadEq, TTerm.body, h1, exec] at h
  | some q =>
    have hq : q = true := by rw [NPat.peqF_expand n c t q hcs hts h1]; simp [hexp]
    subst hq
    cases h2 : NPat.peqF n t c with
    | none =>
      simp [Gen.Deser.br_Publish, assertThat, isProved, Arg.term, ifM, pyOr, pyNot, claimHeadEq, TTerm.body, h1, h2, exec,
        toCall, Arg.defined, track1] at h
    | some q' =>
      have hq' : q' = true := by rw [NPat.peqF_expand n t c q' hts hcs h2]; simp [hexp]
      rw [hq']

theorem step_publish (n : Nat) (s : PySt) (r : List Nat) : Gen.Deser.step n s 30 r = Gen.Deser.br_Publish n s r := by
  rw [DeserTie.step_eq]; simp

theorem decodeF_cons {f : Nat} {b : Nat} {r : List Nat} {is : List Instr} (hlen : (b :: r).length ≤ f + 1)
    (hd : decodeF (f + 1) (b :: r) = some is) :
    ∃ i rest is', decode1 (b :: r) = some (i, rest) ∧ decodeF f rest = some is' ∧ is = i :: is' ∧ rest.length ≤ f := by
  simp only [decodeF] at hd
  cases h1 : decode1 (b :: r) with
  | none => simp [h1] at hd
  | some ir =>
    obtain ⟨i, rest⟩ := ir
    simp only [h1, Option.map_eq_some_iff] at hd
    obtain ⟨is', hd', rfl⟩ := hd
    have := decode1_length h1
    simp only [List.length_cons] at this hlen
    exact ⟨i, rest, is', rfl, hd', rfl, by omega⟩

/-- one iteration of the loop as written, under the hypotheses of `runWith_replay`: what the executor answers is what the
model's dispatch `callOfInstr` and `track1` answer for the decoded instruction `i` (`DeserTie.step_tie`; the hypothesis
`PrecheckAgrees` of that theorem holds at a `Publish` because the iteration answered: `precheck_of_exec`) -/
theorem loop_step (n : Nat) (E : PySt → Res → Option (Option (PySt × List Nat))) (hE : ExecSound n E) {s : PySt}
    {b : Nat} {r rest : List Nat} {i : Instr} {is : List Instr} {x : Option (PySt × List Nat)}
    (h1 : decode1 (b :: r) = some (i, rest)) (hk : DeserTie.NodupKeys (i :: is)) (hS : ShapeSt s)
    (hp : PubOKAlong n s (i :: is)) (hx : E s (Gen.Deser.step n s b r) = some x) :
    DeserTie.NodupKeys1 (b :: r) ∧ exec n s (Gen.Deser.step n s b r) = some x ∧
    ((callOfInstr s i = none ∧ x = none) ∨ ∃ c, callOfInstr s i = some c ∧
      ((track1 n s c = some none ∧ x = none) ∨ ∃ s', track1 n s c = some (some s') ∧ x = some (s', rest))) := by
  have hk1 : DeserTie.NodupKeys1 (b :: r) := by
    intro ids rest' hdec
    rw [h1] at hdec
    simp only [Option.some.injEq, Prod.mk.injEq] at hdec
    exact hk ids (by rw [← hdec.1]; simp)
  have hex := hE s _ x hS hx
  have hp1 : b = 30 → DeserTie.PrecheckAgrees n s := by
    intro hb
    subst hb
    have hi : i = .publish := by rw [decode1_publish] at h1; cases h1; rfl
    rw [step_publish] at hex
    exact precheck_of_exec n s r x hS (hp.1 hi) hex
  have htie := DeserTie.step_tie n s b r hk1 hp1
  rw [hex] at htie
  simp only [DeserTie.modelStep, h1] at htie
  refine ⟨hk1, hex, ?_⟩
  cases hc : callOfInstr s i with
  | none =>
    simp only [hc, Option.some.injEq] at htie
    exact Or.inl ⟨rfl, htie⟩
  | some c =>
    simp only [hc] at htie
    refine Or.inr ⟨c, rfl, ?_⟩
    cases ht : track1 n s c with
    | none => simp [ht] at htie
    | some o =>
      simp only [ht, Option.map_some, Option.some.injEq] at htie
      subst htie
      cases o with
      | none => exact Or.inl ⟨rfl, rfl⟩
      | some s' => exact Or.inr ⟨s', rfl, rfl⟩

/-- **the loop, without `PrecheckAlong`**: on a decodable stream (distinct `Instantiate` keys, metavariables without freshness
constraints) from a well-shaped state in which every `Publish` of the proof phase finds a proof of the next claim, a run of the
generated `while` loop — on the tracker or on the translated `StatefulInterpreter` — that returns, returns what the model's
`replay` of the decoded instructions returns -/
theorem runWith_replay (n : Nat) (E : PySt → Res → Option (Option (PySt × List Nat))) (hE : ExecSound n E) :
    ∀ (f : Nat) (s : PySt) (bs : List Nat) (is : List Instr) (r : Option PySt), bs.length ≤ f →
    decodeF f bs = some is → DeserTie.NodupKeys is → (∀ i ∈ is, i.mvClean = true) → ShapeSt s → PubOKAlong n s is →
    runWith n E f s bs = some r → replay n s is = some r := by
  intro f
  induction f with
  | zero =>
    intro s bs is r hlen hd _ _ _ _ hrun
    cases bs with
    | nil => cases hd; exact hrun
    | cons b r => simp at hlen
  | succ f ih =>
    intro s bs is r0 hlen hd hk hmv hS hp hrun
    cases bs with
    | nil => cases hd; exact hrun
    | cons b r =>
      obtain ⟨i, rest, is', h1, hd', rfl, hrest⟩ := decodeF_cons hlen hd
      simp only [runWith] at hrun
      cases hx : E s (Gen.Deser.step n s b r) with
      | none => simp [hx] at hrun
      | some x =>
        simp only [hx] at hrun
        rcases (loop_step n E hE h1 hk hS hp hx).2.2 with ⟨hc, rfl⟩ | ⟨c, hc, ⟨ht, rfl⟩ | ⟨s', ht, rfl⟩⟩
        · simpa only [replay, hc] using hrun
        · simpa only [replay, hc, ht, Option.bind_eq_bind, Option.bind_some, Option.pure_def] using hrun
        · simp only [replay, hc, ht, Option.bind_eq_bind, Option.bind_some]
          exact ih s' rest is' r0 hrest hd' (fun ids hm => hk ids (List.mem_cons_of_mem _ hm))
            (fun j hj => hmv j (List.mem_cons_of_mem _ hj))
            (shape_step n s s' i c hS (hmv i (List.mem_cons_self ..)) hc ht) (hp.2 c s' hc ht) hrun

/-- … for `deserialize` (the iteration bound is the length of the data) -/
theorem runWith_deserialize (n : Nat) (E : PySt → Res → Option (Option (PySt × List Nat))) (hE : ExecSound n E)
    (s : PySt) (is : List Instr) (r : Option PySt) (hk : DeserTie.NodupKeys is) (hmv : ∀ i ∈ is, i.mvClean = true)
    (hS : ShapeSt s) (hp : PubOKAlong n s is) (h : runWith n E (encode is).length s (encode is) = some r) :
    replay n s is = some r :=
  runWith_replay n E hE _ s _ is r (Nat.le_refl _) (decode_encode is) hk hmv hS hp h

/-! ## what a history emits -/

/-- the keys of an `instantiate` / `instantiate_pattern` call are pairwise different (they are the keys of a `dict`) -/
def _root_.Call.keysNodup : Call → Bool
  | .instantiate keys => decide keys.Nodup
  | .instantiatePattern keys => decide keys.Nodup
  | _ => true

theorem emit1_instr_ok (n : Nat) (s : PySt) (c : Call) (i : Instr) (hok : CallOK n s c) (hk : c.keysNodup = true)
    (he : emit1 n s c = some (some [i])) : (∀ ids, i = .instantiate ids → ids.Nodup) ∧ i.mvClean = true := by
  obtain ⟨_, _, _, _, hmv⟩ := hok
  cases c with
  | metavar id ef sf ps ns hs =>
    obtain ⟨rfl, rfl⟩ := hmv _ _ _ _ _ _ rfl
    simp only [emit1] at he
    split at he <;> (simp only [Option.some.injEq, List.cons.injEq, and_true] at he; subst he; simp [Instr.mvClean])
  | load t =>
    simp only [emit1, Option.bind_eq_bind, Option.bind_eq_some_iff] at he
    obtain ⟨oi, _, he⟩ := he
    cases oi with
    | none => simp at he
    | some j =>
      simp only [Option.pure_def, Option.some.injEq, List.cons.injEq, and_true] at he; subst he
      simp [Instr.mvClean]
  | instantiate keys | instantiatePattern keys =>
    cases he
    simp only [Call.keysNodup, decide_eq_true_eq] at hk
    refine ⟨?_, rfl⟩
    intro ids h
    cases h
    exact (List.reverse_perm keys).nodup_iff.mpr hk
  | intoClaim | intoProof => cases he
  | _ => cases he; exact ⟨fun ids h => (by cases h), rfl⟩

theorem emitAll_induct (n : Nat) {P : PySt → List Call → PySt → List Instr → Prop} (hnil : ∀ s, P s [] s [])
    (hcons : ∀ s c cs s1 i s' js, CallOK n s c → PySt.emit1 n s c = some (some [i]) →
      PySt.track1 n s c = some (some s1) → P s1 cs s' js → P s (c :: cs) s' (i :: js)) :
    ∀ (cs : List Call) (s s' : PySt) (is : List Instr), CallsOK n s cs →
      PySt.emitAll n s cs = some (some (s', is)) → P s cs s' is := by
  intro cs
  induction cs with
  | nil =>
    intro s s' is _ he
    cases he; exact hnil s
  | cons c cs ih =>
    intro s s' is hok he
    obtain ⟨is1, s1, js, he1, ht1, hes, rfl⟩ := emitAll_cons n s s' c cs is he
    obtain ⟨i, rfl⟩ := emit1_single n s c is1 hok.1.1 hok.1.2.1 he1
    exact hcons s c cs s1 i s' js hok.1 he1 ht1 (ih s1 s' js (hok.2 s1 ht1) hes)

theorem emitAll_instrs (n : Nat) (cs : List Call) (s s' : PySt) (is : List Instr) (hok : CallsOK n s cs)
    (hk : ∀ c ∈ cs, c.keysNodup = true) (he : PySt.emitAll n s cs = some (some (s', is))) :
    DeserTie.NodupKeys is ∧ ∀ i ∈ is, i.mvClean = true := by
  refine emitAll_induct n (P := fun _ cs _ is => (∀ c ∈ cs, c.keysNodup = true) →
    DeserTie.NodupKeys is ∧ ∀ i ∈ is, i.mvClean = true) ?_ ?_ cs s s' is hok he hk
  · exact fun _ _ => ⟨fun ids h => (by cases h), fun i h => (by cases h)⟩
  · intro s c cs s1 i s' js hok1 he1 _ ih hk
    obtain ⟨h1, h2⟩ := emit1_instr_ok n s c i hok1 (hk c (List.mem_cons_self ..)) he1
    obtain ⟨h3, h4⟩ := ih fun c' hc' => hk c' (List.mem_cons_of_mem _ hc')
    refine ⟨fun ids hm => ?_, fun j hj => ?_⟩
    · rcases List.mem_cons.mp hm with hm | hm
      · exact h1 ids hm.symm
      · exact h3 ids hm
    · rcases List.mem_cons.mp hj with rfl | hj
      · exact h2
      · exact h4 j hj

/-- a call that emitted `Publish` in the proof phase is `publish_proof`, and the proof it published proves the claim -/
theorem pubOK_of_emit (n : Nat) (s t s1 : PySt) (c : Call) (hE : StEqG true s t) (hSs : ShapeSt s)
    (he : emit1 n s c = some (some [.publish])) (ht : track1 n s c = some (some s1)) : PubOK t := by
  intro tt b st c0 cs0 hph hst hcl
  have hsph : s.phase = .proof := by rw [hE.1]; exact hph
  have hc : c = .publishProof := by
    cases c with
    | metavar id ef sf ps ns hs => simp only [emit1] at he; split at he <;> simp at he
    | load a =>
      simp only [emit1, Option.bind_eq_bind, Option.bind_eq_some_iff] at he
      obtain ⟨oi, _, he⟩ := he
      cases oi <;> simp at he
    | publishProof => rfl
    | publishAxiom => simp [track1, hsph] at ht
    | publishClaim => simp [track1, hsph] at ht
    | _ => cases he
  subst hc
  obtain ⟨t0, c0', hterm, hclaims, hpeq⟩ := (DeserTie.track1_publish_uses n s s1).2.2.2.2.2 ht
  have hstk := hE.2.1
  rw [hst] at hstk
  obtain ⟨p', st', hss, hp', _⟩ := stk_proved true tt b st s.stack hstk.symm
  have ht0 : t0 = p' := by
    simp only [Arg.term, hss, List.getElem?_cons_zero, Option.map_some, Option.some.injEq, TTerm.proved.injEq] at hterm
    exact hterm.symm
  subst ht0
  have hcl' := hE.2.2.2.1
  rw [hclaims, hcl] at hcl'
  simp only [List.map_cons, List.cons.injEq] at hcl'
  have h1 : t0.Shape = true := hSs.1 (.proved t0, b) (by rw [hss]; simp)
  have h2 : c0'.Shape = true := hSs.2.2 c0' (by rw [hclaims]; simp)
  have := NPat.peqF_expand n t0 c0' true h1 h2 hpeq
  have hx : t0.expand = c0'.expand := by simpa using this.symm
  rw [← hp', hx, hcl'.1]

/-- one call `c` of a well-formed history and the instruction `i` it emitted, replayed in a state equal up to notation: the
deserialiser dispatches a corresponding call `c2` (`replay_call`), and whatever the tracker answers to `c2` is a state, equal up
to notation to the history's next state, and well shaped -/
theorem replay_step (n k : Nat) (s t s1 : PySt) (c : Call) (i : Instr) (hE : StEqG true s t) (hSs : ShapeSt s)
    (hSt : ShapeSt t) (hC : CanonTab s.symtab) (hok : CallOK n s c) (he : emit1 n s c = some (some [i]))
    (ht : track1 n s c = some (some s1)) :
    ∃ c2, callOfInstr t i = some c2 ∧
      (c2 = c ∨ ∃ a b, c = .load a ∧ c2 = .load b ∧ a.body.Shape = true ∧ b.body.Shape = true ∧
        convT a = convT b ∧ (true = true → patMeta a = patMeta b)) ∧
      ShapeSt s1 ∧ CanonTab s1.symtab ∧
      ∀ x, track1 k t c2 = some x → ∃ t1, x = some t1 ∧ StEqG true s1 t1 ∧ ShapeSt t1 := by
  obtain ⟨c2, hc2, hrel⟩ := replay_call n s t s1 c i hE hSs hSt hC hok he ht
  have hload : ∀ a, c = .load a → a.body.Shape = true := fun a e => (hok.2.2.2.1 a e).1
  have hP := track1_pres n s s1 c hSs hload hok.2.2.2.2 ht
  refine ⟨c2, hc2, hrel, hP.1, track1_canon n s s1 c hC hok.2.2.1 hP ht, fun x hx => ?_⟩
  obtain ⟨t1, rfl, hE1⟩ := track1_congrG true n k s t s1 c c2 x hE hSs hSt hrel hload (fun h => by simp at h) ht hx
  refine ⟨t1, rfl, hE1, ?_⟩
  rcases hrel with rfl | ⟨a, b, rfl, rfl, _, hb, _⟩
  · exact (track1_pres k t t1 c2 hSt hload hok.2.2.2.2 hx).1
  · exact (track1_pres k t t1 (.load b) hSt (fun a' e => by cases e; exact hb) (fun _ _ _ _ _ _ e => by cases e) hx).1

/-- the instructions a well-formed history emitted, replayed from a state equal up to notation (same meta-headed entries): in
every state in which the replay meets a `Publish` of the proof phase, the proof on the stack proves the next claim -/
theorem pubOKAlong_emit (n k : Nat) (cs : List Call) (s t s' : PySt) (is : List Instr)
    (hE : StEqG true s t) (hSs : ShapeSt s) (hSt : ShapeSt t) (hC : CanonTab s.symtab) (hok : CallsOK n s cs)
    (he : PySt.emitAll n s cs = some (some (s', is))) : PubOKAlong k t is := by
  refine emitAll_induct n (P := fun s _ _ is => ∀ t, StEqG true s t → ShapeSt s → ShapeSt t → CanonTab s.symtab →
    PubOKAlong k t is) (fun _ _ _ _ _ _ => trivial) ?_ cs s s' is hok he t hE hSs hSt hC
  intro s c cs s1 i s' js hok1 he1 ht1 ih t hE hSs hSt hC
  obtain ⟨c2, hc2, _, hS1, hC1, hstep⟩ := replay_step n k s t s1 c i hE hSs hSt hC hok1 he1 ht1
  refine ⟨fun hi => ?_, fun c2' t1 hc2' hx => ?_⟩
  · subst hi
    exact pubOK_of_emit n s t s1 c hE hSs he1 ht1
  · cases hc2.symm.trans hc2'
    obtain ⟨_, h, hE1, hSt1⟩ := hstep _ hx
    cases h
    exact ih t1 hE1 hS1 hSt1 hC1

/-! ## the round trip for one phase -/

/-- shape and canonical symbol table at the end of a well-formed history -/
theorem emitAll_final (n : Nat) (cs : List Call) (s s' : PySt) (is : List Instr) (hS : ShapeSt s)
    (hC : CanonTab s.symtab) (hok : CallsOK n s cs) (hem : PySt.emitAll n s cs = some (some (s', is))) :
    ShapeSt s' ∧ CanonTab s'.symtab := by
  refine emitAll_induct n (P := fun s _ s' _ => ShapeSt s → CanonTab s.symtab → ShapeSt s' ∧ CanonTab s'.symtab)
    (fun _ h1 h2 => ⟨h1, h2⟩) ?_ cs s s' is hok hem hS hC
  intro s c cs s1 i s' js hok1 _ ht1 ih hSs hC
  have hP := track1_pres n s s1 c hSs (fun a e => (hok1.2.2.2.1 a e).1) hok1.2.2.2.2 ht1
  exact ih hP.1 (track1_canon n s s1 c hC hok1.2.2.1 hP ht1)

/-- a successful replay of instructions whose metavariables carry no freshness constraints keeps the state well shaped -/
theorem replay_shape (k : Nat) : ∀ (is : List Instr) (t t' : PySt), (∀ i ∈ is, i.mvClean = true) → ShapeSt t →
    replay k t is = some (some t') → ShapeSt t' := by
  intro is
  induction is with
  | nil => intro t t' _ hSt hrep; cases hrep; exact hSt
  | cons i is ih =>
    intro t t' hmv hSt hrep
    simp only [replay] at hrep
    cases hc : callOfInstr t i with
    | none => simp [hc] at hrep
    | some c =>
      simp only [hc, Option.bind_eq_bind, Option.bind_eq_some_iff] at hrep
      obtain ⟨o, ht, hrep⟩ := hrep
      cases o with
      | none => simp at hrep
      | some t1 =>
        exact ih t1 t' (fun j hj => hmv j (List.mem_cons_of_mem _ hj))
          (shape_step k t t1 i c hSt (hmv i (List.mem_cons_self ..)) hc ht) hrep

/-- **round trip for one phase, through the texts** (strong form, for chaining phases): the instructions `is` that a
well-formed history with distinct `instantiate` keys emitted; a run of the loop of `deserialize_instructions` as written on
`encode is` — with any executor that answers only what `PyDeser.exec` answers: the tracker (`Gen.Deser.deserialize`) or the
translated `StatefulInterpreter` (`deserializeI`) — from a state `t` equal to the history's initial state up to notation, if it
returns, returns a state equal to the history's final state up to notation (with the same meta-headed entries: `StEqG true`)
and well shaped -/
theorem roundtrip_phaseE (n k : Nat) (E : PySt → Res → Option (Option (PySt × List Nat))) (hE : ExecSound k E)
    (cs : List Call) (s t s' : PySt) (is : List Instr)
    (hEq : StEqG true s t) (hSs : ShapeSt s) (hSt : ShapeSt t) (hC : CanonTab s.symtab) (hok : CallsOK n s cs)
    (hkeys : ∀ c ∈ cs, c.keysNodup = true) (hem : PySt.emitAll n s cs = some (some (s', is))) :
    ∀ r, runWith k E (encode is).length t (encode is) = some r → ∃ t', r = some t' ∧ StEqG true s' t' ∧ ShapeSt t' := by
  intro r hr
  obtain ⟨hnd, hmv⟩ := emitAll_instrs n cs s s' is hok hkeys hem
  have hpub := pubOKAlong_emit n k cs s t s' is hEq hSs hSt hC hok hem
  have hrep := runWith_deserialize k E hE t is r hnd hmv hSt hpub hr
  obtain ⟨t', rfl, hE'⟩ := replay_emitG n k cs s t s' is r hEq hSs hSt hC hok hem hrep
  exact ⟨t', rfl, hE', replay_shape k is t t' hmv hSt hrep⟩

/-- the same in terms of `trackAll` -/
theorem roundtrip_phaseG (n k : Nat) (E : PySt → Res → Option (Option (PySt × List Nat))) (hE : ExecSound k E)
    (cs : List Call) (s t s' : PySt) (out out' : List Instr × List Instr × List Instr)
    (hEq : StEqG true s t) (hSs : ShapeSt s) (hSt : ShapeSt t) (hC : CanonTab s.symtab) (hok : CallsOK n s cs)
    (hkeys : ∀ c ∈ cs, c.keysNodup = true)
    (h : PySt.trackAll n s cs out = some (some (s', out'))) :
    ∃ is, out' = addOut s.phase out is ∧ ShapeSt s' ∧ CanonTab s'.symtab ∧
      ∀ r, runWith k E (encode is).length t (encode is) = some r → ∃ t', r = some t' ∧ StEqG true s' t' ∧ ShapeSt t' := by
  obtain ⟨is, hem, hout⟩ := trackAll_emitAll n cs s s' out out' hSs hok h
  obtain ⟨hfin1, hfin2⟩ := emitAll_final n cs s s' is hSs hC hok hem
  exact ⟨is, hout, hfin1, hfin2, roundtrip_phaseE n k E hE cs s t s' is hEq hSs hSt hC hok hkeys hem⟩

/-! ## undecodable streams: the loop never completes, whatever the executor -/

theorem execI_rest (n : Nat) (s s' : PySt) (res : Res) (rest rest' : List Nat) (h : DeserTie.restOK res rest)
    (he : execI n s res = some (some (s', rest'))) : rest' = rest := by
  cases res with
  | raise => simp [execI] at he
  | fuel => simp [execI] at he
  | noop r =>
    simp only [execI, Option.some.injEq, Prod.mk.injEq] at he
    simp only [DeserTie.restOK] at h
    rw [← he.2, h]
  | call dc r =>
    simp only [DeserTie.restOK] at h
    subst h
    simp only [execI] at he
    split at he
    · split at he
      · split at he
        · rename_i g _
          cases g with
          | none => simp at he
          | some o =>
            cases o with
            | none => simp at he
            | some s1 => simp at he; exact he.2.symm
        · simp at he
      · simp at he
    · simp at he

/-- an executor that raises on `raise` and continues, if at all, with the rest of the stream the branch left -/
def ExecReads (E : PySt → Res → Option (Option (PySt × List Nat))) : Prop :=
  (∀ s, E s .raise = some none) ∧
  ∀ s s' res rest rest', DeserTie.restOK res rest → E s res = some (some (s', rest')) → rest' = rest

theorem execReads_exec (n : Nat) : ExecReads (exec n) := ⟨fun _ => rfl, fun s s' res rest rest' => DeserTie.exec_rest n s s' res rest rest'⟩
theorem execReads_execI (n : Nat) : ExecReads (execI n) := ⟨fun _ => rfl, fun s s' res rest rest' => execI_rest n s s' res rest rest'⟩

/-- on an undecodable stream the loop as written never completes (`DeserTie.run_undecodable`, for any such executor) -/
theorem runWith_undecodable (n : Nat) (E : PySt → Res → Option (Option (PySt × List Nat))) (hE : ExecReads E) :
    ∀ (f : Nat) (s : PySt) (bs : List Nat), bs.length ≤ f → decodeF f bs = none →
    runWith n E f s bs = some none ∨ runWith n E f s bs = none := by
  intro f
  induction f with
  | zero =>
    intro s bs hlen hd
    cases bs with
    | nil => simp [decodeF] at hd
    | cons b r => simp at hlen
  | succ f ih =>
    intro s bs hlen hd
    cases bs with
    | nil => simp [decodeF] at hd
    | cons b r =>
      have hr := DeserTie.step_reads n s b r
      simp only [decodeF] at hd
      simp only [runWith]
      cases h1 : decode1 (b :: r) with
      | none =>
        rw [h1] at hr
        simp only [DeserTie.reads] at hr
        simp [hr, hE.1]
      | some ir =>
        obtain ⟨i, rest⟩ := ir
        rw [h1] at hr
        simp only [DeserTie.reads] at hr
        simp only [h1, Option.map_eq_none_iff] at hd
        have hrest : rest.length ≤ f := by
          have := decode1_length h1
          simp only [List.length_cons] at this hlen
          omega
        cases he : E s (Gen.Deser.step n s b r) with
        | none => exact Or.inr rfl
        | some o =>
          cases o with
          | none => exact Or.inl rfl
          | some p =>
            obtain ⟨s', rest'⟩ := p
            have := hE.2 s s' _ rest rest' hr he
            subst this
            exact ih s' rest' hrest hd

/-! ## histories of a whole module: Γ phase, `into_claim_phase`, claim phase, `into_proof_phase`, proof phase -/

theorem trackAll_cons_of (n : Nat) (s s1 : PySt) (c : Call) (cs : List Call) (is1 : List Instr)
    (out : List Instr × List Instr × List Instr)
    (he : PySt.emit1 n s c = some (some is1)) (ht : PySt.track1 n s c = some (some s1)) :
    PySt.trackAll n s (c :: cs) out = PySt.trackAll n s1 cs (addOut s.phase out is1) := by
  obtain ⟨g, cl, pf⟩ := out
  simp only [PySt.trackAll, he, ht, Option.bind_eq_bind, Option.bind_some]
  cases s.phase <;> rfl

theorem trackAll_append_some (n : Nat) : ∀ (a b : List Call) (s : PySt) (out : List Instr × List Instr × List Instr)
    (r : PySt × (List Instr × List Instr × List Instr)),
    PySt.trackAll n s (a ++ b) out = some (some r) →
    ∃ s1 o1, PySt.trackAll n s a out = some (some (s1, o1)) ∧ PySt.trackAll n s1 b o1 = some (some r) := by
  intro a
  induction a with
  | nil => intro b s out r h; exact ⟨s, out, rfl, h⟩
  | cons c a ih =>
    intro b s out r h
    obtain ⟨is, s1, he, hs, h⟩ := trackAll_cons n s r.1 c (a ++ b) out r.2 h
    rw [trackAll_cons_of n s s1 c a is out he hs]
    exact ih b s1 _ r h

/-- a phase switch writes nothing -/
theorem trackAll_into (n : Nat) (c : Call) (hc : c = .intoClaim ∨ c = .intoProof) (b : List Call) (s : PySt)
    (out : List Instr × List Instr × List Instr) (r : PySt × (List Instr × List Instr × List Instr))
    (h : PySt.trackAll n s (c :: b) out = some (some r)) :
    ∃ s1, PySt.track1 n s c = some (some s1) ∧ PySt.trackAll n s1 b out = some (some r) := by
  obtain ⟨is, s1, he, hs, h⟩ := trackAll_cons n s r.1 c b out r.2 h
  obtain rfl : is = [] := by rcases hc with rfl | rfl <;> cases he <;> rfl
  refine ⟨s1, hs, ?_⟩
  cases hph : s.phase <;> simpa [hph, addOut] using h

theorem call_some {α β} {x : PyI.Py α} {f : α → PyI.Py β} {r : Option β} (h : PyI.call x f = some r) :
    x = some none ∧ r = none ∨ ∃ a, x = some (some a) ∧ f a = some r := by
  rcases x with _ | _ | a
  · simp [PyI.call] at h
  · simp only [PyI.call, Option.some.injEq] at h; exact Or.inl ⟨rfl, h.symm⟩
  · exact Or.inr ⟨a, rfl, h⟩

/-- `x`, if it answers at all (not "out of fuel"), answers a value, not an exception, and the value satisfies `P` -/
def Returns {α} (x : PyI.Py α) (P : α → Prop) : Prop := ∀ r, x = some r → ∃ a, r = some a ∧ P a

theorem Returns.call {α β} {x : PyI.Py α} {f : α → PyI.Py β} {P : α → Prop} {Q : β → Prop} (hx : Returns x P)
    (hf : ∀ a, x = some (some a) → P a → Returns (f a) Q) : Returns (PyI.call x f) Q := by
  intro r hr
  rcases call_some hr with ⟨h, _⟩ | ⟨a, h, hr⟩
  · obtain ⟨_, h', _⟩ := hx _ h
    cases h'
  · obtain ⟨_, h', hP⟩ := hx _ h
    cases h'
    exact hf a h hP r hr

theorem into_shape (n : Nat) (c : Call) (hc : c = .intoClaim ∨ c = .intoProof) (s s1 : PySt) (hSs : ShapeSt s)
    (hC : CanonTab s.symtab) (ht : PySt.track1 n s c = some (some s1)) : ShapeSt s1 ∧ CanonTab s1.symtab := by
  have hP := track1_pres n s s1 c hSs (by rcases hc with rfl | rfl <;> nofun) (by rcases hc with rfl | rfl <;> nofun) ht
  exact ⟨hP.1, track1_canon n s s1 c hC (by rcases hc with rfl | rfl <;> nofun) hP ht⟩

/-- a phase switch on two states equal up to notation -/
theorem into_congr (n k : Nat) (c : Call) (hc : c = .intoClaim ∨ c = .intoProof) (s t s1 : PySt)
    (hE : StEqG true s t) (hSs : ShapeSt s) (hSt : ShapeSt t) (ht : PySt.track1 n s c = some (some s1)) :
    Returns (PySt.track1 k t c) fun t1 => StEqG true s1 t1 ∧ ShapeSt t1 := by
  intro r hk
  have hload : ∀ a, c = .load a → a.body.Shape = true := by rcases hc with rfl | rfl <;> nofun
  obtain ⟨t1, rfl, hE1⟩ := track1_congrG true n k s t s1 c c r hE hSs hSt (Or.inl rfl) hload (fun h => by simp at h) ht hk
  exact ⟨t1, rfl, hE1, (track1_pres k t t1 c hSt hload (by rcases hc with rfl | rfl <;> nofun) hk).1⟩

theorem shapeSt_init (claims : List NPat) (h : ∀ q ∈ claims, q.Shape = true) : ShapeSt (PySt.init claims) :=
  ⟨fun e he => by simp [PySt.init] at he, fun e he => by simp [PySt.init] at he, h⟩

theorem canonTab_init (claims : List NPat) : CanonTab (PySt.init claims).symtab := rfl

/-- the three phases of a module's history are well formed in the states they are made in (`CallsOK`; in particular no phase
contains a phase switch) -/
def ModOK (n : Nat) (claims : List NPat) (gs cls pfs : List Call) : Prop :=
  CallsOK n (PySt.init claims) gs ∧
  ∀ s1 o1 s1', PySt.trackAll n (PySt.init claims) gs ([], [], []) = some (some (s1, o1)) →
    PySt.track1 n s1 .intoClaim = some (some s1') →
    CallsOK n s1' cls ∧
    ∀ s2 o2 s2', PySt.trackAll n s1' cls o1 = some (some (s2, o2)) → PySt.track1 n s2 .intoProof = some (some s2') →
      CallsOK n s2' pfs

open PyI in
/-- the three byte streams of a module fed phase by phase to `deserialize_instructions` as written (loop executor `E`), the
phase switches being `StatefulInterpreter.into_claim_phase` / `into_proof_phase` as written -/
def deserModWith (k : Nat) (E : PySt → Res → Option (Option (PySt × List Nat))) (t : PySt) (gb cb pb : List Nat) :
    Option (Option PySt) :=
  call (runWith k E gb.length t gb) fun t1 =>
  call (Gen.PyInterp.Stateful.into_claim_phase t1) fun t1' =>
  call (runWith k E cb.length t1' cb) fun t2 =>
  call (Gen.PyInterp.Stateful.into_proof_phase t2) fun t2' =>
  runWith k E pb.length t2' pb

/-- on the tracker (`Gen.Deser.deserialize` per phase) -/
def deserMod (k : Nat) (t : PySt) (gb cb pb : List Nat) : Option (Option PySt) := deserModWith k (exec k) t gb cb pb
/-- on the translated `StatefulInterpreter` (`deserializeI` per phase) -/
def deserModI (k : Nat) (t : PySt) (gb cb pb : List Nat) : Option (Option PySt) := deserModWith k (execI k) t gb cb pb

open PyI in
theorem deserMod_eq (k : Nat) (t : PySt) (gb cb pb : List Nat) :
    deserMod k t gb cb pb =
      call (Gen.Deser.deserialize k t gb) fun t1 =>
      call (Gen.PyInterp.Stateful.into_claim_phase t1) fun t1' =>
      call (Gen.Deser.deserialize k t1' cb) fun t2 =>
      call (Gen.PyInterp.Stateful.into_proof_phase t2) fun t2' =>
      Gen.Deser.deserialize k t2' pb := by
  simp only [deserMod, deserModWith, deserialize_eq_runWith]

/-- the history of a module, phase by phase: the three instruction lists are what the three phases emitted (`emitAll`), each
from a well-shaped state with a canonical symbol table -/
structure ModPhases (n : Nat) (claims : List NPat) (gs cls pfs : List Call) (s1 s1' s2 s2' s' : PySt)
    (g c p : List Instr) : Prop where
  okG : CallsOK n (PySt.init claims) gs
  emG : PySt.emitAll n (PySt.init claims) gs = some (some (s1, g))
  sh1 : ShapeSt s1 ∧ CanonTab s1.symtab
  toC : PySt.track1 n s1 .intoClaim = some (some s1')
  sh1' : ShapeSt s1' ∧ CanonTab s1'.symtab
  okC : CallsOK n s1' cls
  emC : PySt.emitAll n s1' cls = some (some (s2, c))
  sh2 : ShapeSt s2 ∧ CanonTab s2.symtab
  toP : PySt.track1 n s2 .intoProof = some (some s2')
  sh2' : ShapeSt s2' ∧ CanonTab s2'.symtab
  okP : CallsOK n s2' pfs
  emP : PySt.emitAll n s2' pfs = some (some (s', p))

theorem modPhases (n : Nat) (claims : List NPat) (gs cls pfs : List Call) (s' : PySt) (g c p : List Instr)
    (hclaims : ∀ q ∈ claims, q.Shape = true) (hok : ModOK n claims gs cls pfs)
    (hT : PySt.trackAll n (PySt.init claims) (gs ++ .intoClaim :: (cls ++ .intoProof :: pfs)) ([], [], [])
      = some (some (s', (g, c, p)))) :
    ∃ s1 s1' s2 s2', ModPhases n claims gs cls pfs s1 s1' s2 s2' s' g c p := by
  obtain ⟨s1, o1, hT1, hT⟩ := trackAll_append_some n gs _ _ _ _ hT
  obtain ⟨s1', hi1, hT⟩ := trackAll_into n .intoClaim (Or.inl rfl) _ s1 o1 _ hT
  obtain ⟨s2, o2, hT2, hT⟩ := trackAll_append_some n cls _ _ _ _ hT
  obtain ⟨s2', hi2, hT3⟩ := trackAll_into n .intoProof (Or.inr rfl) _ s2 o2 _ hT
  obtain ⟨hokg, hok⟩ := hok
  obtain ⟨hokc, hok⟩ := hok s1 o1 s1' hT1 hi1
  have hokp := hok s2 o2 s2' hT2 hi2
  have hS0 := shapeSt_init claims hclaims
  obtain ⟨isg, hemg, ho1⟩ := trackAll_emitAll n gs _ s1 _ o1 hS0 hokg hT1
  have h1 := emitAll_final n gs _ s1 isg hS0 (canonTab_init claims) hokg hemg
  have h1' := into_shape n .intoClaim (Or.inl rfl) s1 s1' h1.1 h1.2 hi1
  obtain ⟨isc, hemc, ho2⟩ := trackAll_emitAll n cls s1' s2 o1 o2 h1'.1 hokc hT2
  have h2 := emitAll_final n cls s1' s2 isc h1'.1 h1'.2 hokc hemc
  have h2' := into_shape n .intoProof (Or.inr rfl) s2 s2' h2.1 h2.2 hi2
  obtain ⟨isp, hemp, ho3⟩ := trackAll_emitAll n pfs s2' s' o2 (g, c, p) h2'.1 hokp hT3
  have hph1' : s1'.phase = .claim := by
    simp only [PySt.track1] at hi1; split at hi1 <;> cases hi1; rfl
  have hph2' : s2'.phase = .proof := by
    simp only [PySt.track1] at hi2; split at hi2 <;> cases hi2; rfl
  rw [hph1'] at ho2
  rw [hph2'] at ho3
  rw [ho1] at ho2
  rw [ho2] at ho3
  simp only [PySt.init, addOut, List.nil_append, Prod.mk.injEq] at ho3
  obtain ⟨rfl, rfl, rfl⟩ := ho3
  exact ⟨s1, s1', s2, s2', hokg, hemg, h1, hi1, h1', hokc, hemc, h2, hi2, h2', hokp, hemp⟩

/-- **round trip for a module, through the texts** (strong form) -/
theorem roundtrip_modG (n k : Nat) (E : PySt → Res → Option (Option (PySt × List Nat))) (hE : ExecSound k E)
    (claims : List NPat) (gs cls pfs : List Call) (s' : PySt) (g c p : List Instr)
    (hclaims : ∀ q ∈ claims, q.Shape = true)
    (hok : ModOK n claims gs cls pfs)
    (hkeys : ∀ x ∈ gs ++ cls ++ pfs, x.keysNodup = true)
    (hT : PySt.trackAll n (PySt.init claims) (gs ++ .intoClaim :: (cls ++ .intoProof :: pfs)) ([], [], [])
      = some (some (s', (g, c, p)))) :
    ∀ r, deserModWith k E (PySt.init claims) (encode g) (encode c) (encode p) = some r →
      ∃ t', r = some t' ∧ StEqG true s' t' ∧ ShapeSt t' := by
  obtain ⟨s1, s1', s2, s2', H⟩ := modPhases n claims gs cls pfs s' g c p hclaims hok hT
  have hS0 := shapeSt_init claims hclaims
  refine Returns.call (roundtrip_phaseE n k E hE gs _ _ s1 g (StEqG.refl true _) hS0 hS0 (canonTab_init claims) H.okG
    (fun x hx => hkeys x (by simp [hx])) H.emG) fun t1 _ h1 => ?_
  rw [InterpTie.into_claim_phase_tie k t1]
  refine Returns.call (into_congr n k .intoClaim (Or.inl rfl) s1 t1 s1' h1.1 H.sh1.1 h1.2 H.toC) fun t1' _ h1' => ?_
  refine Returns.call (roundtrip_phaseE n k E hE cls s1' t1' s2 c h1'.1 H.sh1'.1 h1'.2 H.sh1'.2 H.okC
    (fun x hx => hkeys x (by simp [hx])) H.emC) fun t2 _ h2 => ?_
  rw [InterpTie.into_proof_phase_tie k t2]
  refine Returns.call (into_congr n k .intoProof (Or.inr rfl) s2 t2 s2' h2.1 H.sh2.1 h2.2 H.toP) fun t2' _ h2' => ?_
  exact roundtrip_phaseE n k E hE pfs s2' t2' s' p h2'.1 H.sh2'.1 h2'.2 H.sh2'.2 H.okP
    (fun x hx => hkeys x (by simp [hx])) H.emP

/-! ## decidable forms of the hypotheses, for concrete histories -/

def callOKB (n : Nat) (s : PySt) : Call → Bool
  | .intoClaim => false
  | .intoProof => false
  | .symbol nm => decide (nm ≤ s.symtab.length)
  | .load a => a.body.Shape &&
      (match PySt.indexF n a s.memory 0 with
       | some (some i) => (match s.memory[i]? with | some u => patMeta u == patMeta a | none => true)
       | _ => true)
  | .metavar _ ef sf _ _ _ => ef.isEmpty && sf.isEmpty
  | _ => true

theorem callOKB_sound (n : Nat) (s : PySt) (c : Call) (h : callOKB n s c = true) : CallOK n s c := by
  refine ⟨?_, ?_, ?_, ?_, ?_⟩
  · rintro rfl; simp [callOKB] at h
  · rintro rfl; simp [callOKB] at h
  · rintro nm rfl; simpa [callOKB] using h
  · rintro a rfl
    simp only [callOKB, Bool.and_eq_true] at h
    refine ⟨h.1, fun i u hi hu => ?_⟩
    have h2 := h.2
    simp only [hi, hu, beq_iff_eq] at h2
    exact h2
  · rintro id ef sf ps ns hs rfl
    simpa [callOKB, List.isEmpty_iff] using h

def callsOKB (n : Nat) : PySt → List Call → Bool
  | _, [] => true
  | s, c :: cs => callOKB n s c && (match PySt.track1 n s c with | some (some s') => callsOKB n s' cs | _ => true)

theorem callsOKB_sound (n : Nat) : ∀ (cs : List Call) (s : PySt), callsOKB n s cs = true → CallsOK n s cs := by
  intro cs
  induction cs with
  | nil => intro s _; trivial
  | cons c cs ih =>
    intro s h
    simp only [callsOKB, Bool.and_eq_true] at h
    refine ⟨callOKB_sound n s c h.1, fun s' hs' => ?_⟩
    have h2 := h.2
    simp only [hs'] at h2
    exact ih s' h2

def modOKB (n : Nat) (claims : List NPat) (gs cls pfs : List Call) : Bool :=
  callsOKB n (PySt.init claims) gs &&
  (match PySt.trackAll n (PySt.init claims) gs ([], [], []) with
   | some (some (s1, o1)) =>
     (match PySt.track1 n s1 .intoClaim with
      | some (some s1') => callsOKB n s1' cls &&
        (match PySt.trackAll n s1' cls o1 with
         | some (some (s2, _)) =>
           (match PySt.track1 n s2 .intoProof with
            | some (some s2') => callsOKB n s2' pfs
            | _ => true)
         | _ => true)
      | _ => true)
   | _ => true)

theorem modOKB_sound (n : Nat) (claims : List NPat) (gs cls pfs : List Call) (h : modOKB n claims gs cls pfs = true) :
    ModOK n claims gs cls pfs := by
  simp only [modOKB, Bool.and_eq_true] at h
  refine ⟨callsOKB_sound n gs _ h.1, fun s1 o1 s1' h1 h1' => ?_⟩
  have h2 := h.2
  simp only [h1, h1', Bool.and_eq_true] at h2
  refine ⟨callsOKB_sound n cls _ h2.1, fun s2 o2 s2' h3 h3' => ?_⟩
  have h4 := h2.2
  simp only [h3, h3'] at h4
  exact callsOKB_sound n pfs _ h4

end EndToEnd
