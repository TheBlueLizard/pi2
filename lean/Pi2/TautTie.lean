import Pi2.Gen.PyTaut
import Pi2.TautThm
/-!
# The tautology prover as written is the model

`Pi2/Gen/PyTaut.lean` is regenerated on every run from `tautology.py` (`vlib/transtaut.py`: the normal-form classes and the
DATA SLICE of every stage, statement by statement).  This file proves the generated functions equal to the hand-written
model `Pi2/Taut.lean`, about which `Pi2/TautThm.lean` proves C09:

* `to_conj_form_spec`, `propag_neg_spec`, `to_clauses_spec`: at ANY fuel a stage either runs out of fuel (and then the fuel
  was less than the nesting depth) or answers as the model, raises included; hence `to_conj_form_eq`, `propag_neg_eq`,
  `to_clauses_eq` at fuel ≥ the nesting depth; `to_cnf_eq` at EVERY fuel (the model has the same fuel); `resolvable_eq`,
  `is_trivial_clause_eq`, `simplify_clause_eq`: equalities, raises included;
* the resolution loop: `for2_sound` / `for1_sound` / `resolution_algorithm_sound` (whatever the two nested loops as written
  answer, the model's index machine `Res.loop` answers: same pairs in the same order) and `loops_complete` /
  `resolution_algorithm_complete` (conversely, at every fuel ≥ the model's); `bpfh_ok`: the reconstruction of the proof
  from the hint hits none of its assertions (the hint bookkeeping is well founded: `WF`);
* `start_sound` / `start_complete`, `prove_tautology_sound` / `prove_tautology_complete`: the verdicts coincide, in both
  directions, up to fuel.
The model and the code DIFFER on clauses that contain the literal `0` (`trivial_zero_differs`); literals are `±(id + 1)`.
-/
set_option linter.unusedSimpArgs false
namespace TautTie
open Gen.PyTaut TautSup

theorem translated : Gen.PyTaut.translated = true := by decide

/-- the model's normal forms inside the generated class hierarchy (`CFVar.id` is a Python `int`; the model's ids are the
natural numbers, which is what `MetaVar.name` yields) -/
def ofCF : CF → ConjForm
  | .bot n => .CFBot n
  | .var n i => .CFVar n (i : Int)
  | .or n l r => .CFOr n (ofCF l) (ofCF r)
  | .and n l r => .CFAnd n (ofCF l) (ofCF r)

theorem ofCF_inj : ∀ a b : CF, ofCF a = ofCF b → a = b := by
  intro a
  induction a with
  | bot n => intro b h; cases b <;> simp_all [ofCF]
  | var n i =>
    intro b h; cases b <;> simp [ofCF] at h
    obtain ⟨h1, h2⟩ := h
    rw [h1, Int.ofNat_inj.mp h2]
  | or n l r ihl ihr =>
    intro b h; cases b <;> simp [ofCF] at h
    obtain ⟨h1, h2, h3⟩ := h
    rw [h1, ihl _ h2, ihr _ h3]
  | and n l r ihl ihr =>
    intro b h; cases b <;> simp [ofCF] at h
    obtain ⟨h1, h2, h3⟩ := h
    rw [h1, ihl _ h2, ihr _ h3]

@[simp] theorem negated_ofCF (c : CF) : ConjForm.negated (ofCF c) = c.negated := by cases c <;> rfl
@[simp] theorem set_negated_ofCF (c : CF) (b : Bool) : ConjForm.set_negated (ofCF c) b = ofCF (c.setNeg b) := by
  cases c <;> rfl
@[simp] theorem isCFBot_ofCF (c : CF) : ConjForm.isCFBot (ofCF c) = c.isBot := by cases c <;> rfl

/-! ## stage 1: `to_conj_form` -/

theorem pyIndex_zero {α} (a : α) (l : List α) : pyIndex (a :: l) 0 = some a := rfl
theorem pyIndex_one {α} (a b : α) (l : List α) : pyIndex (a :: b :: l) 1 = some b := rfl

/-- `to_conj_form` as written, at ANY recursion depth, either runs out of depth (and then the depth was less than the size
of the pattern) or computes `CF.ofForm`; the third component (the backward proof) is `None` exactly for the constants; it
never raises on a propositional pattern.  The function is unfolded once (`hA`); the case split follows the tests of the
code: first call exhausted / `isinstance(pat1_conj, CFBot)` / `pat1_conj.negated` / second call exhausted /
`isinstance(pat0_conj, CFBot)` / `pat0_conj.negated`. -/
theorem to_conj_form_spec : ∀ (n : Nat) (f : Form),
    to_conj_form n f = none ∧ n < f.size ∨
      to_conj_form n f = some (ofCF (CF.ofForm f), (), if (CF.ofForm f).isBot then none else some ())
  | 0, f => .inl ⟨rfl, by cases f <;> simp [Form.size]⟩
  | k + 1, .bot => .inr rfl
  | k + 1, .var i => .inr rfl
  | k + 1, .imp p0 p1 => by
    by_cases hb : p0 = .bot ∧ p1 = .bot
    · obtain ⟨rfl, rfl⟩ := hb; exact .inr rfl
    · have htop : (Form.imp p0 p1 == TautSup.top) = false := by
        simp only [TautSup.top, Form.top, beq_eq_false_iff_ne, ne_eq, Form.imp.injEq]; exact hb
      have hbot : (Form.imp p0 p1 == Form.bot) = false := rfl
      have ih0 := to_conj_form_spec k p0
      have ih1 := to_conj_form_spec k p1
      have hs : (Form.imp p0 p1).size = p0.size + p1.size + 1 := rfl
      rw [CF.ofForm_imp p0 p1 hb]
      generalize CF.ofForm p1 = c1 at ih1 ⊢
      generalize CF.ofForm p0 = c0 at ih0 ⊢
      generalize hA : to_conj_form (k + 1) (.imp p0 p1) = A
      simp only [to_conj_form, htop, hbot, TautSup.bot, isMetaVar, Implies_extract, pyIndex_zero, pyIndex_one,
        Option.bind_some, Option.pure_def, Option.bind_eq_bind, List.isEmpty_cons, Bool.not_false, Bool.false_eq_true,
        if_false, if_true] at hA
      rcases ih1 with ⟨e1, h1⟩ | e1
      · rw [e1] at hA; exact .inl ⟨hA.symm, by omega⟩
      · rw [e1] at hA
        simp only [Option.bind_some, isCFBot_ofCF, negated_ofCF] at hA
        cases hb1 : c1.isBot <;> simp only [hb1, Bool.false_eq_true, if_false, if_true] at hA ⊢
        · rcases ih0 with ⟨e0, h0⟩ | e0
          · rw [e0] at hA; exact .inl ⟨hA.symm, by omega⟩
          · rw [e0] at hA
            simp only [Option.bind_some, isCFBot_ofCF, negated_ofCF, set_negated_ofCF] at hA
            subst hA
            right
            cases hb0 : c0.isBot <;> cases hn0 : c0.negated <;>
              simp only [hb0, hb1, Bool.false_eq_true, if_false, if_true] <;> rfl
        · cases hn1 : c1.negated <;> simp only [hn1, Bool.false_eq_true, if_false, if_true] at hA ⊢
          · rcases ih0 with ⟨e0, h0⟩ | e0
            · rw [e0] at hA; exact .inl ⟨hA.symm, by omega⟩
            · rw [e0] at hA
              simp only [Option.bind_some, isCFBot_ofCF, negated_ofCF, set_negated_ofCF] at hA
              subst hA
              right
              cases hb0 : c0.isBot
              · cases hn0 : c0.negated <;>
                  simp only [hb0, CF.isBot_setNeg, Bool.false_eq_true, if_false, if_true] <;> rfl
              · obtain ⟨b0, rfl⟩ : ∃ b0, c0 = .bot b0 := ⟨_, CF.eq_bot_of_isBot c0 hb0⟩
                cases b0 <;> rfl
          · exact .inr hA.symm

theorem to_conj_form_eq (f : Form) : ∀ n, f.size ≤ n →
    to_conj_form n f = some (ofCF (CF.ofForm f), (), if (CF.ofForm f).isBot then none else some ()) :=
  fun n hn => (to_conj_form_spec n f).resolve_left fun h => by omega

/-! ## stage 2: `propag_neg` -/

/-- nesting depth of a normal form = the recursion depth the stages need -/
def depth : CF → Nat
  | .bot _ => 1
  | .var _ _ => 1
  | .or _ l r => max (depth l) (depth r) + 1
  | .and _ l r => max (depth l) (depth r) + 1

@[simp] theorem negated_CFOr (b l r) : ConjForm.negated (.CFOr b l r) = b := rfl
@[simp] theorem negated_CFAnd (b l r) : ConjForm.negated (.CFAnd b l r) = b := rfl
@[simp] theorem negated_CFBot (b) : ConjForm.negated (.CFBot b) = b := rfl
@[simp] theorem negated_CFVar (b i) : ConjForm.negated (.CFVar b i) = b := rfl

theorem setNeg_negated (c : CF) : c.setNeg c.negated = c := by cases c <;> rfl

theorem depth_pos (c : CF) : 0 < depth c := by cases c <;> simp [depth]

/-- two recursive calls in a row, each either out of depth or the model's answer, then a continuation that agrees with the
model's: the whole is out of depth or the model's answer -/
theorem seq_spec {α β γ δ : Type} {n dl dr : Nat} {tl tr : Option α} {ml mr : Option β} {enc : β → α} {enc' : δ → γ}
    {f : α → α → Option γ} {g : β → β → Option δ}
    (hl : tl = none ∧ n < dl ∨ tl = ml.map enc) (hr : tr = none ∧ n < dr ∨ tr = mr.map enc)
    (key : ∀ x y, ml = some x → mr = some y → f (enc x) (enc y) = (g x y).map enc') :
    (tl.bind fun a => tr.bind fun b => f a b) = none ∧ n + 1 < max dl dr + 1 ∨
      (tl.bind fun a => tr.bind fun b => f a b) = (ml.bind fun x => mr.bind fun y => g x y).map enc' := by
  rcases hl with ⟨rfl, h⟩ | rfl
  · exact .inl ⟨rfl, by omega⟩
  · cases ml with
    | none => exact .inr rfl
    | some x =>
      rcases hr with ⟨rfl, h⟩ | rfl
      · exact .inl ⟨rfl, by omega⟩
      · cases mr with
        | none => exact .inr rfl
        | some y => exact .inr (key x y rfl rfl)

/-- `propag_neg` as written, at ANY recursion depth, either runs out of depth or is `CF.propagNegAux`, raises included: the
in-place inversion `term.left.negated = not term.left.negated` before the recursive call is the `flip` argument of the
model -/
theorem propag_neg_spec : ∀ (n : Nat) (c : CF) (flip : Bool),
    propag_neg n (ofCF (c.setNeg (xor c.negated flip))) = none ∧ n < depth c ∨
      propag_neg n (ofCF (c.setNeg (xor c.negated flip))) = (CF.propagNegAux flip c).map fun r => (ofCF r, (), ())
  | 0, c, _ => .inl ⟨rfl, depth_pos c⟩
  | k + 1, .bot b, _ => .inr rfl
  | k + 1, .var b i, _ => .inr rfl
  | k + 1, .and b l r, _ => .inr rfl
  | k + 1, .or b l r, flip => by
    have ihl := propag_neg_spec k l
    have ihr := propag_neg_spec k r
    simp only [CF.propagNegAux, CF.negated, CF.setNeg, ofCF, depth]
    cases hx : xor b flip
    · simp only [propag_neg, ConjForm.isCFVar, ConjForm.isCFOr, ConjForm.left, ConjForm.right, negated_CFOr,
        Option.pure_def, Option.bind_eq_bind, Option.bind_some, Bool.false_eq_true, if_false, if_true]
      have hl := ihl false
      have hr := ihr false
      simp only [Bool.xor_false, setNeg_negated] at hl hr
      exact seq_spec hl hr fun x y _ _ => rfl
    · simp only [propag_neg, ConjForm.isCFVar, ConjForm.isCFOr, ConjForm.left, ConjForm.right, ConjForm.set_left,
        ConjForm.set_right, negated_CFOr, negated_ofCF, set_negated_ofCF, Option.pure_def, Option.bind_eq_bind,
        Option.bind_some, Bool.false_eq_true, if_false, if_true]
      have hl := ihl true
      have hr := ihr true
      simp only [Bool.xor_true] at hl hr
      exact seq_spec hl hr fun x y _ _ => rfl

theorem propag_neg_aux (c : CF) : ∀ (flip : Bool) (n : Nat), depth c ≤ n →
    propag_neg n (ofCF (c.setNeg (xor c.negated flip))) = (CF.propagNegAux flip c).map fun r => (ofCF r, (), ()) :=
  fun flip n hn => (propag_neg_spec n c flip).resolve_left fun h => by omega

/-- `propag_neg` as written is `CF.propagNeg`, raises included, at every fuel ≥ the depth of the term -/
theorem propag_neg_eq (c : CF) (n : Nat) (hn : depth c ≤ n) :
    propag_neg n (ofCF c) = (CF.propagNeg c).map fun r => (ofCF r, (), ()) := by
  have := propag_neg_aux c false n hn
  simpa [setNeg_negated, CF.propagNeg] using this

/-! ## stage 3: `to_cnf` -/

theorem bind_triple {α} (x : Option (α × Unit × Unit)) : (x.bind fun t => some (t.1, (), ())) = x := by
  cases x <;> rfl

/-- `to_cnf` as written is `CF.toCnfF`, at every fuel (same recursion, same fuel discipline): same result, same
`AssertionError`s, same exhaustion -/
theorem to_cnf_eq : ∀ (k : Nat) (c : CF), to_cnf k (ofCF c) = (CF.toCnfF k c).map fun r => (ofCF r, (), ())
  | 0, _ => rfl
  | k + 1, .bot b => rfl
  | k + 1, .var b i => rfl
  | k + 1, .and b l r => by
    simp only [to_cnf, CF.toCnfF, ofCF, ConjForm.isCFVar, ConjForm.isCFAnd, ConjForm.left, ConjForm.right,
      Option.pure_def, Option.bind_eq_bind, Option.bind_some, to_cnf_eq k l, to_cnf_eq k r]
    cases CF.toCnfF k l <;> cases CF.toCnfF k r <;> rfl
  | k + 1, .or b l r => by
    rw [CF.toCnfF_or]
    simp only [to_cnf, ofCF, ConjForm.isCFVar, ConjForm.isCFAnd, ConjForm.isCFOr, ConjForm.left, ConjForm.right,
      Option.pure_def, Option.bind_eq_bind, Option.bind_some, to_cnf_eq k l, to_cnf_eq k r]
    cases CF.toCnfF k l with
    | none => rfl
    | some l' =>
      cases CF.toCnfF k r with
      | none => rfl
      | some r' =>
        -- the distribution step: the recursive call on the distributed term is `to_cnf_eq k` read backwards
        simp only [Option.map_some, Option.bind_some]
        cases l' with
        | and bl ll lr =>
          simp only [ofCF, CF.distr, ← to_cnf_eq k, if_true, Bool.false_eq_true, if_false, Option.bind_some]
          exact bind_triple _
        | _ =>
          cases r' with
          | and br rl rr =>
            simp only [ofCF, CF.distr, ← to_cnf_eq k, if_true, Bool.false_eq_true, if_false, Option.bind_some]
            exact bind_triple _
          | _ => rfl

/-! ## stage 4: `to_clauses` -/

/-- what the model does not check but the code asserts (`assert l > 0`, twice): `to_clauses` never yields an empty
clause list nor an empty clause -/
theorem toClauses_nonempty (c : CF) : ∀ a, CF.toClauses c = some a → a ≠ [] ∧ ∀ x ∈ a, x ≠ [] := by
  induction c with
  | bot b => intro a h; cases h
  | var b i => intro a h; cases h; simp
  | and b l r ihl ihr =>
    intro a h
    simp only [CF.toClauses, Option.bind_eq_bind, Option.bind_eq_some_iff, Option.pure_def, Option.some.injEq] at h
    obtain ⟨x, hx, y, hy, rfl⟩ := h
    obtain ⟨h1, h2⟩ := ihl x hx
    obtain ⟨_, h4⟩ := ihr y hy
    exact ⟨fun e => h1 (List.append_eq_nil_iff.mp e).1, fun z hz => (List.mem_append.mp hz).elim (h2 z) (h4 z)⟩
  | or b l r ihl ihr =>
    intro a h
    simp only [CF.toClauses, Option.bind_eq_bind, Option.bind_eq_some_iff] at h
    obtain ⟨x, hx, y, hy, h⟩ := h
    match x, y, h with
    | [x1], [y1], h =>
      cases h
      have := (ihl _ hx).2 x1 (.head _)
      simp [this]
    | [], _, h => cases h
    | _ :: _ :: _, _, h => cases h
    | [_], [], h => cases h
    | [_], _ :: _ :: _, h => cases h
theorem pyLen_pos {α} (x : List α) : decide (pyLen x > 0) = !x.isEmpty := by
  cases x <;> simp [pyLen]

theorem pyLen_beq_one {α} (x : List α) : (pyLen x == (1 : Int)) = (x.length == 1) := by
  cases x with
  | nil => rfl
  | cons a t => cases t <;> simp [pyLen] <;> omega

/-- `to_clauses` as written, at ANY recursion depth, either runs out of depth or is `CF.toClauses`, raises included -/
theorem to_clauses_spec : ∀ (n : Nat) (c : CF),
    to_clauses n (ofCF c) = none ∧ n < depth c ∨
      to_clauses n (ofCF c) = (CF.toClauses c).map fun r => (r, (), ())
  | 0, c => .inl ⟨rfl, depth_pos c⟩
  | k + 1, .bot b => .inr rfl
  | k + 1, .var b i => .inr (by cases b <;> rfl)
  | k + 1, .and b l r => by
    simp only [to_clauses, CF.toClauses, depth, ofCF, ConjForm.isCFVar, ConjForm.isCFAnd, ConjForm.left, ConjForm.right,
      Option.pure_def, Option.bind_eq_bind, Option.bind_some, pyLen_pos, Bool.false_eq_true, if_false, if_true]
    refine seq_spec (to_clauses_spec k l) (to_clauses_spec k r) fun x y hx hy => ?_
    obtain ⟨x1, xs, rfl⟩ := List.exists_cons_of_ne_nil (toClauses_nonempty l x hx).1
    rfl
  | k + 1, .or b l r => by
    simp only [to_clauses, CF.toClauses, depth, ofCF, ConjForm.isCFVar, ConjForm.isCFAnd, ConjForm.isCFOr, ConjForm.left,
      ConjForm.right, Option.pure_def, Option.bind_eq_bind, Option.bind_some, pyLen_pos, pyLen_beq_one, Bool.false_eq_true,
      if_false, if_true]
    refine seq_spec (to_clauses_spec k l) (to_clauses_spec k r) fun x y hx hy => ?_
    have h2 := (toClauses_nonempty l x hx).2
    match x, y, h2 with
    | [x1], [y1], h2 =>
      obtain ⟨a, as, rfl⟩ := List.exists_cons_of_ne_nil (h2 x1 (.head _))
      rfl
    | [], _, _ => rfl
    | _ :: _ :: _, _, _ => rfl
    | [_], [], _ => rfl
    | [_], _ :: _ :: _, _ => rfl

theorem to_clauses_eq (c : CF) : ∀ n, depth c ≤ n →
    to_clauses n (ofCF c) = (CF.toClauses c).map fun r => (r, (), ()) :=
  fun n hn => (to_clauses_spec n c).resolve_left fun h => by omega

/-! ## the clause helpers -/

theorem canon_singleton (x : Int) : Res.canon [x] = [x] := by simp [Res.canon, Res.insertSorted]

theorem contains_canon (c : List Int) (y : Int) : (Res.canon c).contains y = c.contains y := by
  rw [Bool.eq_iff_iff]; simp [Res.mem_canon]

/-- `resolvable` as written is `Res.resolvable` (on all lists; it never raises) -/
theorem resolvable_eq (c1 c2 : List Int) : resolvable c1 c2 = some (Res.resolvable c1 c2) := by
  have hf : (fsInter (fsOfList (List.map (fun x => -x) (fsToList c1))) c2) = c2.filter (fun y => c1.contains (-y)) := by
    simp only [fsInter, fsOfList, fsToList]
    apply List.filter_congr
    intro y _
    rw [contains_canon, Bool.eq_iff_iff]
    simp only [List.contains_iff_mem, List.mem_map]
    constructor
    · rintro ⟨x, hx, rfl⟩; simpa using hx
    · intro h; exact ⟨-y, h, by simp⟩
  simp only [resolvable, Res.resolvable, hf]
  match h : c2.filter (fun y => c1.contains (-y)) with
  | [] => simp [fsLen]
  | [r] =>
    have e1 : c1.filter (fun x => !([-r] : List Int).contains x) = c1.filter (fun x => decide (x ≠ -r)) := by
      apply List.filter_congr; intro x _; simp
    have e2 : c2.filter (fun x => !([r] : List Int).contains x) = c2.filter (fun x => decide (x ≠ r)) := by
      apply List.filter_congr; intro x _; simp
    simp [fsLen, pyUnpack1, fsToList, fsDiff, fsUnion, fsOfList, canon_singleton, e1, e2]
  | a :: b :: t => simp [fsLen]; omega

/-! `is_trivial_clause`: the loop over `combinations(list(cl), 2)` -/

theorem is_trivial_clause_for1_eq (ps : List (Int × Int)) :
    is_trivial_clause_for1 ps = some (cond (ps.any (fun p => p.1 + p.2 == 0)) (Ctl.ret true) (Ctl.go ())) := by
  induction ps with
  | nil => simp [is_trivial_clause_for1]
  | cons p ps ih =>
    obtain ⟨x1, x2⟩ := p
    by_cases h : x1 + x2 = 0
    · have hb : (x1 + x2 == 0) = true := by simpa using h
      simp only [is_trivial_clause_for1, List.any_cons, hb, Bool.true_or]
      simp
    · have hb : (x1 + x2 == 0) = false := by simpa using h
      simp only [is_trivial_clause_for1, List.any_cons, hb, Bool.false_or, ih]
      simp

theorem mem_comb2 {α} (l : List α) (a b : α) : (a, b) ∈ pyCombinations2 l → a ∈ l ∧ b ∈ l := by
  induction l with
  | nil => simp [pyCombinations2]
  | cons x xs ih =>
    simp only [pyCombinations2, List.mem_append, List.mem_map, List.mem_cons]
    rintro (⟨y, hy, h⟩ | h)
    · cases h; exact ⟨Or.inl rfl, Or.inr hy⟩
    · have := ih h; exact ⟨Or.inr this.1, Or.inr this.2⟩

theorem comb2_of_mem {α} (l : List α) (a b : α) (ha : a ∈ l) (hb : b ∈ l) (hab : a ≠ b) :
    (a, b) ∈ pyCombinations2 l ∨ (b, a) ∈ pyCombinations2 l := by
  induction l with
  | nil => simp at ha
  | cons x xs ih =>
    simp only [pyCombinations2, List.mem_append, List.mem_map, List.mem_cons] at ha hb ⊢
    rcases ha with rfl | ha <;> rcases hb with rfl | hb
    · exact absurd rfl hab
    · exact Or.inl (Or.inl ⟨b, hb, rfl⟩)
    · exact Or.inr (Or.inl ⟨a, ha, rfl⟩)
    · rcases ih ha hb with h | h
      · exact Or.inl (Or.inr h)
      · exact Or.inr (Or.inr h)

/-- `is_trivial_clause` as written is `Res.trivial` on clauses without the literal `0` (the literal `0` does not occur:
literals are `±(id + 1)`); it never raises.  With the literal `0` the two DIFFER: `Res.trivial [0] = true`, the code
answers `False` (see `trivial_zero_differs`) -/
theorem is_trivial_clause_eq (c : List Int) (hz : Res.NoZero c) : is_trivial_clause c = some (Res.trivial c) := by
  simp only [is_trivial_clause, fsToList, is_trivial_clause_for1_eq, Option.pure_def, Option.bind_eq_bind, Option.bind_some]
  have : (pyCombinations2 c).any (fun p => p.1 + p.2 == 0) = Res.trivial c := by
    rw [Bool.eq_iff_iff, Res.trivial_iff]
    simp only [List.any_eq_true, beq_iff_eq]
    constructor
    · rintro ⟨⟨a, b⟩, hm, h⟩
      have := mem_comb2 c a b hm
      refine ⟨a, this.1, ?_⟩
      have : -a = b := by simp at h; omega
      rw [this]; exact ‹a ∈ c ∧ b ∈ c›.2
    · rintro ⟨x, hx, hnx⟩
      have hne : x ≠ -x := by
        have := hz x hx; omega
      rcases comb2_of_mem c x (-x) hx hnx hne with h | h
      · exact ⟨(x, -x), h, by show x + -x = 0; omega⟩
      · exact ⟨(-x, x), h, by show -x + x = 0; omega⟩
  rw [this]
  cases Res.trivial c <;> simp

theorem trivial_zero_differs : is_trivial_clause [0] = some false ∧ Res.trivial [0] = true := by decide

/-! ## `dict`: the keys of the hint are the work list -/

abbrev Hint := PyDict FrozenSet (Sum ResolutionHintSource Int)

theorem dictHas_keys (d : Hint) (k : FrozenSet) : dictHas d k = (dictKeys d).contains k := by
  induction d with
  | nil => simp [dictHas, dictKeys]
  | cons p d ih =>
    obtain ⟨k', v⟩ := p
    simp only [dictHas, dictKeys, List.lookup, List.map_cons, List.contains_cons] at ih ⊢
    by_cases h : k = k'
    · subst h; simp
    · have : (k == k') = false := by simpa using h
      simp [this, ih]

theorem dictKeys_set (d : Hint) (k : FrozenSet) (v) :
    dictKeys (dictSet d k v) = if (dictKeys d).contains k then dictKeys d else dictKeys d ++ [k] := by
  induction d with
  | nil => simp [dictSet, dictKeys]
  | cons p d ih =>
    obtain ⟨k', v'⟩ := p
    by_cases h : k' = k
    · subst h; simp [dictSet, dictKeys]
    · have h1 : (k' == k) = false := by simpa using h
      have h2 : (k == k') = false := by simpa using fun e => h e.symm
      have e : dictSet ((k', v') :: d) k v = (k', v') :: dictSet d k v := by simp [dictSet, h1]
      have hk : dictKeys ((k', v') :: d) = k' :: dictKeys d := rfl
      have hk2 : dictKeys ((k', v') :: dictSet d k v) = k' :: dictKeys (dictSet d k v) := rfl
      rw [e, hk, hk2, ih, List.contains_cons, h2, Bool.false_or]
      split <;> simp

/-- the `for index, cl_set in enumerate(resolution_list)` loop of `start_resolution_algorithm`: the keys of the hint
it builds are the fold of `Res.initial` -/
theorem start_for1_keys (xs : List (List Int)) (hz : ∀ c ∈ xs, Res.NoZero c) : ∀ (k : Int) (hint : Hint),
    ∃ hint', start_resolution_algorithm_for1 (pyEnumerateFrom k xs) hint = some hint' ∧
      dictKeys hint' = xs.foldl (fun acc c => if Res.trivial c || acc.contains c then acc else acc ++ [c]) (dictKeys hint) := by
  induction xs with
  | nil => intro k hint; exact ⟨hint, by simp [pyEnumerateFrom, start_resolution_algorithm_for1], rfl⟩
  | cons c xs ih =>
    intro k hint
    have hc := hz c (by simp)
    have hxs : ∀ c ∈ xs, Res.NoZero c := fun c h => hz c (by simp [h])
    simp only [pyEnumerateFrom, start_resolution_algorithm_for1, is_trivial_clause_eq c hc, Option.pure_def,
      Option.bind_eq_bind, Option.bind_some, List.foldl_cons]
    cases ht : Res.trivial c with
    | true =>
      obtain ⟨h', e1, e2⟩ := ih hxs (k + 1) hint
      exact ⟨h', by simpa using e1, by simpa using e2⟩
    | false =>
      obtain ⟨h', e1, e2⟩ := ih hxs (k + 1) (dictSet hint c (Sum.inr k))
      refine ⟨h', by simpa using e1, ?_⟩
      rw [e2, dictKeys_set]
      simp

/-! ## the resolution loop -/

/-- one step of the model's index machine at a pair `j < i` -/
theorem loop_step (m : Nat) (l : List (List Int)) (i j : Nat) (cl1 cl2 : List Int) (hi : l[i]? = some cl1)
    (hji : j < i) (hj : l[j]? = some cl2) :
    Res.loop (m + 1) l i j =
      match Res.resolvable cl1 cl2 with
      | none => Res.loop m l i (j + 1)
      | some (_, res) =>
        if l.contains res then Res.loop m l i (j + 1)
        else if res.isEmpty then some true else Res.loop m (l ++ [res]) i (j + 1) := by
  have : ¬ j ≥ i := by omega
  cases hr : Res.resolvable cl1 cl2 <;> simp [Res.loop, hi, hj, this, hr]

/-- the model at the diagonal: the inner loop is over -/
theorem loop_diag (m : Nat) (l : List (List Int)) (i : Nat) (cl1 : List Int) (hi : l[i]? = some cl1) :
    Res.loop (m + 1) l i i = Res.loop m l (i + 1) 0 := by
  simp [Res.loop, hi]

theorem nodup_snoc {α} [BEq α] [LawfulBEq α] {l : List α} {x : α} (hnd : l.Nodup) (h : l.contains x = false) :
    (l ++ [x]).Nodup := by
  have hx : x ∉ l := fun hm => by rw [List.contains_iff_mem.mpr hm] at h; cases h
  refine List.nodup_append.mpr ⟨hnd, by simp, fun a ha b hb e => hx ?_⟩
  cases List.mem_singleton.mp hb; exact e ▸ ha

/-- the inner loop as written at the diagonal: `break` -/
theorem for2_diag (cl1 : FrozenSet) (G j : Nat) (hint : Hint) (l : List FrozenSet) (hj : l[j]? = some cl1) :
    resolution_algorithm_for2 cl1 (G + 1) j hint l = some (.go (hint, l)) := by
  simp [resolution_algorithm_for2, hj]

/-- one iteration of the inner loop as written at a pair of different clauses, the keys of `hint` being `l`; the assignments
before `hint[res_set] = ..` only orient the hint source -/
theorem for2_step (cl1 cl2 : FrozenSet) (G j : Nat) (hint : Hint) (l : List FrozenSet) (hj : l[j]? = some cl2)
    (hc : cl2 ≠ cl1) (hk : dictKeys hint = l) :
    resolution_algorithm_for2 cl1 (G + 1) j hint l =
      match Res.resolvable cl1 cl2 with
      | none => resolution_algorithm_for2 cl1 G (j + 1) hint l
      | some (r, res) =>
        if l.contains res then resolution_algorithm_for2 cl1 G (j + 1) hint l
        else
          let v : Sum ResolutionHintSource Int :=
            if r < 0 then .inl (ResolutionHintSource_new cl2 cl1 (-r)) else .inl (ResolutionHintSource_new cl1 cl2 r)
          if res.isEmpty then some (.ret (true, dictSet hint res v, l))
          else resolution_algorithm_for2 cl1 G (j + 1) (dictSet hint res v) (l ++ [res]) := by
  have hbeq : (cl2 == cl1) = false := by simpa using hc
  have hd : dictHas hint = l.contains := by funext k; rw [dictHas_keys, hk]
  simp only [resolution_algorithm_for2, hj, hbeq, resolvable_eq, Option.pure_def, Option.bind_eq_bind,
    Option.bind_some, hd]
  cases hr : Res.resolvable cl1 cl2 with
  | none => rfl
  | some p =>
    obtain ⟨r, res⟩ := p
    by_cases hcon : res ∈ l
    · simp [hcon]
    · by_cases hr0 : r < 0 <;> cases res <;> simp [hcon, hr0, fsTruthy]

/-- the model's machine started at `(l, i, j)` comes, after some steps, to where it answers `t m` with `m` units of fuel left -/
def Leads (l : List (List Int)) (i j : Nat) (t : Nat → Option Bool) : Prop := ∃ n, ∀ m, Res.loop (n + m) l i j = t m

theorem Leads.now {l i j t} (hs : ∀ m, Res.loop (m + 1) l i j = t m) : Leads l i j t :=
  ⟨1, fun m => by rw [Nat.add_comm]; exact hs m⟩

theorem Leads.trans {l i j l' i' j' t} (h1 : Leads l i j fun m => Res.loop m l' i' j') (h2 : Leads l' i' j' t) :
    Leads l i j t := by
  obtain ⟨n, hn⟩ := h1
  obtain ⟨n', hn'⟩ := h2
  exact ⟨n + n', fun m => by rw [Nat.add_assoc, hn]; exact hn' m⟩

/-- what the inner loop started at `(i, j)` promises about its outcome -/
def Post2 (l : List FrozenSet) (i j : Nat) (cl1 : FrozenSet) :
    Ctl (Bool × Hint × List FrozenSet) (Hint × List FrozenSet) → Prop
  | .ret r => r.1 = true ∧ Leads l i j fun _ => some true
  | .go (h', l') => dictKeys h' = l' ∧ l'.Nodup ∧ l'[i]? = some cl1 ∧ Leads l i j fun m => Res.loop m l' (i + 1) 0

/-- one more step of the model in front -/
theorem Post2.step {l l1 : List FrozenSet} {i j : Nat} {cl1 : FrozenSet} {out}
    (hs : ∀ m, Res.loop (m + 1) l i j = Res.loop m l1 i (j + 1)) (hp : Post2 l1 i (j + 1) cl1 out) :
    Post2 l i j cl1 out :=
  match out, hp with
  | .ret _, ⟨h1, h2⟩ => ⟨h1, (Leads.now hs).trans h2⟩
  | .go (_, _), ⟨h1, h2, h3, h4⟩ => ⟨h1, h2, h3, (Leads.now hs).trans h4⟩

/-- the INNER loop as written (`for cl2 in l` with its `break`, `continue`, `return True`, `l.append`), started at index `j`
of the list iterator, follows the model's machine from `(i, j)`: either it returns `True` and so does the model, or it
ends with the state from which the model goes on at `(i + 1, 0)`.  Invariants: the keys of `hint` are `l` (so
`res_set in hint` is `l.contains res`), `l` has no repetitions (so `cl2 == cl1` happens exactly at `j = i`). -/
theorem for2_sound : ∀ (F : Nat) (hint : Hint) (l : List FrozenSet) (i j : Nat) (cl1 : FrozenSet)
    (out : Ctl (Bool × Hint × List FrozenSet) (Hint × List FrozenSet)),
    dictKeys hint = l → l.Nodup → l[i]? = some cl1 → j ≤ i →
    resolution_algorithm_for2 cl1 F j hint l = some out → Post2 l i j cl1 out := by
  intro F
  induction F with
  | zero => intro _ _ _ _ _ _ _ _ _ _ h; cases h
  | succ F ih =>
    intro hint l i j cl1 out hk hnd hi hji h
    have hil : i < l.length := (List.getElem?_eq_some_iff.mp hi).1
    have hjl : j < l.length := by omega
    have hj : l[j]? = some l[j] := List.getElem?_eq_getElem hjl
    by_cases hij : j = i
    · -- `break`
      subst hij
      rw [for2_diag cl1 F j hint l hi] at h
      cases h
      exact ⟨hk, hnd, hi, .now fun m => loop_diag m l j cl1 hi⟩
    · have hlt : j < i := by omega
      have hc : l[j] ≠ cl1 := fun e => hij ((List.getElem?_inj hjl hnd).mp ((e ▸ hj).trans hi.symm))
      rw [for2_step cl1 _ F j hint l hj hc hk] at h
      have step := fun m => loop_step m l i j cl1 _ hi hlt hj
      generalize l[j] = cl2 at h step
      cases hr : Res.resolvable cl1 cl2 with
      | none =>
        simp only [hr] at h step
        exact (ih hint l i (j + 1) cl1 out hk hnd hi hlt h).step step
      | some p =>
        obtain ⟨r, res⟩ := p
        simp only [hr] at h step
        generalize (if r < 0 then Sum.inl (ResolutionHintSource_new cl2 cl1 (-r))
          else Sum.inl (ResolutionHintSource_new cl1 cl2 r) : Sum ResolutionHintSource Int) = v at h
        cases hcon : l.contains res with
        | true =>
          simp only [hcon, if_true] at h step
          exact (ih hint l i (j + 1) cl1 out hk hnd hi hlt h).step step
        | false =>
          simp only [hcon, Bool.false_eq_true, if_false] at h step
          cases he : res.isEmpty with
          | true =>
            simp only [he, if_true] at h step
            cases h
            exact ⟨rfl, .now step⟩
          | false =>
            simp only [he, Bool.false_eq_true, if_false] at h step
            have hk' : dictKeys (dictSet hint res v) = l ++ [res] := by rw [dictKeys_set, hk, hcon]; rfl
            have hi' : (l ++ [res])[i]? = some cl1 := by rw [List.getElem?_append_left hil]; exact hi
            exact (ih _ _ i (j + 1) cl1 out hk' (nodup_snoc hnd hcon) hi' hlt h).step step

theorem for1_end (G i : Nat) (hint : Hint) (l : List FrozenSet) (hi : l[i]? = none) :
    resolution_algorithm_for1 (G + 1) i hint l = some (.go (hint, l)) := by
  simp [resolution_algorithm_for1, hi]

theorem for1_step (G i : Nat) (hint : Hint) (l : List FrozenSet) (cl1 : FrozenSet) (hi : l[i]? = some cl1) :
    resolution_algorithm_for1 (G + 1) i hint l =
      (resolution_algorithm_for2 cl1 G 0 hint l).bind fun
        | .ret r => some (.ret r)
        | .go (hint, l) => resolution_algorithm_for1 G (i + 1) hint l := by
  simp only [resolution_algorithm_for1, hi, Option.pure_def, Option.bind_eq_bind]
  rcases resolution_algorithm_for2 cl1 G 0 hint l with _ | r | ⟨h, l⟩ <;> rfl

/-- the OUTER loop as written, started at index `i` of the list iterator: if it returns `True` the model's machine
started at `(i, 0)` answers `some true`, if it ends the model answers `some false` -/
theorem for1_sound : ∀ (F : Nat) (hint : Hint) (l : List FrozenSet) (i : Nat)
    (out : Ctl (Bool × Hint × List FrozenSet) (Hint × List FrozenSet)),
    dictKeys hint = l → l.Nodup → resolution_algorithm_for1 F i hint l = some out →
    match out with
    | .ret r => r.1 = true ∧ Leads l i 0 fun _ => some true
    | .go _ => Leads l i 0 fun _ => some false := by
  intro F
  induction F with
  | zero => intro _ _ _ _ _ _ h; cases h
  | succ F ih =>
    intro hint l i out hk hnd h
    cases hi : l[i]? with
    | none =>
      rw [for1_end F i hint l hi] at h
      cases h
      exact .now fun m => by simp [Res.loop, hi]
    | some cl1 =>
      rw [for1_step F i hint l cl1 hi] at h
      cases h2 : resolution_algorithm_for2 cl1 F 0 hint l with
      | none => rw [h2] at h; cases h
      | some o2 =>
        have p2 := for2_sound F hint l i 0 cl1 o2 hk hnd hi (Nat.zero_le _) h2
        rw [h2] at h
        match o2, p2, h with
        | .ret r, p2, h => cases h; exact p2
        | .go (h', l'), ⟨hk', hnd', _, hl⟩, h =>
          have := ih h' l' (i + 1) out hk' hnd' h
          match out, this with
          | .ret r, ⟨h1, h2⟩ => exact ⟨h1, hl.trans h2⟩
          | .go _, h2 => exact hl.trans h2

/-- `resolution_algorithm` as written (both loops): whatever it answers, the model's machine answers with enough fuel -/
theorem resolution_algorithm_sound (F : Nat) (hint : Hint) (l : List FrozenSet) (b : Bool) (h' : Hint) (l' : List FrozenSet)
    (hk : dictKeys hint = l) (hnd : l.Nodup) (h : resolution_algorithm F hint l = some (b, h', l')) :
    ∃ n, ∀ m, Res.loop (n + m) l 0 0 = some b := by
  simp only [resolution_algorithm, Option.pure_def, Option.bind_eq_bind] at h
  cases h1 : resolution_algorithm_for1 F 0 hint l with
  | none => rw [h1] at h; cases h
  | some o =>
    have p1 := for1_sound F hint l 0 o hk hnd h1
    rw [h1] at h
    match o, p1, h with
    | .ret r, ⟨hr, hl⟩, h => cases h; cases (hr : b = true); exact hl
    | .go (_, _), hl, h => cases h; exact hl

theorem initial_fold_nodup (xs : List (List Int)) : ∀ acc : List (List Int), acc.Nodup →
    (xs.foldl (fun acc c => if Res.trivial c || acc.contains c then acc else acc ++ [c]) acc).Nodup := by
  induction xs with
  | nil => intro acc h; exact h
  | cons c xs ih =>
    intro acc h
    simp only [List.foldl_cons]
    apply ih
    split
    · exact h
    · rename_i hc
      simp only [Bool.or_eq_true, not_or, Bool.not_eq_true] at hc
      exact nodup_snoc h hc.2

theorem initial_nodup (cls : List (List Int)) : (Res.initial cls).Nodup :=
  initial_fold_nodup _ [] List.nodup_nil

/-! ## the reconstruction of the proof from the hint (`build_proof_from_hint`, `simplify_clause`): it never raises -/

theorem sorted_ext (a b : List Int) (ha : a.Pairwise (· < ·)) (hb : b.Pairwise (· < ·)) (h : ∀ x, x ∈ a ↔ x ∈ b) :
    a = b :=
  ((List.perm_ext_iff_of_nodup (ha.imp Int.ne_of_lt) (hb.imp Int.ne_of_lt)).mpr h).eq_of_pairwise
    (fun _ _ _ _ h1 h2 => absurd h1 (Int.lt_asymm h2)) ha hb

theorem canon_ext (a b : List Int) (h : ∀ x, x ∈ a ↔ x ∈ b) : Res.canon a = Res.canon b :=
  sorted_ext _ _ (Res.canon_sorted a) (Res.canon_sorted b) (fun x => by rw [Res.mem_canon, Res.mem_canon]; exact h x)

/-- the loop of `simplify_clause` over the indices of `cl = pre ++ suf`, from index `pre.length` on -/
theorem simplify_clause_for1_spec (x : Int) : ∀ (suf pre pos str : List Int),
    ∃ ps, simplify_clause_for1 (pre ++ suf) x ((List.range' pre.length suf.length).map fun (k : Nat) => (k : Int)) pos str =
        some (pos ++ ps, str ++ suf.filter (· != x)) ∧ (ps = [] ↔ suf.all (· != x) = true) := by
  intro suf
  induction suf with
  | nil => intro pre pos str; exact ⟨[], by simp [simplify_clause_for1], by simp⟩
  | cons a suf ih =>
    intro pre pos str
    have hidx : pyIndex (pre ++ a :: suf) (pre.length : Int) = some a := by
      simp [pyIndex]
    have hcl : pre ++ a :: suf = (pre ++ [a]) ++ suf := by simp
    have hlen : (pre ++ [a]).length = pre.length + 1 := by simp
    simp only [List.length_cons, List.range'_succ, List.map_cons, simplify_clause_for1, hidx, Option.pure_def,
      Option.bind_eq_bind, Option.bind_some]
    by_cases hax : a = x
    · subst hax
      obtain ⟨ps, e, _⟩ := ih (pre ++ [a]) (pos ++ [(pre.length : Int)]) str
      rw [hlen, ← hcl] at e
      refine ⟨(pre.length : Int) :: ps, ?_, by simp⟩
      simp [e]
    · have hb : (a == x) = false := by simpa using hax
      obtain ⟨ps, e, hps⟩ := ih (pre ++ [a]) pos (str ++ [a])
      rw [hlen, ← hcl] at e
      refine ⟨ps, ?_, ?_⟩
      · simp [hb, e, hax]
      · rw [hps]; simp [hax]

/-- `simplify_clause` as written: the occurrences of `resolvent` are moved to the front and merged into one -/
theorem simplify_clause_eq (cl : List Int) (x : Int) :
    simplify_clause cl x = some (if cl.all (· != x) then cl else x :: cl.filter (· != x), ()) := by
  obtain ⟨ps, e, hps⟩ := simplify_clause_for1_spec x cl [] [] []
  have hr : pyRange (pyLen cl) = (List.range' 0 cl.length).map fun (k : Nat) => (k : Int) := by
    simp [pyRange, pyLen, List.range_eq_range']
  simp only [List.nil_append, List.length_nil] at e
  simp only [simplify_clause, hr, e, Option.pure_def, Option.bind_eq_bind, Option.bind_some]
  by_cases hall : cl.all (· != x) = true
  · have : ps = [] := hps.mpr hall
    subst this
    simp [hall]
  · have : ps ≠ [] := fun h => hall (hps.mp h)
    have hne : ps.isEmpty = false := by cases ps <;> simp_all
    simp [hall, hne]

/-- an entry of the hint is justified: an index into the clause list whose clause set is the key, or two EARLIER keys that
clash on the recorded resolvant and whose resolvent is the key -/
def EntryOK (terms : List (List Int)) (pre : List FrozenSet) (k : FrozenSet) : Sum ResolutionHintSource Int → Prop
  | .inr idx => ∃ t, pyIndex terms idx = some t ∧ Res.canon t = k
  | .inl s => s.left_set ∈ pre ∧ s.right_set ∈ pre ∧ -s.resolvant ∈ s.left_set ∧ s.resolvant ∈ s.right_set ∧
      Res.canon (s.left_set.filter (· != -s.resolvant) ++ s.right_set.filter (· != s.resolvant)) = k

/-- the hint bookkeeping is well founded -/
def WF (terms : List (List Int)) (hint : Hint) : Prop :=
  ∀ (p : Nat) (hp : p < hint.length), EntryOK terms ((dictKeys hint).take p) hint[p].1 hint[p].2

theorem dictSet_new (d : Hint) (k : FrozenSet) (v) (h : (dictKeys d).contains k = false) : dictSet d k v = d ++ [(k, v)] := by
  induction d with
  | nil => rfl
  | cons p d ih =>
    obtain ⟨k', v'⟩ := p
    simp only [dictKeys, List.map_cons, List.contains_cons, Bool.or_eq_false_iff] at h
    have h1 : (k' == k) = false := by
      have := h.1
      simp only [beq_eq_false_iff_ne, ne_eq] at this ⊢
      exact fun e => this e.symm
    simp only [dictSet, h1, Bool.false_eq_true, if_false, List.cons_append]
    rw [ih h.2]

theorem WF_append (terms : List (List Int)) (hint : Hint) (k : FrozenSet) (v) (hw : WF terms hint)
    (he : EntryOK terms (dictKeys hint) k v) : WF terms (hint ++ [(k, v)]) := by
  intro p hp
  simp only [List.length_append, List.length_singleton] at hp
  by_cases hlt : p < hint.length
  · have e1 : (hint ++ [(k, v)])[p] = hint[p] := List.getElem_append_left hlt
    have e2 : (dictKeys (hint ++ [(k, v)])).take p = (dictKeys hint).take p := by
      simp only [dictKeys, List.map_append]
      rw [List.take_append_of_le_length (by rw [List.length_map]; omega)]
    rw [e1, e2]
    exact hw p hlt
  · have hpe : p = hint.length := by omega
    subst hpe
    have e1 : (hint ++ [(k, v)])[hint.length] = (k, v) := by simp
    have e2 : (dictKeys (hint ++ [(k, v)])).take hint.length = dictKeys hint := by
      simp only [dictKeys, List.map_append]
      rw [List.take_append_of_le_length (by rw [List.length_map]; exact Nat.le_refl _)]
      rw [← List.length_map (f := fun x : FrozenSet × Sum ResolutionHintSource Int => x.1), List.take_length]
    rw [e1, e2]
    exact he

theorem lookup_getElem (d : Hint) (hnd : (dictKeys d).Nodup) (p : Nat) (hp : p < d.length) :
    dictGet d d[p].1 = some d[p].2 := by
  induction d generalizing p with
  | nil => simp at hp
  | cons e d ih =>
    obtain ⟨k', v'⟩ := e
    simp only [dictKeys, List.map_cons, List.nodup_cons] at hnd
    cases p with
    | zero => simp [dictGet, List.lookup]
    | succ q =>
      have hq : q < d.length := by simpa using hp
      have hne : d[q].1 ≠ k' := by
        intro e
        apply hnd.1
        rw [← e]
        exact List.mem_map.mpr ⟨d[q], List.getElem_mem hq, rfl⟩
      have hb : (d[q].1 == k') = false := by simpa using hne
      simp only [dictGet, List.getElem_cons_succ, List.lookup, hb]
      exact ih hnd.2 q hq

/-- `build_proof_from_hint` as written, on a well-founded hint without repeated keys: for the key at position `p` it
returns (with recursion depth `p + 1`) a clause whose set is that key; none of its assertions fails -/
theorem bpfh_ok (terms : List (List Int)) (hint : Hint) (hw : WF terms hint) (hnd : (dictKeys hint).Nodup) :
    ∀ (p : Nat) (hp : p < hint.length) (G : Nat), p + 1 ≤ G →
      ∃ t, build_proof_from_hint G hint hint[p].1 terms = some (t, ()) ∧ Res.canon t = hint[p].1 := by
  intro p
  induction p using Nat.strongRecOn with
  | _ p ih =>
    intro hp G hG
    obtain ⟨G', rfl⟩ : ∃ g, G = g + 1 := ⟨G - 1, by omega⟩
    have hget := lookup_getElem hint hnd p hp
    have hok := hw p hp
    simp only [build_proof_from_hint, hget, Option.pure_def, Option.bind_eq_bind, Option.bind_some]
    cases hv : hint[p].2 with
    | inr idx =>
      rw [hv] at hok
      obtain ⟨t, ht, hc⟩ := hok
      exact ⟨t, by simp [ht], hc⟩
    | inl s =>
      rw [hv] at hok
      obtain ⟨L, R, r⟩ := s
      simp only [EntryOK, ResolutionHintSource.left_set, ResolutionHintSource.right_set, ResolutionHintSource.resolvant] at hok
      simp only [ResolutionHintSource.left_set, ResolutionHintSource.right_set, ResolutionHintSource.resolvant]
      obtain ⟨hL, hR, hnr, hr, hk⟩ := hok
      -- the two earlier keys
      have find : ∀ X, X ∈ (dictKeys hint).take p → ∃ t, build_proof_from_hint G' hint X terms = some (t, ()) ∧ Res.canon t = X := by
        intro X hX
        obtain ⟨q, hq, e⟩ := List.mem_take_iff_getElem.mp hX
        have hq1 : q < p := by omega
        have hq2 : q < hint.length := by omega
        have : hint[q].1 = X := by simpa [dictKeys] using e
        rw [← this]
        exact ih q hq1 hq2 G' (by omega)
      obtain ⟨tl, e1, c1⟩ := find L hL
      obtain ⟨tr, e2, c2⟩ := find R hR
      have hml : -r ∈ tl := by rw [← c1, Res.mem_canon] at hnr; exact hnr
      have hmr : r ∈ tr := by rw [← c2, Res.mem_canon] at hr; exact hr
      have nl : tl.all (· != -r) = false := by
        rw [Bool.eq_false_iff]; intro h
        have := List.all_eq_true.mp h (-r) hml
        simp at this
      have nr : tr.all (· != r) = false := by
        rw [Bool.eq_false_iff]; intro h
        have := List.all_eq_true.mp h r hmr
        simp at this
      have hfin : Res.canon (tl.filter (· != -r) ++ tr.filter (· != r)) = hint[p].1 := by
        rw [← hk]
        apply canon_ext
        intro x
        simp only [List.mem_append, List.mem_filter, ← c1, ← c2, Res.mem_canon]
      refine ⟨tl.filter (· != -r) ++ tr.filter (· != r), ?_, hfin⟩
      simp only [e1, e2, simplify_clause_eq, nl, nr, Bool.false_eq_true, if_false, Option.bind_some, pyIndex_zero,
        pyAssert, beq_self_eq_true, if_true, show ∀ (x : Int) l, pySliceFrom (x :: l) 1 = l from fun _ _ => rfl, fsOfList,
        hfin]

/-! ## the resolution loop, conversely: where the model answers, the code as written answers the same -/

/-- what a `return True` of the loop leaves behind: a well-founded hint without repeated keys, of bounded length, whose
last key is the empty clause -/
def RetOK (terms : List (List Int)) (N : Nat) (r : Bool × Hint × List FrozenSet) : Prop :=
  r.1 = true ∧ WF terms r.2.1 ∧ (dictKeys r.2.1).Nodup ∧ r.2.1.length ≤ N ∧
    ∃ h0 v, r.2.1 = h0 ++ [(([] : List Int), v)]

/-- the outcome of the outer loop agrees with the model's answer `b` -/
def Final (terms : List (List Int)) (N : Nat) (b : Bool) :
    Ctl (Bool × Hint × List FrozenSet) (Hint × List FrozenSet) → Prop
  | .ret r => b = true ∧ RetOK terms N r
  | .go _ => b = false

/-- the outcome of the inner loop, followed by the rest of the outer loop, agrees with the model's answer `b` -/
def Mid (terms : List (List Int)) (N G1 i : Nat) (b : Bool) :
    Ctl (Bool × Hint × List FrozenSet) (Hint × List FrozenSet) → Prop
  | .ret r => b = true ∧ RetOK terms N r
  | .go s => ∃ o', resolution_algorithm_for1 G1 (i + 1) s.1 s.2 = some o' ∧ Final terms N b o'

theorem RetOK_mono (terms) (N N' : Nat) (h : N ≤ N') (r) (hr : RetOK terms N r) : RetOK terms N' r :=
  ⟨hr.1, hr.2.1, hr.2.2.1, Nat.le_trans hr.2.2.2.1 h, hr.2.2.2.2⟩

theorem Final_mono (terms) (N N' : Nat) (h : N ≤ N') (b o) (hf : Final terms N b o) : Final terms N' b o := by
  cases o with
  | ret r => exact ⟨hf.1, RetOK_mono terms N N' h r hf.2⟩
  | go s => exact hf

theorem Mid_mono (terms) (N N' G1 i : Nat) (h : N ≤ N') (b o) (hm : Mid terms N G1 i b o) : Mid terms N' G1 i b o := by
  cases o with
  | ret r => exact ⟨hm.1, RetOK_mono terms N N' h r hm.2⟩
  | go s =>
    obtain ⟨o', e, hf⟩ := hm
    exact ⟨o', e, Final_mono terms N N' h b o' hf⟩

/-- an iteration of the outer loop as written, from the inner loop started at `0` and what follows it -/
theorem for1_of_for2 (terms : List (List Int)) (N G i : Nat) (b : Bool) (hint : Hint) (l : List FrozenSet)
    (h : (l[i]? = none → b = false) ∧
      ∀ cl1, l[i]? = some cl1 → ∃ o, resolution_algorithm_for2 cl1 G 0 hint l = some o ∧ Mid terms N G i b o) :
    ∃ o', resolution_algorithm_for1 (G + 1) i hint l = some o' ∧ Final terms N b o' := by
  cases hi : l[i]? with
  | none => exact ⟨.go (hint, l), for1_end G i hint l hi, h.1 hi⟩
  | some cl1 =>
    obtain ⟨o, ho, hm⟩ := h.2 cl1 hi
    rw [for1_step G i hint l cl1 hi, ho]
    match o, hm with
    | .ret r, hm => exact ⟨.ret r, rfl, hm⟩
    | .go (h', l'), hm => exact hm

/-- the model's machine at `(i, j)` with fuel `F` answers `b`; then the inner loop as written, resumed at `j` with any fuel
`G2 ≥ F`, followed by the outer loop from `i + 1` with any fuel `G1 ≥ F`, answers `b`; the hint stays well founded and
grows by at most one entry per step of the model -/
theorem loops_complete (terms : List (List Int)) : ∀ (F : Nat) (l : List FrozenSet) (i j : Nat) (b : Bool),
    Res.loop F l i j = some b →
    ∀ (hint : Hint) (G2 G1 : Nat), F ≤ G2 → F ≤ G1 → dictKeys hint = l → l.Nodup → WF terms hint → j ≤ i →
    (l[i]? = none → b = false) ∧
    (∀ cl1, l[i]? = some cl1 → ∃ o, resolution_algorithm_for2 cl1 G2 j hint l = some o ∧
      Mid terms (hint.length + F) G1 i b o) := by
  intro F
  induction F with
  | zero => intro l i j b h; cases h
  | succ F ih =>
    intro l i j b h hint G2 G1 hG2 hG1 hk hnd hwf hji
    refine ⟨fun hi => by simp [Res.loop, hi] at h; exact h, fun cl1 hi => ?_⟩
    obtain ⟨G2, rfl⟩ : ∃ g, G2 = g + 1 := ⟨G2 - 1, by omega⟩
    obtain ⟨G1, rfl⟩ : ∃ g, G1 = g + 1 := ⟨G1 - 1, by omega⟩
    have hil : i < l.length := (List.getElem?_eq_some_iff.mp hi).1
    have hjl : j < l.length := by omega
    have hj : l[j]? = some l[j] := List.getElem?_eq_getElem hjl
    have hjm : l[j] ∈ l := List.getElem_mem hjl
    have him : cl1 ∈ l := List.mem_of_getElem? hi
    have hN : hint.length + F ≤ hint.length + (F + 1) := by omega
    by_cases hij : j = i
    · -- the diagonal: `break`, then the next outer iteration
      subst hij
      rw [loop_diag F l j cl1 hi] at h
      refine ⟨.go (hint, l), for2_diag cl1 G2 j hint l hi, ?_⟩
      obtain ⟨o', ho', hf⟩ := for1_of_for2 terms _ G1 (j + 1) b hint l
        (ih l (j + 1) 0 b h hint G1 G1 (by omega) (by omega) hk hnd hwf (Nat.zero_le _))
      exact ⟨o', ho', Final_mono _ _ _ hN _ _ hf⟩
    · have hlt : j < i := by omega
      have hc : l[j] ≠ cl1 := fun e => hij ((List.getElem?_inj hjl hnd).mp ((e ▸ hj).trans hi.symm))
      rw [loop_step F l i j cl1 _ hi hlt hj] at h
      rw [for2_step cl1 _ G2 j hint l hj hc hk]
      generalize l[j] = cl2 at h hjm
      -- the same pair again, or no resolvent, or a resolvent already known
      have next : Res.loop F l i (j + 1) = some b → ∃ o, resolution_algorithm_for2 cl1 G2 (j + 1) hint l = some o ∧
          Mid terms (hint.length + (F + 1)) (G1 + 1) i b o := fun h => by
        obtain ⟨o, ho, hm⟩ := (ih l i (j + 1) b h hint G2 (G1 + 1) (by omega) (by omega) hk hnd hwf hlt).2 cl1 hi
        exact ⟨o, ho, Mid_mono _ _ _ _ _ hN _ _ hm⟩
      cases hr : Res.resolvable cl1 cl2 with
      | none => rw [hr] at h; exact next h
      | some p =>
        obtain ⟨r, res⟩ := p
        simp only [hr] at h ⊢
        cases hcon : l.contains res with
        | true => rw [hcon, if_pos rfl] at h; exact next h
        | false =>
          simp only [hcon, Bool.false_eq_true, if_false] at h ⊢
          have hnew : ∀ v, dictSet hint res v = hint ++ [(res, v)] := fun v => dictSet_new hint res v (by rw [hk]; exact hcon)
          -- the new entry is justified by the two clauses of the pair
          obtain ⟨c1, c2, _, cmem⟩ := Res.resolvable_clash cl1 cl2 r res hr
          have hres := (Res.resolvable_inv cl1 cl2 r res hr).2
          have hentry : EntryOK terms (dictKeys hint) res
              (if r < 0 then Sum.inl (ResolutionHintSource_new cl2 cl1 (-r)) else Sum.inl (ResolutionHintSource_new cl1 cl2 r)) := by
            rw [hk]
            by_cases hr0 : r < 0
            · rw [if_pos hr0]
              simp only [EntryOK, ResolutionHintSource_new, ResolutionHintSource.left_set, ResolutionHintSource.right_set,
                ResolutionHintSource.resolvant, Int.neg_neg]
              refine ⟨hjm, him, c1, c2, ?_⟩
              rw [hres]; apply canon_ext; intro x
              simp only [List.mem_append, List.mem_filter, bne_iff_ne, ne_eq, decide_eq_true_eq]
              exact Or.comm
            · rw [if_neg hr0]
              simp only [EntryOK, ResolutionHintSource_new, ResolutionHintSource.left_set, ResolutionHintSource.right_set,
                ResolutionHintSource.resolvant]
              refine ⟨him, hjm, c2, c1, ?_⟩
              rw [hres]; apply canon_ext; intro x
              simp only [List.mem_append, List.mem_filter, bne_iff_ne, ne_eq, decide_eq_true_eq]
          generalize (if r < 0 then Sum.inl (ResolutionHintSource_new cl2 cl1 (-r))
            else Sum.inl (ResolutionHintSource_new cl1 cl2 r) : Sum ResolutionHintSource Int) = v at hentry ⊢
          have hwf' : WF terms (dictSet hint res v) := by rw [hnew]; exact WF_append terms hint res v hwf hentry
          have hk' : dictKeys (dictSet hint res v) = l ++ [res] := by rw [dictKeys_set, hk, hcon]; rfl
          have hlen : (dictSet hint res v).length + F = hint.length + (F + 1) := by rw [hnew]; simp; omega
          cases he : res.isEmpty with
          | true =>
            simp only [he, if_true] at h ⊢
            cases h
            exact ⟨_, rfl, rfl, rfl, hwf', hk' ▸ nodup_snoc hnd hcon, Nat.le.intro hlen,
              hint, v, by rw [hnew, List.isEmpty_iff.mp he]⟩
          | false =>
            simp only [he, Bool.false_eq_true, if_false] at h ⊢
            have hi' : (l ++ [res])[i]? = some cl1 := by rw [List.getElem?_append_left hil]; exact hi
            obtain ⟨o, ho, hm⟩ := (ih (l ++ [res]) i (j + 1) b h _ G2 (G1 + 1) (by omega) (by omega) hk'
              (nodup_snoc hnd hcon) hwf' hlt).2 cl1 hi'
            exact ⟨o, ho, hlen ▸ hm⟩
/-- `resolution_algorithm` as written answers what the model's machine answers, at every larger fuel; when the answer is
`True` the hint it leaves behind is well founded, has no repeated keys, at most `|hint| + F` entries, and ends with the
empty clause -/
theorem resolution_algorithm_complete (terms : List (List Int)) (F : Nat) (hint : Hint) (l : List FrozenSet) (b : Bool)
    (hk : dictKeys hint = l) (hnd : l.Nodup) (hwf : WF terms hint) (h : Res.loop F l 0 0 = some b) (G : Nat) (hG : F < G) :
    ∃ h' l', resolution_algorithm G hint l = some (b, h', l') ∧ (b = true → RetOK terms (hint.length + F) (b, h', l')) := by
  obtain ⟨G, rfl⟩ : ∃ g, G = g + 1 := ⟨G - 1, by omega⟩
  obtain ⟨o', ho', hf⟩ := for1_of_for2 terms _ G 0 b hint l
    (loops_complete terms F l 0 0 b h hint G G (by omega) (by omega) hk hnd hwf (Nat.le_refl _))
  simp only [resolution_algorithm, ho', Option.pure_def, Option.bind_eq_bind, Option.bind_some]
  match o', hf with
  | .ret (b', h', l'), ⟨hb, hr⟩ =>
    cases (hr.1 : b' = true)
    exact ⟨h', l', hb ▸ rfl, fun _ => hb ▸ hr⟩
  | .go (h', l'), hf =>
    exact ⟨h', l', (hf : b = false) ▸ rfl, fun e => nomatch (hf : b = false).symm.trans e⟩

/-! ## `start_resolution_algorithm`: the verdicts coincide, in both directions -/

/-- every entry of the initial hint is an index into the clause list whose clause set is the key -/
def AllInr (terms : List (List Int)) (hint : Hint) : Prop :=
  ∀ e ∈ hint, ∃ idx t, e.2 = Sum.inr idx ∧ pyIndex terms idx = some t ∧ Res.canon t = e.1

theorem AllInr_set (terms : List (List Int)) (d : Hint) (k : FrozenSet) (idx : Int) (t : List Int)
    (hd : AllInr terms d) (ht : pyIndex terms idx = some t) (hc : Res.canon t = k) : AllInr terms (dictSet d k (Sum.inr idx)) := by
  induction d with
  | nil =>
    intro e he
    simp [dictSet] at he; subst he
    exact ⟨idx, t, rfl, ht, hc⟩
  | cons p d ih =>
    obtain ⟨k', v'⟩ := p
    have hd' : AllInr terms d := fun e he => hd e (by simp [he])
    simp only [dictSet]
    split
    · rename_i hkk
      have : k' = k := by simpa using hkk
      subst this
      intro e he
      simp only [List.mem_cons] at he
      rcases he with rfl | he
      · exact ⟨idx, t, rfl, ht, hc⟩
      · exact hd' e he
    · intro e he
      simp only [List.mem_cons] at he
      rcases he with rfl | he
      · exact hd _ (by simp)
      · exact ih hd' e he

theorem AllInr_WF (terms : List (List Int)) (d : Hint) (h : AllInr terms d) : WF terms d := by
  intro p hp
  obtain ⟨idx, t, e, ht, hc⟩ := h d[p] (List.getElem_mem hp)
  rw [e]
  exact ⟨t, ht, hc⟩

theorem pyIndex_nat {α} (xs : List α) (k : Nat) : pyIndex xs (k : Int) = xs[k]? := by
  simp [pyIndex]

/-- the enumerate loop of `start_resolution_algorithm` again: the hint it builds consists of justified indices -/
theorem start_for1_allInr (terms : List (List Int)) (xs : List (List Int)) : ∀ (k : Nat) (hint hint' : Hint),
    (∀ q (hq : q < xs.length), ∃ t, terms[k + q]? = some t ∧ Res.canon t = xs[q]) → AllInr terms hint →
    start_resolution_algorithm_for1 (pyEnumerateFrom (k : Int) xs) hint = some hint' → AllInr terms hint' := by
  induction xs with
  | nil => intro k hint hint' _ ha h; simp [pyEnumerateFrom, start_resolution_algorithm_for1] at h; subst h; exact ha
  | cons c xs ih =>
    intro k hint hint' hidx ha h
    have hidx' : ∀ q (hq : q < xs.length), ∃ t, terms[k + 1 + q]? = some t ∧ Res.canon t = xs[q] := by
      intro q hq
      have := hidx (q + 1) (by simp; omega)
      simpa [Nat.add_assoc, Nat.add_comm 1 q] using this
    have hcast : ((k : Int) + 1) = ((k + 1 : Nat) : Int) := by simp
    simp only [pyEnumerateFrom, start_resolution_algorithm_for1, Option.pure_def, Option.bind_eq_bind] at h
    cases ht : is_trivial_clause c with
    | none => simp [ht] at h
    | some tb =>
      simp only [ht, Option.bind_some] at h
      cases tb with
      | true =>
        simp only [Bool.not_true, Bool.false_eq_true, if_false, hcast] at h
        exact ih (k + 1) hint hint' hidx' ha h
      | false =>
        simp only [Bool.not_false, if_true, hcast] at h
        obtain ⟨t, ht', hc⟩ := hidx 0 (by simp)
        simp only [Nat.add_zero, List.getElem_cons_zero] at ht' hc
        exact ih (k + 1) _ hint' hidx' (AllInr_set terms hint c k t ha (by rw [pyIndex_nat]; exact ht') hc) h

theorem canon_eq_nil (t : List Int) (h : Res.canon t = []) : t = [] := by
  cases t with
  | nil => rfl
  | cons a t' =>
    have : a ∈ Res.canon (a :: t') := (Res.mem_canon a _).mpr (by simp)
    rw [h] at this; cases this

/-- the hint that `start_resolution_algorithm` builds first: its keys are `Res.initial`, its entries justified indices -/
theorem start_hint (cls : List (List Int)) (hz : ∀ cl ∈ cls, Res.NoZero cl) :
    ∃ hint, start_resolution_algorithm_for1 (pyEnumerate (cls.map fun cl => fsOfList cl)) [] = some hint ∧
      dictKeys hint = Res.initial cls ∧ AllInr cls hint := by
  have hz' : ∀ c ∈ cls.map (fun cl => fsOfList cl), Res.NoZero c := by
    intro c hc
    obtain ⟨c', hc', rfl⟩ := List.mem_map.mp hc
    exact fun x hx => hz c' hc' x ((Res.mem_canon x c').mp hx)
  obtain ⟨hint, e1, e2⟩ := start_for1_keys _ hz' 0 ([] : Hint)
  refine ⟨hint, e1, e2, start_for1_allInr cls _ 0 [] hint (fun q hq => ?_) (fun e he => nomatch he) e1⟩
  have hq' : q < cls.length := by simpa using hq
  exact ⟨cls[q], by simp [List.getElem?_eq_getElem hq'], by simp [fsOfList]⟩

theorem dictTruthy_keys (d : Hint) : dictTruthy d = !(dictKeys d).isEmpty := by cases d <;> rfl

/-- the verdict of `start_resolution_algorithm` as written (`True` = all clauses trivial, `False` = refuted, `None` =
inconclusive) is, whenever the code answers at all, the answer of `Res.start` at every sufficient fuel.  (Clauses without
the literal `0`.)  The converse is `start_complete`. -/
theorem start_sound (F : Nat) (cls : List (List Int)) (hz : ∀ cl ∈ cls, Res.NoZero cl) (v : Option (Bool × Unit))
    (h : start_resolution_algorithm F cls = some v) :
    ∃ n, ∀ m, Res.start (n + m) cls = some (v.map (·.1)) := by
  obtain ⟨hint, e1, e2, _⟩ := start_hint cls hz
  simp only [start_resolution_algorithm, e1, dictTruthy_keys, e2, Option.pure_def, Option.bind_eq_bind, Option.bind_some,
    Bool.not_not] at h
  cases hc : cls.isEmpty with
  | true =>
    simp only [hc, if_true, Option.some.injEq] at h; subst h
    exact ⟨0, fun m => by simp [Res.start, hc]⟩
  | false =>
    cases hl : (Res.initial cls).isEmpty with
    | true =>
      simp only [hc, hl, Bool.false_eq_true, if_false, if_true, ite_self, Option.some.injEq] at h; subst h
      exact ⟨0, fun m => by simp [Res.start, hc, hl]⟩
    | false =>
      simp only [hc, hl, Bool.false_eq_true, if_false] at h
      cases hr : resolution_algorithm F hint (Res.initial cls) with
      | none => rw [hr] at h; cases h
      | some r =>
        obtain ⟨b, h2, l2⟩ := r
        obtain ⟨n, hn⟩ := resolution_algorithm_sound F hint _ b h2 l2 e2 (initial_nodup _) hr
        refine ⟨n, fun m => ?_⟩
        simp only [hr, Option.bind_some] at h
        cases b with
        | false => cases h; simp [Res.start, hc, hl, hn m]
        | true =>
          simp only [Bool.not_true, Bool.false_eq_true, if_false, Option.bind_eq_some_iff] at h
          obtain ⟨_, _, _, _, h⟩ := h
          cases h; simp [Res.start, hc, hl, hn m]

/-- where the model `Res.start` answers, `start_resolution_algorithm` as written answers the same at every sufficiently
large fuel — in particular the reconstruction of the proof from the hint (`build_proof_from_hint`, `simplify_clause`) hits
none of its assertions, and `assert not ret_list` holds -/
theorem start_complete (F : Nat) (cls : List (List Int)) (hz : ∀ cl ∈ cls, Res.NoZero cl) (x : Option Bool)
    (h : Res.start F cls = some x) :
    ∃ F', ∀ G, F' ≤ G → start_resolution_algorithm G cls = some (x.map fun b => (b, ())) := by
  obtain ⟨hint, e1, e2, hall⟩ := start_hint cls hz
  simp only [start_resolution_algorithm, e1, dictTruthy_keys, e2, Option.pure_def, Option.bind_eq_bind, Option.bind_some,
    Bool.not_not]
  simp only [Res.start] at h
  cases hc : cls.isEmpty with
  | true =>
    simp only [hc, if_true, Option.some.injEq] at h; subst h
    exact ⟨0, fun G _ => rfl⟩
  | false =>
    cases hl : (Res.initial cls).isEmpty with
    | true =>
      simp only [hc, hl, Bool.false_eq_true, if_false, if_true, Option.some.injEq] at h; subst h
      exact ⟨0, fun G _ => by simp⟩
    | false =>
      simp only [hc, hl, Bool.false_eq_true, if_false] at h ⊢
      cases hloop : Res.loop F (Res.initial cls) 0 0 with
      | none => rw [hloop] at h; cases h
      | some b =>
        refine ⟨hint.length + F + 1, fun G hG => ?_⟩
        obtain ⟨h2, l2, hra, hret⟩ := resolution_algorithm_complete cls F hint _ b e2 (initial_nodup _)
          (AllInr_WF _ _ hall) hloop G (by omega)
        rw [hloop] at h
        rw [hra]
        cases b with
        | false => cases h; rfl
        | true =>
          cases h
          -- the reconstruction of the proof from the hint, from its last key (the empty clause), yields the empty clause
          obtain ⟨_, hw2, hnd2, hlen, h0, v, hlast⟩ := hret rfl
          simp only at hw2 hnd2 hlen hlast
          have hp : h0.length < h2.length := by rw [hlast]; simp
          obtain ⟨t, ht, hc⟩ := bpfh_ok cls h2 hw2 hnd2 h0.length hp G (by omega)
          have hkey : (h2[h0.length]'hp).1 = ([] : List Int) := by simp [hlast]
          rw [hkey] at ht hc
          cases canon_eq_nil t hc
          simp [show fsOfList ([] : List Int) = [] from rfl, ht, pyAssert]

theorem distr_mono (k : Nat) (ih : ∀ c r, CF.toCnfF k c = some r → CF.toCnfF (k + 1) c = some r) (l' r' x : CF)
    (h : CF.distr k l' r' = some x) : CF.distr (k + 1) l' r' = some x := by
  unfold CF.distr at h ⊢
  split at h
  · exact ih _ _ h
  · exact ih _ _ h
  · exact h

theorem toCnfF_mono : ∀ (k : Nat) (c r : CF), CF.toCnfF k c = some r → CF.toCnfF (k + 1) c = some r := by
  intro k
  induction k with
  | zero => intro c r h; simp [CF.toCnfF] at h
  | succ k ih =>
    intro c r h
    cases c with
    | bot b => simp [CF.toCnfF] at h
    | var b i => simpa [CF.toCnfF] using h
    | and b l r' =>
      simp only [CF.toCnfF, Option.bind_eq_bind, Option.bind_eq_some_iff, Option.pure_def] at h ⊢
      obtain ⟨a, ha, c', hc', e⟩ := h
      exact ⟨a, ih _ _ ha, c', ih _ _ hc', e⟩
    | or b l r' =>
      rw [CF.toCnfF_or] at h ⊢
      simp only [Option.bind_eq_some_iff] at h ⊢
      obtain ⟨a, ha, c', hc', e⟩ := h
      exact ⟨a, ih _ _ ha, c', ih _ _ hc', distr_mono k ih _ _ _ e⟩

theorem toCnfF_mono_add (k m : Nat) (c r : CF) (h : CF.toCnfF k c = some r) : CF.toCnfF (k + m) c = some r := by
  induction m with
  | zero => exact h
  | succ m ih => exact toCnfF_mono _ _ _ ih

theorem toCnfF_mono_le (k k' : Nat) (hk : k ≤ k') (c r : CF) (h : CF.toCnfF k c = some r) : CF.toCnfF k' c = some r := by
  have := toCnfF_mono_add k (k' - k) c r h
  rwa [Nat.add_sub_cancel' hk] at this

theorem toClauses_noZero (c : CF) : ∀ cls, CF.toClauses c = some cls → ∀ cl ∈ cls, Res.NoZero cl := by
  induction c with
  | bot b => intro cls h; simp [CF.toClauses] at h
  | var b i =>
    intro cls h cl hcl x hx
    simp [CF.toClauses] at h; subst h
    simp at hcl; subst hcl
    simp at hx; subst hx
    cases b <;> simp <;> omega
  | and b l r ihl ihr =>
    intro cls h
    simp only [CF.toClauses, Option.bind_eq_bind, Option.bind_eq_some_iff, Option.pure_def, Option.some.injEq] at h
    obtain ⟨a, ha, c', hc', e⟩ := h
    subst e
    intro cl hcl
    rcases List.mem_append.mp hcl with h1 | h1
    · exact ihl a ha cl h1
    · exact ihr c' hc' cl h1
  | or b l r ihl ihr =>
    intro cls h
    simp only [CF.toClauses, Option.bind_eq_bind, Option.bind_eq_some_iff] at h
    obtain ⟨a, ha, c', hc', e⟩ := h
    match a, c', ha, hc', e with
    | [x], [y], ha, hc', e =>
      simp at e; subst e
      intro cl hcl z hz
      simp at hcl; subst hcl
      rcases List.mem_append.mp hz with h1 | h1
      · exact ihl _ ha x (by simp) z h1
      · exact ihr _ hc' y (by simp) z h1
    | [], _, _, _, e => simp at e
    | _ :: _ :: _, _, _, _, e => simp at e
    | [_], [], _, _, e => simp at e
    | [_], _ :: _ :: _, _, _, e => simp at e

theorem proveTautology_nonbot (fuel : Nat) (f : Form) (hnb : (CF.ofForm (Form.neg f)).isBot = false) :
    proveTautology fuel f = (do
      let n ← CF.propagNeg (CF.ofForm (Form.neg f))
      let cnf ← CF.toCnfF fuel n
      let cls ← CF.toClauses cnf
      match ← Res.start fuel cls with
      | none => pure none
      | some true => pure (some false)
      | some false => pure (some true)) := by
  unfold proveTautology
  cases h : CF.ofForm (Form.neg f) with
  | bot b => simp [h, CF.isBot] at hnb
  | var b i => rfl
  | or b l r => rfl
  | and b l r => rfl

/-- the verdict of `prove_tautology` as written (`(True, _)` / `(False, _)` / `None`), whenever the code answers at all (at any
fuel), is the verdict of the model `proveTautology` at every sufficient fuel -/
theorem prove_tautology_sound (F : Nat) (f : Form) (v : Option (Bool × Unit)) (h : prove_tautology F f = some v) :
    ∃ n, ∀ m, proveTautology (n + m) f = some (v.map (·.1)) := by
  simp only [prove_tautology, TautSup.neg, Option.pure_def, Option.bind_eq_bind] at h
  rcases to_conj_form_spec F (Form.neg f) with ⟨e, _⟩ | e <;> rw [e] at h
  · cases h
  simp only [Option.bind_some, isCFBot_ofCF, negated_ofCF] at h
  cases hb : (CF.ofForm (Form.neg f)).isBot with
  | true =>
    have hc := CF.eq_bot_of_isBot _ hb
    refine ⟨0, fun m => ?_⟩
    unfold proveTautology
    rw [hc]
    cases hn : (CF.ofForm (Form.neg f)).negated <;> simp only [hb, hn, if_true, Bool.false_eq_true, if_false] at h <;>
      cases h <;> rfl
  | false =>
    simp only [hb, Bool.false_eq_true, if_false, Option.isSome_some, pyAssert, if_true, Option.bind_some] at h
    -- the four stages in a row: each is out of fuel (then so is the whole) or the model's stage
    have hp := propag_neg_spec F (CF.ofForm (Form.neg f)) false
    simp only [Bool.xor_false, setNeg_negated] at hp
    rcases hp with ⟨hp, _⟩ | hp <;> rw [hp] at h
    · cases h
    cases hn : CF.propagNegAux false (CF.ofForm (Form.neg f)) with
    | none => rw [hn] at h; cases h
    | some nt =>
      simp only [hn, Option.map_some, Option.bind_some, to_cnf_eq] at h
      cases hcnf : CF.toCnfF F nt with
      | none => rw [hcnf] at h; cases h
      | some cnf =>
        simp only [hcnf, Option.map_some, Option.bind_some] at h
        rcases to_clauses_spec F cnf with ⟨hcl, _⟩ | hcl <;> rw [hcl] at h
        · cases h
        cases hcls : CF.toClauses cnf with
        | none => rw [hcls] at h; cases h
        | some cls =>
          simp only [hcls, Option.map_some, Option.bind_some] at h
          cases hs : start_resolution_algorithm F cls with
          | none => rw [hs] at h; cases h
          | some sv =>
            obtain ⟨n, hn'⟩ := start_sound F cls (toClauses_noZero cnf cls hcls) sv hs
            refine ⟨F + n, fun m => ?_⟩
            have e1 : CF.toCnfF (F + n + m) nt = some cnf := toCnfF_mono_le F _ (by omega) nt cnf hcnf
            have e2 : Res.start (F + n + m) cls = some (sv.map (·.1)) := by
              have := hn' (F + m)
              rwa [show n + (F + m) = F + n + m by omega] at this
            rw [proveTautology_nonbot _ _ hb]
            simp only [CF.propagNeg, hn, e1, hcls, e2, Option.bind_eq_bind, Option.bind_some]
            rw [hs] at h
            rcases sv with _ | ⟨_ | _, _⟩ <;> cases h <;> rfl
/-- where the model `proveTautology` answers, `prove_tautology` as written gives the same verdict at every sufficiently
large fuel: on a propositional pattern it hits none of its assertions -/
theorem prove_tautology_complete (F : Nat) (f : Form) (x : Option Bool) (h : proveTautology F f = some x) :
    ∃ F', ∀ G, F' ≤ G → prove_tautology G f = some (x.map fun b => (b, ())) := by
  cases hb : (CF.ofForm (Form.neg f)).isBot with
  | true =>
    refine ⟨(Form.neg f).size, fun G hG => ?_⟩
    have e := to_conj_form_eq (Form.neg f) G hG
    simp only [prove_tautology, TautSup.neg, e, Option.pure_def, Option.bind_eq_bind, Option.bind_some, isCFBot_ofCF,
      negated_ofCF, hb, if_true]
    cases hc : CF.ofForm (Form.neg f) with
    | bot b =>
      cases b <;> simp [proveTautology, hc] at h <;> subst h <;> simp [CF.negated]
    | var b i => simp [hc, CF.isBot] at hb
    | or b l r => simp [hc, CF.isBot] at hb
    | and b l r => simp [hc, CF.isBot] at hb
  | false =>
    rw [proveTautology_nonbot F f hb] at h
    simp only [Option.bind_eq_bind, Option.bind_eq_some_iff] at h
    obtain ⟨nt, hn, cnf, hcnf, cls, hcls, sx, hs, hx⟩ := h
    obtain ⟨F', hF'⟩ := start_complete F cls (toClauses_noZero cnf cls hcls) sx hs
    refine ⟨(Form.neg f).size + depth (CF.ofForm (Form.neg f)) + F + depth cnf + F', fun G hG => ?_⟩
    have e1 := to_conj_form_eq (Form.neg f) G (by omega)
    have e2 := propag_neg_eq (CF.ofForm (Form.neg f)) G (by omega)
    have e3 := to_cnf_eq G nt
    rw [toCnfF_mono_le F G (by omega) nt cnf hcnf] at e3
    have e4 := to_clauses_eq cnf G (by omega)
    have e5 := hF' G (by omega)
    simp only [prove_tautology, TautSup.neg, e1, Option.pure_def, Option.bind_eq_bind, Option.bind_some, isCFBot_ofCF,
      negated_ofCF, hb, Bool.false_eq_true, if_false, Option.isSome_some, pyAssert, if_true, e2, hn, Option.map_some, e3,
      e4, hcls, e5]
    cases sx with
    | none => simp at hx; subst hx; simp
    | some b =>
      cases b <;> simp at hx <;> subst hx <;> simp

end TautTie

