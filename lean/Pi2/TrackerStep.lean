import Pi2.Tracker
/-!
# What one call of the tracker does

`PySt.Step n s c s'`: the call `c` returns in state `s` and leaves `s'` — one constructor per method, with the shape of
the stack it needs as hypotheses.  `track1_iff` ties it to `track1`; every property of a returning call (frame, phase,
shape, simulation by the machine, slots used …) is then a `cases` on `Step` and never unfolds `track1`.
-/
open Pat

namespace PySt

inductive Step (n : Nat) (s : PySt) : Call → PySt → Prop
  | evar (x) : Step n s (.evar x) (s.push (.pat (.evar x)))
  | svar (x) : Step n s (.svar x) (s.push (.pat (.svar x)))
  | symbol (nm) : Step n s (.symbol nm) { s.push (.pat (.sym nm)) with
      symtab := if s.symtab.contains nm then s.symtab else s.symtab ++ [nm] }
  | metavar (id ef sf ps ns hs) : Step n s (.metavar id ef sf ps ns hs) (s.push (.pat (.mv id ef sf ps ns hs)))
  | implies {l r fl fr st} (hs : s.stack = (.pat r, fr) :: (.pat l, fl) :: st) :
      Step n s .implies { s with stack := (.pat (.imp l r), false) :: st }
  | app {l r fl fr st} (hs : s.stack = (.pat r, fr) :: (.pat l, fl) :: st) :
      Step n s .app { s with stack := (.pat (.app l r), false) :: st }
  | ex (x) {p f st} (hs : s.stack = (.pat p, f) :: st) : Step n s (.ex x) { s with stack := (.pat (.ex x p), false) :: st }
  | mu (x) {p f st} (hs : s.stack = (.pat p, f) :: st) : Step n s (.mu x) { s with stack := (.pat (.mu x p), false) :: st }
  | esubst (x) {p plug f1 f2 st} (hs : s.stack = (.pat p, f1) :: (.pat plug, f2) :: st) (hm : p.isMetaHead = true) :
      Step n s (.esubst x) { s with stack := (.pat (.esub p x plug), false) :: st }
  | ssubst (x) {p plug f1 f2 st} (hs : s.stack = (.pat p, f1) :: (.pat plug, f2) :: st) (hm : p.isMetaHead = true) :
      Step n s (.ssubst x) { s with stack := (.pat (.ssub p x plug), false) :: st }
  | prop1 : Step n s .prop1 (s.push (.proved prop1N))
  | prop2 : Step n s .prop2 (s.push (.proved prop2N))
  | prop3 : Step n s .prop3 (s.push (.proved prop3N))
  | quantifier : Step n s .quantifier (s.push (.proved quantN))
  | mp {l r fl fr st c} (hs : s.stack = (.proved r, fr) :: (.proved l, fl) :: st) (hc : NPat.pyMP n l r = some (some c)) :
      Step n s .mp { s with stack := (.proved c, false) :: st }
  | gen (x) {a f st c} (hs : s.stack = (.proved a, f) :: st) (hc : NPat.pyGen n a x = some (some c)) :
      Step n s (.gen x) { s with stack := (.proved c, false) :: st }
  | instantiateNil {keys a f st} (hs : s.stack = (.proved a, f) :: st) (hk : keys.isEmpty = true) :
      Step n s (.instantiate keys) { s with stack := (.proved a, false) :: st }
  | instantiate {keys a f st plugs st' c} (hs : s.stack = (.proved a, f) :: st) (hk : keys.isEmpty = false)
      (hp : takePlugs keys.length st = some (plugs, st')) (hc : NPat.instF n (keys.zip plugs) a = some c) :
      Step n s (.instantiate keys) { s with stack := (.proved c, false) :: st' }
  | instantiatePattern {keys a f st plugs st'} (hs : s.stack = (.pat a, f) :: st)
      (hp : takePlugs keys.length st = some (plugs, st')) :
      Step n s (.instantiatePattern keys) { s with stack := (.pat (.inst a (keys.zip plugs)), false) :: st' }
  | pop {e st} (hs : s.stack = e :: st) : Step n s .pop { s with stack := st }
  | save {t f st} (hs : s.stack = (t, f) :: st) : Step n s .save { s with memory := s.memory ++ [t] }
  | load (t) {i} (hi : indexF n t s.memory 0 = some (some i)) : Step n s (.load t) (s.push t)
  | publishProof {t f st c cs} (hp : s.phase = .proof) (hs : s.stack = (.proved t, f) :: st) (hc : s.claims = c :: cs)
      (he : NPat.peqF n t c = some true) :
      Step n s .publishProof { s with stack := (.proved t, true) :: st, claims := cs }
  | publishAxiom {a f st} (hp : s.phase = .gamma) (hs : s.stack = (.pat a, f) :: st) :
      Step n s .publishAxiom { s with stack := (.pat a, true) :: st, memory := s.memory ++ [.proved a] }
  | publishClaim {a f st} (hp : s.phase = .claim) (hs : s.stack = (.pat a, f) :: st) :
      Step n s .publishClaim { s with stack := (.pat a, true) :: st }
  | intoClaim (hp : s.phase = .gamma) : Step n s .intoClaim { s with phase := .claim, stack := [] }
  | intoProof (hp : s.phase = .claim) : Step n s .intoProof { s with phase := .proof, stack := [] }

/-- a call that returns is a step -/
theorem Step.of_track1 {n : Nat} {s s' : PySt} {c : Call} (h : track1 n s c = some (some s')) : Step n s c s' := by
  cases c <;> dsimp only [track1] at h
  case evar | svar | symbol | metavar | prop1 | prop2 | prop3 | quantifier =>
    cases h; constructor
  case implies | app | ex | mu | pop | save =>
    split at h
    · cases h; constructor; assumption
    · cases h
  case esubst | ssubst =>
    split at h
    · split at h
      · cases h; constructor <;> assumption
      · cases h
    · cases h
  case mp | gen =>
    split at h
    · simp only [Option.bind_eq_bind, Option.bind_eq_some_iff] at h
      obtain ⟨oc, hc, h⟩ := h
      cases oc with
      | none => cases h
      | some c => cases h; constructor <;> assumption
    · cases h
  case instantiate keys =>
    split at h
    · split at h
      · cases h; exact .instantiateNil ‹_› ‹_›
      · split at h
        · cases h
        · simp only [Option.bind_eq_bind, Option.bind_eq_some_iff, Option.pure_def] at h
          obtain ⟨c, hc, h⟩ := h
          cases h
          exact .instantiate ‹_› (Bool.eq_false_iff.mpr ‹_›) ‹_› hc
    · cases h
  case instantiatePattern keys =>
    split at h
    · split at h
      · cases h
      · cases h; constructor <;> assumption
    · cases h
  case load t =>
    simp only [Option.bind_eq_bind, Option.bind_eq_some_iff] at h
    obtain ⟨oi, hi, h⟩ := h
    cases oi with
    | none => cases h
    | some i => cases h; exact .load t hi
  case publishProof =>
    split at h
    · simp only [Option.bind_eq_bind, Option.bind_eq_some_iff] at h
      obtain ⟨b, hb, h⟩ := h
      cases b with
      | false => cases h
      | true => cases h; constructor <;> assumption
    · cases h
  case publishAxiom | publishClaim =>
    split at h
    · cases h; constructor <;> assumption
    · cases h
  case intoClaim | intoProof =>
    split at h
    · cases h; constructor; assumption
    · cases h

/-- a step is a call that returns -/
theorem Step.track1 {n : Nat} {s s' : PySt} {c : Call} (h : Step n s c s') : track1 n s c = some (some s') := by
  cases h <;> simp [PySt.track1, *]

theorem track1_iff {n : Nat} {s s' : PySt} {c : Call} : track1 n s c = some (some s') ↔ Step n s c s' :=
  ⟨Step.of_track1, Step.track1⟩

end PySt
