import Pi2.Gen.PyInterp
import Pi2.MatchThm
import Pi2.TrackerThm
import Pi2.MM.Mono
/-!
# The interpreter classes as written in `basic_interpreter.py` / `stateful_interpreter.py` are the model's

`Pi2/Gen/PyInterp.lean` is regenerated from the source on every run (`vlib/transinterp.py`): every method of
`BasicInterpreter` and `StatefulInterpreter` (and `Interpreter.into_claim_phase / into_proof_phase`),
statement by statement, in the combinators of `Pi2/InterpSupport.lean`.  Here they are proved equal to the
hand-written model that the theorems about the tracker (C04, C07, C08, `Pi2.TrackerThm`, `Pi2.ModulePF`)
are stated about:

* `BasicInterpreter`: `modus_ponens`, `exists_generalization`, `instantiate` are `NPat.pyMP`, `pyGen`,
  `pyInst` (`Pi2/Rules.lean`); the axiom patterns are `prop1N … quantN`, `bot()` is `botN`.
* `StatefulInterpreter`: a `Call` of the model carries no term arguments — the model assumes that the
  caller passes the very terms that are on the tracker's stack.  `*_tie`: for each method, called with
  these arguments (stated per method: e.g. `implies(left, right)`: `right` = top entry, `left` = the
  entry below), the translated method is `track1 n s call` preceded by the reflexive comparisons
  `t == t` that the `assert expected == arg` statements evaluate (`chk`; they cost fuel and can only
  run out of it, `peqF_refl`).  This is an equation, so it also says when the translated method runs
  out of fuel.  `*_mismatch`: if an argument is *not* `==` to the stack entry, the method raises.
  `two_underflow`, `one_underflow`: a short stack raises.  `*_noplugs`: no `delta` is accepted when
  the model finds no plugs.
* `pyCall` dispatches a `Call` to its translated method with the stack's own terms;
  `pyCall_sound` (a), `pyCall_exact` / `pyCall_complete` (b), `pyCall_none` (c) are the summary.

What the translated `StatefulInterpreter` does not have and the theorems make explicit: the ghost
residue flag of the model's stack entries (`markTop` in the `publish_*` ties; `append` pushes `false`),
the serializer's symbol table (`symbol_tie`), and the API typing of `esubst`/`ssubst` (`esubst_untyped`).
-/
open PySt PyI
open Gen.PyInterp

namespace InterpTie

/-- `assert expected == arg` as written, when `arg` is the very term `t` on the stack: the reflexive
comparison `t == t` is evaluated, and the method goes on if it is `True` -/
def chkA {α} (n : Nat) (t : TTerm) (k : Py α) : Py α := fuel (teqF n t t) fun b => assert_ b k
/-- the same for `assert expected_plugs == list(delta.values())` -/
def chkLA {α} (n : Nat) (l : List TTerm) (k : Py α) : Py α := fuel (listEqF n l l) fun b => assert_ b k
/-- its cost on a shaped term, where `t == t` can only run out of fuel (`chkA_shape`) -/
def chk {α} (n : Nat) (t : TTerm) (k : Py α) : Py α := (teqF n t t).bind fun _ => k
/-- the same for `assert expected_plugs == list(delta.values())` -/
def chkL {α} (n : Nat) (l : List TTerm) (k : Py α) : Py α := (listEqF n l l).bind fun _ => k
/-- the value a pattern- or proof-building method returns is the new top of the stack -/
def topPat (s : PySt) : NPat := match s.stack with | (t, _) :: _ => t.body | [] => default
def withTopPat (r : Py PySt) : Py (PySt × NPat) := r.map (Option.map fun s' => (s', topPat s'))
def withTopProved (r : Py PySt) : Py (PySt × Proved) := r.map (Option.map fun s' => (s', ⟨topPat s'⟩))
/-- the ghost update of `publish_*` in the model: the top entry is marked as residue -/
def markTop (s : PySt) : PySt :=
  match s.stack with
  | (t, _) :: st => { s with stack := (t, true) :: st }
  | [] => s

theorem translated : Gen.PyInterp.translated = true := by decide

/-! ## BasicInterpreter -/

theorem bot_eq : Gen.PyInterp.bot = botN := rfl
/-- the pattern constructors build the model's constructors (`EVar(x)` in the `var` field of a
substitution is its id) -/
theorem constructors_eq (x : VId) (ef sf ps ns hs : List VId) (p q : NPat) (δ : List (Nat × NPat)) :
    Basic.evar x = .evar x ∧ Basic.svar x = .svar x ∧ Basic.symbol x = .sym x ∧
    Basic.metavar x ef sf ps ns hs = .mv x ef sf ps ns hs ∧ Basic.implies p q = .imp p q ∧
    Basic.app p q = .app p q ∧ Basic.«exists» x p = .ex x p ∧ Basic.mu x p = .mu x p ∧
    Basic.esubst x p q = .esub p x q ∧ Basic.ssubst x p q = .ssub p x q ∧
    Basic.instantiate_pattern p δ = .inst p δ :=
  ⟨rfl, rfl, rfl, rfl, rfl, rfl, rfl, rfl, rfl, rfl, rfl⟩
theorem prop1_eq : Basic.prop1 = ⟨prop1N⟩ := rfl
theorem prop2_eq : Basic.prop2 = ⟨prop2N⟩ := rfl
theorem prop3_eq : Basic.prop3 = ⟨prop3N⟩ := rfl
theorem exists_quantifier_eq : Basic.exists_quantifier = ⟨quantN⟩ := rfl

theorem modus_ponens_eq (n : Nat) (a b : NPat) :
    Basic.modus_ponens n ⟨a⟩ ⟨b⟩ = (NPat.pyMP n a b).map (Option.map Proved.mk) := by
  simp only [Basic.modus_ponens, NPat.pyMP, extractImplies]
  cases h : NPat.headF n a with
  | none => rfl
  | some q =>
    cases q <;> try rfl
    rename_i l r
    simp only [fuel, assert_, ret, raise, Option.bind_eq_bind, Option.bind_some, Option.pure_def]
    cases NPat.peqF n l b with
    | none => rfl
    | some e => cases e <;> rfl

theorem exists_generalization_eq (n : Nat) (a : NPat) (x : VId) :
    Basic.exists_generalization n ⟨a⟩ x = (NPat.pyGen n a x).map (Option.map Proved.mk) := by
  simp only [Basic.exists_generalization, NPat.pyGen, extractImplies]
  cases h : NPat.headF n a with
  | none => rfl
  | some q =>
    cases q <;> try rfl
    rename_i l r
    simp only [fuel, assert_, ret, raise, Option.bind_eq_bind, Option.bind_some, Option.pure_def]
    cases NPat.evarIsFreeF n x r with
    | none => rfl
    | some e => cases e <;> rfl

theorem instantiate_eq (n : Nat) (a : NPat) (δ : List (Nat × NPat)) :
    Basic.instantiate n ⟨a⟩ δ = (NPat.pyInst n a δ).map (fun c => some ⟨c⟩) := by
  simp only [Basic.instantiate, NPat.pyInst]
  cases δ.isEmpty with
  | true => rfl
  | false =>
    simp only [fuel, ret]
    cases NPat.instF n δ a <;> rfl


/-! ## StatefulInterpreter: lemmas -/

theorem teqF_refl (n : Nat) (t : TTerm) (b : Bool) (ht : t.body.Shape = true)
    (h : teqF n t t = some b) : b = true := by
  cases t <;> exact NPat.peqF_refl n _ b ht h

theorem chkA_shape {α} (n : Nat) (t : TTerm) (ht : t.body.Shape = true) (k : Py α) : chkA n t k = chk n t k := by
  unfold chkA chk fuel
  cases h : teqF n t t with
  | none => rfl
  | some b => cases teqF_refl n t b ht h; rfl

theorem go_refl (n : Nat) (l : List TTerm) (b : Bool) (hl : ∀ t ∈ l, t.body.Shape = true)
    (h : listEqF.go n l l = some b) : b = true := by
  induction l with
  | nil => simpa [listEqF.go] using h.symm
  | cons x xs ih =>
    simp only [listEqF.go, Option.bind_eq_bind, Option.bind_eq_some_iff] at h
    obtain ⟨e, he, h⟩ := h
    cases teqF_refl n x e (hl x (by simp)) he
    simp only [if_true] at h
    exact ih (fun t ht => hl t (List.mem_cons_of_mem _ ht)) h

theorem chkLA_shape {α} (n : Nat) (l : List NPat) (hl : ∀ p ∈ l, p.Shape = true) (k : Py α) :
    chkLA n (l.map .pat) k = chkL n (l.map .pat) k := by
  unfold chkLA chkL fuel
  cases h : listEqF n (l.map .pat) (l.map .pat) with
  | none => rfl
  | some b =>
    have : b = true := by
      simp only [listEqF, bne_self_eq_false, Bool.false_eq_true, if_false] at h
      refine go_refl n _ b (fun t ht => ?_) h
      obtain ⟨p, hp, rfl⟩ := List.mem_map.mp ht
      exact hl p hp
    cases this; rfl

theorem takePlugs_slices : ∀ (k : Nat) (st : Stack) (plugs : List NPat) (st' : Stack),
    takePlugs k st = some (plugs, st') →
    plugs.length = k ∧ pyList (st.take k) = plugs.map TTerm.pat ∧ st.drop k = st' := by
  intro k
  induction k with
  | zero =>
    intro st plugs st' h
    simp only [takePlugs, Option.some.injEq, Prod.mk.injEq] at h
    obtain ⟨rfl, rfl⟩ := h
    simp [pyList]
  | succ k ih =>
    intro st plugs st' h
    match st, h with
    | (.pat p, b) :: st1, h =>
      simp only [takePlugs, Option.map_eq_some_iff] at h
      obtain ⟨⟨ps, st2⟩, h1, h2⟩ := h
      simp only [Prod.mk.injEq] at h2
      obtain ⟨rfl, rfl⟩ := h2
      obtain ⟨a, b', c⟩ := ih st1 ps st2 h1
      refine ⟨by simp [a], ?_, by simpa using c⟩
      simp only [pyList] at b' ⊢
      simp [← b', List.map_take]
    | (.proved p, b) :: st1, h => simp [takePlugs] at h
    | [], h => simp [takePlugs] at h

theorem memF_index (n : Nat) (t : TTerm) (mem : List TTerm) (i : Nat) :
    memF n t mem = (indexF n t mem i).map Option.isSome := by
  induction mem generalizing i with
  | nil => rfl
  | cons m r ih =>
    simp only [memF, indexF, Option.bind_eq_bind]
    cases teqF n m t with
    | none => rfl
    | some b => cases b <;> simp [ih (i + 1)]


/-! ## StatefulInterpreter: pattern builders

`*_tieA`: the method called with the stack's own terms, no hypothesis on them (the asserts as written, `chkA`);
`*_tie`: the same for shaped terms, where the comparisons can only cost fuel (`chk`). -/

theorem evar_tie (n : Nat) (s : PySt) (x : VId) :
    Stateful.evar s x = withTopPat (track1 n s (.evar x)) := rfl
theorem svar_tie (n : Nat) (s : PySt) (x : VId) :
    Stateful.svar s x = withTopPat (track1 n s (.svar x)) := rfl
theorem metavar_tie (n : Nat) (s : PySt) (id : VId) (ef sf ps ns hs : List VId) :
    Stateful.metavar s id ef sf ps ns hs = withTopPat (track1 n s (.metavar id ef sf ps ns hs)) := rfl
/-- `symbol`: the model's `track1` additionally maintains the serializer's symbol table
(`SerializingInterpreter._symbol_identifiers`), which `StatefulInterpreter` does not have -/
theorem symbol_tie (n : Nat) (s : PySt) (nm : Nat) :
    Stateful.symbol s nm
      = withTopPat ((track1 n s (.symbol nm)).map (Option.map fun s' => { s' with symtab := s.symtab })) := rfl

theorem implies_tieA (n : Nat) (s : PySt) (l r : NPat) (fl fr : Bool) (st : Stack)
    (hs : s.stack = (.pat r, fr) :: (.pat l, fl) :: st) :
    Stateful.implies n s l r = chkA n (.pat l) (chkA n (.pat r) (withTopPat (track1 n s .implies))) := by
  simp only [Stateful.implies, unpackLast2, hs, track1, chkA]
  rfl

theorem implies_tie (n : Nat) (s : PySt) (l r : NPat) (fl fr : Bool) (st : Stack)
    (hs : s.stack = (.pat r, fr) :: (.pat l, fl) :: st) (hl : l.Shape = true) (hr : r.Shape = true) :
    Stateful.implies n s l r = chk n (.pat l) (chk n (.pat r) (withTopPat (track1 n s .implies))) := by
  rw [implies_tieA n s l r fl fr st hs, chkA_shape n (.pat l) hl, chkA_shape n (.pat r) hr]

theorem app_tieA (n : Nat) (s : PySt) (l r : NPat) (fl fr : Bool) (st : Stack)
    (hs : s.stack = (.pat r, fr) :: (.pat l, fl) :: st) :
    Stateful.app n s l r = chkA n (.pat l) (chkA n (.pat r) (withTopPat (track1 n s .app))) := by
  simp only [Stateful.app, unpackLast2, hs, track1, chkA]
  rfl

theorem app_tie (n : Nat) (s : PySt) (l r : NPat) (fl fr : Bool) (st : Stack)
    (hs : s.stack = (.pat r, fr) :: (.pat l, fl) :: st) (hl : l.Shape = true) (hr : r.Shape = true) :
    Stateful.app n s l r = chk n (.pat l) (chk n (.pat r) (withTopPat (track1 n s .app))) := by
  rw [app_tieA n s l r fl fr st hs, chkA_shape n (.pat l) hl, chkA_shape n (.pat r) hr]

theorem exists_tieA (n : Nat) (s : PySt) (x : VId) (p : NPat) (f : Bool) (st : Stack)
    (hs : s.stack = (.pat p, f) :: st) :
    Stateful.«exists» n s x p = chkA n (.pat p) (withTopPat (track1 n s (.ex x))) := by
  simp only [Stateful.«exists», unpackLast1, hs, track1, chkA]
  rfl

theorem exists_tie (n : Nat) (s : PySt) (x : VId) (p : NPat) (f : Bool) (st : Stack)
    (hs : s.stack = (.pat p, f) :: st) (hp : p.Shape = true) :
    Stateful.«exists» n s x p = chk n (.pat p) (withTopPat (track1 n s (.ex x))) := by
  rw [exists_tieA n s x p f st hs, chkA_shape n (.pat p) hp]

theorem mu_tieA (n : Nat) (s : PySt) (x : VId) (p : NPat) (f : Bool) (st : Stack)
    (hs : s.stack = (.pat p, f) :: st) :
    Stateful.mu n s x p = chkA n (.pat p) (withTopPat (track1 n s (.mu x))) := by
  simp only [Stateful.mu, unpackLast1, hs, track1, chkA]
  rfl

theorem mu_tie (n : Nat) (s : PySt) (x : VId) (p : NPat) (f : Bool) (st : Stack)
    (hs : s.stack = (.pat p, f) :: st) (hp : p.Shape = true) :
    Stateful.mu n s x p = chk n (.pat p) (withTopPat (track1 n s (.mu x))) := by
  rw [mu_tieA n s x p f st hs, chkA_shape n (.pat p) hp]

/-- `esubst(evar_id, pattern, plug)`: `pattern` is the top entry, `plug` the one below; the model
additionally refuses a `pattern` that violates the API typing `MetaVar | ESubst | SSubst` -/
theorem esubst_tieA (n : Nat) (s : PySt) (x : VId) (p plug : NPat) (f1 f2 : Bool) (st : Stack)
    (hs : s.stack = (.pat p, f1) :: (.pat plug, f2) :: st) (hm : p.isMetaHead = true) :
    Stateful.esubst n s x p plug
      = chkA n (.pat p) (chkA n (.pat plug) (withTopPat (track1 n s (.esubst x)))) := by
  simp only [Stateful.esubst, unpackLast2, hs, track1, hm, if_true, chkA]
  rfl

theorem esubst_tie (n : Nat) (s : PySt) (x : VId) (p plug : NPat) (f1 f2 : Bool) (st : Stack)
    (hs : s.stack = (.pat p, f1) :: (.pat plug, f2) :: st) (hp : p.Shape = true)
    (hq : plug.Shape = true) (hm : p.isMetaHead = true) :
    Stateful.esubst n s x p plug
      = chk n (.pat p) (chk n (.pat plug) (withTopPat (track1 n s (.esubst x)))) := by
  rw [esubst_tieA n s x p plug f1 f2 st hs hm, chkA_shape n (.pat p) hp, chkA_shape n (.pat plug) hq]

theorem ssubst_tieA (n : Nat) (s : PySt) (x : VId) (p plug : NPat) (f1 f2 : Bool) (st : Stack)
    (hs : s.stack = (.pat p, f1) :: (.pat plug, f2) :: st) (hm : p.isMetaHead = true) :
    Stateful.ssubst n s x p plug
      = chkA n (.pat p) (chkA n (.pat plug) (withTopPat (track1 n s (.ssubst x)))) := by
  simp only [Stateful.ssubst, unpackLast2, hs, track1, hm, if_true, chkA]
  rfl

theorem ssubst_tie (n : Nat) (s : PySt) (x : VId) (p plug : NPat) (f1 f2 : Bool) (st : Stack)
    (hs : s.stack = (.pat p, f1) :: (.pat plug, f2) :: st) (hp : p.Shape = true)
    (hq : plug.Shape = true) (hm : p.isMetaHead = true) :
    Stateful.ssubst n s x p plug
      = chk n (.pat p) (chk n (.pat plug) (withTopPat (track1 n s (.ssubst x)))) := by
  rw [ssubst_tieA n s x p plug f1 f2 st hs hm, chkA_shape n (.pat p) hp, chkA_shape n (.pat plug) hq]

/-! ## StatefulInterpreter: axioms and rules -/

theorem prop1_tie (n : Nat) (s : PySt) : Stateful.prop1 s = withTopProved (track1 n s .prop1) := rfl
theorem prop2_tie (n : Nat) (s : PySt) : Stateful.prop2 s = withTopProved (track1 n s .prop2) := rfl
theorem prop3_tie (n : Nat) (s : PySt) : Stateful.prop3 s = withTopProved (track1 n s .prop3) := rfl
theorem exists_quantifier_tie (n : Nat) (s : PySt) :
    Stateful.exists_quantifier s = withTopProved (track1 n s .quantifier) := rfl

theorem modus_ponens_tieA (n : Nat) (s : PySt) (l r : NPat) (fl fr : Bool) (st : Stack)
    (hs : s.stack = (.proved r, fr) :: (.proved l, fl) :: st) :
    Stateful.modus_ponens n s ⟨l⟩ ⟨r⟩
      = chkA n (.proved l) (chkA n (.proved r) (withTopProved (track1 n s .mp))) := by
  simp only [Stateful.modus_ponens, unpackLast2, hs, ofProved, track1, modus_ponens_eq, chkA]
  refine congrArg _ (funext fun b1 => congrArg _ (congrArg _ (funext fun b2 => congrArg _ ?_)))
  cases NPat.pyMP n l r with
  | none => rfl
  | some o => cases o <;> rfl

theorem modus_ponens_tie (n : Nat) (s : PySt) (l r : NPat) (fl fr : Bool) (st : Stack)
    (hs : s.stack = (.proved r, fr) :: (.proved l, fl) :: st) (hl : l.Shape = true)
    (hr : r.Shape = true) :
    Stateful.modus_ponens n s ⟨l⟩ ⟨r⟩
      = chk n (.proved l) (chk n (.proved r) (withTopProved (track1 n s .mp))) := by
  rw [modus_ponens_tieA n s l r fl fr st hs, chkA_shape n (.proved l) hl, chkA_shape n (.proved r) hr]

theorem exists_generalization_tieA (n : Nat) (s : PySt) (a : NPat) (x : VId) (f : Bool) (st : Stack)
    (hs : s.stack = (.proved a, f) :: st) :
    Stateful.exists_generalization n s ⟨a⟩ x
      = chkA n (.proved a) (withTopProved (track1 n s (.gen x))) := by
  simp only [Stateful.exists_generalization, unpackLast1, hs, ofProved, track1,
    exists_generalization_eq, chkA]
  refine congrArg _ (funext fun b1 => congrArg _ ?_)
  cases NPat.pyGen n a x with
  | none => rfl
  | some o => cases o <;> rfl

theorem exists_generalization_tie (n : Nat) (s : PySt) (a : NPat) (x : VId) (f : Bool) (st : Stack)
    (hs : s.stack = (.proved a, f) :: st) (ha : a.Shape = true) :
    Stateful.exists_generalization n s ⟨a⟩ x
      = chk n (.proved a) (withTopProved (track1 n s (.gen x))) := by
  rw [exists_generalization_tieA n s a x f st hs, chkA_shape n (.proved a) ha]

/-! ## instantiate / instantiate_pattern -/

theorem zip_values (keys : List Nat) (plugs : List NPat) (h : plugs.length = keys.length) :
    deltaValues (keys.zip plugs) = plugs := by
  simp only [deltaValues]
  rw [← List.unzip_snd, List.unzip_zip (by omega)]

/-- `instantiate(proved, delta)`: `proved` is the top entry, `list(delta.values())` are the
`len(delta)` entries below it (deepest first), the keys of `delta` are the `keys` of the call -/
theorem instantiate_tieA (n : Nat) (s : PySt) (a : NPat) (f : Bool) (st st' : Stack)
    (keys : List Nat) (plugs : List NPat)
    (hs : s.stack = (.proved a, f) :: st) (htp : takePlugs keys.length st = some (plugs, st')) :
    Stateful.instantiate n s ⟨a⟩ (keys.zip plugs)
      = chkA n (.proved a) (chkLA n (plugs.map .pat)
          (withTopProved (track1 n s (.instantiate keys)))) := by
  obtain ⟨hlen, hsl, hdr⟩ := takePlugs_slices _ _ _ _ htp
  have hz : (keys.zip plugs).length = keys.length := by simp [hlen]
  by_cases hk : keys = []
  · subst hk
    have : plugs = [] := List.eq_nil_of_length_eq_zero hlen
    subst this
    simp only [takePlugs, List.length_nil, Option.some.injEq, Prod.mk.injEq, true_and] at htp
    subst htp
    simp only [Stateful.instantiate, unpackLast1, hs, ofProved, List.zip_nil_left, List.length_nil,
      bne_self_eq_false, Bool.false_eq_true, if_false, pyList,
      deltaValues, List.map_nil, List.reverse_nil, track1, List.isEmpty_nil, if_true, instantiate_eq,
      NPat.pyInst, chkA, chkLA]
    rfl
  · have hK : ¬ keys.length = 0 := fun h => hk (List.eq_nil_of_length_eq_zero h)
    have hne' : (keys.zip plugs).isEmpty = false := by
      cases hzp : keys.zip plugs with
      | nil => rw [hzp] at hz; exact absurd hz.symm hK
      | cons _ _ => rfl
    have hke : keys.isEmpty = false := by cases keys <;> simp_all
    simp only [Stateful.instantiate, unpackLast1, hs, ofProved, hz, bne_iff_ne, ne_eq, hK, not_false_eq_true,
      if_true, sliceFromNeg, sliceToNeg, if_false, hsl, hdr, zip_values _ _ hlen,
      track1, htp, instantiate_eq, NPat.pyInst, hne',
      hke, Bool.false_eq_true, chkA, chkLA]
    refine congrArg _ (funext fun b1 => congrArg _ (congrArg _ (funext fun b2 => congrArg _ ?_)))
    cases NPat.instF n (keys.zip plugs) a <;> rfl

theorem instantiate_tie (n : Nat) (s : PySt) (a : NPat) (f : Bool) (st st' : Stack)
    (keys : List Nat) (plugs : List NPat)
    (hs : s.stack = (.proved a, f) :: st) (htp : takePlugs keys.length st = some (plugs, st'))
    (ha : a.Shape = true) (hp : ∀ p ∈ plugs, p.Shape = true) :
    Stateful.instantiate n s ⟨a⟩ (keys.zip plugs)
      = chk n (.proved a) (chkL n (plugs.map .pat)
          (withTopProved (track1 n s (.instantiate keys)))) := by
  rw [instantiate_tieA n s a f st st' keys plugs hs htp, chkA_shape n (.proved a) ha, chkLA_shape n plugs hp]

theorem instantiate_pattern_tieA (n : Nat) (s : PySt) (a : NPat) (f : Bool) (st st' : Stack)
    (keys : List Nat) (plugs : List NPat)
    (hs : s.stack = (.pat a, f) :: st) (htp : takePlugs keys.length st = some (plugs, st')) :
    Stateful.instantiate_pattern n s a (keys.zip plugs)
      = chkA n (.pat a) (chkLA n (plugs.map .pat)
          (withTopPat (track1 n s (.instantiatePattern keys)))) := by
  obtain ⟨hlen, hsl, hdr⟩ := takePlugs_slices _ _ _ _ htp
  have hz : (keys.zip plugs).length = keys.length := by simp [hlen]
  by_cases hk : keys = []
  · subst hk
    have : plugs = [] := List.eq_nil_of_length_eq_zero hlen
    subst this
    simp only [takePlugs, List.length_nil, Option.some.injEq, Prod.mk.injEq, true_and] at htp
    subst htp
    simp only [Stateful.instantiate_pattern, unpackLast1, hs, List.zip_nil_left, List.length_nil,
      bne_self_eq_false, Bool.false_eq_true, if_false, pyList,
      deltaValues, List.map_nil, List.reverse_nil, track1, takePlugs, chkA, chkLA]
    rfl
  · have hK : ¬ keys.length = 0 := fun h => hk (List.eq_nil_of_length_eq_zero h)
    simp only [Stateful.instantiate_pattern, unpackLast1, hs, hz, bne_iff_ne, ne_eq, hK, not_false_eq_true,
      if_true, sliceFromNeg, sliceToNeg, if_false, hsl, hdr, zip_values _ _ hlen,
      track1, htp, chkA, chkLA]
    rfl

theorem instantiate_pattern_tie (n : Nat) (s : PySt) (a : NPat) (f : Bool) (st st' : Stack)
    (keys : List Nat) (plugs : List NPat)
    (hs : s.stack = (.pat a, f) :: st) (htp : takePlugs keys.length st = some (plugs, st'))
    (ha : a.Shape = true) (hp : ∀ p ∈ plugs, p.Shape = true) :
    Stateful.instantiate_pattern n s a (keys.zip plugs)
      = chk n (.pat a) (chkL n (plugs.map .pat)
          (withTopPat (track1 n s (.instantiatePattern keys)))) := by
  rw [instantiate_pattern_tieA n s a f st st' keys plugs hs htp, chkA_shape n (.pat a) ha, chkLA_shape n plugs hp]

/-! ## pop / save / load -/

theorem pop_tie (n : Nat) (s : PySt) (t : TTerm) (f : Bool) (st : Stack)
    (hs : s.stack = (t, f) :: st) (ht : t.body.Shape = true) :
    Stateful.pop n s t = chk n t (track1 n s .pop) := by
  simp only [Stateful.pop, topOf, popTop, hs, ← chkA_shape n t ht, track1, chkA]
  rfl

theorem save_tieA (n : Nat) (s : PySt) (id : Nat) (t : TTerm) (f : Bool) (st : Stack)
    (hs : s.stack = (t, f) :: st) :
    Stateful.save n s id t = chkA n t (track1 n s .save) := by
  simp only [Stateful.save, topOf, hs, track1, chkA]
  rfl

theorem save_tie (n : Nat) (s : PySt) (id : Nat) (t : TTerm) (f : Bool) (st : Stack)
    (hs : s.stack = (t, f) :: st) (ht : t.body.Shape = true) :
    Stateful.save n s id t = chk n t (track1 n s .save) := by
  rw [save_tieA n s id t f st hs, chkA_shape n t ht]

/-- `load` has no stack argument: the translated method and the model agree on every input -/
theorem load_tie (n : Nat) (s : PySt) (id : Nat) (t : TTerm) :
    Stateful.load n s id t = track1 n s (.load t) := by
  simp only [Stateful.load, track1, memF_index n t s.memory 0, fuel, assert_, ret, raise,
    Option.bind_eq_bind, Option.pure_def]
  cases indexF n t s.memory 0 with
  | none => rfl
  | some o => cases o <;> rfl

/-! ## publish_* and the phase changes -/

/-- `publish_proof(proved)`: `proved` is the top entry.  The translated method leaves the stack
alone; the model marks the top entry as residue (ghost) -/
theorem publish_proof_tieA (n : Nat) (s : PySt) (t : NPat) (f : Bool) (st : Stack)
    (hs : s.stack = (.proved t, f) :: st) :
    (Stateful.publish_proof n s ⟨t⟩).map (Option.map markTop)
      = call (track1 n s .publishProof) fun s' => chkA n (.proved t) (ret s') := by
  simp only [Stateful.publish_proof, Basic.publish_proof, track1, hs, topOf, ofProved]
  cases hph : s.phase <;> simp only [assert_, call, raise, ret, decide_true, decide_false, if_true, if_false,
      Bool.false_eq_true, reduceCtorEq] <;> try rfl
  cases hc : s.claims with
  | nil => rfl
  | cons c cs =>
    simp only [unpackFirst1, Claim.pattern, fuel, Option.bind_eq_bind, Option.pure_def]
    cases NPat.peqF n t c with
    | none => rfl
    | some b =>
      cases b
      · rfl
      · simp only [if_true, Option.bind_some, chkA, fuel, assert_]
        cases teqF n (.proved t) (.proved t) with
        | none => rfl
        | some b => cases b <;> simp [markTop, raise, ret]

theorem publish_proof_tie (n : Nat) (s : PySt) (t : NPat) (f : Bool) (st : Stack)
    (hs : s.stack = (.proved t, f) :: st) (ht : t.Shape = true) :
    (Stateful.publish_proof n s ⟨t⟩).map (Option.map markTop)
      = call (track1 n s .publishProof) fun s' => chk n (.proved t) (ret s') := by
  simp only [publish_proof_tieA n s t f st hs, chkA_shape n (.proved t) ht]

theorem publish_axiom_tieA (n : Nat) (s : PySt) (a : NPat) (f : Bool) (st : Stack)
    (hs : s.stack = (.pat a, f) :: st) :
    (Stateful.publish_axiom n s a).map (Option.map markTop)
      = call (track1 n s .publishAxiom) fun s' => chkA n (.pat a) (ret s') := by
  simp only [Stateful.publish_axiom, Basic.publish_axiom, track1, hs, ofProved, topOf]
  cases hph : s.phase <;> simp only [assert_, call, raise, ret, decide_true, decide_false, if_true, if_false,
      Bool.false_eq_true, reduceCtorEq] <;> try rfl
  simp only [chkA, fuel, assert_]
  cases teqF n (.pat a) (.pat a) with
  | none => rfl
  | some b => cases b <;> simp [markTop, raise, ret]

theorem publish_axiom_tie (n : Nat) (s : PySt) (a : NPat) (f : Bool) (st : Stack)
    (hs : s.stack = (.pat a, f) :: st) (ha : a.Shape = true) :
    (Stateful.publish_axiom n s a).map (Option.map markTop)
      = call (track1 n s .publishAxiom) fun s' => chk n (.pat a) (ret s') := by
  simp only [publish_axiom_tieA n s a f st hs, chkA_shape n (.pat a) ha]

/-- `publish_claim` does not change the tracker's state at all (the model: ghost mark only) -/
theorem publish_claim_tieA (n : Nat) (s : PySt) (a : NPat) (f : Bool) (st : Stack)
    (hs : s.stack = (.pat a, f) :: st) :
    (Stateful.publish_claim n s a).map (Option.map fun _ => markTop s)
      = call (track1 n s .publishClaim) fun s' => chkA n (.pat a) (ret s') := by
  simp only [Stateful.publish_claim, Basic.publish_claim, track1, hs, topOf]
  cases hph : s.phase <;> simp only [assert_, call, raise, ret, decide_true, decide_false, if_true, if_false,
      Bool.false_eq_true, reduceCtorEq] <;> try rfl
  simp only [chkA, fuel, assert_]
  cases teqF n (.pat a) (.pat a) with
  | none => rfl
  | some b => cases b <;> simp [markTop, hs, hph, raise, ret]

theorem publish_claim_tie (n : Nat) (s : PySt) (a : NPat) (f : Bool) (st : Stack)
    (hs : s.stack = (.pat a, f) :: st) (ha : a.Shape = true) :
    (Stateful.publish_claim n s a).map (Option.map fun _ => markTop s)
      = call (track1 n s .publishClaim) fun s' => chk n (.pat a) (ret s') := by
  simp only [publish_claim_tieA n s a f st hs, chkA_shape n (.pat a) ha]

theorem into_claim_phase_tie (n : Nat) (s : PySt) :
    Stateful.into_claim_phase s = track1 n s .intoClaim := by
  simp only [Stateful.into_claim_phase, Interp.into_claim_phase, track1]
  cases s.phase <;> rfl

theorem into_proof_phase_tie (n : Nat) (s : PySt) :
    Stateful.into_proof_phase s = track1 n s .intoProof := by
  simp only [Stateful.into_proof_phase, Interp.into_proof_phase, track1]
  cases s.phase <;> rfl


/-! ## the asserts are really there: a mismatching argument raises

`el`, `er`, `e` are arbitrary stack entries; the hypothesis says that Python's `==` between the entry
and the argument evaluates to `False` (for the second assert: after the first evaluated to `True`). -/

theorem implies_mismatch (n : Nat) (s : PySt) (l r : NPat) (el er : TTerm) (fl fr : Bool) (st : Stack)
    (hs : s.stack = (er, fr) :: (el, fl) :: st)
    (h : teqF n el (.pat l) = some false ∨
      (teqF n el (.pat l) = some true ∧ teqF n er (.pat r) = some false)) :
    Stateful.implies n s l r = some none := by
  simp only [Stateful.implies, unpackLast2, hs]
  rcases h with h | ⟨h1, h2⟩ <;> simp [fuel, assert_, raise, *]

theorem app_mismatch (n : Nat) (s : PySt) (l r : NPat) (el er : TTerm) (fl fr : Bool) (st : Stack)
    (hs : s.stack = (er, fr) :: (el, fl) :: st)
    (h : teqF n el (.pat l) = some false ∨
      (teqF n el (.pat l) = some true ∧ teqF n er (.pat r) = some false)) :
    Stateful.app n s l r = some none := by
  simp only [Stateful.app, unpackLast2, hs]
  rcases h with h | ⟨h1, h2⟩ <;> simp [fuel, assert_, raise, *]

theorem exists_mismatch (n : Nat) (s : PySt) (x : VId) (p : NPat) (e : TTerm) (f : Bool) (st : Stack)
    (hs : s.stack = (e, f) :: st) (h : teqF n e (.pat p) = some false) :
    Stateful.«exists» n s x p = some none := by
  simp [Stateful.«exists», unpackLast1, hs, fuel, assert_, raise, h]

theorem mu_mismatch (n : Nat) (s : PySt) (x : VId) (p : NPat) (e : TTerm) (f : Bool) (st : Stack)
    (hs : s.stack = (e, f) :: st) (h : teqF n e (.pat p) = some false) :
    Stateful.mu n s x p = some none := by
  simp [Stateful.mu, unpackLast1, hs, fuel, assert_, raise, h]

/-- `esubst`: `pattern` is compared with the top entry first, then `plug` with the entry below -/
theorem esubst_mismatch (n : Nat) (s : PySt) (x : VId) (p plug : NPat) (ep eq : TTerm) (f1 f2 : Bool)
    (st : Stack) (hs : s.stack = (ep, f1) :: (eq, f2) :: st)
    (h : teqF n ep (.pat p) = some false ∨
      (teqF n ep (.pat p) = some true ∧ teqF n eq (.pat plug) = some false)) :
    Stateful.esubst n s x p plug = some none := by
  simp only [Stateful.esubst, unpackLast2, hs]
  rcases h with h | ⟨h1, h2⟩ <;> simp [fuel, assert_, raise, *]

theorem ssubst_mismatch (n : Nat) (s : PySt) (x : VId) (p plug : NPat) (ep eq : TTerm) (f1 f2 : Bool)
    (st : Stack) (hs : s.stack = (ep, f1) :: (eq, f2) :: st)
    (h : teqF n ep (.pat p) = some false ∨
      (teqF n ep (.pat p) = some true ∧ teqF n eq (.pat plug) = some false)) :
    Stateful.ssubst n s x p plug = some none := by
  simp only [Stateful.ssubst, unpackLast2, hs]
  rcases h with h | ⟨h1, h2⟩ <;> simp [fuel, assert_, raise, *]

theorem modus_ponens_mismatch (n : Nat) (s : PySt) (l r : Proved) (el er : TTerm) (fl fr : Bool)
    (st : Stack) (hs : s.stack = (er, fr) :: (el, fl) :: st)
    (h : teqF n el (ofProved l) = some false ∨
      (teqF n el (ofProved l) = some true ∧ teqF n er (ofProved r) = some false)) :
    Stateful.modus_ponens n s l r = some none := by
  simp only [Stateful.modus_ponens, unpackLast2, hs]
  rcases h with h | ⟨h1, h2⟩ <;> simp [fuel, assert_, raise, *]

theorem exists_generalization_mismatch (n : Nat) (s : PySt) (a : Proved) (x : VId) (e : TTerm) (f : Bool)
    (st : Stack) (hs : s.stack = (e, f) :: st) (h : teqF n e (ofProved a) = some false) :
    Stateful.exists_generalization n s a x = some none := by
  simp [Stateful.exists_generalization, unpackLast1, hs, fuel, assert_, raise, h]

/-- `instantiate`: the proof is compared first, then the list of plugs (`stack[-len(delta):]`, taken
after the proof has been removed) with `list(delta.values())` -/
theorem instantiate_mismatch (n : Nat) (s : PySt) (a : Proved) (δ : List (Nat × NPat)) (e : TTerm)
    (f : Bool) (st : Stack) (hs : s.stack = (e, f) :: st)
    (h : teqF n e (ofProved a) = some false ∨
      (teqF n e (ofProved a) = some true ∧ δ ≠ [] ∧
        listEqF n (pyList (st.take δ.length)) ((deltaValues δ).map .pat) = some false)) :
    Stateful.instantiate n s a δ = some none := by
  simp only [Stateful.instantiate, unpackLast1, hs]
  rcases h with h | ⟨h1, hne, h2⟩
  · simp [fuel, assert_, raise, h]
  · have hK : ¬ δ.length = 0 := fun h => hne (List.eq_nil_of_length_eq_zero h)
    simp [fuel, assert_, raise, h1, h2, hK, sliceFromNeg]

theorem instantiate_pattern_mismatch (n : Nat) (s : PySt) (a : NPat) (δ : List (Nat × NPat)) (e : TTerm)
    (f : Bool) (st : Stack) (hs : s.stack = (e, f) :: st)
    (h : teqF n e (.pat a) = some false ∨
      (teqF n e (.pat a) = some true ∧ δ ≠ [] ∧
        listEqF n (pyList (st.take δ.length)) ((deltaValues δ).map .pat) = some false)) :
    Stateful.instantiate_pattern n s a δ = some none := by
  simp only [Stateful.instantiate_pattern, unpackLast1, hs]
  rcases h with h | ⟨h1, hne, h2⟩
  · simp [fuel, assert_, raise, h]
  · have hK : ¬ δ.length = 0 := fun h => hne (List.eq_nil_of_length_eq_zero h)
    simp [fuel, assert_, raise, h1, h2, hK, sliceFromNeg]

theorem pop_mismatch (n : Nat) (s : PySt) (t e : TTerm) (f : Bool) (st : Stack)
    (hs : s.stack = (e, f) :: st) (h : teqF n e t = some false) :
    Stateful.pop n s t = some none := by
  simp [Stateful.pop, topOf, hs, fuel, assert_, raise, h]

theorem save_mismatch (n : Nat) (s : PySt) (id : Nat) (t e : TTerm) (f : Bool) (st : Stack)
    (hs : s.stack = (e, f) :: st) (h : teqF n e t = some false) :
    Stateful.save n s id t = some none := by
  simp [Stateful.save, topOf, hs, fuel, assert_, raise, h]

/-- `publish_proof`: wrong phase, no claim left, a conclusion different from the next claim, or a
top entry different from the argument: each raises -/
theorem publish_proof_mismatch (n : Nat) (s : PySt) (p : Proved) :
    (s.phase ≠ .proof ∨ s.claims = [] ∨
      (∃ c cs, s.claims = c :: cs ∧ (NPat.peqF n p.conclusion c = some false ∨
        (NPat.peqF n p.conclusion c = some true ∧
          (s.stack = [] ∨ ∃ e f st, s.stack = (e, f) :: st ∧ teqF n e (ofProved p) = some false))))) →
    Stateful.publish_proof n s p = some none := by
  intro h
  simp only [Stateful.publish_proof, Basic.publish_proof]
  by_cases hph : s.phase = .proof
  · simp only [hph, decide_true, assert_, if_true, call, ret]
    rcases h with h | h | ⟨c, cs, hc, h⟩
    · exact absurd hph h
    · simp [unpackFirst1, h, raise]
    · simp only [unpackFirst1, hc, Claim.pattern]
      rcases h with h | ⟨h1, h | ⟨e, f, st, hs, h⟩⟩
      · simp [fuel, h, raise]
      · simp [fuel, h1, topOf, h, raise]
      · simp [fuel, h1, topOf, hs, h, raise]
  · simp [hph, assert_, raise, call]

theorem publish_axiom_mismatch (n : Nat) (s : PySt) (a : NPat) :
    (s.phase ≠ .gamma ∨ s.stack = [] ∨ ∃ e f st, s.stack = (e, f) :: st ∧ teqF n e (.pat a) = some false) →
    Stateful.publish_axiom n s a = some none := by
  intro h
  simp only [Stateful.publish_axiom, Basic.publish_axiom]
  by_cases hph : s.phase = .gamma
  · simp only [hph, decide_true, assert_, if_true, call, ret]
    rcases h with h | h | ⟨e, f, st, hs, h⟩
    · exact absurd hph h
    · simp [topOf, h, raise]
    · simp [topOf, hs, fuel, h, raise]
  · simp [hph, assert_, raise, call]

theorem publish_claim_mismatch (n : Nat) (s : PySt) (a : NPat) :
    (s.phase ≠ .claim ∨ s.stack = [] ∨ ∃ e f st, s.stack = (e, f) :: st ∧ teqF n e (.pat a) = some false) →
    Stateful.publish_claim n s a = some none := by
  intro h
  simp only [Stateful.publish_claim, Basic.publish_claim]
  by_cases hph : s.phase = .claim
  · simp only [hph, decide_true, assert_, if_true, call, ret]
    rcases h with h | h | ⟨e, f, st, hs, h⟩
    · exact absurd hph h
    · simp [topOf, h, raise]
    · simp [topOf, hs, fuel, h, raise]
  · simp [hph, assert_, raise, call]

/-! ## a stack that is too short raises (`ValueError` of the unpacking / `IndexError`) -/

theorem unpackLast2_short {β} (stk : Stack) (k : Stack → TTerm → TTerm → Py β) (h : stk.length < 2) :
    unpackLast2 stk k = some none := by
  match stk, h with
  | [], _ => rfl
  | [_], _ => rfl

theorem two_underflow (n : Nat) (s : PySt) (h : s.stack.length < 2) :
    (∀ l r, Stateful.implies n s l r = some none) ∧ (∀ l r, Stateful.app n s l r = some none) ∧
    (∀ x p q, Stateful.esubst n s x p q = some none) ∧ (∀ x p q, Stateful.ssubst n s x p q = some none) ∧
    (∀ l r, Stateful.modus_ponens n s l r = some none) := by
  refine ⟨?_, ?_, ?_, ?_, ?_⟩ <;> intros <;>
    simp only [Stateful.implies, Stateful.app, Stateful.esubst, Stateful.ssubst, Stateful.modus_ponens,
      unpackLast2_short _ _ h]

theorem one_underflow (n : Nat) (s : PySt) (h : s.stack = []) :
    (∀ x p, Stateful.«exists» n s x p = some none) ∧ (∀ x p, Stateful.mu n s x p = some none) ∧
    (∀ a x, Stateful.exists_generalization n s a x = some none) ∧
    (∀ a δ, Stateful.instantiate n s a δ = some none) ∧
    (∀ a δ, Stateful.instantiate_pattern n s a δ = some none) ∧
    (∀ t, Stateful.pop n s t = some none) ∧ (∀ id t, Stateful.save n s id t = some none) := by
  refine ⟨?_, ?_, ?_, ?_, ?_, ?_, ?_⟩ <;> intros <;>
    simp [Stateful.«exists», Stateful.mu, Stateful.exists_generalization, Stateful.instantiate,
      Stateful.instantiate_pattern, Stateful.pop, Stateful.save, unpackLast1, topOf, h, raise]

/-! ## when the model finds no plugs (`takePlugs = none`), Python accepts no `delta` of that size -/

theorem go_true_pats (n : Nat) : ∀ (xs : List TTerm) (vals : List NPat),
    xs.length = vals.length → listEqF.go n xs (vals.map .pat) = some true →
    ∀ x ∈ xs, ∃ p, x = .pat p := by
  intro xs
  induction xs with
  | nil => intro _ _ _ x hx; cases hx
  | cons x xs ih =>
    intro vals hl h
    cases vals with
    | nil => simp at hl
    | cons v vs =>
      simp only [List.map_cons, listEqF.go, Option.bind_eq_bind, Option.bind_eq_some_iff] at h
      obtain ⟨b, hb, h⟩ := h
      cases b with
      | false => simp at h
      | true =>
        simp only [if_true] at h
        intro y hy
        rcases List.mem_cons.mp hy with rfl | hy
        · cases y with
          | pat p => exact ⟨p, rfl⟩
          | proved p => simp [teqF] at hb
        · exact ih vs (by simpa using hl) h y hy

theorem takePlugs_of_pats : ∀ (k : Nat) (st : Stack), k ≤ st.length →
    (∀ e ∈ st.take k, ∃ p, e.1 = TTerm.pat p) → takePlugs k st ≠ none := by
  intro k
  induction k with
  | zero => intro st _ _; simp [takePlugs]
  | succ k ih =>
    intro st hl hp
    match st, hl, hp with
    | [], hl, _ => simp at hl
    | (t, b) :: st1, hl, hp =>
      obtain ⟨p, hp0⟩ := hp (t, b) (by simp)
      simp only at hp0
      subst hp0
      have := ih st1 (by simpa using hl) (fun e he => hp e (by simp [he]))
      cases h : takePlugs k st1 with
      | none => exact absurd h this
      | some r => simp [takePlugs, h]

theorem listEq_true_takePlugs (n : Nat) (st : Stack) (vals : List NPat)
    (h : listEqF n (pyList (st.take vals.length)) (vals.map .pat) = some true) :
    takePlugs vals.length st ≠ none := by
  simp only [listEqF] at h
  split at h
  · simp at h
  · rename_i hlen
    simp only [bne_iff_ne, ne_eq, Decidable.not_not, pyList, List.length_reverse, List.length_map,
      List.length_take] at hlen
    have hpats := go_true_pats n _ vals (by simp [pyList, hlen]) h
    apply takePlugs_of_pats _ _ (by omega)
    intro e he
    exact hpats e.1 (by simp only [pyList, List.mem_reverse, List.mem_map]; exact ⟨e, he, rfl⟩)

theorem instantiate_noplugs (n : Nat) (s : PySt) (a : Proved) (δ : List (Nat × NPat)) (e : TTerm)
    (f : Bool) (st : Stack) (hs : s.stack = (e, f) :: st) (hδ : δ ≠ [])
    (htp : takePlugs δ.length st = none) (x : PySt × Proved) :
    Stateful.instantiate n s a δ ≠ some (some x) := by
  intro h
  have hK : ¬ δ.length = 0 := fun h => hδ (List.eq_nil_of_length_eq_zero h)
  have hvl : (deltaValues δ).length = δ.length := by simp [deltaValues]
  simp only [Stateful.instantiate, unpackLast1, hs, bne_iff_ne, ne_eq, hK, not_false_eq_true, if_true,
    sliceFromNeg, if_false] at h
  cases h1 : teqF n e (ofProved a) with
  | none => simp [fuel, h1] at h
  | some b1 =>
    cases h2 : listEqF n (pyList (st.take δ.length)) ((deltaValues δ).map .pat) with
    | none => cases b1 <;> simp [fuel, h1, h2, assert_, raise] at h
    | some b2 =>
      cases b2 with
      | false => cases b1 <;> simp [fuel, h1, h2, assert_, raise] at h
      | true =>
        rw [← hvl] at h2
        exact listEq_true_takePlugs n st _ h2 (by rw [hvl]; exact htp)

theorem instantiate_pattern_noplugs (n : Nat) (s : PySt) (a : NPat) (δ : List (Nat × NPat)) (e : TTerm)
    (f : Bool) (st : Stack) (hs : s.stack = (e, f) :: st) (hδ : δ ≠ [])
    (htp : takePlugs δ.length st = none) (x : PySt × NPat) :
    Stateful.instantiate_pattern n s a δ ≠ some (some x) := by
  intro h
  have hK : ¬ δ.length = 0 := fun h => hδ (List.eq_nil_of_length_eq_zero h)
  have hvl : (deltaValues δ).length = δ.length := by simp [deltaValues]
  simp only [Stateful.instantiate_pattern, unpackLast1, hs, bne_iff_ne, ne_eq, hK, not_false_eq_true, if_true,
    sliceFromNeg, if_false] at h
  cases h1 : teqF n e (.pat a) with
  | none => simp [fuel, h1] at h
  | some b1 =>
    cases h2 : listEqF n (pyList (st.take δ.length)) ((deltaValues δ).map .pat) with
    | none => cases b1 <;> simp [fuel, h1, h2, assert_, raise] at h
    | some b2 =>
      cases b2 with
      | false => cases b1 <;> simp [fuel, h1, h2, assert_, raise] at h
      | true =>
        rw [← hvl] at h2
        exact listEq_true_takePlugs n st _ h2 (by rw [hvl]; exact htp)

/-! ## the whole interface at once

`pyCall n s c`: the translated `StatefulInterpreter` method for the call `c`, invoked with the
arguments the modelled calling convention prescribes — the very terms on the stack of `s`; `none`
when the stack does not hold terms of the types the method's signature demands (then no well-typed
call with the stack's terms exists; the harness refuses such calls, DESIGN.md C04).  The results
are brought to the model's form: the returned value is dropped (it is the new top, see `*_tie`),
the ghost residue mark of `publish_*` and the serializer's symbol table of `symbol` are added. -/

def dropRet {α} (r : Py (PySt × α)) : Py PySt := r.map (Option.map Prod.fst)

def pyCall (n : Nat) (s : PySt) : Call → Option (Py PySt)
  | .evar x => some (dropRet (Stateful.evar s x))
  | .svar x => some (dropRet (Stateful.svar s x))
  | .symbol nm => some ((dropRet (Stateful.symbol s nm)).map (Option.map fun s' =>
      { s' with symtab := if s.symtab.contains nm then s.symtab else s.symtab ++ [nm] }))
  | .metavar id ef sf ps ns hs => some (dropRet (Stateful.metavar s id ef sf ps ns hs))
  | .implies => match s.stack with
      | (.pat r, _) :: (.pat l, _) :: _ => some (dropRet (Stateful.implies n s l r))
      | _ => none
  | .app => match s.stack with
      | (.pat r, _) :: (.pat l, _) :: _ => some (dropRet (Stateful.app n s l r))
      | _ => none
  | .ex x => match s.stack with
      | (.pat p, _) :: _ => some (dropRet (Stateful.«exists» n s x p))
      | _ => none
  | .mu x => match s.stack with
      | (.pat p, _) :: _ => some (dropRet (Stateful.mu n s x p))
      | _ => none
  | .esubst x => match s.stack with
      | (.pat p, _) :: (.pat plug, _) :: _ =>
          if p.isMetaHead then some (dropRet (Stateful.esubst n s x p plug)) else none
      | _ => none
  | .ssubst x => match s.stack with
      | (.pat p, _) :: (.pat plug, _) :: _ =>
          if p.isMetaHead then some (dropRet (Stateful.ssubst n s x p plug)) else none
      | _ => none
  | .prop1 => some (dropRet (Stateful.prop1 s))
  | .prop2 => some (dropRet (Stateful.prop2 s))
  | .prop3 => some (dropRet (Stateful.prop3 s))
  | .quantifier => some (dropRet (Stateful.exists_quantifier s))
  | .mp => match s.stack with
      | (.proved r, _) :: (.proved l, _) :: _ => some (dropRet (Stateful.modus_ponens n s ⟨l⟩ ⟨r⟩))
      | _ => none
  | .gen x => match s.stack with
      | (.proved a, _) :: _ => some (dropRet (Stateful.exists_generalization n s ⟨a⟩ x))
      | _ => none
  | .instantiate keys => match s.stack with
      | (.proved a, _) :: st =>
          match takePlugs keys.length st with
          | some (plugs, _) => some (dropRet (Stateful.instantiate n s ⟨a⟩ (keys.zip plugs)))
          | none => none
      | _ => none
  | .instantiatePattern keys => match s.stack with
      | (.pat a, _) :: st =>
          match takePlugs keys.length st with
          | some (plugs, _) => some (dropRet (Stateful.instantiate_pattern n s a (keys.zip plugs)))
          | none => none
      | _ => none
  | .pop => match s.stack with
      | (t, _) :: _ => some (Stateful.pop n s t)
      | [] => none
  | .save => match s.stack with
      | (t, _) :: _ => some (Stateful.save n s 0 t)      -- the `id: str` argument is not used
      | [] => none
  | .load t => some (Stateful.load n s 0 t)
  | .publishProof => match s.stack with
      | (.proved t, _) :: _ => some ((Stateful.publish_proof n s ⟨t⟩).map (Option.map markTop))
      | _ => none
  | .publishAxiom => match s.stack with
      | (.pat a, _) :: _ => some ((Stateful.publish_axiom n s a).map (Option.map markTop))
      | _ => none
  | .publishClaim => match s.stack with
      | (.pat a, _) :: _ => some ((Stateful.publish_claim n s a).map (Option.map fun _ => markTop s))
      | _ => none
  | .intoClaim => some (Stateful.into_claim_phase s)
  | .intoProof => some (Stateful.into_proof_phase s)

/-- every stack entry is well-shaped (part of the invariant `ShapeSt` of `Pi2.TrackerThm`) -/
def ShapeStack (s : PySt) : Prop := ∀ e ∈ s.stack, e.1.body.Shape = true

/-- the fuel `n` suffices to compare every stack entry with itself -/
def SelfEq (n : Nat) (s : PySt) : Prop := ∀ e ∈ s.stack, teqF n e.1 e.1 ≠ none

theorem dropRet_withTopPat (r : Py PySt) : dropRet (withTopPat r) = r := by
  rcases r with _ | _ | _ <;> rfl
theorem dropRet_withTopProved (r : Py PySt) : dropRet (withTopProved r) = r := by
  rcases r with _ | _ | _ <;> rfl
theorem dropRet_chk {α} (n : Nat) (t : TTerm) (k : Py (PySt × α)) :
    dropRet (chk n t k) = chk n t (dropRet k) := by
  unfold chk; cases teqF n t t <;> rfl
theorem dropRet_chkL {α} (n : Nat) (l : List TTerm) (k : Py (PySt × α)) :
    dropRet (chkL n l k) = chkL n l (dropRet k) := by
  unfold chkL; cases listEqF n l l <;> rfl

theorem chk_sound {α} {n : Nat} {t : TTerm} {k : Py α} {r : Option α} (h : chk n t k = some r) :
    k = some r := by
  unfold chk at h; cases h' : teqF n t t <;> simp_all
theorem chkL_sound {α} {n : Nat} {l : List TTerm} {k : Py α} {r : Option α} (h : chkL n l k = some r) :
    k = some r := by
  unfold chkL at h; cases h' : listEqF n l l <;> simp_all
theorem chk_defined {α} {n : Nat} {t : TTerm} (k : Py α) (h : teqF n t t ≠ none) : chk n t k = k := by
  unfold chk; cases h' : teqF n t t <;> simp_all
theorem chkL_defined {α} {n : Nat} {l : List TTerm} (k : Py α) (h : ∀ t ∈ l, teqF n t t ≠ none)
    (hl : ∀ t ∈ l, t.body.Shape = true) : chkL n l k = k := by
  have : listEqF n l l = some true := by
    simp only [listEqF, bne_self_eq_false, Bool.false_eq_true, if_false]
    induction l with
    | nil => rfl
    | cons x xs ih =>
      have hx : teqF n x x = some true := by
        cases hx : teqF n x x with
        | none => exact absurd hx (h x (by simp))
        | some b => rw [teqF_refl n x b (hl x (by simp)) hx]
      simp only [listEqF.go, hx, Option.bind_eq_bind, Option.bind_some, if_true]
      exact ih (fun t ht => h t (List.mem_cons_of_mem _ ht)) (fun t ht => hl t (List.mem_cons_of_mem _ ht))
  simp [chkL, this]
theorem call_chk_sound {n : Nat} {t : TTerm} {x : Py PySt} {r : Option PySt}
    (h : (call x fun s' => chk n t (ret s')) = some r) : x = some r := by
  rcases x with _ | _ | s'
  · cases h
  · simpa [call] using h
  · simp only [call] at h
    have := chk_sound h
    simpa [ret] using this
theorem call_chk_defined {n : Nat} {t : TTerm} (x : Py PySt) (h : teqF n t t ≠ none) :
    (call x fun s' => chk n t (ret s')) = x := by
  rcases x with _ | _ | s'
  · rfl
  · rfl
  · simp only [call, chk_defined _ h]; rfl

theorem plugs_on_stack {k : Nat} {st st' : Stack} {plugs : List NPat}
    (h : takePlugs k st = some (plugs, st')) : ∀ p ∈ plugs, ∃ b, (TTerm.pat p, b) ∈ st := by
  intro p hp
  obtain ⟨_, hsl, _⟩ := takePlugs_slices _ _ _ _ h
  have : TTerm.pat p ∈ pyList (st.take k) := by rw [hsl]; exact List.mem_map.mpr ⟨p, hp, rfl⟩
  simp only [pyList, List.mem_reverse, List.mem_map] at this
  obtain ⟨⟨t, b⟩, he, rfl⟩ := this
  exact ⟨b, List.mem_of_mem_take he⟩

theorem shape_top {s : PySt} (hsh : ShapeStack s) {t : TTerm} {f : Bool} {st : Stack}
    (hs : s.stack = (t, f) :: st) : t.body.Shape = true := hsh (t, f) (by rw [hs]; simp)
theorem shape_snd {s : PySt} (hsh : ShapeStack s) {t u : TTerm} {f g : Bool} {st : Stack}
    (hs : s.stack = (t, f) :: (u, g) :: st) : u.body.Shape = true := hsh (u, g) (by rw [hs]; simp)
theorem shape_plugs {s : PySt} (hsh : ShapeStack s) {t : TTerm} {f : Bool} {st st' : Stack} {k : Nat}
    {plugs : List NPat} (hs : s.stack = (t, f) :: st) (h : takePlugs k st = some (plugs, st')) :
    ∀ p ∈ plugs, p.Shape = true := by
  intro p hp
  obtain ⟨b, hb⟩ := plugs_on_stack h p hp
  exact hsh (.pat p, b) (by rw [hs]; exact List.mem_cons_of_mem _ hb)

/-- `Costs n s g x`: the translated method's answer `g` is the model's answer `x` preceded (or, for
`publish_*`, followed) by reflexive comparisons `t == t` of entries `t` of the stack of `s` -/
inductive Costs (n : Nat) (s : PySt) : Py PySt → Py PySt → Prop
  | done (x : Py PySt) : Costs n s x x
  | chk (t : TTerm) (h : ∃ f, (t, f) ∈ s.stack) {g x : Py PySt} : Costs n s g x → Costs n s (chk n t g) x
  | chkL (l : List TTerm) (h : ∀ t ∈ l, ∃ f, (t, f) ∈ s.stack) {g x : Py PySt} :
      Costs n s g x → Costs n s (chkL n l g) x
  | after (t : TTerm) (h : ∃ f, (t, f) ∈ s.stack) (x : Py PySt) :
      Costs n s (call x fun s' => InterpTie.chk n t (ret s')) x

theorem Costs.sound {n : Nat} {s : PySt} {g x : Py PySt} (h : Costs n s g x) :
    ∀ r, g = some r → x = some r := by
  induction h with
  | done x => exact fun _ h => h
  | chk t _ _ ih => exact fun r h => ih r (chk_sound h)
  | chkL l _ _ ih => exact fun r h => ih r (chkL_sound h)
  | after t _ x => exact fun r h => call_chk_sound h

theorem Costs.exact {n : Nat} {s : PySt} {g x : Py PySt} (h : Costs n s g x) (hsh : ShapeStack s)
    (hse : SelfEq n s) : g = x := by
  induction h with
  | done x => rfl
  | chk t ht _ ih => obtain ⟨f, hf⟩ := ht; rw [chk_defined _ (hse _ hf), ih]
  | chkL l hl _ ih =>
    rw [chkL_defined _ (fun t ht => by obtain ⟨f, hf⟩ := hl t ht; exact hse _ hf)
      (fun t ht => by obtain ⟨f, hf⟩ := hl t ht; exact hsh _ hf), ih]
  | after t ht x => obtain ⟨f, hf⟩ := ht; exact call_chk_defined x (hse _ hf)

/-- the translated method, called with the stack's own terms, is the model's `track1` up to the
reflexive comparisons of the `assert expected == arg` statements -/
theorem Costs.top {n : Nat} {s : PySt} {t : TTerm} {f : Bool} {st : Stack} {g x : Py PySt}
    (hs : s.stack = (t, f) :: st) (h : Costs n s g x) : Costs n s (InterpTie.chk n t g) x :=
  .chk t ⟨f, by rw [hs]; simp⟩ h
theorem Costs.snd {n : Nat} {s : PySt} {e : TTerm × Bool} {t : TTerm} {f : Bool} {st : Stack} {g x : Py PySt}
    (hs : s.stack = e :: (t, f) :: st) (h : Costs n s g x) : Costs n s (InterpTie.chk n t g) x :=
  .chk t ⟨f, by rw [hs]; simp⟩ h

theorem pyCall_costs (n : Nat) (s : PySt) (c : Call) (g : Py PySt)
    (hsh : ShapeStack s) (hg : pyCall n s c = some g) : Costs n s g (track1 n s c) := by
  cases c <;> dsimp only [pyCall] at hg
  case evar x => cases hg; exact .done _
  case svar x => cases hg; exact .done _
  case symbol nm => cases hg; exact .done _
  case metavar => cases hg; exact .done _
  case prop1 => cases hg; exact .done _
  case prop2 => cases hg; exact .done _
  case prop3 => cases hg; exact .done _
  case quantifier => cases hg; exact .done _
  case load t => cases hg; rw [load_tie n s 0 t]; exact .done _
  case intoClaim => cases hg; rw [into_claim_phase_tie n s]; exact .done _
  case intoProof => cases hg; rw [into_proof_phase_tie n s]; exact .done _
  case implies =>
    split at hg
    next r' fr l' fl st hs =>
      cases hg
      rw [implies_tie n s _ _ _ _ _ hs (shape_snd hsh hs) (shape_top hsh hs), dropRet_chk, dropRet_chk,
        dropRet_withTopPat]
      exact .snd hs (.top hs (.done _))
    next => cases hg
  case app =>
    split at hg
    next r' fr l' fl st hs =>
      cases hg
      rw [app_tie n s _ _ _ _ _ hs (shape_snd hsh hs) (shape_top hsh hs), dropRet_chk, dropRet_chk,
        dropRet_withTopPat]
      exact .snd hs (.top hs (.done _))
    next => cases hg
  case ex x =>
    split at hg
    next p f st hs =>
      cases hg
      rw [exists_tie n s x _ _ _ hs (shape_top hsh hs), dropRet_chk, dropRet_withTopPat]
      exact .top hs (.done _)
    next => cases hg
  case mu x =>
    split at hg
    next p f st hs =>
      cases hg
      rw [mu_tie n s x _ _ _ hs (shape_top hsh hs), dropRet_chk, dropRet_withTopPat]
      exact .top hs (.done _)
    next => cases hg
  case esubst x =>
    split at hg
    next p f1 plug f2 st hs =>
      split at hg
      next hm =>
        cases hg
        rw [esubst_tie n s x _ _ _ _ _ hs (shape_top hsh hs) (shape_snd hsh hs) hm, dropRet_chk,
          dropRet_chk, dropRet_withTopPat]
        exact .top hs (.snd hs (.done _))
      next => cases hg
    next => cases hg
  case ssubst x =>
    split at hg
    next p f1 plug f2 st hs =>
      split at hg
      next hm =>
        cases hg
        rw [ssubst_tie n s x _ _ _ _ _ hs (shape_top hsh hs) (shape_snd hsh hs) hm, dropRet_chk,
          dropRet_chk, dropRet_withTopPat]
        exact .top hs (.snd hs (.done _))
      next => cases hg
    next => cases hg
  case mp =>
    split at hg
    next r' fr l' fl st hs =>
      cases hg
      rw [modus_ponens_tie n s _ _ _ _ _ hs (shape_snd hsh hs) (shape_top hsh hs), dropRet_chk,
        dropRet_chk, dropRet_withTopProved]
      exact .snd hs (.top hs (.done _))
    next => cases hg
  case gen x =>
    split at hg
    next a f st hs =>
      cases hg
      rw [exists_generalization_tie n s _ x _ _ hs (shape_top hsh hs), dropRet_chk,
        dropRet_withTopProved]
      exact .top hs (.done _)
    next => cases hg
  case instantiate keys =>
    split at hg
    next a f st hs =>
      split at hg
      next plugs st' htp =>
        cases hg
        rw [instantiate_tie n s _ _ _ _ _ _ hs htp (shape_top hsh hs) (shape_plugs hsh hs htp),
          dropRet_chk, dropRet_chkL, dropRet_withTopProved]
        refine .top hs (.chkL _ ?_ (.done _))
        intro t ht
        obtain ⟨p, hp, rfl⟩ := List.mem_map.mp ht
        obtain ⟨b, hb⟩ := plugs_on_stack htp p hp
        exact ⟨b, by rw [hs]; exact List.mem_cons_of_mem _ hb⟩
      next => cases hg
    next => cases hg
  case instantiatePattern keys =>
    split at hg
    next a f st hs =>
      split at hg
      next plugs st' htp =>
        cases hg
        rw [instantiate_pattern_tie n s _ _ _ _ _ _ hs htp (shape_top hsh hs) (shape_plugs hsh hs htp),
          dropRet_chk, dropRet_chkL, dropRet_withTopPat]
        refine .top hs (.chkL _ ?_ (.done _))
        intro t ht
        obtain ⟨p, hp, rfl⟩ := List.mem_map.mp ht
        obtain ⟨b, hb⟩ := plugs_on_stack htp p hp
        exact ⟨b, by rw [hs]; exact List.mem_cons_of_mem _ hb⟩
      next => cases hg
    next => cases hg
  case pop =>
    split at hg
    next t f st hs =>
      cases hg
      rw [pop_tie n s _ _ _ hs (shape_top hsh hs)]
      exact .top hs (.done _)
    next => cases hg
  case save =>
    split at hg
    next t f st hs =>
      cases hg
      rw [save_tie n s 0 _ _ _ hs (shape_top hsh hs)]
      exact .top hs (.done _)
    next => cases hg
  case publishProof =>
    split at hg
    next t f st hs =>
      cases hg
      rw [publish_proof_tie n s _ _ _ hs (shape_top hsh hs)]
      exact .after _ ⟨f, by rw [hs]; simp⟩ _
    next => cases hg
  case publishAxiom =>
    split at hg
    next t f st hs =>
      cases hg
      rw [publish_axiom_tie n s _ _ _ hs (shape_top hsh hs)]
      exact .after _ ⟨f, by rw [hs]; simp⟩ _
    next => cases hg
  case publishClaim =>
    split at hg
    next t f st hs =>
      cases hg
      rw [publish_claim_tie n s _ _ _ hs (shape_top hsh hs)]
      exact .after _ ⟨f, by rw [hs]; simp⟩ _
    next => cases hg

/-- **(a)** whatever the Python tracker answers for a call made with the stack's own terms — a new
state or an exception — is the model's answer, at the same fuel -/
theorem pyCall_sound (n : Nat) (s : PySt) (c : Call) (g : Py PySt) (r : Option PySt)
    (hsh : ShapeStack s) (hg : pyCall n s c = some g) (hr : g = some r) : track1 n s c = some r :=
  (pyCall_costs n s c g hsh hg).sound r hr

/-- **(b)** at a fuel that suffices to compare the stack entries with themselves the two coincide
(also on "out of fuel") -/
theorem pyCall_exact (n : Nat) (s : PySt) (c : Call) (g : Py PySt)
    (hsh : ShapeStack s) (hse : SelfEq n s) (hg : pyCall n s c = some g) : g = track1 n s c :=
  (pyCall_costs n s c g hsh hg).exact hsh hse

/-- **(b')** an answer of the model is the Python tracker's answer at every larger fuel that
suffices for the reflexive comparisons -/
theorem pyCall_complete (n m : Nat) (s : PySt) (c : Call) (g : Py PySt) (r : Option PySt)
    (hsh : ShapeStack s) (ht : track1 n s c = some r) (hnm : n ≤ m) (hse : SelfEq m s)
    (hg : pyCall m s c = some g) : g = some r := by
  rw [pyCall_exact m s c g hsh hse hg]
  exact PySt.track1_mono hnm s c r ht

/-- **(c)** when the stack does not hold arguments of the types the method's signature demands, the
model refuses the call -/
theorem pyCall_none (n : Nat) (s : PySt) (c : Call) (h : pyCall n s c = none) :
    track1 n s c = some none := by
  cases c <;> dsimp only [pyCall] at h <;> dsimp only [track1] <;> first | cases h | skip
  case implies | app | mp =>
    split at h
    · cases h
    · rename_i hx
      split
      · rename_i hs; exact (hx _ _ _ _ _ hs).elim
      · rfl
  case ex | mu | gen =>
    split at h
    · cases h
    · rename_i hx
      split
      · rename_i hs; exact (hx _ _ _ hs).elim
      · rfl
  case esubst | ssubst =>
    split at h
    · rename_i hs
      simp only [hs]
      split at h
      · cases h
      · rename_i hm; simp only [hm]; rfl
    · rename_i hx
      split
      · rename_i hs; exact (hx _ _ _ _ _ hs).elim
      · rfl
  case instantiate keys =>
    split at h
    · rename_i hs
      simp only [hs]
      split at h
      · cases h
      · rename_i htp
        simp only [htp]
        split
        · rename_i hk
          rw [List.isEmpty_iff.mp hk] at htp
          simp [takePlugs] at htp
        · rfl
    · rename_i hx
      split
      · rename_i hs; exact (hx _ _ _ hs).elim
      · rfl
  case instantiatePattern keys =>
    split at h
    · rename_i hs
      simp only [hs]
      split at h
      · cases h
      · rename_i htp
        simp only [htp]
    · rename_i hx
      split
      · rename_i hs; exact (hx _ _ _ hs).elim
      · rfl
  case pop | save =>
    split at h
    · cases h
    · rename_i hs; simp only [hs]
  case publishProof =>
    split at h
    · cases h
    · rename_i hx
      split
      · rename_i hs _; exact (hx _ _ _ hs).elim
      · rfl
  case publishAxiom | publishClaim =>
    split at h
    · cases h
    · rename_i hx
      split
      · rename_i hs; exact (hx _ _ _ hs).elim
      · rfl

/-! ## the one difference on the modelled interface: the API typing of `esubst` / `ssubst`

Python does not check `pattern: MetaVar | ESubst | SSubst` at run time; the model refuses such a
call (`Tracker.lean`: "the harness refuses ill-typed calls").  Concretely, with `EVar(0)` on top of
`EVar(1)`, `esubst(0, EVar(0), EVar(1))` succeeds in Python and raises in the model. -/
def esubstWitness : PySt :=
  { phase := .gamma, stack := [(.pat (.evar 0), false), (.pat (.evar 1), false)], memory := [], claims := [],
    symtab := [] }

theorem esubst_untyped :
    track1 2 esubstWitness (.esubst 0) = some none ∧
    Stateful.esubst 2 esubstWitness 0 (.evar 0) (.evar 1)
      = some (some ({ esubstWitness with stack := [(.pat (.esub (.evar 0) 0 (.evar 1)), false)] },
          .esub (.evar 0) 0 (.evar 1))) :=
  ⟨rfl, rfl⟩

end InterpTie

#print axioms InterpTie.translated
#print axioms InterpTie.modus_ponens_eq
#print axioms InterpTie.exists_generalization_eq
#print axioms InterpTie.instantiate_eq
#print axioms InterpTie.implies_tie
#print axioms InterpTie.esubst_tie
#print axioms InterpTie.modus_ponens_tie
#print axioms InterpTie.exists_generalization_tie
#print axioms InterpTie.instantiate_tie
#print axioms InterpTie.instantiate_pattern_tie
#print axioms InterpTie.load_tie
#print axioms InterpTie.publish_proof_tie
#print axioms InterpTie.publish_axiom_tie
#print axioms InterpTie.modus_ponens_mismatch
#print axioms InterpTie.instantiate_mismatch
#print axioms InterpTie.instantiate_noplugs
#print axioms InterpTie.pyCall_costs
#print axioms InterpTie.pyCall_sound
#print axioms InterpTie.pyCall_exact
#print axioms InterpTie.pyCall_complete
#print axioms InterpTie.pyCall_none
#print axioms InterpTie.esubst_untyped
