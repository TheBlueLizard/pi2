import Pi2.PrettyOperands
/-!
# The operands of a pretty `MetaVar` step, read back from its text

`Pi2/PrettyOperands.lean` reads the operand of every step line back from its text, except for `metavar`, where only
one block (`readBlock (blockBody …)`) was proved.  Here the whole text of a `metavar` step is read back:

* `PrettyPrintingInterpreter.metavar` writes `MetaVar `, the id, and then — WITHOUT a separator after the id — one
  block `name, len=k i1 i2 … \n` per NON-EMPTY constraint list; an empty list is omitted altogether
  (`write_list` returns at once).  So the text after `MetaVar ` is the decimal of the id, immediately followed by the
  name of the first non-empty list (if any); the blocks are closed by newlines.
* the reader `readMetaVar` takes the leading digits of the first line as the id (the five list names start with the
  letters `e`, `s`, `p`, `n`, `a`, no digit, so the decimal never runs into the name), splits at `'\n'`, drops the
  empty piece after the last newline, reads each block, and answers `[]` for a name without a block.
* `readMetaVar_prettyMetaVarText`: for ALL ids and ALL five lists (empty ones included) the reader gives back the id
  and the five lists.  Hence the text determines the call (`prettyMetaVarText_inj`): the format is injective, there is
  no pair of different `MetaVar` calls with the same text.
* the `len=k` field: `readLen` reads it, `readLen_body` says it is the length of the list;
  `readBlockChecked` / `readMetaVarChecked` / `readOperandChecked` are the readers that REFUSE a block whose `len=` field
  is not the number of its items, and the same theorems hold for them.
-/
open PyI PyP Gen.PyPretty PySt
set_option linter.unusedVariables false

namespace PrettyOperands
open PrettyTie

/-! ## splitting a text whose pieces are closed by `c` -/

theorem splitAtChar_prefix (c : Char) (a x h : List Char) (t : List (List Char)) (ha : c ∉ a)
    (hx : splitAtChar c x = h :: t) : splitAtChar c (a ++ x) = (a ++ h) :: t := by
  induction a with
  | nil => simpa using hx
  | cons y r ih =>
    simp only [List.mem_cons, not_or] at ha
    have hy : ¬ y = c := fun e => ha.1 e.symm
    simp [splitAtChar, hy, ih ha.2]

/-- pieces without `c`, each closed by `c`: splitting gives the pieces back, and one empty piece after the last `c` -/
theorem split_lines (c : Char) (L : List (List Char)) (hL : ∀ b ∈ L, c ∉ b) :
    splitAtChar c (L.flatMap (· ++ [c])) = L ++ [[]] := by
  induction L with
  | nil => rfl
  | cons b r ih =>
    have hb := hL b (by simp)
    have hr : ∀ b ∈ r, c ∉ b := fun b' h' => hL b' (by simp [h'])
    simp only [List.flatMap_cons, List.append_assoc, List.cons_append, List.nil_append]
    rw [splitAtChar_append _ _ _ hb, ih hr]

/-- digits followed by something that does not begin with a digit: `takeWhile` / `dropWhile` cut exactly there -/
theorem takeWhile_digits (d h : List Char) (hd : ∀ c ∈ d, c.isDigit = true)
    (hh : ∀ c ∈ h.head?, c.isDigit = false) :
    (d ++ h).takeWhile Char.isDigit = d ∧ (d ++ h).dropWhile Char.isDigit = h := by
  induction d with
  | nil =>
    cases h with
    | nil => simp
    | cons x r =>
      have : x.isDigit = false := hh x (by simp)
      simp [this]
  | cons y r ih =>
    have hy := hd y (by simp)
    have := ih (fun c hc => hd c (by simp [hc]))
    simp [hy, this.1, this.2]

/-! ## the reader, with the block reader as a parameter -/

/-- `readMetaVar` with the reader of one block as a parameter -/
def readMetaVarWith (rb : List Char → Option (List Char × List Nat)) (t : List Char) : Option Operand :=
  match splitAtChar '\n' t with
  | [] => none
  | l0 :: ls =>
    match readNat (l0.takeWhile Char.isDigit),
        ((l0.dropWhile Char.isDigit :: ls).filter fun l => !l.isEmpty).mapM rb with
    | some id, some bs =>
      let get := fun (nm : String) => (bs.lookup nm.toList).getD []
      some (.lists id (get "eFresh") (get "sFresh") (get "pos") (get "neg") (get "appctx"))
    | _, _ => none

theorem readMetaVar_eq_with : readMetaVar = readMetaVarWith readBlock := rfl

/-- a block to be written: the one-letter prefix of the items, the name, the list -/
abbrev Spec := Char × List Char × List Nat

/-- the block without its newline -/
def Spec.body (s : Spec) : List Char := blockBody s.1 s.2.1 s.2.2

/-- what the reader needs of prefix and name: no space, no newline, the name does not begin with a digit -/
def Spec.good (s : Spec) : Prop :=
  s.1 ≠ ' ' ∧ s.1 ≠ '\n' ∧ ' ' ∉ s.2.1 ∧ '\n' ∉ s.2.1 ∧ s.2.1.head?.all (fun c => !c.isDigit) = true

/-- the blocks that are written: those of the non-empty lists -/
def present (specs : List Spec) : List Spec := specs.filter fun s => !s.2.2.isEmpty

/-- the blocks as text: each present block and a newline -/
def specsText (specs : List Spec) : List Char := ((present specs).map Spec.body).flatMap (· ++ ['\n'])

theorem nl_not_mem_body (s : Spec) (hg : s.good) : '\n' ∉ s.body := by
  obtain ⟨_, h2, _, h4, _⟩ := hg
  have hl : '\n' ∉ (strNat s.2.2.length).toList := not_mem_strNat '\n' (by decide) _
  have hlen : '\n' ∉ "len=".toList := by decide
  simp only [Spec.body, blockBody, List.mem_append, List.mem_cons, List.mem_flatMap, not_or, not_exists, not_and,
    List.not_mem_nil, or_false]
  refine ⟨⟨h4, by decide⟩, by decide, ⟨hlen, hl⟩, by decide, ?_⟩
  intro i _
  exact ⟨⟨fun e => h2 e.symm, not_mem_strNat '\n' (by decide) i⟩, by decide⟩

theorem body_nonempty (s : Spec) : s.body.isEmpty = false := by
  obtain ⟨pc, nm, l⟩ := s
  cases nm <;> rfl

theorem body_head (s : Spec) (hg : s.good) : ∀ c ∈ s.body.head?, c.isDigit = false := by
  obtain ⟨pc, nm, l⟩ := s
  obtain ⟨_, _, _, _, h5⟩ := hg
  cases nm with
  | nil =>
    intro c hc
    have : c = ',' := by simpa [Spec.body, blockBody] using hc.symm
    subst this; decide
  | cons x r =>
    intro c hc
    have : c = x := by simpa [Spec.body, blockBody] using hc.symm
    subst this
    simpa using h5

theorem mapM_bodies (rb : List Char → Option (List Char × List Nat))
    (hrb : ∀ pc nm l, pc ≠ ' ' → ' ' ∉ nm → rb (blockBody pc nm l) = some (nm, l))
    (P : List Spec) (hg : ∀ s ∈ P, s.good) :
    (P.map Spec.body).mapM rb = some (P.map fun s => (s.2.1, s.2.2)) := by
  induction P with
  | nil => rfl
  | cons s r ih =>
    have hs := hg s (by simp)
    have := ih (fun s' h' => hg s' (by simp [h']))
    simp [List.mapM_cons, Spec.body, hrb s.1 s.2.1 s.2.2 hs.1 hs.2.2.1, this]

theorem filter_bodies (P : List Spec) :
    ((P.map Spec.body) ++ [[]]).filter (fun l => !l.isEmpty) = P.map Spec.body := by
  rw [List.filter_append]
  have : (P.map Spec.body).filter (fun l => !l.isEmpty) = P.map Spec.body := by
    rw [List.filter_eq_self]
    intro b hb
    obtain ⟨s, _, rfl⟩ := List.mem_map.mp hb
    simp [body_nonempty s]
  rw [this]
  simp

/-- **the text of the id and the blocks, read back** (any block reader that reads `blockBody` back; any blocks whose
prefixes and names are `good`): the id, and under each name the list of the FIRST present block of that name -/
theorem readMetaVarWith_text (rb : List Char → Option (List Char × List Nat))
    (hrb : ∀ pc nm l, pc ≠ ' ' → ' ' ∉ nm → rb (blockBody pc nm l) = some (nm, l))
    (id : Nat) (specs : List Spec) (hg : ∀ s ∈ specs, s.good) :
    readMetaVarWith rb ((strNat id).toList ++ specsText specs) =
      some (.lists id
        ((((present specs).map fun s => (s.2.1, s.2.2)).lookup "eFresh".toList).getD [])
        ((((present specs).map fun s => (s.2.1, s.2.2)).lookup "sFresh".toList).getD [])
        ((((present specs).map fun s => (s.2.1, s.2.2)).lookup "pos".toList).getD [])
        ((((present specs).map fun s => (s.2.1, s.2.2)).lookup "neg".toList).getD [])
        ((((present specs).map fun s => (s.2.1, s.2.2)).lookup "appctx".toList).getD [])) := by
  have hgP : ∀ s ∈ present specs, s.good := fun s hs => hg s (List.mem_filter.mp hs).1
  have hnl : ∀ b ∈ (present specs).map Spec.body, '\n' ∉ b := by
    intro b hb
    obtain ⟨s, hs, rfl⟩ := List.mem_map.mp hb
    exact nl_not_mem_body s (hgP s hs)
  have hsplit := split_lines '\n' _ hnl
  have hdig : '\n' ∉ (strNat id).toList := not_mem_strNat '\n' (by decide) id
  have hM := mapM_bodies rb hrb (present specs) hgP
  have hF := filter_bodies (present specs)
  unfold readMetaVarWith specsText
  cases hP : present specs with
  | nil =>
    rw [hP] at hsplit
    simp only [List.map_nil, List.nil_append] at hsplit ⊢
    rw [splitAtChar_prefix _ _ _ _ _ hdig hsplit]
    have htd := takeWhile_digits (strNat id).toList [] (strNat_digits id) (by simp)
    simp only [htd.1, htd.2, readNat_strNat]
    simp
  | cons s r =>
    rw [hP] at hsplit hM hF
    simp only [List.map_cons, List.cons_append] at hsplit hF ⊢
    rw [splitAtChar_prefix _ _ _ _ _ hdig hsplit]
    have htd := takeWhile_digits (strNat id).toList s.body (strNat_digits id)
      (body_head s (hgP s (by simp [hP])))
    simp only [htd.1, htd.2, readNat_strNat, hF]
    simp only [List.map_cons] at hM
    simp only [hM]

/-! ## the five blocks of `prettyMetaVarText` -/

/-- the five blocks `metavar` writes, in its order -/
def specs5 (ef sf ps ns hs : List Nat) : List Spec :=
  [('x', "eFresh".toList, ef), ('X', "sFresh".toList, sf), ('X', "pos".toList, ps), ('X', "neg".toList, ns),
    ('x', "appctx".toList, hs)]

theorem good_mk (pc : Char) (nm : List Char) (l : List Nat) (h1 : pc ≠ ' ') (h2 : pc ≠ '\n') (h3 : ' ' ∉ nm)
    (h4 : '\n' ∉ nm) (h5 : nm.head?.all (fun c => !c.isDigit) = true) : Spec.good (pc, nm, l) :=
  ⟨h1, h2, h3, h4, h5⟩

theorem specs5_good (ef sf ps ns hs : List Nat) : ∀ s ∈ specs5 ef sf ps ns hs, s.good := by
  intro s h
  simp only [specs5, List.mem_cons, List.not_mem_nil, or_false] at h
  rcases h with rfl | rfl | rfl | rfl | rfl <;>
    exact good_mk _ _ _ (by decide) (by decide) (by decide) (by decide) (by decide)

theorem specsText_cons (pc : Char) (nm : List Char) (l : List Nat) (r : List Spec) :
    specsText ((pc, nm, l) :: r) = (if l.isEmpty then [] else blockBody pc nm l ++ ['\n']) ++ specsText r := by
  cases l <;> simp [specsText, present, Spec.body]

/-- a block as text, empty list included: nothing is written for an empty list -/
theorem prettyBlock_toList_all (p : String) (pc : Char) (hp : p.toList = [pc]) (nm : String) (l : List Nat) :
    (prettyBlock p nm l).toList = if l.isEmpty then [] else blockBody pc nm.toList l ++ ['\n'] := by
  cases l with
  | nil => rfl
  | cons a r =>
    rw [prettyBlock_toList p pc hp nm (a :: r) (by simp)]
    rfl

/-- the text of a `metavar` step is `MetaVar `, the decimal of the id, and the present blocks -/
theorem prettyMetaVarText_toList (id : Nat) (ef sf ps ns hs : List Nat) :
    (prettyMetaVarText id ef sf ps ns hs).toList =
      "MetaVar".toList ++ ' ' :: ((strNat id).toList ++ specsText (specs5 ef sf ps ns hs)) := by
  have e0 : ("MetaVar " : String).toList = "MetaVar".toList ++ [' '] := by decide
  have nil : specsText [] = [] := rfl
  simp only [prettyMetaVarText, String.toList_append, e0, prettyBlock_toList_all "x" 'x' rfl,
    prettyBlock_toList_all "X" 'X' rfl, specs5, specsText_cons, nil, List.append_assoc, List.append_nil,
    List.cons_append, List.nil_append]

/-- under the name of a block, the present blocks hold its list, provided the names are distinct: a present block is
the first of its name, and for an absent one (`l = []`) nothing is found -/
theorem lookup_present (specs : List Spec) (hnd : (specs.map (·.2.1)).Nodup) (pc : Char) (nm : List Char)
    (l : List Nat) (h : (pc, nm, l) ∈ specs) :
    ((((present specs).map fun s => (s.2.1, s.2.2)).lookup nm).getD []) = l := by
  induction specs with
  | nil => cases h
  | cons t r ih =>
    obtain ⟨pc', nm', l'⟩ := t
    simp only [List.map_cons, List.nodup_cons, List.mem_map, not_exists, not_and] at hnd
    rcases List.mem_cons.mp h with e | hr
    · cases e
      cases l with
      | cons a l => simp [present]
      | nil =>
        have : ((present r).map fun s => (s.2.1, s.2.2)).lookup nm = none := by
          rw [List.lookup_eq_none_iff]
          intro p hp
          obtain ⟨s, hs, rfl⟩ := List.mem_map.mp hp
          simpa using fun e => hnd.1 s (List.mem_filter.mp hs).1 e.symm
        simp only [present, List.filter_cons, List.isEmpty_nil, Bool.not_true, Bool.false_eq_true, if_false] at this ⊢
        rw [this]
        rfl
    · have hne : (nm == nm') = false := by simpa using fun e => hnd.1 _ hr e
      have := ih hnd.2 hr
      cases l' <;> simpa [present, List.lookup_cons, hne] using this

theorem specs5_names (ef sf ps ns hs : List Nat) : ((specs5 ef sf ps ns hs).map (·.2.1)).Nodup := by
  simp only [specs5, List.map_cons, List.map_nil]
  decide

/-- the text after `MetaVar `, read by any block reader that reads `blockBody` back -/
theorem readMetaVarWith_pretty (rb : List Char → Option (List Char × List Nat))
    (hrb : ∀ pc nm l, pc ≠ ' ' → ' ' ∉ nm → rb (blockBody pc nm l) = some (nm, l))
    (id : Nat) (ef sf ps ns hs : List Nat) :
    readMetaVarWith rb (afterFirst ' ' (prettyMetaVarText id ef sf ps ns hs).toList) =
      some (.lists id ef sf ps ns hs) := by
  rw [prettyMetaVarText_toList, afterFirst_append _ _ _ (by decide),
    readMetaVarWith_text rb hrb id _ (specs5_good ef sf ps ns hs)]
  have nd := specs5_names ef sf ps ns hs
  rw [lookup_present _ nd 'x' _ ef (.head _), lookup_present _ nd 'X' _ sf (.tail _ (.head _)),
    lookup_present _ nd 'X' _ ps (.tail _ (.tail _ (.head _))),
    lookup_present _ nd 'X' _ ns (.tail _ (.tail _ (.tail _ (.head _)))),
    lookup_present _ nd 'x' _ hs (.tail _ (.tail _ (.tail _ (.tail _ (.head _)))))]

/-- **the text of a `metavar` step shows the id and the five lists** — all ids, all lists, empty ones included (the
argument of `readMetaVar` is what `readOperand` hands it: the text after the first space, i.e. after `MetaVar `) -/
theorem readMetaVar_prettyMetaVarText (id : Nat) (ef sf ps ns hs : List Nat) :
    readMetaVar (afterFirst ' ' (prettyMetaVarText id ef sf ps ns hs).toList) = some (.lists id ef sf ps ns hs) := by
  rw [readMetaVar_eq_with]
  exact readMetaVarWith_pretty readBlock (fun pc nm l hpc hnm => readBlock_body pc hpc nm hnm l) id ef sf ps ns hs

/-- **the text format of `metavar` is injective**: two calls with the same text are the same call -/
theorem prettyMetaVarText_inj (id id' : Nat) (ef sf ps ns hs ef' sf' ps' ns' hs' : List Nat)
    (h : prettyMetaVarText id ef sf ps ns hs = prettyMetaVarText id' ef' sf' ps' ns' hs') :
    id = id' ∧ ef = ef' ∧ sf = sf' ∧ ps = ps' ∧ ns = ns' ∧ hs = hs' := by
  have := congrArg (fun s => readMetaVar (afterFirst ' ' s.toList)) h
  simpa [readMetaVar_prettyMetaVarText] using this

/-- **every step line shows the operand of the call** — `metavar` included -/
theorem readOperand_stepText_all (σ : Nat → String) (c : PCall) :
    readOperand (stepText σ c).toList = some (pcallOperand c) := by
  cases hc : isMetaVar c with
  | false => exact readOperand_stepText σ c hc
  | true =>
    cases c with
    | metavar id ef sf ps ns hs =>
      unfold readOperand
      rw [step_keyword σ _]
      simp [kw, pcallOperand, metavar_text, readMetaVar_prettyMetaVarText]
    | _ => simp [isMetaVar] at hc

/-! ## the `len=k` field -/

/-- the `len=k` field of a block (its second space-separated piece) -/
def readLen (l : List Char) : Option Nat :=
  match splitAtChar ' ' l with
  | _ :: ('l' :: 'e' :: 'n' :: '=' :: d) :: _ => readNat d
  | _ => none

/-- **the `len=` field of a block is the length of the list** -/
theorem readLen_body (pc : Char) (nm : List Char) (hnm : ' ' ∉ nm) (l : List Nat) :
    readLen (blockBody pc nm l) = some l.length := by
  have h1 : ' ' ∉ nm ++ [','] := by simp [hnm]
  have h2 : ' ' ∉ "len=".toList ++ (strNat l.length).toList := by
    simp only [List.mem_append, not_or]
    exact ⟨by decide, not_mem_strNat ' ' (by decide) _⟩
  unfold readLen blockBody
  rw [splitAtChar_append _ _ _ h1, splitAtChar_append _ _ _ h2]
  have : "len=".toList = ['l', 'e', 'n', '='] := rfl
  simp only [this, List.cons_append, List.nil_append, readNat_strNat]

/-- the block reader that refuses a block whose `len=` field is not the number of its items -/
def readBlockChecked (l : List Char) : Option (List Char × List Nat) :=
  match readBlock l, readLen l with
  | some (nm, is), some k => if k = is.length then some (nm, is) else none
  | _, _ => none

/-- what the checked reader accepts, the unchecked reader reads the same way, and the `len=` field is the length -/
theorem readBlockChecked_sound (l : List Char) (r : List Char × List Nat) (h : readBlockChecked l = some r) :
    readBlock l = some r ∧ readLen l = some r.2.length := by
  unfold readBlockChecked at h
  split at h
  · rename_i nm is k h1 h2
    split at h
    · rename_i hk
      simp only [Option.some.injEq] at h
      subst h
      exact ⟨h1, by rw [h2, hk]⟩
    · simp at h
  · simp at h

theorem readBlockChecked_body (pc : Char) (hpc : pc ≠ ' ') (nm : List Char) (hnm : ' ' ∉ nm) (l : List Nat) :
    readBlockChecked (blockBody pc nm l) = some (nm, l) := by
  simp [readBlockChecked, readBlock_body pc hpc nm hnm l, readLen_body pc nm hnm l]

/-- `readMetaVar` with the checked block reader -/
def readMetaVarChecked : List Char → Option Operand := readMetaVarWith readBlockChecked

/-- `readOperand` with the checked `MetaVar` reader -/
def readOperandChecked (line : List Char) : Option Operand :=
  if keywordOf line = some "MetaVar" then readMetaVarChecked (afterFirst ' ' line) else readOperand line

theorem readMetaVarChecked_prettyMetaVarText (id : Nat) (ef sf ps ns hs : List Nat) :
    readMetaVarChecked (afterFirst ' ' (prettyMetaVarText id ef sf ps ns hs).toList) =
      some (.lists id ef sf ps ns hs) :=
  readMetaVarWith_pretty readBlockChecked (fun pc nm l hpc hnm => readBlockChecked_body pc hpc nm hnm l)
    id ef sf ps ns hs

theorem readOperandChecked_stepText (σ : Nat → String) (c : PCall) :
    readOperandChecked (stepText σ c).toList = some (pcallOperand c) := by
  unfold readOperandChecked
  rw [step_keyword σ c]
  cases c with
  | metavar id ef sf ps ns hs =>
    simp [kw, pcallOperand, metavar_text, readMetaVarChecked_prettyMetaVarText]
  | _ => simp [kw, readOperand_stepText_all]

/-! the two readers on a text whose `len=` field is wrong: the unchecked reader does not look at it -/
example : readOperand "MetaVar 3eFresh, len=5 x1 x2 \n".toList = some (.lists 3 [1, 2] [] [] [] []) := by
  decide +kernel
example : readOperandChecked "MetaVar 3eFresh, len=5 x1 x2 \n".toList = none := by
  decide +kernel
example : readOperandChecked "MetaVar 3eFresh, len=2 x1 x2 \nneg, len=1 X7 \n".toList =
    some (.lists 3 [1, 2] [] [] [7] []) := by
  decide +kernel

end PrettyOperands
