import Pi2.Subst
import Pi2.RustTie
import Pi2.Gen.RustInst
/-!
# `instantiate_internal` as written in Rust is the model `Pat.instU`

`Pi2/Gen/RustInst.lean` is regenerated from `rust/src/lib.rs` on every run (translator `vlib/transinst.py`):
`Gen.Rust.instantiate_internal` / `Gen.Rust.instantiate_in_place`, arm by arm and statement by statement (outer `none` = a
panic, inner `none` = Rust `None`, "unchanged").  Here they are proved equal to the hand-written model `Pat.instU` (which
`Pi2/InstUThm.lean` relates to `Pat.inst`, the function of the soundness theorems), on ALL inputs.

The Rust text and the model order the panics of the `MetaVar` arm differently (Rust: `plugs[pos]` inside the `find` closures
panics out of bounds as soon as one constraint list is non-empty, the explicit `pos >= plugs.len()` test comes last; model:
bounds first, then `okPlug`).  Both are panics, so the literal equation holds; the proof of the `mv` case is where this is
checked (`findP_oob`: with all four lists empty the closures never run and the explicit test fires).
-/
namespace RustInstTie
open Pat

theorem instTranslated : Gen.Rust.instTranslated = true := by decide

/-! ## `.find(..)` -/

/-- a closure that cannot panic: `find` is `List.find?` -/
theorem findP_pure {α : Type} (f : α → Bool) (l : List α) :
    Gen.Rust.findP (fun v => some (!(f v))) l = some (l.find? (fun v => !(f v))) := by
  induction l with
  | nil => rfl
  | cons a as ih =>
    simp only [Gen.Rust.findP, Option.bind_some, List.find?_cons, ih]
    cases f a <;> rfl

/-- one constraint check against an existing plug: passes (continues with `k none`) iff the judgement holds on the whole list -/
theorem check_ok {α β : Type} (f : α → Bool) (l : List α) (k : Option α → Option β) (hk : ∀ a, k (some a) = none) :
    Option.bind (Gen.Rust.findP (fun v => some (!(f v))) l) k = if l.all f then k none else none := by
  rw [findP_pure, Option.bind_some]
  induction l with
  | nil => rfl
  | cons a as ih =>
    cases h : f a
    · simp [h, hk]
    · simpa [List.find?_cons, h] using ih

/-- one constraint check with `plugs[pos]` out of bounds: the closure panics on the first element, if there is one -/
theorem findP_oob {α β : Type} (l : List α) (k : Option α → Option β) :
    Option.bind (Gen.Rust.findP (fun _ => none) l) k = if l.isEmpty then k none else none := by
  cases l <;> simp [Gen.Rust.findP]

/-! ## the arms -/

theorem bind_some_some {α : Type} (o : Option α) : (o.bind fun t => some (some t)) = o.map some := by
  cases o <;> rfl

theorem ite_band {α : Type} (a b : Bool) (x y : α) :
    (if (a && b) = true then x else y) = if a = true then (if b = true then x else y) else y := by
  cases a <;> cases b <;> rfl

theorem judgements_eq (q : Pat) :
    Gen.Rust.e_fresh q = q.eFresh ∧ Gen.Rust.s_fresh q = q.sFresh ∧ Gen.Rust.positive q = q.pos ∧ Gen.Rust.negative q = q.ng :=
  ⟨funext (RustTie.e_fresh_eq q), funext (RustTie.s_fresh_eq q), funext (RustTie.positive_eq q), funext (RustTie.negative_eq q)⟩

theorem instantiate_internal_eq (vars : List VId) (plugs : List Pat) (p : Pat) :
    Gen.Rust.instantiate_internal vars plugs p = Pat.instU vars plugs p := by
  induction p with
  | evar x | svar x | sym x => rfl
  | mv id ef sf ps ns hs =>
    simp only [Gen.Rust.instantiate_internal, Pat.instU, List.idxOf?]
    cases hpos : List.findIdx? (fun x => x == id) vars with
    | none => rfl
    | some pos =>
      cases hq : plugs[pos]? with
      | none =>
        simp only [hq, Option.bind_none, findP_oob, ite_self]
      | some q =>
        simp only [hq, Option.bind_some]
        have hlt : ¬ pos ≥ plugs.length := by
          have := (List.getElem?_eq_some_iff.mp hq).1; omega
        obtain ⟨h1, h2, h3, h4⟩ := judgements_eq q
        rw [check_ok _ _ _ (fun _ => rfl)]; dsimp only
        rw [check_ok _ _ _ (fun _ => rfl)]; dsimp only
        rw [check_ok _ _ _ (fun _ => rfl)]; dsimp only
        rw [check_ok _ _ _ (fun _ => rfl)]; dsimp only
        simp only [h1, h2, h3, h4, decide_eq_true_eq, hlt, if_false]
        unfold okPlug
        simp only [ite_band]
  | imp l r ihl ihr | app l r ihl ihr =>
    simp only [Gen.Rust.instantiate_internal, Pat.instU, ihl, ihr]
    cases instU vars plugs l with
    | none => rfl
    | some a =>
      cases instU vars plugs r with
      | none => rfl
      | some b => cases a <;> cases b <;> rfl
  | ex x p ih | mu x p ih =>
    simp only [Gen.Rust.instantiate_internal, Pat.instU, ih]
    cases instU vars plugs p with
    | none => rfl
    | some a => cases a <;> rfl
  | esub p x plug ihp ihq =>
    simp only [Gen.Rust.instantiate_internal, Pat.instU, ihp, ihq, RustTie.apply_esubst_eq]
    cases instU vars plugs p with
    | none => rfl
    | some a =>
      cases instU vars plugs plug with
      | none => rfl
      | some b => cases a <;> cases b <;> first | rfl | exact bind_some_some _
  | ssub p x plug ihp ihq =>
    simp only [Gen.Rust.instantiate_internal, Pat.instU, ihp, ihq, RustTie.apply_ssubst_eq]
    cases instU vars plugs p with
    | none => rfl
    | some a =>
      cases instU vars plugs plug with
      | none => rfl
      | some b => cases a <;> cases b <;> first | rfl | exact bind_some_some _

theorem instantiate_in_place_eq (vars : List VId) (plugs : List Pat) (p : Pat) :
    Gen.Rust.instantiate_in_place vars plugs p = (Pat.instU vars plugs p).map (·.getD p) := by
  simp only [Gen.Rust.instantiate_in_place, instantiate_internal_eq]
  cases instU vars plugs p with
  | none => rfl
  | some a => cases a <;> rfl

end RustInstTie
