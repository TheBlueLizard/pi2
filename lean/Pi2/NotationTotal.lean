import Pi2.NotationThm
import Pi2.Nary
import Pi2.MM.Mono
/-!
# Termination of the pattern operations on patterns with notation (fuel sufficiency)

`instF`, `mapF`, `metavarsF`, `esubF`, `ssubF`, `simplifyF`, `evarIsFreeF`, `naryF`, `peqF` (`Pi2/Notation.lean`,
`Pi2/Nary.lean`) take fuel because `Instantiate`'s methods first `simplify()` the node (one level of `instantiate`) and
recurse on the result, which is not structural.  Here: ONE computable measure `NPat.ht` ("height after simplification",
structural recursion on the pattern) bounds the fuel of all of them, with no hypothesis on the patterns:

* `ht leaf = 1`, `ht (imp l r) = 1 + max`, `ht (ex x p) = 1 + ht p`, `ht (esub p x q) = 1 + ht p + ht q`,
  `ht (inst p m) = 1 + ht p * wt m` where `wt m = 1 + length m + max of ht over the values of m`;
* `instF n δ p` is defined as soon as `ht p * wt δ ≤ n` and its result has `ht ≤ ht p * wt δ`;
* `esubF n x plug p` / `ssubF` are defined as soon as `ht p ≤ n`, result `ht ≤ ht p + ht plug + 1`;
* `metavarsF n p`, `evarIsFreeF n e p`, `naryF n p`, `simplifyF n p` are defined as soon as `ht p ≤ n`;
* `peqF n a b` is defined as soon as `ht a + ht b ≤ n + 1`.

The proof is a simultaneous induction on the fuel (`TotalAt`), as for partial correctness (`NotationThm.lean`).
-/
set_option linter.unusedSimpArgs false
set_option linter.unusedVariables false
open Pat

namespace NPat

mutual
/-- height of the pattern after all `simplify()` steps, over-approximated: the recursion depth of every method -/
def ht : NPat → Nat
  | evar _ => 1 | svar _ => 1 | sym _ => 1
  | mv .. => 1
  | imp l r => 1 + max (ht l) (ht r)
  | app l r => 1 + max (ht l) (ht r)
  | ex _ p => 1 + ht p
  | mu _ p => 1 + ht p
  | esub p _ q => 1 + ht p + ht q
  | ssub p _ q => 1 + ht p + ht q
  | inst p m => 1 + ht p * (1 + m.length + htMap m)
/-- maximum of `ht` over the values of an argument map -/
def htMap : List (Nat × NPat) → Nat
  | [] => 0
  | (_, v) :: r => max (ht v) (htMap r)
end

/-- weight of a substitution / argument map: `1 + number of entries + maximal height of a value` -/
def wt (m : List (Nat × NPat)) : Nat := 1 + m.length + htMap m

theorem ht_pos (p : NPat) : 1 ≤ ht p := by
  cases p <;> simp only [ht] <;> omega

theorem wt_pos (m : List (Nat × NPat)) : 1 ≤ wt m := by simp only [wt]; omega

theorem ht_inst (p : NPat) (m : List (Nat × NPat)) : ht (inst p m) = 1 + ht p * wt m := by
  simp only [ht, wt]

theorem le_mul_of_one_le (a k : Nat) (hk : 1 ≤ k) : a ≤ a * k := Nat.le_mul_of_pos_right a hk

/-! Arithmetic of the bounds, stated once: the fuel left for the children of a node, and the height of a rebuilt node. -/

theorem le_of_node₂ {a b n : Nat} (h : 1 + max a b ≤ n + 1) : a ≤ n ∧ b ≤ n := by omega

theorem le_of_nodes₂ {a b a' b' n : Nat} (h : 1 + max a b + (1 + max a' b') ≤ n + 1 + 1) :
    a + a' ≤ n + 1 ∧ b + b' ≤ n + 1 := by omega

theorem le_of_node₂_mul {a b w n : Nat} (h : (1 + max a b) * w ≤ n + 1) (hw : 1 ≤ w) : a * w ≤ n ∧ b * w ≤ n := by
  have h1 := Nat.mul_le_mul_right w (Nat.le_max_left a b)
  have h2 := Nat.mul_le_mul_right w (Nat.le_max_right a b)
  rw [Nat.add_mul, Nat.one_mul] at h
  omega

theorem node₂_mul_le {a' b' a b w : Nat} (ha : a' ≤ a * w) (hb : b' ≤ b * w) (hw : 1 ≤ w) :
    1 + max a' b' ≤ (1 + max a b) * w := by
  have h1 := Nat.mul_le_mul_right w (Nat.le_max_left a b)
  have h2 := Nat.mul_le_mul_right w (Nat.le_max_right a b)
  rw [Nat.add_mul, Nat.one_mul]
  omega

theorem node₂_le {a b l r k : Nat} (ha : a ≤ l + k + 1) (hb : b ≤ r + k + 1) :
    1 + max a b ≤ 1 + max l r + k + 1 := by omega

theorem lookup_ht (δ : List (Nat × NPat)) (i : Nat) (q : NPat) (h : Py.lookup δ i = some q) :
    ht q ≤ htMap δ := by
  induction δ with
  | nil => simp [Py.lookup] at h
  | cons kv r ih =>
    obtain ⟨k, v⟩ := kv
    simp only [Py.lookup] at h
    simp only [htMap]
    split at h
    · simp only [Option.some.injEq] at h; subst h; omega
    · have := ih h; omega

theorem htMap_append (a b : List (Nat × NPat)) : htMap (a ++ b) = max (htMap a) (htMap b) := by
  induction a with
  | nil => simp [htMap]
  | cons kv r ih =>
    obtain ⟨k, v⟩ := kv
    simp only [List.cons_append, htMap, ih]; omega

theorem htMap_filter (f : Nat × NPat → Bool) (l : List (Nat × NPat)) : htMap (l.filter f) ≤ htMap l := by
  induction l with
  | nil => simp [htMap]
  | cons kv r ih =>
    obtain ⟨k, v⟩ := kv
    simp only [List.filter_cons]
    split
    · simp only [htMap]; omega
    · simp only [htMap]; omega

theorem htMap_dedupKeys (l : List (Nat × NPat)) (seen : List Nat) : htMap (dedupKeys l seen) ≤ htMap l := by
  induction l generalizing seen with
  | nil => simp [dedupKeys, htMap]
  | cons kv r ih =>
    obtain ⟨k, v⟩ := kv
    simp only [dedupKeys]
    split
    · have := ih seen; simp only [htMap]; omega
    · have := ih (k :: seen); simp only [htMap]; omega

theorem length_dedupKeys (l : List (Nat × NPat)) (seen : List Nat) : (dedupKeys l seen).length ≤ l.length := by
  induction l generalizing seen with
  | nil => simp [dedupKeys]
  | cons kv r ih =>
    obtain ⟨k, v⟩ := kv
    simp only [dedupKeys]
    split
    · have := ih seen; simp only [List.length_cons]; omega
    · have := ih (k :: seen); simp only [List.length_cons]; omega

/-- the argument map that `Instantiate.instantiate` builds weighs at most the product of the weights -/
theorem wt_newmap (δ m m' : List (Nat × NPat)) (f : Nat × NPat → Bool)
    (hl : m'.length = m.length) (hh : htMap m' ≤ htMap m * wt δ) :
    wt (m' ++ dedupKeys (δ.filter f) []) ≤ wt m * wt δ := by
  have h1 := length_dedupKeys (δ.filter f) []
  have h2 := htMap_dedupKeys (δ.filter f) []
  have h3 := htMap_filter f δ
  have h4 : (δ.filter f).length ≤ δ.length := List.length_filter_le _ _
  have h5 : wt m * wt δ = wt δ + m.length * wt δ + htMap m * wt δ := by
    simp only [wt, Nat.add_mul, Nat.one_mul]
  have h6 := le_mul_of_one_le m.length (wt δ) (wt_pos δ)
  rw [h5]
  simp only [wt, htMap_append, List.length_append, hl] at *
  omega

/-! ## simultaneous induction on the fuel -/

structure TotalAt (n : Nat) : Prop where
  inst : ∀ δ p, ht p * wt δ ≤ n → ∃ r, instF n δ p = some r ∧ ht r ≤ ht p * wt δ
  map : ∀ δ m, 1 + m.length + htMap m * wt δ ≤ n →
    ∃ m', mapF n δ m = some m' ∧ m'.length = m.length ∧ htMap m' ≤ htMap m * wt δ
  mvs : ∀ p, ht p ≤ n → ∃ L, metavarsF n p = some L
  esub : ∀ x plug p, ht p ≤ n → ∃ r, esubF n x plug p = some r ∧ ht r ≤ ht p + ht plug + 1
  ssub : ∀ x plug p, ht p ≤ n → ∃ r, ssubF n x plug p = some r ∧ ht r ≤ ht p + ht plug + 1

/-- unfold one step of a fuelled function and evaluate the `Option` binds whose results are known -/
local macro "ored" "[" ts:Lean.Parser.Tactic.simpLemma,* "]" : tactic =>
  `(tactic| simp only [$ts,*, Option.bind_eq_bind, Option.pure_def, Option.bind_some, Bool.not_true, Bool.not_false,
      Bool.false_eq_true, ↓reduceIte])

theorem total_zero : TotalAt 0 := by
  refine ⟨?_, ?_, ?_, ?_, ?_⟩
  · intro δ p h
    have := ht_pos p; have := wt_pos δ
    have := Nat.mul_le_mul (ht_pos p) (wt_pos δ)
    omega
  · intro δ m h; omega
  · intro p h; have := ht_pos p; omega
  · intro x plug p h; have := ht_pos p; omega
  · intro x plug p h; have := ht_pos p; omega

theorem esub_total_step (n : Nat) (ih : TotalAt n) :
    ∀ x plug p, ht p ≤ n + 1 → ∃ r, esubF (n + 1) x plug p = some r ∧ ht r ≤ ht p + ht plug + 1 := by
  obtain ⟨hI, hM, hV, hE, hS⟩ := ih
  intro x plug p h
  cases p with
  | evar y | mv id ef sf ps ns hs =>
    ored [esubF]; refine ⟨_, rfl, ?_⟩
    split <;> simp only [ht] <;> omega
  | svar y | sym y => ored [esubF]; exact ⟨_, rfl, by simp only [ht]; omega⟩
  | imp l r | app l r =>
    simp only [ht] at h
    obtain ⟨a, ha, ha'⟩ := hE x plug l (le_of_node₂ h).1
    obtain ⟨b, hb, hb'⟩ := hE x plug r (le_of_node₂ h).2
    ored [esubF, ha, hb]; exact ⟨_, rfl, by simp only [ht]; exact node₂_le ha' hb'⟩
  | ex y q =>
    simp only [ht] at h
    by_cases hy : y = x
    · subst hy; ored [esubF]; exact ⟨_, rfl, by simp only [ht]; omega⟩
    · obtain ⟨a, ha, ha'⟩ := hE x plug q (by omega)
      ored [esubF, hy, ha]; exact ⟨_, rfl, by simp only [ht]; omega⟩
  | mu y q =>
    simp only [ht] at h
    obtain ⟨a, ha, ha'⟩ := hE x plug q (by omega)
    ored [esubF, ha]; exact ⟨_, rfl, by simp only [ht]; omega⟩
  | esub p' y q | ssub p' y q => ored [esubF]; exact ⟨_, rfl, by simp only [ht]; omega⟩
  | inst p' m =>
    rw [ht_inst] at h ⊢
    obtain ⟨s, hs, hs'⟩ := hI m p' (by omega)
    obtain ⟨r, hr, hr'⟩ := hE x plug s (by omega)
    ored [esubF, hs, hr]; exact ⟨r, rfl, by omega⟩

theorem ssub_total_step (n : Nat) (ih : TotalAt n) :
    ∀ x plug p, ht p ≤ n + 1 → ∃ r, ssubF (n + 1) x plug p = some r ∧ ht r ≤ ht p + ht plug + 1 := by
  obtain ⟨hI, hM, hV, hE, hS⟩ := ih
  intro x plug p h
  cases p with
  | svar y | mv id ef sf ps ns hs =>
    ored [ssubF]; refine ⟨_, rfl, ?_⟩
    split <;> simp only [ht] <;> omega
  | evar y | sym y => ored [ssubF]; exact ⟨_, rfl, by simp only [ht]; omega⟩
  | imp l r | app l r =>
    simp only [ht] at h
    obtain ⟨a, ha, ha'⟩ := hS x plug l (le_of_node₂ h).1
    obtain ⟨b, hb, hb'⟩ := hS x plug r (le_of_node₂ h).2
    ored [ssubF, ha, hb]; exact ⟨_, rfl, by simp only [ht]; exact node₂_le ha' hb'⟩
  | mu y q =>
    simp only [ht] at h
    by_cases hy : y = x
    · subst hy; ored [ssubF]; exact ⟨_, rfl, by simp only [ht]; omega⟩
    · obtain ⟨a, ha, ha'⟩ := hS x plug q (by omega)
      ored [ssubF, hy, ha]; exact ⟨_, rfl, by simp only [ht]; omega⟩
  | ex y q =>
    simp only [ht] at h
    obtain ⟨a, ha, ha'⟩ := hS x plug q (by omega)
    ored [ssubF, ha]; exact ⟨_, rfl, by simp only [ht]; omega⟩
  | esub p' y q | ssub p' y q => ored [ssubF]; exact ⟨_, rfl, by simp only [ht]; omega⟩
  | inst p' m =>
    rw [ht_inst] at h ⊢
    obtain ⟨s, hs, hs'⟩ := hI m p' (by omega)
    obtain ⟨r, hr, hr'⟩ := hS x plug s (by omega)
    ored [ssubF, hs, hr]; exact ⟨r, rfl, by omega⟩

theorem mvs_total_step (n : Nat) (ih : TotalAt n) :
    ∀ p, ht p ≤ n + 1 → ∃ L, metavarsF (n + 1) p = some L := by
  obtain ⟨hI, hM, hV, hE, hS⟩ := ih
  intro p h
  cases p with
  | evar y | svar y | sym y | mv id ef sf ps ns hs => exact ⟨_, rfl⟩
  | imp l r | app l r | esub l y r | ssub l y r =>
    simp only [ht] at h
    obtain ⟨a, ha⟩ := hV l (by omega)
    obtain ⟨b, hb⟩ := hV r (by omega)
    ored [metavarsF, ha, hb]; exact ⟨_, rfl⟩
  | ex y q | mu y q =>
    simp only [ht] at h
    obtain ⟨a, ha⟩ := hV q (by omega)
    ored [metavarsF, ha]; exact ⟨_, rfl⟩
  | inst p' m =>
    rw [ht_inst] at h
    obtain ⟨s, hs, hs'⟩ := hI m p' (by omega)
    obtain ⟨L, hL⟩ := hV s (by omega)
    ored [metavarsF, hs, hL]; exact ⟨L, rfl⟩

theorem map_total_step (n : Nat) (ih : TotalAt n) :
    ∀ δ m, 1 + m.length + htMap m * wt δ ≤ n + 1 →
      ∃ m', mapF (n + 1) δ m = some m' ∧ m'.length = m.length ∧ htMap m' ≤ htMap m * wt δ := by
  obtain ⟨hI, hM, hV, hE, hS⟩ := ih
  intro δ m h
  cases m with
  | nil => ored [mapF]; exact ⟨[], rfl, rfl, by simp [htMap]⟩
  | cons kv r =>
    obtain ⟨k, v⟩ := kv
    simp only [htMap, List.length_cons] at h ⊢
    have h1 : ht v * wt δ ≤ max (ht v) (htMap r) * wt δ := Nat.mul_le_mul_right _ (Nat.le_max_left _ _)
    have h2 : htMap r * wt δ ≤ max (ht v) (htMap r) * wt δ := Nat.mul_le_mul_right _ (Nat.le_max_right _ _)
    obtain ⟨a, ha, ha'⟩ := hI δ v (by omega)
    obtain ⟨b, hb, hb1, hb2⟩ := hM δ r (by omega)
    refine ⟨(k, a) :: b, by simp [mapF, ha, hb], by simp [hb1], ?_⟩
    simp only [htMap]; omega

theorem inst_total_step (n : Nat) (ih : TotalAt n) :
    ∀ δ p, ht p * wt δ ≤ n + 1 → ∃ r, instF (n + 1) δ p = some r ∧ ht r ≤ ht p * wt δ := by
  obtain ⟨hI, hM, hV, hE, hS⟩ := ih
  intro δ p h
  have hK := wt_pos δ
  have hself : ht p ≤ ht p * wt δ := le_mul_of_one_le _ _ hK
  cases p with
  | evar y | svar y | sym y => exact ⟨_, rfl, hself⟩
  | mv id ef sf ps ns hs =>
    ored [instF]; refine ⟨_, rfl, ?_⟩
    split
    · next q hq =>
      have := lookup_ht δ id q hq
      simp only [ht, Nat.one_mul, wt]; omega
    · exact hself
  | imp l r | app l r =>
    by_cases he : δ.isEmpty = true
    · ored [instF, he]; exact ⟨_, rfl, hself⟩
    · simp only [ht] at h ⊢
      obtain ⟨a, ha, ha'⟩ := hI δ l (le_of_node₂_mul h hK).1
      obtain ⟨b, hb, hb'⟩ := hI δ r (le_of_node₂_mul h hK).2
      ored [instF, he, ha, hb]; exact ⟨_, rfl, by simp only [ht]; exact node₂_mul_le ha' hb' hK⟩
  | ex y q | mu y q =>
    by_cases he : δ.isEmpty = true
    · ored [instF, he]; exact ⟨_, rfl, hself⟩
    · simp only [ht] at h ⊢
      have h3 : (1 + ht q) * wt δ = wt δ + ht q * wt δ := by rw [Nat.add_mul, Nat.one_mul]
      obtain ⟨a, ha, ha'⟩ := hI δ q (by omega)
      ored [instF, he, ha]; exact ⟨_, rfl, by simp only [ht]; omega⟩
  | esub p' y q =>
    by_cases he : δ.isEmpty = true
    · ored [instF, he]; exact ⟨_, rfl, hself⟩
    · simp only [ht] at h ⊢
      have h3 : (1 + ht p' + ht q) * wt δ = wt δ + ht p' * wt δ + ht q * wt δ := by
        rw [Nat.add_mul, Nat.add_mul, Nat.one_mul]
      obtain ⟨a, ha, ha'⟩ := hI δ p' (by omega)
      obtain ⟨b, hb, hb'⟩ := hI δ q (by omega)
      obtain ⟨c, hc, hc'⟩ := hE y b a (by omega)
      ored [instF, he, ha, hb, hc]; exact ⟨c, rfl, by omega⟩
  | ssub p' y q =>
    by_cases he : δ.isEmpty = true
    · ored [instF, he]; exact ⟨_, rfl, hself⟩
    · simp only [ht] at h ⊢
      have h3 : (1 + ht p' + ht q) * wt δ = wt δ + ht p' * wt δ + ht q * wt δ := by
        rw [Nat.add_mul, Nat.add_mul, Nat.one_mul]
      obtain ⟨a, ha, ha'⟩ := hI δ p' (by omega)
      obtain ⟨b, hb, hb'⟩ := hI δ q (by omega)
      obtain ⟨c, hc, hc'⟩ := hS y b a (by omega)
      ored [instF, he, ha, hb, hc]; exact ⟨c, rfl, by omega⟩
  | inst p' m =>
    rw [ht_inst] at h ⊢
    have h3 : (1 + ht p' * wt m) * wt δ = wt δ + ht p' * wt m * wt δ := by rw [Nat.add_mul, Nat.one_mul]
    -- ht p' * wt m * wt δ ≥ wt m * wt δ ≥ 1 + |m| + htMap m * wt δ
    have h4 : wt m * wt δ ≤ ht p' * wt m * wt δ := by
      rw [Nat.mul_assoc]
      exact Nat.le_mul_of_pos_left _ (ht_pos p')
    have h5 : wt m * wt δ = wt δ + m.length * wt δ + htMap m * wt δ := by
      simp only [wt, Nat.add_mul, Nat.one_mul]
    have h6 := le_mul_of_one_le m.length (wt δ) hK
    have h7 : ht p' ≤ ht p' * wt m * wt δ :=
      Nat.le_trans (le_mul_of_one_le _ _ (wt_pos m)) (le_mul_of_one_le _ _ hK)
    obtain ⟨m', hm', hl, hh⟩ := hM δ m (by omega)
    obtain ⟨L, hL⟩ := hV p' (by omega)
    ored [instF, hm', hL, Option.bind_eq_bind, Option.pure_def, Option.bind_some]; refine ⟨_, rfl, ?_⟩
    rw [ht_inst]
    have h8 := wt_newmap δ m m' (fun x => !(keys m).contains x.1 && L.contains x.1) hl hh
    have h9 : ht p' * wt (m' ++ dedupKeys (δ.filter fun x => !(keys m).contains x.1 && L.contains x.1) []) ≤
        ht p' * (wt m * wt δ) := Nat.mul_le_mul_left _ h8
    rw [← Nat.mul_assoc] at h9
    omega

theorem total_all (n : Nat) : TotalAt n := by
  induction n with
  | zero => exact total_zero
  | succ n ih =>
    exact ⟨inst_total_step n ih, map_total_step n ih, mvs_total_step n ih, esub_total_step n ih,
      ssub_total_step n ih⟩

/-! ## the operations are total: explicit fuel bounds -/

/-- `instantiate(δ)` returns as soon as the fuel reaches `ht p * wt δ`; the result is not higher than that -/
theorem instF_terminates (δ : List (Nat × NPat)) (p : NPat) (n : Nat) (h : ht p * wt δ ≤ n) :
    ∃ r, instF n δ p = some r ∧ ht r ≤ ht p * wt δ := (total_all n).inst δ p h

theorem mapF_terminates (δ m : List (Nat × NPat)) (n : Nat) (h : 1 + m.length + htMap m * wt δ ≤ n) :
    ∃ m', mapF n δ m = some m' ∧ m'.length = m.length ∧ htMap m' ≤ htMap m * wt δ := (total_all n).map δ m h

theorem metavarsF_terminates (p : NPat) (n : Nat) (h : ht p ≤ n) : ∃ L, metavarsF n p = some L :=
  (total_all n).mvs p h

theorem esubF_terminates (x : VId) (plug p : NPat) (n : Nat) (h : ht p ≤ n) :
    ∃ r, esubF n x plug p = some r ∧ ht r ≤ ht p + ht plug + 1 := (total_all n).esub x plug p h

theorem ssubF_terminates (x : VId) (plug p : NPat) (n : Nat) (h : ht p ≤ n) :
    ∃ r, ssubF n x plug p = some r ∧ ht r ≤ ht p + ht plug + 1 := (total_all n).ssub x plug p h

/-- one level of `simplify()`; the result is strictly lower than the notation node -/
theorem simplifyF_terminates (p : NPat) (n : Nat) (h : ht p ≤ n + 1) :
    ∃ s, simplifyF n p = some s ∧ ht s ≤ ht p := by
  cases p with
  | inst q m =>
    rw [ht_inst] at h ⊢
    obtain ⟨s, hs, hs'⟩ := instF_terminates m q n (by omega)
    exact ⟨s, by simpa only [simplifyF] using hs, by omega⟩
  | _ => ored [simplifyF]; exact ⟨_, rfl, Nat.le_refl _⟩

theorem evarIsFreeF_terminates : ∀ (n : Nat) (e : VId) (p : NPat), ht p ≤ n → ∃ b, evarIsFreeF n e p = some b := by
  intro n
  induction n with
  | zero => intro e p h; have := ht_pos p; omega
  | succ n ih =>
    intro e p h
    cases p with
    | evar y | svar y | sym y | mv id ef sf ps ns hs => exact ⟨_, rfl⟩
    | imp l r | app l r =>
      simp only [ht] at h
      obtain ⟨a, ha⟩ := ih e l (le_of_node₂ h).1
      obtain ⟨b, hb⟩ := ih e r (le_of_node₂ h).2
      ored [evarIsFreeF, ha, hb]; exact ⟨_, rfl⟩
    | ex y q =>
      simp only [ht] at h
      obtain ⟨a, ha⟩ := ih e q (by omega)
      by_cases hy : (e == y) = true
      · ored [evarIsFreeF, hy, if_true]; exact ⟨true, rfl⟩
      · ored [evarIsFreeF, hy, ha]; exact ⟨a, rfl⟩
    | mu y q =>
      simp only [ht] at h
      obtain ⟨a, ha⟩ := ih e q (by omega)
      ored [evarIsFreeF, ha]; exact ⟨a, rfl⟩
    | esub p' y q =>
      simp only [ht] at h
      obtain ⟨a, ha⟩ := ih e p' (by omega)
      obtain ⟨b, hb⟩ := ih e q (by omega)
      by_cases hy : (y == e) = true
      · ored [evarIsFreeF, hy, if_true, hb]; exact ⟨b, rfl⟩
      · cases a with
        | true => ored [evarIsFreeF, hy, ha, hb]; exact ⟨b, rfl⟩
        | false => ored [evarIsFreeF, hy, ha]; exact ⟨false, rfl⟩
    | ssub p' y q =>
      simp only [ht] at h
      obtain ⟨a, ha⟩ := ih e p' (by omega)
      obtain ⟨b, hb⟩ := ih e q (by omega)
      cases a with
      | true => ored [evarIsFreeF, ha, hb]; exact ⟨b, rfl⟩
      | false => ored [evarIsFreeF, ha]; exact ⟨false, rfl⟩
    | inst p' m =>
      rw [ht_inst] at h
      obtain ⟨s, hs, hs'⟩ := instF_terminates m p' n (by omega)
      obtain ⟨b, hb⟩ := ih e s (by omega)
      ored [evarIsFreeF, hs, hb]; exact ⟨b, rfl⟩

theorem naryF_terminates : ∀ (n : Nat) (p : NPat), ht p ≤ n → ∃ r, naryF n p = some r := by
  intro n
  induction n with
  | zero => intro p h; have := ht_pos p; omega
  | succ n ih =>
    intro p h
    cases p with
    | app l r =>
      simp only [ht] at h
      obtain ⟨a, ha⟩ := ih l (by omega)
      ored [naryF, ha]; exact ⟨_, rfl⟩
    | inst p' m =>
      rw [ht_inst] at h
      obtain ⟨s, hs, hs'⟩ := instF_terminates m p' n (by omega)
      obtain ⟨b, hb⟩ := ih s (by omega)
      ored [naryF, hs, hb]; exact ⟨b, rfl⟩
    | _ => exact ⟨_, rfl⟩

/-- the fuel bound for `a == b` -/
def peqBound (a b : NPat) : Nat := ht a + ht b - 1

/-- `a == b` returns as soon as `ht a + ht b ≤ fuel + 1` -/
theorem peqF_terminates_aux : ∀ (n : Nat) (a b : NPat), ht a + ht b ≤ n + 1 → ∃ r, peqF n a b = some r := by
  intro n
  induction n with
  | zero => intro a b h; have := ht_pos a; have := ht_pos b; omega
  | succ n ih =>
    intro a b h
    have hb1 := ht_pos b
    have ha1 := ht_pos a
    -- left operand a notation node
    have left : ∀ p m, a = inst p m → ∃ r, peqF (n + 1) a b = some r := by
      intro p m e; subst e
      rw [ht_inst] at h
      obtain ⟨s, hs, hs'⟩ := instF_terminates m p n (by omega)
      obtain ⟨r, hr⟩ := ih s b (by omega)
      ored [peqF, hs, hr]; exact ⟨r, rfl⟩
    -- right operand a notation node, left operand not
    have right : ∀ p m, b = inst p m → a.isInst = false → ∃ r, peqF (n + 1) a b = some r := by
      intro p m e hi; subst e
      rw [ht_inst] at h
      obtain ⟨s, hs, hs'⟩ := instF_terminates m p n (by omega)
      obtain ⟨r, hr⟩ := ih s a (by omega)
      refine ⟨r, ?_⟩
      cases a <;> first | (simp [isInst] at hi; done) | simp [peqF, hs, hr]
    cases a with
    | inst p m => exact left p m rfl
    | evar x | svar x | sym x | mv a1 a2 a3 a4 a5 a6 =>
      cases b with
      | inst p m => exact right p m rfl rfl
      | _ => exact ⟨_, rfl⟩
    | imp l r =>
      cases b with
      | inst p m => exact right p m rfl rfl
      | imp l' r' =>
        simp only [ht] at h
        obtain ⟨x, hx⟩ := ih l l' (le_of_nodes₂ h).1
        obtain ⟨y, hy⟩ := ih r r' (le_of_nodes₂ h).2
        cases x with
        | true => ored [peqF, hx, hy]; exact ⟨y, rfl⟩
        | false => ored [peqF, hx]; exact ⟨false, rfl⟩
      | _ => exact ⟨_, rfl⟩
    | app l r =>
      cases b with
      | inst p m => exact right p m rfl rfl
      | app l' r' =>
        simp only [ht] at h
        obtain ⟨x, hx⟩ := ih l l' (le_of_nodes₂ h).1
        obtain ⟨y, hy⟩ := ih r r' (le_of_nodes₂ h).2
        cases x with
        | true => ored [peqF, hx, hy]; exact ⟨y, rfl⟩
        | false => ored [peqF, hx]; exact ⟨false, rfl⟩
      | _ => exact ⟨_, rfl⟩
    | ex x q =>
      cases b with
      | inst p m => exact right p m rfl rfl
      | ex y q' =>
        simp only [ht] at h
        obtain ⟨c, hc⟩ := ih q q' (by omega)
        by_cases hxy : (x == y) = true
        · ored [peqF, hxy, if_true, hc]; exact ⟨c, rfl⟩
        · ored [peqF, hxy]; exact ⟨false, rfl⟩
      | _ => exact ⟨_, rfl⟩
    | mu x q =>
      cases b with
      | inst p m => exact right p m rfl rfl
      | mu y q' =>
        simp only [ht] at h
        obtain ⟨c, hc⟩ := ih q q' (by omega)
        by_cases hxy : (x == y) = true
        · ored [peqF, hxy, if_true, hc]; exact ⟨c, rfl⟩
        · ored [peqF, hxy]; exact ⟨false, rfl⟩
      | _ => exact ⟨_, rfl⟩
    | esub q x r =>
      cases b with
      | inst p m => exact right p m rfl rfl
      | esub q' y r' =>
        simp only [ht] at h
        obtain ⟨c, hc⟩ := ih q q' (by omega)
        obtain ⟨d, hd⟩ := ih r r' (by omega)
        cases c with
        | false => ored [peqF, hc]; exact ⟨false, rfl⟩
        | true =>
          by_cases hxy : (x != y) = true
          · ored [peqF, hc, hxy]; exact ⟨false, rfl⟩
          · ored [peqF, hc, hxy, hd]; exact ⟨d, rfl⟩
      | _ => exact ⟨_, rfl⟩
    | ssub q x r =>
      cases b with
      | inst p m => exact right p m rfl rfl
      | ssub q' y r' =>
        simp only [ht] at h
        obtain ⟨c, hc⟩ := ih q q' (by omega)
        obtain ⟨d, hd⟩ := ih r r' (by omega)
        cases c with
        | false => ored [peqF, hc]; exact ⟨false, rfl⟩
        | true =>
          by_cases hxy : (x != y) = true
          · ored [peqF, hc, hxy]; exact ⟨false, rfl⟩
          · ored [peqF, hc, hxy, hd]; exact ⟨d, rfl⟩
      | _ => exact ⟨_, rfl⟩

/-- **`==` terminates**: with fuel at least `peqBound a b = ht a + ht b - 1` it returns -/
theorem peqF_terminates (a b : NPat) (n : Nat) (h : peqBound a b ≤ n) : ∃ r, peqF n a b = some r := by
  apply peqF_terminates_aux
  simp only [peqBound] at h
  omega

/-- total correctness of `==` on shaped patterns -/
theorem peqF_decides (a b : NPat) (ha : a.Shape = true) (hb : b.Shape = true) (n : Nat)
    (h : peqBound a b ≤ n) : peqF n a b = some (decide (a.expand = b.expand)) := by
  obtain ⟨r, hr⟩ := peqF_terminates a b n h
  rw [hr, peqF_expand n a b r ha hb hr]

/-! ## the exact recursion depth of `==`

The closed bound `peqBound` is an over-approximation (multiplicative in the nesting of notation bodies).  Since `==`
terminates below it and fuel is monotone, the *least* sufficient fuel is computable by bounded search: `peqDepth a b`
is the recursion depth of `a == b`, and `peqF n a b` is defined exactly when `peqDepth a b ≤ n`. -/

/-- the least `n ≤ k` with `f n`, and `k` if there is none below `k` -/
def leastUpTo (f : Nat → Bool) : Nat → Nat
  | 0 => 0
  | k + 1 => if f (leastUpTo f k) then leastUpTo f k else k + 1

theorem leastUpTo_inv (f : Nat → Bool) (k : Nat) :
    leastUpTo f k ≤ k ∧ (∀ n, n < leastUpTo f k → f n = false) ∧ (leastUpTo f k < k → f (leastUpTo f k) = true) := by
  induction k with
  | zero => simp [leastUpTo]
  | succ k ih =>
    obtain ⟨h1, h2, h3⟩ := ih
    simp only [leastUpTo]
    by_cases hf : f (leastUpTo f k) = true
    · rw [if_pos hf]
      exact ⟨by omega, h2, fun _ => hf⟩
    · rw [if_neg hf]
      refine ⟨Nat.le_refl _, ?_, fun h => absurd h (Nat.lt_irrefl _)⟩
      intro n hn
      by_cases hlt : n < leastUpTo f k
      · exact h2 n hlt
      · have hk : ¬ leastUpTo f k < k := fun h => hf (h3 h)
        have : n = leastUpTo f k := by omega
        subst this
        simpa using hf

theorem leastUpTo_spec (f : Nat → Bool) (K : Nat) (hmono : ∀ n, f n = true → f (n + 1) = true)
    (hK : f K = true) : ∀ n, f n = true ↔ leastUpTo f K ≤ n := by
  obtain ⟨h1, h2, h3⟩ := leastUpTo_inv f K
  have hm : f (leastUpTo f K) = true := by
    by_cases h : leastUpTo f K < K
    · exact h3 h
    · have : leastUpTo f K = K := by omega
      rw [this]; exact hK
  have up : ∀ d, f (leastUpTo f K + d) = true := by
    intro d
    induction d with
    | zero => exact hm
    | succ d ih => exact hmono _ ih
  intro n
  constructor
  · intro hn
    apply Nat.le_of_not_lt
    intro hlt
    rw [h2 n hlt] at hn; cases hn
  · intro hn
    have := up (n - leastUpTo f K)
    rwa [Nat.add_sub_cancel' hn] at this

/-- the recursion depth of `a == b`: the least fuel at which `peqF` answers -/
def peqDepth (a b : NPat) : Nat := leastUpTo (fun n => (peqF n a b).isSome) (peqBound a b)

theorem peqDepth_le_bound (a b : NPat) : peqDepth a b ≤ peqBound a b := (leastUpTo_inv _ _).1

/-- `a == b` answers exactly when the fuel reaches the depth (below it: `none`, Python's `RecursionError`) -/
theorem peqF_isSome_iff (a b : NPat) (n : Nat) : (peqF n a b).isSome = true ↔ peqDepth a b ≤ n := by
  apply leastUpTo_spec (fun n => (peqF n a b).isSome) (peqBound a b)
  · intro k hk
    simp only [Option.isSome_iff_exists] at hk ⊢
    obtain ⟨r, hr⟩ := hk
    exact ⟨r, peqF_step k a b r hr⟩
  · obtain ⟨r, hr⟩ := peqF_terminates a b (peqBound a b) (Nat.le_refl _)
    simp [hr]

theorem peqF_none_iff (a b : NPat) (n : Nat) : peqF n a b = none ↔ n < peqDepth a b := by
  have := peqF_isSome_iff a b n
  cases h : peqF n a b with
  | none | some r => simp [h] at this; simp; omega

end NPat
