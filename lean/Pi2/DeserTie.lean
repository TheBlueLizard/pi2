import Pi2.DeserializeThm
import Pi2.CodecThm
import Pi2.SerTie
import Pi2.MatchThm
import Pi2.Gen.Deserializer
/-!
# The deserialiser as written in `deserialize.py` is `decode1` + `callOfInstr` + `track1`

`Pi2/Gen/Deserializer.lean` is regenerated from the source on every run (`vlib/transdeser.py`): per
`elif instruction == Instruction.X:` branch, the operand bytes read, the interpreter method called and where each argument
comes from (`PyDeser.Arg`: a stack position, an operand byte, a memory index, the key ↦ plug dictionary).  The hand-written
model is `decode1` (`Pi2/Codec.lean`), `PySt.callOfInstr` / `replay` / `deserialize` (`Pi2/Deserialize.lean`) and the tracker
`track1` (`Pi2/Tracker.lean`), in which a `Call` carries no pattern arguments: `track1` takes them off the modelled stack.

* §1 `track1_*_uses`: per call kind, which stack entries `track1` uses in which role — exactly the argument positions
  `PyDeser.toCall` demands of the Python call (`implies(stack[-2], stack[-1])`, `esubst(id, stack[-1], stack[-2])`, key `j`
  of `instantiate` with the plug at position `plugPositions[j]`, …).
* §2 `tie_*`, `step_tie`: one loop iteration of the generated function = `modelStep` (decode one instruction, dispatch,
  `track1`), for every stream and state.  Two hypotheses, both necessary:
  - `NodupKeys1`: the key bytes of an `Instantiate` are pairwise different.  With a repeated key Python's `dict(..)` merges the
    entries and the tracker takes fewer plugs than the model: `model_differs_on_duplicate_keys` (a finding).
  - `PrecheckAgrees`: in the proof phase the deserialiser's own test before `publish_proof`
    (`claims[0].pattern != theorem.conclusion`, absent from `callOfInstr`) answers as the tracker's test in `publish_proof`
    does (the same `==` with the operands exchanged; the fuelled model of `==` is not symmetric in its fuel).
* §3 `run_eq_replay`, `deserialize_tie`: the generated loop = `PySt.deserialize` on decodable streams;
  `deserialize_undecodable`: on an undecodable stream the model answers "exception", the loop an exception or out of fuel
  (it only meets the undecodable tail after having made the calls of the head).
-/
set_option linter.unusedSimpArgs false
set_option linter.unusedVariables false
open PySt PyDeser

namespace DeserTie

theorem translated : Gen.Deser.translated = true := by decide

/-- the generated deserialiser and serializer look the opcodes up in the same table (`Gen.pyOpcodes`) -/
theorem opc_values :
    Gen.Deser.opc "EVar" = 2 ∧ Gen.Deser.opc "SVar" = 3 ∧ Gen.Deser.opc "Symbol" = 4 ∧ Gen.Deser.opc "Implies" = 5 ∧
    Gen.Deser.opc "App" = 6 ∧ Gen.Deser.opc "Mu" = 7 ∧ Gen.Deser.opc "Exists" = 8 ∧ Gen.Deser.opc "MetaVar" = 9 ∧
    Gen.Deser.opc "ESubst" = 10 ∧ Gen.Deser.opc "SSubst" = 11 ∧ Gen.Deser.opc "Prop1" = 12 ∧ Gen.Deser.opc "Prop2" = 13 ∧
    Gen.Deser.opc "Prop3" = 14 ∧ Gen.Deser.opc "Quantifier" = 15 ∧ Gen.Deser.opc "ModusPonens" = 21 ∧
    Gen.Deser.opc "Generalization" = 22 ∧ Gen.Deser.opc "Instantiate" = 26 ∧ Gen.Deser.opc "Pop" = 27 ∧
    Gen.Deser.opc "Save" = 28 ∧ Gen.Deser.opc "Load" = 29 ∧ Gen.Deser.opc "Publish" = 30 ∧ Gen.Deser.opc "CleanMetaVar" = 137 :=
  SerTie.opc_values

/-- the generated if/elif chain (in the order of the source), with the opcode numbers of `instruction.py` filled in -/
theorem step_eq (n : Nat) (s : PySt) (b : Nat) (bs : List Nat) :
    Gen.Deser.step n s b bs =
      if b = 2 then Gen.Deser.br_EVar n s bs else
      if b = 3 then Gen.Deser.br_SVar n s bs else
      if b = 4 then Gen.Deser.br_Symbol n s bs else
      if b = 5 then Gen.Deser.br_Implies n s bs else
      if b = 6 then Gen.Deser.br_App n s bs else
      if b = 8 then Gen.Deser.br_Exists n s bs else
      if b = 7 then Gen.Deser.br_Mu n s bs else
      if b = 10 then Gen.Deser.br_ESubst n s bs else
      if b = 11 then Gen.Deser.br_SSubst n s bs else
      if b = 9 then Gen.Deser.br_MetaVar n s bs else
      if b = 137 then Gen.Deser.br_CleanMetaVar n s bs else
      if b = 12 then Gen.Deser.br_Prop1 n s bs else
      if b = 13 then Gen.Deser.br_Prop2 n s bs else
      if b = 14 then Gen.Deser.br_Prop3 n s bs else
      if b = 21 then Gen.Deser.br_ModusPonens n s bs else
      if b = 15 then Gen.Deser.br_Quantifier n s bs else
      if b = 22 then Gen.Deser.br_Generalization n s bs else
      if b = 26 then Gen.Deser.br_Instantiate n s bs else
      if b = 27 then Gen.Deser.br_Pop n s bs else
      if b = 28 then Gen.Deser.br_Save n s bs else
      if b = 29 then Gen.Deser.br_Load n s bs else
      if b = 30 then Gen.Deser.br_Publish n s bs else
      Res.raise := by
  obtain ⟨h2, h3, h4, h5, h6, h7, h8, h9, h10, h11, h12, h13, h14, h15, h21, h22, h26, h27, h28, h29, h30, h137⟩ := opc_values
  simp only [Gen.Deser.step, Gen.Deser.br_else, h2, h3, h4, h5, h6, h7, h8, h9, h10, h11, h12, h13, h14, h15, h21, h22, h26, h27,
    h28, h29, h30, h137, beq_iff_eq]

/-! ## the reader closures are the codec's readers -/

theorem nextBytes_eq (n : Nat) (bs : List Nat) (k : List Nat → List Nat → Res) :
    nextBytes n bs k = match takeN n bs with | none => Res.raise | some (l, r) => k l r := by
  induction n generalizing bs k with
  | zero => simp [nextBytes, takeN]
  | succ n ih =>
    cases bs with
    | nil => simp [nextBytes, nextByte, takeN]
    | cons b bs =>
      simp only [nextBytes, nextByte, takeN, ih]
      cases h : takeN n bs with
      | none => simp
      | some p => obtain ⟨l, r⟩ := p; simp

theorem readList_eq (bs : List Nat) (k : List Nat → List Nat → Res) :
    readList bs k = match readVec bs with | none => Res.raise | some (l, r) => k l r := by
  cases bs with
  | nil => simp [readList, nextByte, readVec]
  | cons m bs => simp [readList, nextByte, readVec, nextBytes_eq]

/-- Python's `dict(pairs)` is `pairs` when the keys are pairwise different -/
theorem pyDict_foldl (l d : List (Nat × Nat)) (hl : (l.map (·.1)).Nodup) (hd : ∀ p ∈ l, ∀ q ∈ d, q.1 ≠ p.1) :
    l.foldl (fun d p => pyDictInsert d p.1 p.2) d = d ++ l := by
  induction l generalizing d with
  | nil => simp
  | cons p l ih =>
    rw [List.map_cons, List.nodup_cons] at hl
    obtain ⟨hp, hl'⟩ := hl
    have hany : d.any (·.1 == p.1) = false := by
      rw [List.any_eq_false]
      intro q hq
      simpa using hd p (by simp) q hq
    have hins : pyDictInsert d p.1 p.2 = d ++ [(p.1, p.2)] := by simp [pyDictInsert, hany]
    rw [List.foldl_cons, hins, ih (d ++ [(p.1, p.2)]) hl']
    · simp
    · intro p' hp' q hq
      rcases List.mem_append.mp hq with hq | hq
      · exact hd p' (List.mem_cons_of_mem _ hp') q hq
      · simp only [List.mem_singleton] at hq
        subst hq
        intro heq
        exact hp (List.mem_map.mpr ⟨p', hp', heq.symm⟩)

theorem pyDict_nodup (l : List (Nat × Nat)) (hl : (l.map (·.1)).Nodup) : pyDict l = l := by
  simpa [pyDict] using pyDict_foldl l [] hl (by simp)

/-! ## 1. which stack entries `track1` uses: the argument positions `toCall` demands -/

theorem toCall_evar (s : PySt) (x : Nat) : toCall s ⟨"evar", [.byte x]⟩ = some (.evar x) := by simp [toCall]
theorem toCall_svar (s : PySt) (x : Nat) : toCall s ⟨"svar", [.byte x]⟩ = some (.svar x) := by simp [toCall]
theorem toCall_symbol (s : PySt) (x : Nat) : toCall s ⟨"symbol", [.str (.byte x)]⟩ = some (.symbol x) := by simp [toCall]
theorem toCall_implies (s : PySt) : toCall s ⟨"implies", [.stackTop 1, .stackTop 0]⟩ = some .implies := by simp [toCall]
theorem toCall_app (s : PySt) : toCall s ⟨"app", [.stackTop 1, .stackTop 0]⟩ = some .app := by simp [toCall]
theorem toCall_ex (s : PySt) (x : Nat) : toCall s ⟨"exists", [.byte x, .stackTop 0]⟩ = some (.ex x) := by simp [toCall]
theorem toCall_mu (s : PySt) (x : Nat) : toCall s ⟨"mu", [.byte x, .stackTop 0]⟩ = some (.mu x) := by simp [toCall]
theorem toCall_esubst (s : PySt) (x : Nat) :
    toCall s ⟨"esubst", [.byte x, .stackTop 0, .stackTop 1]⟩ = some (.esubst x) := by simp [toCall]
theorem toCall_ssubst (s : PySt) (x : Nat) :
    toCall s ⟨"ssubst", [.byte x, .stackTop 0, .stackTop 1]⟩ = some (.ssubst x) := by simp [toCall]
theorem toCall_metavar (s : PySt) (id : Nat) (ef sf ps ns hs : List Nat) :
    toCall s ⟨"metavar", [.byte id, .vars "EVar" ef, .vars "SVar" sf, .vars "SVar" ps, .vars "SVar" ns, .vars "EVar" hs]⟩ =
      some (.metavar id ef sf ps ns hs) := by simp [toCall]
theorem toCall_cleanmv (s : PySt) (id : Nat) :
    toCall s ⟨"metavar", [.byte id, .tuple0, .tuple0, .tuple0, .tuple0, .tuple0]⟩ = some (.metavar id [] [] [] [] []) := by
  simp [toCall]
theorem toCall_prop1 (s : PySt) : toCall s ⟨"prop1", []⟩ = some .prop1 := by simp [toCall]
theorem toCall_prop2 (s : PySt) : toCall s ⟨"prop2", []⟩ = some .prop2 := by simp [toCall]
theorem toCall_prop3 (s : PySt) : toCall s ⟨"prop3", []⟩ = some .prop3 := by simp [toCall]
theorem toCall_quantifier (s : PySt) : toCall s ⟨"exists_quantifier", []⟩ = some .quantifier := by simp [toCall]
theorem toCall_mp (s : PySt) : toCall s ⟨"modus_ponens", [.stackTop 1, .stackTop 0]⟩ = some .mp := by simp [toCall]
theorem toCall_gen (s : PySt) (x : Nat) :
    toCall s ⟨"exists_generalization", [.stackTop 0, .mkVar "EVar" (.byte x)]⟩ = some (.gen x) := by simp [toCall]
theorem toCall_pop (s : PySt) : toCall s ⟨"pop", [.stackTop 0]⟩ = some .pop := by simp [toCall]
theorem toCall_save (s : PySt) : toCall s ⟨"save", [.str .memLen, .stackTop 0]⟩ = some .save := by simp [toCall]
theorem toCall_load (s : PySt) (i : Nat) :
    toCall s ⟨"load", [.str (.byte i), .memAt i]⟩ = (s.memory[i]?).map .load := by simp [toCall]
theorem toCall_publishAxiom (s : PySt) : toCall s ⟨"publish_axiom", [.stackTop 0]⟩ = some .publishAxiom := by simp [toCall]
theorem toCall_publishClaim (s : PySt) : toCall s ⟨"publish_claim", [.stackTop 0]⟩ = some .publishClaim := by simp [toCall]
theorem toCall_publishProof (s : PySt) : toCall s ⟨"publish_proof", [.stackTop 0]⟩ = some .publishProof := by simp [toCall]

/-- `implies(left, right)`: `toCall` demands `[stackTop 1, stackTop 0]`; `track1` builds `left → right` from exactly these -/
theorem track1_implies_uses (n : Nat) (s s' : PySt) (h : track1 n s .implies = some (some s')) :
    toCall s ⟨"implies", [.stackTop 1, .stackTop 0]⟩ = some .implies ∧
    ∃ l r, Arg.term s (.stackTop 1) = some (.pat l) ∧ Arg.term s (.stackTop 0) = some (.pat r) ∧
      s'.stack = (.pat (.imp l r), false) :: s.stack.drop 2 := by
  refine ⟨toCall_implies s, ?_⟩
  dsimp only [track1] at h
  split at h
  · next r b1 l b2 st hs =>
    cases h
    exact ⟨l, r, by simp [Arg.term, hs], by simp [Arg.term, hs], by simp [hs]⟩
  · simp at h

/-- `app(left, right)`: `[stackTop 1, stackTop 0]` -/
theorem track1_app_uses (n : Nat) (s s' : PySt) (h : track1 n s .app = some (some s')) :
    toCall s ⟨"app", [.stackTop 1, .stackTop 0]⟩ = some .app ∧
    ∃ l r, Arg.term s (.stackTop 1) = some (.pat l) ∧ Arg.term s (.stackTop 0) = some (.pat r) ∧
      s'.stack = (.pat (.app l r), false) :: s.stack.drop 2 := by
  refine ⟨toCall_app s, ?_⟩
  dsimp only [track1] at h
  split at h
  · next r b1 l b2 st hs =>
    cases h
    exact ⟨l, r, by simp [Arg.term, hs], by simp [Arg.term, hs], by simp [hs]⟩
  · simp at h

/-- `exists(id, subpattern)`: `[byte id, stackTop 0]` -/
theorem track1_ex_uses (n : Nat) (s s' : PySt) (x : Nat) (h : track1 n s (.ex x) = some (some s')) :
    toCall s ⟨"exists", [.byte x, .stackTop 0]⟩ = some (.ex x) ∧
    ∃ p, Arg.term s (.stackTop 0) = some (.pat p) ∧ s'.stack = (.pat (.ex x p), false) :: s.stack.drop 1 := by
  refine ⟨toCall_ex s x, ?_⟩
  dsimp only [track1] at h
  split at h
  · next p b1 st hs =>
    cases h
    exact ⟨p, by simp [Arg.term, hs], by simp [hs]⟩
  · simp at h

/-- `mu(id, subpattern)`: `[byte id, stackTop 0]` -/
theorem track1_mu_uses (n : Nat) (s s' : PySt) (x : Nat) (h : track1 n s (.mu x) = some (some s')) :
    toCall s ⟨"mu", [.byte x, .stackTop 0]⟩ = some (.mu x) ∧
    ∃ p, Arg.term s (.stackTop 0) = some (.pat p) ∧ s'.stack = (.pat (.mu x p), false) :: s.stack.drop 1 := by
  refine ⟨toCall_mu s x, ?_⟩
  dsimp only [track1] at h
  split at h
  · next p b1 st hs =>
    cases h
    exact ⟨p, by simp [Arg.term, hs], by simp [hs]⟩
  · simp at h

/-- `esubst(evar_id, pattern, plug)`: `[byte id, stackTop 0, stackTop 1]` — the pattern is the top, the plug below it -/
theorem track1_esubst_uses (n : Nat) (s s' : PySt) (x : Nat) (h : track1 n s (.esubst x) = some (some s')) :
    toCall s ⟨"esubst", [.byte x, .stackTop 0, .stackTop 1]⟩ = some (.esubst x) ∧
    ∃ p plug, Arg.term s (.stackTop 0) = some (.pat p) ∧ Arg.term s (.stackTop 1) = some (.pat plug) ∧
      s'.stack = (.pat (.esub p x plug), false) :: s.stack.drop 2 := by
  refine ⟨toCall_esubst s x, ?_⟩
  dsimp only [track1] at h
  split at h
  · next p b1 plug b2 st hs =>
    split at h
    · cases h
      exact ⟨p, plug, by simp [Arg.term, hs], by simp [Arg.term, hs], by simp [hs]⟩
    · simp at h
  · simp at h

/-- `ssubst(svar_id, pattern, plug)`: `[byte id, stackTop 0, stackTop 1]` -/
theorem track1_ssubst_uses (n : Nat) (s s' : PySt) (x : Nat) (h : track1 n s (.ssubst x) = some (some s')) :
    toCall s ⟨"ssubst", [.byte x, .stackTop 0, .stackTop 1]⟩ = some (.ssubst x) ∧
    ∃ p plug, Arg.term s (.stackTop 0) = some (.pat p) ∧ Arg.term s (.stackTop 1) = some (.pat plug) ∧
      s'.stack = (.pat (.ssub p x plug), false) :: s.stack.drop 2 := by
  refine ⟨toCall_ssubst s x, ?_⟩
  dsimp only [track1] at h
  split at h
  · next p b1 plug b2 st hs =>
    split at h
    · cases h
      exact ⟨p, plug, by simp [Arg.term, hs], by simp [Arg.term, hs], by simp [hs]⟩
    · simp at h
  · simp at h

/-- `modus_ponens(left, right)`: `[stackTop 1, stackTop 0]`; the conclusion is `pyMP left right` -/
theorem track1_mp_uses (n : Nat) (s s' : PySt) (h : track1 n s .mp = some (some s')) :
    toCall s ⟨"modus_ponens", [.stackTop 1, .stackTop 0]⟩ = some .mp ∧
    ∃ l r c, Arg.term s (.stackTop 1) = some (.proved l) ∧ Arg.term s (.stackTop 0) = some (.proved r) ∧
      NPat.pyMP n l r = some (some c) ∧ s'.stack = (.proved c, false) :: s.stack.drop 2 := by
  refine ⟨toCall_mp s, ?_⟩
  dsimp only [track1] at h
  split at h
  · next r b1 l b2 st hs =>
    obtain ⟨c, hmp, h⟩ := Option.bind_some_some h
    cases h
    exact ⟨l, r, c, by simp [Arg.term, hs], by simp [Arg.term, hs], hmp, by simp [hs]⟩
  · simp at h

/-- `exists_generalization(proved, EVar(id))`: `[stackTop 0, EVar(byte id)]` -/
theorem track1_gen_uses (n : Nat) (s s' : PySt) (x : Nat) (h : track1 n s (.gen x) = some (some s')) :
    toCall s ⟨"exists_generalization", [.stackTop 0, .mkVar "EVar" (.byte x)]⟩ = some (.gen x) ∧
    ∃ a c, Arg.term s (.stackTop 0) = some (.proved a) ∧ NPat.pyGen n a x = some (some c) ∧
      s'.stack = (.proved c, false) :: s.stack.drop 1 := by
  refine ⟨toCall_gen s x, ?_⟩
  dsimp only [track1] at h
  split at h
  · next a b1 st hs =>
    obtain ⟨c, hg, h⟩ := Option.bind_some_some h
    cases h
    exact ⟨a, c, by simp [Arg.term, hs], hg, by simp [hs]⟩
  · simp at h

/-- `pop(term)`, `save(str(len(memory)), term)`: the term is `stackTop 0` -/
theorem track1_pop_save_uses (n : Nat) (s s' : PySt) :
    toCall s ⟨"pop", [.stackTop 0]⟩ = some .pop ∧ toCall s ⟨"save", [.str .memLen, .stackTop 0]⟩ = some .save ∧
    (track1 n s .pop = some (some s') → ∃ t, Arg.term s (.stackTop 0) = some t ∧ s'.stack = s.stack.drop 1) ∧
    (track1 n s .save = some (some s') → ∃ t, Arg.term s (.stackTop 0) = some t ∧ s'.memory = s.memory ++ [t]) := by
  refine ⟨toCall_pop s, toCall_save s, ?_, ?_⟩
  · intro h
    dsimp only [track1] at h
    split at h
    · next e st hs => simp only [Option.some.injEq] at h; subst h; exact ⟨e.1, by simp [Arg.term, hs], by simp [hs]⟩
    · simp at h
  · intro h
    dsimp only [track1] at h
    split at h
    · next t b st hs => simp only [Option.some.injEq] at h; subst h; exact ⟨t, by simp [Arg.term, hs], rfl⟩
    · simp at h

/-- `load(str(id), interpreter.memory[id])`: the term loaded is the memory entry `memAt id` -/
theorem track1_load_uses (n : Nat) (s s' : PySt) (i : Nat) (t : TTerm) (hm : s.memory[i]? = some t)
    (h : track1 n s (.load t) = some (some s')) :
    toCall s ⟨"load", [.str (.byte i), .memAt i]⟩ = some (.load t) ∧ Arg.term s (.memAt i) = some t ∧
      s'.stack = (t, false) :: s.stack := by
  refine ⟨by rw [toCall_load, hm]; rfl, by simp [Arg.term, hm], ?_⟩
  dsimp only [track1] at h
  obtain ⟨j, _, h⟩ := Option.bind_some_some h
  simp only [Option.pure_def, Option.some.injEq] at h; subst h; rfl

/-- `publish_axiom(stack[-1])`, `publish_claim(stack[-1])`, `publish_proof(stack[-1])` -/
theorem track1_publish_uses (n : Nat) (s s' : PySt) :
    toCall s ⟨"publish_axiom", [.stackTop 0]⟩ = some .publishAxiom ∧
    toCall s ⟨"publish_claim", [.stackTop 0]⟩ = some .publishClaim ∧
    toCall s ⟨"publish_proof", [.stackTop 0]⟩ = some .publishProof ∧
    (track1 n s .publishAxiom = some (some s') → ∃ a, Arg.term s (.stackTop 0) = some (.pat a) ∧
      s'.memory = s.memory ++ [.proved a]) ∧
    (track1 n s .publishClaim = some (some s') → ∃ a, Arg.term s (.stackTop 0) = some (.pat a)) ∧
    (track1 n s .publishProof = some (some s') → ∃ t c, Arg.term s (.stackTop 0) = some (.proved t) ∧
      s.claims = c :: s'.claims ∧ NPat.peqF n t c = some true) := by
  refine ⟨toCall_publishAxiom s, toCall_publishClaim s, toCall_publishProof s, ?_, ?_, ?_⟩
  · intro h
    dsimp only [track1] at h
    split at h
    · next a b st hph hs => simp only [Option.some.injEq] at h; subst h; exact ⟨a, by simp [Arg.term, hs], rfl⟩
    · simp at h
  · intro h
    dsimp only [track1] at h
    split at h
    · next a b st hph hs => exact ⟨a, by simp [Arg.term, hs]⟩
    · simp at h
  · intro h
    dsimp only [track1] at h
    split at h
    · next t b st c cs hph hs hcl =>
      simp only [Option.bind_eq_bind, Option.bind_eq_some_iff] at h
      obtain ⟨e, he, h⟩ := h
      cases e with
      | false => simp at h
      | true =>
        simp only [if_true, Option.pure_def, Option.some.injEq] at h; subst h
        exact ⟨t, c, by simp [Arg.term, hs], hcl, he⟩
    · simp at h

/-- the plug `takePlugs` returns in place `j` sits at stack position `k - j`, the `j`-th entry of `plugPositions k` -/
theorem plug_positions (s : PySt) (e : TTerm × Bool) (st : List (TTerm × Bool)) (hs : s.stack = e :: st) (k : Nat)
    (plugs : List NPat) (hj : ∀ j, j < k → ∃ p b, plugs[j]? = some p ∧ st[k - 1 - j]? = some (.pat p, b)) :
    ∀ j, j < k → ∃ p, plugs[j]? = some p ∧ (plugPositions k)[j]? = some (k - j) ∧
      Arg.term s (.stackTop (k - j)) = some (.pat p) := by
  intro j hjk
  obtain ⟨p, b, hp, hst⟩ := hj j hjk
  refine ⟨p, hp, ?_, ?_⟩
  · simp only [plugPositions, List.getElem?_reverse (by simpa using hjk : j < (List.range' 1 k).length)]
    simp only [List.length_range']
    rw [List.getElem?_range' (by omega)]; simp; omega
  · have : k - j = (k - 1 - j) + 1 := by omega
    simp [Arg.term, hs, this, hst]

/-- `instantiate(target, delta)` / `instantiate_pattern(target, delta)`: the target is `stackTop 0`; `toCall` demands that the
dictionary's values are the positions `plugPositions m` = `m, m-1, …, 1`, and `track1` pairs key `j` with the plug at
position `m - j`, i.e. at `plugPositions m`'s `j`-th entry -/
theorem track1_instantiate_uses (n : Nat) (s s' : PySt) (keys : List Nat) (hne : keys ≠ [])
    (h : track1 n s (.instantiate keys) = some (some s')) :
    toCall s ⟨"instantiate", [.stackTop 0, .dict (keys.zip (plugPositions keys.length))]⟩ = some (.instantiate keys) ∧
    ∃ a plugs c, Arg.term s (.stackTop 0) = some (.proved a) ∧ plugs.length = keys.length ∧
      (∀ j, j < keys.length → ∃ p, plugs[j]? = some p ∧ (plugPositions keys.length)[j]? = some (keys.length - j) ∧
        Arg.term s (.stackTop (keys.length - j)) = some (.pat p)) ∧
      NPat.instF n (keys.zip plugs) a = some c ∧ s'.stack = (.proved c, false) :: s.stack.drop (keys.length + 1) := by
  have hpl : (plugPositions keys.length).length = keys.length := by simp [plugPositions]
  constructor
  · simp [toCall, List.map_snd_zip, List.map_fst_zip, hpl]
  dsimp only [track1] at h
  split at h
  · next a b1 st hs =>
    have hemp : keys.isEmpty = false := by cases keys <;> simp_all
    simp only [hemp, Bool.false_eq_true, if_false] at h
    split at h
    · simp at h
    · next plugs st' htp =>
      simp only [Option.bind_eq_bind, Option.bind_eq_some_iff, Option.pure_def, Option.some.injEq] at h
      obtain ⟨c, hinst, h⟩ := h
      subst h
      obtain ⟨hl, hd, hle, hj⟩ := takePlugs_positions _ _ _ _ htp
      exact ⟨a, plugs, c, by simp [Arg.term, hs], hl, plug_positions s _ _ hs _ plugs hj, hinst, by simp [hs, hd]⟩
  · simp at h

theorem track1_instantiatePattern_uses (n : Nat) (s s' : PySt) (keys : List Nat)
    (h : track1 n s (.instantiatePattern keys) = some (some s')) :
    toCall s ⟨"instantiate_pattern", [.stackTop 0, .dict (keys.zip (plugPositions keys.length))]⟩ =
      some (.instantiatePattern keys) ∧
    ∃ a plugs, Arg.term s (.stackTop 0) = some (.pat a) ∧ plugs.length = keys.length ∧
      (∀ j, j < keys.length → ∃ p, plugs[j]? = some p ∧ (plugPositions keys.length)[j]? = some (keys.length - j) ∧
        Arg.term s (.stackTop (keys.length - j)) = some (.pat p)) ∧
      s'.stack = (.pat (.inst a (keys.zip plugs)), false) :: s.stack.drop (keys.length + 1) := by
  have hpl : (plugPositions keys.length).length = keys.length := by simp [plugPositions]
  constructor
  · simp [toCall, List.map_snd_zip, List.map_fst_zip, hpl]
  dsimp only [track1] at h
  split at h
  · next a b1 st hs =>
    split at h
    · simp at h
    · next plugs st' htp =>
      cases h
      obtain ⟨hl, hd, hle, hj⟩ := takePlugs_positions _ _ _ _ htp
      exact ⟨a, plugs, by simp [Arg.term, hs], hl, plug_positions s _ _ hs _ plugs hj, by simp [hs, hd]⟩
  · simp at h

/-! ### `track1` raises when an operand is missing -/

theorem track1_short2 (n : Nat) (s : PySt) (h : s.stack.length < 2) :
    track1 n s .implies = some none ∧ track1 n s .app = some none ∧ track1 n s .mp = some none ∧
    (∀ x, track1 n s (.esubst x) = some none) ∧ (∀ x, track1 n s (.ssubst x) = some none) := by
  obtain ⟨ph, stk, mem, cl, sy⟩ := s
  match stk, h with
  | [], _ => simp [track1]
  | [(t, b)], _ => cases t <;> simp [track1]
  | _ :: _ :: _, h => simp only [List.length_cons] at h; omega

theorem track1_short1 (n : Nat) (s : PySt) (h : s.stack = []) :
    (∀ x, track1 n s (.ex x) = some none) ∧ (∀ x, track1 n s (.mu x) = some none) ∧ (∀ x, track1 n s (.gen x) = some none) ∧
    track1 n s .pop = some none ∧ track1 n s .save = some none ∧ track1 n s .publishAxiom = some none ∧
    track1 n s .publishClaim = some none ∧ track1 n s .publishProof = some none := by
  obtain ⟨ph, stk, mem, cl, sy⟩ := s
  cases h
  cases ph <;> simp [track1]

/-! ## 2. one loop iteration -/

/-- the hand-written model of one iteration: decode one instruction, dispatch (`callOfInstr`), make the call (`track1`) -/
def modelStep (n : Nat) (s : PySt) (bs : List Nat) : Option (Option (PySt × List Nat)) :=
  match decode1 bs with
  | none => some none
  | some (i, rest) =>
      match callOfInstr s i with
      | none => some none
      | some c => (track1 n s c).map (Option.map (·, rest))

theorem modelStep_of (n : Nat) (s : PySt) {bs rest : List Nat} {i : Instr} {c : Call}
    (hd : decode1 bs = some (i, rest)) (hi : callOfInstr s i = some c) :
    modelStep n s bs = (track1 n s c).map (Option.map (·, rest)) := by
  simp only [modelStep, hd, hi]

theorem modelStep_raise (n : Nat) (s : PySt) {bs rest : List Nat} {i : Instr} {c : Call}
    (hd : decode1 bs = some (i, rest)) (hi : callOfInstr s i = some c) (ht : track1 n s c = some none) :
    modelStep n s bs = some none := by
  rw [modelStep_of n s hd hi, ht]
  rfl

theorem exec_call (n : Nat) (s : PySt) (dc : DCall) (rest : List Nat) (c : Call) (hd : dc.args.all (Arg.defined s) = true)
    (hc : toCall s dc = some c) : exec n s (.call dc rest) = (track1 n s c).map (Option.map (·, rest)) := by
  simp only [exec, hd, if_true, hc]

/-- a branch that ends in the call `dc` is the model's step when the decoded instruction dispatches to the tracker call that
`dc` is, and that call raises whenever evaluating an argument of `dc` would -/
theorem tie_call (n : Nat) (s : PySt) {bs rest : List Nat} {i : Instr} {c : Call} (dc : DCall)
    (hd : decode1 bs = some (i, rest)) (hi : callOfInstr s i = some c) (hc : toCall s dc = some c)
    (hu : dc.args.all (Arg.defined s) = false → track1 n s c = some none) :
    exec n s (.call dc rest) = modelStep n s bs := by
  cases ha : dc.args.all (Arg.defined s) with
  | true => rw [modelStep_of n s hd hi, exec_call n s dc rest c ha hc]
  | false => simp [exec, ha, modelStep_raise n s hd hi (hu ha)]

theorem exec_assertThat (n : Nat) (s : PySt) (b : Bool) (res : Res) (o : Option (Option (PySt × List Nat)))
    (hf : b = false → o = some none) (ht : b = true → exec n s res = o) : exec n s (assertThat b res) = o := by
  cases b with
  | false => exact (hf rfl).symm
  | true => exact ht rfl

theorem tie_evar (n : Nat) (s : PySt) (r : List Nat) : exec n s (Gen.Deser.br_EVar n s r) = modelStep n s (2 :: r) := by
  cases r with
  | nil => rfl
  | cons x r => exact tie_call n s _ (decode1_evar x r) rfl (toCall_evar s x) (by simp [Arg.defined])

theorem tie_svar (n : Nat) (s : PySt) (r : List Nat) : exec n s (Gen.Deser.br_SVar n s r) = modelStep n s (3 :: r) := by
  cases r with
  | nil => rfl
  | cons x r => exact tie_call n s _ (decode1_svar x r) rfl (toCall_svar s x) (by simp [Arg.defined])

theorem tie_symbol (n : Nat) (s : PySt) (r : List Nat) : exec n s (Gen.Deser.br_Symbol n s r) = modelStep n s (4 :: r) := by
  cases r with
  | nil => rfl
  | cons x r => exact tie_call n s _ (decode1_sym x r) rfl (toCall_symbol s x) (by simp [Arg.defined])

theorem tie_cleanmv (n : Nat) (s : PySt) (r : List Nat) : exec n s (Gen.Deser.br_CleanMetaVar n s r) = modelStep n s (137 :: r) := by
  cases r with
  | nil => rfl
  | cons x r => exact tie_call n s _ (decode1_cleanmv x r) rfl (toCall_cleanmv s x) (by simp [Arg.defined])

theorem tie_prop1 (n : Nat) (s : PySt) (r : List Nat) : exec n s (Gen.Deser.br_Prop1 n s r) = modelStep n s (12 :: r) :=
  tie_call n s _ (decode1_prop1 r) rfl (toCall_prop1 s) (by simp)

theorem tie_prop2 (n : Nat) (s : PySt) (r : List Nat) : exec n s (Gen.Deser.br_Prop2 n s r) = modelStep n s (13 :: r) :=
  tie_call n s _ (decode1_prop2 r) rfl (toCall_prop2 s) (by simp)

theorem tie_prop3 (n : Nat) (s : PySt) (r : List Nat) : exec n s (Gen.Deser.br_Prop3 n s r) = modelStep n s (14 :: r) :=
  tie_call n s _ (decode1_prop3 r) rfl (toCall_prop3 s) (by simp)

theorem tie_quantifier (n : Nat) (s : PySt) (r : List Nat) : exec n s (Gen.Deser.br_Quantifier n s r) = modelStep n s (15 :: r) :=
  tie_call n s _ (decode1_quantifier r) rfl (toCall_quantifier s) (by simp)

theorem tie_implies (n : Nat) (s : PySt) (r : List Nat) : exec n s (Gen.Deser.br_Implies n s r) = modelStep n s (5 :: r) :=
  tie_call n s _ (decode1_implies r) rfl (toCall_implies s) fun h =>
    (track1_short2 n s (by simp [Arg.defined, -List.length_eq_zero_iff] at h; omega)).1

theorem tie_app (n : Nat) (s : PySt) (r : List Nat) : exec n s (Gen.Deser.br_App n s r) = modelStep n s (6 :: r) :=
  tie_call n s _ (decode1_app r) rfl (toCall_app s) fun h =>
    (track1_short2 n s (by simp [Arg.defined, -List.length_eq_zero_iff] at h; omega)).2.1

theorem tie_mp (n : Nat) (s : PySt) (r : List Nat) : exec n s (Gen.Deser.br_ModusPonens n s r) = modelStep n s (21 :: r) :=
  tie_call n s _ (decode1_mp r) rfl (toCall_mp s) fun h =>
    (track1_short2 n s (by simp [Arg.defined, -List.length_eq_zero_iff] at h; omega)).2.2.1

theorem tie_exists (n : Nat) (s : PySt) (r : List Nat) : exec n s (Gen.Deser.br_Exists n s r) = modelStep n s (8 :: r) := by
  cases r with
  | nil => rfl
  | cons x r =>
    exact tie_call n s _ (decode1_ex x r) rfl (toCall_ex s x) fun h =>
      (track1_short1 n s (by simpa [Arg.defined] using h)).1 x

theorem tie_mu (n : Nat) (s : PySt) (r : List Nat) : exec n s (Gen.Deser.br_Mu n s r) = modelStep n s (7 :: r) := by
  cases r with
  | nil => rfl
  | cons x r =>
    exact tie_call n s _ (decode1_mu x r) rfl (toCall_mu s x) fun h =>
      (track1_short1 n s (by simpa [Arg.defined] using h)).2.1 x

theorem tie_esubst (n : Nat) (s : PySt) (r : List Nat) : exec n s (Gen.Deser.br_ESubst n s r) = modelStep n s (10 :: r) := by
  cases r with
  | nil => rfl
  | cons x r =>
    exact tie_call n s _ (decode1_esubst x r) rfl (toCall_esubst s x) fun h =>
      (track1_short2 n s (by simp [Arg.defined, -List.length_eq_zero_iff] at h; omega)).2.2.2.1 x

theorem tie_ssubst (n : Nat) (s : PySt) (r : List Nat) : exec n s (Gen.Deser.br_SSubst n s r) = modelStep n s (11 :: r) := by
  cases r with
  | nil => rfl
  | cons x r =>
    exact tie_call n s _ (decode1_ssubst x r) rfl (toCall_ssubst s x) fun h =>
      (track1_short2 n s (by simp [Arg.defined, -List.length_eq_zero_iff] at h; omega)).2.2.2.2 x

theorem tie_pop (n : Nat) (s : PySt) (r : List Nat) : exec n s (Gen.Deser.br_Pop n s r) = modelStep n s (27 :: r) :=
  tie_call n s _ (decode1_pop r) rfl (toCall_pop s) fun h =>
    (track1_short1 n s (by simpa [Arg.defined] using h)).2.2.2.1

theorem tie_save (n : Nat) (s : PySt) (r : List Nat) : exec n s (Gen.Deser.br_Save n s r) = modelStep n s (28 :: r) :=
  tie_call n s _ (decode1_save r) rfl (toCall_save s) fun h =>
    (track1_short1 n s (by simpa [Arg.defined] using h)).2.2.2.2.1

theorem exec_readList (n : Nat) (s : PySt) (bs : List Nat) (k : List Nat → List Nat → Res) :
    exec n s (readList bs k) = match readVec bs with | none => some none | some (l, r) => exec n s (k l r) := by
  rw [readList_eq]
  cases readVec bs <;> rfl

theorem tie_metavar (n : Nat) (s : PySt) (r : List Nat) : exec n s (Gen.Deser.br_MetaVar n s r) = modelStep n s (9 :: r) := by
  cases r with
  | nil => rfl
  | cons id r =>
    simp only [Gen.Deser.br_MetaVar, nextByte, exec_readList, modelStep, decode1_metavar]
    cases readVec r with
    | none => rfl
    | some p1 =>
    simp only [Option.bind_some]
    cases readVec p1.2 with
    | none => rfl
    | some p2 =>
    simp only [Option.bind_some]
    cases readVec p2.2 with
    | none => rfl
    | some p3 =>
    simp only [Option.bind_some]
    cases readVec p3.2 with
    | none => rfl
    | some p4 =>
    simp only [Option.bind_some]
    cases readVec p4.2 with
    | none => rfl
    | some p5 => exact exec_call n s _ _ _ (by simp [Arg.defined]) (toCall_metavar s id _ _ _ _ _)

theorem isProved_iff (s : PySt) (k : Nat) : isProved s (.stackTop k) = true ↔ ∃ p b, s.stack[k]? = some (.proved p, b) := by
  simp only [isProved, Arg.term]
  cases h : s.stack[k]? with
  | none => simp
  | some e => obtain ⟨t, b⟩ := e; cases t <;> simp

theorem isPattern_iff (s : PySt) (k : Nat) :
    isPattern s (.stackTop k) = true ↔ ∃ p b, s.stack[k]? = some (.pat p, b) := by
  simp only [isPattern, Arg.term]
  cases h : s.stack[k]? with
  | none => simp
  | some e => obtain ⟨t, b⟩ := e; cases t <;> simp

theorem isProved_false_gen (n : Nat) (s : PySt) (x : Nat) (h : isProved s (.stackTop 0) = false) :
    track1 n s (.gen x) = some none := by
  obtain ⟨ph, stk, mem, cl, sy⟩ := s
  match stk, h with
  | [], _ => simp [track1]
  | (.pat p, b) :: st, _ => simp [track1]
  | (.proved p, b) :: st, h => simp [isProved, Arg.term] at h

theorem tie_gen (n : Nat) (s : PySt) (r : List Nat) : exec n s (Gen.Deser.br_Generalization n s r) = modelStep n s (22 :: r) := by
  cases r with
  | nil => rfl
  | cons x r =>
    have hd := decode1_gen x r
    exact exec_assertThat n s _ _ _ (fun hp => modelStep_raise n s hd rfl (isProved_false_gen n s x hp)) fun _ =>
      tie_call n s _ hd rfl (toCall_gen s x) fun h => (track1_short1 n s (by simpa [Arg.defined] using h)).2.2.1 x

theorem tie_load (n : Nat) (s : PySt) (r : List Nat) : exec n s (Gen.Deser.br_Load n s r) = modelStep n s (29 :: r) := by
  cases r with
  | nil => rfl
  | cons i r =>
    simp only [Gen.Deser.br_Load, nextByte, modelStep, decode1_load, callOfInstr]
    by_cases h : i < s.memory.length
    · have hm : s.memory[i]? = some s.memory[i] := List.getElem?_eq_getElem h
      rw [if_neg (by simpa using h), hm]
      exact exec_call n s _ _ _ (by simp [Arg.defined, h]) (by rw [toCall_load, hm]; rfl)
    · rw [if_pos (by simpa using h), List.getElem?_eq_none (by omega)]
      rfl

/-- the deserialiser's own claim test before `publish_proof` (`claims[0].pattern != theorem.conclusion`: the claim is the left
operand) answers as the tracker's test inside `publish_proof` (`proved.conclusion == expected_claim.pattern`: the claim is the
right operand).  `callOfInstr` does not model the former. -/
def PrecheckAgrees (n : Nat) (s : PySt) : Prop :=
  ∀ t b st c cs, s.phase = .proof → s.stack = (.proved t, b) :: st → s.claims = c :: cs → NPat.peqF n c t = NPat.peqF n t c

theorem track1_publish_raises (n : Nat) (s : PySt) :
    (isPattern s (.stackTop 0) = false → track1 n s .publishAxiom = some none ∧ track1 n s .publishClaim = some none) ∧
    (isProved s (.stackTop 0) = false → track1 n s .publishProof = some none) := by
  obtain ⟨ph, stk, mem, cl, sy⟩ := s
  match stk with
  | [] => cases ph <;> simp [track1]
  | (.pat p, b) :: st => cases ph <;> simp [track1, isPattern, Arg.term]
  | (.proved p, b) :: st => cases ph <;> simp [track1, isProved, Arg.term]

theorem tie_publish (n : Nat) (s : PySt) (r : List Nat) (hpre : PrecheckAgrees n s) :
    exec n s (Gen.Deser.br_Publish n s r) = modelStep n s (30 :: r) := by
  have hd := decode1_publish r
  have hu : [Arg.stackTop 0].all (Arg.defined s) = false → s.stack = [] := fun h => by simpa [Arg.defined] using h
  unfold Gen.Deser.br_Publish
  cases hph : s.phase with
  | gamma =>
    have hi : callOfInstr s .publish = some .publishAxiom := by simp only [callOfInstr, hph]
    exact exec_assertThat n s _ _ _ (fun hp => modelStep_raise n s hd hi ((track1_publish_raises n s).1 hp).1) fun _ =>
      tie_call n s _ hd hi (toCall_publishAxiom s) fun h => (track1_short1 n s (hu h)).2.2.2.2.2.1
  | claim =>
    have hi : callOfInstr s .publish = some .publishClaim := by simp only [callOfInstr, hph]
    exact exec_assertThat n s _ _ _ (fun hp => modelStep_raise n s hd hi ((track1_publish_raises n s).1 hp).2) fun _ =>
      tie_call n s _ hd hi (toCall_publishClaim s) fun h => (track1_short1 n s (hu h)).2.2.2.2.2.2.1
  | proof =>
    have hi : callOfInstr s .publish = some .publishProof := by simp only [callOfInstr, hph]
    refine exec_assertThat n s _ _ _ (fun hp => modelStep_raise n s hd hi ((track1_publish_raises n s).2 hp)) fun hp => ?_
    obtain ⟨t, b, hs⟩ := (isProved_iff s 0).mp hp
    obtain ⟨ph, stk, mem, cl, sy⟩ := s
    cases stk with
    | nil => simp at hs
    | cons e st =>
      obtain rfl : e = (.proved t, b) := by simpa using hs
      cases hph
      cases cl with
      | nil =>
        rw [modelStep_raise n _ hd hi (by simp [track1])]
        rfl
      | cons c cs =>
        have hsym : NPat.peqF n c t = NPat.peqF n t c := hpre t b st c cs rfl rfl rfl
        rw [modelStep_of n _ hd hi]
        cases hq : NPat.peqF n t c with
        | none => simp [ifM, pyOr, pyNot, claimHeadEq, Arg.term, TTerm.body, hsym, hq, exec, track1]
        | some q =>
          cases q with
          | false => simp [ifM, pyOr, pyNot, claimHeadEq, Arg.term, TTerm.body, hsym, hq, exec, track1]
          | true =>
            simp [ifM, pyOr, pyNot, claimHeadEq, Arg.term, TTerm.body, hsym, hq, exec, toCall_publishProof, Arg.defined]

/-! ### Instantiate -/

/-- the key bytes of an `Instantiate` at the head of the stream are pairwise different (what the serializer writes: the
keys of a `dict`) -/
def NodupKeys1 (bs : List Nat) : Prop := ∀ ids rest, decode1 bs = some (.instantiate ids, rest) → ids.Nodup

theorem allPattern_range (s : PySt) (m : Nat) :
    allPattern s (List.range' 1 m) = true ↔ ∀ j, j < m → ∃ p b, s.stack[j + 1]? = some (.pat p, b) := by
  simp only [allPattern, List.all_eq_true, List.mem_range'_1, isPattern_iff]
  constructor
  · intro h j hj; exact h (j + 1) (by omega)
  · intro h k hk
    have := h (k - 1) (by omega)
    rwa [show k - 1 + 1 = k by omega] at this

theorem takePlugs_none_of (k : Nat) (st : List (TTerm × Bool))
    (h : ¬ (k ≤ st.length ∧ ∀ j, j < k → ∃ p b, st[j]? = some (.pat p, b))) : takePlugs k st = none := by
  cases htp : takePlugs k st with
  | none => rfl
  | some x =>
    exfalso
    obtain ⟨plugs, st'⟩ := x
    obtain ⟨_, _, hle, hj⟩ := takePlugs_positions k st plugs st' htp
    apply h
    refine ⟨hle, ?_⟩
    intro j hjk
    obtain ⟨p, b, _, hs⟩ := hj (k - 1 - j) (by omega)
    rw [show k - 1 - (k - 1 - j) = j by omega] at hs
    exact ⟨p, b, hs⟩

/-- the dictionary the Python code builds from pairwise different keys: wire key `i` with the plug at position `i+1`,
reversed — its keys are the reversed wire keys, its values the positions `plugPositions` -/
theorem delta_facts (ids : List Nat) :
    ((ids.zip (List.range' 1 ids.length)).reverse).map (·.1) = ids.reverse ∧
    ((ids.zip (List.range' 1 ids.length)).reverse).map (·.2) = plugPositions ids.length ∧
    ((ids.zip (List.range' 1 ids.length)).reverse).length = ids.length ∧
      ∀ p ∈ (ids.zip (List.range' 1 ids.length)).reverse, p.2 ≤ ids.length := by
  refine ⟨?_, ?_, ?_, ?_⟩
  · simp [List.map_reverse, List.map_fst_zip]
  · simp [List.map_reverse, List.map_snd_zip, plugPositions]
  · simp
  · intro p hp
    have hp' : p ∈ ids.zip (List.range' 1 ids.length) := by simpa using hp
    have := (List.of_mem_zip hp').2
    rw [List.mem_range'_1] at this
    omega

theorem toCall_instantiate (s : PySt) (pairs : List (Nat × Nat)) (h : pairs.map (·.2) = plugPositions pairs.length) :
    toCall s ⟨"instantiate", [.stackTop 0, .dict pairs]⟩ = some (.instantiate (pairs.map (·.1))) ∧
    toCall s ⟨"instantiate_pattern", [.stackTop 0, .dict pairs]⟩ = some (.instantiatePattern (pairs.map (·.1))) := by
  simp [toCall, h]

theorem inst_body (n : Nat) (s : PySt) (ids r' : List Nat) (hnd : ids.Nodup) :
    exec n s
      (assertThat (allPattern s (stackSlice s.stack.length (ids.length + 1) 1).reverse) <|
        zipStrict ids (stackSlice s.stack.length (ids.length + 1) 1).reverse fun zipped =>
          if isProved s (.stackTop 0) then Res.call ⟨"instantiate", [.stackTop 0, .dict (pyDict zipped.reverse)]⟩ r'
          else if isPattern s (.stackTop 0) then
            Res.call ⟨"instantiate_pattern", [.stackTop 0, .dict (pyDict zipped.reverse)]⟩ r'
          else Res.raise) =
    match callOfInstr s (.instantiate ids) with
    | none => some none
    | some c => (track1 n s c).map (Option.map (·, r')) := by
  have hV : (stackSlice s.stack.length (ids.length + 1) 1).reverse =
      List.range' 1 (min (ids.length + 1) s.stack.length - 1) := by simp [stackSlice]
  rw [hV]
  clear hV
  obtain ⟨ph, stk, mem, cl, sy⟩ := s
  cases stk with
  | nil =>
    simp only [List.length_nil, Nat.min_zero, Nat.zero_sub, List.range'_zero, callOfInstr]
    simp only [allPattern, List.all_nil, assertThat, if_true, zipStrict, isProved, isPattern, Arg.term]
    split <;> simp [exec]
  | cons e st =>
    obtain ⟨t, b⟩ := e
    have hmin : min (ids.length + 1) (st.length + 1) - 1 = min ids.length st.length := by omega
    simp only [List.length_cons, hmin]
    by_cases hm : ids.length ≤ st.length
    · rw [Nat.min_eq_left hm]
      cases hall : allPattern ⟨ph, (t, b) :: st, mem, cl, sy⟩ (List.range' 1 ids.length) with
      | false =>
        have hne : ids.reverse.isEmpty = false := by
          cases ids with
          | nil => simp [allPattern] at hall
          | cons a l => simp
        have htp : takePlugs ids.length st = none := by
          apply takePlugs_none_of
          intro hgood
          have : allPattern ⟨ph, (t, b) :: st, mem, cl, sy⟩ (List.range' 1 ids.length) = true := by
            rw [allPattern_range]
            intro j hj
            simpa using hgood.2 j hj
          rw [this] at hall
          exact absurd hall (by simp)
        cases t <;> simp [assertThat, exec, callOfInstr, track1, hne, htp, List.length_reverse]
      | true =>
        obtain ⟨hZ1, hZ2, hZ3, hZ4⟩ := delta_facts ids
        have hdict : pyDict (ids.zip (List.range' 1 ids.length)).reverse = (ids.zip (List.range' 1 ids.length)).reverse :=
          pyDict_nodup _ (by rw [hZ1]; exact (List.reverse_perm ids).nodup_iff.mpr hnd)
        have hZ2' : ((ids.zip (List.range' 1 ids.length)).reverse).map (·.2) =
            plugPositions ((ids.zip (List.range' 1 ids.length)).reverse).length := by rw [hZ3]; exact hZ2
        obtain ⟨hc1, hc2⟩ := toCall_instantiate ⟨ph, (t, b) :: st, mem, cl, sy⟩ _ hZ2'
        rw [hZ1] at hc1 hc2
        have hdef : ∀ dcm, (DCall.mk dcm [.stackTop 0, .dict (ids.zip (List.range' 1 ids.length)).reverse]).args.all
            (Arg.defined ⟨ph, (t, b) :: st, mem, cl, sy⟩) = true := by
          intro dcm
          simp only [List.all_cons, List.all_nil, Bool.and_true, Arg.defined, List.length_cons, Bool.and_eq_true,
            decide_eq_true_eq, List.all_eq_true]
          refine ⟨by omega, ?_⟩
          intro p hp
          have := hZ4 p hp
          omega
        simp only [assertThat, if_true, zipStrict, List.length_range', hdict]
        cases t with
        | pat a =>
          have h1 : isProved ⟨ph, (.pat a, b) :: st, mem, cl, sy⟩ (.stackTop 0) = false := by simp [isProved, Arg.term]
          have h2 : isPattern ⟨ph, (.pat a, b) :: st, mem, cl, sy⟩ (.stackTop 0) = true := by simp [isPattern, Arg.term]
          simp only [h1, h2, if_true, Bool.false_eq_true, if_false, callOfInstr]
          exact exec_call _ _ _ _ _ (hdef _) hc2
        | proved a =>
          have h1 : isProved ⟨ph, (.proved a, b) :: st, mem, cl, sy⟩ (.stackTop 0) = true := by simp [isProved, Arg.term]
          simp only [h1, if_true, callOfInstr]
          exact exec_call _ _ _ _ _ (hdef _) hc1
    · have hlt : st.length < ids.length := by omega
      rw [Nat.min_eq_right (by omega)]
      have hne : ids.reverse.isEmpty = false := by
        cases ids with
        | nil => simp at hlt
        | cons a l => simp
      have htp : takePlugs ids.length st = none := by
        apply takePlugs_none_of
        intro hgood
        omega
      have hlen : ¬ (ids.length = st.length) := by omega
      cases t <;> simp [assertThat, zipStrict, hlen, exec, callOfInstr, track1, hne, htp, List.length_reverse]

theorem tie_instantiate (n : Nat) (s : PySt) (r : List Nat) (hk : NodupKeys1 (26 :: r)) :
    exec n s (Gen.Deser.br_Instantiate n s r) = modelStep n s (26 :: r) := by
  cases r with
  | nil => rfl
  | cons m r =>
    have hd := decode1_instantiate m r
    simp only [Gen.Deser.br_Instantiate, nextByte, nextBytes_eq, modelStep, hd]
    cases htk : takeN m r with
    | none => rfl
    | some pr =>
      obtain ⟨ids, r'⟩ := pr
      rw [htk] at hd
      obtain rfl : ids.length = m := (takeN_length htk).2
      exact inst_body n s ids r' (hk ids r' hd)

/-! ### any opcode byte -/

/-- the opcode bytes that have a branch, in the order of the chain -/
def branchOpcodes : List Nat := [2, 3, 4, 5, 6, 8, 7, 10, 11, 9, 137, 12, 13, 14, 21, 15, 22, 26, 27, 28, 29, 30]

/-- the branches of the chain with their opcode bytes, in the order of the source -/
def branches (n : Nat) (s : PySt) (r : List Nat) : List (Nat × Res) :=
  [(2, Gen.Deser.br_EVar n s r), (3, Gen.Deser.br_SVar n s r), (4, Gen.Deser.br_Symbol n s r), (5, Gen.Deser.br_Implies n s r),
   (6, Gen.Deser.br_App n s r), (8, Gen.Deser.br_Exists n s r), (7, Gen.Deser.br_Mu n s r), (10, Gen.Deser.br_ESubst n s r),
   (11, Gen.Deser.br_SSubst n s r), (9, Gen.Deser.br_MetaVar n s r), (137, Gen.Deser.br_CleanMetaVar n s r),
   (12, Gen.Deser.br_Prop1 n s r), (13, Gen.Deser.br_Prop2 n s r), (14, Gen.Deser.br_Prop3 n s r),
   (21, Gen.Deser.br_ModusPonens n s r), (15, Gen.Deser.br_Quantifier n s r), (22, Gen.Deser.br_Generalization n s r),
   (26, Gen.Deser.br_Instantiate n s r), (27, Gen.Deser.br_Pop n s r), (28, Gen.Deser.br_Save n s r),
   (29, Gen.Deser.br_Load n s r), (30, Gen.Deser.br_Publish n s r)]

/-- `if b = k₁ then v₁ else if b = k₂ then v₂ else … else raise` -/
def pick (b : Nat) : List (Nat × Res) → Res
  | [] => .raise
  | (k, v) :: l => if b = k then v else pick b l

theorem pick_cases {P : Nat → Res → Prop} (l : List (Nat × Res)) (h : ∀ p ∈ l, P p.1 p.2) (b : Nat)
    (helse : b ∉ l.map (·.1) → P b .raise) : P b (pick b l) := by
  induction l with
  | nil => exact helse (List.not_mem_nil)
  | cons p l ih =>
    unfold pick
    split
    · next e => subst e; exact h p (List.mem_cons_self ..)
    · next e =>
      exact ih (fun q hq => h q (List.mem_cons_of_mem _ hq)) fun hn => helse (by simpa [e] using hn)

/-- case analysis along the if/elif chain: a property of every branch, and of the final `else` for the other bytes -/
theorem step_cases {P : Nat → Res → Prop} (n : Nat) (s : PySt) (r : List Nat) (h : ∀ p ∈ branches n s r, P p.1 p.2)
    (helse : ∀ b, b ∉ branchOpcodes → P b Res.raise) (b : Nat) : P b (Gen.Deser.step n s b r) := by
  rw [step_eq]
  exact pick_cases (branches n s r) h b (helse b)

/-- a byte without a branch does not decode, or decodes to an instruction `callOfInstr` has no call for -/
theorem modelStep_unknown (n : Nat) (s : PySt) (b : Nat) (r : List Nat) (h : b ∉ branchOpcodes) :
    modelStep n s (b :: r) = some none := by
  unfold modelStep
  cases hd : decode1 (b :: r) with
  | none => rfl
  | some p =>
    obtain ⟨i, rest⟩ := p
    have e := decode1_sound hd
    cases i <;> first | rfl | (cases (List.cons.inj e).1; exact absurd (by decide) h)

/-- **one loop iteration**: what the Python branch of opcode byte `b` does on the rest `r` of the stream in state `s` (operand
bytes read, method called with its located arguments, on the tracker) is `decode1` + `callOfInstr` + `track1` -/
theorem step_tie (n : Nat) (s : PySt) (b : Nat) (r : List Nat) (hk : NodupKeys1 (b :: r)) (hp : b = 30 → PrecheckAgrees n s) :
    exec n s (Gen.Deser.step n s b r) = modelStep n s (b :: r) :=
  step_cases (P := fun b res => NodupKeys1 (b :: r) → (b = 30 → PrecheckAgrees n s) → exec n s res = modelStep n s (b :: r))
    n s r (by
      simp only [branches, List.forall_mem_cons, List.not_mem_nil, false_implies, implies_true, and_true]
      exact ⟨fun _ _ => tie_evar n s r, fun _ _ => tie_svar n s r, fun _ _ => tie_symbol n s r, fun _ _ => tie_implies n s r,
        fun _ _ => tie_app n s r, fun _ _ => tie_exists n s r, fun _ _ => tie_mu n s r, fun _ _ => tie_esubst n s r,
        fun _ _ => tie_ssubst n s r, fun _ _ => tie_metavar n s r, fun _ _ => tie_cleanmv n s r, fun _ _ => tie_prop1 n s r,
        fun _ _ => tie_prop2 n s r, fun _ _ => tie_prop3 n s r, fun _ _ => tie_mp n s r, fun _ _ => tie_quantifier n s r,
        fun _ _ => tie_gen n s r, fun hk _ => tie_instantiate n s r hk, fun _ _ => tie_pop n s r, fun _ _ => tie_save n s r,
        fun _ _ => tie_load n s r, fun _ hp => tie_publish n s r (hp trivial)⟩)
    (fun b hb _ _ => (modelStep_unknown n s b r hb).symm) b hk hp

/-! ### the bytes consumed (no hypotheses) -/

/-- the iteration continues, if at all, with the stream `rest` -/
def restOK (res : Res) (rest : List Nat) : Prop :=
  match res with
  | .call _ r => r = rest
  | .noop r => r = rest
  | _ => True

/-- `res` reads what `decode1` reads: an undecodable head is an exception, a decodable one leaves `decode1`'s rest -/
def reads (res : Res) (d : Option (Instr × List Nat)) : Prop :=
  match d with
  | none => res = .raise
  | some (_, rest) => restOK res rest

theorem restOK_call (dc : DCall) (r : List Nat) : restOK (.call dc r) r := rfl
theorem restOK_noop (r : List Nat) : restOK (.noop r) r := rfl
theorem restOK_raise (r : List Nat) : restOK .raise r := trivial

theorem restOK_assertThat (b : Bool) (res : Res) (rest : List Nat) (h : restOK res rest) : restOK (assertThat b res) rest := by
  cases b
  · simp [assertThat, restOK]
  · simpa [assertThat] using h

theorem restOK_ite (c : Prop) [Decidable c] (a b : Res) (rest : List Nat) (ha : restOK a rest) (hb : restOK b rest) :
    restOK (if c then a else b) rest := by
  split <;> assumption

theorem restOK_ifM (c : Option Bool) (a b : Res) (rest : List Nat) (ha : restOK a rest) (hb : restOK b rest) :
    restOK (ifM c a b) rest := by
  match c with
  | none => simp [ifM, restOK]
  | some true => simpa [ifM] using ha
  | some false => simpa [ifM] using hb

theorem reads_metavar (n : Nat) (s : PySt) (r : List Nat) : reads (Gen.Deser.br_MetaVar n s r) (decode1 (9 :: r)) := by
  cases r with
  | nil => rfl
  | cons id r =>
    simp only [Gen.Deser.br_MetaVar, nextByte, readList_eq, decode1_metavar]
    cases readVec r with
    | none => rfl
    | some p1 =>
    simp only [Option.bind_some]
    cases readVec p1.2 with
    | none => rfl
    | some p2 =>
    simp only [Option.bind_some]
    cases readVec p2.2 with
    | none => rfl
    | some p3 =>
    simp only [Option.bind_some]
    cases readVec p3.2 with
    | none => rfl
    | some p4 =>
    simp only [Option.bind_some]
    cases readVec p4.2 with
    | none => rfl
    | some p5 => rfl

theorem reads_instantiate (n : Nat) (s : PySt) (r : List Nat) :
    reads (Gen.Deser.br_Instantiate n s r) (decode1 (26 :: r)) := by
  cases r with
  | nil => rfl
  | cons m r =>
    simp only [Gen.Deser.br_Instantiate, nextByte, nextBytes_eq, decode1_instantiate]
    cases takeN m r with
    | none => rfl
    | some pr =>
      refine restOK_assertThat _ _ _ ?_
      unfold zipStrict
      exact restOK_ite _ _ _ _
        (restOK_ite _ _ _ _ (restOK_call _ _) (restOK_ite _ _ _ _ (restOK_call _ _) (restOK_raise _))) (restOK_raise _)

theorem reads_publish (n : Nat) (s : PySt) (r : List Nat) : reads (Gen.Deser.br_Publish n s r) (decode1 (30 :: r)) :=
  restOK_ite _ _ _ _ (restOK_assertThat _ _ _ (restOK_call _ _)) <|
    restOK_ite _ _ _ _ (restOK_assertThat _ _ _ (restOK_call _ _)) <|
      restOK_ite _ _ _ _ (restOK_assertThat _ _ _ (restOK_ifM _ _ _ _ (restOK_raise _) (restOK_call _ _))) (restOK_noop _)

theorem reads_gen (n : Nat) (s : PySt) (r : List Nat) : reads (Gen.Deser.br_Generalization n s r) (decode1 (22 :: r)) := by
  cases r with
  | nil => rfl
  | cons x r => exact restOK_assertThat _ _ _ (restOK_call _ _)

theorem reads_load (n : Nat) (s : PySt) (r : List Nat) : reads (Gen.Deser.br_Load n s r) (decode1 (29 :: r)) := by
  cases r with
  | nil => rfl
  | cons x r => exact restOK_ite _ _ _ _ (restOK_raise _) (restOK_call _ _)

/-- the branches without an assertion or test evaluate, with `decode1`, to a call that continues with `decode1`'s rest (or
both fail on a missing operand byte): `rfl` -/
theorem step_reads (n : Nat) (s : PySt) (b : Nat) (r : List Nat) : reads (Gen.Deser.step n s b r) (decode1 (b :: r)) :=
  step_cases (P := fun b res => reads res (decode1 (b :: r))) n s r (by
      simp only [branches, List.forall_mem_cons, List.not_mem_nil, false_implies, implies_true, and_true]
      exact ⟨by cases r <;> rfl, by cases r <;> rfl, by cases r <;> rfl, rfl, rfl, by cases r <;> rfl, by cases r <;> rfl,
        by cases r <;> rfl, by cases r <;> rfl, reads_metavar n s r, by cases r <;> rfl, rfl, rfl, rfl, rfl, rfl,
        reads_gen n s r, reads_instantiate n s r, rfl, rfl, reads_load n s r, reads_publish n s r⟩)
    (fun b _ => by
      cases decode1 (b :: r) with
      | none => rfl
      | some p => trivial) b

theorem exec_rest (n : Nat) (s s' : PySt) (res : Res) (rest rest' : List Nat) (h : restOK res rest)
    (he : exec n s res = some (some (s', rest'))) : rest' = rest := by
  cases res with
  | raise => simp [exec] at he
  | fuel => simp [exec] at he
  | noop r =>
    simp only [exec, Option.some.injEq, Prod.mk.injEq] at he
    simp only [restOK] at h
    rw [← he.2, h]
  | call dc r =>
    simp only [restOK] at h
    subst h
    simp only [exec] at he
    split at he
    · split at he
      · next c hc =>
        cases ht : track1 n s c with
        | none => simp [ht] at he
        | some o =>
          cases o with
          | none => simp [ht] at he
          | some s1 => simp [ht] at he; exact he.2.symm
      · simp at he
    · simp at he

/-! ## 3. whole streams -/

/-- every `Instantiate` of the stream has pairwise different key bytes -/
def NodupKeys (is : List Instr) : Prop := ∀ ids, Instr.instantiate ids ∈ is → ids.Nodup

/-- `PrecheckAgrees` in every state in which the model replays a `Publish` -/
def PrecheckAlong (n : Nat) : PySt → List Instr → Prop
  | _, [] => True
  | s, i :: is => (i = .publish → PrecheckAgrees n s) ∧
      ∀ c s', callOfInstr s i = some c → track1 n s c = some (some s') → PrecheckAlong n s' is

/-- **the loop**: on a decodable stream the generated `while` loop (any iteration bound `f ≥` the number of bytes) is the
model's `replay` of the decoded instructions -/
theorem run_eq_replay (n : Nat) : ∀ (f : Nat) (s : PySt) (bs : List Nat) (is : List Instr), bs.length ≤ f →
    decodeF f bs = some is → NodupKeys is → PrecheckAlong n s is → Gen.Deser.run n f s bs = replay n s is := by
  intro f
  induction f with
  | zero =>
    intro s bs is hlen hd _ _
    cases bs with
    | nil => simp only [decodeF, Option.some.injEq] at hd; subst hd; rfl
    | cons b r => simp at hlen
  | succ f ih =>
    intro s bs is hlen hd hk hp
    cases bs with
    | nil => simp only [decodeF, Option.some.injEq] at hd; subst hd; rfl
    | cons b r =>
      simp only [decodeF] at hd
      cases h1 : decode1 (b :: r) with
      | none => simp [h1] at hd
      | some ir =>
        obtain ⟨i, rest⟩ := ir
        simp only [h1, Option.map_eq_some_iff] at hd
        obtain ⟨is', hd', rfl⟩ := hd
        have hrest : rest.length ≤ f := by
          have := decode1_length h1
          simp only [List.length_cons] at this hlen
          omega
        have hk1 : NodupKeys1 (b :: r) := by
          intro ids rest' hdec
          rw [h1] at hdec
          simp only [Option.some.injEq, Prod.mk.injEq] at hdec
          exact hk ids (by rw [← hdec.1]; simp)
        have hp1 : b = 30 → PrecheckAgrees n s := by
          intro hb
          subst hb
          simp only [decode1, Option.some.injEq, Prod.mk.injEq] at h1
          exact hp.1 h1.1.symm
        have htie := step_tie n s b r hk1 hp1
        simp only [modelStep, h1] at htie
        simp only [Gen.Deser.run, htie, replay]
        cases hc : callOfInstr s i with
        | none => rfl
        | some c =>
          dsimp only
          cases ht : track1 n s c with
          | none => rfl
          | some o =>
            cases o with
            | none => rfl
            | some s' =>
              simp only [Option.map_some, Option.bind_eq_bind, Option.bind_some]
              exact ih s' rest is' hrest hd' (fun ids hm => hk ids (List.mem_cons_of_mem _ hm)) (hp.2 c s' hc ht)

/-- **the deserialiser tie**: on a decodable stream whose `Instantiate` keys are pairwise different (and whose proof-phase
`Publish` prechecks agree with the tracker), `deserialize_instructions` as written in `deserialize.py` is the model
`PySt.deserialize` -/
theorem deserialize_tie (n : Nat) (s : PySt) (bs : List Nat) (is : List Instr) (hd : decode bs = some is)
    (hk : NodupKeys is) (hp : PrecheckAlong n s is) : Gen.Deser.deserialize n s bs = PySt.deserialize n s bs := by
  simp only [Gen.Deser.deserialize, PySt.deserialize, hd]
  exact run_eq_replay n bs.length s bs is (Nat.le_refl _) hd hk hp

/-- on an undecodable stream the loop never completes: it ends in an exception or runs out of fuel -/
theorem run_undecodable (n : Nat) : ∀ (f : Nat) (s : PySt) (bs : List Nat), bs.length ≤ f → decodeF f bs = none →
    Gen.Deser.run n f s bs = some none ∨ Gen.Deser.run n f s bs = none := by
  intro f
  induction f with
  | zero =>
    intro s bs hlen hd
    cases bs with
    | nil => simp [decodeF] at hd
    | cons b r => simp at hlen
  | succ f ih =>
    intro s bs hlen hd
    cases bs with
    | nil => simp [decodeF] at hd
    | cons b r =>
      have hr := step_reads n s b r
      simp only [decodeF] at hd
      simp only [Gen.Deser.run]
      cases h1 : decode1 (b :: r) with
      | none =>
        rw [h1] at hr
        simp only [reads] at hr
        simp [hr, exec]
      | some ir =>
        obtain ⟨i, rest⟩ := ir
        rw [h1] at hr
        simp only [reads] at hr
        simp only [h1, Option.map_eq_none_iff] at hd
        have hrest : rest.length ≤ f := by
          have := decode1_length h1
          simp only [List.length_cons] at this hlen
          omega
        cases he : exec n s (Gen.Deser.step n s b r) with
        | none => exact Or.inr rfl
        | some o =>
          cases o with
          | none => exact Or.inl rfl
          | some p =>
            obtain ⟨s', rest'⟩ := p
            have := exec_rest n s s' _ rest rest' hr he
            subst this
            exact ih s' rest' hrest hd

/-- **undecodable streams fail either way**: the model (which decodes the whole stream first) answers "exception"; the Python
loop, which makes the calls of the decodable head before it meets the undecodable instruction, ends in an exception — or,
in the fuelled model of `==`, runs out of fuel in one of those calls -/
theorem deserialize_undecodable (n : Nat) (s : PySt) (bs : List Nat) (hd : decode bs = none) :
    PySt.deserialize n s bs = some none ∧
    (Gen.Deser.deserialize n s bs = some none ∨ Gen.Deser.deserialize n s bs = none) :=
  ⟨by simp [PySt.deserialize, hd], run_undecodable n bs.length s bs (Nat.le_refl _) hd⟩

/-! ### the precheck hypothesis: vacuous outside the proof phase, and implied by definite answers on expanded patterns -/

theorem track1_phase (n : Nat) (s s' : PySt) (c : Call) (h1 : c ≠ .intoClaim) (h2 : c ≠ .intoProof)
    (h : track1 n s c = some (some s')) : s'.phase = s.phase := by
  cases c <;> dsimp only [track1] at h
  case intoClaim => exact absurd rfl h1
  case intoProof => exact absurd rfl h2
  case load t =>
    obtain ⟨i, _, h⟩ := Option.bind_some_some h
    simp only [Option.pure_def, Option.some.injEq] at h; subst h; rfl
  case esubst x | ssubst x =>
    split at h
    · split at h
      · simp only [Option.some.injEq] at h; subst h; rfl
      · simp at h
    · simp at h
  case mp | gen x =>
    split at h
    · obtain ⟨i, _, h⟩ := Option.bind_some_some h
      simp only [Option.pure_def, Option.some.injEq] at h; subst h; rfl
    · simp at h
  case instantiate keys =>
    split at h
    · split at h
      · simp only [Option.some.injEq] at h; subst h; rfl
      · split at h
        · simp at h
        · simp only [Option.bind_eq_bind, Option.bind_eq_some_iff, Option.pure_def, Option.some.injEq] at h
          obtain ⟨o, _, h⟩ := h
          subst h; rfl
    · simp at h
  case instantiatePattern keys =>
    split at h
    · split at h
      · simp at h
      · simp only [Option.some.injEq] at h; subst h; rfl
    · simp at h
  case publishProof =>
    split at h
    · simp only [Option.bind_eq_bind, Option.bind_eq_some_iff] at h
      obtain ⟨o, _, h⟩ := h
      cases o with
      | false => simp at h
      | true => simp only [if_true, Option.pure_def, Option.some.injEq] at h; subst h; rfl
    · simp at h
  all_goals first
    | (simp only [Option.some.injEq] at h; subst h; rfl)
    | (split at h <;> first
        | (simp only [Option.some.injEq] at h; subst h; rfl)
        | (simp at h; done))

theorem callOfInstr_ne (s : PySt) (i : Instr) (c : Call) (h : callOfInstr s i = some c) :
    c ≠ .intoClaim ∧ c ≠ .intoProof := by
  cases i <;> dsimp only [callOfInstr] at h
  case instantiate ids => split at h <;> simp at h <;> subst h <;> simp
  case load j => simp only [Option.map_eq_some_iff] at h; obtain ⟨t, _, rfl⟩ := h; simp
  case publish => split at h <;> simp at h <;> subst h <;> simp
  all_goals (simp at h; try subst h; simp)

/-- the deserialiser's calls never change the phase, so a Gamma or Claim stream needs no precheck hypothesis -/
theorem precheckAlong_of_phase (n : Nat) : ∀ (is : List Instr) (s : PySt), s.phase ≠ .proof → PrecheckAlong n s is := by
  intro is
  induction is with
  | nil => intro s _; trivial
  | cons i is ih =>
    intro s hph
    refine ⟨fun _ t b st c cs h => absurd h hph, ?_⟩
    intro c s' hc ht
    obtain ⟨h1, h2⟩ := callOfInstr_ne s i c hc
    exact ih s' (by rw [track1_phase n s s' c h1 h2 ht]; exact hph)

theorem deserialize_tie_gamma_claim (n : Nat) (s : PySt) (bs : List Nat) (is : List Instr) (hd : decode bs = some is)
    (hk : NodupKeys is) (hph : s.phase ≠ .proof) : Gen.Deser.deserialize n s bs = PySt.deserialize n s bs :=
  deserialize_tie n s bs is hd hk (precheckAlong_of_phase n is s hph)

/-- when both comparisons are definite and the two patterns are in the shape on which the fuelled `==` is correct
(`NPat.peqF_symm`), the precheck agrees with the tracker's test -/
theorem precheckAgrees_of_shape (n : Nat) (s : PySt)
    (h : ∀ t b st c cs, s.stack = (.proved t, b) :: st → s.claims = c :: cs →
      t.Shape = true ∧ c.Shape = true ∧ (NPat.peqF n c t).isSome ∧ (NPat.peqF n t c).isSome) : PrecheckAgrees n s := by
  intro t b st c cs _ hst hcl
  obtain ⟨ht, hc, h1, h2⟩ := h t b st c cs hst hcl
  cases e1 : NPat.peqF n c t with
  | none => simp [e1] at h1
  | some r =>
    cases e2 : NPat.peqF n t c with
    | none => simp [e2] at h2
    | some r' => rw [NPat.peqF_symm n n c t r r' hc ht e1 e2]

/-! ## 4. the finding: repeated `Instantiate` keys -/

/-- `CleanMetaVar 0; CleanMetaVar 1; CleanMetaVar 2; Instantiate [2, 2]` -/
def dupKeys : List Nat := [137, 0, 137, 1, 137, 2, 26, 2, 2, 2]

/-- **KF (deserialiser model)**: on the stream `dupKeys` — an `Instantiate` whose two key bytes are equal — the Python code
builds `delta = {2: phi1}` (`dict(..)` merges the repeated key), so `instantiate_pattern` takes one plug and leaves `phi0`
on the stack (two entries); the hand-written model passes the key list `[2, 2]` to the tracker, which takes two plugs
(one entry).  The real `deserialize_instructions` ends with the stack `[phi0, phi2[{2: phi1}]]`. -/
theorem model_differs_on_duplicate_keys :
    ((Gen.Deser.deserialize 5 (PySt.init []) dupKeys).bind id).map (·.stack.length) = some 2 ∧
    ((PySt.deserialize 5 (PySt.init []) dupKeys).bind id).map (·.stack.length) = some 1 ∧
    decode dupKeys = some [.cleanmv 0, .cleanmv 1, .cleanmv 2, .instantiate [2, 2]] := by
  decide

end DeserTie

#print axioms DeserTie.step_tie
#print axioms DeserTie.step_reads
#print axioms DeserTie.run_eq_replay
#print axioms DeserTie.deserialize_tie
#print axioms DeserTie.deserialize_undecodable
#print axioms DeserTie.deserialize_tie_gamma_claim
#print axioms DeserTie.precheckAgrees_of_shape
#print axioms DeserTie.model_differs_on_duplicate_keys
#print axioms DeserTie.track1_instantiate_uses
