import Pi2.KDefTieM6
import Pi2.KDefTieM7
/-!
# THE OUTER STEP: the loop over the MODULES of the generated `from_kore_definition` against `KDefSpec.addModules`

* `moduleBody` / `from_kore_definition_unfold` (by `rfl`): the generated `from_kore_definition` IS `__enter__`, the loop over the modules whose
  body is `LanguageSemantics.module`, `KModule.__enter__`, the loop over the sentences with the body `sentenceBody` (the verbatim copy that
  `Pi2/KDefTieM5.lean` ties to `stepM`), `__exit__`; then `__exit__` of the semantics;
* `FSt` / `heapF` / `InvF`: the store BETWEEN two modules (all modules finished; no counter yet iff no module yet);
* `module_enter_heapF`: `LanguageSemantics.module` (the `mapPy` over the references of `KModule.name`, the fresh-name check, `count()` for
  the first module / the counter object of the main module for a later one) followed by `KModule.__enter__`;
* `module_step`: one module of the generated loop against `addModule`; `modules_loop`: all of them against `addModules`;
* `from_kore_definition_modules`: `from_kore_definition` raises exactly when `modulesOfDefinition` refuses, and otherwise returns
  `heapF (some false) b` with `InvF b` and `projF b` = the specification's result.
-/
set_option linter.unusedVariables false
set_option linter.unusedSimpArgs false
namespace KDefTieM2
open PyI PyM PyK Kore Gen.PyKDef KDefSpec KDefTie KDefTieM

/-- the body of the loop over the MODULES of the generated `from_kore_definition` -/
def moduleBody (so : SetOrder) (n : Nat) : KModuleDef → PyLS → (PyLS → Py PyLS) → Py PyLS :=
  fun v_kore_module h continue_ =>
    call (LanguageSemantics.module h v_kore_module.name) fun (h, t1) =>
    call (KModule.__enter__ h t1) fun (h, t2) =>
    forEach v_kore_module.sentences h (sentenceBody so n t2) fun h =>
    call (BuilderScope.__exit__.KModule h t1) fun h =>
    continue_ h

/-- the generated function IS this (in particular `sentenceBody` is the body of its inner loop) -/
theorem from_kore_definition_unfold (so : SetOrder) (n : Nat) (d : KDefinition) :
    LanguageSemantics.from_kore_definition so n d
      = call (LanguageSemantics.__enter__ LanguageSemantics.__init__) fun h =>
        forEach d.modules h (moduleBody so n) fun h =>
        call (BuilderScope.__exit__.LanguageSemantics h) fun h => ret h := rfl

/-! ## the store between two modules -/

structure FSt where
  fin : List RMod
  nAxioms : Nat

/-- `count()` is created with the first module -/
def FSt.cs (b : FSt) : List Nat := if b.fin.isEmpty then [] else [b.nAxioms]

def heapF (pL : Option Bool) (b : FSt) : PyLS := heapL pL b.fin b.cs

structure InvF (b : FSt) : Prop where
  distinct : DistinctNames b.fin
  ok : ∀ (i : Nat) (m : RMod), b.fin[i]? = some m → ModOK (b.fin.take i) m
  wf : ∀ ru ∈ b.fin.flatMap (·.rules), ru.ordinal < b.nAxioms
  zero : b.fin = [] → b.nAxioms = 0

/-- a module `name` is begun (`LanguageSemantics.module`, `KModule.__enter__`) -/
def FSt.begin (b : FSt) (name : Nat) : RStM := { done := b.fin, cur := newMod name, nAxioms := b.nAxioms }
/-- the module under construction is finished (`__exit__`) -/
def finish (st : RStM) : FSt := { fin := st.done ++ [{ st.cur with parsing := some false }], nAxioms := st.nAxioms }

/-- what the specification keeps -/
def projF (b : FSt) : DefSem × List ModSem :=
  ({ sg := sgM b.fin, rules := b.fin.flatMap (·.rules), nAxioms := b.nAxioms }, b.fin.map projMod)

theorem cs_finish (st : RStM) : (finish st).cs = [st.nAxioms] := by simp [FSt.cs, finish]

theorem inv_begin {b : FSt} (hb : InvF b) (name : Nat) (hfresh : ∀ m ∈ b.fin, m.name ≠ name) : InvM (b.begin name) where
  distinct := distinct_snoc hb.distinct hfresh
  doneOK := hb.ok
  curOK := modOK_new _ _
  parsing := rfl
  wf := by
    intro ru hru
    apply hb.wf ru
    simpa [FSt.begin, RStM.mods, newMod, List.flatMap_append] using hru

theorem inv_finish {st : RStM} (hinv : InvM st) : InvF (finish st) where
  distinct := by
    apply distinctNames_congr _ hinv.distinct
    simp [finish, RStM.mods]
  ok := modOK_snoc hinv.doneOK hinv.curOK
  wf := by
    intro ru hru
    apply hinv.wf ru
    simpa [finish, RStM.mods, List.flatMap_append] using hru
  zero := by intro h; simp [finish] at h

theorem inv_empty : InvF { fin := [], nAxioms := 0 } where
  distinct := by intro a b x y ha; simp at ha
  ok := by intro i m hm; simp at hm
  wf := by intro ru hru; simp at hru
  zero := fun _ => rfl

theorem projM_begin (b : FSt) (name : Nat) :
    projM (b.begin name) = { all := (projF b).1, done := (projF b).2, cur := ModSem.new name } := by
  simp [projM, projF, FSt.begin, RStM.mods, sgM, List.flatMap_append, newMod, projMod, ModSem.new]

theorem projF_finish (st : RStM) : projF (finish st) = ((projM st).all, (projM st).done ++ [(projM st).cur]) := by
  simp [projF, finish, projM, RStM.mods, sgM, List.flatMap_append, projMod]

/-! ## `LanguageSemantics.module`, `KModule.__enter__`, `__exit__` -/

theorem mapPy_ret {α β γ} (l : List α) (f : α → Py β) (g : α → β) (hf : ∀ x ∈ l, f x = ret (g x)) (k : List β → Py γ) :
    mapPy l f k = k (l.map g) := by
  induction l generalizing k with
  | nil => rfl
  | cons x xs ih =>
    simp only [mapPy, List.map_cons]
    rw [hf x (List.mem_cons_self ..), KoreTie.call_ret_val, ih (fun y hy => hf y (List.mem_cons_of_mem _ hy))]

theorem range_map_nameAt (mods : List RMod) : (List.range mods.length).map (nameAt mods) = mods.map (·.name) := by
  apply List.ext_getElem?
  intro i
  simp only [List.getElem?_map]
  rcases Nat.lt_or_ge i mods.length with h | h
  · rw [List.getElem?_range h, List.getElem?_eq_getElem h]
    simp [nameAt, List.getElem?_eq_getElem h]
  · rw [List.getElem?_eq_none (by simpa using h), List.getElem?_eq_none h]; rfl

/-- the generator `(module.name for module in self._imported_modules)` -/
theorem names_heapL {γ} (pL mods cs) (k : List Nat → Py γ) :
    mapPy (List.range mods.length) (fun v => call (KModule.name (heapL pL mods cs) v) fun t1 => ret t1) k = k (mods.map (·.name)) := by
  rw [mapPy_ret _ _ (nameAt mods), range_map_nameAt]
  intro v hv
  have hv' : v < mods.length := List.mem_range.1 hv
  simp only [KModule.name, getMod_heapL, nameAt, List.getElem?_eq_getElem hv', KoreTie.call_ret_val, modOfM]

theorem enter_rawL (pL pd x cache cs) (i : Nat) (hi : i = pd.length) :
    KModule.__enter__ (rawL pL (pd ++ [x]) cache cs) i = ret (rawL pL (pd ++ [{ x with _parsing := some true }]) cache cs, i) := by
  unfold KModule.__enter__ BuilderScope.__enter__.KModule
  simp only [getMod_last _ _ _ _ _ i hi, setMod_last _ _ _ _ _ i hi, KoreTie.call_ret_val]

theorem exit_rawL (pL pd x cache cs) (i : Nat) (hi : i = pd.length) :
    BuilderScope.__exit__.KModule (rawL pL (pd ++ [x]) cache cs) i = ret (rawL pL (pd ++ [{ x with _parsing := some false }]) cache cs) := by
  unfold BuilderScope.__exit__.KModule
  simp only [getMod_last _ _ _ _ _ i hi, setMod_last _ _ _ _ _ i hi]

theorem exit_heapM (st : RStM) : BuilderScope.__exit__.KModule (heapM st) st.done.length = ret (heapF (some true) (finish st)) := by
  rw [heapM_raw, exit_rawL _ _ _ _ _ _ (by simp)]
  congr 1
  rw [heapF, cs_finish, heapL_raw]
  simp [finish, RStM.mods, modOfM, toR, List.flatMap_append]

theorem list_nil_or_snoc {α} (l : List α) : l = [] ∨ ∃ d x, l = d ++ [x] := by
  simpa [List.concat_eq_append] using List.eq_nil_or_concat l

/-- `LanguageSemantics.module` when there is a module already: the counter object of the main (= last) module -/
theorem module_rawL (pd : List PyKModule) (x : PyKModule) (cache cs) (name : Nat) (names : List Nat) (hx : x.counter = 0)
    (hnames : ∀ (k : List Nat → Py (PyLS × Nat)), mapPy (List.range (pd ++ [x]).length)
        (fun v => call (KModule.name (rawL (some true) (pd ++ [x]) cache cs) v) fun t1 => ret t1) k = k names) :
    LanguageSemantics.module (rawL (some true) (pd ++ [x]) cache cs) name
      = if names.contains name then raise
        else ret (rawL (some true) (pd ++ [x] ++ [KModule.__init__ name 0]) cache cs, (pd ++ [x]).length) := by
  unfold LanguageSemantics.module
  have hp : (rawL (some true) (pd ++ [x]) cache cs)._parsing = some true := rfl
  have hi : (rawL (some true) (pd ++ [x]) cache cs)._imported_modules = List.range (pd ++ [x]).length := rfl
  rw [hp, builder_true, hi, hnames]
  by_cases hc : names.contains name = true
  · rw [if_pos hc, if_pos hc]
  · rw [if_neg hc, if_neg hc]
    have hlen : ((List.range (pd ++ [x]).length).length == 0) = false := by simp
    rw [hlen]
    simp only [Bool.false_eq_true, if_false, LanguageSemantics.main_module, hi, hlen]
    have hlast : (List.range (pd ++ [x]).length).getLast? = some pd.length := by simp [List.range_succ]
    simp only [lastOf, hlast, KoreTie.call_ret_val, getMod_last _ _ _ _ _ pd.length rfl, hx, newModule]
    simp [rawL, ret, List.range_succ]

/-- `LanguageSemantics.module(name)` then `KModule.__enter__`, on the store between two modules -/
theorem module_enter_heapF {γ} (b : FSt) (hb : InvF b) (name : Nat) (K : PyLS → Nat → Nat → Py γ) :
    (call (LanguageSemantics.module (heapF (some true) b) name) fun (h, t1) => call (KModule.__enter__ h t1) fun (h, t2) => K h t1 t2)
      = if (b.fin.map (·.name)).contains name then raise else K (heapM (b.begin name)) b.fin.length b.fin.length := by
  obtain ⟨fin, c⟩ := b
  rcases list_nil_or_snoc fin with rfl | ⟨pd, x, rfl⟩
  · have := hb.zero rfl
    simp only at this; subst this
    rfl
  · have hcs : FSt.cs ⟨pd ++ [x], c⟩ = [c] := by simp [FSt.cs]
    have hh : heapF (some true) ⟨pd ++ [x], c⟩
        = rawL (some true) (pd.map modOfM ++ [modOfM x]) (scopesDict ((pd ++ [x]).flatMap (·.rules))) [c] := by
      rw [heapF, hcs, heapL_raw]; simp
    have hnames : ∀ (k : List Nat → Py (PyLS × Nat)), mapPy (List.range (pd.map modOfM ++ [modOfM x]).length)
        (fun v => call (KModule.name (rawL (some true) (pd.map modOfM ++ [modOfM x]) (scopesDict ((pd ++ [x]).flatMap (·.rules))) [c]) v)
          fun t1 => ret t1) k = k ((pd ++ [x]).map (·.name)) := by
      intro k
      have := names_heapL (some true) (pd ++ [x]) [c] k
      rw [heapL_raw] at this
      simpa using this
    rw [hh, module_rawL _ _ _ _ name _ rfl hnames]
    by_cases hc : ((pd ++ [x]).map (·.name)).contains name = true
    · rw [if_pos hc, if_pos hc]; rfl
    · rw [if_neg hc, if_neg hc, KoreTie.call_ret_val]
      dsimp only
      rw [enter_rawL _ _ _ _ _ _ rfl, KoreTie.call_ret_val]
      have hl : (pd.map modOfM ++ [modOfM x]).length = (pd ++ [x]).length := by simp
      rw [hl]
      congr 1
      rw [heapM_raw]
      simp [FSt.begin, RStM.mods, newMod, modOfM, toR, sortsDict, symbolsDict, axiomsDict, KModule.__init__, List.flatMap_append]

/-! ## one module, all modules -/

theorem any_name_contains (l : List RMod) (nm : Nat) : (l.map projMod).any (·.name == nm) = (l.map (·.name)).contains nm := by
  rw [Bool.eq_iff_iff]; simp [projMod]

theorem contains_false_ne {l : List RMod} {nm : Nat} (h : ¬ (l.map (·.name)).contains nm = true) : ∀ m ∈ l, m.name ≠ nm := by
  intro m hm hn
  apply h
  simp only [List.contains_iff_mem, List.mem_map]
  exact ⟨m, hm, hn⟩

/-- one module of the generated loop against `addModule` -/
theorem module_step (so : SetOrder) (hso : so.Valid) (n : Nat) (b : FSt) (hb : InvF b) (km : KModuleDef) (hn : b.fin.length + 2 ≤ n)
    (hns : ∀ s ∈ km.sentences, NotSelfImport km.name s) (cont : PyLS → Py PyLS) :
    match addModule (projF b) km with
    | none => moduleBody so n km (heapF (some true) b) cont = raise
    | some a => ∃ b', InvF b' ∧ projF b' = a ∧ b'.fin.length = b.fin.length + 1 ∧
        moduleBody so n km (heapF (some true) b) cont = cont (heapF (some true) b') := by
  have hmb : moduleBody so n km (heapF (some true) b) cont
      = if (b.fin.map (·.name)).contains km.name then raise
        else forEach km.sentences (heapM (b.begin km.name)) (sentenceBody so n b.fin.length)
          (fun h => call (BuilderScope.__exit__.KModule h b.fin.length) fun h => cont h) :=
    module_enter_heapF b hb km.name
      (fun h t1 t2 => forEach km.sentences h (sentenceBody so n t2) fun h => call (BuilderScope.__exit__.KModule h t1) fun h => cont h)
  rw [hmb]
  unfold addModule
  have hany : (projF b).2.any (·.name == km.name) = (b.fin.map (·.name)).contains km.name := any_name_contains b.fin km.name
  rw [hany]
  by_cases hc : (b.fin.map (·.name)).contains km.name = true
  · simp only [hc, if_true]
  · simp only [hc, Bool.false_eq_true, if_false]
    have hinv := inv_begin hb km.name (contains_false_ne hc)
    have h := sentences_text_is_spec so hso n (fun h => call (BuilderScope.__exit__.KModule h b.fin.length) fun h => cont h)
      km.sentences (b.begin km.name) hinv (by simp [RStM.mods, FSt.begin]; omega) hns
    rw [projM_begin] at h
    cases hd : addSentencesM { all := (projF b).1, done := (projF b).2, cur := ModSem.new km.name } km.sentences with
    | none => rw [hd] at h; exact h
    | some d' =>
      rw [hd] at h
      obtain ⟨st', hinv', hproj, hdone, hname, heq⟩ := h
      refine ⟨finish st', inv_finish hinv', ?_, ?_, ?_⟩
      · rw [projF_finish, hproj]
      · simp [finish, hdone, FSt.begin]
      · show forEach km.sentences (heapM (b.begin km.name)) (sentenceBody so n b.fin.length) _ = _
        have hd' : (b.begin km.name).done.length = b.fin.length := rfl
        rw [hd'] at heq
        rw [heq]
        have : b.fin.length = st'.done.length := by rw [hdone]; rfl
        rw [this, exit_heapM, KoreTie.call_ret_val]

/-- the generated loop over the modules against `addModules` -/
theorem modules_loop (so : SetOrder) (hso : so.Valid) (n : Nat) (k : PyLS → Py PyLS) :
    ∀ (ms : List KModuleDef) (b : FSt), InvF b → b.fin.length + ms.length + 1 ≤ n →
      (∀ m ∈ ms, ∀ s ∈ m.sentences, NotSelfImport m.name s) →
      match addModules (projF b) ms with
      | none => forEach ms (heapF (some true) b) (moduleBody so n) k = raise
      | some a => ∃ b', InvF b' ∧ projF b' = a ∧ b'.fin.length = b.fin.length + ms.length ∧
          forEach ms (heapF (some true) b) (moduleBody so n) k = k (heapF (some true) b') := by
  intro ms
  induction ms with
  | nil => intro b hb _ _; exact ⟨b, hb, rfl, rfl, rfl⟩
  | cons m ms ih =>
    intro b hb hn hns
    simp only [addModules, forEach]
    have h1 := module_step so hso n b hb m (by simp at hn; omega) (hns m (List.mem_cons_self ..))
      (fun s' => forEach ms s' (moduleBody so n) k)
    cases ha : addModule (projF b) m with
    | none => rw [ha] at h1; exact h1
    | some a =>
      rw [ha] at h1
      obtain ⟨b1, hb1, hp1, hl1, he1⟩ := h1
      simp only [Option.bind_some]
      have h2 := ih b1 hb1 (by simp at hn; omega) (fun m' hm' => hns m' (List.mem_cons_of_mem _ hm'))
      rw [hp1] at h2
      cases ha2 : addModules a ms with
      | none => rw [ha2] at h2; rw [he1]; exact h2
      | some a2 =>
        rw [ha2] at h2
        obtain ⟨b2, hb2, hp2, hl2, he2⟩ := h2
        exact ⟨b2, hb2, hp2, by simp; omega, by rw [he1]; exact he2⟩

/-- `from_kore_definition` on a definition without self-imports, fuel `≥` (number of modules) `+ 1`: it raises exactly when the
specification `modulesOfDefinition` refuses, and otherwise returns the store of the finished modules -/
theorem from_kore_definition_modules (so : SetOrder) (hso : so.Valid) (n : Nat) (d : KDefinition)
    (hns : ∀ m ∈ d.modules, ∀ s ∈ m.sentences, NotSelfImport m.name s) (hn : d.modules.length + 1 ≤ n) :
    match modulesOfDefinition d with
    | none => LanguageSemantics.from_kore_definition so n d = raise
    | some a => ∃ b, InvF b ∧ projF b = a ∧ b.fin.length = d.modules.length ∧
        LanguageSemantics.from_kore_definition so n d = ret (heapF (some false) b) := by
  rw [from_kore_definition_unfold]
  have e1 : LanguageSemantics.__enter__ LanguageSemantics.__init__ = ret (heapF (some true) ⟨[], 0⟩) := rfl
  rw [e1, KoreTie.call_ret_val]
  have h := modules_loop so hso n (fun h => call (BuilderScope.__exit__.LanguageSemantics h) fun h => ret h) d.modules ⟨[], 0⟩ inv_empty
    (by simpa using hn) hns
  have e2 : projF ⟨[], 0⟩ = (emptySem, []) := rfl
  rw [e2] at h
  unfold modulesOfDefinition
  cases ha : addModules (emptySem, []) d.modules with
  | none => rw [ha] at h; exact h
  | some a =>
    rw [ha] at h
    obtain ⟨b, hb, hp, hl, he⟩ := h
    exact ⟨b, hb, hp, by simpa using hl, by rw [he]; rfl⟩

#print axioms from_kore_definition_unfold
#print axioms module_enter_heapF
#print axioms module_step
#print axioms modules_loop
#print axioms from_kore_definition_modules
end KDefTieM2
