import Pi2.MM.XStep
import Pi2.MM.TermThm
import Pi2.MM.Sim
import Pi2.Gen.ExecProof
/-!
# `exec_proof` as written in `metamath/translate.py` is the model `MM.xstep` / `MM.xrun` / `MM.execProof`

`Pi2/Gen/ExecProof.lean` is regenerated from the source on every run (`vlib/transxproof.py`): the closures `get_delta`,
`get_rule_delta`, `do_mp`, the function `convert_to_implication`, one definition per branch of the loop body (`br_memory`:
`lemma not in exported_proof.labels`; `br_pattern_constructors`; `br_fp_label_to_pattern`: floating hypotheses;
`br_exported_axioms`; `br_proof_rules`; `br_else`), `step` (the loop body) and `exec_proof`, every statement one line, every interpreter call
with where its arguments come from (`PyXProof.Val`: stack position + time of reading).  The hand-written model is
`Pi2/MM/Translate.lean` (`xstep`, restated per case in `Pi2/MM/XStep.lean`: `xSave`, `xReuse`, `xImp`, `xApp`, `xCtor`,
`xRule`, `xP1`, `xP2`, `xMp`).

## the converter of a model database (`ofDB`): which field of `MM.DB` answers which query of `MetamathConverter`

* `label in converter.pattern_constructors`  ⇔  the label is `Lbl.impC`, `Lbl.appC` or `Lbl.ctor _` (`DB.impArgs`, `DB.appArgs`,
  `DB.ctors`: the `$a #Pattern …` axioms);
* `label in converter._fp_label_to_pattern`, `get_floating_pattern_by_name(label)[0]`  ⇔  `Lbl.float v`, with the pattern
  `MetaVar(DB.mvId v)` (`DB.floats`: the `$f #Pattern v` statements; the id is the position among them);
* `label in converter.exported_axioms`  ⇔  `Lbl.rule _` (`DB.rules`);  `label in converter.proof_rules`  ⇔  `Lbl.p1 | p2 | mp`
  (`DB.p1`, `DB.p2`, `DB.mp`);
* `get_axiom_by_name(label)` = `axiomRec` of `DB.assertion label`: `.pattern` = `image` of the conclusion, `.metavars` = the
  variables of hypotheses and conclusion, `isinstance(_, AxiomWithAntecedents)` ⇔ `Rule.hyps ≠ []`, `.antecedents` = the
  images of `Rule.hyps`;
* `get_metavars_in_order(label)` = `(DB.assertion label).mand` = `DB.mandOf` (the statement's variables in `$f` order);
* `resolve_metavar(v)` = `MetaVar(DB.mvId v)`;  `get_lemma_by_name(target).pattern` = `image db goal`;
  `get_lemma_by_name(target).proof` = `(labels, steps)` (the dict `{1: l₁, …}` as the list `labels`);
* the label names `exec_proof` compares with (`'app-is-pattern'`, `'imp-is-pattern'`, `'proof-rule-prop-1'`,
  `'proof-rule-prop-2'`, `'proof-rule-mp'`) are `Lbl.appC`, `.impC`, `.p1`, `.p2`, `.mp` (`PyXProof.lblIs`).

## results

* per branch, for every state and continuation `k`, generated branch = `bindR (<model case>) k`:
  `br_memory_save` (`Z`), `br_memory_reuse` (memory reference, `memory_offset`), `br_float`, `br_mp` — no hypothesis;
  `br_ctor`, `br_rule` — `db.floats.Nodup` (else Python's `dict` merges keys the model keeps);
  `br_app`, `br_imp` — `db.WF`, fuel `≥ 2`; `br_p1` — `db.WF`, fuel `≥ 4`; `br_p2` — `db.WF`, fuel `≥ 5`
  (the fuel pays for the Python `==` / `match_single` of the text, which the model replaces by `mandOf .. = [a, b]` and
  `ruleKeys`);
* `get_delta_eq`, `instantiate_eq`, `instantiate_pattern_eq`: `get_delta` reads exactly the `nargs` entries below the top,
  deepest first, and `instantiate(stack()[-1], get_delta(vars))` is the tracker call `instantiate keys` — also when it raises;
  `prop_rule_eq`: `get_rule_delta`; `convert_to_implication_eq`: `convert_to_implication` = `implChain`;
  `stash_eq`, `discharge_eq`: the two loops over the essential hypotheses;
* `step_tie`: the loop body = `xstep`; `run_tie`: the loop = `xrun`; `exec_proof_tie`: the function = `execProof`
  (`db.WF`, fuel `≥ 5`);
* `wf_needed`, `fuel_needed`: both hypotheses are necessary (concrete states on which text and model differ without them).
-/
set_option linter.unusedSimpArgs false
set_option linter.unusedVariables false
open MM PyXProof PySt

namespace XProofTie

theorem translated : Gen.XProof.translated = true := by decide

/-! ## the converter of a model database -/

/-- the converter's `Axiom` object for an assertion of the model -/
def axiomRec (db : DB) (a : Assertion) : AxiomRec :=
  { pattern := image db a.concl.term
    metavars := Term.varsList (a.hyps.map (·.term) ++ [a.concl.term])
    antecedents := if a.hyps.isEmpty then none else some (a.hyps.map fun h => image db h.term) }

def ofDB (db : DB) (goal : MM.Term) : Conv :=
  { isPatternConstructor := fun l => match l with | .impC | .appC | .ctor _ => true | _ => false
    floating := fun l => match l with | .float v => some [phiN (db.mvId v)] | _ => none
    isExportedAxiom := fun l => match l with | .rule _ => true | _ => false
    isProofRule := fun l => match l with | .p1 | .p2 | .mp => true | _ => false
    axiom? := fun l => (db.assertion l).map (axiomRec db)
    metavarsInOrder := fun l => ((db.assertion l).map (·.mand)).getD []
    resolveMetavar := fun v => phiN (db.mvId v)
    targetPattern := image db goal }

theorem ofDB_axiom (db : DB) (goal : MM.Term) (l : Lbl) :
    (ofDB db goal).axiom? l = (db.assertion l).map (axiomRec db) := rfl
theorem ofDB_mio (db : DB) (goal : MM.Term) (l : Lbl) :
    (ofDB db goal).metavarsInOrder l = ((db.assertion l).map (·.mand)).getD [] := rfl
theorem ofDB_resolve (db : DB) (goal : MM.Term) (v : Nat) : (ofDB db goal).resolveMetavar v = phiN (db.mvId v) := rfl

/-! ## the words of the generated text -/

def stackAt (x : XSt) (p : Nat) (f : Val → R) : R :=
  match x.s.stack[p]? with
  | some e => f ⟨e.1, some (p, x.calls.length)⟩
  | none => raise

theorem stackIdx_neg (x : XSt) (i : Int) (p : Nat) (hi : i < 0) (hp : (-i).toNat - 1 = p) (f : Val → R) :
    stackIdx x i f = stackAt x p f := by
  unfold stackIdx stackAt
  simp only [hi, if_true, hp]
  cases x.s.stack[p]? <;> rfl

theorem stackIdx_1 (x : XSt) (f : Val → R) : stackIdx x (-(1)) f = stackAt x 0 f :=
  stackIdx_neg x _ 0 (by decide) (by decide) f

theorem stackIdx_2 (x : XSt) (f : Val → R) : stackIdx x (-(2)) f = stackAt x 1 f :=
  stackIdx_neg x _ 1 (by decide) (by decide) f

theorem bindR_some (x : XSt) (k : XSt → R) : bindR (some (some x)) k = k x := rfl
theorem bindR_raise (k : XSt → R) : bindR (some none) k = some none := rfl
theorem bindR_none (k : XSt → R) : bindR none k = none := rfl
theorem bindR_id (r : R) : bindR r (fun x => some (some x)) = r := by
  rcases r with _ | _ | _ <;> rfl
theorem bindR_assoc (r : R) (f g : XSt → R) : bindR (bindR r f) g = bindR r fun x => bindR (f x) g := by
  rcases r with _ | _ | _ <;> rfl

/-- `doC` does not look at `mm_memory` -/
theorem doC_mem (n : Nat) (x : XSt) (m : List TTerm) (cs : List Call) :
    ({ x with mem := m } : XSt).doC n cs =
      match x.doC n cs with
      | none => none
      | some none => some none
      | some (some x') => some (some { x' with mem := m }) := by
  unfold XSt.doC
  cases h : doCalls n x.s cs x.calls with
  | none => simp [h]
  | some r => cases r with
    | none => simp [h]
    | some p => simp [h]


theorem doC_mem_eq {n : Nat} {x x' : XSt} {cs : List Call} (h : x.doC n cs = some (some x')) : x'.mem = x.mem := by
  unfold XSt.doC at h
  cases hd : doCalls n x.s cs x.calls with
  | none => simp [hd] at h
  | some r => cases r with
    | none => simp [hd] at h
    | some p => simp [hd] at h; subst h; rfl

theorem icall_eq (n : Nat) (x : XSt) (c : ICall) (c' : Call) (k : XSt → R) (h : toCall x c = some c') :
    icall n x c k = bindR (x.doC n [c']) k := by
  simp [icall, h]

/-! ## `lemma not in exported_proof.labels`: the `Z` mark and the memory reference -/

theorem br_memory_save (conv : Conv) (cfg : Cfg) (n : Nat) (labels : List Lbl) (off : Nat) (x : XSt) (k : XSt → R) :
    Gen.XProof.br_memory conv cfg n labels off x 0 k = bindR (xSave n x) k := by
  unfold Gen.XProof.br_memory xSave top?
  simp only [pyIf, beq_self_eq_true, if_true, stackIdx_1, stackAt]
  cases hs : x.s.stack with
  | nil => simp [raise, bindR]
  | cons e st =>
    simp only [List.getElem?_cons_zero, List.head?_cons, Option.map_some, memAppend]
    rw [icall_eq _ _ _ .save _ (by simp [toCall, Val.isAt])]
    rw [doC_mem]
    cases h : x.doC n [.save] with
    | none => simp [bindR]
    | some r => cases r with
      | none => simp [bindR]
      | some x' => simp [bindR, doC_mem_eq h]

theorem br_memory_reuse (conv : Conv) (cfg : Cfg) (n : Nat) (labels : List Lbl) (x : XSt) (step : Nat) (k : XSt → R)
    (h0 : step ≠ 0) (hk : labels.length < step) :
    Gen.XProof.br_memory conv cfg n labels labels.length x step k = bindR (xReuse n x (step - labels.length - 1)) k := by
  unfold Gen.XProof.br_memory xReuse
  have hb : (step == 0) = false := by simp [h0]
  simp only [pyIf, hb, memIdx, pyIndex]
  have hi : ¬ ((step : Int) - (labels.length : Int) - 1 < 0) := by omega
  have ht : ((step : Int) - (labels.length : Int) - 1).toNat = step - labels.length - 1 := by omega
  simp only [hi, if_false, ht, Bool.false_eq_true]
  cases hm : x.mem[step - labels.length - 1]? with
  | none => simp [raise, bindR]
  | some t =>
    show icall n x ⟨"load", [.str ⟨t, none⟩, .val ⟨t, none⟩]⟩ (fun x => k x) = bindR (x.doC n [.load t]) k
    rw [icall_eq _ _ _ (.load t) _ (by simp [toCall])]


/-- a list of calls is made one after the other -/
theorem doC_cons (n : Nat) (x : XSt) (c : Call) (cs : List Call) :
    x.doC n (c :: cs) = bindR (x.doC n [c]) fun x' => x'.doC n cs := by
  unfold XSt.doC
  simp only [doCalls]
  cases h : track1 n x.s c with
  | none => simp [bindR, bind, Option.bind]
  | some r => cases r with
    | none => simp [bindR, bind, Option.bind, pure]
    | some s' => simp [bindR, bind, Option.bind, pure]

theorem doC_nil (n : Nat) (x : XSt) : x.doC n [] = some (some x) := by
  simp [XSt.doC, doCalls, bind, Option.bind, pure]

theorem doC_empty_stack (n : Nat) (x : XSt) (c : Call) (hs : x.s.stack = [])
    (hc : c = .pop ∨ c = .save ∨ c = .mp ∨ c = .publishProof ∨ c = .implies ∨ c = .app) :
    x.doC n [c] = some none := by
  unfold XSt.doC
  rcases hc with rfl | rfl | rfl | rfl | rfl | rfl <;> simp [doCalls, track1, hs, bind, Option.bind, pure]

/-- `interpreter().pop(stack()[-1])` -/
theorem pop_eq (n : Nat) (x : XSt) (k : XSt → R) :
    stackAt x 0 (fun t => icall n x ⟨"pop", [.val t]⟩ k) = bindR (x.doC n [.pop]) k := by
  unfold stackAt
  cases hs : x.s.stack with
  | nil => simp [raise, doC_empty_stack n x .pop hs, bindR]
  | cons e st =>
    simp only [List.getElem?_cons_zero]
    exact icall_eq _ _ _ .pop _ (by simp [toCall, Val.isAt])

/-- `interpreter().save(str(stack()[-1]), stack()[-1])` -/
theorem save_eq (n : Nat) (x : XSt) (k : XSt → R) :
    stackAt x 0 (fun t1 => stackAt x 0 fun t2 => icall n x ⟨"save", [.str t1, .val t2]⟩ k) = bindR (x.doC n [.save]) k := by
  unfold stackAt
  cases hs : x.s.stack with
  | nil => simp [raise, doC_empty_stack n x .save hs, bindR]
  | cons e st =>
    simp only [List.getElem?_cons_zero]
    exact icall_eq _ _ _ .save _ (by simp [toCall, Val.isAt])

def twoProved (x : XSt) : Bool :=
  match x.s.stack with
  | (.proved _, _) :: (.proved _, _) :: _ => true
  | _ => false

theorem twoProved_match {α} (x : XSt) (a b : α) :
    (match x.s.stack with | (.proved _, _) :: (.proved _, _) :: _ => a | _ => b) = if twoProved x then a else b := by
  unfold twoProved
  split <;> simp

/-- the closure `do_mp` -/
theorem do_mp_eq (n : Nat) (x : XSt) (k : XSt → R) :
    Gen.XProof.do_mp n x k = if twoProved x then bindR (x.doC n [.mp]) k else raise := by
  unfold Gen.XProof.do_mp twoProved
  simp only [stackIdx_1, stackIdx_2, stackAt]
  cases hs : x.s.stack with
  | nil => simp [raise]
  | cons e st =>
    cases st with
    | nil => simp [raise]
    | cons e2 st2 =>
      obtain ⟨t1, b1⟩ := e
      obtain ⟨t2, b2⟩ := e2
      simp only [List.getElem?_cons_zero, List.getElem?_cons_succ]
      cases t1 <;> cases t2 <;> simp [assertThat, isProved, TTerm.isProved, raise]
      exact icall_eq _ _ _ .mp _ (by simp [toCall, Val.isAt])

/-! ## `proof-rule-mp` -/

theorem mp_tail_eq (n : Nat) (x : XSt) (k : XSt → R) :
    (stackAt x 0 fun t5 => stackAt x 0 fun t6 =>
      icall n x ⟨"save", [Arg.str t5, .val t6]⟩ fun x =>
      stackAt x 0 fun t7 => icall n x ⟨"pop", [.val t7]⟩ fun x =>
      stackAt x 0 fun t8 => icall n x ⟨"pop", [.val t8]⟩ fun x =>
      stackAt x 0 fun t9 => icall n x ⟨"pop", [.val t9]⟩ fun x =>
      icall n x ⟨"load", [Arg.str t5, .val t6]⟩ k) =
    match top? x with
    | none => some none
    | some c => bindR (x.doC n [.save, .pop, .pop, .pop, .load c]) k := by
  unfold top?
  cases hs : x.s.stack with
  | nil => simp [stackAt, hs, raise]
  | cons e st =>
    simp only [List.head?_cons, Option.map_some]
    have h1 : ∀ f : Val → R, stackAt x 0 f = f ⟨e.1, some (0, x.calls.length)⟩ := by
      intro f; simp [stackAt, hs]
    rw [h1, h1]
    rw [icall_eq _ _ _ .save _ (by simp [toCall, Val.isAt])]
    simp only [pop_eq]
    rw [doC_cons n x .save [.pop, .pop, .pop, .load e.1]]
    simp only [bindR_assoc]
    congr 1; funext x1
    rw [doC_cons n x1 .pop [.pop, .pop, .load e.1]]; simp only [bindR_assoc]
    congr 1; funext x2
    rw [doC_cons n x2 .pop [.pop, .load e.1]]; simp only [bindR_assoc]
    congr 1; funext x3
    rw [doC_cons n x3 .pop [.load e.1]]; simp only [bindR_assoc]
    congr 1


theorem lblIs_table :
    (∀ l, lblIs "app-is-pattern" l = (l == .appC)) ∧ (∀ l, lblIs "imp-is-pattern" l = (l == .impC)) ∧
    (∀ l, lblIs "proof-rule-prop-1" l = (l == .p1)) ∧ (∀ l, lblIs "proof-rule-prop-2" l = (l == .p2)) ∧
    (∀ l, lblIs "proof-rule-mp" l = (l == .mp)) := by
  refine ⟨?_, ?_, ?_, ?_, ?_⟩ <;> intro l <;> cases l <;> rfl

/-- the model's `do` blocks are `bindR` -/
theorem do_eq_bindR (r : R) (f : XSt → R) :
    (do match ← r with
        | none => pure none
        | some x' => f x') = bindR r f := by
  rcases r with _ | _ | _ <;> rfl

theorem xMp_eq (n : Nat) (x : XSt) :
    xMp n x = if twoProved x then
        bindR (x.doC n [.mp]) (fun x' => match top? x' with
          | none => some none
          | some c => x'.doC n [.save, .pop, .pop, .pop, .load c])
      else some none := by
  unfold xMp twoProved
  split
  · next hs => rw [← do_eq_bindR]; simp only [hs, if_true]; rfl
  · next hn =>
    split
    · next p1 b1 p2 b2 tl hs => exact absurd hs (hn p1 b1 p2 b2 tl)
    · rfl

theorem br_mp (db : DB) (goal : MM.Term) (cfg : Cfg) (n : Nat) (labels : List Lbl) (off : Nat) (x : XSt) (step : Nat)
    (k : XSt → R) :
    Gen.XProof.br_proof_rules (ofDB db goal) cfg n labels off x step .mp k = bindR (xMp n x) k := by
  obtain ⟨_, _, h1, h2, h3⟩ := lblIs_table
  unfold Gen.XProof.br_proof_rules
  simp only [h1, h2, h3, pyIf, do_mp_eq, stackIdx_1, xMp_eq]
  simp only [show ((Lbl.mp == Lbl.p1) = false) from rfl, show ((Lbl.mp == Lbl.p2) = false) from rfl,
    show ((Lbl.mp == Lbl.mp) = true) from rfl, if_true, Bool.false_eq_true, if_false]
  split
  · rw [bindR_assoc]
    congr 1; funext x1
    rw [mp_tail_eq]
    cases top? x1 <;> rfl
  · rfl


/-! ## floating hypotheses -/

theorem br_float (db : DB) (goal : MM.Term) (cfg : Cfg) (n : Nat) (labels : List Lbl) (off : Nat) (x : XSt) (step : Nat)
    (v : Nat) (k : XSt → R) :
    Gen.XProof.br_fp_label_to_pattern (ofDB db goal) cfg n labels off x step (.float v) k =
      bindR (x.doC n [.metavar (db.mvId v) [] [] [] [] []]) k := by
  unfold Gen.XProof.br_fp_label_to_pattern
  simp only [fp0, ofDB, Option.getD_some, List.head?_cons, phiN, isMetaVar, assertThat, if_true, attrName]
  exact icall_eq _ _ _ _ _ (by simp [toCall])

/-! ## the closure `get_delta` -/

theorem assertThat_true (r : R) : assertThat true r = r := rfl
theorem assertThat_false (r : R) : assertThat false r = raise := rfl
theorem attrName_resolve (db : DB) (goal : MM.Term) (a : Nat) (f : Nat → R) :
    attrName ((ofDB db goal).resolveMetavar a) f = f (db.mvId a) := rfl

/-- the loop of `get_delta` over the keys `resolve_metavar(label).name`: `m` = `nargs`, `i` = the counter -/
def deltaLoop (x : XSt) (m : Nat) : List Nat → Dict → Nat → Option Dict
  | [], d, _ => some d
  | key :: r, d, i =>
    match x.s.stack[m - i]? with
    | some e => if e.1.isProved then none else deltaLoop x m r (dictSet d key ⟨e.1, some (m - i, x.calls.length)⟩) (i + 1)
    | none => none

theorem get_delta_eq (db : DB) (goal : MM.Term) (x : XSt) (vars : List Nat) (k : Dict → R) :
    Gen.XProof.get_delta (ofDB db goal) x vars k =
      match deltaLoop x vars.length (vars.map db.mvId) [] 0 with
      | some d => k d
      | none => raise := by
  have key : ∀ (m : Nat) (rest : List Nat) (d : Dict) (i : Nat), i + rest.length = m →
      forEach rest (d, i) (fun v_metavar_label (p : Dict × Nat) kl1 =>
          stackIdx x ((-(((m : Int) + 1)) + (p.2 : Int))) fun t1_ =>
          assertThat (isPattern t1_) <|
          attrName ((ofDB db goal).resolveMetavar v_metavar_label) fun t2_ =>
          kl1 (dictSet p.1 t2_ t1_, p.2 + 1)) (fun p => k p.1) =
        match deltaLoop x m (rest.map db.mvId) d i with
        | some d => k d
        | none => raise := by
    intro m rest
    induction rest with
    | nil => intro d i _; rfl
    | cons a rest ih =>
      intro d i hi
      simp only [List.length_cons] at hi
      simp only [forEach, List.map_cons, deltaLoop]
      rw [stackIdx_neg x _ (m - i) (by omega) (by omega)]
      unfold stackAt
      cases hs : x.s.stack[m - i]? with
      | none => rfl
      | some e =>
        by_cases hp : e.1.isProved = true
        · have h1 : isPattern ⟨e.1, some (m - i, x.calls.length)⟩ = false := by simp [isPattern, hp]
          simp only [h1, assertThat_false, hp, if_true]
        · have hp' : e.1.isProved = false := by simpa using hp
          have h1 : isPattern ⟨e.1, some (m - i, x.calls.length)⟩ = true := by simp [isPattern, hp']
          simp only [h1, assertThat_true, attrName_resolve, hp', Bool.false_eq_true, if_false]
          exact ih _ _ (by omega)
  exact key vars.length vars [] 0 (by simp)


theorem dictSet_fresh (d : Dict) (key : Nat) (v : Val) (h : key ∉ d.map (·.1)) : dictSet d key v = d ++ [(key, v)] := by
  unfold dictSet
  have : d.any (·.1 == key) = false := by
    rw [List.any_eq_false]
    intro p hp
    simp only [beq_iff_eq]
    intro e
    exact h (List.mem_map.mpr ⟨p, hp, e⟩)
  simp [this]

/-- with pairwise different keys the loop appends one entry per key: the keys in order, the values read from the positions
`m - i`, `m - i - 1`, … -/
theorem deltaLoop_some (x : XSt) (m : Nat) : ∀ (keys : List Nat) (d d' : Dict) (i : Nat), keys.Nodup →
    (∀ key ∈ keys, key ∉ d.map (·.1)) → deltaLoop x m keys d i = some d' →
    d'.map (·.1) = d.map (·.1) ++ keys ∧
    d'.map (·.2.src) = d.map (·.2.src) ++ (List.range' i keys.length).map fun j => some (m - j, x.calls.length) := by
  intro keys
  induction keys with
  | nil => intro d d' i _ _ h; simp only [deltaLoop, Option.some.injEq] at h; subst h; simp
  | cons key r ih =>
    intro d d' i hnd hd h
    simp only [deltaLoop] at h
    cases hs : x.s.stack[m - i]? with
    | none => simp [hs] at h
    | some e =>
      simp only [hs] at h
      by_cases hp : e.1.isProved = true
      · simp [hp] at h
      · simp only [hp, if_false, Bool.false_eq_true] at h
        obtain ⟨hk, hr⟩ := List.nodup_cons.mp hnd
        rw [dictSet_fresh d key _ (hd key (by simp))] at h
        have := ih _ d' (i + 1) hr (by
          intro k' hk'
          simp only [List.map_append, List.map_cons, List.map_nil, List.mem_append, List.mem_singleton, not_or]
          exact ⟨hd k' (List.mem_cons_of_mem _ hk'), fun e => hk (e ▸ hk')⟩) h
        obtain ⟨h1, h2⟩ := this
        refine ⟨by simp [h1], ?_⟩
        rw [h2]
        simp [List.range'_succ]

theorem plugPositions_eq (m : Nat) : (List.range' 0 m).map (fun j => m - j) = plugPositions m := by
  unfold plugPositions
  apply List.ext_getElem
  · simp
  · intro j h1 h2
    simp only [List.length_map, List.length_range'] at h1
    simp only [List.getElem_map, List.getElem_range', List.getElem_reverse, List.length_range']
    omega

theorem takePlugs_none_of_bad : ∀ (m : Nat) (st : List (TTerm × Bool)) (q : Nat), q < m →
    (∀ e, st[q]? = some e → e.1.isProved = true) → takePlugs m st = none := by
  intro m
  induction m with
  | zero => intro st q hq; omega
  | succ m ih =>
    intro st q hq h
    cases st with
    | nil => rfl
    | cons e st' =>
      obtain ⟨t, b⟩ := e
      cases t with
      | proved a => rfl
      | pat a =>
        cases q with
        | zero => have := h (.pat a, b) (by simp); simp [TTerm.isProved] at this
        | succ q' =>
          have := ih st' q' (by omega) (fun e he => h e (by simpa using he))
          simp [takePlugs, this]

theorem deltaLoop_none (x : XSt) (m : Nat) (top : TTerm × Bool) (st : List (TTerm × Bool)) (hs : x.s.stack = top :: st) :
    ∀ (keys : List Nat) (d : Dict) (i : Nat), i + keys.length = m → deltaLoop x m keys d i = none →
    takePlugs m st = none := by
  intro keys
  induction keys with
  | nil => intro d i _ h; simp [deltaLoop] at h
  | cons key r ih =>
    intro d i hi h
    simp only [List.length_cons] at hi
    simp only [deltaLoop, hs] at h
    have hp : m - i = (m - i - 1) + 1 := by omega
    rw [hp, List.getElem?_cons_succ] at h
    cases he : st[m - i - 1]? with
    | none => exact takePlugs_none_of_bad m st (m - i - 1) (by omega) (by simp [he])
    | some e =>
      simp only [he] at h
      by_cases hpr : e.1.isProved = true
      · exact takePlugs_none_of_bad m st (m - i - 1) (by omega) (by intro e' h'; rw [he] at h'; cases h'; exact hpr)
      · simp only [hpr, if_false, Bool.false_eq_true] at h
        exact ih _ (i + 1) (by omega) h

theorem doC_one (n : Nat) (x : XSt) (c : Call) :
    x.doC n [c] = match track1 n x.s c with
      | none => none
      | some none => some none
      | some (some s') => some (some { x with s := s', calls := x.calls ++ [c] }) := by
  unfold XSt.doC
  simp only [doCalls]
  cases h : track1 n x.s c with
  | none => rfl
  | some r => cases r <;> rfl


/-- the dictionary `get_delta` returns is the argument `StatefulInterpreter.instantiate` expects: keys `keys` in this order,
values = the `keys.length` entries below the top, deepest first -/
theorem deltaLoop_toCall (x : XSt) (keys : List Nat) (d : Dict) (hnd : keys.Nodup)
    (h : deltaLoop x keys.length keys [] 0 = some d) : d.map (·.1) = keys ∧ dictAtPlugs x d = true := by
  obtain ⟨h1, h2⟩ := deltaLoop_some x keys.length keys [] d 0 hnd (by simp) h
  simp only [List.map_nil, List.nil_append] at h1 h2
  refine ⟨h1, ?_⟩
  have hl : d.length = keys.length := by simpa using congrArg List.length h1
  unfold dictAtPlugs
  rw [h2, hl, ← plugPositions_eq]
  simp

/-- `pat = stack()[-1]; assert isinstance(pat, Proved); interpreter().instantiate(pat, get_delta(vars))` is the one tracker
call `instantiate` with the keys `resolve_metavar(v).name` — also when it raises -/
theorem instantiate_eq (db : DB) (goal : MM.Term) (n : Nat) (x : XSt) (vars : List Nat)
    (hnd : (vars.map db.mvId).Nodup) (k : XSt → R) :
    (stackAt x 0 fun v => assertThat (isProved v) <| Gen.XProof.get_delta (ofDB db goal) x vars fun d =>
      icall n x ⟨"instantiate", [.val v, .dict d]⟩ k) = bindR (x.doC n [.instantiate (vars.map db.mvId)]) k := by
  unfold stackAt
  cases hs : x.s.stack with
  | nil => simp [doC_one, track1, hs, raise, bindR]
  | cons e st =>
    obtain ⟨t, b⟩ := e
    simp only [List.getElem?_cons_zero]
    cases t with
    | pat a => simp [doC_one, track1, hs, raise, bindR, isProved, TTerm.isProved, assertThat]
    | proved a =>
      simp only [isProved, TTerm.isProved, assertThat_true, get_delta_eq]
      have hlen : vars.length = (vars.map db.mvId).length := by simp
      rw [hlen]
      cases hd : deltaLoop x (vars.map db.mvId).length (vars.map db.mvId) [] 0 with
      | some d =>
        obtain ⟨h1, h2⟩ := deltaLoop_toCall x _ d hnd hd
        exact icall_eq _ _ _ _ _ (by simp [toCall, Val.isAt, h1, h2])
      | none =>
        have ht := deltaLoop_none x _ _ st hs _ [] 0 (by simp) hd
        simp only [List.length_map] at ht
        have hne : (vars.map db.mvId).isEmpty = false := by
          cases hv : vars.map db.mvId with
          | nil => rw [hv] at hd; simp [deltaLoop] at hd
          | cons _ _ => rfl
        simp [doC_one, track1, hs, hne, ht, raise, bindR]

theorem instantiate_pattern_eq (db : DB) (goal : MM.Term) (n : Nat) (x : XSt) (vars : List Nat)
    (hnd : (vars.map db.mvId).Nodup) (k : XSt → R) :
    (stackAt x 0 fun v => assertThat (isPattern v) <| Gen.XProof.get_delta (ofDB db goal) x vars fun d =>
      icall n x ⟨"instantiate_pattern", [.val v, .dict d]⟩ k) =
      bindR (x.doC n [.instantiatePattern (vars.map db.mvId)]) k := by
  unfold stackAt
  cases hs : x.s.stack with
  | nil => simp [doC_one, track1, hs, raise, bindR]
  | cons e st =>
    obtain ⟨t, b⟩ := e
    simp only [List.getElem?_cons_zero]
    cases t with
    | proved a => simp [doC_one, track1, hs, raise, bindR, isPattern, TTerm.isProved, assertThat]
    | pat a =>
      simp only [isPattern, TTerm.isProved, Bool.not_false, assertThat_true, get_delta_eq]
      have hlen : vars.length = (vars.map db.mvId).length := by simp
      rw [hlen]
      cases hd : deltaLoop x (vars.map db.mvId).length (vars.map db.mvId) [] 0 with
      | some d =>
        obtain ⟨h1, h2⟩ := deltaLoop_toCall x _ d hnd hd
        exact icall_eq _ _ _ _ _ (by simp [toCall, Val.isAt, h1, h2])
      | none =>
        have ht := deltaLoop_none x _ _ st hs _ [] 0 (by simp) hd
        simp only [List.length_map] at ht
        simp [doC_one, track1, hs, ht, raise, bindR]


/-- `if len(axiom.metavars) > 0: instantiate` against the model's `if (varsList ts).isEmpty then … else …` -/
theorem optInst_eq (x : XSt) (vs : List Nat) (r : R) (K : XSt → R) :
    (if decide (vs.length > 0) = true then bindR r K else K x) =
      bindR (if vs.isEmpty then some (some x) else r) K := by
  cases vs <;> rfl

/-! ## pattern constructors -/

theorem br_ctor (db : DB) (goal : MM.Term) (cfg : Cfg) (n : Nat) (labels : List Lbl) (off : Nat) (x : XSt) (step : Nat)
    (c : Nat) (k : XSt → R) (hnd : db.floats.Nodup) :
    Gen.XProof.br_pattern_constructors (ofDB db goal) cfg n labels off x step (.ctor c) k = bindR (xCtor cfg n db x c) k := by
  obtain ⟨ha, hi, _, _, _⟩ := lblIs_table
  unfold Gen.XProof.br_pattern_constructors xCtor
  simp only [ha, hi, show ((Lbl.ctor c == Lbl.appC) = false) from rfl, show ((Lbl.ctor c == Lbl.impC) = false) from rfl,
    cAnd, cPure, ifC, getAxiom, ofDB_axiom, ofDB_mio, DB.assertion]
  cases hc : db.ctors[c]? with
  | none => simp [raise, bindR]
  | some ct =>
    simp only [Option.map_some, axiomRec, ipattern]
    cases hp : patternF cfg n x.s (image db (.con ct.sym (ct.args.map .var))) x.calls with
    | none => simp [bindR, bind, Option.bind]
    | some r =>
      cases r with
      | none => simp [bindR, bind, Option.bind, pure]
      | some p =>
        obtain ⟨s', c'⟩ := p
        simp only [bind, Option.bind, pure, stackIdx_1]
        simp only [Option.getD_some]
        rw [instantiate_pattern_eq db goal n _ _ (deltaKeys_nodup db _ hnd), optInst_eq]
        have hv : Term.varsList (List.map (fun x : Stmt => x.term) [] ++ [Term.con ct.sym (List.map Term.var ct.args)])
            = (Term.con ct.sym (List.map Term.var ct.args)).vars := by simp [Term.varsList]
        rw [hv]
        split <;> rfl


theorem peqF_phi (n a b : Nat) : NPat.peqF (n + 1) (phiN a) (phiN b) = some (a == b) := by
  simp [NPat.peqF, phiN]

theorem peqF_app_phi (n a b c d : Nat) :
    NPat.peqF (n + 2) (.app (phiN a) (phiN b)) (.app (phiN c) (phiN d)) = some (a == c && b == d) := by
  simp only [NPat.peqF, peqF_phi, bind, Option.bind, pure]
  cases a == c <;> simp

theorem peqF_imp_phi (n a b c d : Nat) :
    NPat.peqF (n + 2) (.imp (phiN a) (phiN b)) (.imp (phiN c) (phiN d)) = some (a == c && b == d) := by
  simp only [NPat.peqF, peqF_phi, bind, Option.bind, pure]
  cases a == c <;> simp

theorem filter_two (l : List Nat) (hl : l.Nodup) (x y : Nat) (hxy : x ≠ y) (hx : x ∈ l) (hy : y ∈ l) (p : Nat → Bool)
    (hp : ∀ v, p v = true ↔ (v = x ∨ v = y)) : l.filter p = [x, y] ∨ l.filter p = [y, x] := by
  have hlen := filter_length_two l hl x y hxy hx hy p hp
  have hnd : (l.filter p).Nodup := List.Nodup.sublist List.filter_sublist hl
  match hf : l.filter p, hlen, hnd with
  | [u, w], _, hnd =>
    have hu : u ∈ l.filter p := by rw [hf]; simp
    have hw : w ∈ l.filter p := by rw [hf]; simp
    have hu' := (hp u).mp (List.mem_filter.mp hu).2
    have hw' := (hp w).mp (List.mem_filter.mp hw).2
    have hne : u ≠ w := by
      intro e; subst e; simp at hnd
    rcases hu' with rfl | rfl <;> rcases hw' with rfl | rfl
    · exact absurd rfl hne
    · exact Or.inl rfl
    · exact Or.inr rfl
    · exact absurd rfl hne

theorem mandOf_pair (db : DB) (hnd : db.floats.Nodup) (a b : Nat) (hab : a ≠ b) (ha : a ∈ db.floats) (hb : b ∈ db.floats)
    (t : MM.Term) (ht : ∀ v, v ∈ Term.varsList [t] ↔ (v = a ∨ v = b)) :
    db.mandOf [t] = [a, b] ∨ db.mandOf [t] = [b, a] := by
  unfold DB.mandOf
  apply filter_two db.floats hnd a b hab ha hb
  intro v
  simp only [List.contains_eq_mem, decide_eq_true_eq]
  exact ht v

/-- `left = stack()[-2]; right = stack()[-1]; assert ..; interpreter().app(left, right)`, and the same for `implies` -/
theorem binop_eq (n : Nat) (x : XSt) (k : XSt → R) (m : String) (c : Call)
    (hc : ∀ t1 t2, toCall x ⟨m, [.val ⟨t2, some (1, x.calls.length)⟩, .val ⟨t1, some (0, x.calls.length)⟩]⟩ = some c) :
    (stackAt x 1 fun l => stackAt x 0 fun r => assertThat (isPattern l) <| assertThat (isPattern r) <|
      icall n x ⟨m, [.val l, .val r]⟩ k) = if topPats x 2 then bindR (x.doC n [c]) k else raise := by
  unfold stackAt topPats
  cases hs : x.s.stack with
  | nil => simp [raise]
  | cons e st =>
    cases st with
    | nil => simp [raise]
    | cons e2 st2 =>
      obtain ⟨t1, b1⟩ := e
      obtain ⟨t2, b2⟩ := e2
      simp only [List.getElem?_cons_zero, List.getElem?_cons_succ]
      cases t1 <;> cases t2 <;> simp [assertThat, isPattern, TTerm.isProved, raise]
      exact icall_eq _ _ _ c _ (hc _ _)

theorem br_app (db : DB) (goal : MM.Term) (cfg : Cfg) (n : Nat) (labels : List Lbl) (off : Nat) (x : XSt) (step : Nat)
    (k : XSt → R) (hwf : db.WF) (hn : 2 ≤ n) :
    Gen.XProof.br_pattern_constructors (ofDB db goal) cfg n labels off x step .appC k = bindR (xApp cfg n db x) k := by
  obtain ⟨ha, hi, _, _, _⟩ := lblIs_table
  obtain ⟨m, rfl⟩ : ∃ m, n = m + 2 := ⟨n - 2, by omega⟩
  unfold Gen.XProof.br_pattern_constructors xApp xBin patThenInst
  simp only [ha, hi, show ((Lbl.appC == Lbl.appC) = true) from rfl, show ((Lbl.appC == Lbl.impC) = false) from rfl,
    ofDB_axiom, ofDB_mio, ofDB_resolve, DB.assertion, Option.map_some, Option.getD_some, axiomRec, image_var, image_imp, image_app]
  rcases mandOf_pair db hwf.nodup _ _ hwf.appNe hwf.appMem.1 hwf.appMem.2
      (.app (.var db.appArgs.1) (.var db.appArgs.2)) (by simp [Term.varsList, Term.vars]) with h | h
  · simp only [h, List.map, pyApp, patEq, peqF_app_phi, beq_self_eq_true, Bool.and_self, Option.map_some, cAnd, cPure, ifC,
      stackIdx_1, stackIdx_2]
    rw [binop_eq _ x k "app" .app fun _ _ => by simp [toCall, Val.isAt]]
    simp only [if_true]
    split <;> rfl
  · have hne : (db.mvId db.appArgs.1 == db.mvId db.appArgs.2) = false := by
      simp only [beq_eq_false_iff_ne, ne_eq]
      exact fun e => hwf.appNe (mvId_inj db _ _ hwf.appMem.1 e)
    have hne2 : ¬ ([db.appArgs.2, db.appArgs.1] = [db.appArgs.1, db.appArgs.2]) := by
      intro e; simp only [List.cons.injEq, and_true] at e; exact hwf.appNe e.1.symm
    simp only [h, List.map, pyApp, patEq, peqF_app_phi, hne, Bool.false_and, Option.map_some, cAnd, cPure, ifC,
      stackIdx_1, getAxiom, ofDB_axiom, DB.assertion, Option.map_some, axiomRec, image_var, image_imp, image_app, ipattern, hne2, if_false]
    have hd : decide ((Term.varsList ([] ++ [(Term.var db.appArgs.fst).app (Term.var db.appArgs.snd)])).length > 0) = true := by
      simp [Term.varsList, Term.vars]
    have hk : db.deltaKeys [(Term.var db.appArgs.fst).app (Term.var db.appArgs.snd)] =
        [db.appArgs.snd, db.appArgs.fst].map db.mvId := by simp [DB.deltaKeys, h]
    have hnd : ([db.appArgs.snd, db.appArgs.fst].map db.mvId).Nodup := by
      rw [← hk]; exact deltaKeys_nodup db _ hwf.nodup
    simp only [hd, if_true, hk]
    cases hp : patternF cfg (m + 2) x.s ((phiN (db.mvId db.appArgs.fst)).app (phiN (db.mvId db.appArgs.snd))) x.calls with
    | none => rfl
    | some r =>
      cases r with
      | none => rfl
      | some p =>
        obtain ⟨s', c'⟩ := p
        simp only [bind, Option.bind]
        rw [instantiate_pattern_eq db goal _ _ _ hnd]

theorem br_imp (db : DB) (goal : MM.Term) (cfg : Cfg) (n : Nat) (labels : List Lbl) (off : Nat) (x : XSt) (step : Nat)
    (k : XSt → R) (hwf : db.WF) (hn : 2 ≤ n) :
    Gen.XProof.br_pattern_constructors (ofDB db goal) cfg n labels off x step .impC k = bindR (xImp cfg n db x) k := by
  obtain ⟨ha, hi, _, _, _⟩ := lblIs_table
  obtain ⟨m, rfl⟩ : ∃ m, n = m + 2 := ⟨n - 2, by omega⟩
  unfold Gen.XProof.br_pattern_constructors xImp xBin patThenInst
  simp only [ha, hi, show ((Lbl.impC == Lbl.appC) = false) from rfl, show ((Lbl.impC == Lbl.impC) = true) from rfl,
    ofDB_axiom, ofDB_mio, ofDB_resolve, DB.assertion, Option.map_some, Option.getD_some, axiomRec, image_var, image_imp, image_app]
  rcases mandOf_pair db hwf.nodup _ _ hwf.impNe hwf.impMem.1 hwf.impMem.2
      (.imp (.var db.impArgs.1) (.var db.impArgs.2)) (by simp [Term.varsList, Term.vars]) with h | h
  · simp only [h, List.map, pyImplies, patEq, peqF_imp_phi, beq_self_eq_true, Bool.and_self, Option.map_some, cAnd, cPure, ifC,
      stackIdx_1, stackIdx_2]
    rw [binop_eq _ x k "implies" .implies fun _ _ => by simp [toCall, Val.isAt]]
    simp only [if_true]
    split <;> rfl
  · have hne : (db.mvId db.impArgs.1 == db.mvId db.impArgs.2) = false := by
      simp only [beq_eq_false_iff_ne, ne_eq]
      exact fun e => hwf.impNe (mvId_inj db _ _ hwf.impMem.1 e)
    have hne2 : ¬ ([db.impArgs.2, db.impArgs.1] = [db.impArgs.1, db.impArgs.2]) := by
      intro e; simp only [List.cons.injEq, and_true] at e; exact hwf.impNe e.1.symm
    simp only [h, List.map, pyImplies, patEq, peqF_imp_phi, hne, Bool.false_and, Option.map_some, cAnd, cPure, ifC,
      stackIdx_1, getAxiom, ofDB_axiom, DB.assertion, Option.map_some, axiomRec, image_var, image_imp, image_app, ipattern, hne2, if_false]
    have hd : decide ((Term.varsList ([] ++ [(Term.var db.impArgs.fst).imp (Term.var db.impArgs.snd)])).length > 0) = true := by
      simp [Term.varsList, Term.vars]
    have hk : db.deltaKeys [(Term.var db.impArgs.fst).imp (Term.var db.impArgs.snd)] =
        [db.impArgs.snd, db.impArgs.fst].map db.mvId := by simp [DB.deltaKeys, h]
    have hnd : ([db.impArgs.snd, db.impArgs.fst].map db.mvId).Nodup := by
      rw [← hk]; exact deltaKeys_nodup db _ hwf.nodup
    simp only [hd, if_true, hk]
    cases hp : patternF cfg (m + 2) x.s ((phiN (db.mvId db.impArgs.fst)).imp (phiN (db.mvId db.impArgs.snd))) x.calls with
    | none => rfl
    | some r =>
      cases r with
      | none => rfl
      | some p =>
        obtain ⟨s', c'⟩ := p
        simp only [bind, Option.bind]
        rw [instantiate_pattern_eq db goal _ _ _ hnd]


/-! ## exported axioms: stashing and discharging the essential hypotheses -/

/-- `for eh, pat in reversed(saved_antecedents): interpreter().load(eh, pat); do_mp()` -/
theorem discharge_eq (n : Nat) (k : XSt → R) : ∀ (l : List (Arg × Val)) (x : XSt),
    forEach l x (fun (p : Arg × Val) x kl4 =>
        icall n x ⟨"load", [p.1, .val p.2]⟩ fun x =>
        Gen.XProof.do_mp n x fun x =>
        kl4 x) k = bindR (xstep.discharge n x (l.map (·.2.t))) k := by
  intro l
  induction l with
  | nil => intro x; rfl
  | cons p l ih =>
    intro x
    simp only [forEach, List.map_cons, xstep.discharge]
    rw [icall_eq _ _ _ (.load p.2.t) _ (by simp [toCall])]
    rw [← do_eq_bindR (x.doC n [.load p.2.t])]
    cases hd : x.doC n [.load p.2.t] with
    | none => rfl
    | some r =>
      cases r with
      | none => rfl
      | some x' =>
        simp only [bind, Option.bind]
        rw [do_mp_eq]
        unfold twoProved
        split
        · next hs =>
          simp only [hs, if_true]
          cases hm : x'.doC n [.mp] with
          | none => rfl
          | some r =>
            cases r with
            | none => rfl
            | some x'' => simp only [bindR_some]; exact ih x''
        · next hn =>
          simp only [Bool.false_eq_true, if_false]
          rfl


/-- a list of saved hypotheses with the given terms (the model keeps the terms only) -/
def canon (saved : List TTerm) : List (Arg × Val) := saved.map fun t => (Arg.str ⟨t, none⟩, ⟨t, none⟩)

theorem canon_terms (saved : List TTerm) : (canon saved).map (·.2.t) = saved := by
  simp [canon, Function.comp_def]

/-- `for _ in axiom.antecedents: saved_antecedents.append((str(stack()[-1]), stack()[-1])); interpreter().save(..);
interpreter().pop(..)` -/
theorem stash_eq (n : Nat) (K : XSt × List (Arg × Val) → R)
    (hK : ∀ x sv sv', sv.map (·.2.t) = sv'.map (·.2.t) → K (x, sv) = K (x, sv')) :
    ∀ (ants : List NPat) (x : XSt) (sv : List (Arg × Val)),
    forEach ants (x, sv) (fun v__ (p : XSt × List (Arg × Val)) kl2 =>
        stackIdx p.1 (-(1)) fun t3_ =>
        stackIdx p.1 (-(1)) fun t4_ =>
        stackIdx p.1 (-(1)) fun t5_ =>
        stackIdx p.1 (-(1)) fun t6_ =>
        icall n p.1 ⟨"save", [(Arg.str t5_), .val t6_]⟩ fun x =>
        stackIdx x (-(1)) fun t7_ =>
        icall n x ⟨"pop", [.val t7_]⟩ fun x =>
        kl2 (x, p.2 ++ [((Arg.str t3_), t4_)])) K =
      match xstep.stash n x (sv.map (·.2.t)) ants.length with
      | none => none
      | some none => some none
      | some (some (x1, saved')) => K (x1, canon saved') := by
  intro ants
  induction ants with
  | nil =>
    intro x sv
    simp only [forEach, List.length_nil, xstep.stash]
    exact hK x sv _ (canon_terms _).symm
  | cons a ants ih =>
    intro x sv
    simp only [forEach, List.length_cons, xstep.stash, top?]
    rw [stackIdx_1]
    cases hs : x.s.stack with
    | nil => simp [stackAt, hs, raise]
    | cons e st =>
      have h1 : ∀ f : Val → R, stackAt x 0 f = f ⟨e.1, some (0, x.calls.length)⟩ := by
        intro f; simp [stackAt, hs]
      rw [h1, stackIdx_1, h1, stackIdx_1, h1, stackIdx_1, h1]
      simp only [List.head?_cons, Option.map_some]
      rw [icall_eq _ _ _ .save _ (by simp [toCall, Val.isAt])]
      rw [doC_cons n x .save [.pop]]
      cases hd : x.doC n [.save] with
      | none => rfl
      | some r =>
        cases r with
        | none => rfl
        | some x1 =>
          simp only [bindR_some]
          rw [stackIdx_1, pop_eq]
          cases hd2 : x1.doC n [.pop] with
          | none => rfl
          | some r2 =>
            cases r2 with
            | none => rfl
            | some x2 =>
              simp only [bindR_some, bind, Option.bind]
              have := ih x2 (sv ++ [(Arg.str ⟨e.1, some (0, x.calls.length)⟩, ⟨e.1, some (0, x.calls.length)⟩)])
              simp only [List.map_append, List.map_cons, List.map_nil] at this
              exact this


theorem discharge_eq' (n : Nat) (k : XSt → R) (l : List (Arg × Val)) (x : XSt) :
    forEach l x (fun (v_eh, v_pat) x kl4 =>
        icall n x ⟨"load", [v_eh, .val v_pat]⟩ fun x =>
        Gen.XProof.do_mp n x fun x =>
        kl4 x) k = bindR (xstep.discharge n x (l.map (·.2.t))) k := discharge_eq n k l x

/-- the function `convert_to_implication` on a non-empty tuple of antecedents is the model's `implChain` -/
theorem convert_to_implication_eq (db : DB) (c : MM.Term) : ∀ (h : MM.Term) (hs : List MM.Term),
    Gen.XProof.convert_to_implication ((h :: hs).map (image db)) (image db c) = some (implChain db (h :: hs) c) := by
  intro h hs
  induction hs generalizing h with
  | nil => simp [Gen.XProof.convert_to_implication, implChain]
  | cons h' t ih =>
    have := ih h'
    simp only [List.map_cons] at this
    rw [List.map_cons, List.map_cons, Gen.XProof.convert_to_implication]
    simp only [List.isEmpty_cons, Bool.not_false, if_true, this, Option.bind_some, implChain]

theorem convert_to_implication_nil (c : NPat) : Gen.XProof.convert_to_implication [] c = none := rfl

theorem br_rule (db : DB) (goal : MM.Term) (cfg : Cfg) (n : Nat) (labels : List Lbl) (off : Nat) (x : XSt) (step : Nat)
    (j : Nat) (k : XSt → R) (hnd : db.floats.Nodup) :
    Gen.XProof.br_exported_axioms (ofDB db goal) cfg n labels off x step (.rule j) k = bindR (xRule n db x j) k := by
  unfold Gen.XProof.br_exported_axioms xRule
  simp only [discharge_eq', getAxiom, ofDB_axiom, ofDB_mio, DB.assertion]
  cases hr : db.rules[j]? with
  | none => rfl
  | some r =>
    simp only [Option.map_some, axiomRec, Option.getD_some, List.map_map, Function.comp_def, List.map_id', List.isEmpty_map]
    cases hh : r.hyps with
    | nil =>
      simp only [List.isEmpty_nil, if_true, Option.isSome_none, pyIf, Bool.false_eq_true, if_false, List.length_nil,
        xstep.stash, loadAxiom, implChain, List.nil_append, List.reverse_nil, xstep.discharge, stackIdx_1, List.map_nil]
      have hk : db.deltaKeys [r.concl] = (db.mandOf [r.concl]).map db.mvId := rfl
      simp only [bind, Option.bind, pure]
      cases hd : x.doC n [.load (.proved (image db r.concl))] with
      | none => rfl
      | some r2 =>
      cases r2 with
      | none => rfl
      | some x2 =>
      simp only [bindR_some]
      rw [instantiate_eq db goal n x2 _ (hk ▸ deltaKeys_nodup db _ hnd), optInst_eq, hk]
      split
      · rfl
      · cases x2.doC n [.instantiate ((db.mandOf [r.concl]).map db.mvId)] with
        | none => rfl
        | some r3 => cases r3 <;> rfl
    | cons h hs =>
      simp only [List.isEmpty_cons, Bool.false_eq_true, if_false, Option.isSome_some, pyIf, if_true, antsOf,
        loadAxiom, List.length_cons, List.length_map]
      refine Eq.trans (stash_eq n _ ?hK _ _ _) ?_
      · intro x' sv sv' hsv
        simp only [List.map_reverse, hsv]
      · have hc := convert_to_implication_eq db r.concl h hs
        simp only [List.map_nil, List.length_map, List.length_cons, hc, assertSome, canon_terms, List.map_reverse,
          stackIdx_1]
        generalize ((h :: hs) ++ [r.concl]) = ts
        have hk : db.deltaKeys ts = (db.mandOf ts).map db.mvId := rfl
        simp only [bind, Option.bind, pure]
        cases hst : xstep.stash n x [] (hs.length + 1) with
        | none => rfl
        | some r1 =>
        cases r1 with
        | none => rfl
        | some p1 =>
        obtain ⟨x1, saved⟩ := p1
        simp only []
        cases hd : x1.doC n [.load (.proved (implChain db (h :: hs) r.concl))] with
        | none => rfl
        | some r2 =>
        cases r2 with
        | none => rfl
        | some x2 =>
        simp only [bindR_some]
        rw [instantiate_eq db goal n x2 _ (hk ▸ deltaKeys_nodup db _ hnd), optInst_eq, hk]
        split
        · rfl
        · cases x2.doC n [.instantiate ((db.mandOf ts).map db.mvId)] with
          | none => rfl
          | some r3 => cases r3 <;> rfl


/-! ## `proof-rule-prop-1`, `proof-rule-prop-2`: the closure `get_rule_delta` -/

theorem matchF_imp (n : Nat) (pl pr il ir : NPat) (ret : NPat.Subst) :
    NPat.matchF (n + 2) (.imp pl pr) (.imp il ir) ret =
      match NPat.matchF (n + 1) pl il ret with
      | none => none
      | some none => some none
      | some (some r1) => NPat.matchF (n + 1) pr ir r1 := by
  rw [NPat.matchF]
  simp only [NPat.headF, bind, Option.bind, pure]
  cases NPat.matchF (n + 1) pl il ret with
  | none => rfl
  | some r => cases r <;> rfl

/-- matching the metavariable `phiN id`: a bound one is compared with the instance, a free one is bound to it -/
theorem matchF_phi (n id : Nat) (ins : NPat) (ret : NPat.Subst) :
    NPat.matchF (n + 2) (phiN id) ins ret =
      match Py.lookup ret id with
      | some v => (NPat.peqF (n + 1) v ins).bind fun eq => some (if eq then some ret else none)
      | none => some (some (ret ++ [(id, ins)])) := by
  rw [NPat.matchF]
  simp only [NPat.headF, phiN, Option.bind_eq_bind, Option.pure_def, Option.bind_some]
  cases Py.lookup ret id <;> rfl

theorem matchF_phi_new (n id : Nat) (ins : NPat) (ret : NPat.Subst) (h : Py.lookup ret id = none) :
    NPat.matchF (n + 2) (phiN id) ins ret = some (some (ret ++ [(id, ins)])) := by
  rw [matchF_phi, h]

theorem matchF_phi_old (n id k : Nat) (ret : NPat.Subst) (h : Py.lookup ret id = some (phiN k)) :
    NPat.matchF (n + 2) (phiN id) (phiN k) ret = some (some ret) := by
  rw [matchF_phi, h]
  simp only [peqF_phi, Option.bind_some, beq_self_eq_true, if_true]

/-- `match_single(prop1.conclusion, <the database's proof-rule-prop-1>)` -/
theorem match_p1 (m a b : Nat) :
    NPat.matchF (m + 4) prop1N (.imp (phiN a) (.imp (phiN b) (phiN a))) [] = some (some [(0, phiN a), (1, phiN b)]) := by
  unfold prop1N
  rw [matchF_imp, matchF_phi_new _ _ _ _ (by simp [Py.lookup])]
  simp only [List.nil_append]
  rw [matchF_imp, matchF_phi_new _ _ _ _ (by simp [Py.lookup])]
  simp only []
  rw [matchF_phi_old _ _ _ _ (by simp [Py.lookup])]
  rfl

/-- `match_single(prop2.conclusion, <the database's proof-rule-prop-2>)` -/
theorem match_p2 (m a b c : Nat) :
    NPat.matchF (m + 5) prop2N
        (.imp (.imp (phiN a) (.imp (phiN b) (phiN c))) (.imp (.imp (phiN a) (phiN b)) (.imp (phiN a) (phiN c)))) [] =
      some (some [(0, phiN a), (1, phiN b), (2, phiN c)]) := by
  unfold prop2N
  rw [matchF_imp, matchF_imp, matchF_phi_new _ _ _ _ (by simp [Py.lookup])]
  simp only [List.nil_append]
  rw [matchF_imp, matchF_phi_new _ _ _ _ (by simp [Py.lookup])]
  simp only [List.cons_append, List.nil_append]
  rw [matchF_phi_new _ _ _ _ (by simp [Py.lookup])]
  simp only [List.cons_append, List.nil_append]
  rw [matchF_imp, matchF_imp, matchF_phi_old _ _ _ _ (by simp [Py.lookup])]
  simp only []
  rw [matchF_phi_old _ _ _ _ (by simp [Py.lookup])]
  simp only []
  rw [matchF_imp, matchF_phi_old _ _ _ _ (by simp [Py.lookup])]
  simp only []
  rw [matchF_phi_old _ _ _ _ (by simp [Py.lookup])]

/-- the dictionary `roles` for a rule whose variables (by schema position) are `rs` -/
def rolesOf (db : DB) : Nat → List Nat → NPat.Subst
  | _, [] => []
  | o, r :: rs => (o, phiN (db.mvId r)) :: rolesOf db (o + 1) rs

theorem patEq_phi (m i key : Nat) :
    patEq (m + 1) (some (phiN i)) (some (mkMetaVar key)) = some (some (i == key)) := by
  have : mkMetaVar key = phiN key := rfl
  simp [patEq, this, peqF_phi]

/-- `(name for name, metavar in roles.items() if metavar == MetaVar(db_name))` when no role has that variable -/
theorem genKeys_none (db : DB) (m : Nat) (v : Nat) (hv : v ∈ db.floats) (K : List Nat → R) :
    ∀ (rs : List Nat) (o : Nat), v ∉ rs → (∀ r ∈ rs, r ∈ db.floats) →
    genKeys (rolesOf db o rs) (fun v_name v_metavar => patEq (m + 1) (some v_metavar) (some (mkMetaVar (db.mvId v)))) K
      = K [] := by
  intro rs
  induction rs with
  | nil => intro o _ _; rfl
  | cons r rs ih =>
    intro o hn hf
    have hne : (db.mvId r == db.mvId v) = false := by
      simp only [beq_eq_false_iff_ne, ne_eq]
      intro e
      exact hn (by simp [mvId_inj db r v (hf r (by simp)) e])
    simp only [rolesOf, genKeys, patEq_phi, hne, ifC]
    exact ih (o + 1) (fun h => hn (List.mem_cons_of_mem _ h)) (fun r' hr' => hf r' (List.mem_cons_of_mem _ hr'))

/-- … and when exactly one has it: its schema position -/
theorem genKeys_one (db : DB) (m : Nat) (v : Nat) (hv : v ∈ db.floats) :
    ∀ (rs : List Nat) (o : Nat) (K : List Nat → R), v ∈ rs → rs.Nodup → (∀ r ∈ rs, r ∈ db.floats) →
    genKeys (rolesOf db o rs) (fun v_name v_metavar => patEq (m + 1) (some v_metavar) (some (mkMetaVar (db.mvId v)))) K
      = K [o + rs.idxOf v] := by
  intro rs
  induction rs with
  | nil => intro o K h; simp at h
  | cons r rs ih =>
    intro o K hm hnd hf
    obtain ⟨hr, hnd'⟩ := List.nodup_cons.mp hnd
    by_cases e : r = v
    · subst e
      simp only [rolesOf, genKeys, patEq_phi, beq_self_eq_true, ifC]
      rw [genKeys_none db m r hv _ rs (o + 1) hr (fun r' hr' => hf r' (List.mem_cons_of_mem _ hr'))]
      simp
    · have hne : (db.mvId r == db.mvId v) = false := by
        simp only [beq_eq_false_iff_ne, ne_eq]
        intro e'
        exact e (mvId_inj db r v (hf r (by simp)) e')
      have hm' : v ∈ rs := by
        rcases List.mem_cons.mp hm with h | h
        · exact absurd h.symm e
        · exact h
      simp only [rolesOf, genKeys, patEq_phi, hne, ifC]
      rw [ih (o + 1) K hm' hnd' (fun r' hr' => hf r' (List.mem_cons_of_mem _ hr'))]
      have : (r == v) = false := by simp [e]
      simp only [List.idxOf_cons, this, cond_false]
      congr 2
      omega


/-- the second loop of `get_rule_delta`: every entry of `get_delta`'s dictionary gets the schema position of its variable
as its new key, the values keep their order -/
theorem rekey_eq (db : DB) (m : Nat) (rs : List Nat) (hrs : rs.Nodup) (hf : ∀ r ∈ rs, r ∈ db.floats) (K : Dict → R) :
    ∀ (vs : List Nat) (ws : List Val) (d0 : Dict), vs.length = ws.length → (∀ v ∈ vs, v ∈ rs) → vs.Nodup →
    (∀ v ∈ vs, rs.idxOf v ∉ d0.map (·.1)) →
    forEach ((vs.map db.mvId).zip ws) d0 (fun (p : Nat × Val) (v_delta : Dict) kl1 =>
        genKeys (rolesOf db 0 rs) (fun v_name v_metavar => patEq (m + 1) (some v_metavar) (some (mkMetaVar p.1)))
          fun l4_ => unpack1 l4_ fun v_name => kl1 (dictSet v_delta v_name p.2)) K
      = K (d0 ++ (vs.map (rs.idxOf ·)).zip ws) := by
  intro vs
  induction vs with
  | nil => intro ws d0 _ _ _ _; simp [forEach]
  | cons v vs ih =>
    intro ws d0 hl hm hnd hfresh
    cases ws with
    | nil => simp at hl
    | cons w ws =>
      obtain ⟨hv, hnd'⟩ := List.nodup_cons.mp hnd
      have hvr : v ∈ rs := hm v (by simp)
      simp only [List.map_cons, List.zip_cons_cons, forEach]
      rw [genKeys_one db m v (hf v hvr) rs 0 _ hvr hrs hf]
      rw [show ∀ (a : Nat) (f : Nat → R), unpack1 [a] f = f a from fun _ _ => rfl, Nat.zero_add]
      rw [dictSet_fresh d0 _ _ (hfresh v (by simp))]
      rw [ih ws _ (by simpa using hl) (fun v' hv' => hm v' (List.mem_cons_of_mem _ hv')) hnd']
      · simp
      · intro v' hv'
        simp only [List.map_append, List.map_cons, List.map_nil, List.mem_append, List.mem_singleton, not_or]
        refine ⟨hfresh v' (List.mem_cons_of_mem _ hv'), ?_⟩
        intro e
        have := idxOf_inj rs v' v (hm v' (List.mem_cons_of_mem _ hv')) e
        exact hv (this ▸ hv')

theorem zip_fst_snd {α β} (l : List (α × β)) : (l.map (·.1)).zip (l.map (·.2)) = l := by
  induction l with
  | nil => rfl
  | cons p l ih => simp [ih]


/-- `r = interpreter().propN(); interpreter().instantiate(r, get_rule_delta(label, r.conclusion))` for a rule of the
database stated as `t` over the variables `rs` (by schema position): the tracker calls `propN`, `instantiate keys` with
`keys` = the schema positions of the rule's variables in `$f` order (`ruleKeys`) -/
theorem prop_rule_eq (db : DB) (goal : MM.Term) (n : Nat) (x : XSt) (l : Lbl) (method : String) (c : Call) (schema : NPat)
    (rs : List Nat) (t : MM.Term) (k : XSt → R)
    (hcall : ∀ x, toCall x ⟨method, []⟩ = some c)
    (htrack : ∀ s, track1 n s c = some (some (s.push (.proved schema))))
    (hax : db.assertion l = some ⟨db.mandOf [t], [], ⟨true, t⟩⟩)
    (hmatch : NPat.matchF n schema (image db t) [] = some (some (rolesOf db 0 rs)))
    (hn : 1 ≤ n) (hnd : db.floats.Nodup) (hrs : rs.Nodup) (hf : ∀ r ∈ rs, r ∈ db.floats)
    (hvars : ∀ v, v ∈ Term.varsList [t] ↔ v ∈ rs) :
    (icallRet n x ⟨method, []⟩ fun x v => attrConclusion v fun t1 =>
      Gen.XProof.get_rule_delta (ofDB db goal) n x l t1 fun t2 => icall n x ⟨"instantiate", [.val v, .dict t2]⟩ k) =
    bindR (x.doC n [c]) fun x' =>
      bindR (x'.doC n [.instantiate ((db.floats.filter (rs.contains ·)).map (rs.idxOf ·))]) k := by
  obtain ⟨m, rfl⟩ : ∃ m, n = m + 1 := ⟨n - 1, by omega⟩
  have hvs : db.mandOf [t] = db.floats.filter (rs.contains ·) := by
    unfold DB.mandOf
    apply List.filter_congr
    intro v _
    have := hvars v
    by_cases h : v ∈ rs <;> simp [h, this]
  unfold icallRet
  rw [icall_eq _ _ _ c _ (hcall x), doC_one, htrack]
  simp only [bindR_some, PySt.push, attrConclusion]
  congr 1
  generalize hx' : ({ s := { x.s with stack := (.proved schema, false) :: x.s.stack }, calls := x.calls ++ [c], mem := x.mem } : XSt) = x'
  have hstack : x'.s.stack = (.proved schema, false) :: x.s.stack := by rw [← hx']
  have hcalls : (x.calls ++ [c]).length = x'.calls.length := by rw [← hx']
  unfold Gen.XProof.get_rule_delta
  simp only [getAxiom, ofDB_axiom, ofDB_mio, hax, Option.map_some, axiomRec, matchSingle, hmatch, assertSome,
    Option.getD_some, get_delta_eq, hcalls]
  have hvnd : (db.mandOf [t]).Nodup := mandOf_nodup db _ hnd
  rw [← hvs]
  generalize db.mandOf [t] = vs at *
  have hvm : ∀ v ∈ vs, v ∈ rs := by
    intro v hv; rw [hvs] at hv; simpa using (List.mem_filter.mp hv).2
  have hknd : (vs.map db.mvId).Nodup := by
    apply nodup_map_on _ _ hvnd
    intro a ha b hb e
    exact mvId_inj db a b (hf a (hvm a ha)) e
  have hlen : vs.length = (vs.map db.mvId).length := by simp
  rw [hlen]
  cases hd : deltaLoop x' (vs.map db.mvId).length (vs.map db.mvId) [] 0 with
  | none =>
    have ht := deltaLoop_none x' _ _ _ hstack _ [] 0 (by simp) hd
    simp only [List.length_map] at ht
    have hne : vs ≠ [] := by
      intro e; rw [e] at hd; simp [deltaLoop] at hd
    have hne' : (vs.map (rs.idxOf ·)).isEmpty = false := by
      cases hv : vs with
      | nil => exact absurd hv hne
      | cons _ _ => rfl
    simp [doC_one, track1, hstack, hne', ht, raise, bindR]
  | some d =>
    obtain ⟨h1, h2⟩ := deltaLoop_toCall x' _ d hknd hd
    have hz : d = (vs.map db.mvId).zip (d.map (·.2)) := by rw [← h1]; exact (zip_fst_snd d).symm
    have hdl : vs.length = (d.map (·.2)).length := by
      have := congrArg List.length h1; simpa using this.symm
    simp only []
    rw [hz]
    have hb := rekey_eq db m rs hrs hf (fun t2 => icall (m + 1) x' ⟨"instantiate", [.val ⟨.proved schema, some (0, x'.calls.length)⟩, .dict t2]⟩ k)
      vs (d.map (·.2)) [] hdl hvm hvnd (by simp)
    refine hb.trans ?_
    have hl3 : (vs.map (rs.idxOf ·)).length = (d.map (·.2)).length := by simpa using hdl
    have hfst : (([] ++ (vs.map (rs.idxOf ·)).zip (d.map (·.2))) : Dict).map (·.1) = vs.map (rs.idxOf ·) := by
      rw [List.nil_append, List.map_fst_zip (by omega)]
    have hsnd : (([] ++ (vs.map (rs.idxOf ·)).zip (d.map (·.2))) : Dict).map (·.2) = d.map (·.2) := by
      rw [List.nil_append, List.map_snd_zip (by omega)]
    have hplugs : dictAtPlugs x' ([] ++ (vs.map (rs.idxOf ·)).zip (d.map (·.2))) = true := by
      unfold dictAtPlugs at h2 ⊢
      have e1 : (([] ++ (vs.map (rs.idxOf ·)).zip (d.map (·.2))) : Dict).map (·.2.src) = d.map (·.2.src) := by
        have := congrArg (List.map (·.src)) hsnd
        simpa [List.map_map, Function.comp_def] using this
      have e2 : (([] ++ (vs.map (rs.idxOf ·)).zip (d.map (·.2))) : Dict).length = d.length := by
        have := congrArg List.length hsnd
        simpa using this
      rw [e1, e2]; exact h2
    exact icall_eq _ _ _ _ _ (by simp only [toCall, Val.isAt, hplugs, hfst, beq_self_eq_true, Bool.and_self, if_true])


theorem br_p1 (db : DB) (goal : MM.Term) (cfg : Cfg) (n : Nat) (labels : List Lbl) (off : Nat) (x : XSt) (step : Nat)
    (k : XSt → R) (hwf : db.WF) (hn : 4 ≤ n) :
    Gen.XProof.br_proof_rules (ofDB db goal) cfg n labels off x step .p1 k = bindR (xP1 n db x) k := by
  obtain ⟨_, _, h1, h2, h3⟩ := lblIs_table
  obtain ⟨m, rfl⟩ : ∃ m, n = m + 4 := ⟨n - 4, by omega⟩
  unfold Gen.XProof.br_proof_rules xP1 xProp
  simp only [h1, h2, h3, pyIf, show ((Lbl.p1 == Lbl.p1) = true) from rfl, show ((Lbl.p1 == Lbl.p2) = false) from rfl,
    show ((Lbl.p1 == Lbl.mp) = false) from rfl, if_true, Bool.false_eq_true, if_false]
  have hrs : [db.p1.1, db.p1.2].Nodup := by simp [hwf.p1Ne]
  rw [prop_rule_eq db goal (m + 4) x .p1 "prop1" .prop1 prop1N [db.p1.1, db.p1.2]
    (.imp (.var db.p1.1) (.imp (.var db.p1.2) (.var db.p1.1))) (fun x => k x)
    (fun _ => rfl) (fun _ => rfl) rfl (by simpa [image_var, image_imp, image_app, rolesOf] using match_p1 m _ _) (by omega) hwf.nodup hrs
    (by intro r hr; simp at hr; rcases hr with rfl | rfl; exact hwf.p1Mem.1; exact hwf.p1Mem.2)
    (by intro v; simp [Term.varsList, Term.vars]; constructor
        · rintro (h | h | h) <;> simp [h]
        · rintro (h | h) <;> simp [h])]
  simp only [ruleKeys, hrs, if_true]
  rw [← do_eq_bindR]
  rfl

theorem br_p2 (db : DB) (goal : MM.Term) (cfg : Cfg) (n : Nat) (labels : List Lbl) (off : Nat) (x : XSt) (step : Nat)
    (k : XSt → R) (hwf : db.WF) (hn : 5 ≤ n) :
    Gen.XProof.br_proof_rules (ofDB db goal) cfg n labels off x step .p2 k = bindR (xP2 n db x) k := by
  obtain ⟨_, _, h1, h2, h3⟩ := lblIs_table
  obtain ⟨m, rfl⟩ : ∃ m, n = m + 5 := ⟨n - 5, by omega⟩
  unfold Gen.XProof.br_proof_rules xP2 xProp
  simp only [h1, h2, h3, pyIf, show ((Lbl.p2 == Lbl.p1) = false) from rfl, show ((Lbl.p2 == Lbl.p2) = true) from rfl,
    show ((Lbl.p2 == Lbl.mp) = false) from rfl, if_true, Bool.false_eq_true, if_false]
  have hrs : [db.p2.1, db.p2.2.1, db.p2.2.2].Nodup := hwf.p2Nodup
  rw [prop_rule_eq db goal (m + 5) x .p2 "prop2" .prop2 prop2N [db.p2.1, db.p2.2.1, db.p2.2.2]
    (.imp (.imp (.var db.p2.1) (.imp (.var db.p2.2.1) (.var db.p2.2.2)))
      (.imp (.imp (.var db.p2.1) (.var db.p2.2.1)) (.imp (.var db.p2.1) (.var db.p2.2.2)))) (fun x => k x)
    (fun _ => rfl) (fun _ => rfl) rfl (by simpa [image_var, image_imp, image_app, rolesOf] using match_p2 m _ _ _) (by omega) hwf.nodup hrs
    (by intro r hr; simp at hr; rcases hr with rfl | rfl | rfl; exact hwf.p2Mem.1; exact hwf.p2Mem.2.1; exact hwf.p2Mem.2.2)
    (by intro v; simp [Term.varsList, Term.vars]; constructor
        · rintro (h | h | h | h | h | h | h) <;> simp [h]
        · rintro (h | h | h) <;> simp [h])]
  simp only [ruleKeys, hrs, if_true]
  rw [← do_eq_bindR]
  rfl


/-! ## the loop body, the loop, the function -/

/-- which branch of the generated if/elif chain a label of the model takes -/
def branchOf (db : DB) (goal : MM.Term) (cfg : Cfg) (n : Nat) (labels : List Lbl) (x : XSt) (step : Nat) (k : XSt → R)
    (l : Lbl) : R :=
  match l with
  | .impC | .appC | .ctor _ => Gen.XProof.br_pattern_constructors (ofDB db goal) cfg n labels labels.length x step l k
  | .float _ => Gen.XProof.br_fp_label_to_pattern (ofDB db goal) cfg n labels labels.length x step l k
  | .rule _ => Gen.XProof.br_exported_axioms (ofDB db goal) cfg n labels labels.length x step l k
  | .p1 | .p2 | .mp => Gen.XProof.br_proof_rules (ofDB db goal) cfg n labels labels.length x step l k

/-- the dispatch of the generated loop body on the kind of the label, in the order of the source, for the converter of a
model database -/
theorem step_label (db : DB) (goal : MM.Term) (cfg : Cfg) (n : Nat) (labels : List Lbl) (x : XSt) (step : Nat) (l : Lbl)
    (k : XSt → R) (h1 : 1 ≤ step) (hl : labels[step - 1]? = some l) :
    Gen.XProof.step (ofDB db goal) cfg n labels labels.length x step k = branchOf db goal cfg n labels x step k l := by
  have hlt : step - 1 < labels.length := by
    rcases Nat.lt_or_ge (step - 1) labels.length with h | h
    · exact h
    · rw [List.getElem?_eq_none h] at hl; cases hl
  have hhas : labelsHas labels step = true := by simp [labelsHas]; omega
  have h0 : ¬ step = 0 := by omega
  unfold Gen.XProof.step
  simp only [hhas, Bool.not_true, Bool.false_eq_true, if_false, labelsGet, h0, hl]
  cases l <;> rfl

theorem step_tie (db : DB) (goal : MM.Term) (cfg : Cfg) (n : Nat) (labels : List Lbl) (x : XSt) (step : Nat)
    (k : XSt → R) (hwf : db.WF) (hn : 5 ≤ n) :
    Gen.XProof.step (ofDB db goal) cfg n labels labels.length x step k = bindR (xstep cfg n db labels x step) k := by
  rw [xstep_eq]
  unfold resolve
  by_cases h0 : step = 0
  · subst h0
    simp only [if_true]
    unfold Gen.XProof.step
    simp only [labelsHas, Nat.le_zero_eq, Nat.one_ne_zero, false_and, decide_false, Bool.not_false, if_true]
    exact br_memory_save _ _ _ _ _ _ _
  · simp only [h0, if_false]
    by_cases hk : step ≤ labels.length
    · simp only [hk, if_true]
      have hlt : step - 1 < labels.length := by omega
      obtain ⟨l, hl⟩ : ∃ l, labels[step - 1]? = some l := ⟨_, List.getElem?_eq_getElem hlt⟩
      rw [step_label db goal cfg n labels x step l k (by omega) hl, hl]
      simp only [branchOf]
      cases l with
      | float v => exact br_float _ _ _ _ _ _ _ _ _ _
      | impC => exact br_imp _ _ _ _ _ _ _ _ _ hwf (by omega)
      | appC => exact br_app _ _ _ _ _ _ _ _ _ hwf (by omega)
      | ctor c => exact br_ctor _ _ _ _ _ _ _ _ _ _ hwf.nodup
      | rule j => exact br_rule _ _ _ _ _ _ _ _ _ _ hwf.nodup
      | p1 => exact br_p1 _ _ _ _ _ _ _ _ _ hwf (by omega)
      | p2 => exact br_p2 _ _ _ _ _ _ _ _ _ hwf hn
      | mp => exact br_mp _ _ _ _ _ _ _ _ _
    · simp only [hk, if_false]
      unfold Gen.XProof.step
      have hhas : labelsHas labels step = false := by simp [labelsHas]; omega
      simp only [hhas, Bool.not_false, if_true]
      exact br_memory_reuse _ _ _ _ _ _ _ h0 (by omega)

/-- the loop `for lemma in exported_proof.applied_lemmas` is `xrun` -/
theorem run_tie (db : DB) (goal : MM.Term) (cfg : Cfg) (n : Nat) (labels : List Lbl) (K : XSt → R)
    (hwf : db.WF) (hn : 5 ≤ n) : ∀ (steps : List Nat) (x : XSt),
    forEach steps x (fun v_lemma x kl => Gen.XProof.step (ofDB db goal) cfg n labels labels.length x v_lemma kl) K =
      bindR (xrun cfg n db labels x steps) K := by
  intro steps
  induction steps with
  | nil => intro x; rfl
  | cons st steps ih =>
    intro x
    simp only [forEach, xrun]
    rw [step_tie db goal cfg n labels x st _ hwf hn, ← do_eq_bindR (xstep cfg n db labels x st)]
    cases xstep cfg n db labels x st with
    | none => rfl
    | some r =>
      cases r with
      | none => rfl
      | some x' => simp only [bind, Option.bind, bindR_some]; exact ih x'

/-- the answer of the generated `exec_proof` in the model's form: final tracker state and calls made -/
def outcome (r : R) : Option (Option (PySt × List Call)) := r.map (·.map fun x => (x.s, x.calls))

theorem exec_proof_tie (db : DB) (goal : MM.Term) (cfg : Cfg) (n : Nat) (labels : List Lbl) (steps : List Nat)
    (s : PySt) (acc : List Call) (hwf : db.WF) (hn : 5 ≤ n) :
    outcome (Gen.XProof.exec_proof (ofDB db goal) cfg n labels steps s acc) =
      execProof cfg n db goal labels steps s acc := by
  unfold Gen.XProof.exec_proof execProof
  simp only []
  rw [run_tie db goal cfg n labels _ hwf hn]
  cases hx : xrun cfg n db labels ⟨s, acc, []⟩ steps with
  | none => rfl
  | some r =>
    cases r with
    | none => rfl
    | some x =>
      simp only [bindR_some, bind, Option.bind, stackIdx_1, stackAt]
      cases hs : x.s.stack with
      | nil => rfl
      | cons e st =>
        obtain ⟨t, b⟩ := e
        cases t with
        | pat p => rfl
        | proved p =>
          simp only [List.getElem?_cons_zero, isProved, TTerm.isProved, assertThat_true, assertC, provedEq, ofDB]
          cases hp : NPat.peqF n p (image db goal) with
          | none => rfl
          | some bq =>
            cases bq with
            | false => rfl
            | true =>
              simp only [Option.map_some, ifC, if_true]
              rw [icall_eq _ _ _ .publishProof _ (by simp [toCall, Val.isAt])]
              cases x.doC n [.publishProof] with
              | none => rfl
              | some r2 => cases r2 <;> rfl


/-! ## the hypotheses are needed -/

/-- a database outside `DB.wf`: `imp-is-pattern $a #Pattern ( \imp x x )` -/
def dbImpXX : DB :=
  { floats := [0], impArgs := (0, 0), appArgs := (0, 0), ctors := [], rules := [], p1 := (0, 0), p2 := (0, 0, 0), mp := (0, 0) }
/-- a well-formed database over three variables -/
def dbOk : DB :=
  { floats := [0, 1, 2], impArgs := (0, 1), appArgs := (0, 1), ctors := [], rules := [], p1 := (0, 1), p2 := (0, 1, 2),
    mp := (0, 1) }
def xTwoPats : XSt :=
  ⟨{ phase := .proof, stack := [(.pat (phiN 0), false), (.pat (phiN 1), false)], memory := [], claims := [], symtab := [] }, [], []⟩

/-- outside `DB.wf` the text and the model differ: for `( \imp x x )` Python's `Implies(*arguments_in_order)` gets one
argument (`TypeError`), the model goes on with `pattern` + `instantiate_pattern` -/
theorem wf_needed :
    dbImpXX.wf = false ∧
    Gen.XProof.step (ofDB dbImpXX (.var 0)) {} 5 [.impC] 1 xTwoPats 1 (fun x => some (some x)) = some none ∧
    ((xstep {} 5 dbImpXX [.impC] xTwoPats 1).bind id).isSome = true :=
  ⟨by decide, rfl, rfl⟩

/-- below the fuel bound the fuelled `==` of the text (`converter.get_axiom_by_name(..).pattern == App(..)`) gives up
where the model, which decides the shortcut on the variable lists, answers -/
theorem fuel_needed :
    dbOk.wf = true ∧
    Gen.XProof.step (ofDB dbOk (.var 0)) {} 1 [.appC] 1 xTwoPats 1 (fun x => some (some x)) = none ∧
    ((xstep {} 1 dbOk [.appC] xTwoPats 1).bind id).isSome = true :=
  ⟨by decide, rfl, rfl⟩

end XProofTie

#print axioms XProofTie.translated
#print axioms XProofTie.br_memory_save
#print axioms XProofTie.br_memory_reuse
#print axioms XProofTie.br_float
#print axioms XProofTie.br_ctor
#print axioms XProofTie.br_app
#print axioms XProofTie.br_imp
#print axioms XProofTie.br_rule
#print axioms XProofTie.br_p1
#print axioms XProofTie.br_p2
#print axioms XProofTie.br_mp
#print axioms XProofTie.get_delta_eq
#print axioms XProofTie.instantiate_eq
#print axioms XProofTie.prop_rule_eq
#print axioms XProofTie.convert_to_implication_eq
#print axioms XProofTie.step_tie
#print axioms XProofTie.run_tie
#print axioms XProofTie.exec_proof_tie
#print axioms XProofTie.wf_needed
#print axioms XProofTie.fuel_needed
