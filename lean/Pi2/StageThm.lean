import Pi2.Gen.StageProofs
import Pi2.TautTie
import Pi2.Props.C10
/-!
# The proof objects of the normal-form stages conclude what the docstrings say, and replay

`Pi2/Gen/StageProofs.lean` is regenerated on every run from `tautology.py` (`vlib/transstage.py`): every stage function
with ALL its statements — the data part as in `Pi2/Gen/PyTaut.lean`, every `ProofThunk` expression over a thunk algebra.

* Part A: the library lemmas the stages call, on conclusions (`StageSup.algCS`): equations `lib algCS ix_<lemma> .. = some ..`
  obtained from `C10.conc_stable` (every documented entry point, at ALL arguments and premises of the documented shape).
* Part B..E: the stages over `algCS`: `to_conj_form_C`, `propag_neg_C`, `to_cnf_C`, `to_clauses_C` — the run does not raise
  and returns the model's normal form together with EXACTLY the advertised conclusions (by induction over the formula / the
  normal form / the fuel; the `for` loops of `to_clauses` by their invariant `shiftPair`; `match_single` + `dynamic_inst` of
  the shifting schemas by `matchP_chain` / `inst_zip`).
* Part F: the homomorphism `GTh.conc : algGS → algCS` of every generated function (`*_hom`; one structural tactic).
* Part G: fuel monotonicity (`*_mono`), hence `*_C_any`: at ANY fuel a stage that answers, answers as above.
* Part H: `sra_C` (`start_resolution_algorithm`: `top_intro` / the RIGHT fold of `and_intro` over the proofs of the trivial
  clauses / the proof reconstructed from the hint) and `prove_tautology_C`: the final assembly concludes literally the
  pattern / its negation, given what `prove_trivial_clause` and `build_proof_from_hint` promise about their proofs
  (`PtcSpecC`, `BpfhSpecC`: their proof objects are not translated — parameters of the generated functions).
* Part I: the same over proof trees (`*_proofs`, `prove_tautology_proofs`): the returned thunks are proof trees `th.pf` that
  MEAN (`Pf.Sem`: the documented rules prop1/prop2/prop3/mp/instantiate/axioms) the advertised conclusion, so whenever their
  run on the basic interpreter returns, it returns the advertised conclusion (`Proves`); `*_data`: the data component is
  the one of the data slice `Gen.PyTaut`.
-/
set_option linter.unusedSimpArgs false
open Pat

namespace StageThm
open Lem StageSup Gen.PyTaut TautSup TautTie Gen.Stage

theorem translated : Gen.Stage.translated = true := by decide

/-! ## the patterns the docstrings talk about -/

/-- `conj_to_pattern` -/
def cfPat : ConjForm → Pat
  | .CFBot n => if n then negP Lem.botP else Lem.botP
  | .CFVar n i => if n then negP (mvP i) else mvP i
  | .CFOr n l r => if n then negP (orP (cfPat l) (cfPat r)) else orP (cfPat l) (cfPat r)
  | .CFAnd n l r => if n then negP (andP (cfPat l) (cfPat r)) else andP (cfPat l) (cfPat r)

/-- `id_to_metavar` (literals are `±(id + 1)`) -/
def idPat (i : Int) : Pat := if i < 0 then negP (phi (-(i + 1)).toNat) else phi (i - 1).toNat

/-- `foldr_op(op, l)` on a non-empty list -/
def foldrP (op : Pat → Pat → Pat) : List Pat → Pat
  | [] => Lem.botP
  | [a] => a
  | a :: b :: r => op a (foldrP op (b :: r))

/-- `clause_to_pattern` -/
def clausePat (c : List Int) : Pat := if c.isEmpty then Lem.botP else foldrP orP (c.map idPat)

/-- `clause_conjunctionto_pattern` -/
def clausesPat (cs : List (List Int)) : Pat := if cs.isEmpty then topP else foldrP andP (cs.map clausePat)

/-- the resolution hint (`ResolutionHint`) -/
abbrev Hint := PyDict FrozenSet (Sum ResolutionHintSource Int)

/-! ## Part A — the library lemmas on conclusions -/

/-- the documented schema of the entry point with index `i` in `Gen.lemmaDefs` -/
def specAt (i : Nat) : Option Lem.Spec := Gen.lemmaSpecs.find? (fun s => s.idx == i)

theorem lib_at (i : Nat) (s : Lem.Spec) (h : specAt i = some s) (ρ : Nat → Option Pat) :
    lib algCS i (s.params.map (Py.inst ρ)) (s.premises.map (Py.inst ρ)) = some (Py.inst ρ s.concl) := by
  have hm : s ∈ Gen.lemmaSpecs := List.mem_of_find?_eq_some h
  have hi : s.idx = i := by
    have := List.find?_some h
    simpa using this
  obtain ⟨g, hg, hr⟩ := C10.conc_stable s hm ρ
  have e : algCS.toAlg = Lem.algC := rfl
  unfold lib
  rw [e, ← hi, hg]
  exact hr

section LibC
variable (a b c d p q r : Pat)

theorem lib_top_intro : lib algCS ix_top_intro [] [] = some topP :=
  lib_at ix_top_intro _ rfl (fun _ => none)
theorem lib_imp_refl : lib algCS ix_imp_refl [p] [] = some (.imp p p) :=
  lib_at ix_imp_refl _ rfl (fun i => [p][i]?)
theorem lib_imp_provable : lib algCS ix_imp_provable [p] [q] = some (.imp p q) :=
  lib_at ix_imp_provable _ rfl (fun i => [p, q][i]?)
theorem lib_imp_transitivity : lib algCS ix_imp_transitivity [] [.imp a b, .imp b c] = some (.imp a c) :=
  lib_at ix_imp_transitivity _ rfl (fun i => [a, b, c][i]?)
theorem lib_and_not_r_intro : lib algCS ix_and_not_r_intro [] [p, negP q] = some (negP (.imp p q)) :=
  lib_at ix_and_not_r_intro _ rfl (fun i => [p, q][i]?)
theorem lib_absurd_i : lib algCS ix_absurd_i [p] [negP q] = some (.imp q p) :=
  lib_at ix_absurd_i _ rfl (fun i => [p, q][i]?)
theorem lib_absurd3 : lib algCS ix_absurd3 [] [.imp (negP a) b, negP c] = some (.imp (.imp b c) a) :=
  lib_at ix_absurd3 _ rfl (fun i => [a, b, c][i]?)
theorem lib_absurd4 : lib algCS ix_absurd4 [p] [.imp a (negP b)] = some (.imp b (.imp a p)) :=
  lib_at ix_absurd4 _ rfl (fun i => [p, a, b][i]?)
theorem lib_imim : lib algCS ix_imim [] [.imp a b, .imp c d] = some (.imp (.imp b c) (.imp a d)) :=
  lib_at ix_imim _ rfl (fun i => [a, b, c, d][i]?)
theorem lib_absurd2 : lib algCS ix_absurd2 [p] [.imp a b] = some (.imp (negP b) (.imp a p)) :=
  lib_at ix_absurd2 _ rfl (fun i => [p, a, b][i]?)
theorem lib_helper1 : lib algCS ix_helper1 [] [p, .imp q r] = some (.imp (.imp p q) r) :=
  lib_at ix_helper1 _ rfl (fun i => [p, q, r][i]?)
theorem lib_a1d : lib algCS ix_a1d [p] [.imp q r] = some (.imp q (.imp p r)) :=
  lib_at ix_a1d _ rfl (fun i => [p, q, r][i]?)
theorem lib_imim_nnr : lib algCS ix_imim_nnr [] [.imp a b, .imp c d] = some (.imp (.imp b c) (.imp (negP (negP a)) d)) :=
  lib_at ix_imim_nnr _ rfl (fun i => [a, b, c, d][i]?)
theorem lib_imim_nnl : lib algCS ix_imim_nnl [] [.imp a b, .imp c d] = some (.imp (.imp (negP (negP b)) c) (.imp a d)) :=
  lib_at ix_imim_nnl _ rfl (fun i => [a, b, c, d][i]?)
theorem lib_dni_l_i : lib algCS ix_dni_l_i [] [.imp a b] = some (.imp (negP (negP a)) b) :=
  lib_at ix_dni_l_i _ rfl (fun i => [a, b][i]?)
theorem lib_dni_r_i : lib algCS ix_dni_r_i [] [.imp a b] = some (.imp a (negP (negP b))) :=
  lib_at ix_dni_r_i _ rfl (fun i => [a, b][i]?)
theorem lib_imim_and : lib algCS ix_imim_and [] [.imp a b, .imp c d] = some (.imp (andP a c) (andP b d)) :=
  lib_at ix_imim_and _ rfl (fun i => [a, b, c, d][i]?)
theorem lib_imim_or : lib algCS ix_imim_or [] [.imp a b, .imp c d] = some (.imp (orP a c) (orP b d)) :=
  lib_at ix_imim_or _ rfl (fun i => [a, b, c, d][i]?)
theorem lib_dne_r : lib algCS ix_dne_r [a, b] [] = some (.imp (.imp a (negP (negP b))) (.imp a b)) :=
  lib_at ix_dne_r _ rfl (fun i => [a, b][i]?)
theorem lib_dni_r : lib algCS ix_dni_r [a, b] [] = some (.imp (.imp a b) (.imp a (negP (negP b)))) :=
  lib_at ix_dni_r _ rfl (fun i => [a, b][i]?)
theorem lib_con3_i : lib algCS ix_con3_i [] [.imp a b] = some (.imp (negP b) (negP a)) :=
  lib_at ix_con3_i _ rfl (fun i => [a, b][i]?)
theorem lib_or_distr_r : lib algCS ix_or_distr_r [a, b, c] [] =
    some (.imp (orP (andP a b) c) (andP (orP a c) (orP b c))) :=
  lib_at ix_or_distr_r _ rfl (fun i => [a, b, c][i]?)
theorem lib_or_distr_r_rev : lib algCS ix_or_distr_r_rev [a, b, c] [] =
    some (.imp (andP (orP a c) (orP b c)) (orP (andP a b) c)) :=
  lib_at ix_or_distr_r_rev _ rfl (fun i => [a, b, c][i]?)
theorem lib_or_distr_l : lib algCS ix_or_distr_l [a, b, c] [] =
    some (.imp (orP a (andP b c)) (andP (orP a b) (orP a c))) :=
  lib_at ix_or_distr_l _ rfl (fun i => [a, b, c][i]?)
theorem lib_or_distr_l_rev : lib algCS ix_or_distr_l_rev [a, b, c] [] =
    some (.imp (andP (orP a b) (orP a c)) (orP a (andP b c))) :=
  lib_at ix_or_distr_l_rev _ rfl (fun i => [a, b, c][i]?)
theorem lib_and_assoc_r : lib algCS ix_and_assoc_r [a, b, c] [] =
    some (.imp (andP (andP a b) c) (andP a (andP b c))) :=
  lib_at ix_and_assoc_r _ rfl (fun i => [a, b, c][i]?)
theorem lib_and_assoc_l : lib algCS ix_and_assoc_l [a, b, c] [] =
    some (.imp (andP a (andP b c)) (andP (andP a b) c)) :=
  lib_at ix_and_assoc_l _ rfl (fun i => [a, b, c][i]?)
theorem lib_or_assoc_r : lib algCS ix_or_assoc_r [a, b, c] [] =
    some (.imp (orP (orP a b) c) (orP a (orP b c))) :=
  lib_at ix_or_assoc_r _ rfl (fun i => [a, b, c][i]?)
theorem lib_or_assoc_l : lib algCS ix_or_assoc_l [a, b, c] [] =
    some (.imp (orP a (orP b c)) (orP (orP a b) c)) :=
  lib_at ix_or_assoc_l _ rfl (fun i => [a, b, c][i]?)
theorem lib_imim_and_r : lib algCS ix_imim_and_r [p] [.imp a b] = some (.imp (andP p a) (andP p b)) :=
  lib_at ix_imim_and_r _ rfl (fun i => [p, a, b][i]?)
theorem lib_imim_or_r : lib algCS ix_imim_or_r [p] [.imp a b] = some (.imp (orP p a) (orP p b)) :=
  lib_at ix_imim_or_r _ rfl (fun i => [p, a, b][i]?)
theorem lib_and_intro : lib algCS ix_and_intro [] [p, q] = some (andP p q) :=
  lib_at ix_and_intro _ rfl (fun i => [p, q][i]?)

end LibC

/-! `dneg_elim` has no docstring, hence no `Lem.Spec`: its body (`return self.dynamic_inst(self.prop3(), ..)`, the schema
instance `.prop3 (.pvar 0)`) is evaluated directly, over ANY algebra -/

theorem go_getElem_lt {τ} (A : Lem.Alg τ) : ∀ (ds : List Lem.Def) (acc : List (Lem.Fun τ)) (i : Nat), i < acc.length →
    (Lem.sem.go A acc ds)[i]? = acc[i]? := by
  intro ds
  induction ds with
  | nil => intro acc i _; rfl
  | cons d ds ih =>
    intro acc i h
    simp only [Lem.sem.go]
    rw [ih _ i (by simp; omega), List.getElem?_append_left h]

theorem go_take {τ} (A : Lem.Alg τ) (ds : List Lem.Def) (acc : List (Lem.Fun τ)) (n : Nat) (h : n ≤ acc.length) :
    (Lem.sem.go A acc ds).take n = acc.take n := by
  apply List.ext_getElem?
  intro i
  rw [List.getElem?_take, List.getElem?_take]
  split
  · exact go_getElem_lt A ds acc i (by omega)
  · rfl

theorem go_getElem {τ} (A : Lem.Alg τ) : ∀ (ds : List Lem.Def) (acc : List (Lem.Fun τ)) (j : Nat) (d : Lem.Def),
    ds[j]? = some d → (Lem.sem.go A acc ds)[acc.length + j]? =
      some (Lem.evalDef A ((Lem.sem.go A acc ds).take (acc.length + j)) d) := by
  intro ds
  induction ds with
  | nil => intro acc j d h; simp at h
  | cons d' ds ih =>
    intro acc j d h
    rw [Lem.sem.go]
    cases j with
    | zero =>
      obtain rfl : d' = d := by simpa using h
      rw [Nat.add_zero, go_take A ds _ _ (by simp), go_getElem_lt A ds _ _ (by simp)]
      simp
    | succ k =>
      have := ih (acc ++ [Lem.evalDef A acc d']) k d (by simpa using h)
      rwa [List.length_append, List.length_singleton, Nat.add_assoc, Nat.add_comm 1 k] at this

/-- entry `i` of the library is definition `i` evaluated over the entries before it -/
theorem sem_getElem_take {τ} (A : Lem.Alg τ) (defs : List Lem.Def) (i : Nat) (d : Lem.Def) (h : defs[i]? = some d) :
    (Lem.sem A defs)[i]? = some (Lem.evalDef A ((Lem.sem A defs).take i) d) := by
  have := go_getElem A defs [] i d h
  rwa [← Lem.sem_eq_go, List.length_nil, Nat.zero_add] at this

theorem sem_getElem {τ} (A : Lem.Alg τ) (defs : List Lem.Def) (i : Nat) (d : Lem.Def) (h : defs[i]? = some d) :
    ∃ funs, (Lem.sem A defs)[i]? = some (Lem.evalDef A funs d) :=
  ⟨_, sem_getElem_take A defs i d h⟩

/-- inside definition `i` of the library, a call of an earlier entry `j` is the library call `lib A j` -/
theorem evalTE_call {τ} (A : SAlg τ) (i j : Nat) (hj : j < i)
    (ps : List Pat) (ts : List τ) (pes : List Lem.PE) (tes : List Lem.TE) :
    Lem.evalTE A.toAlg ((Lem.sem A.toAlg Gen.lemmaDefs).take i) ps ts (.call j pes tes) =
      (Lem.evalPEs A.toAlg ps ts pes).bind fun pa =>
        (Lem.evalTEs A.toAlg ((Lem.sem A.toAlg Gen.lemmaDefs).take i) ps ts tes).bind fun ta => lib A j pa ta := by
  unfold lib
  generalize Gen.lemmaDefs = defs
  rw [Lem.evalTE, List.getElem?_take_of_lt hj]
  cases (Lem.sem A.toAlg defs)[j]? with
  | none => simp
  | some g => rfl

theorem lib_dneg_elim_any {τ} (A : SAlg τ) (p : Pat) : lib A ix_dneg_elim [p] [] = some (A.prop3 p) := by
  have hd : Gen.lemmaDefs[ix_dneg_elim]? = some ⟨"dneg_elim", 1, 0, [], .prop3 (.pvar 0)⟩ := rfl
  obtain ⟨funs, hf⟩ := sem_getElem A.toAlg Gen.lemmaDefs ix_dneg_elim _ hd
  unfold lib
  rw [hf]
  simp [Lem.evalDef, Lem.evalBody, Lem.evalTE, Lem.evalPE]

theorem lib_dneg_elim (p : Pat) : lib algCS ix_dneg_elim [p] [] = some (.imp (negP (negP p)) p) :=
  lib_dneg_elim_any algCS p

/-- premises that are negations (`negP x` is `x → ⊥`) -/
theorem lib_imim_neg (a b c : Pat) : lib algCS ix_imim [] [.imp a b, negP c] = some (.imp (.imp b c) (negP a)) :=
  lib_imim a b c Lem.botP

/-! ## Part B — `to_conj_form` on conclusions -/

/-- what `to_conj_form` returns on the propositional pattern `f`, as its docstring says: the normal form (the model's
`CF.ofForm`), a proof of `pat -> new` and a proof of `new -> pat`; when the new term is Top / Bottom only the first proof,
which proves `pat` / `neg(pat)` -/
def conjSpec (f : Form) : ConjForm × Pat × Option Pat :=
  if (CF.ofForm f).isBot then
    (ofCF (CF.ofForm f), (if (CF.ofForm f).negated then toPat f else negP (toPat f)), none)
  else
    (ofCF (CF.ofForm f), .imp (toPat f) (cfPat (ofCF (CF.ofForm f))), some (.imp (cfPat (ofCF (CF.ofForm f))) (toPat f)))

/-- the pattern of a normal form without its top-level negation flag -/
def baseP : CF → Pat
  | .bot _ => Lem.botP
  | .var _ i => mvP (i : Int)
  | .or _ l r => orP (cfPat (ofCF l)) (cfPat (ofCF r))
  | .and _ l r => andP (cfPat (ofCF l)) (cfPat (ofCF r))

theorem cfPat_ofCF (c : CF) : cfPat (ofCF c) = if c.negated then negP (baseP c) else baseP c := by
  cases c <;> rfl

@[simp] theorem baseP_setNeg (c : CF) (b : Bool) : baseP (c.setNeg b) = baseP c := by cases c <;> rfl
@[simp] theorem negated_setNeg (c : CF) (b : Bool) : (c.setNeg b).negated = b := by cases c <;> rfl

@[simp] theorem isBot_setNeg (c : CF) (b : Bool) : (c.setNeg b).isBot = c.isBot := by cases c <;> rfl
@[simp] theorem isBot_bot (b : Bool) : (CF.bot b).isBot = true := rfl
@[simp] theorem isBot_or (b : Bool) (l r : CF) : (CF.or b l r).isBot = false := rfl
@[simp] theorem negated_bot (b : Bool) : (CF.bot b).negated = b := rfl
@[simp] theorem negated_or (b : Bool) (l r : CF) : (CF.or b l r).negated = b := rfl

/-- `CF.ofForm` on an implication other than ⊤, by the tests `to_conj_form` makes (`isinstance(.., CFBot)`, `.negated`) -/
theorem ofForm_imp (p0 p1 : Form) (h : ¬(p0 = .bot ∧ p1 = .bot)) :
    CF.ofForm (.imp p0 p1) =
      if (CF.ofForm p1).isBot then
        if (CF.ofForm p1).negated then .bot true
        else if (CF.ofForm p0).isBot then .bot (!(CF.ofForm p0).negated)
        else (CF.ofForm p0).setNeg (!(CF.ofForm p0).negated)
      else if (CF.ofForm p0).isBot then (if (CF.ofForm p0).negated then CF.ofForm p1 else .bot true)
      else .or false ((CF.ofForm p0).setNeg (!(CF.ofForm p0).negated)) (CF.ofForm p1) := by
  rw [CF.ofForm_imp p0 p1 h]
  generalize CF.ofForm p0 = c0
  cases c0 <;> rfl

theorem conjSpec_eq (f : Form) : conjSpec f =
    (ofCF (CF.ofForm f),
      if (CF.ofForm f).isBot then (if (CF.ofForm f).negated then toPat f else negP (toPat f))
      else .imp (toPat f) (cfPat (ofCF (CF.ofForm f))),
      if (CF.ofForm f).isBot then none else some (.imp (cfPat (ofCF (CF.ofForm f))) (toPat f))) := by
  unfold conjSpec
  split <;> rfl

theorem pyIndex_cons_zero {α} (a : α) (l : List α) : pyIndex (a :: l) (0 : Int) = some a := by simp [pyIndex]
theorem pyIndex_cons_one {α} (a b : α) (l : List α) : pyIndex (a :: b :: l) (1 : Int) = some b := by simp [pyIndex]

theorem to_conj_form_C (f : Form) : ∀ n, f.size ≤ n → Gen.Stage.to_conj_form algCS n f = some (conjSpec f) := by
  induction f with
  | bot =>
    intro n hn
    cases n with
    | zero => simp [Form.size] at hn
    | succ k =>
      simp [Gen.Stage.to_conj_form, conjSpec, TautSup.bot, CF.ofForm, ofCF, CFBot_new, CF.isBot, CF.negated, lib_top_intro,
        toPat, topP]
  | var i =>
    intro n hn
    cases n with
    | zero => simp [Form.size] at hn
    | succ k =>
      simp [Gen.Stage.to_conj_form, conjSpec, TautSup.bot, TautSup.top, Form.top, isMetaVar, MetaVar_name, CF.ofForm, ofCF,
        CFVar_new, CF.isBot, lib_imp_refl, toPat, cfPat, mvP]
  | imp p0 p1 ih0 ih1 =>
    intro n hn
    cases n with
    | zero => simp [Form.size] at hn
    | succ k =>
      have h0 : p0.size ≤ k := by simp [Form.size] at hn; omega
      have h1 : p1.size ≤ k := by simp [Form.size] at hn; omega
      have e0 := ih0 k h0
      have e1 := ih1 k h1
      by_cases hb : p0 = .bot ∧ p1 = .bot
      · obtain ⟨rfl, rfl⟩ := hb
        simp [Gen.Stage.to_conj_form, TautSup.bot, TautSup.top, Form.top, ofCF, CFBot_new, CF.isBot, CF.negated,
          lib_top_intro, toPat, topP, negP, conjSpec, CF.ofForm]
      · have htop : (Form.imp p0 p1 == TautSup.top) = false := by
          simp only [TautSup.top, Form.top, beq_eq_false_iff_ne, ne_eq, Form.imp.injEq]; exact hb
        rw [conjSpec_eq] at e0 e1 ⊢
        rw [ofForm_imp p0 p1 hb]
        generalize CF.ofForm p1 = c1 at e1 ⊢
        generalize CF.ofForm p0 = c0 at e0 ⊢
        simp only [Gen.Stage.to_conj_form, htop, TautSup.bot, isMetaVar, Implies_extract, beq_iff_eq, reduceCtorEq, ↓reduceIte,
          Bool.false_eq_true, List.isEmpty_cons, Bool.not_false, pyIndex_cons_zero, pyIndex_cons_one, Option.pure_def,
          Option.bind_eq_bind, Option.bind_some, e1, e0, isCFBot_ofCF, negated_ofCF, set_negated_ofCF, toPat]
        cases h1 : c1.isBot <;> cases h0 : c0.isBot <;>
          simp only [↓reduceIte, Bool.false_eq_true, Option.isSome_some, pyAssert, Option.bind_some]
        · -- neither side is a constant: `CFOr`
          cases n0 : c0.negated <;>
            simp [cfPat_ofCF c0, cfPat_ofCF (c0.setNeg _), n0, ofCF, cfPat, CFOr_new, orP, lib_imim, lib_imim_nnr, lib_imim_nnl]
        · -- `pat0` is ⊤ / ⊥
          cases n0 : c0.negated <;> simp [h1, ofCF, CFBot_new, lib_helper1, lib_a1d, lib_absurd_i]
        · -- `pat1` is ⊤ / ⊥: the pattern is `pat0 -> ⊤` / `¬pat0`
          cases n1 : c1.negated <;> cases n0 : c0.negated <;>
            simp [h0, cfPat_ofCF c0, cfPat_ofCF (c0.setNeg _), n0, ofCF, CFBot_new, lib_imp_provable, lib_absurd3,
              lib_absurd4, lib_imim_neg, lib_absurd2]
        · cases n1 : c1.negated <;> cases n0 : c0.negated <;>
            simp [ofCF, CFBot_new, lib_imp_provable, lib_and_not_r_intro, lib_absurd_i]

/-! ## Part C — `propag_neg` on conclusions -/

theorem assertAnd_andP (a b : Pat) : assertAnd (andP a b) = some (a, b) := by
  simp [assertAnd, matchNotn, matchAnd_andP]

theorem assertNeg_negP (a : Pat) : assertNeg (negP a) = some a := by
  simp [assertNeg, matchNotn, negP]

theorem extractImp_imp (a b : Pat) : extractImp (.imp a b) = some (a, b) := rfl

theorem algCS_conc (x : Pat) : algCS.conc x = x := rfl

theorem lib_imp_transitivity_and1 (x a b c : Pat) :
    lib algCS ix_imp_transitivity [] [.imp x (negP (.imp a (negP b))), .imp (andP a b) c] = some (.imp x c) :=
  lib_imp_transitivity x (andP a b) c
theorem lib_imp_transitivity_and2 (y a b c : Pat) :
    lib algCS ix_imp_transitivity [] [.imp c (andP a b), .imp (negP (.imp a (negP b))) y] = some (.imp c y) :=
  lib_imp_transitivity c (andP a b) y

/-- the two proofs a stage returns between the patterns of its input `x` and of its output `y` -/
def pfPair (x y : ConjForm) : ConjForm × Pat × Pat := (y, .imp (cfPat x) (cfPat y), .imp (cfPat y) (cfPat x))

/-- `propag_neg` with the caller's in-place inversion of the flag (`flip`), as in `TautTie.propag_neg_aux`: the proofs are
between the pattern of the term AS PASSED (flag already inverted) and the pattern of the result -/
theorem propag_neg_C_aux (c : CF) : ∀ (flip : Bool) (n : Nat), depth c ≤ n →
    Gen.Stage.propag_neg algCS n (ofCF (c.setNeg (xor c.negated flip))) =
      (CF.propagNegAux flip c).map fun r => pfPair (ofCF (c.setNeg (xor c.negated flip))) (ofCF r) := by
  induction c with
  | bot b =>
    intro flip n hn
    cases n with
    | zero => simp [depth] at hn
    | succ k => simp [Gen.Stage.propag_neg, CF.setNeg, ofCF, ConjForm.isCFVar, ConjForm.isCFOr, CF.propagNegAux]
  | var b i =>
    intro flip n hn
    cases n with
    | zero => simp [depth] at hn
    | succ k =>
      cases hx : (xor b flip) <;>
        simp [Gen.Stage.propag_neg, CF.setNeg, ofCF, ConjForm.isCFVar, CF.propagNegAux, CF.negated, ConjForm.id,
          ConjForm.negated, hx, lib_imp_refl, pfPair, cfPat]
  | and b l r _ _ =>
    intro flip n hn
    cases n with
    | zero => simp [depth] at hn
    | succ k => simp [Gen.Stage.propag_neg, CF.setNeg, ofCF, ConjForm.isCFVar, ConjForm.isCFOr, CF.propagNegAux]
  | or b l r ihl ihr =>
    intro flip n hn
    cases n with
    | zero => simp [depth] at hn
    | succ k =>
      have hl : depth l ≤ k := by simp [depth] at hn; omega
      have hr : depth r ≤ k := by simp [depth] at hn; omega
      simp only [CF.propagNegAux, CF.negated, CF.setNeg, ofCF]
      cases xor b flip with
      | true =>
        have el := ihl true k hl
        have er := ihr true k hr
        simp only [Bool.xor_true] at el er
        simp only [Gen.Stage.propag_neg, ConjForm.isCFVar, ConjForm.isCFOr, ConjForm.left, ConjForm.right,
          ConjForm.set_left, ConjForm.set_right, negated_CFOr, ↓reduceIte, Bool.false_eq_true,
          Option.pure_def, Option.bind_eq_bind, Option.bind_some, set_negated_ofCF, negated_ofCF, el, er]
        cases CF.propagNegAux true l with
        | none => rfl
        | some l' =>
          cases CF.propagNegAux true r with
          | none => rfl
          | some r' =>
            simp only [Option.map_some, Option.bind_some, pfPair, ofCF, cfPat, cfPat_ofCF l, cfPat_ofCF r,
              cfPat_ofCF (l.setNeg _), cfPat_ofCF (r.setNeg _), baseP_setNeg, negated_setNeg, if_true,
              Bool.false_eq_true, if_false]
            generalize baseP l = BL
            generalize baseP r = BR
            generalize cfPat (ofCF l') = PL
            generalize cfPat (ofCF r') = PR
            cases l.negated <;> cases r.negated <;>
              simp only [Bool.not_false, Bool.not_true, Bool.false_eq_true, ↓reduceIte, lib_dni_l_i, lib_dni_r_i,
                extractImp_imp, algCS_conc, lib_dne_r, lib_dni_r, Option.bind_some, lib_con3_i, CFAnd_new, lib_imim_and,
                assertAnd_andP, assertNeg_negP, lib_imp_transitivity_and2, lib_imp_transitivity_and1] <;>
              rfl
      | false =>
        have el := ihl false k hl
        have er := ihr false k hr
        simp only [Bool.xor_false, setNeg_negated] at el er
        simp only [Gen.Stage.propag_neg, ConjForm.isCFVar, ConjForm.isCFOr, ConjForm.left, ConjForm.right,
          negated_CFOr, Bool.false_eq_true, ↓reduceIte, Option.pure_def, Option.bind_eq_bind, Option.bind_some, el, er]
        cases CF.propagNegAux false l with
        | none => rfl
        | some l' =>
          cases CF.propagNegAux false r with
          | none => rfl
          | some r' => simp [pfPair, lib_imim_or, CFOr_new, cfPat, ofCF]

/-- `propag_neg` as written: it raises exactly when the model's `CF.propagNeg` does, and otherwise returns the model's
result with a proof of `conj_to_pattern(in) -> conj_to_pattern(out)` and a proof of the converse -/
theorem propag_neg_C (c : CF) (n : Nat) (hn : depth c ≤ n) :
    Gen.Stage.propag_neg algCS n (ofCF c) = (CF.propagNeg c).map fun r => pfPair (ofCF c) (ofCF r) := by
  have := propag_neg_C_aux c false n hn
  simpa [setNeg_negated, CF.propagNeg] using this

/-! ## Part D — `to_cnf` on conclusions -/

theorem algCS_inst_imp (S T : Pat) (δ : Subst) : algCS.inst (.imp S T) δ = .imp (algCS.inst S δ) (algCS.inst T δ) := by
  show instC _ δ = .imp (instC S δ) (instC T δ)
  unfold instC
  split <;> rfl

/-- `imp_trans_match2(h1, h2)`: the antecedent `S` of the schema `h2` is matched against the conclusion `X` of `h1` and
`h2` instantiated -/
theorem itm2_of {a X S T T' : Pat} {δ : Subst} (hm : matchSingle S X [] = some δ)
    (hS : algCS.inst S δ = X) (hT : algCS.inst T δ = T') :
    Gen.Stage.imp_trans_match2 algCS (.imp a X) (.imp S T) = some (.imp a T') := by
  simp only [Gen.Stage.imp_trans_match2, algCS_conc, extractImp_imp, hm, pyAssert, Option.isSome_some, if_true,
    Option.bind_eq_bind, Option.bind_some, algCS_inst_imp, hS, hT, lib_imp_transitivity]

/-- `imp_trans_match1(h1, h2)`: the conclusion `S` of the schema `h1` is matched against the antecedent `X` of `h2` -/
theorem itm1_of {a X S T T' : Pat} {δ : Subst} (hm : matchSingle S X [] = some δ)
    (hS : algCS.inst S δ = X) (hT : algCS.inst T δ = T') :
    Gen.Stage.imp_trans_match1 algCS (.imp T S) (.imp X a) = some (.imp T' a) := by
  simp only [Gen.Stage.imp_trans_match1, algCS_conc, extractImp_imp, hm, pyAssert, Option.isSome_some, if_true,
    Option.bind_eq_bind, Option.bind_some, algCS_inst_imp, hS, hT, lib_imp_transitivity]

section Distr
variable (a x y z : Pat)

theorem match_distr_r :
    matchSingle (orP (andP (phi 0) (phi 1)) (phi 2)) (orP (andP x y) z) [] = some [(0, x), (1, y), (2, z)] := by
  simp [matchSingle, matchP, orP, andP, negP, Lem.botP, phi, Py.lookup]

theorem match_distr_l :
    matchSingle (orP (phi 0) (andP (phi 1) (phi 2))) (orP x (andP y z)) [] = some [(0, x), (1, y), (2, z)] := by
  simp [matchSingle, matchP, orP, andP, negP, Lem.botP, phi, Py.lookup]

/-- `imp_trans_match2(h, self.or_distr_r())` -/
theorem itm2_or_distr_r :
    Gen.Stage.imp_trans_match2 algCS (.imp a (orP (andP x y) z))
      (.imp (orP (andP (phi 0) (phi 1)) (phi 2)) (andP (orP (phi 0) (phi 2)) (orP (phi 1) (phi 2)))) =
      some (.imp a (andP (orP x z) (orP y z))) :=
  itm2_of (match_distr_r x y z) rfl rfl

theorem itm1_or_distr_r_rev :
    Gen.Stage.imp_trans_match1 algCS
      (.imp (andP (orP (phi 0) (phi 2)) (orP (phi 1) (phi 2))) (orP (andP (phi 0) (phi 1)) (phi 2)))
      (.imp (orP (andP x y) z) a) = some (.imp (andP (orP x z) (orP y z)) a) :=
  itm1_of (match_distr_r x y z) rfl rfl

theorem itm2_or_distr_l :
    Gen.Stage.imp_trans_match2 algCS (.imp a (orP x (andP y z)))
      (.imp (orP (phi 0) (andP (phi 1) (phi 2))) (andP (orP (phi 0) (phi 1)) (orP (phi 0) (phi 2)))) =
      some (.imp a (andP (orP x y) (orP x z))) :=
  itm2_of (match_distr_l x y z) rfl rfl

theorem itm1_or_distr_l_rev :
    Gen.Stage.imp_trans_match1 algCS
      (.imp (andP (orP (phi 0) (phi 1)) (orP (phi 0) (phi 2))) (orP (phi 0) (andP (phi 1) (phi 2))))
      (.imp (orP x (andP y z)) a) = some (.imp (andP (orP x y) (orP x z)) a) :=
  itm1_of (match_distr_l x y z) rfl rfl

end Distr

/-- `to_cnf` as written, on a negation normal form: it raises / runs out of fuel exactly when the model's `CF.toCnfF` does,
and otherwise returns the model's result with a proof of `conj_to_pattern(in) -> conj_to_pattern(out)` and of the converse -/
theorem to_cnf_C : ∀ (k : Nat) (c : CF), c.IsNNF = true →
    Gen.Stage.to_cnf algCS k (ofCF c) = (CF.toCnfF k c).map fun r => pfPair (ofCF c) (ofCF r) := by
  intro k
  induction k with
  | zero => intro c _; simp [Gen.Stage.to_cnf, CF.toCnfF]
  | succ k ih =>
    intro c hc
    cases c with
    | bot b => simp [CF.IsNNF] at hc
    | var b i =>
      cases b <;> simp [Gen.Stage.to_cnf, CF.toCnfF, ofCF, ConjForm.isCFVar, ConjForm.id, ConjForm.negated, lib_imp_refl,
        pfPair, cfPat]
    | and b l r =>
      simp only [CF.IsNNF, Bool.and_eq_true, Bool.not_eq_true'] at hc
      obtain ⟨⟨hb, hl⟩, hr⟩ := hc
      subst hb
      simp only [Gen.Stage.to_cnf, CF.toCnfF, ofCF, ConjForm.isCFVar, ConjForm.isCFAnd, ConjForm.left, ConjForm.right,
        Option.pure_def, Option.bind_eq_bind, Option.bind_some, ih l hl, ih r hr, Bool.false_eq_true, ↓reduceIte]
      cases CF.toCnfF k l <;> cases CF.toCnfF k r <;> simp [CFAnd_new, ofCF, pfPair, lib_imim_and, cfPat]
    | or b l r =>
      simp only [CF.IsNNF, Bool.and_eq_true, Bool.not_eq_true'] at hc
      obtain ⟨⟨hb, hl⟩, hr⟩ := hc
      subst hb
      simp only [Gen.Stage.to_cnf, CF.toCnfF, ofCF, ConjForm.isCFVar, ConjForm.isCFAnd, ConjForm.isCFOr, ConjForm.left,
        ConjForm.right, Option.pure_def, Option.bind_eq_bind, Option.bind_some, ih l hl, ih r hr, Bool.false_eq_true,
        ↓reduceIte]
      cases hl' : CF.toCnfF k l with
      | none => rfl
      | some l' =>
        cases hr' : CF.toCnfF k r with
        | none => rfl
        | some r' =>
          have cl := (CF.toCnfF_spec k l l' hl hl').2
          have cr := (CF.toCnfF_spec k r r' hr hr').2
          have nl := CF.isNNF_of_isCNF l' cl
          have nr := CF.isNNF_of_isCNF r' cr
          simp only [Option.map_some, Option.bind_some, pfPair, lib_imim_or, algCS_conc, extractImp_imp]
          generalize hL : l' = L at nl ⊢
          cases l' with
          | bot bl => simp [CF.IsCNF] at cl
          | and bl ll lr =>
            subst hL
            simp only [CF.IsNNF, Bool.and_eq_true, Bool.not_eq_true'] at nl
            obtain ⟨⟨hbl, nll⟩, nlr⟩ := nl
            subst hbl
            have hn : (CF.and false (.or false ll r') (.or false lr r')).IsNNF = true := by
              simp [CF.IsNNF, nll, nlr, nr]
            have := ih _ hn
            simp only [ofCF] at this
            simp only [ofCF, cfPat, CFAnd_new, CFOr_new, Bool.false_eq_true, ↓reduceIte, lib_or_distr_r,
              lib_or_distr_r_rev, itm2_or_distr_r, itm1_or_distr_r_rev, Option.bind_some, this]
            cases CF.toCnfF k (.and false (.or false ll r') (.or false lr r')) with
            | none => rfl
            | some q => simp only [Option.map_some, Option.bind_some, pfPair, cfPat, Bool.false_eq_true, ↓reduceIte, lib_imp_transitivity]
          | var bl il | or bl ll lr =>
            cases r' with
            | bot br => simp [CF.IsCNF] at cr
            | and br rl rr =>
              simp only [CF.IsNNF, Bool.and_eq_true, Bool.not_eq_true'] at nr
              obtain ⟨⟨hbr, nrl⟩, nrr⟩ := nr
              subst hbr
              have hn : (CF.and false (.or false L rl) (.or false L rr)).IsNNF = true := by
                simp [CF.IsNNF, nl, nrl, nrr]
              have := ih _ hn
              subst hL
              simp only [ofCF] at this
              simp only [ofCF, cfPat, CFAnd_new, CFOr_new, Bool.false_eq_true, ↓reduceIte, lib_or_distr_l,
                lib_or_distr_l_rev, itm2_or_distr_l, itm1_or_distr_l_rev, Option.bind_some, this]
              cases CF.toCnfF k (.and false (.or false _ rl) (.or false _ rr)) with
              | none => rfl
              | some q => simp only [Option.map_some, Option.bind_some, pfPair, cfPat, Bool.false_eq_true, ↓reduceIte, lib_imp_transitivity]
            | var br ir | or br rl rr =>
              subst hL
              simp only [ofCF, cfPat, CFOr_new, Bool.false_eq_true, ↓reduceIte, Option.map_some]
/-! ## Part E — `to_clauses` on conclusions -/

theorem algCS_inst (c : Pat) (δ : Subst) : algCS.inst c δ = instC c δ := rfl

/-- a binary notation through which matching and instantiation go componentwise (`_and`, `_or`) -/
structure BinOp (op : Pat → Pat → Pat) : Prop where
  hmatch : ∀ a b a' b' ret, matchP (op a b) (op a' b') ret = (matchP a a' ret).bind (matchP b b')
  hinst : ∀ (δ : Nat → Option Pat) a b, Py.inst δ (op a b) = op (Py.inst δ a) (Py.inst δ b)

theorem matchP_botP (ret : Subst) : matchP Lem.botP Lem.botP ret = some ret := by
  simp [Lem.botP, matchP]

theorem binOp_and : BinOp andP where
  hmatch a b a' b' ret := by
    simp only [andP, negP, matchP, matchP_botP]
    cases matchP a a' ret with
    | none => rfl
    | some r1 =>
      simp only [Option.bind_some]
      cases matchP b b' r1 <;> rfl
  hinst _ _ _ := rfl

theorem binOp_or : BinOp orP where
  hmatch a b a' b' ret := by
    simp only [orP, negP, matchP, matchP_botP]
    cases matchP a a' ret <;> rfl
  hinst _ _ _ := rfl

theorem foldrP_cons (op : Pat → Pat → Pat) (a : Pat) (xs : List Pat) (h : xs ≠ []) :
    foldrP op (a :: xs) = op a (foldrP op xs) := by
  cases xs with
  | nil => exact absurd rfl h
  | cons b r => rfl

theorem foldrP_append (op : Pat → Pat → Pat) (P B : List Pat) (hB : B ≠ []) :
    foldrP op (P ++ B) = P.foldr op (foldrP op B) := by
  induction P with
  | nil => rfl
  | cons a P ih =>
    have : P ++ B ≠ [] := by simp [hB]
    rw [List.cons_append, foldrP_cons op a _ this, ih, List.foldr_cons]

theorem matchP_phi (v : Nat) (p : Pat) (ret : Subst) (h : Py.lookup ret v = none) :
    matchP (phi v) p ret = some (ret ++ [(v, p)]) := by
  simp [phi, matchP, h]

theorem lookup_append_none {ret : Subst} {v w : Nat} {p : Pat} (h : Py.lookup ret w = none) (hne : v ≠ w) :
    Py.lookup (ret ++ [(v, p)]) w = none := by
  induction ret with
  | nil => simp [Py.lookup, hne]
  | cons kv r ih =>
    obtain ⟨k, x⟩ := kv
    simp only [List.cons_append, Py.lookup] at h ⊢
    by_cases hk : k = w
    · simp [hk] at h
    · simp only [hk, if_false] at h ⊢
      exact ih h

/-- matching a right-nested `op`-chain of distinct fresh metavariables against a chain of the same length binds them in
order -/
theorem matchP_chain {op : Pat → Pat → Pat} (hop : BinOp op) : ∀ (vs : List Nat) (ps : List Pat) (ret : Subst),
    vs.length = ps.length → vs ≠ [] → vs.Nodup → (∀ v ∈ vs, Py.lookup ret v = none) →
    matchP (foldrP op (vs.map phi)) (foldrP op ps) ret = some (ret ++ vs.zip ps) := by
  intro vs
  induction vs with
  | nil => intro ps ret _ h; exact absurd rfl h
  | cons v vs ih =>
    intro ps ret hlen _ hnd hfr
    cases ps with
    | nil => simp at hlen
    | cons p ps =>
      cases vs with
      | nil =>
        cases ps with
        | nil => simpa [foldrP] using matchP_phi v p ret (hfr v (by simp))
        | cons _ _ => simp at hlen
      | cons v' vs =>
        cases ps with
        | nil => simp at hlen
        | cons p' ps =>
          have hnd' := List.nodup_cons.1 hnd
          simp only [List.map_cons, foldrP]
          rw [hop.hmatch, matchP_phi v p ret (hfr v (by simp))]
          simp only [Option.bind_some]
          have := ih (p' :: ps) (ret ++ [(v, p)]) (by simpa using hlen) (by simp) hnd'.2 (by
            intro w hw
            exact lookup_append_none (hfr w (List.mem_cons_of_mem _ hw)) (fun e => hnd'.1 (e ▸ hw)))
          simp only [List.map_cons, foldrP] at this
          rw [this]
          simp

theorem lookup_zip_notin (vs : List Nat) (ps : List Pat) (rest : Subst) (w : Nat) (h : w ∉ vs) :
    Py.lookup (vs.zip ps ++ rest) w = Py.lookup rest w := by
  induction vs generalizing ps with
  | nil => simp
  | cons v vs ih =>
    cases ps with
    | nil => simp
    | cons p ps =>
      have hv : v ≠ w := fun e => h (e ▸ List.mem_cons_self)
      simp only [List.zip_cons_cons, List.cons_append, Py.lookup, hv, if_false]
      exact ih ps (fun hm => h (List.mem_cons_of_mem _ hm))

/-- the substitution found by matching a chain sends the metavariables to the matched patterns -/
theorem inst_zip (vs : List Nat) : ∀ (ps : List Pat) (rest : Subst), vs.length = ps.length → vs.Nodup →
    (vs.map phi).map (Py.inst (Py.lookup (vs.zip ps ++ rest))) = ps := by
  induction vs with
  | nil => intro ps rest h _; cases ps <;> simp_all
  | cons v vs ih =>
    intro ps rest hlen hnd
    cases ps with
    | nil => simp at hlen
    | cons p ps =>
      have hnd' := List.nodup_cons.1 hnd
      simp only [List.map_cons, List.zip_cons_cons, List.cons_append, List.cons.injEq]
      refine ⟨by simp [phi, Py.inst, Py.lookup], ?_⟩
      have h2 := ih ps rest (by simpa using hlen) hnd'.2
      rw [List.map_map] at h2 ⊢
      refine Eq.trans (List.map_congr_left ?_) h2
      intro w hw
      have hv : v ≠ w := fun e => hnd'.1 (e ▸ hw)
      simp [phi, Py.inst, Py.lookup, hv]

theorem inst_foldr {op : Pat → Pat → Pat} (hop : BinOp op) (δ : Nat → Option Pat) (xs : List Pat) (z : Pat) :
    Py.inst δ (xs.foldr op z) = (xs.map (Py.inst δ)).foldr op (Py.inst δ z) := by
  induction xs with
  | nil => rfl
  | cons a xs ih => simp only [List.foldr_cons, List.map_cons, hop.hinst, ih]

theorem inst_foldrP {op : Pat → Pat → Pat} (hop : BinOp op) (δ : Nat → Option Pat) (xs : List Pat) (h : xs ≠ []) :
    Py.inst δ (foldrP op xs) = foldrP op (xs.map (Py.inst δ)) := by
  induction xs with
  | nil => exact absurd rfl h
  | cons a xs ih =>
    cases xs with
    | nil => rfl
    | cons b r =>
      have := ih (by simp)
      simp only [foldrP, List.map_cons, hop.hinst] at this ⊢
      rw [this]

/-- the metavariables of the shifting schema for `k + 2` operands, outermost first: `φ_{k+2}, …, φ_3, φ_0, φ_1` -/
def shiftVars : Nat → List Nat
  | 0 => [0, 1]
  | k + 1 => (k + 3) :: shiftVars k

theorem shiftVars_length (k : Nat) : (shiftVars k).length = k + 2 := by
  induction k with
  | zero => rfl
  | succ k ih => simp [shiftVars, ih]

theorem shiftVars_mem (k : Nat) : ∀ v ∈ shiftVars k, v = 0 ∨ v = 1 ∨ (3 ≤ v ∧ v ≤ k + 2) := by
  induction k with
  | zero => intro v hv; simp [shiftVars] at hv; omega
  | succ k ih =>
    intro v hv
    simp only [shiftVars, List.mem_cons] at hv
    rcases hv with rfl | hv
    · omega
    · have := ih v hv; omega

theorem shiftVars_nodup (k : Nat) : (shiftVars k).Nodup := by
  induction k with
  | zero => simp [shiftVars]
  | succ k ih =>
    simp only [shiftVars, List.nodup_cons]
    refine ⟨fun h => ?_, ih⟩
    have := shiftVars_mem k _ h
    omega

theorem shiftVars_ne_nil (k : Nat) : shiftVars k ≠ [] := by
  cases k <;> simp [shiftVars]

theorem two_notin_shiftVars (k : Nat) : 2 ∉ shiftVars k := by
  intro h
  have := shiftVars_mem k 2 h
  omega

/-- the left operand of the antecedent of the shifting schema: `φ_{k+2} . (… . (φ_3 . (φ_0 . φ_1)))` -/
def shiftL (op : Pat → Pat → Pat) (k : Nat) : Pat := foldrP op ((shiftVars k).map phi)
/-- its consequent: `φ_{k+2} . (… . (φ_3 . (φ_0 . (φ_1 . φ_2))))` -/
def shiftB (op : Pat → Pat → Pat) (k : Nat) : Pat := ((shiftVars k).map phi).foldr op (phi 2)

theorem shiftL_succ (op : Pat → Pat → Pat) (k : Nat) : shiftL op (k + 1) = op (phi (k + 3)) (shiftL op k) := by
  unfold shiftL
  simp only [shiftVars, List.map_cons]
  exact foldrP_cons op _ _ (by simp [shiftVars_ne_nil])

theorem shiftB_succ (op : Pat → Pat → Pat) (k : Nat) : shiftB op (k + 1) = op (phi (k + 3)) (shiftB op k) := rfl

/-- the substitution that matching `shiftL k . φ_2` against `(p_1 . (… . p_l)) . R` finds -/
def shiftSubst (k : Nat) (P : List Pat) (R : Pat) : Subst := (shiftVars k).zip P ++ [(2, R)]

theorem match_shift {op : Pat → Pat → Pat} (hop : BinOp op) (k : Nat) (P : List Pat) (R : Pat) (hP : P.length = k + 2) :
    matchSingle (op (shiftL op k) (phi 2)) (op (foldrP op P) R) [] = some (shiftSubst k P R) := by
  unfold matchSingle shiftL
  rw [hop.hmatch, matchP_chain hop (shiftVars k) P [] (by rw [shiftVars_length, hP]) (shiftVars_ne_nil k)
    (shiftVars_nodup k) (by intro v _; rfl)]
  simp only [Option.bind_some, List.nil_append]
  rw [matchP_phi 2 R _ (by
    have := lookup_zip_notin (shiftVars k) P [] 2 (two_notin_shiftVars k)
    simpa [Py.lookup] using this)]
  rfl

theorem inst_shiftL {op : Pat → Pat → Pat} (hop : BinOp op) (k : Nat) (P : List Pat) (R : Pat) (hP : P.length = k + 2) :
    Py.inst (Py.lookup (shiftSubst k P R)) (shiftL op k) = foldrP op P := by
  unfold shiftL shiftSubst
  rw [inst_foldrP hop _ _ (by simp [shiftVars_ne_nil]),
    inst_zip (shiftVars k) P _ (by rw [shiftVars_length, hP]) (shiftVars_nodup k)]

theorem inst_shiftB {op : Pat → Pat → Pat} (hop : BinOp op) (k : Nat) (P : List Pat) (R : Pat) (hP : P.length = k + 2) :
    Py.inst (Py.lookup (shiftSubst k P R)) (shiftB op k) = P.foldr op R := by
  unfold shiftB shiftSubst
  rw [inst_foldr hop, inst_zip (shiftVars k) P _ (by rw [shiftVars_length, hP]) (shiftVars_nodup k)]
  congr 1
  have := lookup_zip_notin (shiftVars k) P [(2, R)] 2 (two_notin_shiftVars k)
  simp [phi, Py.inst, this, Py.lookup]

theorem inst_phi2 (k : Nat) (P : List Pat) (R : Pat) : Py.inst (Py.lookup (shiftSubst k P R)) (phi 2) = R := by
  have := lookup_zip_notin (shiftVars k) P [(2, R)] 2 (two_notin_shiftVars k)
  simp [shiftSubst, phi, Py.inst, this, Py.lookup]

theorem shiftSubst_ne_nil (k : Nat) (P : List Pat) (R : Pat) : (shiftSubst k P R).isEmpty = false := by
  simp [shiftSubst]

theorem inst_shift {op : Pat → Pat → Pat} (hop : BinOp op) (k : Nat) (P : List Pat) (R : Pat) (hP : P.length = k + 2) :
    algCS.inst (op (shiftL op k) (phi 2)) (shiftSubst k P R) = op (foldrP op P) R ∧
      algCS.inst (shiftB op k) (shiftSubst k P R) = P.foldr op R := by
  simp only [algCS_inst, instC, shiftSubst_ne_nil, Bool.false_eq_true, if_false, instP, hop.hinst,
    inst_shiftL hop k P R hP, inst_shiftB hop k P R hP, inst_phi2, and_self]

/-- `imp_trans_match2(ret_pf1, shift_right)` after the loop -/
theorem itm2_shift {op : Pat → Pat → Pat} (hop : BinOp op) (k : Nat) (X R : Pat) (P : List Pat) (hP : P.length = k + 2) :
    Gen.Stage.imp_trans_match2 algCS (.imp X (op (foldrP op P) R)) (.imp (op (shiftL op k) (phi 2)) (shiftB op k)) =
      some (.imp X (P.foldr op R)) :=
  itm2_of (match_shift hop k P R hP) (inst_shift hop k P R hP).1 (inst_shift hop k P R hP).2

/-- `imp_trans_match1(shift_left, ret_pf2)` after the loop -/
theorem itm1_shift {op : Pat → Pat → Pat} (hop : BinOp op) (k : Nat) (Y R : Pat) (P : List Pat) (hP : P.length = k + 2) :
    Gen.Stage.imp_trans_match1 algCS (.imp (shiftB op k) (op (shiftL op k) (phi 2))) (.imp (op (foldrP op P) R) Y) =
      some (.imp (P.foldr op R) Y) :=
  itm1_of (match_shift hop k P R hP) (inst_shift hop k P R hP).1 (inst_shift hop k P R hP).2

theorem match_assoc {op : Pat → Pat → Pat} (hop : BinOp op) (v L : Pat) :
    matchSingle (op (phi 0) (op (phi 1) (phi 2))) (op v (op L (phi 2))) [] = some [(0, v), (1, L), (2, phi 2)] := by
  unfold matchSingle
  rw [hop.hmatch, matchP_phi 0 v [] rfl]
  simp only [Option.bind_some]
  rw [hop.hmatch, matchP_phi 1 L _ rfl]
  simp only [Option.bind_some]
  rw [matchP_phi 2 _ _ rfl]
  rfl

theorem inst_assoc {op : Pat → Pat → Pat} (hop : BinOp op) (v L : Pat) :
    algCS.inst (op (op (phi 0) (phi 1)) (phi 2)) [(0, v), (1, L), (2, phi 2)] = op (op v L) (phi 2) ∧
      algCS.inst (op (phi 0) (op (phi 1) (phi 2))) [(0, v), (1, L), (2, phi 2)] = op v (op L (phi 2)) := by
  simp [algCS_inst, instC, instP, Py.inst, hop.hinst, phi, Py.lookup]

/-- one iteration of the loops of `to_clauses`, `shift_right`: `imp_trans_match1(assoc_r(), imim_op_r(φ, shift_right))` -/
theorem itm1_assoc_step {op : Pat → Pat → Pat} (hop : BinOp op) (v L B : Pat) :
    Gen.Stage.imp_trans_match1 algCS (.imp (op (op (phi 0) (phi 1)) (phi 2)) (op (phi 0) (op (phi 1) (phi 2))))
      (.imp (op v (op L (phi 2))) (op v B)) = some (.imp (op (op v L) (phi 2)) (op v B)) :=
  itm1_of (match_assoc hop v L) (inst_assoc hop v L).2 (inst_assoc hop v L).1

/-- …`shift_left`: `imp_trans_match2(imim_op_r(φ, shift_left), assoc_l())` -/
theorem itm2_assoc_step {op : Pat → Pat → Pat} (hop : BinOp op) (v L B : Pat) :
    Gen.Stage.imp_trans_match2 algCS (.imp (op v B) (op v (op L (phi 2))))
      (.imp (op (phi 0) (op (phi 1) (phi 2))) (op (op (phi 0) (phi 1)) (phi 2))) =
      some (.imp (op v B) (op (op v L) (phi 2))) :=
  itm2_of (match_assoc hop v L) (inst_assoc hop v L).2 (inst_assoc hop v L).1

/-- the pair (`shift_right`, `shift_left`) for `k + 2` operands -/
def shiftPair (op : Pat → Pat → Pat) (k : Nat) : Pat × Pat :=
  (.imp (op (shiftL op k) (phi 2)) (shiftB op k), .imp (shiftB op k) (op (shiftL op k) (phi 2)))

theorem mvP_add3 (k : Nat) : mvP (((k : Nat) : Int) + 3) = phi (k + 3) := by
  unfold mvP
  congr 1

theorem range_shift (m k : Nat) : (List.range (m + 1)).map (fun j => ((k + j : Nat) : Int)) =
    ((k : Nat) : Int) :: (List.range m).map (fun j => ((k + 1 + j : Nat) : Int)) := by
  rw [List.range_succ_eq_map, List.map_cons, List.map_map]
  simp only [Nat.add_zero, List.cons.injEq, true_and]
  apply List.map_congr_left
  intro j _
  simp only [Function.comp]
  congr 1
  omega

/-- the loop at line 589 (`and`): `m` more iterations from the state for `k + 2` operands -/
theorem to_clauses_for1_C : ∀ (m k : Nat),
    Gen.Stage.to_clauses_for1 algCS ((List.range m).map fun j => ((k + j : Nat) : Int))
      (shiftPair andP k).1 (shiftPair andP k).2 = some (shiftPair andP (k + m)) := by
  intro m
  induction m with
  | zero => intro k; rfl
  | succ m ih =>
    intro k
    rw [range_shift]
    simp only [Gen.Stage.to_clauses_for1, shiftPair, lib_and_assoc_r, lib_and_assoc_l, lib_imim_and_r, mvP_add3,
      Option.bind_eq_bind, Option.bind_some, itm1_assoc_step binOp_and, itm2_assoc_step binOp_and]
    have := ih (k + 1)
    simp only [shiftPair, shiftL_succ, shiftB_succ] at this
    rw [this]
    have e : k + 1 + m = k + (m + 1) := by omega
    rw [e]

/-- the loop at line 609 (`or`) -/
theorem to_clauses_for2_C : ∀ (m k : Nat),
    Gen.Stage.to_clauses_for2 algCS ((List.range m).map fun j => ((k + j : Nat) : Int))
      (shiftPair orP k).1 (shiftPair orP k).2 = some (shiftPair orP (k + m)) := by
  intro m
  induction m with
  | zero => intro k; rfl
  | succ m ih =>
    intro k
    rw [range_shift]
    simp only [Gen.Stage.to_clauses_for2, shiftPair, lib_or_assoc_r, lib_or_assoc_l, lib_imim_or_r, mvP_add3,
      Option.bind_eq_bind, Option.bind_some, itm1_assoc_step binOp_or, itm2_assoc_step binOp_or]
    have := ih (k + 1)
    simp only [shiftPair, shiftL_succ, shiftB_succ] at this
    rw [this]
    have e : k + 1 + m = k + (m + 1) := by omega
    rw [e]

theorem shiftPair_zero_and : shiftPair andP 0 = (.imp (andP (andP (phi 0) (phi 1)) (phi 2)) (andP (phi 0) (andP (phi 1) (phi 2))),
    .imp (andP (phi 0) (andP (phi 1) (phi 2))) (andP (andP (phi 0) (phi 1)) (phi 2))) := rfl
theorem shiftPair_zero_or : shiftPair orP 0 = (.imp (orP (orP (phi 0) (phi 1)) (phi 2)) (orP (phi 0) (orP (phi 1) (phi 2))),
    .imp (orP (phi 0) (orP (phi 1) (phi 2))) (orP (orP (phi 0) (phi 1)) (phi 2))) := rfl

theorem pyRange2_shift (n : Nat) : pyRange2 (0 : Int) (((n + 2 : Nat) : Int) - 2) =
    (List.range n).map fun j => ((0 + j : Nat) : Int) := by
  unfold pyRange2
  have : (((n + 2 : Nat) : Int) - 2 - 0).toNat = n := by omega
  rw [this]
  apply List.map_congr_left
  intro j _
  omega

theorem clausesPat_eq (cs : List (List Int)) (h : cs ≠ []) : clausesPat cs = foldrP andP (cs.map clausePat) := by
  cases cs with
  | nil => exact absurd rfl h
  | cons _ _ => rfl

theorem clausePat_eq (c : List Int) (h : c ≠ []) : clausePat c = foldrP orP (c.map idPat) := by
  cases c with
  | nil => exact absurd rfl h
  | cons _ _ => rfl

/-- what `to_clauses` returns: the clause list, a proof of `conj_to_pattern(in) -> clause_conjunctionto_pattern(out)` and of
the converse -/
def clSpec (c : ConjForm) (cls : List (List Int)) : List (List Int) × Pat × Pat :=
  (cls, .imp (cfPat c) (clausesPat cls), .imp (clausesPat cls) (cfPat c))

theorem pyLen_cons2 {α} (a1 a2 : α) (r : List α) : pyLen (a1 :: a2 :: r) = ((r.length + 2 : Nat) : Int) := by
  simp [pyLen]; omega

/-- the loop of the `CFAnd` branch, from `and_assoc_r()` / `and_assoc_l()`, on a clause list with at least two clauses -/
theorem gt0_len (n : Nat) : decide (((n + 2 : Nat) : Int) > 0) = true := by simp; omega
theorem gt1_len (n : Nat) : decide (((n + 2 : Nat) : Int) > 1) = true := by simp; omega

theorem for1_run (n : Nat) :
    Gen.Stage.to_clauses_for1 algCS (pyRange2 (0 : Int) (((n + 2 : Nat) : Int) - (2 : Int)))
      (.imp (andP (andP (phi 0) (phi 1)) (phi 2)) (andP (phi 0) (andP (phi 1) (phi 2))))
      (.imp (andP (phi 0) (andP (phi 1) (phi 2))) (andP (andP (phi 0) (phi 1)) (phi 2))) =
    some (shiftPair andP n) := by
  rw [pyRange2_shift]
  have := to_clauses_for1_C n 0
  simp only [shiftPair_zero_and] at this
  rw [show 0 + n = n from Nat.zero_add _] at this
  exact this

theorem for2_run (n : Nat) :
    Gen.Stage.to_clauses_for2 algCS (pyRange2 (0 : Int) (((n + 2 : Nat) : Int) - (2 : Int)))
      (.imp (orP (orP (phi 0) (phi 1)) (phi 2)) (orP (phi 0) (orP (phi 1) (phi 2))))
      (.imp (orP (phi 0) (orP (phi 1) (phi 2))) (orP (orP (phi 0) (phi 1)) (phi 2))) =
    some (shiftPair orP n) := by
  rw [pyRange2_shift]
  have := to_clauses_for2_C n 0
  simp only [shiftPair_zero_or] at this
  rw [show 0 + n = n from Nat.zero_add _] at this
  exact this

theorem clausePat_single (i : Int) : clausePat [i] = idPat i := rfl
theorem clausesPat_single (a1 : List Int) : clausesPat [a1] = clausePat a1 := rfl

theorem clausesPat_cons (a1 : List Int) (b : List (List Int)) (hb : b ≠ []) :
    clausesPat (a1 :: b) = andP (clausePat a1) (clausesPat b) := by
  cases b with
  | nil => exact absurd rfl hb
  | cons _ _ => rfl

theorem clausePat_cons (x1 : Int) (y : List Int) (hy : y ≠ []) : clausePat (x1 :: y) = orP (idPat x1) (clausePat y) := by
  cases y with
  | nil => exact absurd rfl hy
  | cons _ _ => rfl

theorem clausesPat_shift (a1 a2 : List Int) (r b : List (List Int)) (hb : b ≠ []) :
    ((a1 :: a2 :: r).map clausePat).foldr andP (clausesPat b) = clausesPat (a1 :: a2 :: r ++ b) := by
  rw [clausesPat_eq b hb, clausesPat_eq (a1 :: a2 :: r ++ b) (by simp), List.map_append,
    foldrP_append andP _ _ (by simp [hb])]

theorem clausePat_shift (x1 x2 : Int) (r y : List Int) (hy : y ≠ []) :
    ((x1 :: x2 :: r).map idPat).foldr orP (clausePat y) = clausePat (x1 :: x2 :: r ++ y) := by
  rw [clausePat_eq y hy, clausePat_eq (x1 :: x2 :: r ++ y) (by simp), List.map_append,
    foldrP_append orP _ _ (by simp [hy])]

theorem itm2_and_clauses (X : Pat) (a1 a2 : List Int) (r b : List (List Int)) (hb : b ≠ []) :
    Gen.Stage.imp_trans_match2 algCS (.imp X (andP (clausesPat (a1 :: a2 :: r)) (clausesPat b))) (shiftPair andP r.length).1 =
      some (.imp X (clausesPat (a1 :: a2 :: r ++ b))) := by
  rw [← clausesPat_shift a1 a2 r b hb, clausesPat_eq (a1 :: a2 :: r) (by simp)]
  exact itm2_shift binOp_and r.length X _ _ (by simp)

theorem itm1_and_clauses (X : Pat) (a1 a2 : List Int) (r b : List (List Int)) (hb : b ≠ []) :
    Gen.Stage.imp_trans_match1 algCS (shiftPair andP r.length).2 (.imp (andP (clausesPat (a1 :: a2 :: r)) (clausesPat b)) X) =
      some (.imp (clausesPat (a1 :: a2 :: r ++ b)) X) := by
  rw [← clausesPat_shift a1 a2 r b hb, clausesPat_eq (a1 :: a2 :: r) (by simp)]
  exact itm1_shift binOp_and r.length X _ _ (by simp)

theorem itm2_or_clause (X : Pat) (x1 x2 : Int) (r y : List Int) (hy : y ≠ []) :
    Gen.Stage.imp_trans_match2 algCS (.imp X (orP (clausePat (x1 :: x2 :: r)) (clausePat y))) (shiftPair orP r.length).1 =
      some (.imp X (clausePat (x1 :: x2 :: r ++ y))) := by
  rw [← clausePat_shift x1 x2 r y hy, clausePat_eq (x1 :: x2 :: r) (by simp)]
  exact itm2_shift binOp_or r.length X _ _ (by simp)

theorem itm1_or_clause (X : Pat) (x1 x2 : Int) (r y : List Int) (hy : y ≠ []) :
    Gen.Stage.imp_trans_match1 algCS (shiftPair orP r.length).2 (.imp (orP (clausePat (x1 :: x2 :: r)) (clausePat y)) X) =
      some (.imp (clausePat (x1 :: x2 :: r ++ y)) X) := by
  rw [← clausePat_shift x1 x2 r y hy, clausePat_eq (x1 :: x2 :: r) (by simp)]
  exact itm1_shift binOp_or r.length X _ _ (by simp)

theorem idPat_pos (i : Nat) : idPat ((i : Int) + 1) = phi i := by
  unfold idPat
  have h : ¬ ((i : Int) + 1 < 0) := by omega
  rw [if_neg h]
  have e : ((i : Int) + 1 - 1).toNat = i := by omega
  rw [e]

theorem idPat_neg (i : Nat) : idPat (-((i : Int) + 1)) = negP (phi i) := by
  unfold idPat
  have h : (-((i : Int) + 1) < 0) := by omega
  rw [if_pos h]
  have e : (-(-((i : Int) + 1) + 1)).toNat = i := by omega
  rw [e]

theorem mvP_nat (i : Nat) : mvP (i : Int) = phi i := rfl

theorem pyLen_single {α} (a : α) : (pyLen [a] == (1 : Int)) = true := rfl

/-- `to_clauses` as written, on a conjunctive normal form: it raises exactly when the model's `CF.toClauses` does (never, by
`CF.toClauses_spec`), and otherwise returns the model's clause list with a proof of
`conj_to_pattern(in) -> clause_conjunctionto_pattern(out)` and a proof of the converse -/
theorem to_clauses_C (c : CF) : ∀ n, depth c ≤ n → c.IsCNF = true →
    Gen.Stage.to_clauses algCS n (ofCF c) = (CF.toClauses c).map (clSpec (ofCF c)) := by
  induction c with
  | bot b => intro n _ h; simp [CF.IsCNF] at h
  | var b i =>
    intro n hn _
    cases n with
    | zero => simp [depth] at hn
    | succ k =>
      cases b <;>
        simp [Gen.Stage.to_clauses, ofCF, ConjForm.isCFVar, ConjForm.negated, ConjForm.id, CF.toClauses, lib_imp_refl,
          clSpec, cfPat, clausesPat_single, clausePat, foldrP, idPat_pos, idPat_neg, mvP_nat]
  | and b l r ihl ihr =>
    intro n hn hc
    cases n with
    | zero => simp [depth] at hn
    | succ k =>
      have hl : depth l ≤ k := by simp [depth] at hn; omega
      have hr : depth r ≤ k := by simp [depth] at hn; omega
      simp only [CF.IsCNF, Bool.and_eq_true, Bool.not_eq_true'] at hc
      obtain ⟨⟨hb, cl⟩, cr⟩ := hc
      subst hb
      simp only [Gen.Stage.to_clauses, CF.toClauses, ofCF, ConjForm.isCFVar, ConjForm.isCFAnd, ConjForm.left,
        ConjForm.right, Option.pure_def, Option.bind_eq_bind, Option.bind_some, ihl k hl cl, ihr k hr cr,
        Bool.false_eq_true, if_false, if_true]
      cases hx : CF.toClauses l with
      | none => simp
      | some x =>
        cases hy : CF.toClauses r with
        | none => simp
        | some y =>
          have hxn := (toClauses_nonempty l x hx).1
          have hyn := (toClauses_nonempty r y hy).1
          match x, hxn with
          | [a1], _ =>
            simp [clSpec, cfPat, lib_imim_and, pyAssert, pyLen, clausesPat_single, clausesPat_cons a1 y hyn]
          | a1 :: a2 :: rest, _ =>
            simp only [Option.map_some, Option.bind_some, clSpec, cfPat, lib_imim_and, pyAssert,
              lib_and_assoc_r, lib_and_assoc_l, for1_run, itm2_and_clauses _ a1 a2 rest y hyn,
              itm1_and_clauses _ a1 a2 rest y hyn, pyLen_cons2, gt0_len, gt1_len, Bool.false_eq_true, if_false, if_true]
  | or b l r ihl ihr =>
    intro n hn hc
    cases n with
    | zero => simp [depth] at hn
    | succ k =>
      have hl : depth l ≤ k := by simp [depth] at hn; omega
      have hr : depth r ≤ k := by simp [depth] at hn; omega
      simp only [CF.IsCNF, Bool.and_eq_true, Bool.not_eq_true'] at hc
      obtain ⟨⟨hb, cl⟩, cr⟩ := hc
      subst hb
      obtain ⟨x, hx, _, hxn, _⟩ := CF.toClauses_orClause l cl
      obtain ⟨y, hy, _, hyn, _⟩ := CF.toClauses_orClause r cr
      simp only [Gen.Stage.to_clauses, CF.toClauses, ofCF, ConjForm.isCFVar, ConjForm.isCFAnd, ConjForm.isCFOr,
        ConjForm.left, ConjForm.right, Option.pure_def, Option.bind_eq_bind, Option.bind_some,
        ihl k hl (CF.isCNF_of_isOrClause l cl), ihr k hr (CF.isCNF_of_isOrClause r cr), hx, hy, Bool.false_eq_true,
        if_false, if_true, Option.map_some, clSpec, cfPat, lib_imim_or, pyIndex_cons_zero, clausesPat_single, pyAssert,
        pyLen_single]
      match x, hxn with
      | [i1], _ => simp [pyLen, clausePat_cons i1 y hyn, clausePat_single]
      | i1 :: i2 :: rest, _ =>
        simp only [pyLen_cons2, gt0_len, gt1_len, lib_or_assoc_r, lib_or_assoc_l, for2_run,
          itm2_or_clause _ i1 i2 rest y hyn, itm1_or_clause _ i1 i2 rest y hyn, Option.bind_some, if_true]

/-! ## Part F — from conclusions to proof trees: the homomorphism `GTh.conc : algGS → algCS` -/

/-- the conclusion-projection of the values the generated functions handle: a proof tree ↦ its conclusion, data ↦ itself -/
class Proj (α : Type) (β : outParam Type) where
  proj : α → β

instance : Proj GTh Pat := ⟨GTh.conc⟩
instance {α β γ δ} [Proj α β] [Proj γ δ] : Proj (α × γ) (β × δ) := ⟨fun p => (Proj.proj p.1, Proj.proj p.2)⟩
instance {α β} [Proj α β] : Proj (Option α) (Option β) := ⟨Option.map Proj.proj⟩
instance : Proj ConjForm ConjForm := ⟨id⟩
instance : Proj (List (List Int)) (List (List Int)) := ⟨id⟩
instance : Proj Bool Bool := ⟨id⟩

theorem hb {α β γ δ} [Proj α β] [Proj γ δ] {x : Option α} {y : Option β} {f : α → Option γ} {g : β → Option δ}
    (hx : x.map Proj.proj = y) (hf : ∀ a, (f a).map Proj.proj = g (Proj.proj a)) :
    (x.bind f).map Proj.proj = y.bind g := by
  subst hx
  cases x with
  | none => rfl
  | some a => exact hf a

theorem hb_same {α γ δ} [Proj γ δ] {x : Option α} {f : α → Option γ} {g : α → Option δ}
    (hf : ∀ a, (f a).map Proj.proj = g a) : (x.bind f).map Proj.proj = x.bind g := by
  cases x with
  | none => rfl
  | some a => exact hf a

theorem lib_hom (i : Nat) (ps : List Pat) (ts : List GTh) :
    (lib algGS i ps ts).map Proj.proj = lib algCS i ps (ts.map GTh.conc) := by
  unfold lib
  have e1 : algGS.toAlg = Lem.algG := rfl
  have e2 : algCS.toAlg = Lem.algC := rfl
  rw [e1, e2]
  rcases (Lem.sem_homFs Gen.lemmaDefs).get i with ⟨h1, h2⟩ | ⟨f, g, h1, h2, hfg⟩
  · rw [h1, h2]; rfl
  · rw [h1, h2]; exact hfg ps ts

theorem mp_hom (l r : GTh) : (algGS.mp l r).map Proj.proj = algCS.mp l.conc r.conc := Lem.algG_mp l r

theorem hb_lib {γ δ} [Proj γ δ] {i : Nat} {ps : List Pat} {ts : List GTh} {f : GTh → Option γ} {g : Pat → Option δ}
    (hf : ∀ t, (f t).map Proj.proj = g t.conc) :
    ((lib algGS i ps ts).bind f).map Proj.proj = (lib algCS i ps (ts.map GTh.conc)).bind g :=
  hb (lib_hom i ps ts) hf

theorem hb_mp {γ δ} [Proj γ δ] {l r : GTh} {f : GTh → Option γ} {g : Pat → Option δ}
    (hf : ∀ t, (f t).map Proj.proj = g t.conc) :
    ((algGS.mp l r).bind f).map Proj.proj = (algCS.mp l.conc r.conc).bind g :=
  hb (mp_hom l r) hf

theorem inst_hom (t : GTh) (δ : Subst) : (algGS.inst t δ).conc = algCS.inst t.conc δ := instG_conc t δ

theorem hret {α β} [Proj α β] {a : α} {b : β} (h : Proj.proj a = b) : (some a).map Proj.proj = some b := by
  subst h; rfl
theorem hnone {α β} [Proj α β] : (none : Option α).map (Proj.proj : α → β) = none := rfl

theorem hite {α β} [Proj α β] {c : Prop} [Decidable c] {a b : Option α} {a' b' : Option β}
    (h1 : a.map Proj.proj = a') (h2 : b.map Proj.proj = b') :
    (if c then a else b).map Proj.proj = if c then a' else b' := by
  by_cases h : c
  · rw [if_pos h, if_pos h]; exact h1
  · rw [if_neg h, if_neg h]; exact h2

/-- binding an optional value that carries thunks (`actual_pf ← pf`) -/
theorem hb_map {α β γ δ} [Proj α β] [Proj γ δ] {x : Option α} {f : α → Option γ} {g : β → Option δ}
    (hf : ∀ a, (f a).map Proj.proj = g (Proj.proj a)) :
    (x.bind f).map Proj.proj = (Proj.proj x : Option β).bind g :=
  hb rfl hf

/-- `assert o is not None`, `o` an optional thunk -/
theorem hb_isSome {α β γ δ} [Proj α β] [Proj γ δ] {o : Option α} {f : Unit → Option γ} {g : Unit → Option δ}
    (hf : ∀ u, (f u).map Proj.proj = g u) :
    ((pyAssert o.isSome).bind f).map Proj.proj = (pyAssert (Proj.proj o : Option β).isSome).bind g := by
  cases o <;> exact hb_same hf

/-- `if o is None`, `o` an optional result with a thunk -/
theorem hite_isNone {α β γ δ} [Proj α β] [Proj γ δ] {o : Option α} {a b : Option γ} {a' b' : Option δ}
    (h1 : a.map Proj.proj = a') (h2 : b.map Proj.proj = b') :
    (if o.isNone then a else b).map Proj.proj = if (Proj.proj o : Option β).isNone then a' else b' := by
  cases o <;> assumption

-- in Part F a failing `apply` must not unfold `lib` or a bind to compare what is bound
attribute [local irreducible] StageSup.lib Option.bind pyAssert

/-- one step of a homomorphism proof: peel the next bind / conditional off both sides -/
macro "hstep" : tactic => `(tactic| first
  | (apply hb_lib; intro t)
  | (apply hb_same; intro a)
  | apply hite
  | exact hret rfl
  | exact hnone
  | exact lib_hom _ _ _
  | (apply hb_map; intro t)
  | (apply hb_isSome; intro a)
  | apply hite_isNone
  | (apply hb_mp; intro t)
  | exact mp_hom _ _)

theorem imp_trans_match1_hom (h1 h2 : GTh) :
    (Gen.Stage.imp_trans_match1 algGS h1 h2).map Proj.proj = Gen.Stage.imp_trans_match1 algCS h1.conc h2.conc := by
  simp only [Gen.Stage.imp_trans_match1, Option.pure_def, Option.bind_eq_bind, ← inst_hom]
  repeat hstep

theorem imp_trans_match2_hom (h1 h2 : GTh) :
    (Gen.Stage.imp_trans_match2 algGS h1 h2).map Proj.proj = Gen.Stage.imp_trans_match2 algCS h1.conc h2.conc := by
  simp only [Gen.Stage.imp_trans_match2, Option.pure_def, Option.bind_eq_bind, ← inst_hom]
  repeat hstep

-- from here on a call of `imp_trans_match1/2` is a step of its own (and a failing `apply` must not unfold it)
attribute [local irreducible] Gen.Stage.imp_trans_match1 Gen.Stage.imp_trans_match2

/-- the whole homomorphism proof of one generated function (after unfolding it on both sides); `ih` = the induction
hypothesis for its recursive calls -/
macro "hom_auto" ih:term : tactic => `(tactic| repeat' (first
  | hstep
  | (apply hb ($ih _); intro a; try simp only [Proj.proj, id, Option.isSome_map, ← inst_hom])
  | (apply hb (imp_trans_match1_hom _ _); intro t; try simp only [← inst_hom])
  | (apply hb (imp_trans_match2_hom _ _); intro t; try simp only [← inst_hom])
  | (apply hb <;> first | (intro a; try simp only [Proj.proj, id, Option.isSome_map, ← inst_hom]) | skip)))

theorem to_conj_form_hom : ∀ (n : Nat) (f : Form),
    (Gen.Stage.to_conj_form algGS n f).map Proj.proj = Gen.Stage.to_conj_form algCS n f := by
  intro n
  induction n with
  | zero => intro f; rfl
  | succ n ih =>
    intro f
    rw [Gen.Stage.to_conj_form, Gen.Stage.to_conj_form]
    hom_auto ih

theorem propag_neg_hom : ∀ (n : Nat) (c : ConjForm),
    (Gen.Stage.propag_neg algGS n c).map Proj.proj = Gen.Stage.propag_neg algCS n c := by
  intro n
  induction n with
  | zero => intro f; rfl
  | succ n ih =>
    intro f
    rw [Gen.Stage.propag_neg, Gen.Stage.propag_neg]
    hom_auto ih

theorem to_cnf_hom : ∀ (n : Nat) (c : ConjForm),
    (Gen.Stage.to_cnf algGS n c).map Proj.proj = Gen.Stage.to_cnf algCS n c := by
  intro n
  induction n with
  | zero => intro f; rfl
  | succ n ih =>
    intro f
    rw [Gen.Stage.to_cnf, Gen.Stage.to_cnf]
    hom_auto ih

theorem to_clauses_for1_hom : ∀ (l : List Int) (a b : GTh),
    (Gen.Stage.to_clauses_for1 algGS l a b).map Proj.proj = Gen.Stage.to_clauses_for1 algCS l a.conc b.conc := by
  intro l
  induction l with
  | nil => intro a b; rfl
  | cons i l ih =>
    intro a b
    rw [Gen.Stage.to_clauses_for1, Gen.Stage.to_clauses_for1]
    hom_auto ih
    exact ih _ _

theorem to_clauses_for2_hom : ∀ (l : List Int) (a b : GTh),
    (Gen.Stage.to_clauses_for2 algGS l a b).map Proj.proj = Gen.Stage.to_clauses_for2 algCS l a.conc b.conc := by
  intro l
  induction l with
  | nil => intro a b; rfl
  | cons i l ih =>
    intro a b
    rw [Gen.Stage.to_clauses_for2, Gen.Stage.to_clauses_for2]
    hom_auto ih
    exact ih _ _

attribute [local irreducible] Gen.Stage.to_clauses_for1 Gen.Stage.to_clauses_for2

macro "hom_auto2" ih:term : tactic => `(tactic| repeat' (first
  | hstep
  | (apply hb ($ih _); intro a; try simp only [Proj.proj, id, Option.isSome_map, ← inst_hom])
  | (apply hb (imp_trans_match1_hom _ _); intro t; try simp only [← inst_hom])
  | (apply hb (imp_trans_match2_hom _ _); intro t; try simp only [← inst_hom])
  | (apply hb (to_clauses_for1_hom _ _ _); intro t; try simp only [Proj.proj, ← inst_hom])
  | (apply hb (to_clauses_for2_hom _ _ _); intro t; try simp only [Proj.proj, ← inst_hom])
  | (apply hb <;> first | (intro a; try simp only [Proj.proj, id, Option.isSome_map, ← inst_hom]) | skip)))

theorem to_clauses_hom : ∀ (n : Nat) (c : ConjForm),
    (Gen.Stage.to_clauses algGS n c).map Proj.proj = Gen.Stage.to_clauses algCS n c := by
  intro n
  induction n with
  | zero => intro f; rfl
  | succ n ih =>
    intro f
    rw [Gen.Stage.to_clauses, Gen.Stage.to_clauses]
    hom_auto2 ih

instance {α β} [Proj α β] : Proj (List α) (List β) := ⟨List.map Proj.proj⟩
instance : Proj (List Int) (List Int) := ⟨id⟩

theorem pyIndex_map {α β} (f : α → β) (xs : List α) (i : Int) : (pyIndex xs i).map f = pyIndex (xs.map f) i := by
  unfold pyIndex
  simp only [List.length_map]
  split
  · simp
  · split <;> simp

theorem pySliceTo_map {α β} (f : α → β) (xs : List α) (i : Int) : (pySliceTo xs i).map f = pySliceTo (xs.map f) i := by
  unfold pySliceTo
  simp only [List.length_map]
  split <;> simp [List.map_take]

section SraHom
variable (pG : Nat → List Int → Option GTh) (pC : Nat → List Int → Option Pat)
  (bG : Nat → Hint → FrozenSet → List (List Int) → Option (List Int × GTh))
  (bC : Nat → Hint → FrozenSet → List (List Int) → Option (List Int × Pat))

theorem sra_for1_eq : ∀ (l : List (Int × FrozenSet)) (hint : Hint),
    Gen.Stage.start_resolution_algorithm_for1 algGS pG bG l hint =
      Gen.Stage.start_resolution_algorithm_for1 algCS pC bC l hint := by
  intro l
  induction l with
  | nil => intro hint; rfl
  | cons x l ih =>
    intro hint
    obtain ⟨i, c⟩ := x
    simp only [Gen.Stage.start_resolution_algorithm_for1, ih]

theorem sra_for2_hom : ∀ (l : List GTh) (prf : GTh),
    (Gen.Stage.start_resolution_algorithm_for2 algGS pG bG l prf).map Proj.proj =
      Gen.Stage.start_resolution_algorithm_for2 algCS pC bC (l.map GTh.conc) prf.conc := by
  intro l
  induction l with
  | nil => intro prf; rfl
  | cons x l ih =>
    intro prf
    simp only [Gen.Stage.start_resolution_algorithm_for2, List.map_cons, Option.pure_def, Option.bind_eq_bind]
    apply hb_lib; intro t
    exact ih t

theorem sra_for2_hom' (xs : List GTh) (i : Int) (prf : GTh) :
    (Gen.Stage.start_resolution_algorithm_for2 algGS pG bG (pySliceTo xs i).reverse prf).map Proj.proj =
      Gen.Stage.start_resolution_algorithm_for2 algCS pC bC (pySliceTo (xs.map GTh.conc) i).reverse prf.conc := by
  rw [← pySliceTo_map, ← List.map_reverse]
  exact sra_for2_hom pG pC bG bC _ _

theorem mapM_hom (hp : ∀ F cl, (pG F cl).map Proj.proj = pC F cl) (F : Nat) : ∀ (cls : List (List Int)),
    (List.mapM (pG F) cls).map Proj.proj = List.mapM (pC F) cls := by
  intro cls
  induction cls with
  | nil => rfl
  | cons c cls ih =>
    rw [List.mapM_cons, List.mapM_cons]
    simp only [Option.pure_def, Option.bind_eq_bind]
    apply hb (hp F c); intro a
    apply hb ih; intro l
    rfl

attribute [local irreducible] Gen.Stage.start_resolution_algorithm_for1 Gen.Stage.start_resolution_algorithm_for2
  Gen.PyTaut.resolution_algorithm TautSup.pyIndex List.mapM in
theorem sra_hom (hp : ∀ F cl, (pG F cl).map Proj.proj = pC F cl)
    (hbp : ∀ F h c t, (bG F h c t).map Proj.proj = bC F h c t) (F : Nat) (cls : List (List Int)) :
    (Gen.Stage.start_resolution_algorithm algGS pG bG F cls).map Proj.proj =
      Gen.Stage.start_resolution_algorithm algCS pC bC F cls := by
  simp only [Gen.Stage.start_resolution_algorithm, Option.pure_def, Option.bind_eq_bind, sra_for1_eq pG pC bG bC]
  repeat' (first
    | hstep
    | (apply hb (mapM_hom pG pC hp _ _); intro a)
    | (apply hb (pyIndex_map _ _ _); intro a)
    | (apply hb (hp _ _); intro a)
    | (apply hb (hbp _ _ _ _); intro a)
    | (apply hb (sra_for2_hom' pG pC bG bC _ _ _); intro a))

end SraHom

attribute [local irreducible] Gen.Stage.to_conj_form Gen.Stage.propag_neg Gen.Stage.to_cnf Gen.Stage.to_clauses
  Gen.Stage.start_resolution_algorithm in
theorem prove_tautology_hom (pG : Nat → List Int → Option GTh) (pC : Nat → List Int → Option Pat)
    (bG : Nat → Hint → FrozenSet → List (List Int) → Option (List Int × GTh))
    (bC : Nat → Hint → FrozenSet → List (List Int) → Option (List Int × Pat))
    (hp : ∀ F cl, (pG F cl).map Proj.proj = pC F cl)
    (hbp : ∀ F h c t, (bG F h c t).map Proj.proj = bC F h c t) (n : Nat) (f : Form) :
    (Gen.Stage.prove_tautology algGS pG bG n f).map Proj.proj = Gen.Stage.prove_tautology algCS pC bC n f := by
  simp only [Gen.Stage.prove_tautology, Option.pure_def, Option.bind_eq_bind]
  repeat' (first
    | hstep
    | (apply hb (to_conj_form_hom _ _); intro a)
    | (apply hb (propag_neg_hom _ _); intro a)
    | (apply hb (to_cnf_hom _ _); intro a)
    | (apply hb (to_clauses_hom _ _); intro a)
    | (apply hb (sra_hom pG pC bG bC hp hbp _ _); intro a))

/-! ## Part G — any fuel: a stage that answers at all answers as with sufficient fuel -/

attribute [local semireducible] Option.bind pyAssert

/-- `x` answers ⇒ `y` gives the same answer -/
def Le {α} (x y : Option α) : Prop := ∀ a, x = some a → y = some a

theorem Le.refl {α} (x : Option α) : Le x x := fun _ h => h
theorem le_bind {α β} {x y : Option α} {f g : α → Option β} (hx : Le x y) (hf : ∀ a, Le (f a) (g a)) :
    Le (x.bind f) (y.bind g) := by
  intro b hb
  cases x with
  | none => simp at hb
  | some a =>
    rw [hx a rfl]
    exact hf a b hb
theorem le_bind_same {α β} {x : Option α} {f g : α → Option β} (hf : ∀ a, Le (f a) (g a)) :
    Le (x.bind f) (x.bind g) := le_bind (Le.refl x) hf
theorem le_ite {α} {c : Prop} [Decidable c] {a b a' b' : Option α} (h1 : Le a a') (h2 : Le b b') :
    Le (if c then a else b) (if c then a' else b') := by
  by_cases h : c
  · rw [if_pos h, if_pos h]; exact h1
  · rw [if_neg h, if_neg h]; exact h2

macro "mono_auto" ih:term : tactic => `(tactic| repeat' (first
  | (apply le_bind ($ih _); intro a)
  | apply le_ite
  | (apply le_bind_same; intro a)
  | exact Le.refl _))

theorem to_conj_form_mono {τ} (A : SAlg τ) : ∀ (n : Nat) (f : Form),
    Le (Gen.Stage.to_conj_form A n f) (Gen.Stage.to_conj_form A (n + 1) f) := by
  intro n
  induction n with
  | zero => intro f a h; simp [Gen.Stage.to_conj_form] at h
  | succ n ih =>
    intro f
    rw [Gen.Stage.to_conj_form, Gen.Stage.to_conj_form]
    mono_auto ih

theorem propag_neg_mono {τ} (A : SAlg τ) : ∀ (n : Nat) (c : ConjForm),
    Le (Gen.Stage.propag_neg A n c) (Gen.Stage.propag_neg A (n + 1) c) := by
  intro n
  induction n with
  | zero => intro f a h; simp [Gen.Stage.propag_neg] at h
  | succ n ih =>
    intro f
    rw [Gen.Stage.propag_neg, Gen.Stage.propag_neg]
    mono_auto ih

theorem to_clauses_mono {τ} (A : SAlg τ) : ∀ (n : Nat) (c : ConjForm),
    Le (Gen.Stage.to_clauses A n c) (Gen.Stage.to_clauses A (n + 1) c) := by
  intro n
  induction n with
  | zero => intro f a h; simp [Gen.Stage.to_clauses] at h
  | succ n ih =>
    intro f
    rw [Gen.Stage.to_clauses, Gen.Stage.to_clauses]
    mono_auto ih

theorem le_of_step {α β} (F : Nat → α → Option β) (h : ∀ n x, Le (F n x) (F (n + 1) x)) :
    ∀ (n m : Nat) (x : α), n ≤ m → Le (F n x) (F m x) := by
  intro n m x hnm
  induction m with
  | zero =>
    have : n = 0 := by omega
    subst this; exact Le.refl _
  | succ m ih =>
    by_cases he : n = m + 1
    · subst he; exact Le.refl _
    · intro a ha
      exact h m x a (ih (by omega) a ha)

/-- at ANY fuel, `to_conj_form` either raises / runs out of fuel or answers as `to_conj_form_C` says -/
theorem to_conj_form_C_any (f : Form) (n : Nat) (r : ConjForm × Pat × Option Pat)
    (h : Gen.Stage.to_conj_form algCS n f = some r) : r = conjSpec f := by
  have h1 := le_of_step _ (to_conj_form_mono algCS) n (max n f.size) f (Nat.le_max_left _ _) r h
  rw [to_conj_form_C f _ (Nat.le_max_right _ _)] at h1
  exact (Option.some.inj h1).symm

theorem propag_neg_C_any (c : CF) (n : Nat) (r : ConjForm × Pat × Pat)
    (h : Gen.Stage.propag_neg algCS n (ofCF c) = some r) :
    ∃ c', CF.propagNeg c = some c' ∧ r = pfPair (ofCF c) (ofCF c') := by
  have h1 := le_of_step _ (propag_neg_mono algCS) n (max n (depth c)) (ofCF c) (Nat.le_max_left _ _) r h
  rw [propag_neg_C c _ (Nat.le_max_right _ _)] at h1
  cases hp : CF.propagNeg c with
  | none => rw [hp] at h1; simp at h1
  | some c' =>
    rw [hp] at h1
    exact ⟨c', rfl, (Option.some.inj h1).symm⟩

theorem to_clauses_C_any (c : CF) (hc : c.IsCNF = true) (n : Nat) (r : List (List Int) × Pat × Pat)
    (h : Gen.Stage.to_clauses algCS n (ofCF c) = some r) :
    ∃ cls, CF.toClauses c = some cls ∧ r = clSpec (ofCF c) cls := by
  have h1 := le_of_step _ (to_clauses_mono algCS) n (max n (depth c)) (ofCF c) (Nat.le_max_left _ _) r h
  rw [to_clauses_C c _ (Nat.le_max_right _ _) hc] at h1
  cases hp : CF.toClauses c with
  | none => rw [hp] at h1; simp at h1
  | some cls =>
    rw [hp] at h1
    exact ⟨cls, rfl, (Option.some.inj h1).symm⟩

/-! ## Part H — `start_resolution_algorithm` and `prove_tautology`: the final assembly -/

/-- what `prove_trivial_clause` promises (its proof objects — `or_move_to_front` & co. — are NOT translated: a PARAMETER of
the generated functions): a proof of the clause -/
def PtcSpecC (ptc : Nat → List Int → Option Pat) : Prop :=
  ∀ F cl p, ptc F cl = some p → p = clausePat cl

/-- what `build_proof_from_hint` promises (NOT translated: a PARAMETER): for the clause `r` it returns, a proof of
`clause_conjunctionto_pattern(terms) -> clause_to_pattern(r)` -/
def BpfhSpecC (bpfh : Nat → Hint → FrozenSet → List (List Int) → Option (List Int × Pat)) : Prop :=
  ∀ F hint cl terms r p, bpfh F hint cl terms = some (r, p) → p = .imp (clausesPat terms) (clausePat r)

/-- what `start_resolution_algorithm` returns: verdict `True` with a proof of the clause conjunction, or verdict `False` with
a proof that the conjunction implies `clause_to_pattern([])` = ⊥ -/
def SraSpecC (sra : Nat → List (List Int) → Option (Option (Bool × Pat))) : Prop :=
  ∀ F cls b p, sra F cls = some (some (b, p)) →
    p = if b then clausesPat cls else .imp (clausesPat cls) Lem.botP

theorem bind_some_eta {α β} (f : α → Option β) : (fun x => (f x).bind fun t => some t) = f := by
  funext x; cases f x <;> rfl

theorem mapM_spec {ptc : Nat → List Int → Option Pat} (hp : PtcSpecC ptc) (F : Nat) : ∀ (cls : List (List Int)) (ps : List Pat),
    List.mapM (ptc F) cls = some ps → ps = cls.map clausePat := by
  intro cls
  induction cls with
  | nil => intro ps h; simp at h; subst h; rfl
  | cons c cls ih =>
    intro ps h
    rw [List.mapM_cons] at h
    simp only [Option.bind_eq_bind, Option.pure_def] at h
    cases h1 : ptc F c with
    | none => simp [h1] at h
    | some p =>
      have := hp F c p h1
      subst this
      simp only [h1, Option.bind_some] at h
      cases h2 : List.mapM (ptc F) cls with
      | none => simp [h2] at h
      | some ps' =>
        simp only [h2, Option.bind_some, Option.some.injEq] at h
        subst h
        rw [ih ps' h2]; rfl

/-- the loop at line 878: `for pf in reversed(pfs[:-2]): prf = self.and_intro(pf, prf)` -/
theorem sra_for2_C {ptc : Nat → List Int → Option Pat} {bpfh : Nat → Hint → FrozenSet → List (List Int) → Option (List Int × Pat)} :
    ∀ (xs : List Pat) (prf : Pat),
    Gen.Stage.start_resolution_algorithm_for2 algCS ptc bpfh xs prf = some (xs.foldl (fun acc pf => andP pf acc) prf) := by
  intro xs
  induction xs with
  | nil => intro prf; rfl
  | cons x xs ih =>
    intro prf
    simp only [Gen.Stage.start_resolution_algorithm_for2, lib_and_intro, Option.bind_eq_bind, Option.bind_some, ih,
      List.foldl_cons]

theorem pyIndex_m2 {α} (xs : List α) (a b : α) : pyIndex (xs ++ [a, b]) (-(2 : Int)) = some a := by
  have h : ((2 : Int) ≤ (xs.length : Int) + 2) := by omega
  simp [pyIndex, h]
theorem pyIndex_m1 {α} (xs : List α) (a b : α) : pyIndex (xs ++ [a, b]) (-(1 : Int)) = some b := by
  have h : ((1 : Int) ≤ (xs.length : Int) + 2) := by omega
  simp [pyIndex, h]
theorem pySliceTo_m2 {α} (xs : List α) (a b : α) : pySliceTo (xs ++ [a, b]) (-(2 : Int)) = xs := by
  simp [pySliceTo]

theorem split_last2 {α} : ∀ (l : List α), 2 ≤ l.length → ∃ xs a b, l = xs ++ [a, b] := by
  intro l
  induction l with
  | nil => intro h; simp at h
  | cons x l ih =>
    intro h
    cases l with
    | nil => simp at h
    | cons y l' =>
      cases l' with
      | nil => exact ⟨[], x, y, rfl⟩
      | cons z l'' =>
        obtain ⟨xs, a, b, he⟩ := ih (by simp)
        exact ⟨x :: xs, a, b, by rw [he]; rfl⟩

theorem foldrP_snoc2 (op : Pat → Pat → Pat) (xs : List Pat) (a b : Pat) :
    foldrP op (xs ++ [a, b]) = xs.foldr op (op a b) := by
  rw [foldrP_append op xs [a, b] (by simp)]; rfl

theorem pyIndex_short_m2 {α} (l : List α) (h : l.length < 2) : pyIndex l (-(2 : Int)) = none := by
  match l, h with
  | [], _ => simp [pyIndex]
  | [x], _ => simp [pyIndex]

/-- `start_resolution_algorithm` as written, on conclusions, at ANY fuel: whatever it returns is a proof of the clause
conjunction (verdict `True`: no clause / every clause trivial — `top_intro`, resp. the proofs of `prove_trivial_clause`
conjoined by a RIGHT fold of `and_intro`) or of its refutation (verdict `False`: the proof reconstructed from the hint) -/
theorem sra_C (ptc : Nat → List Int → Option Pat) (bpfh : Nat → Hint → FrozenSet → List (List Int) → Option (List Int × Pat))
    (hp : PtcSpecC ptc) (hb : BpfhSpecC bpfh) : SraSpecC (Gen.Stage.start_resolution_algorithm algCS ptc bpfh) := by
  intro F cls b p h
  simp only [Gen.Stage.start_resolution_algorithm, Option.pure_def, Option.bind_eq_bind, bind_some_eta] at h
  by_cases hne : cls = []
  · subst hne
    simp [lib_top_intro] at h
    obtain ⟨rfl, rfl⟩ := h; rfl
  · have hie : cls.isEmpty = false := by cases cls <;> simp_all
    simp only [hie, Bool.not_false, Bool.not_true, Bool.false_eq_true, if_false] at h
    obtain ⟨hint, _, h⟩ := Option.bind_eq_some_iff.1 h
    by_cases ht : (!dictTruthy hint) = true
    · simp only [ht, if_true] at h
      by_cases hl : (pyLen cls == (1 : Int)) = true
      · simp only [hl, if_true] at h
        obtain ⟨c0, hc0, h⟩ := Option.bind_eq_some_iff.1 h
        obtain ⟨q, h2, h⟩ := Option.bind_eq_some_iff.1 h
        match cls, hl, hc0 with
        | [c0'], _, hc0 =>
          cases (pyIndex_cons_zero c0' []).symm.trans hc0
          cases hp F c0 q h2
          simp only [Option.some.injEq, Prod.mk.injEq] at h
          obtain ⟨rfl, rfl⟩ := h; rfl
        | [], hl, _ => simp [pyLen] at hl
        | _ :: _ :: _, hl, _ => simp [pyLen] at hl; omega
      · simp only [hl, Bool.false_eq_true, if_false] at h
        obtain ⟨pfs, h2, h⟩ := Option.bind_eq_some_iff.1 h
        have hpfs := mapM_spec hp F _ _ h2
        by_cases hlen : 2 ≤ pfs.length
        · obtain ⟨xs, a, b', he⟩ := split_last2 pfs hlen
          rw [he] at h
          simp only [pyIndex_m2, pyIndex_m1, pySliceTo_m2, Option.bind_some, lib_and_intro, sra_for2_C,
            List.foldl_reverse, Option.some.injEq, Prod.mk.injEq] at h
          obtain ⟨rfl, rfl⟩ := h
          have : clausesPat cls = foldrP andP pfs := by rw [hpfs]; exact clausesPat_eq cls hne
          rw [this, he, foldrP_snoc2]
          rfl
        · rw [pyIndex_short_m2 pfs (by omega)] at h
          simp at h
    · simp only [ht, Bool.false_eq_true, if_false] at h
      obtain ⟨⟨t, hint', l'⟩, _, h⟩ := Option.bind_eq_some_iff.1 h
      cases t with
      | false => simp at h
      | true =>
        simp only [Bool.not_true, Bool.false_eq_true, if_false] at h
        obtain ⟨⟨rl, pf⟩, h3, h⟩ := Option.bind_eq_some_iff.1 h
        cases hb F hint' _ _ rl pf h3
        cases rl with
        | nil =>
          simp [pyAssert] at h
          obtain ⟨rfl, rfl⟩ := h; rfl
        | cons _ _ => simp [pyAssert] at h

theorem mpC_imp (a b : Pat) : algCS.mp (.imp a b) a = some b := by
  show mpC (.imp a b) a = some b
  simp [mpC]

theorem toPat_neg (f : Form) : toPat (TautSup.neg f) = negP (toPat f) := rfl

/-- the final assembly, on conclusions, at ANY fuel: whatever `prove_tautology` returns with verdict `True` concludes
literally the pattern, with verdict `False` literally its negation — given what `prove_trivial_clause` and
`build_proof_from_hint` promise about the proofs they return -/
theorem prove_tautology_C (ptc : Nat → List Int → Option Pat)
    (bpfh : Nat → Hint → FrozenSet → List (List Int) → Option (List Int × Pat))
    (hp : PtcSpecC ptc) (hb : BpfhSpecC bpfh) (n : Nat) (f : Form) (b : Bool) (p : Pat)
    (h : Gen.Stage.prove_tautology algCS ptc bpfh n f = some (some (b, p))) :
    p = if b then toPat f else negP (toPat f) := by
  simp only [Gen.Stage.prove_tautology, Option.pure_def, Option.bind_eq_bind] at h
  obtain ⟨r1, h1, h⟩ := Option.bind_eq_some_iff.1 h
  have e1 := to_conj_form_C_any _ n r1 h1
  subst e1
  simp only [conjSpec_eq, isCFBot_ofCF, negated_ofCF] at h
  have hshape := CF.ofForm_shape (TautSup.neg f)
  generalize CF.ofForm (TautSup.neg f) = c at h hshape
  by_cases hbot : c.isBot = true
  · cases c with
    | bot bb =>
      cases bb <;>
        simp [ofCF, CF.isBot, CF.negated, ConjForm.isCFBot, ConjForm.negated, toPat_neg, lib_dneg_elim, mpC_imp] at h
      · obtain ⟨rfl, rfl⟩ := h; rfl
      · obtain ⟨rfl, rfl⟩ := h; rfl
    | _ => simp [CF.isBot] at hbot
  · have hor : c.IsOrTree = true := hshape.resolve_left hbot
    simp only [hbot, Bool.false_eq_true, if_false, pyAssert, Option.isSome_some, if_true, Option.bind_some] at h
    obtain ⟨r2, h2, h⟩ := Option.bind_eq_some_iff.1 h
    obtain ⟨c2, hc2, rfl⟩ := propag_neg_C_any c n r2 h2
    obtain ⟨c2', hc2', _, hnnf⟩ := CF.propagNeg_spec c hor
    cases hc2.symm.trans hc2'
    simp only [pfPair, to_cnf_C n c2 hnnf] at h
    obtain ⟨r3, h3, h⟩ := Option.bind_eq_some_iff.1 h
    obtain ⟨c3, h3', rfl⟩ := Option.map_eq_some_iff.1 h3
    have hcnf := (CF.toCnfF_spec n c2 c3 hnnf h3').2
    obtain ⟨r4, h4, h⟩ := Option.bind_eq_some_iff.1 h
    obtain ⟨cls, _, rfl⟩ := to_clauses_C_any c3 hcnf n r4 h4
    obtain ⟨res, h5, h⟩ := Option.bind_eq_some_iff.1 h
    cases res with
    | none => simp at h
    | some bp =>
      obtain ⟨pt, pf⟩ := bp
      have e5 := sra_C ptc bpfh hp hb n cls pt pf h5
      subst e5
      cases pt <;>
        simp [clSpec, toPat_neg, lib_imp_transitivity, lib_dneg_elim, mpC_imp] at h
      · rw [show (negP (toPat f)).imp Lem.botP = negP (negP (toPat f)) from rfl, mpC_imp] at h
        simp only [Option.bind_some, Option.some.injEq, Prod.mk.injEq] at h
        obtain ⟨rfl, rfl⟩ := h; rfl
      · obtain ⟨rfl, rfl⟩ := h; rfl

/-! ## Part I — the proof objects: proof trees that mean, and replay to, the advertised conclusions -/

/-- the thunk `th` — a proof tree `th.pf` built from the documented rules (prop1/prop2/prop3, modus ponens, instantiate,
the module's axioms) together with its advertised conclusion `th.conc` — PROVES `c`:
its advertised conclusion (`ProofThunk.conc`) is literally `c`; the tree MEANS `c` (`Pf.Sem`: every step is a correct
application of its rule); and every run of the tree on the basic interpreter that returns (well-shaped axioms and tree, any
fuel) returns `c` (up to notation) -/
def Proves (th : GTh) (c : Pat) : Prop :=
  th.conc = c ∧ Pf.Sem th.pf c ∧
    ∀ (ax : List NPat) (k : Nat) (r : NPat), AxShaped ax → th.pf.Shaped →
      Pf.runBasicF ax k th.pf = some (some r) → r.expand = c

theorem proves_of_conc {th : GTh} {c : Pat} (h : th.conc = c) : Proves th c := by
  subst h
  exact ⟨rfl, th.ok, fun ax k r hax hsh hrun =>
    Pf.Sem.functional (Pf.runBasicF_sem ax k th.pf r hax hsh hrun).1 th.ok⟩

theorem of_hom {α β} [Proj α β] {x : Option α} {y : β} (h : x.map Proj.proj = some y) :
    ∃ a, x = some a ∧ Proj.proj a = y := by
  cases x with
  | none => cases h
  | some a => exact ⟨a, rfl, Option.some.inj h⟩

/-- **(1) `to_conj_form`.**  On every propositional pattern `f`, with recursion depth ≥ its size, the function as written
does not raise and returns the model's normal form `CF.ofForm f` together with proof objects that PROVE exactly what its
docstring says: `pat -> new` and `new -> pat`; when the new term is Top / Bottom only the first one, which proves `pat` /
`neg(pat)` -/
theorem to_conj_form_proofs (f : Form) (n : Nat) (hn : f.size ≤ n) :
    ∃ (t1 : GTh) (o2 : Option GTh),
      Gen.Stage.to_conj_form algGS n f = some (ofCF (CF.ofForm f), t1, o2) ∧
      (if (CF.ofForm f).isBot then
        o2 = none ∧ Proves t1 (if (CF.ofForm f).negated then toPat f else negP (toPat f))
      else
        Proves t1 (.imp (toPat f) (cfPat (ofCF (CF.ofForm f)))) ∧
          ∃ t2, o2 = some t2 ∧ Proves t2 (.imp (cfPat (ofCF (CF.ofForm f))) (toPat f))) := by
  have h := to_conj_form_hom n f
  rw [to_conj_form_C f n hn] at h
  obtain ⟨⟨c, t1, o2⟩, hr, hp⟩ := of_hom h
  refine ⟨t1, o2, ?_, ?_⟩
  · rw [hr]
    have : c = ofCF (CF.ofForm f) := by
      have := congrArg Prod.fst hp
      simp only [conjSpec] at this
      split at this <;> exact this
    rw [this]
  · simp only [conjSpec] at hp
    by_cases hb : (CF.ofForm f).isBot = true
    · simp only [hb, if_true] at hp ⊢
      have h1 : t1.conc = _ := congrArg (fun x => x.2.1) hp
      have h2 : o2.map GTh.conc = none := congrArg (fun x => x.2.2) hp
      refine ⟨?_, proves_of_conc h1⟩
      cases o2 with
      | none => rfl
      | some _ => cases h2
    · simp only [hb, Bool.false_eq_true, if_false] at hp ⊢
      have h1 : t1.conc = _ := congrArg (fun x => x.2.1) hp
      have h2 : o2.map GTh.conc = some _ := congrArg (fun x => x.2.2) hp
      refine ⟨proves_of_conc h1, ?_⟩
      cases o2 with
      | none => cases h2
      | some t2 => exact ⟨t2, rfl, proves_of_conc (Option.some.inj h2)⟩

theorem of_pfPair {β : Type} {r : β × GTh × GTh} {y : β} {p1 p2 : Pat}
    (h : (r.1, r.2.1.conc, r.2.2.conc) = (y, p1, p2)) :
    r.1 = y ∧ Proves r.2.1 p1 ∧ Proves r.2.2 p2 := by
  simp only [Prod.mk.injEq] at h
  exact ⟨h.1, proves_of_conc h.2.1, proves_of_conc h.2.2⟩

/-- **(2) `propag_neg`.**  On every normal form on which the model's `CF.propagNeg` answers `r` (every OR/negation tree:
`CF.propagNeg_spec`), with recursion depth ≥ the depth of the term, the function as written does not raise and returns `r`
together with proofs of `conj_to_pattern(in) -> conj_to_pattern(out)` and of the converse -/
theorem propag_neg_proofs (c r : CF) (n : Nat) (hn : depth c ≤ n) (hr : CF.propagNeg c = some r) :
    ∃ t1 t2 : GTh, Gen.Stage.propag_neg algGS n (ofCF c) = some (ofCF r, t1, t2) ∧
      Proves t1 (.imp (cfPat (ofCF c)) (cfPat (ofCF r))) ∧ Proves t2 (.imp (cfPat (ofCF r)) (cfPat (ofCF c))) := by
  have h := propag_neg_hom n (ofCF c)
  rw [propag_neg_C c n hn, hr] at h
  obtain ⟨⟨c', t1, t2⟩, hx, hp⟩ := of_hom h
  obtain ⟨h1, h2, h3⟩ := of_pfPair (r := (c', t1, t2)) hp
  cases h1
  exact ⟨t1, t2, hx, h2, h3⟩

/-- **(3) `to_cnf`.**  On every negation normal form, at every fuel at which the model's `CF.toCnfF` answers `r` (`weight c`
suffices: `CF.toCnfF_weight`), the function as written does not raise and returns `r` together with proofs of
`conj_to_pattern(in) -> conj_to_pattern(out)` and of the converse -/
theorem to_cnf_proofs (c r : CF) (k : Nat) (hc : c.IsNNF = true) (hr : CF.toCnfF k c = some r) :
    ∃ t1 t2 : GTh, Gen.Stage.to_cnf algGS k (ofCF c) = some (ofCF r, t1, t2) ∧
      Proves t1 (.imp (cfPat (ofCF c)) (cfPat (ofCF r))) ∧ Proves t2 (.imp (cfPat (ofCF r)) (cfPat (ofCF c))) := by
  have h := to_cnf_hom k (ofCF c)
  rw [to_cnf_C k c hc, hr] at h
  obtain ⟨⟨c', t1, t2⟩, hx, hp⟩ := of_hom h
  obtain ⟨h1, h2, h3⟩ := of_pfPair (r := (c', t1, t2)) hp
  cases h1
  exact ⟨t1, t2, hx, h2, h3⟩

/-- **(4) `to_clauses`.**  On every conjunctive normal form, with recursion depth ≥ the depth of the term, the function as
written does not raise and returns the model's clause list `cls` (`CF.toClauses_spec`: there is one) together with proofs of
`conj_to_pattern(in) -> clause_conjunctionto_pattern(out)` and of the converse -/
theorem to_clauses_proofs (c : CF) (cls : List (List Int)) (n : Nat) (hn : depth c ≤ n) (hc : c.IsCNF = true)
    (hr : CF.toClauses c = some cls) :
    ∃ t1 t2 : GTh, Gen.Stage.to_clauses algGS n (ofCF c) = some (cls, t1, t2) ∧
      Proves t1 (.imp (cfPat (ofCF c)) (clausesPat cls)) ∧ Proves t2 (.imp (clausesPat cls) (cfPat (ofCF c))) := by
  have h := to_clauses_hom n (ofCF c)
  rw [to_clauses_C c n hn hc, hr] at h
  obtain ⟨⟨c', t1, t2⟩, hx, hp⟩ := of_hom h
  obtain ⟨h1, h2, h3⟩ := of_pfPair (r := (c', t1, t2)) hp
  cases h1
  exact ⟨t1, t2, hx, h2, h3⟩

/-- what `prove_trivial_clause` promises about the proof object it returns (a PARAMETER of the generated functions) -/
def PtcSpec (ptc : Nat → List Int → Option GTh) : Prop :=
  ∀ F cl th, ptc F cl = some th → th.conc = clausePat cl

/-- what `build_proof_from_hint` promises about the proof object it returns (a PARAMETER of the generated functions) -/
def BpfhSpec (bpfh : Nat → Hint → FrozenSet → List (List Int) → Option (List Int × GTh)) : Prop :=
  ∀ F hint cl terms r th, bpfh F hint cl terms = some (r, th) → th.conc = .imp (clausesPat terms) (clausePat r)

theorem ptcSpec_proj {ptc : Nat → List Int → Option GTh} (hp : PtcSpec ptc) :
    PtcSpecC (fun F cl => (ptc F cl).map Proj.proj) := by
  intro F cl p h
  obtain ⟨a, ha, hpa⟩ := of_hom h
  rw [← hpa]; exact hp F cl a ha

theorem bpfhSpec_proj {bpfh : Nat → Hint → FrozenSet → List (List Int) → Option (List Int × GTh)} (hb : BpfhSpec bpfh) :
    BpfhSpecC (fun F h c t => (bpfh F h c t).map Proj.proj) := by
  intro F hint cl terms r p h
  obtain ⟨⟨r', th⟩, ha, hpa⟩ := of_hom h
  have : (r', th.conc) = (r, p) := hpa
  simp only [Prod.mk.injEq] at this
  obtain ⟨rfl, rfl⟩ := this
  exact hb F hint cl terms r' th ha

/-- **`start_resolution_algorithm`.**  Given what `prove_trivial_clause` and `build_proof_from_hint` promise, at ANY fuel:
whatever it returns with verdict `True` PROVES the clause conjunction, with verdict `False` that the clause conjunction
implies ⊥ -/
theorem start_resolution_algorithm_proofs (ptc : Nat → List Int → Option GTh)
    (bpfh : Nat → Hint → FrozenSet → List (List Int) → Option (List Int × GTh))
    (hp : PtcSpec ptc) (hb : BpfhSpec bpfh) (F : Nat) (cls : List (List Int)) (b : Bool) (th : GTh)
    (h : Gen.Stage.start_resolution_algorithm algGS ptc bpfh F cls = some (some (b, th))) :
    Proves th (if b then clausesPat cls else .imp (clausesPat cls) Lem.botP) := by
  have hh := sra_hom ptc _ bpfh _ (fun _ _ => rfl) (fun _ _ _ _ => rfl) F cls
  rw [h] at hh
  exact proves_of_conc (sra_C _ _ (ptcSpec_proj hp) (bpfhSpec_proj hb) F cls b th.conc hh.symm)

/-- **(5) `prove_tautology`, the final assembly.**  Given what `prove_trivial_clause` and `build_proof_from_hint` promise
about the proofs they return, at ANY fuel: whatever `prove_tautology` returns with verdict `True` PROVES literally the
pattern, with verdict `False` literally its negation -/
theorem prove_tautology_proofs (ptc : Nat → List Int → Option GTh)
    (bpfh : Nat → Hint → FrozenSet → List (List Int) → Option (List Int × GTh))
    (hp : PtcSpec ptc) (hb : BpfhSpec bpfh) (n : Nat) (f : Form) (b : Bool) (th : GTh)
    (h : Gen.Stage.prove_tautology algGS ptc bpfh n f = some (some (b, th))) :
    Proves th (if b then toPat f else negP (toPat f)) := by
  have hh := prove_tautology_hom ptc _ bpfh _ (fun _ _ => rfl) (fun _ _ _ _ => rfl) n f
  rw [h] at hh
  exact proves_of_conc (prove_tautology_C _ _ (ptcSpec_proj hp) (bpfhSpec_proj hb) n f b th.conc hh.symm)


/-! ## the data component is that of the data slice (`Gen.PyTaut`, tied to the model in `Pi2/TautTie.lean`) -/

/-- erasing the proof objects from the result of a stage -/
def erase3 {α} (r : α × GTh × GTh) : α × Unit × Unit := (r.1, (), ())

theorem to_conj_form_data (f : Form) (n : Nat) (hn : f.size ≤ n) :
    (Gen.Stage.to_conj_form algGS n f).map (fun r => (r.1, (), r.2.2.map fun _ => ())) = Gen.PyTaut.to_conj_form n f := by
  obtain ⟨t1, o2, hr, hp⟩ := to_conj_form_proofs f n hn
  rw [hr, to_conj_form_eq f n hn]
  by_cases hb : (CF.ofForm f).isBot = true
  · simp only [hb, if_true] at hp ⊢
    rw [hp.1]; rfl
  · simp only [hb, Bool.false_eq_true, if_false] at hp ⊢
    obtain ⟨_, t2, h2, _⟩ := hp
    rw [h2]; rfl

theorem propag_neg_data (c r : CF) (n : Nat) (hn : depth c ≤ n) (hr : CF.propagNeg c = some r) :
    (Gen.Stage.propag_neg algGS n (ofCF c)).map erase3 = Gen.PyTaut.propag_neg n (ofCF c) := by
  obtain ⟨t1, t2, hx, _⟩ := propag_neg_proofs c r n hn hr
  rw [hx, propag_neg_eq c n hn, hr]; rfl

theorem to_cnf_data (c r : CF) (k : Nat) (hc : c.IsNNF = true) (hr : CF.toCnfF k c = some r) :
    (Gen.Stage.to_cnf algGS k (ofCF c)).map erase3 = Gen.PyTaut.to_cnf k (ofCF c) := by
  obtain ⟨t1, t2, hx, _⟩ := to_cnf_proofs c r k hc hr
  rw [hx, to_cnf_eq k c, hr]; rfl

theorem to_clauses_data (c : CF) (cls : List (List Int)) (n : Nat) (hn : depth c ≤ n) (hc : c.IsCNF = true)
    (hr : CF.toClauses c = some cls) :
    (Gen.Stage.to_clauses algGS n (ofCF c)).map erase3 = Gen.PyTaut.to_clauses n (ofCF c) := by
  obtain ⟨t1, t2, hx, _⟩ := to_clauses_proofs c cls n hn hc hr
  rw [hx, to_clauses_eq c n hn, hr]; rfl


end StageThm

#print axioms StageThm.to_conj_form_C
#print axioms StageThm.propag_neg_C
#print axioms StageThm.to_cnf_C
#print axioms StageThm.to_clauses_C
#print axioms StageThm.sra_C
#print axioms StageThm.prove_tautology_C
#print axioms StageThm.to_conj_form_hom
#print axioms StageThm.to_clauses_hom
#print axioms StageThm.to_conj_form_proofs
#print axioms StageThm.propag_neg_proofs
#print axioms StageThm.to_cnf_proofs
#print axioms StageThm.to_clauses_proofs
#print axioms StageThm.start_resolution_algorithm_proofs
#print axioms StageThm.prove_tautology_proofs
#print axioms StageThm.to_conj_form_data
#print axioms StageThm.propag_neg_data
#print axioms StageThm.to_cnf_data
#print axioms StageThm.to_clauses_data
