import Pi2.ModuleMOK
/-!
# One proof expression against the machine (`runG`)

For every proof form (`prop1-3`, `quantifier`, `mp`, `gen`, `dynInst`, `loadAxiom`), plain or memoising: the calls the
thunk makes push one proved term `c` on the tracker; `c` is shaped and its expansion is the documented conclusion; the
instructions written for the calls push `ren ρ c.expand` on the machine, every call satisfying `SideK`.

Besides the class `Q` of the patterns given to `pattern` (here: the values of the substitutions) there are the class
`A` of the published axioms and the class `L` of the axioms the expression loads: `load_axiom(r)` pushes the first
published axiom `==` to `r`, so `==` of an `A` against an `L` has to be truthful.
-/
set_option linter.unusedSimpArgs false
set_option linter.unusedVariables false
open Pat PySt

namespace KMod
open NPat

/-- the memory holds published axioms only, all shaped -/
def MemS (mem : List TTerm) : Prop := ∀ t ∈ mem, ∃ a, t = .proved a ∧ a.Shape = true

/-- the memory holds saved patterns of `Q` and published axioms of `A` -/
def MemG (Q A : NPat → Prop) (mem : List TTerm) : Prop := MemQ Q mem ∧ ∀ a, TTerm.proved a ∈ mem → A a

theorem MemG.nil {Q A : NPat → Prop} : MemG Q A [] := ⟨fun q h => by simp at h, fun a h => by simp at h⟩

theorem PushedG.memG {cfg : Cfg} {Q A : NPat → Prop} {s s' : PySt} {top : List (TTerm × Bool)} {e : List NPat}
    (h : PushedG cfg Q s s' top e) (hK : MemG Q A s.memory) : MemG Q A s'.memory := by
  refine ⟨h.memQ hK.1, fun a ha => hK.2 a ?_⟩
  rw [h.memory] at ha
  simpa using ha

/-- the machine with a proved pattern pushed -/
def mprov (m : St) (P : Pat) : St := { m with stack := .proved P :: m.stack }

@[simp] theorem mprov_memory (m : St) (P : Pat) : (mprov m P).memory = m.memory := rfl
@[simp] theorem mprov_claims (m : St) (P : Pat) : (mprov m P).claims = m.claims := rfl

/-- the values a proof expression substitutes lie in `Q`, the axioms it loads in `L` -/
def _root_.Pf.Within (Q L : NPat → Prop) : Pf → Prop
  | .mp l r => Within Q L l ∧ Within Q L r
  | .gen p _ => Within Q L p
  | .dynInst p δ => Within Q L p ∧ ∀ v ∈ δ.map (·.2), Q v
  | .loadAxiom a => L a
  | _ => True

/-- the result of running a proof expression, as a proposition -/
def RunG (cfg : Cfg) (Q A : NPat → Prop) (n : Nat) (s : PySt) (acc : List Call) (s1 : PySt) (a1 : List Call)
    (c : NPat) (pf : Pf) : Prop :=
  ∃ e, PushedG cfg Q s s1 [(.proved c, false)] e ∧ c.Shape = true ∧ Pf.Sem pf c.expand ∧
  ∃ cs, a1 = acc ++ cs ∧ ∀ (ρ : Nat → Nat) (m : St), Agree ρ s1.symtab → MemG Q A s.memory → MRel ρ s m →
    ∃ is, Sg n s m cs s1 (mprov (msave ρ m e) (ren ρ c.expand)) is []

theorem checkF_inv {ax : List NPat} {k : Nat} {pf : Pf} {s' s1 : PySt} {a' a1 : List Call} {c : NPat}
    (h : checkF ax k pf s' a' = some (some (s1, a1, c))) :
    s1 = s' ∧ a1 = a' ∧ ∃ b st, s'.stack = (.proved c, b) :: st := by
  simp only [checkF] at h
  split at h
  · next c' b' st' hst =>
    simp only [Option.bind_eq_some_iff] at h
    obtain ⟨o, _, h⟩ := h
    cases o with
    | none => simp at h
    | some adv =>
      simp only [Option.bind_eq_some_iff] at h
      obtain ⟨e, _, h⟩ := h
      cases e with
      | false => simp at h
      | true =>
        simp only [if_true, Option.pure_def, Option.some.injEq, Prod.mk.injEq] at h
        obtain ⟨rfl, rfl, rfl⟩ := h
        exact ⟨rfl, rfl, b', st', hst⟩
  · simp at h

section
variable {cfg : Cfg} {Q A L : NPat → Prop}

def RunCG (cfg : Cfg) (Q A L : NPat → Prop) (n : Nat) (ax : List NPat) (k : Nat) : Prop :=
  ∀ pf s acc s1 a1 c, Pf.runF cfg ax k s pf acc = some (some (s1, a1, c)) → pf.patsOK = true → pf.InstOK →
    pf.Within Q L → RunG cfg Q A n s acc s1 a1 c pf

/-! ## the axiom rules -/

theorem leafR {n k : Nat} (hk : k ≤ n) {s s3 : PySt} {acc a3 : List Call} (pf : Pf) (c : Call) (cN : NPat)
    (i : Instr)
    (h : doCalls k s [c] acc = some (some (s3, a3)))
    (htr : ∀ n', track1 n' s c = some (some (s.push (.proved cN))))
    (hsh : cN.Shape = true) (hsem : Pf.Sem pf cN.expand)
    (he : emit1 n s c = some (some [i]))
    (hs : ∀ (ρ : Nat → Nat) (m : St), step s.phase m i = some (mprov m (ren ρ cN.expand), none))
    (hsc : SideCond s c) (har : c.arity = 0)
    (hkk : ∀ keys, c ≠ .instantiate keys ∧ c ≠ .instantiatePattern keys) :
    RunG cfg Q A n s acc s3 a3 cN pf := by
  obtain ⟨ht, rfl⟩ := MM.doCalls_one h
  rw [htr k] at ht
  simp only [Option.some.injEq] at ht
  subst ht
  refine ⟨[], PushedG.push s _, hsh, hsem, [c], rfl, ?_⟩
  intro ρ m _ _ _
  exact ⟨[i], by
    simpa [msave_nil] using Sg.single (n := n) (j := none) (htr n) he (hs ρ m) rfl
      (sideK_mk _ _ hsc (touches_push0 _ _ har) hkk)⟩

theorem loadR (hload : ∀ n a r, A a → L r → peqF n a r = some true → a.expand = r.expand)
    {n k : Nat} (hk : k ≤ n) {s s3 : PySt} {acc a3 : List Call} (a : NPat) (ha : a.Shape = true) (hL : L a)
    (h : doCalls k s [.load (.proved a)] acc = some (some (s3, a3))) :
    RunG cfg Q A n s acc s3 a3 a (.loadAxiom a) := by
  obtain ⟨ht, rfl⟩ := MM.doCalls_one h
  have e := MM.track1_load_eq ht
  subst e
  refine ⟨[], PushedG.push s _, ha, .loadAxiom, [.load (.proved a)], rfl, ?_⟩
  intro ρ m _ hK hmem
  obtain ⟨i, G⟩ := load_sg (n := n) hk ρ m ht hmem fun u hu hteq => by
    cases u with
    | pat q => simp [teqF] at hteq
    | proved b => simp [convR, hload n b a (hK.2 b hu) hL hteq]
  exact ⟨[.load i], by simpa [msave_nil, mprov, convR] using G⟩

/-! ## modus ponens and generalisation -/

theorem mpR {n k : Nat} (hk : k ≤ n) (ax : List NPat) (ih : RunCG cfg Q A L n ax k) {s s3 : PySt} {l r : Pf}
    {acc a3 : List Call} (hpl : l.patsOK = true) (hpr : r.patsOK = true) (hil : l.InstOK) (hir : r.InstOK)
    (hwl : l.Within Q L) (hwr : r.Within Q L)
    (h : (andThen3 (Pf.runF cfg ax k s l acc) fun s1 a1 _ =>
        andThen3 (Pf.runF cfg ax k s1 r a1) fun s2 a2 _ => doCalls k s2 [.mp] a2) = some (some (s3, a3))) :
    ∃ c, RunG cfg Q A n s acc s3 a3 c (.mp l r) := by
  obtain ⟨s1, a1, cl, h1, h⟩ := andThen3_some h
  obtain ⟨s2, a2, cr, h2, h⟩ := andThen3_some h
  obtain ⟨ht, rfl⟩ := MM.doCalls_one h
  obtain ⟨e1, P1, hcl, hSl, cs1, rfl, S1⟩ := ih l s acc s1 a1 cl h1 hpl hil hwl
  obtain ⟨e2, P2, hcr, hSr, cs2, rfl, S2⟩ := ih r s1 _ s2 a2 cr h2 hpr hir hwr
  have P12 := P1.trans P2
  have hstk : s2.stack = (.proved cr, false) :: (.proved cl, false) :: s.stack := by simpa using P12.stack
  have ht' := ht
  simp only [track1, hstk, Option.bind_eq_bind, Option.bind_eq_some_iff] at ht'
  obtain ⟨o, hmp, h3⟩ := ht'
  cases o with
  | none => simp at h3
  | some c3 =>
    simp only [Option.pure_def, Option.some.injEq] at h3
    obtain ⟨he, hs3⟩ := pyMP_spec k cl cr c3 hcl hcr hmp
    subst h3
    refine ⟨c3, e1 ++ e2, P12.replace _, hs3, .mp (he ▸ hSl) hSr, cs1 ++ cs2 ++ [.mp], by simp, ?_⟩
    intro ρ m hag hK hmem
    obtain ⟨is1, G1⟩ := S1 ρ m (P2.agree hag) hK hmem
    obtain ⟨is2, G2⟩ := S2 ρ (mprov (msave ρ m e1) (ren ρ cl.expand)) hag (P1.memG hK) (mrel_msave P1.memory hmem)
    have G3 : Sg n s2 (mprov (mprov (msave ρ m (e1 ++ e2)) (ren ρ cl.expand)) (ren ρ cr.expand)) [.mp]
        { s2 with stack := (.proved c3, false) :: s.stack } (mprov (msave ρ m (e1 ++ e2)) (ren ρ c3.expand)) [.mp]
        (none : Option Pat).toList :=
      Sg.single (PySt.track1_mono hk _ _ _ ht) rfl (by rw [he]; simp [step, mprov, ren]) rfl
        (sideK_mk _ _ (by simp [SideCond]) (by simp [touchesResidue, Call.arity, hstk]) (by simp))
    have e : msave ρ (mprov (msave ρ m e1) (ren ρ cl.expand)) e2
        = mprov (msave ρ m (e1 ++ e2)) (ren ρ cl.expand) := by simp [msave, mprov, List.append_assoc]
    rw [e] at G2
    exact ⟨is1 ++ is2 ++ [.mp], by simpa using (G1.append G2).append G3⟩

theorem genR {n k : Nat} (hk : k ≤ n) (ax : List NPat) (ih : RunCG cfg Q A L n ax k) {s s3 : PySt} {p : Pf} {x : VId}
    {acc a3 : List Call} (hpp : p.patsOK = true) (hip : p.InstOK) (hw : p.Within Q L)
    (h : (andThen3 (Pf.runF cfg ax k s p acc) fun s1 a1 _ => doCalls k s1 [.gen x] a1) = some (some (s3, a3))) :
    ∃ c, RunG cfg Q A n s acc s3 a3 c (.gen p x) := by
  obtain ⟨s1, a1, cp, h1, h⟩ := andThen3_some h
  obtain ⟨ht, rfl⟩ := MM.doCalls_one h
  obtain ⟨e1, P1, hcp, hSp, cs1, rfl, S1⟩ := ih p s acc s1 a1 cp h1 hpp hip hw
  have hstk : s1.stack = (.proved cp, false) :: s.stack := by simpa using P1.stack
  have ht' := ht
  simp only [track1, hstk, Option.bind_eq_bind, Option.bind_eq_some_iff] at ht'
  obtain ⟨o, hg, h3⟩ := ht'
  cases o with
  | none => simp at h3
  | some c3 =>
    simp only [Option.pure_def, Option.some.injEq] at h3
    obtain ⟨L', R, he, hfr, he3, hs3⟩ := pyGen_spec k cp c3 x hcp hg
    subst h3
    refine ⟨c3, e1, P1.replace _, hs3, ?_, cs1 ++ [.gen x], by simp, ?_⟩
    · rw [he3]; exact .gen (he ▸ hSp) hfr
    intro ρ m hag hK hmem
    obtain ⟨is1, G1⟩ := S1 ρ m hag hK hmem
    have G3 : Sg n s1 (mprov (msave ρ m e1) (ren ρ cp.expand)) [.gen x]
        { s1 with stack := (.proved c3, false) :: s.stack } (mprov (msave ρ m e1) (ren ρ c3.expand)) [.gen x]
        (none : Option Pat).toList :=
      Sg.single (PySt.track1_mono hk _ _ _ ht) rfl (by rw [he, he3]; simp [step, mprov, ren, hfr]) rfl
        (sideK_mk _ _ (by simp [SideCond]) (by simp [touchesResidue, Call.arity, hstk]) (by simp))
    exact ⟨is1 ++ [.gen x], by simpa using G1.append G3⟩

/-! ## instantiation -/

theorem dynEmptyR {n k : Nat} (ax : List NPat) (ih : RunCG cfg Q A L n ax k) {s s3 : PySt} {p : Pf}
    {δ : List (Nat × NPat)} {acc a3 : List Call} (hpp : p.patsOK = true) (hip : p.InstOK) (hw : p.Within Q L)
    (hemp : δ.isEmpty = true)
    (h : (andThen3 (Pf.runF cfg ax k s p acc) fun s1 a1 _ => pure (some (s1, a1))) = some (some (s3, a3))) :
    ∃ c, RunG cfg Q A n s acc s3 a3 c (.dynInst p δ) := by
  obtain ⟨s1, a1, cp, h1, h⟩ := andThen3_some h
  simp only [Option.pure_def, Option.some.injEq, Prod.mk.injEq] at h
  obtain ⟨rfl, rfl⟩ := h
  obtain ⟨e1, P1, hcp, hSp, R1⟩ := ih p s acc s1 a1 cp h1 hpp hip hw
  refine ⟨cp, e1, P1, hcp, ?_, R1⟩
  have : Pf.Sem (.dynInst p δ) (Py.inst (Py.lookup (NPat.expand.expandMap δ)) cp.expand) := .dynInst hSp
  rw [← NPat.inst_isEmpty δ hemp cp hcp] at this
  exact this

theorem dynR (H : Memoable cfg Q) {n k : Nat} (hk : k ≤ n) (ax : List NPat) (ih : RunCG cfg Q A L n ax k)
    {s s3 : PySt} {p : Pf} {δ : List (Nat × NPat)} {acc a3 : List Call} (hpp : p.patsOK = true) (hip : p.InstOK)
    (hw : p.Within Q L) (hmok : MOKMap δ = true) (hshape : ShapeMap δ = true) (hQ : ∀ v ∈ δ.map (·.2), Q v)
    (hnd : (δ.map (·.1)).Nodup) (hne : δ.isEmpty = false)
    (hinst : ∀ A, Pf.Sem p A → (Pat.inst (Py.lookup (NPat.expand.expandMap δ)) A).isSome = true)
    (h : (andThen (patternF.patternListF cfg k s (δ.map (·.2)) acc) fun s1 a1 =>
        andThen3 (Pf.runF cfg ax k s1 p a1) fun s2 a2 _ =>
          doCalls k s2 [.instantiate (δ.map (·.1))] a2) = some (some (s3, a3))) :
    ∃ c, RunG cfg Q A n s acc s3 a3 c (.dynInst p δ) := by
  obtain ⟨t1, b1, h1, h⟩ := andThen_some h
  obtain ⟨t2, b2, c2, h2, h⟩ := andThen3_some h
  obtain ⟨hti, rfl⟩ := MM.doCalls_one h
  have hlen : (δ.map (·.2)).length = (δ.map (·.1)).length := by simp
  have hke : (δ.map (·.1)).isEmpty = false := by
    cases δ with
    | nil => simp at hne
    | cons _ _ => rfl
  have hz : (δ.map (·.1)).zip (δ.map (·.2)) = δ := zip_keys_vals δ
  obtain ⟨e1, P1, cs1, rfl, S1⟩ := patternList_compilesG H (n := n) hk h1 (MOKMap_vals hmok) hQ
  obtain ⟨e2, P2, hc2, hS2, cs2, rfl, S2⟩ := ih p t1 _ t2 b2 c2 h2 hpp hip hw
  have P12 := P1.trans P2
  have hstk2 : t2.stack = (.proved c2, false) :: ((δ.map (·.2)).reverse.map entry ++ s.stack) := by
    simpa using P12.stack
  have htp := takePlugs_vals (δ.map (·.2)) s.stack
  rw [hlen] at htp
  have hti' := hti
  simp only [track1, hstk2, hke, Bool.false_eq_true, if_false, htp, hz,
    Option.bind_eq_bind, Option.bind_eq_some_iff, Option.pure_def, Option.some.injEq] at hti'
  obtain ⟨c3, hi3, hs3⟩ := hti'
  obtain ⟨hce, hcs⟩ := NPat.instF_expand _ δ c2 c3 hc2 hshape hi3
  obtain ⟨r0, hr0⟩ := Option.isSome_iff_exists.mp (hinst _ hS2)
  have hr0e : r0 = c3.expand := by
    rw [hce]; exact (C11.py_inst_eq_rust _ _ _ hr0).symm
  subst hs3
  refine ⟨c3, e1 ++ e2, P12.replace _, hcs, ?_, cs1 ++ cs2 ++ [.instantiate (δ.map (·.1))], by simp, ?_⟩
  · rw [hce]; exact .dynInst hS2
  intro ρ m hag hK hmem
  obtain ⟨is1, G1⟩ := S1 ρ m (P2.agree hag) hK.1 fun _ => hmem
  obtain ⟨is2, G2⟩ := S2 ρ (mafter ρ m e1 ((δ.map (·.2)).reverse.map fun p => ren ρ p.expand)) hag (P1.memG hK)
    (mrel_msave P1.memory hmem)
  have hstep := step_inst .proved (Or.inr rfl) ρ t2.phase (msave ρ m (e1 ++ e2)) c2.expand r0
    (δ.map (·.1)) (δ.map (·.2)) hnd hlen (by rw [hz]; exact hr0)
  rw [hr0e] at hstep
  have G3 := Sg.single (n := n) (PySt.track1_mono hk _ _ _ hti) (i := .instantiate (δ.map (·.1)).reverse) rfl
    hstep rfl (sideK_inst _ _ (δ.map (·.1)) (δ.map (·.2)) (.proved c2) s.stack (Or.inl rfl) hnd hlen
      hstk2 (by rw [hz]; exact hinst _ hS2))
  have e : mprov (msave ρ (mafter ρ m e1 ((δ.map (·.2)).reverse.map fun p => ren ρ p.expand)) e2) (ren ρ c2.expand)
      = { msave ρ m (e1 ++ e2) with stack := .proved (ren ρ c2.expand) ::
          (((δ.map (·.2)).reverse.map fun p => ren ρ p.expand).map Term.pat ++ (msave ρ m (e1 ++ e2)).stack) } := by
    simp [mafter, msave, mpush, mprov, List.append_assoc]
  rw [e] at G2
  exact ⟨is1 ++ is2 ++ [.instantiate (δ.map (·.1)).reverse], by simpa [mprov] using (G1.append G2).append G3⟩

/-! ## all proof forms -/

theorem rawG (H : Memoable cfg Q) (hload : ∀ n a r, A a → L r → peqF n a r = some true → a.expand = r.expand)
    {n k : Nat} (hk : k ≤ n) (ax : List NPat) (ih : RunCG cfg Q A L n ax k) {s s3 : PySt} {pf : Pf}
    {acc a3 : List Call} (hp : pf.patsOK = true) (hi : pf.InstOK) (hw : pf.Within Q L)
    (h : rawF cfg ax k s pf acc = some (some (s3, a3))) : ∃ c, RunG cfg Q A n s acc s3 a3 c pf := by
  cases pf with
  | prop1 =>
    exact ⟨_, leafR hk .prop1 .prop1 prop1N .prop1 h (fun _ => rfl) (by decide) .prop1 rfl
      (fun ρ m => rfl) (by simp [SideCond]) rfl (by simp)⟩
  | prop2 =>
    exact ⟨_, leafR hk .prop2 .prop2 prop2N .prop2 h (fun _ => rfl) (by decide) .prop2 rfl
      (fun ρ m => rfl) (by simp [SideCond]) rfl (by simp)⟩
  | prop3 =>
    exact ⟨_, leafR hk .prop3 .prop3 prop3N .prop3 h (fun _ => rfl) (by decide) .prop3 rfl
      (fun ρ m => rfl) (by simp [SideCond]) rfl (by simp)⟩
  | quantifier =>
    exact ⟨_, leafR hk .quantifier .quantifier quantN .quantifier h (fun _ => rfl) (by decide) .quantifier rfl
      (fun ρ m => rfl) (by simp [SideCond]) rfl (by simp)⟩
  | loadAxiom a =>
    simp only [Pf.patsOK] at hp
    exact ⟨a, loadR hload hk a hp hw h⟩
  | mp l r =>
    simp only [Pf.patsOK, Bool.and_eq_true] at hp
    exact mpR hk ax ih hp.1 hp.2 hi.1 hi.2 hw.1 hw.2 h
  | gen p x =>
    simp only [Pf.patsOK] at hp
    exact genR hk ax ih hp hi hw h
  | dynInst p δ =>
    simp only [Pf.patsOK, Bool.and_eq_true, decide_eq_true_eq] at hp
    obtain ⟨⟨⟨hpp, hmok⟩, hshape⟩, hnd⟩ := hp
    cases hne : δ.isEmpty with
    | true =>
      simp only [rawF, hne, if_true] at h
      exact dynEmptyR ax ih hpp hi.1 hw.1 hne h
    | false =>
      simp only [rawF, hne, Bool.false_eq_true, if_false] at h
      exact dynR H hk ax ih hpp hi.1 hw.1 hmok hshape hw.2 hnd hne (hi.2 hne) h

theorem runG_all (H : Memoable cfg Q)
    (hload : ∀ n a r, A a → L r → peqF n a r = some true → a.expand = r.expand) (n : Nat) (ax : List NPat) :
    ∀ k, k ≤ n → RunCG cfg Q A L n ax k := by
  intro k
  induction k with
  | zero => intro _ pf s acc s1 a1 c h; simp [Pf.runF] at h
  | succ k ih =>
    intro hk pf s acc s1 a1 c h hp hi hw
    rw [runF_succ] at h
    obtain ⟨s3, a3, hraw, hchk⟩ := andThen_some h
    obtain ⟨rfl, rfl, b, st, hst⟩ := checkF_inv hchk
    obtain ⟨c', hR⟩ := rawG H hload (by omega) ax (ih (by omega)) hp hi hw hraw
    obtain ⟨e, P, _⟩ := id hR
    have := P.stack
    rw [hst] at this
    simp only [List.singleton_append, List.cons.injEq, Prod.mk.injEq, TTerm.proved.injEq] at this
    obtain ⟨⟨rfl, _⟩, _⟩ := this
    exact hR

/-- **one proof expression against the machine, plain or memoising** -/
theorem runG (H : Memoable cfg Q) (hload : ∀ n a r, A a → L r → peqF n a r = some true → a.expand = r.expand)
    {n k : Nat} (hk : k ≤ n) (ax : List NPat) {pf : Pf} {s s1 : PySt} {acc a1 : List Call} {c : NPat}
    (h : Pf.runF cfg ax k s pf acc = some (some (s1, a1, c))) (hp : pf.patsOK = true) (hi : pf.InstOK)
    (hw : pf.Within Q L) : RunG cfg Q A n s acc s1 a1 c pf :=
  runG_all H hload n ax k hk pf s acc s1 a1 c h hp hi hw

end

end KMod

#print axioms KMod.runG
