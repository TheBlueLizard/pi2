import Pi2.Subst
import Pi2.Gen.RustJudge
import Pi2.Gen.RustSubst
/-!
# The checker's judgements as written in Rust are the model's

`Pi2/Gen/RustJudge.lean` is regenerated from `rust/src/lib.rs` on every run (translator
`vlib/transrust.py`): `Gen.Rust.e_fresh`, `s_fresh`, `positive`, `negative`, arm by arm.  Here they
are proved equal to `Pat.eFresh`, `Pat.sFresh`, `Pat.pos`, `Pat.ng` — the functions the soundness
theorems (C01, C06) talk about.  A change of the Rust source that changes one of the judgements
makes one of these proofs fail (the check then searches for a concrete pattern on which the real
checker's judgement is unsound).
-/
namespace RustTie
open Pat

theorem translated : Gen.Rust.translated = true := by decide

theorem e_fresh_eq (p : Pat) (e : VId) : Gen.Rust.e_fresh p e = p.eFresh e := by
  induction p with
  | evar x | svar x | sym x | mv id ef sf ps ns hs => simp [Gen.Rust.e_fresh, Pat.eFresh]
  | imp l r ihl ihr | app l r ihl ihr => simp [Gen.Rust.e_fresh, Pat.eFresh, ihl, ihr]
  | ex x p ih | mu x p ih => simp [Gen.Rust.e_fresh, Pat.eFresh, ih]
  | esub p x q ihp ihq | ssub p x q ihp ihq => simp [Gen.Rust.e_fresh, Pat.eFresh, ihp, ihq]

theorem s_fresh_eq (p : Pat) (s : VId) : Gen.Rust.s_fresh p s = p.sFresh s := by
  induction p with
  | evar x | svar x | sym x | mv id ef sf ps ns hs => simp [Gen.Rust.s_fresh, Pat.sFresh]
  | imp l r ihl ihr | app l r ihl ihr => simp [Gen.Rust.s_fresh, Pat.sFresh, ihl, ihr]
  | ex x p ih | mu x p ih => simp [Gen.Rust.s_fresh, Pat.sFresh, ih]
  | esub p x q ihp ihq | ssub p x q ihp ihq => simp [Gen.Rust.s_fresh, Pat.sFresh, ihp, ihq]

theorem polarity_eq (p : Pat) : ∀ s : VId, Gen.Rust.positive p s = p.pos s ∧ Gen.Rust.negative p s = p.ng s := by
  induction p with
  | evar x | svar x | sym x | mv id ef sf ps ns hs => intro s; simp [Gen.Rust.positive, Gen.Rust.negative, Pat.pos, Pat.ng]
  | imp l r ihl ihr | app l r ihl ihr => intro s; simp [Gen.Rust.positive, Gen.Rust.negative, Pat.pos, Pat.ng, (ihl s).1, (ihl s).2, (ihr s).1, (ihr s).2]
  | ex x p ih | mu x p ih => intro s; simp [Gen.Rust.positive, Gen.Rust.negative, Pat.pos, Pat.ng, (ih s).1, (ih s).2]
  | esub p x q ihp ihq =>
    intro s; simp [Gen.Rust.positive, Gen.Rust.negative, Pat.pos, Pat.ng, (ihp s).1, (ihp s).2, s_fresh_eq]
  | ssub p x q ihp ihq =>
    intro s
    simp [Gen.Rust.positive, Gen.Rust.negative, Pat.pos, Pat.ng, (ihp s).1, (ihp s).2, (ihp x).1, (ihp x).2,
      (ihq s).1, (ihq s).2, s_fresh_eq]

theorem positive_eq (p : Pat) (s : VId) : Gen.Rust.positive p s = p.pos s := (polarity_eq p s).1
theorem negative_eq (p : Pat) (s : VId) : Gen.Rust.negative p s = p.ng s := (polarity_eq p s).2

/-! ## `apply_esubst` / `apply_ssubst` (`Pi2/Gen/RustSubst.lean`, a panic is `none`) -/

theorem substTranslated : Gen.Rust.substTranslated = true := by decide

theorem apply_esubst_eq (p : Pat) (x : VId) (plug : Pat) :
    Gen.Rust.apply_esubst p x plug = Pat.applyESubst x plug p := by
  induction p with
  | evar y => by_cases h : y = x <;> simp [Gen.Rust.apply_esubst, Pat.applyESubst, h]
  | svar y | sym y | mv id ef sf ps ns hs | esub q y r _ _ | ssub q y r _ _ => simp [Gen.Rust.apply_esubst, Pat.applyESubst]
  | imp l r ihl ihr | app l r ihl ihr =>
    simp only [Gen.Rust.apply_esubst, Pat.applyESubst, ihl, ihr]
    cases Pat.applyESubst x plug l <;> cases Pat.applyESubst x plug r <;> rfl
  | ex y q ih =>
    simp only [Gen.Rust.apply_esubst, Pat.applyESubst, ih, e_fresh_eq]
    by_cases h : y = x
    · simp [h]
    · simp only [beq_iff_eq, h, if_false]
      cases Pat.eFresh y plug <;> simp <;> cases Pat.applyESubst x plug q <;> rfl
  | mu y q ih =>
    simp only [Gen.Rust.apply_esubst, Pat.applyESubst, ih, s_fresh_eq]
    cases Pat.sFresh y plug <;> simp <;> cases Pat.applyESubst x plug q <;> rfl

theorem apply_ssubst_eq (p : Pat) (x : VId) (plug : Pat) :
    Gen.Rust.apply_ssubst p x plug = Pat.applySSubst x plug p := by
  induction p with
  | evar y | sym y | mv id ef sf ps ns hs | esub q y r _ _ | ssub q y r _ _ => simp [Gen.Rust.apply_ssubst, Pat.applySSubst]
  | svar y => by_cases h : y = x <;> simp [Gen.Rust.apply_ssubst, Pat.applySSubst, h]
  | imp l r ihl ihr | app l r ihl ihr =>
    simp only [Gen.Rust.apply_ssubst, Pat.applySSubst, ihl, ihr]
    cases Pat.applySSubst x plug l <;> cases Pat.applySSubst x plug r <;> rfl
  | ex y q ih =>
    simp only [Gen.Rust.apply_ssubst, Pat.applySSubst, ih, e_fresh_eq]
    cases Pat.eFresh y plug <;> simp <;> cases Pat.applySSubst x plug q <;> rfl
  | mu y q ih =>
    simp only [Gen.Rust.apply_ssubst, Pat.applySSubst, ih, s_fresh_eq]
    by_cases h : y = x
    · simp [h]
    · simp only [beq_iff_eq, h, if_false]
      cases Pat.sFresh y plug <;> simp <;> cases Pat.applySSubst x plug q <;> rfl

end RustTie
