import Pi2.ProofTie
import Pi2.ModuleThm
import Pi2.CountDet
/-!
# The slot budget of an optimised serialisation (C03 / C08)

The binary format addresses a memory slot with ONE byte.  `ProofExp.serialize(optimize=True)` first runs the counting pass,
whose `finalize()` subtracts the number of entries already in the analyser's memory (the published axioms) from
`_max_allowed_slots = 256` and suggests at most that many patterns; then the memoising pass saves each suggested pattern
at most once and every published axiom takes one further slot.

* Part 1 (`finalize_length`): what the translated `finalize` (`Pi2/Gen/PyCount.lean`) returns has at most
  `|suggested before| + (_max_allowed_slots − len(memory))` elements.
* Part 2 (`executeFull_matched`): the run of a module (`PModule.executeFull`, any configuration).  Every `Pattern` entry of
  the final memory is matched by the membership test of the suggestion set (`NPat.seq`) with a suggestion of its own, and
  the `Proved` entries are the published axioms (one entry per element of `gammaAxioms`).  The step that matters is
  `Matched.save`; the rest follows the recursion of `Interpreter.pattern` and of the proof expressions.  For a suggestion
  list whose members are matched by themselves only (`Canonical`): `executeFull_memory`, `executeFull_memory_length`.
  `Pi2/SlotBudget2.lean` has the instance for suggestions with distinct keys (`Canon2`).
* `trackAll_slots`: every `load` the serializer writes resolves to an index below the final length of the memory.
-/
set_option linter.unusedVariables false
set_option linter.unusedSimpArgs false
set_option linter.unusedSectionVars false

namespace SlotBudget2

mutual
/-- nesting depth -/
def dep : NPat → Nat
  | .imp l r => max (dep l) (dep r) + 1
  | .app l r => max (dep l) (dep r) + 1
  | .ex _ p => dep p + 1
  | .mu _ p => dep p + 1
  | .esub p _ q => max (dep p) (dep q) + 1
  | .ssub p _ q => max (dep p) (dep q) + 1
  | .inst p m => max (dep p) (depMap m) + 1
  | _ => 0
def depMap : List (Nat × NPat) → Nat
  | [] => 0
  | (_, v) :: r => max (dep v) (depMap r)
end

/-- what `seq a c` gives: `a` is shaped, `a == c` (equal expansions), equal depth -/
def SeqP (a c : NPat) : Prop := a.Shape = true ∧ a.expand = c.expand ∧ dep a = dep c

end SlotBudget2

namespace SlotBudget

/-! ## Part 1: the counting pass -/
section counting
open CountSup Gen.PyCount CountDet
variable {K : Type} [DecidableEq K] [PyPattern K]

/-- the `while` loop adds at most `counter` suggestions -/
theorem while_budget (o : Orders K) (mem : List K) (fuel : Nat) :
    ∀ (self : Self K) (counter : Int) (todo : List K) (tick : Nat) (st' : Self K × Int × List K × Nat),
      finalize_while1 o mem fuel (self, counter, todo, tick) = some st' →
      st'.1._suggested_for_memoization.length ≤ self._suggested_for_memoization.length + counter.toNat ∧
      (self._suggested_for_memoization.Nodup → st'.1._suggested_for_memoization.Nodup) := by
  induction fuel with
  | zero =>
    intro self counter todo tick st' h
    rw [finalize_while1] at h
    split at h
    · cases h
    · cases h; exact ⟨Nat.le_add_right _ _, id⟩
  | succ n ih =>
    intro self counter todo tick st' h
    rw [finalize_while1] at h
    split at h
    · rename_i hcond
      obtain ⟨st1, hb, h⟩ := bind_eq_some' h
      obtain ⟨self1, counter1, todo1, tick1⟩ := st1
      obtain ⟨hlen, hnd, hc, _⟩ := round_spec o mem self counter todo tick hb
      obtain ⟨hlen2, hnd2⟩ := ih self1 counter1 todo1 tick1 st' h
      simp only at hlen hnd hc
      refine ⟨?_, fun h0 => hnd2 (hnd h0)⟩
      simp only [Bool.and_eq_true, decide_eq_true_eq] at hcond
      have : counter1.toNat + 1 = counter.toNat := by subst hc; omega
      omega
    · cases h; exact ⟨Nat.le_add_right _ _, id⟩

/-- `finalize`: the suggestions it returns are the old ones plus at most `_max_allowed_slots − len(memory)` new ones;
it succeeds only on a state that is not finalised yet -/
theorem finalize_length (o : Orders K) (t : Nat) (σ : Self K) {R : PySet K} {σ' : Self K} {t' : Nat}
    (h : finalize o t σ = some (R, σ', t')) :
    σ._finalized = false ∧
    R.length ≤ σ._suggested_for_memoization.length + (σ._max_allowed_slots - (σ.memory.length : Int)).toNat ∧
    (σ._suggested_for_memoization.Nodup → R.Nodup) := by
  unfold finalize at h
  simp only [Option.bind_eq_bind] at h
  obtain ⟨_, hfin, h⟩ := bind_eq_some' h
  obtain ⟨memoized, _, h⟩ := bind_eq_some' h
  obtain ⟨self1, hfor, h⟩ := bind_eq_some' h
  obtain ⟨todo, _, h⟩ := bind_eq_some' h
  obtain ⟨st, hw, h⟩ := bind_eq_some' h
  obtain ⟨self2, counter2, todo2, tick2⟩ := st
  simp only [suggested_for_memoization, finalized, Option.pure_def, Option.bind_eq_bind, Option.bind_some,
    pyAssert, if_true, Option.some.injEq, Prod.mk.injEq] at h
  obtain ⟨rfl, rfl, rfl⟩ := h
  have hfin' : σ._finalized = false := by
    unfold pyAssert at hfin
    split at hfin
    · rename_i hb; simpa using hb
    · cases hfin
  have hs1 : self1._suggested_for_memoization = σ._suggested_for_memoization := by
    rw [foldlM_withU _ _ for1_eq] at hfor
    obtain ⟨U, _, rfl⟩ := Option.map_eq_some_iff.mp hfor
    rfl
  obtain ⟨hlen, hnd⟩ := while_budget o memoized _ _ _ _ _ _ hw
  simp only at hlen hnd
  rw [hs1] at hlen hnd
  exact ⟨hfin', hlen, hnd⟩

end counting

/-! ## Part 2: the memoising pass -/
section memo
open PySt
open ProofTie (pub_nil pub_cons proofs_nil proofs_cons executeFull_eq)
open SlotBudget2 (dep depMap SeqP)

/-- the patterns saved in a memory (the `Pattern` entries), in slot order -/
def patsOf : List TTerm → List NPat
  | [] => []
  | .pat p :: r => p :: patsOf r
  | .proved _ :: r => patsOf r

/-- the published axioms of a memory (the `Proved` entries), in slot order -/
def provedOf : List TTerm → List NPat
  | [] => []
  | .pat _ :: r => provedOf r
  | .proved a :: r => a :: provedOf r

theorem patsOf_append (a b : List TTerm) : patsOf (a ++ b) = patsOf a ++ patsOf b := by
  induction a with
  | nil => rfl
  | cons t r ih => cases t <;> simp [patsOf, ih]

theorem provedOf_append (a b : List TTerm) : provedOf (a ++ b) = provedOf a ++ provedOf b := by
  induction a with
  | nil => rfl
  | cons t r ih => cases t <;> simp [provedOf, ih]

theorem patsOf_map_pat (e : List NPat) : patsOf (e.map TTerm.pat) = e := by
  induction e with
  | nil => rfl
  | cons t r ih => simp [patsOf, ih]

theorem provedOf_map_pat (e : List NPat) : provedOf (e.map TTerm.pat) = [] := by
  induction e with
  | nil => rfl
  | cons t r ih => simp [provedOf, ih]

theorem length_split (mem : List TTerm) : mem.length = (patsOf mem).length + (provedOf mem).length := by
  induction mem with
  | nil => rfl
  | cons t r ih => cases t <;> simp [patsOf, provedOf, ih] <;> omega

theorem mem_patsOf {p : NPat} {mem : List TTerm} : p ∈ patsOf mem ↔ TTerm.pat p ∈ mem := by
  induction mem with
  | nil => simp [patsOf]
  | cons t r ih => cases t <;> simp [patsOf, ih]

theorem doCalls_one' {n : Nat} {s s' : PySt} {c : Call} {acc a' : List Call}
    (h : doCalls n s [c] acc = some (some (s', a'))) : track1 n s c = some (some s') := by
  obtain ⟨x, hx, hr⟩ := (doCalls_single n s c acc _).mp h
  cases x with
  | none => simp at hr
  | some s1 => simp at hr; rw [hx, hr.1]

/-- only `save` and `publish_axiom` write to the memory -/
theorem track1_memory (n : Nat) (s s' : PySt) (c : Call) (h : track1 n s c = some (some s'))
    (h1 : c ≠ .save) (h2 : c ≠ .publishAxiom) : s'.memory = s.memory := by
  cases c with
  | save => exact absurd rfl h1
  | publishAxiom => exact absurd rfl h2
  | mp | gen x | publishProof =>
    simp only [track1] at h
    split at h
    · simp only [Option.bind_eq_bind, Option.bind_eq_some_iff] at h
      obtain ⟨o, _, h⟩ := h
      cases o <;> simp at h
      subst h; rfl
    · simp at h
  | instantiate keys =>
    simp only [track1] at h
    split at h
    · split at h
      · simp at h; subst h; rfl
      · split at h
        · simp at h
        · simp only [Option.bind_eq_bind, Option.bind_eq_some_iff] at h
          obtain ⟨o, _, h⟩ := h
          simp at h; subst h; rfl
    · simp at h
  | load t =>
    simp only [track1, Option.bind_eq_bind, Option.bind_eq_some_iff] at h
    obtain ⟨o, _, h⟩ := h
    cases o <;> simp at h
    subst h; rfl
  | _ =>
    -- the other calls answer `some none` or `s` with another stack, phase, symbol table or claim list
    simp only [track1, PySt.push] at h
    repeat' split at h
    all_goals cases h <;> rfl

theorem andThen_some {α β γ} {x : Option (Option (α × β))} {f : α → β → Option (Option γ)} {r : γ}
    (h : andThen x f = some (some r)) : ∃ a b, x = some (some (a, b)) ∧ f a b = some (some r) := by
  rcases andThen_eq_some x f _ h with ⟨_, hc⟩ | h
  · cases hc
  · exact h

theorem andThen3_some {α β γ δ} {x : Option (Option (α × β × γ))} {f : α → β → γ → Option (Option δ)} {r : δ}
    (h : andThen3 x f = some (some r)) : ∃ a b c, x = some (some (a, b, c)) ∧ f a b c = some (some r) := by
  rcases andThen3_eq_some x f _ h with ⟨_, hc⟩ | h
  · cases hc
  · exact h

theorem inMemoryF_false (n : Nat) (p : NPat) : ∀ (mem : List TTerm), inMemoryF n p mem = some false →
    ∀ m ∈ mem, teqF n m (.pat p) = some false := by
  intro mem
  induction mem with
  | nil => intro _ m hm; cases hm
  | cons u r ih =>
    intro h m hm
    simp only [inMemoryF, Option.bind_eq_bind, Option.bind_eq_some_iff] at h
    obtain ⟨b, hb, h⟩ := h
    cases b with
    | true => simp at h
    | false =>
      simp only [Bool.false_eq_true, if_false] at h
      rcases List.mem_cons.mp hm with rfl | hm
      · exact hb
      · exact ih h m hm

/-- the suggestion list of a configuration (`memo = none`: plain `Interpreter.pattern`, nothing is suggested) -/
def suggOf (cfg : Cfg) : List NPat := cfg.memo.getD []

abbrev mcfg (S : List NPat) : Cfg := { memo := some S }

/-- the immediate sub-patterns -/
def kids : NPat → List NPat
  | .imp l r | .app l r => [l, r]
  | .ex _ q | .mu _ q => [q]
  | .esub q _ plug | .ssub q _ plug => [plug, q]
  | .inst q m => q :: m.map (·.2)
  | _ => []

/-- the patterns a proof expression hands to `Interpreter.pattern`: the values of its instantiation maps -/
def plugsOf : Pf → List NPat
  | .mp l r => plugsOf l ++ plugsOf r
  | .gen p _ => plugsOf p
  | .dynInst p δ => plugsOf p ++ δ.map (·.2)
  | _ => []

/-- depth of a list of patterns -/
def dl : List NPat → Nat
  | [] => 0
  | q :: r => max (dep q) (dl r)

theorem dl_map_snd (m : List (Nat × NPat)) : dl (m.map (·.2)) = depMap m := by
  induction m with
  | nil => rfl
  | cons kv r ih => obtain ⟨k, v⟩ := kv; simp [dl, depMap, ih]

/-! The run of a module, for every configuration (`memo = none`: the run the analyser sees; `memo = some S`).  `A` is what is
known of every pattern handed to `Interpreter.pattern` (`hA`: it passes to sub-patterns); `SeqOK`: a pattern with `A` that the
membership test of the suggestion set (`NPat.seq`) matches with a suggestion is shaped, `==` to it and as deep. -/
section run
variable (A : NPat → Prop)

/-- the saved patterns are structurally matched (`seq`) with pairwise DIFFERENT suggestions -/
def Matched (S : List NPat) (mem : List TTerm) : Prop :=
  ∃ pc : List (NPat × NPat), pc.map (·.1) = patsOf mem ∧ (pc.map (·.2)).Nodup ∧
    ∀ x ∈ pc, x.2 ∈ S ∧ A x.1 ∧ NPat.seq x.1 x.2 = true

def SeqOK (S : List NPat) : Prop := ∀ c ∈ S, ∀ a, A a → NPat.seq a c = true → SeqP a c

/-- **saving a suggested pattern**: `p` is matched with the suggestion `c`, was not found in the memory `mem` (`p in memory`
answered `False`), and everything saved since (`e`) is less deep than `p`.  Then `c` is matched with no saved pattern `q`:
`q` would be `==` to `p` (both are `==` to `c`) and as deep as `p`. -/
theorem Matched.save {S : List NPat} (hS : SeqOK A S) {n : Nat} {p c : NPat} {mem : List TTerm} {e : List NPat}
    (hI : Matched A S (mem ++ e.map .pat)) (hmiss : inMemoryF n p mem = some false) (he : ∀ q ∈ e, dep q < dep p)
    (hd : A p) (hc : c ∈ S) (hpc : NPat.seq p c = true) : Matched A S (mem ++ e.map .pat ++ [.pat p]) := by
  obtain ⟨pc, hfst, hnd, hall⟩ := hI
  obtain ⟨hpsh, hpe, hpd⟩ := hS c hc p hd hpc
  have hnot : c ∉ pc.map (·.2) := by
    intro hin
    obtain ⟨x, hx, hxc⟩ := List.mem_map.mp hin
    obtain ⟨_, hqd, hqc⟩ := hall x hx
    rw [hxc] at hqc
    obtain ⟨hqsh, hqe, hqdep⟩ := hS c hc x.1 hqd hqc
    have hqm : x.1 ∈ patsOf (mem ++ e.map .pat) := by rw [← hfst]; exact List.mem_map.mpr ⟨x, hx, rfl⟩
    rw [patsOf_append, patsOf_map_pat] at hqm
    rcases List.mem_append.mp hqm with hqm | hqm
    · have hm := inMemoryF_false n p _ hmiss _ (mem_patsOf.mp hqm)
      simp only [teqF] at hm
      have := NPat.peqF_expand n x.1 p false hqsh hpsh hm
      simp [hqe, hpe] at this
    · have := he x.1 hqm
      rw [hqdep, ← hpd] at this
      exact Nat.lt_irrefl _ this
  refine ⟨pc ++ [(p, c)], ?_, ?_, ?_⟩
  · rw [patsOf_append]; simp [patsOf, hfst]
  · simp only [List.map_append, List.map_cons, List.map_nil]
    refine List.nodup_append.mpr ⟨hnd, by simp, ?_⟩
    intro a ha b hb
    simp at hb; subst hb
    intro hab; exact hnot (hab ▸ ha)
  · intro x hx
    rcases List.mem_append.mp hx with hx | hx
    · exact hall x hx
    · simp at hx; subst hx; exact ⟨hc, hd, hpc⟩

/-- `s'` is `s` with `Pattern`s of depth below `B` appended to the memory, preserving `Matched` -/
def Ext (S : List NPat) (B : Nat) (s s' : PySt) : Prop :=
  ∃ e : List NPat, s'.memory = s.memory ++ e.map TTerm.pat ∧ (∀ q ∈ e, dep q < B) ∧
    (Matched A S s.memory → Matched A S s'.memory)

variable {A}

theorem Ext.same {S : List NPat} {B : Nat} {s s' : PySt} (h : s'.memory = s.memory) : Ext A S B s s' :=
  ⟨[], by simp [h], by simp, by rw [h]; exact id⟩

theorem Ext.mono {S : List NPat} {B B' : Nat} {s s' : PySt} (h : Ext A S B s s') (hb : B ≤ B') : Ext A S B' s s' := by
  obtain ⟨e, he, hq, hi⟩ := h
  exact ⟨e, he, fun q hq' => Nat.lt_of_lt_of_le (hq q hq') hb, hi⟩

theorem Ext.trans {S : List NPat} {B : Nat} {s s1 s2 : PySt} (h1 : Ext A S B s s1) (h2 : Ext A S B s1 s2) :
    Ext A S B s s2 := by
  obtain ⟨e1, he1, hq1, hi1⟩ := h1
  obtain ⟨e2, he2, hq2, hi2⟩ := h2
  refine ⟨e1 ++ e2, by rw [he2, he1]; simp, ?_, fun h => hi2 (hi1 h)⟩
  intro q hq
  rcases List.mem_append.mp hq with h | h
  · exact hq1 q h
  · exact hq2 q h

variable (A)

def PatG (cfg : Cfg) (n : Nat) : Prop :=
  ∀ s p acc s' a', A p → patternF cfg n s p acc = some (some (s', a')) →
    s'.stack = entry p :: s.stack ∧ Ext A (suggOf cfg) (dep p + 1) s s'

def ListG (cfg : Cfg) (n : Nat) : Prop :=
  ∀ s ps acc s' a', (∀ q ∈ ps, A q) → patternF.patternListF cfg n s ps acc = some (some (s', a')) →
    s'.stack = ps.reverse.map entry ++ s.stack ∧ Ext A (suggOf cfg) (dl ps + 1) s s'

variable {A} (hA : ∀ p, A p → ∀ q ∈ kids p, A q)
include hA

theorem build_grow (cfg : Cfg) (n : Nat) (ihP : PatG A cfg n) (ihL : ListG A cfg n) (s : PySt) (p : NPat)
    (acc : List Call) (s' : PySt) (a' : List Call) (hd : A p)
    (h : buildF cfg n s p acc = some (some (s', a'))) :
    s'.stack = entry p :: s.stack ∧ Ext A (suggOf cfg) (dep p) s s' := by
  have hk := hA p hd
  cases p with
  | evar x | svar x | sym x | mv id ef sf ps ns hs =>
    have ht := doCalls_one' h
    simp only [track1, PySt.push, Option.some.injEq] at ht; subst ht
    exact ⟨rfl, Ext.same rfl⟩
  | imp l r | app l r =>
    unfold buildF at h
    obtain ⟨s1, a1, h1, h⟩ := andThen_some h
    obtain ⟨s2, a2, h2, h⟩ := andThen_some h
    obtain ⟨hst1, he1⟩ := ihP _ _ _ _ _ (hk l (by simp [kids])) h1
    obtain ⟨hst2, he2⟩ := ihP _ _ _ _ _ (hk r (by simp [kids])) h2
    have ht := doCalls_one' h
    rw [hst1] at hst2
    simp only [track1, hst2, entry, Option.some.injEq] at ht; subst ht
    refine ⟨rfl, (he1.mono ?_).trans ((he2.mono ?_).trans (Ext.same rfl))⟩ <;> (simp only [dep]; omega)
  | ex x q | mu x q =>
    unfold buildF at h
    obtain ⟨s1, a1, h1, h⟩ := andThen_some h
    obtain ⟨hst1, he1⟩ := ihP _ _ _ _ _ (hk q (by simp [kids])) h1
    have ht := doCalls_one' h
    simp only [track1, hst1, entry, Option.some.injEq] at ht; subst ht
    refine ⟨rfl, (he1.mono ?_).trans (Ext.same rfl)⟩; simp only [dep]; omega
  | esub q x plug | ssub q x plug =>
    unfold buildF at h
    obtain ⟨s1, a1, h1, h⟩ := andThen_some h
    obtain ⟨s2, a2, h2, h⟩ := andThen_some h
    obtain ⟨hst1, he1⟩ := ihP _ _ _ _ _ (hk plug (by simp [kids])) h1
    obtain ⟨hst2, he2⟩ := ihP _ _ _ _ _ (hk q (by simp [kids])) h2
    have ht := doCalls_one' h
    rw [hst1] at hst2
    simp only [track1, hst2, entry] at ht
    split at ht
    · simp only [Option.some.injEq] at ht; subst ht
      refine ⟨rfl, (he1.mono ?_).trans ((he2.mono ?_).trans (Ext.same rfl))⟩ <;> (simp only [dep]; omega)
    · simp at ht
  | inst q m =>
    unfold buildF at h
    obtain ⟨s1, a1, h1, h⟩ := andThen_some h
    obtain ⟨s2, a2, h2, h⟩ := andThen_some h
    obtain ⟨hst1, he1⟩ := ihL _ _ _ _ _ (fun v hv => hk v (List.mem_cons_of_mem _ hv)) h1
    obtain ⟨hst2, he2⟩ := ihP _ _ _ _ _ (hk q (by simp [kids])) h2
    have ht := doCalls_one' h
    rw [hst1] at hst2
    have htp := takePlugs_rev ((m.map (·.2)).reverse) s.stack
    have hlen : ((m.map (·.2)).reverse).length = (m.map (·.1)).length := by simp
    rw [hlen, List.reverse_reverse] at htp
    simp only [track1, hst2, entry] at ht
    rw [htp] at ht
    simp only [Option.some.injEq, zip_keys_vals] at ht; subst ht
    rw [dl_map_snd] at he1
    refine ⟨rfl, (he1.mono ?_).trans ((he2.mono ?_).trans (Ext.same rfl))⟩ <;> (simp only [dep]; omega)

theorem pat_grow_step (cfg : Cfg) (hS : SeqOK A (suggOf cfg)) (n : Nat) (ihP : PatG A cfg n) (ihL : ListG A cfg n) :
    PatG A cfg (n + 1) := by
  intro s p acc s' a' hd h
  rw [patternF_succ] at h
  obtain ⟨hit, hhit, h⟩ := Option.bind_eq_some_iff.mp h
  cases hit with
  | true =>
    have ht := doCalls_one' (show doCalls n s [.load (.pat p)] acc = some (some (s', a')) from h)
    simp only [track1, Option.bind_eq_bind, Option.bind_eq_some_iff] at ht
    obtain ⟨o, _, ht⟩ := ht
    cases o with
    | none => simp at ht
    | some i =>
      simp only [Option.pure_def, Option.some.injEq] at ht; subst ht
      exact ⟨rfl, Ext.same rfl⟩
  | false =>
    simp only [Bool.false_eq_true, if_false] at h
    obtain ⟨s1, a1, hb, h⟩ := andThen_some h
    obtain ⟨hst, he⟩ := build_grow hA cfg n ihP ihL _ _ _ _ _ hd hb
    obtain ⟨memo⟩ := cfg
    cases memo with
    | none =>
      cases h
      exact ⟨hst, he.mono (Nat.le_succ _)⟩
    | some S =>
      simp only [memoHitF] at hhit
      simp only [saveF] at h
      split at h
      · rename_i hsug
        have ht := doCalls_one' h
        simp only [track1, hst, entry, Option.some.injEq] at ht; subst ht
        obtain ⟨e, hmem, hq, hinv⟩ := he
        obtain ⟨c, hc, hpc⟩ := List.any_eq_true.mp hsug
        refine ⟨rfl, e ++ [p], by simp [hmem], ?_, fun hI => ?_⟩
        · intro q hq'
          rcases List.mem_append.mp hq' with hq' | hq'
          · exact Nat.lt_succ_of_lt (hq q hq')
          · simp at hq'; subst hq'; exact Nat.lt_succ_self _
        · show Matched A S (s1.memory ++ [TTerm.pat p])
          rw [hmem]
          exact Matched.save A hS (hmem ▸ hinv hI) hhit hq hd hc hpc
      · cases h; exact ⟨hst, he.mono (Nat.le_succ _)⟩

omit hA in
theorem list_grow_step (cfg : Cfg) (n : Nat) (ihP : PatG A cfg n) (ihL : ListG A cfg n) : ListG A cfg (n + 1) := by
  intro s ps acc s' a' hd h
  cases ps with
  | nil =>
    cases h
    exact ⟨by simp, Ext.same rfl⟩
  | cons p r =>
    rw [patternListF_cons] at h
    obtain ⟨s1, a1, h1, h⟩ := andThen_some h
    obtain ⟨hst1, he1⟩ := ihP _ _ _ _ _ (hd p (by simp)) h1
    obtain ⟨hst2, he2⟩ := ihL _ _ _ _ _ (fun q hq => hd q (List.mem_cons_of_mem _ hq)) h
    refine ⟨by rw [hst2, hst1]; simp, (he1.mono ?_).trans (he2.mono ?_)⟩ <;> (simp only [dl]; omega)

theorem pat_grow (cfg : Cfg) (hS : SeqOK A (suggOf cfg)) (n : Nat) : PatG A cfg n ∧ ListG A cfg n := by
  induction n with
  | zero =>
    constructor
    · intro s p acc s' a' _ h; simp [patternF] at h
    · intro s ps acc s' a' _ h; simp [patternF.patternListF] at h
  | succ n ih => exact ⟨pat_grow_step hA cfg hS n ih.1 ih.2, list_grow_step cfg n ih.1 ih.2⟩

/-! ### proof expressions, the three phases -/

variable (A) in
/-- the invariant of a run: the saved patterns are matched with pairwise different suggestions, the `Proved` entries are the
axioms published so far -/
def Inv (S : List NPat) (k : List NPat) (s : PySt) : Prop := Matched A S s.memory ∧ provedOf s.memory = k

omit hA in
theorem Inv.ext {S : List NPat} {B : Nat} {k : List NPat} {s s' : PySt} (h : Ext A S B s s') (hi : Inv A S k s) :
    Inv A S k s' := by
  obtain ⟨e, hm, _, hinv⟩ := h
  exact ⟨hinv hi.1, by rw [hm, provedOf_append, provedOf_map_pat, hi.2]; simp⟩

omit hA in
theorem Inv.call {S : List NPat} {k : List NPat} {n : Nat} {s s' : PySt} {c : Call} {acc a' : List Call}
    (h : doCalls n s [c] acc = some (some (s', a'))) (h1 : c ≠ .save) (h2 : c ≠ .publishAxiom) (hi : Inv A S k s) :
    Inv A S k s' := by
  unfold Inv; rw [track1_memory n s s' c (doCalls_one' h) h1 h2]; exact hi

omit hA in
theorem checkF_state {ax : List NPat} {n : Nat} {pf : Pf} {s1 s' : PySt} {a1 a' : List Call} {c : NPat}
    (h : checkF ax n pf s1 a1 = some (some (s', a', c))) : s' = s1 := by
  unfold checkF at h
  split at h
  · obtain ⟨o, _, h⟩ := Option.bind_eq_some_iff.mp h
    cases o with
    | none => simp at h
    | some adv =>
      simp only at h
      obtain ⟨e, _, h⟩ := Option.bind_eq_some_iff.mp h
      cases e <;> simp at h
      exact h.1.symm
  · simp at h

/-- the `Pf` language has no `save`: a proof expression writes to the memory only through the patterns of a `dynInst` -/
theorem run_grow (cfg : Cfg) (hS : SeqOK A (suggOf cfg)) (ax : List NPat) : ∀ (n : Nat) (s : PySt) (pf : Pf)
    (acc : List Call) (s' : PySt) (a' : List Call) (c : NPat) (k : List NPat), (∀ q ∈ plugsOf pf, A q) →
    Pf.runF cfg ax n s pf acc = some (some (s', a', c)) → Inv A (suggOf cfg) k s → Inv A (suggOf cfg) k s' := by
  intro n
  induction n with
  | zero => intro s pf acc s' a' c k _ h; simp [Pf.runF] at h
  | succ n ih =>
    intro s pf acc s' a' c k hd h hi
    rw [runF_succ] at h
    obtain ⟨s1, a1, hraw, hchk⟩ := andThen_some h
    have := checkF_state hchk
    subst this
    cases pf with
    | prop1 | prop2 | prop3 | quantifier | loadAxiom a => exact Inv.call hraw Call.noConfusion Call.noConfusion hi
    | mp l r =>
      unfold rawF at hraw
      obtain ⟨s2, a2, c2, h1, hraw⟩ := andThen3_some hraw
      obtain ⟨s3, a3, c3, h2, hraw⟩ := andThen3_some hraw
      exact Inv.call hraw Call.noConfusion Call.noConfusion
        (ih _ _ _ _ _ _ _ (fun q hq => hd q (by simp [plugsOf, hq])) h2
          (ih _ _ _ _ _ _ _ (fun q hq => hd q (by simp [plugsOf, hq])) h1 hi))
    | gen p x =>
      unfold rawF at hraw
      obtain ⟨s2, a2, c2, h1, hraw⟩ := andThen3_some hraw
      exact Inv.call hraw Call.noConfusion Call.noConfusion (ih _ p _ _ _ _ _ hd h1 hi)
    | dynInst p δ =>
      simp only [rawF] at hraw
      have hdp : ∀ q ∈ plugsOf p, A q := fun q hq => hd q (by simp [plugsOf, hq])
      split at hraw
      · obtain ⟨s2, a2, c2, h1, hraw⟩ := andThen3_some hraw
        cases hraw
        exact ih _ _ _ _ _ _ _ hdp h1 hi
      · obtain ⟨s2, a2, h1, hraw⟩ := andThen_some hraw
        obtain ⟨s3, a3, c3, h2, hraw⟩ := andThen3_some hraw
        obtain ⟨_, he⟩ := (pat_grow hA cfg hS n).2 _ _ _ _ _ (fun q hq => hd q (List.mem_append_right _ hq)) h1
        exact Inv.call hraw Call.noConfusion Call.noConfusion (ih _ _ _ _ _ _ _ hdp h2 (Inv.ext he hi))

/-- the gamma phase: every axiom is compiled (suggested sub-patterns are saved once) and takes one slot when published -/
theorem pub_axiom_grow (cfg : Cfg) (hS : SeqOK A (suggOf cfg)) (n : Nat) : ∀ (l : List NPat) (s : PySt)
    (acc : List Call) (s' : PySt) (a' : List Call) (k : List NPat), (∀ a ∈ l, A a) →
    PModule.executeFull.pub cfg n s acc .publishAxiom l = some (some (s', a')) → Inv A (suggOf cfg) k s →
    Inv A (suggOf cfg) (k ++ l) s' := by
  intro l
  induction l with
  | nil =>
    intro s acc s' a' k _ h hi
    rw [pub_nil] at h; cases h
    simpa using hi
  | cons a r ih =>
    intro s acc s' a' k hd h hi
    rw [pub_cons] at h
    obtain ⟨s1, a1, h1, h⟩ := andThen_some h
    obtain ⟨s2, a2, h2, h⟩ := andThen_some h
    obtain ⟨hst, he⟩ := (pat_grow hA cfg hS n).1 _ _ _ _ _ (hd a (by simp)) h1
    obtain ⟨hmi, hk⟩ := Inv.ext he hi
    have ht := doCalls_one' h2
    have hi2 : Inv A (suggOf cfg) (k ++ [a]) s2 := by
      cases hph : s1.phase <;> simp only [track1, hph, hst, entry] at ht
      · cases ht
        refine ⟨?_, by simp [provedOf_append, hk, provedOf]⟩
        unfold Matched at hmi ⊢
        simpa [patsOf_append, patsOf] using hmi
      · simp at ht
      · simp at ht
    have := ih _ _ _ _ _ (fun b hb => hd b (List.mem_cons_of_mem _ hb)) h hi2
    simpa using this

theorem pub_claim_grow (cfg : Cfg) (hS : SeqOK A (suggOf cfg)) (n : Nat) : ∀ (l : List NPat) (s : PySt)
    (acc : List Call) (s' : PySt) (a' : List Call) (k : List NPat), (∀ a ∈ l, A a) →
    PModule.executeFull.pub cfg n s acc .publishClaim l = some (some (s', a')) → Inv A (suggOf cfg) k s →
    Inv A (suggOf cfg) k s' := by
  intro l
  induction l with
  | nil =>
    intro s acc s' a' k _ h hi
    rw [pub_nil] at h; cases h
    exact hi
  | cons a r ih =>
    intro s acc s' a' k hd h hi
    rw [pub_cons] at h
    obtain ⟨s1, a1, h1, h⟩ := andThen_some h
    obtain ⟨s2, a2, h2, h⟩ := andThen_some h
    obtain ⟨_, he⟩ := (pat_grow hA cfg hS n).1 _ _ _ _ _ (hd a (by simp)) h1
    exact ih _ _ _ _ _ (fun b hb => hd b (List.mem_cons_of_mem _ hb)) h (Inv.call h2 Call.noConfusion Call.noConfusion (Inv.ext he hi))

theorem proofs_grow (cfg : Cfg) (hS : SeqOK A (suggOf cfg)) (m : PModule) (n : Nat) : ∀ (l : List Pf) (s : PySt)
    (acc : List Call) (s' : PySt) (a' : List Call) (k : List NPat), (∀ pf ∈ l, ∀ q ∈ plugsOf pf, A q) →
    PModule.executeFull.proofs cfg m n s acc l = some (some (s', a')) → Inv A (suggOf cfg) k s →
    Inv A (suggOf cfg) k s' := by
  intro l
  induction l with
  | nil =>
    intro s acc s' a' k _ h hi
    rw [proofs_nil] at h; cases h
    exact hi
  | cons pf r ih =>
    intro s acc s' a' k hd h hi
    rw [proofs_cons] at h
    obtain ⟨s1, a1, c1, h1, h⟩ := andThen3_some h
    obtain ⟨s2, a2, h2, h⟩ := andThen_some h
    exact ih _ _ _ _ _ (fun b hb => hd b (List.mem_cons_of_mem _ hb)) h
      (Inv.call h2 Call.noConfusion Call.noConfusion (run_grow hA cfg hS _ n _ _ _ _ _ _ _ (hd pf (by simp)) h1 hi))

/-- **the memory of a run, any configuration**: the `Pattern` entries are `seq`-matched with pairwise different
suggestions; the `Proved` entries are exactly the published axioms `gammaAxioms` (imports included, one slot per
occurrence) -/
theorem executeFull_matched (cfg : Cfg) (hS : SeqOK A (suggOf cfg)) (n : Nat) (m : PModule)
    (hax : ∀ a ∈ m.gammaAxioms, A a) (hcl : ∀ a ∈ m.claimsOf, A a) (hpf : ∀ pf ∈ m.proofsOf, ∀ q ∈ plugsOf pf, A q)
    (s : PySt) (calls : List Call) (h : PModule.executeFull cfg n m = some (some (s, calls))) :
    Matched A (suggOf cfg) s.memory ∧ provedOf s.memory = m.gammaAxioms := by
  rw [executeFull_eq] at h
  obtain ⟨s1, a1, h1, h⟩ := andThen_some h
  obtain ⟨s2, a2, h2, h⟩ := andThen_some h
  obtain ⟨s3, a3, h3, h⟩ := andThen_some h
  obtain ⟨s4, a4, h4, h⟩ := andThen_some h
  have hi0 : Inv A (suggOf cfg) [] (PySt.init m.claimsOf) :=
    ⟨⟨[], by simp [PySt.init, patsOf], by simp, by simp⟩, rfl⟩
  have hi1 := pub_axiom_grow hA cfg hS n _ _ _ _ _ _ hax h1 hi0
  have hi2 := Inv.call h2 Call.noConfusion Call.noConfusion hi1
  have hi3 := pub_claim_grow hA cfg hS n _ _ _ _ _ _ (fun a ha => hcl a (List.mem_reverse.mp ha)) h3 hi2
  have hi4 := Inv.call h4 Call.noConfusion Call.noConfusion hi3
  have hi5 := proofs_grow hA cfg hS m n _ _ _ _ _ _ hpf h hi4
  simp only [List.nil_append] at hi5
  exact hi5

end run

/-- what is assumed of the suggestion list: its elements are shaped (the standing assumption of C12/C08: the API typing of
`MetaVar`/`ESubst`/`SSubst`), and the structural comparison `NPat.seq` (hash + field equality of the frozen dataclasses,
the `in` test of the suggestion SET) matches an element with itself only.  `seq` compares the maps of notation nodes as
finite maps, so this fails only for two `Instantiate` objects whose `frozendict`s list the same bindings in different
orders; `canonical_of_noInst` discharges it for suggestions without notation nodes. -/
structure Canonical (S : List NPat) : Prop where
  shape : ∀ c ∈ S, c.Shape = true
  canon : ∀ c ∈ S, ∀ a, NPat.seq a c = true → a = c

/-- the saved patterns are pairwise different elements of the suggestion list -/
def MemInv (S : List NPat) (mem : List TTerm) : Prop :=
  (patsOf mem).Nodup ∧ ∀ p ∈ patsOf mem, p ∈ S

theorem Matched.canonical {S : List NPat} (hS : Canonical S) {mem : List TTerm} (h : Matched (fun _ => True) S mem) :
    MemInv S mem := by
  obtain ⟨pc, hfst, hnd, hall⟩ := h
  have he : pc.map (·.1) = pc.map (·.2) :=
    List.map_congr_left fun x hx => hS.canon _ (hall x hx).1 _ (hall x hx).2.2
  rw [MemInv, ← hfst, he]
  exact ⟨hnd, fun p hp => by obtain ⟨x, hx, rfl⟩ := List.mem_map.mp hp; exact (hall x hx).1⟩

/-- **the memory of a memoising run**: when `execute_full` on `MemoizingInterpreter(.., S)` succeeds, the `Pattern`
entries of the final memory are pairwise different elements of `S` (each suggestion is saved at most once) and the
`Proved` entries are exactly the published axioms `gammaAxioms` (imports included, one slot per occurrence) -/
theorem executeFull_memory (S : List NPat) (hS : Canonical S) (n : Nat) (m : PModule) (s : PySt) (calls : List Call)
    (h : PModule.executeFull (mcfg S) n m = some (some (s, calls))) :
    MemInv S s.memory ∧ provedOf s.memory = m.gammaAxioms := by
  have hseq : SeqOK (fun _ => True) S := fun c hc a _ hac => by
    cases hS.canon c hc a hac; exact ⟨hS.shape c hc, rfl, rfl⟩
  obtain ⟨hI, hk⟩ := executeFull_matched (A := fun _ => True) (fun _ _ _ _ => trivial) (mcfg S) hseq n m
    (fun _ _ => trivial) (fun _ _ => trivial) (fun _ _ _ _ => trivial) s calls h
  exact ⟨hI.canonical hS, hk⟩

/-- the number of slots a memoising run uses: at most one per suggestion plus one per published axiom -/
theorem executeFull_memory_length (S : List NPat) (hS : Canonical S) (n : Nat) (m : PModule) (s : PySt)
    (calls : List Call) (h : PModule.executeFull (mcfg S) n m = some (some (s, calls))) :
    s.memory.length ≤ S.length + m.gammaAxioms.length := by
  obtain ⟨⟨hnd, hsub⟩, hk⟩ := executeFull_memory S hS n m s calls h
  rw [length_split, hk]
  exact Nat.add_le_add_right (List.Nodup.length_le_of_subset hnd hsub) _

/-! ### the slot operands the serializer writes -/

/-- every `Load` operand of an instruction list is below `N` -/
def SlotsBelow (N : Nat) (is : List Instr) : Prop := ∀ i, Instr.load i ∈ is → i < N

def AllBelow (N : Nat) (out : List Instr × List Instr × List Instr) : Prop :=
  SlotsBelow N out.1 ∧ SlotsBelow N out.2.1 ∧ SlotsBelow N out.2.2

theorem SlotsBelow.mono {N N' : Nat} {is : List Instr} (h : SlotsBelow N is) (hn : N ≤ N') : SlotsBelow N' is :=
  fun i hi => Nat.lt_of_lt_of_le (h i hi) hn

theorem SlotsBelow.append {N : Nat} {is js : List Instr} (h1 : SlotsBelow N is) (h2 : SlotsBelow N js) :
    SlotsBelow N (is ++ js) := by
  intro i hi
  rcases List.mem_append.mp hi with hi | hi
  · exact h1 i hi
  · exact h2 i hi

theorem AllBelow.nil (N : Nat) : AllBelow N ([], [], []) := by
  unfold AllBelow SlotsBelow
  refine ⟨?_, ?_, ?_⟩ <;> intro i hi <;> cases hi

theorem AllBelow.mono {N N' : Nat} {out : List Instr × List Instr × List Instr} (h : AllBelow N out) (hn : N ≤ N') :
    AllBelow N' out := ⟨h.1.mono hn, h.2.1.mono hn, h.2.2.mono hn⟩

theorem AllBelow.addOut {N : Nat} {out : List Instr × List Instr × List Instr} {is : List Instr} (ph : Phase)
    (h : AllBelow N out) (hi : SlotsBelow N is) : AllBelow N (addOut ph out is) := by
  cases ph
  · exact ⟨h.1.append hi, h.2.1, h.2.2⟩
  · exact ⟨h.1, h.2.1.append hi, h.2.2⟩
  · exact ⟨h.1, h.2.1, h.2.2.append hi⟩

theorem indexF_lt (n : Nat) (t : TTerm) : ∀ (mem : List TTerm) (k i : Nat),
    indexF n t mem k = some (some i) → i < k + mem.length := by
  intro mem
  induction mem with
  | nil => intro k i h; simp [indexF] at h
  | cons u r ih =>
    intro k i h
    simp only [indexF, Option.bind_eq_bind, Option.bind_eq_some_iff] at h
    obtain ⟨b, _, h⟩ := h
    cases b with
    | true => simp at h; subst h; simp
    | false =>
      simp only [Bool.false_eq_true, if_false] at h
      have := ih (k + 1) i h
      simp only [List.length_cons]; omega

/-- a `load` is written with the index of an existing slot; no other call writes a slot operand -/
theorem emit1_slots (n : Nat) (s : PySt) (c : Call) (is : List Instr) (h : emit1 n s c = some (some is)) :
    SlotsBelow s.memory.length is := by
  intro i hi
  cases c with
  | load t =>
    simp only [emit1, Option.bind_eq_bind, Option.bind_eq_some_iff] at h
    obtain ⟨o, ho, h⟩ := h
    cases o with
    | none => simp at h
    | some j =>
      simp only [Option.pure_def, Option.some.injEq] at h; subst h
      simp only [List.mem_singleton, Instr.load.injEq] at hi; subst hi
      simpa using indexF_lt n t s.memory 0 i ho
  | metavar id ef sf ps ns hs =>
    simp only [emit1] at h
    split at h <;> (cases h; simp at hi)
  | _ =>
    cases h; simp at hi

/-- the memory only grows -/
theorem track1_memory_le (n : Nat) (s s' : PySt) (c : Call) (h : track1 n s c = some (some s')) :
    s.memory.length ≤ s'.memory.length := by
  by_cases h1 : c = .save
  · subst h1
    simp only [track1] at h
    split at h
    · cases h; simp
    · simp at h
  · by_cases h2 : c = .publishAxiom
    · subst h2
      simp only [track1] at h
      split at h
      · cases h; simp
      · simp at h
    · rw [track1_memory n s s' c h h1 h2]; exact Nat.le_refl _

/-- **slot operands of a serialisation**: whatever history the serializer is driven with, every `Load` operand it writes
(in any of the three streams) is below the final number of memory slots -/
theorem trackAll_slots (n : Nat) : ∀ (cs : List Call) (s s' : PySt) (out out' : List Instr × List Instr × List Instr),
    trackAll n s cs out = some (some (s', out')) → AllBelow s.memory.length out →
    s.memory.length ≤ s'.memory.length ∧ AllBelow s'.memory.length out' := by
  intro cs
  induction cs with
  | nil =>
    intro s s' out out' h hb
    cases h
    exact ⟨Nat.le_refl _, hb⟩
  | cons c cs ih =>
    intro s s' out out' h hb
    obtain ⟨is, s1, he, hs, h⟩ := trackAll_cons n s s' c cs out out' h
    have hle := track1_memory_le n s s1 c hs
    have hb1 : AllBelow s1.memory.length (addOut s.phase out is) :=
      (AllBelow.addOut s.phase hb (emit1_slots n s c is he)).mono hle
    obtain ⟨hle2, hb2⟩ := ih s1 s' _ out' h hb1
    exact ⟨Nat.le_trans hle hle2, hb2⟩

/-- every `Load i` instruction with `i` below 256 is a wire byte string (the opcode and the one-byte operand) -/
theorem wire_load (i : Nat) (h : i < 256) : Wire (encode [Instr.load i]) := by
  intro b hb
  simp [encode, encode1] at hb
  rcases hb with rfl | rfl
  · decide
  · exact h

/-! ### suggestion lists that are `Canonical` -/

/-- no notation node (`Instantiate`) anywhere in the pattern -/
def noInst : NPat → Bool
  | .inst .. => false
  | .imp l r => noInst l && noInst r
  | .app l r => noInst l && noInst r
  | .ex _ p => noInst p
  | .mu _ p => noInst p
  | .esub p _ q => noInst p && noInst q
  | .ssub p _ q => noInst p && noInst q
  | _ => true

/-- on patterns without notation nodes the structural comparison is equality.  By the induction principle of `NPat.seq`:
cases 1–5 are the clauses of `seqMap` and `seqAt`, 6–16 the eleven clauses with equal head constructors, in the order
of the definition, 17 the last clause (different heads: `seq` answers `false`) -/
theorem seq_eq_of_noInst (c : NPat) (hc : noInst c = true) (a : NPat) (h : NPat.seq a c = true) : a = c := by
  revert hc h
  apply NPat.seq.induct (motive1 := fun _ _ => True) (motive2 := fun _ _ _ => True)
    (motive3 := fun a c => noInst c = true → NPat.seq a c = true → a = c)
  case case6 | case7 | case8 => intro a b _ h; simpa [NPat.seq] using h
  case case9 | case10 =>
    intro a b c d ih1 ih2 hc h
    simp only [noInst, NPat.seq, Bool.and_eq_true] at hc h
    rw [ih1 hc.1 h.1, ih2 hc.2 h.2]
  case case11 | case12 =>
    intro x a y b ih hc h
    simp only [noInst, NPat.seq, Bool.and_eq_true, beq_iff_eq] at hc h
    rw [ih hc h.2, h.1]
  case case13 =>
    intro a b c d e f a' b' c' d' e' f' _ h
    simp only [NPat.seq, Bool.and_eq_true, beq_iff_eq] at h
    obtain ⟨⟨⟨⟨⟨rfl, rfl⟩, rfl⟩, rfl⟩, rfl⟩, rfl⟩ := h; rfl
  case case14 | case15 =>
    intro p x q p' x' q' ih1 ih2 hc h
    simp only [noInst, NPat.seq, Bool.and_eq_true, beq_iff_eq] at hc h
    rw [ih1 hc.1 h.1.1, ih2 hc.2 h.2, h.1.2]
  case case16 => intro p m p' m' _ _ hc; simp [noInst] at hc
  case case17 =>
    intro a c h1 h2 h3 h4 h5 h6 h7 h8 h9 h10 h11 _ h
    rw [NPat.seq] at h <;> first | cases h | assumption
  all_goals intros; trivial

theorem canonical_of_noInst (S : List NPat) (hs : ∀ c ∈ S, c.Shape = true) (hn : ∀ c ∈ S, noInst c = true) :
    Canonical S :=
  ⟨hs, fun c hc a h => seq_eq_of_noInst c (hn c hc) a h⟩

end memo

end SlotBudget
