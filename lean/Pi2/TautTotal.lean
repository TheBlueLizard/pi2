import Pi2.TautThm
import Pi2.TautTie
/-!
# The model of the tautology prover terminates: fuel sufficiency

`proveTautology : Nat → Form → Option (Option Bool)` (`Pi2.Taut`) takes a fuel that bounds (a) the recursion depth of
`to_cnf` and (b) the number of iterations of the two nested `for` loops of `resolution_algorithm` over the GROWING list.
This file shows that an explicit, computable amount of fuel always suffices, so that the outer `Option` of the model is
`some _` on every propositional pattern:

* fuel monotonicity of the saturation loop, of `Res.start` and of `proveTautology` (`loop_mono_le`, `start_mono_le`,
  `proveTautology_mono_le`; that of `toCnfF` is `TautTie.toCnfF_mono_le`);
* the saturation loop terminates (`loop_terminates`): the list only ever receives a resolvent that is NOT yet in it
  (`res_set in hint`, the keys of `hint` being exactly the list), every member is a canonical clause (a strictly increasing
  list of literals) over the literals `U` of the initial list, and there are at most `2 ^ |U|` such clauses; hence the list
  never grows beyond `M = 2 ^ |U|` and the index machine `(i, j)` makes at most `(M + 1) * (M + 2)` steps;
* every normal-form stage answers (`CF.propagNeg_spec`, `CF.toCnfF_weight`, `CF.toClauses_spec` of `Pi2.TautThm`);
* `proveTautology_total`: `bound f` fuel suffices, `bound` computable.
-/
set_option linter.unusedSimpArgs false
set_option linter.unusedVariables false

namespace Res

/-! ## fuel monotonicity of the saturation loop -/

theorem loop_succ (fuel : Nat) (l : List (List Int)) (i j : Nat) :
    loop (fuel + 1) l i j =
      match l[i]? with
      | none => some false
      | some cl1 =>
        if j ≥ i then loop fuel l (i + 1) 0 else
        match l[j]? with
        | none => loop fuel l (i + 1) 0
        | some cl2 =>
          match resolvable cl1 cl2 with
          | none => loop fuel l i (j + 1)
          | some (_, res) =>
            if l.contains res then loop fuel l i (j + 1)
            else if res.isEmpty then some true
            else loop fuel (l ++ [res]) i (j + 1) := rfl

/-- more fuel does not change an answer of the saturation loop -/
theorem loop_mono : ∀ (fuel : Nat) (l : List (List Int)) (i j : Nat) (b : Bool),
    loop fuel l i j = some b → loop (fuel + 1) l i j = some b := by
  intro fuel
  induction fuel with
  | zero => intro l i j b h; simp [loop] at h
  | succ n ih =>
    intro l i j b h
    rw [loop_succ] at h ⊢
    split
    · next h1 => simpa [h1] using h
    · next cl1 h1 =>
      simp only [h1] at h
      split
      · next hji => rw [if_pos hji] at h; exact ih _ _ _ _ h
      · next hji =>
        rw [if_neg hji] at h
        split
        · next h2 => simp only [h2] at h; exact ih _ _ _ _ h
        · next cl2 h2 =>
          simp only [h2] at h
          split
          · next hr => simp only [hr] at h; exact ih _ _ _ _ h
          · next r res hr =>
            simp only [hr] at h
            split
            · next hc => rw [if_pos hc] at h; exact ih _ _ _ _ h
            · next hc =>
              rw [if_neg hc] at h
              split
              · next he => rw [if_pos he] at h; exact h
              · next he => rw [if_neg he] at h; exact ih _ _ _ _ h

theorem loop_mono_le (fuel fuel' : Nat) (hk : fuel ≤ fuel') (l : List (List Int)) (i j : Nat) (b : Bool)
    (h : loop fuel l i j = some b) : loop fuel' l i j = some b := by
  induction hk with
  | refl => exact h
  | step _ ih => exact loop_mono _ _ _ _ _ ih

/-- more fuel does not change an answer of `Res.start` -/
theorem start_mono_le (fuel fuel' : Nat) (hk : fuel ≤ fuel') (cls : List (List Int)) (x : Option Bool)
    (h : start fuel cls = some x) : start fuel' cls = some x := by
  unfold start at h ⊢
  simp only [] at h ⊢
  by_cases he : cls.isEmpty = true
  · simpa [he] using h
  · by_cases hi : (initial cls).isEmpty = true
    · simpa [he, hi] using h
    · simp only [he, hi, Bool.false_eq_true, if_false] at h ⊢
      cases hl : loop fuel (initial cls) 0 0 with
      | none => simp [hl] at h
      | some b =>
        rw [loop_mono_le fuel fuel' hk _ _ _ b hl]
        simpa [hl] using h

end Res

/-- more fuel does not change an answer of the model -/
theorem proveTautology_mono_le (fuel fuel' : Nat) (hk : fuel ≤ fuel') (f : Form) (x : Option Bool)
    (h : proveTautology fuel f = some x) : proveTautology fuel' f = some x := by
  cases hb : (CF.ofForm (Form.neg f)).isBot with
  | true =>
    unfold proveTautology at h ⊢
    cases hc : CF.ofForm (Form.neg f) with
    | bot b => cases b <;> simpa [hc] using h
    | var b i => simp [hc, CF.isBot] at hb
    | or b l r => simp [hc, CF.isBot] at hb
    | and b l r => simp [hc, CF.isBot] at hb
  | false =>
    rw [TautTie.proveTautology_nonbot _ f hb] at h ⊢
    simp only [Option.bind_eq_bind, Option.bind_eq_some_iff] at h ⊢
    obtain ⟨nt, hn, cnf, hcnf, cls, hcls, sx, hs, hx⟩ := h
    exact ⟨nt, hn, cnf, TautTie.toCnfF_mono_le fuel fuel' hk nt cnf hcnf, cls, hcls, sx,
      Res.start_mono_le fuel fuel' hk cls sx hs, hx⟩

/-! ## counting: duplicate-free lists of canonical clauses over a finite set of literals -/

namespace Res

/-- a duplicate-free list whose members all occur in `s` is not longer than `s` -/
theorem nodup_length_le {α} [DecidableEq α] : ∀ (s l : List α), l.Nodup → (∀ x ∈ l, x ∈ s) → l.length ≤ s.length := by
  intro s
  induction s with
  | nil =>
    intro l _ hs
    cases l with
    | nil => simp
    | cons a r => exact absurd (hs a (by simp)) (by simp)
  | cons a s ih =>
    intro l hnd hs
    have h1 : (l.erase a).Nodup := hnd.erase a
    have h2 : ∀ x ∈ l.erase a, x ∈ s := by
      intro x hx
      obtain ⟨hne, hxl⟩ := (hnd.mem_erase_iff).mp hx
      rcases List.mem_cons.mp (hs x hxl) with h | h
      · exact absurd h hne
      · exact h
    have h3 := ih _ h1 h2
    rw [List.length_erase] at h3
    simp only [List.length_cons]
    split at h3 <;> omega

/-- all sublists (in order) of a list of literals -/
def subs : List Int → List (List Int)
  | [] => [[]]
  | a :: r => subs r ++ (subs r).map (a :: ·)

theorem length_subs (u : List Int) : (subs u).length = 2 ^ u.length := by
  induction u with
  | nil => rfl
  | cons a r ih => simp only [subs, List.length_append, List.length_map, ih, List.length_cons, Nat.pow_succ]; omega

/-- a strictly increasing list over the members of a strictly increasing list is one of its sublists -/
theorem mem_subs : ∀ (u : List Int), u.Pairwise (· < ·) → ∀ c : List Int, c.Pairwise (· < ·) →
    (∀ x ∈ c, x ∈ u) → c ∈ subs u := by
  intro u
  induction u with
  | nil =>
    intro _ c _ hs
    cases c with
    | nil => simp [subs]
    | cons x r => exact absurd (hs x (by simp)) (by simp)
  | cons a u ih =>
    intro hu c hc hs
    obtain ⟨hau, hu'⟩ := List.pairwise_cons.mp hu
    simp only [subs, List.mem_append, List.mem_map]
    cases c with
    | nil => exact Or.inl (ih hu' [] List.Pairwise.nil (by simp))
    | cons x r =>
      obtain ⟨hxr, hr⟩ := List.pairwise_cons.mp hc
      by_cases hxa : x = a
      · subst hxa
        refine Or.inr ⟨r, ih hu' r hr ?_, rfl⟩
        intro y hy
        rcases List.mem_cons.mp (hs y (List.mem_cons_of_mem _ hy)) with h | h
        · have := hxr y hy; omega
        · exact h
      · refine Or.inl (ih hu' (x :: r) hc ?_)
        have hxu : x ∈ u := by
          rcases List.mem_cons.mp (hs x (by simp)) with h | h
          · exact absurd h hxa
          · exact h
        have hax : a < x := hau x hxu
        intro y hy
        rcases List.mem_cons.mp (hs y hy) with h | h
        · exfalso
          rcases List.mem_cons.mp hy with h' | h'
          · omega
          · have := hxr y h'; omega
        · exact h

/-- the number of canonical clauses over the literals `U` (crude: every subset of the literals, `2 ^ |U|`) -/
def cap (U : List Int) : Nat := 2 ^ (canon U).length

/-- what the saturation loop maintains of its list: no duplicates; every member is a canonical clause (strictly
increasing) over the literals `U` -/
def Bd (U : List Int) (l : List (List Int)) : Prop :=
  l.Nodup ∧ ∀ c ∈ l, c.Pairwise (· < ·) ∧ ∀ x ∈ c, x ∈ U

/-- such a list has at most `cap U` members -/
theorem Bd.length_le {U : List Int} {l : List (List Int)} (h : Bd U l) : l.length ≤ cap U := by
  have := nodup_length_le (subs (canon U)) l h.1 (fun c hc =>
    mem_subs (canon U) (canon_sorted U) c (h.2 c hc).1 (fun x hx => (mem_canon x U).mpr ((h.2 c hc).2 x hx)))
  rwa [length_subs] at this

/-- appending a resolvent that is not yet in the list keeps the invariant -/
theorem Bd.append {U : List Int} {l : List (List Int)} (h : Bd U l) (c1 c2 : List Int) (r : Int) (res : List Int)
    (m1 : c1 ∈ l) (m2 : c2 ∈ l) (hr : resolvable c1 c2 = some (r, res)) (hn : l.contains res = false) :
    Bd U (l ++ [res]) := by
  obtain ⟨_, _, _, hres⟩ := resolvable_clash c1 c2 r res hr
  have hnot : res ∉ l := by
    intro hm
    have : l.contains res = true := by simpa using hm
    rw [hn] at this; cases this
  refine ⟨List.nodup_append.mpr ⟨h.1, by simp, ?_⟩, ?_⟩
  · intro a ha b hb e
    simp at hb; subst hb; subst e
    exact hnot ha
  · intro c hc
    rcases List.mem_append.mp hc with hc | hc
    · exact h.2 c hc
    · simp at hc; subst hc
      refine ⟨?_, fun x hx => ?_⟩
      · rw [(resolvable_inv c1 c2 r _ hr).2]; exact canon_sorted _
      · rcases (hres x).mp hx with ⟨hx1, _⟩ | ⟨hx2, _⟩
        · exact (h.2 c1 m1).2 x hx1
        · exact (h.2 c2 m2).2 x hx2

/-! ## the saturation loop terminates -/

/-- with the list bounded by `M = cap U`, from the state `(i, j)`, `j ≤ i`, `i + d = M`, the index machine answers within
`(d + 1) * (M + 2) - j` steps -/
theorem loop_terminates_aux (U : List Int) : ∀ (fuel : Nat) (l : List (List Int)) (i j d : Nat),
    Bd U l → i + d = cap U → j ≤ i → (d + 1) * (cap U + 2) ≤ fuel + j → ∃ b, loop fuel l i j = some b := by
  intro fuel
  induction fuel with
  | zero =>
    intro l i j d _ hd hj hf
    rw [Nat.succ_mul] at hf
    omega
  | succ fuel ih =>
    intro l i j d hb hd hj hf
    rw [loop_succ]
    split
    · exact ⟨false, rfl⟩
    · next cl1 h1 =>
      have hil : i < l.length := by
        rcases Nat.lt_or_ge i l.length with h | h
        · exact h
        · rw [List.getElem?_eq_none h] at h1; cases h1
      have hlen := hb.length_le
      -- the outer index moves on: `d` decreases
      have next : ∃ b, loop fuel l (i + 1) 0 = some b := by
        obtain ⟨d', rfl⟩ : ∃ d', d = d' + 1 := ⟨d - 1, by omega⟩
        refine ih l (i + 1) 0 d' hb (by omega) (Nat.zero_le _) ?_
        rw [Nat.succ_mul] at hf
        omega
      split
      · exact next
      · next hji =>
        split
        · exact next
        · next cl2 h2 =>
          have m1 : cl1 ∈ l := List.mem_of_getElem? h1
          have m2 : cl2 ∈ l := List.mem_of_getElem? h2
          split
          · exact ih l i (j + 1) d hb hd (by omega) (by omega)
          · next r res hr =>
            split
            · exact ih l i (j + 1) d hb hd (by omega) (by omega)
            · next hc =>
              split
              · exact ⟨true, rfl⟩
              · exact ih (l ++ [res]) i (j + 1) d
                  (hb.append cl1 cl2 r res m1 m2 hr (by simpa using hc)) hd (by omega) (by omega)

/-- fuel that suffices for the saturation of the (deduplicated, non-trivial, canonical) initial list `l` -/
def loopFuel (l : List (List Int)) : Nat := (cap l.flatten + 1) * (cap l.flatten + 2)

/-- **the saturation loop terminates**: on a duplicate-free list of canonical clauses, `loopFuel l` steps suffice -/
theorem loop_terminates (l : List (List Int)) (hnd : l.Nodup) (hs : ∀ c ∈ l, c.Pairwise (· < ·)) (fuel : Nat)
    (hf : loopFuel l ≤ fuel) : ∃ b, loop fuel l 0 0 = some b :=
  loop_terminates_aux l.flatten fuel l 0 0 (cap l.flatten)
    ⟨hnd, fun c hc => ⟨hs c hc, fun x hx => List.mem_flatten.mpr ⟨c, hc, hx⟩⟩⟩ (by omega) (Nat.le_refl _)
    (by simpa [loopFuel] using hf)

/-! ### the initial list -/

theorem initial_nodup (cls : List (List Int)) : (initial cls).Nodup := TautTie.initial_nodup cls

theorem initial_sorted (cls : List (List Int)) : ∀ c ∈ initial cls, c.Pairwise (· < ·) := by
  intro c hc
  obtain ⟨⟨cl, _, rfl⟩, _⟩ := (mem_initial cls c).mp hc
  exact canon_sorted cl

/-- fuel that suffices for `Res.start` -/
def startFuel (cls : List (List Int)) : Nat := loopFuel (initial cls)

/-- **`start_resolution_algorithm` (the model) answers** on every clause list, from `startFuel cls` fuel on -/
theorem start_total (cls : List (List Int)) (fuel : Nat) (hf : startFuel cls ≤ fuel) :
    ∃ x, start fuel cls = some x := by
  unfold start
  simp only []
  by_cases he : cls.isEmpty = true
  · exact ⟨some true, by simp [he]⟩
  · by_cases hi : (initial cls).isEmpty = true
    · exact ⟨some true, by simp [he, hi]⟩
    · obtain ⟨b, hb⟩ := loop_terminates (initial cls) (initial_nodup cls) (initial_sorted cls) fuel hf
      simp only [he, hi, Bool.false_eq_true, if_false, hb]
      cases b
      · exact ⟨_, rfl⟩
      · exact ⟨_, rfl⟩

end Res

/-! ## the model answers: `bound f` fuel suffices -/

/-- an explicit computable fuel bound for `proveTautology`: the `weight` of the negation normal form (the recursion depth of
`to_cnf`) and `Res.startFuel` of the clause list (the number of steps of the saturation).  `bound_le_closed` below bounds it
by a closed form in `f.size`. -/
def bound (f : Form) : Nat :=
  match CF.propagNeg (CF.ofForm (Form.neg f)) with
  | none => 0
  | some n =>
    match CF.toCnfF n.weight n with
    | none => 0
    | some cnf =>
      match CF.toClauses cnf with
      | none => 0
      | some cls => max n.weight (Res.startFuel cls)

/-- the stages of the generic branch of `prove_tautology` all answer, and `bound f` is what it is -/
theorem stages_total (f : Form) (hb : (CF.ofForm (Form.neg f)).isBot = false) :
    ∃ n cnf cls, CF.propagNeg (CF.ofForm (Form.neg f)) = some n ∧ n.IsNNF = true ∧
      CF.toCnfF n.weight n = some cnf ∧ cnf.IsCNF = true ∧ cnf.weight ≤ n.weight ∧ CF.toClauses cnf = some cls ∧
      bound f = max n.weight (Res.startFuel cls) := by
  have hor : (CF.ofForm (Form.neg f)).IsOrTree = true := by
    rcases CF.ofForm_shape (Form.neg f) with h | h
    · rw [hb] at h; cases h
    · exact h
  obtain ⟨n, hn, _, hnnf⟩ := CF.propagNeg_spec _ hor
  obtain ⟨cnf, hcnf, hw⟩ := CF.toCnfF_weight n n.weight hnnf (Nat.le_refl _)
  have hc := (CF.toCnfF_spec _ n cnf hnnf hcnf).2
  obtain ⟨cls, hcls, _⟩ := CF.toClauses_spec cnf hc
  exact ⟨n, cnf, cls, hn, hnnf, hcnf, hc, hw, hcls, by simp [bound, hn, hcnf, hcls]⟩

/-- **the model of the prover is total**: from `bound f` fuel on, `proveTautology` answers (no stage runs out of fuel, no
assertion fails, the saturation loop ends) -/
theorem proveTautology_total_bound (f : Form) (G : Nat) (hG : bound f ≤ G) : ∃ x, proveTautology G f = some x := by
  cases hb : (CF.ofForm (Form.neg f)).isBot with
  | true =>
    unfold proveTautology
    cases hc : CF.ofForm (Form.neg f) with
    | bot b => cases b <;> exact ⟨_, rfl⟩
    | var b i => simp [hc, CF.isBot] at hb
    | or b l r => simp [hc, CF.isBot] at hb
    | and b l r => simp [hc, CF.isBot] at hb
  | false =>
    obtain ⟨n, cnf, cls, hn, _, hcnf, _, _, hcls, hbd⟩ := stages_total f hb
    rw [hbd] at hG
    have hG1 : n.weight ≤ G := Nat.le_trans (Nat.le_max_left _ _) hG
    have hG2 : Res.startFuel cls ≤ G := Nat.le_trans (Nat.le_max_right _ _) hG
    obtain ⟨sx, hsx⟩ := Res.start_total cls G hG2
    rw [TautTie.proveTautology_nonbot _ f hb]
    simp only [Option.bind_eq_bind, hn, TautTie.toCnfF_mono_le _ G hG1 n cnf hcnf, hcls, hsx, Option.bind_some]
    cases sx with
    | none => exact ⟨_, rfl⟩
    | some b => cases b <;> exact ⟨_, rfl⟩

/-- the form asked for: for every `f` there is a fuel (`bound f`) from which the model answers -/
theorem proveTautology_total : ∀ f : Form, ∃ F, ∀ G, G ≥ F → ∃ x, proveTautology G f = some x :=
  fun f => ⟨bound f, fun G hG => proveTautology_total_bound f G hG⟩

/-- the answer does not depend on the fuel, once there is one -/
theorem proveTautology_stable (f : Form) (G G' : Nat) (x x' : Option Bool) (h : proveTautology G f = some x)
    (h' : proveTautology G' f = some x') : x = x' := by
  rcases Nat.le_total G G' with hle | hle
  · have := proveTautology_mono_le G G' hle f x h
    rw [h'] at this; exact (Option.some.inj this).symm
  · have := proveTautology_mono_le G' G hle f x' h'
    rw [h] at this; exact Option.some.inj this

/-- the verdict of the prover: the model's answer at `bound f` fuel (a total function of the pattern) -/
def verdict (f : Form) : Option Bool := (proveTautology (bound f) f).getD none

theorem proveTautology_eq_verdict (f : Form) (G : Nat) (hG : bound f ≤ G) : proveTautology G f = some (verdict f) := by
  obtain ⟨x, hx⟩ := proveTautology_total_bound f (bound f) (Nat.le_refl _)
  rw [proveTautology_mono_le _ G hG f x hx]
  simp [verdict, hx]

/-! ## a closed form for the bound -/

namespace CF

/-- number of leaves -/
def leaves : CF → Nat
  | bot _ => 1 | var _ _ => 1
  | or _ l r => leaves l + leaves r
  | and _ l r => leaves l + leaves r

theorem leaves_pos (c : CF) : 1 ≤ c.leaves := by
  induction c with
  | bot n => simp [leaves]
  | var n i => simp [leaves]
  | or n l r ihl _ => simp only [leaves]; omega
  | and n l r ihl _ => simp only [leaves]; omega

theorem leaves_setNeg (b : Bool) (c : CF) : (c.setNeg b).leaves = c.leaves := by
  cases c <;> rfl

theorem leaves_ofForm (f : Form) : (ofForm f).leaves ≤ f.size := by
  induction f with
  | bot => exact Nat.le_refl _
  | var n => exact Nat.le_refl _
  | imp p0 p1 ih0 ih1 =>
    have h0 := leaves_pos (ofForm p0)
    have h1 := leaves_pos (ofForm p1)
    by_cases hb : p0 = .bot ∧ p1 = .bot
    · obtain ⟨rfl, rfl⟩ := hb; exact Nat.le_add_left _ _
    · rw [ofForm_imp p0 p1 hb]
      simp only [Form.size]
      simp only [apply_ite leaves, leaves, leaves_setNeg]
      repeat' split
      all_goals omega
theorem leaves_propagNegAux (c : CF) : ∀ (flip : Bool) (r : CF), propagNegAux flip c = some r → r.leaves = c.leaves := by
  induction c with
  | bot n => intro _ r h; simp [propagNegAux] at h
  | and n l r _ _ => intro _ r h; simp [propagNegAux] at h
  | var n i => intro flip r h; simp only [propagNegAux, Option.some.injEq] at h; subst h; rfl
  | or n l r ihl ihr =>
    intro flip res h
    simp only [propagNegAux] at h
    split at h
    · simp only [Option.bind_eq_bind, Option.bind_eq_some_iff, Option.pure_def, Option.some.injEq] at h
      obtain ⟨l', hl', r', hr', rfl⟩ := h
      simp only [leaves, ihl _ _ hl', ihr _ _ hr']
    · simp only [Option.bind_eq_bind, Option.bind_eq_some_iff, Option.pure_def, Option.some.injEq] at h
      obtain ⟨l', hl', r', hr', rfl⟩ := h
      simp only [leaves, ihl _ _ hl', ihr _ _ hr']

theorem three_le_pow (a : Nat) (h : 1 ≤ a) : 3 ≤ 3 ^ a :=
  calc 3 = 3 ^ 1 := rfl
    _ ≤ 3 ^ a := Nat.pow_le_pow_right (by omega) h

/-- `weight c ≤ 3 ^ leaves c` -/
theorem weight_le_pow (c : CF) : c.weight ≤ 3 ^ c.leaves := by
  induction c with
  | bot n => simp [weight, leaves]
  | var n i => simp [weight, leaves]
  | or n l r ihl ihr =>
    simp only [weight, leaves, Nat.pow_add]
    exact Nat.mul_le_mul ihl ihr
  | and n l r ihl ihr =>
    simp only [weight, leaves, Nat.pow_add]
    have h1 := three_le_pow _ (leaves_pos l)
    have h2 := three_le_pow _ (leaves_pos r)
    generalize 3 ^ l.leaves = x at *
    generalize 3 ^ r.leaves = y at *
    obtain ⟨x', rfl⟩ : ∃ x', x = x' + 3 := ⟨x - 3, by omega⟩
    obtain ⟨y', rfl⟩ : ∃ y', y = y' + 3 := ⟨y - 3, by omega⟩
    have : (x' + 3) * (y' + 3) = x' * y' + 3 * x' + 3 * y' + 9 := by
      rw [Nat.add_mul, Nat.mul_add, Nat.mul_add]; omega
    omega

/-- the clause list has at most `weight` literal occurrences -/
theorem toClauses_length (c : CF) : ∀ cls, toClauses c = some cls → cls.flatten.length ≤ c.weight := by
  induction c with
  | bot n => intro cls h; simp [toClauses] at h
  | var n i => intro cls h; simp only [toClauses, Option.some.injEq] at h; subst h; simp [weight]
  | and n l r ihl ihr =>
    intro cls h
    simp only [toClauses, Option.bind_eq_bind, Option.bind_eq_some_iff, Option.pure_def, Option.some.injEq] at h
    obtain ⟨a, ha, b, hb, rfl⟩ := h
    have := ihl a ha; have := ihr b hb
    simp only [List.flatten_append, List.length_append, weight]; omega
  | or n l r ihl ihr =>
    intro cls h
    simp only [toClauses, Option.bind_eq_bind, Option.bind_eq_some_iff] at h
    obtain ⟨a, ha, b, hb, h⟩ := h
    have h1 := ihl a ha; have h2 := ihr b hb
    have w1 := weight_ge_two l; have w2 := weight_ge_two r
    split at h
    · next x y =>
      simp only [Option.pure_def, Option.some.injEq] at h; subst h
      simp only [List.flatten_cons, List.flatten_nil, List.append_nil, List.length_append, weight] at h1 h2 ⊢
      generalize l.weight = wa at *
      generalize r.weight = wb at *
      obtain ⟨p, rfl⟩ : ∃ p, wa = p + 2 := ⟨wa - 2, by omega⟩
      obtain ⟨q, rfl⟩ : ∃ q, wb = q + 2 := ⟨wb - 2, by omega⟩
      have : (p + 2) * (q + 2) = p * q + 2 * p + 2 * q + 4 := by
        rw [Nat.add_mul, Nat.mul_add, Nat.mul_add]; omega
      omega
    · simp at h

end CF

namespace Res

theorem length_insertSorted (x : Int) (l : List Int) : (insertSorted x l).length ≤ l.length + 1 := by
  induction l with
  | nil => simp [insertSorted]
  | cons y r ih =>
    simp only [insertSorted]
    split
    · simp
    · split
      · simp
      · simp only [List.length_cons]; omega

theorem length_canon (c : List Int) : (canon c).length ≤ c.length := by
  induction c with
  | nil => simp [canon]
  | cons x r ih =>
    have : canon (x :: r) = insertSorted x (canon r) := rfl
    rw [this]
    have := length_insertSorted x (canon r)
    simp only [List.length_cons]; omega

theorem initial_length_aux (xs : List (List Int)) : ∀ acc : List (List Int),
    (xs.foldl (fun acc c => if trivial c || acc.contains c then acc else acc ++ [c]) acc).flatten.length ≤
      acc.flatten.length + xs.flatten.length := by
  induction xs with
  | nil => intro acc; simp
  | cons x xs ih =>
    intro acc
    simp only [List.foldl_cons, List.flatten_cons, List.length_append]
    refine Nat.le_trans (ih _) ?_
    split
    · omega
    · simp only [List.flatten_append, List.flatten_cons, List.flatten_nil, List.append_nil, List.length_append]; omega

theorem length_flatten_map_canon (cls : List (List Int)) : (cls.map canon).flatten.length ≤ cls.flatten.length := by
  induction cls with
  | nil => simp
  | cons c r ih =>
    have := length_canon c
    simp only [List.map_cons, List.flatten_cons, List.length_append]; omega

/-- the initial list has at most as many literal occurrences as the clause list -/
theorem initial_length (cls : List (List Int)) : (initial cls).flatten.length ≤ cls.flatten.length := by
  have := initial_length_aux (cls.map canon) []
  have := length_flatten_map_canon cls
  simp only [List.flatten_nil, List.length_nil, Nat.zero_add] at *
  unfold initial
  omega

/-- `startFuel` is bounded through the number of literal occurrences -/
theorem startFuel_le (cls : List (List Int)) (W : Nat) (h : cls.flatten.length ≤ W) :
    startFuel cls ≤ (2 ^ W + 1) * (2 ^ W + 2) := by
  have h1 : cap (initial cls).flatten ≤ 2 ^ W := by
    unfold cap
    apply Nat.pow_le_pow_right (by omega)
    exact Nat.le_trans (length_canon _) (Nat.le_trans (initial_length cls) h)
  unfold startFuel loopFuel
  exact Nat.mul_le_mul (by omega) (by omega)

end Res

/-- the closed form: with `W = 3 ^ (size f + 2)` (a bound on the weight of the negation normal form of `¬f`, hence on the
recursion depth of `to_cnf` and on the number of literal occurrences in the clause list) and `M = 2 ^ W` (a bound on the number
of canonical clauses), `(M + 1) * (M + 2)` fuel suffices -/
def closedBound (f : Form) : Nat := (2 ^ (3 ^ (f.size + 2)) + 1) * (2 ^ (3 ^ (f.size + 2)) + 2)

theorem bound_le_closed (f : Form) : bound f ≤ closedBound f := by
  cases hb : (CF.ofForm (Form.neg f)).isBot with
  | true =>
    have : CF.propagNeg (CF.ofForm (Form.neg f)) = none := by
      cases hc : CF.ofForm (Form.neg f) with
      | bot b => rfl
      | var b i => simp [hc, CF.isBot] at hb
      | or b l r => simp [hc, CF.isBot] at hb
      | and b l r => simp [hc, CF.isBot] at hb
    simp [bound, this]
  | false =>
    obtain ⟨n, cnf, cls, hn, _, hcnf, _, hw, hcls, hbd⟩ := stages_total f hb
    have hl : n.leaves ≤ f.size + 2 := by
      rw [CF.leaves_propagNegAux _ false n hn]
      have := CF.leaves_ofForm (Form.neg f)
      simpa [Form.neg, Form.size] using this
    have hW : n.weight ≤ 3 ^ (f.size + 2) :=
      Nat.le_trans (CF.weight_le_pow n) (Nat.pow_le_pow_right (by omega) hl)
    have hlen : cls.flatten.length ≤ 3 ^ (f.size + 2) :=
      Nat.le_trans (CF.toClauses_length cnf cls hcls) (Nat.le_trans hw hW)
    have h2 := Res.startFuel_le cls _ hlen
    rw [hbd]
    unfold closedBound
    refine Nat.max_le.mpr ⟨?_, h2⟩
    generalize 3 ^ (f.size + 2) = W at *
    have : W < 2 ^ W := Nat.lt_two_pow_self
    have : 2 ^ W + 2 ≤ (2 ^ W + 1) * (2 ^ W + 2) := Nat.le_mul_of_pos_left _ (by omega)
    omega

/-- totality with the closed-form bound -/
theorem proveTautology_total_closed (f : Form) (G : Nat) (hG : closedBound f ≤ G) : ∃ x, proveTautology G f = some x :=
  proveTautology_total_bound f G (Nat.le_trans (bound_le_closed f) hG)

#print axioms Res.loop_mono_le
#print axioms proveTautology_mono_le
#print axioms Res.loop_terminates
#print axioms Res.start_total
#print axioms proveTautology_total_bound
#print axioms proveTautology_total
#print axioms proveTautology_eq_verdict
#print axioms bound_le_closed
#print axioms proveTautology_total_closed
