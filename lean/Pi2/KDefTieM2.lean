import Pi2.KDefTieM
/-!
# The store of a semantics with k modules; `KModule.modules`; the own-then-closure searches; `LanguageSemantics.modules / get_module`

Intermediate lemmas for the general several-module tie (`Pi2/KDefTieM3.lean`, `Pi2/KDefTieM4.lean`, `Pi2/Props/C20e.lean`).

* `RMod` / `heapL`: the refined state of ONE module (with ghost fields: `cl` — what `KModule.modules` returns, `reach` / `inames` — the
  specification's `reach` / `imports`), the store of a list of modules (reference = position, all share counter 0);
* `Closed`: every module imports only EARLIER modules and its `cl` is `fromkeys` of its imports and their `cl`s;
  `modules_eqM`: `KModule.modules n h i = ret cl_i` for every fuel `n > i`; `cl_lt`, `cl_trans` (transitivity);
* `search_char`: the own-then-closure search (`KModule.get_sort / get_symbol / get_axiom` have this shape: `get_sort_char`, …) with fuel
  `≥ i + 2` returns `r` with `Found`: `r = some s` ⟹ some module of `i :: cl_i` has `s` in its own table; `r = none` ⟹ none of them has an entry;
* `ls_modules_char`: `LanguageSemantics.modules` under a valid set order returns a list whose members are exactly the references `< k`;
  `get_module_char`; `ls_loop_char` (`LanguageSemantics.get_sort / get_symbol`).
-/
set_option linter.unusedVariables false
set_option linter.unusedSimpArgs false
namespace KDefTieM2
open PyI PyM PyK Kore Gen.PyKDef KDefSpec KDefTie KDefTieM

/-- the refined state of one module.  Ghost fields (not in the store): `cl`, `reach`, `inames` -/
structure RMod where
  name : Nat
  parsing : Option Bool
  imports : List Nat
  inames : List Nat
  cl : List Nat
  reach : List Nat
  sorts : List (Nat × Bool)
  symbols : List PyKSymbol
  rules : List Rule

/-- the one-module refined state with the tables of this module (to reuse the dictionary lemmas of `Pi2/KDefTie.lean`) -/
def toR (m : RMod) : RSt := { name := m.name, sorts := m.sorts, symbols := m.symbols, rules := m.rules, nAxioms := 0 }

def modOfM (m : RMod) : PyKModule :=
  { _name := m.name, counter := 0, _parsing := m.parsing, _imported_modules := m.imports, _sorts := sortsDict (toR m),
    _symbols := symbolsDict (toR m), _axioms := axiomsDict m.rules }

/-- the store of the modules `mods` (reference = position) -/
def heapL (pL : Option Bool) (mods : List RMod) (counters : List Nat) : PyLS :=
  { _parsing := pL, _imported_modules := List.range mods.length, _cached_axiom_scopes := scopesDict (mods.flatMap (·.rules)),
    _inferred_notations := [], modules := mods.map modOfM, counters := counters }

theorem getMod_heapL {β} (pL mods cs) (i : Nat) (k : PyKModule → Py β) :
    getMod (heapL pL mods cs) i k = match mods[i]? with | some m => k (modOfM m) | none => raise := by
  simp only [getMod, heapL, List.getElem?_map]
  cases mods[i]? <;> rfl

/-! ## sets -/

theorem mem_foldl_setAdd (l acc : List Nat) (x : Nat) : x ∈ l.foldl setAdd acc ↔ x ∈ acc ∨ x ∈ l := by
  induction l generalizing acc with
  | nil => simp
  | cons a l ih =>
    rw [List.foldl_cons, ih, List.mem_cons]
    unfold setAdd
    split
    · next h =>
      have : a ∈ acc := by simpa using h
      constructor
      · rintro (h1 | h1); exact .inl h1; exact .inr (.inr h1)
      · rintro (h1 | rfl | h1); exact .inl h1; exact .inl this; exact .inr h1
    · simp [or_assoc]

theorem mem_fromkeys (l : List Nat) (x : Nat) : x ∈ fromkeys l ↔ x ∈ l := by
  unfold fromkeys; rw [mem_foldl_setAdd]; simp

theorem mem_setUpdate (s l : List Nat) (x : Nat) : x ∈ setUpdate s l ↔ x ∈ s ∨ x ∈ l := mem_foldl_setAdd l s x

theorem mem_setAdd (s : List Nat) (a x : Nat) : x ∈ setAdd s a ↔ x ∈ s ∨ x = a := by
  have := mem_foldl_setAdd [a] s x
  simpa using this

/-! ## `KModule.modules` -/

def clAt (mods : List RMod) (j : Nat) : List Nat := match mods[j]? with | some m => m.cl | none => []

/-- every module imports only earlier modules; `cl` is `fromkeys` of the imports and their `cl`s -/
@[reducible] def Closed (mods : List RMod) : Prop :=
  ∀ (i : Nat) (m : RMod), mods[i]? = some m → (∀ j ∈ m.imports, j < i) ∧ m.cl = fromkeys (m.imports.flatMap fun j => j :: clAt mods j)

theorem forEach_acc {β} (l : List Nat) (acc : List Nat) (f : Nat → Py (List Nat)) (g : Nat → List Nat)
    (hf : ∀ v ∈ l, f v = ret (g v)) (k : List Nat → Py β) :
    forEach l acc (fun v acc cont => call (f v) fun t2 => cont ((acc ++ [v]) ++ t2)) k = k (acc ++ l.flatMap fun v => v :: g v) := by
  induction l generalizing acc with
  | nil => simp [forEach]
  | cons a l ih =>
    simp only [forEach]
    rw [hf a (List.mem_cons_self ..), KoreTie.call_ret_val, ih _ (fun v hv => hf v (List.mem_cons_of_mem _ hv))]
    simp [List.append_assoc]

theorem idx_lt {α} {l : List α} {i : Nat} {m : α} (h : l[i]? = some m) : i < l.length :=
  (List.getElem?_eq_some_iff.1 h).1

theorem modules_eqM (pL cs) {mods : List RMod} (hC : Closed mods) :
    ∀ n i m, i < n → mods[i]? = some m → KModule.modules n (heapL pL mods cs) i = ret m.cl := by
  intro n
  induction n with
  | zero => intro i m h; omega
  | succ n ih =>
    intro i m hi hm
    unfold KModule.modules
    rw [getMod_heapL, hm]
    obtain ⟨hlt, hcl⟩ := hC i m hm
    show forEach m.imports [] (fun v acc cont => call (KModule.modules n (heapL pL mods cs) v) fun t2 => cont ((acc ++ [v]) ++ t2))
        (fun v_modules => ret (fromkeys v_modules)) = _
    rw [forEach_acc _ _ _ (clAt mods)]
    · rw [hcl]; simp
    · intro v hv
      have hvi := hlt v hv
      have hvl : v < mods.length := by have := idx_lt hm; omega
      have hv' : mods[v]? = some mods[v] := List.getElem?_eq_getElem hvl
      rw [ih v _ (by omega) hv']
      simp [clAt, hv']

theorem cl_mem {mods : List RMod} (hC : Closed mods) {i : Nat} {m : RMod} {v : Nat} (hm : mods[i]? = some m) (hv : v ∈ m.cl) :
    ∃ j ∈ m.imports, v = j ∨ v ∈ clAt mods j := by
  rw [(hC i m hm).2, mem_fromkeys, List.mem_flatMap] at hv
  obtain ⟨j, hj, hv⟩ := hv
  exact ⟨j, hj, by simpa using hv⟩

theorem cl_lt {mods : List RMod} (hC : Closed mods) : ∀ (i : Nat) (m : RMod) (v : Nat), mods[i]? = some m → v ∈ m.cl → v < i := by
  intro i
  induction i using Nat.strongRecOn with
  | _ i ih =>
    intro m v hm hv
    obtain ⟨j, hj, h⟩ := cl_mem hC hm hv
    have hji := (hC i m hm).1 j hj
    rcases h with rfl | h
    · exact hji
    · simp only [clAt] at h
      cases hmj : mods[j]? with
      | none => simp [hmj] at h
      | some mj => simp only [hmj] at h; have := ih j hji mj v hmj h; omega

theorem cl_trans {mods : List RMod} (hC : Closed mods) :
    ∀ (i : Nat) (m : RMod) (v : Nat) (mv : RMod) (w : Nat), mods[i]? = some m → v ∈ m.cl → mods[v]? = some mv → w ∈ mv.cl → w ∈ m.cl := by
  intro i
  induction i using Nat.strongRecOn with
  | _ i ih =>
    intro m v mv w hm hv hmv hw
    obtain ⟨j, hj, h⟩ := cl_mem hC hm hv
    have hji := (hC i m hm).1 j hj
    have goal : ∀ x, x ∈ clAt mods j → x ∈ m.cl := by
      intro x hx
      rw [(hC i m hm).2, mem_fromkeys, List.mem_flatMap]
      exact ⟨j, hj, List.mem_cons_of_mem _ hx⟩
    rcases h with rfl | h
    · apply goal; simp [clAt, hmv, hw]
    · apply goal
      simp only [clAt] at h ⊢
      cases hmj : mods[j]? with
      | none => simp [hmj] at h
      | some mj => simp only [hmj] at h ⊢; exact ih j hji mj v mv w hmj h hmv hw

/-! ## the own-then-closure search -/

/-- what a search over the modules `l` may return: an entry of the own table of one of them, or nothing if none has an entry -/
def Found {α} (own : RMod → Option α) (mods : List RMod) (l : List Nat) (r : Option α) : Prop :=
  (∀ s, r = some s → ∃ j ∈ l, ∃ mj, mods[j]? = some mj ∧ own mj = some s) ∧
  (r = none → ∀ j ∈ l, ∀ mj, mods[j]? = some mj → own mj = none)

theorem search_loop {α} (l : List Nat) (f : Nat → Py α) (hf : ∀ v ∈ l, (f v).isSome) :
    forEach l () (fun v _ cont => tryExcept (call (f v) fun t => ret t) (cont ())) (fun _ => raise)
      = some (l.findSome? fun v => (f v).getD none) := by
  induction l with
  | nil => rfl
  | cons a l ih =>
    simp only [forEach, List.findSome?_cons]
    have ha := hf a (List.mem_cons_self ..)
    cases hfa : f a with
    | none => simp [hfa] at ha
    | some o =>
      cases o with
      | none =>
        simp only [call, tryExcept, Option.getD_some]
        exact ih fun v hv => hf v (List.mem_cons_of_mem _ hv)
      | some s => rfl

/-- a function of the shape of `KModule.get_sort / get_symbol / get_axiom` -/
theorem search_char {α} (own : RMod → Option α) {mods : List RMod} (hC : Closed mods) (F : Nat → Nat → Py α)
    (hF : ∀ n i m, i < n → mods[i]? = some m →
      F (n + 1) i = match own m with
        | some s => ret s
        | none => forEach m.cl () (fun v _ cont => tryExcept (call (F n v) fun t => ret t) (cont ())) (fun _ => raise)) :
    ∀ n i m, i + 2 ≤ n → mods[i]? = some m → ∃ r, F n i = some r ∧ Found own mods (i :: m.cl) r := by
  intro n
  induction n with
  | zero => intro i m h; omega
  | succ n ih =>
    intro i m hi hm
    rw [hF n i m (by omega) hm]
    cases ho : own m with
    | some s =>
      refine ⟨some s, rfl, ?_, ?_⟩
      · intro s' hs; cases hs; exact ⟨i, List.mem_cons_self .., m, hm, ho⟩
      · intro h; cases h
    | none =>
      have hall : ∀ v ∈ m.cl, ∃ mv, mods[v]? = some mv ∧ ∃ r, F n v = some r ∧ Found own mods (v :: mv.cl) r := by
        intro v hv
        have hvi := cl_lt hC i m v hm hv
        have hvl : v < mods.length := by have := idx_lt hm; omega
        exact ⟨mods[v], List.getElem?_eq_getElem hvl, ih v _ (by omega) (List.getElem?_eq_getElem hvl)⟩
      dsimp only
      rw [search_loop]
      · refine ⟨_, rfl, ?_, ?_⟩
        · intro s hs
          obtain ⟨v, hv, hfv⟩ := List.exists_of_findSome?_eq_some hs
          obtain ⟨mv, hmv, r, hr, hfound⟩ := hall v hv
          rw [hr] at hfv
          simp only [Option.getD_some] at hfv
          obtain ⟨j, hj, mj, hmj, hown⟩ := hfound.1 s hfv
          refine ⟨j, ?_, mj, hmj, hown⟩
          simp only [List.mem_cons] at hj ⊢
          rcases hj with rfl | hj
          · exact .inr hv
          · exact .inr (cl_trans hC i m v mv j hm hv hmv hj)
        · intro hnone j hj mj hmj
          simp only [List.mem_cons] at hj
          rcases hj with rfl | hj
          · rw [hm] at hmj; cases hmj; exact ho
          · rw [List.findSome?_eq_none_iff] at hnone
            obtain ⟨mv, hmv, r, hr, hfound⟩ := hall j hj
            have := hnone j hj
            rw [hr] at this
            simp only [Option.getD_some] at this
            exact hfound.2 this j (List.mem_cons_self ..) mj hmj
      · intro v hv
        obtain ⟨mv, hmv, r, hr, _⟩ := hall v hv
        rw [hr]; rfl

def ownSort (name : Nat) (m : RMod) : Option PyKSortH := (sortsDict (toR m)).lookup name
def ownSymbol (name : Nat) (m : RMod) : Option PyKSymbol := (symbolsDict (toR m)).lookup name
def ownAxiom (o : Nat) (m : RMod) : Option PyAxiom := (axiomsDict m.rules).lookup o

theorem get_sort_char (pL cs) {mods : List RMod} (hC : Closed mods) (name : Nat) :
    ∀ n i m, i + 2 ≤ n → mods[i]? = some m →
      ∃ r, KModule.get_sort n (heapL pL mods cs) i name = some r ∧ Found (ownSort name) mods (i :: m.cl) r := by
  apply search_char (ownSort name) hC (fun n i => KModule.get_sort n (heapL pL mods cs) i name)
  intro n i m hi hm
  show KModule.get_sort (n + 1) (heapL pL mods cs) i name = _
  conv => lhs; unfold KModule.get_sort
  simp only [getMod_heapL, hm]
  rw [lookup_branch, modules_eqM pL cs hC n i m hi hm, KoreTie.call_ret_val]
  simp only [ownSort, modOfM]
  cases (sortsDict (toR m)).lookup name <;> rfl

theorem get_symbol_char (pL cs) {mods : List RMod} (hC : Closed mods) (name : Nat) :
    ∀ n i m, i + 2 ≤ n → mods[i]? = some m →
      ∃ r, KModule.get_symbol n (heapL pL mods cs) i name = some r ∧ Found (ownSymbol name) mods (i :: m.cl) r := by
  apply search_char (ownSymbol name) hC (fun n i => KModule.get_symbol n (heapL pL mods cs) i name)
  intro n i m hi hm
  show KModule.get_symbol (n + 1) (heapL pL mods cs) i name = _
  conv => lhs; unfold KModule.get_symbol
  simp only [getMod_heapL, hm]
  rw [lookup_branch, modules_eqM pL cs hC n i m hi hm, KoreTie.call_ret_val]
  simp only [ownSymbol, modOfM]
  cases (symbolsDict (toR m)).lookup name <;> rfl

theorem get_axiom_char (pL cs) {mods : List RMod} (hC : Closed mods) (o : Nat) :
    ∀ n i m, i + 2 ≤ n → mods[i]? = some m →
      ∃ r, KModule.get_axiom n (heapL pL mods cs) i o = some r ∧ Found (ownAxiom o) mods (i :: m.cl) r := by
  apply search_char (ownAxiom o) hC (fun n i => KModule.get_axiom n (heapL pL mods cs) i o)
  intro n i m hi hm
  show KModule.get_axiom (n + 1) (heapL pL mods cs) i o = _
  conv => lhs; unfold KModule.get_axiom
  simp only [getMod_heapL, hm]
  rw [lookup_branch, modules_eqM pL cs hC n i m hi hm, KoreTie.call_ret_val]
  simp only [ownAxiom, modOfM]
  cases (axiomsDict m.rules).lookup o <;> rfl

/-! ## `LanguageSemantics.modules`, `get_module`, the searches over all modules -/

theorem forEach_set {β} (l : List Nat) (acc : List Nat) (f : Nat → Py (List Nat)) (g : Nat → List Nat)
    (hf : ∀ v ∈ l, f v = ret (g v)) (k : List Nat → Py β) :
    forEach l acc (fun v acc cont => call (f v) fun t1 => cont (setUpdate (setAdd acc v) t1)) k
      = k (l.foldl (fun acc v => setUpdate (setAdd acc v) (g v)) acc) := by
  induction l generalizing acc with
  | nil => rfl
  | cons a l ih =>
    simp only [forEach, List.foldl_cons]
    rw [hf a (List.mem_cons_self ..), KoreTie.call_ret_val, ih _ (fun v hv => hf v (List.mem_cons_of_mem _ hv))]

theorem mem_foldl_set (l acc : List Nat) (g : Nat → List Nat) (x : Nat) :
    x ∈ l.foldl (fun acc v => setUpdate (setAdd acc v) (g v)) acc ↔ x ∈ acc ∨ ∃ v ∈ l, x = v ∨ x ∈ g v := by
  induction l generalizing acc with
  | nil => simp
  | cons a l ih =>
    simp only [List.foldl_cons, ih, mem_setUpdate, mem_setAdd, List.mem_cons]
    constructor
    · rintro (((h | h) | h) | ⟨v, hv, h⟩)
      · exact .inl h
      · exact .inr ⟨a, .inl rfl, .inl h⟩
      · exact .inr ⟨a, .inl rfl, .inr h⟩
      · exact .inr ⟨v, .inr hv, h⟩
    · rintro (h | ⟨v, rfl | hv, h⟩)
      · exact .inl (.inl (.inl h))
      · rcases h with h | h
        · exact .inl (.inl (.inr h))
        · exact .inl (.inr h)
      · exact .inr ⟨v, hv, h⟩

/-- `LanguageSemantics.modules` under a valid set order: the references of ALL modules, in some order -/
theorem ls_modules_char (so : SetOrder) (hso : so.Valid) (pL cs) {mods : List RMod} (hC : Closed mods) (n : Nat)
    (hn : mods.length ≤ n) :
    ∃ L, LanguageSemantics.modules so n (heapL pL mods cs) = ret L ∧ ∀ v, v ∈ L ↔ v < mods.length := by
  unfold LanguageSemantics.modules
  show ∃ L, forEach (List.range mods.length) [] (fun v acc cont => call (KModule.modules n (heapL pL mods cs) v) fun t1 =>
      cont (setUpdate (setAdd acc v) t1)) (fun v_modules => ret (fromkeys (setIter so v_modules))) = ret L ∧ _
  rw [forEach_set _ _ _ (clAt mods)]
  · refine ⟨_, rfl, ?_⟩
    intro v
    rw [mem_fromkeys, setIter, (hso _).mem_iff, mem_foldl_set]
    constructor
    · rintro (h | ⟨w, hw, h⟩)
      · cases h
      · have hw' : w < mods.length := by simpa using hw
        rcases h with rfl | h
        · exact hw'
        · have := cl_lt hC w mods[w] v (List.getElem?_eq_getElem hw') (by simpa [clAt, List.getElem?_eq_getElem hw'] using h)
          omega
    · intro h
      exact .inr ⟨v, by simpa using h, .inl rfl⟩
  · intro v hv
    have hv' : v < mods.length := by simpa using hv
    rw [modules_eqM pL cs hC n v mods[v] (by omega) (List.getElem?_eq_getElem hv')]
    simp [clAt, List.getElem?_eq_getElem hv']

def nameAt (mods : List RMod) (v : Nat) : Nat := match mods[v]? with | some m => m.name | none => 0

theorem name_loop (pL cs) (mods : List RMod) (target : Nat) (L : List Nat) (hL : ∀ v ∈ L, v < mods.length) :
    forEach L () (fun v _ cont => call (KModule.name (heapL pL mods cs) v) fun t2 => if t2 == target then ret v else cont ())
        (fun _ => raise)
      = some (L.find? fun v => nameAt mods v == target) := by
  induction L with
  | nil => rfl
  | cons a L ih =>
    have ha := hL a (List.mem_cons_self ..)
    simp only [forEach, List.find?_cons, KModule.name, getMod_heapL, nameAt, List.getElem?_eq_getElem ha, KoreTie.call_ret_val, modOfM]
    by_cases h : (mods[a].name == target) = true
    · simp only [h, if_true]; rfl
    · simp only [h, Bool.false_eq_true, if_false]
      have := ih fun v hv => hL v (List.mem_cons_of_mem _ hv)
      simp only [KModule.name, getMod_heapL, nameAt] at this
      exact this

/-- `LanguageSemantics.get_module`: a module with this name, `ValueError` if there is none -/
theorem get_module_char (so : SetOrder) (hso : so.Valid) (pL cs) {mods : List RMod} (hC : Closed mods) (n : Nat)
    (hn : mods.length ≤ n) (target : Nat) :
    ∃ r, LanguageSemantics.get_module so n (heapL pL mods cs) target = some r ∧
      (∀ j, r = some j → ∃ mj : RMod, mods[j]? = some mj ∧ mj.name = target) ∧
      (r = none → ∀ (j : Nat) (mj : RMod), mods[j]? = some mj → mj.name ≠ target) := by
  obtain ⟨L, hL, hmem⟩ := ls_modules_char so hso pL cs hC n hn
  unfold LanguageSemantics.get_module
  rw [hL, KoreTie.call_ret_val]
  show ∃ r, forEach L () (fun v _ cont => call (KModule.name (heapL pL mods cs) v) fun t2 => if t2 == target then ret v else cont ())
        (fun _ => raise) = some r ∧ _
  rw [name_loop pL cs mods target L (fun v hv => (hmem v).1 hv)]
  refine ⟨_, rfl, ?_, ?_⟩
  · intro j hj
    have h1 := List.find?_some hj
    have h2 := (hmem j).1 (List.mem_of_find?_eq_some hj)
    refine ⟨mods[j], List.getElem?_eq_getElem h2, ?_⟩
    simpa [nameAt, List.getElem?_eq_getElem h2] using h1
  · intro hnone j mj hmj
    rw [List.find?_eq_none] at hnone
    have hj := idx_lt hmj
    have := hnone j ((hmem j).2 hj)
    simpa [nameAt, hmj] using this

/-- a search over ALL modules (`LanguageSemantics.get_sort / get_symbol`) -/
theorem ls_loop_char {α} (own : RMod → Option α) {mods : List RMod} (F : Nat → Py α) (L : List Nat)
    (hL : ∀ v, v ∈ L ↔ v < mods.length)
    (hF : ∀ (v : Nat) (m : RMod), mods[v]? = some m → ∃ r, F v = some r ∧ Found own mods (v :: m.cl) r) :
    ∃ r, forEach L () (fun v _ cont => tryExcept (call (F v) fun t => ret t) (cont ())) (fun _ => raise) = some r ∧
      (∀ s, r = some s → ∃ (j : Nat) (mj : RMod), mods[j]? = some mj ∧ own mj = some s) ∧
      (r = none → ∀ (j : Nat) (mj : RMod), mods[j]? = some mj → own mj = none) := by
  have hall : ∀ v ∈ L, ∃ m : RMod, ∃ r, F v = some r ∧ Found own mods (v :: m.cl) r :=
    fun v hv => ⟨_, hF v _ (List.getElem?_eq_getElem ((hL v).1 hv))⟩
  rw [search_loop]
  · refine ⟨_, rfl, ?_, ?_⟩
    · intro s hs
      obtain ⟨v, hv, hfv⟩ := List.exists_of_findSome?_eq_some hs
      obtain ⟨_, r, hr, hfound⟩ := hall v hv
      rw [hr] at hfv
      obtain ⟨j, _, mj, hmj, hown⟩ := hfound.1 s hfv
      exact ⟨j, mj, hmj, hown⟩
    · intro hnone j mj hmj
      rw [List.findSome?_eq_none_iff] at hnone
      have hj := (hL j).2 (idx_lt hmj)
      obtain ⟨_, r, hr, hfound⟩ := hall j hj
      have := hnone j hj
      rw [hr] at this
      exact hfound.2 this j (List.mem_cons_self ..) mj hmj
  · intro v hv
    obtain ⟨_, r, hr, _⟩ := hall v hv
    rw [hr]; rfl

theorem ls_get_sort_char (so : SetOrder) (hso : so.Valid) (pL cs) {mods : List RMod} (hC : Closed mods) (n : Nat)
    (hn : mods.length + 1 ≤ n) (name : Nat) :
    ∃ r, LanguageSemantics.get_sort so n (heapL pL mods cs) name = some r ∧
      (∀ s, r = some s → ∃ (j : Nat) (mj : RMod), mods[j]? = some mj ∧ ownSort name mj = some s) ∧
      (r = none → ∀ (j : Nat) (mj : RMod), mods[j]? = some mj → ownSort name mj = none) := by
  obtain ⟨L, hL, hmem⟩ := ls_modules_char so hso pL cs hC n (by omega)
  unfold LanguageSemantics.get_sort
  rw [hL, KoreTie.call_ret_val]
  exact ls_loop_char (ownSort name) (fun v => KModule.get_sort n (heapL pL mods cs) v name) L.reverse
    (fun v => by rw [List.mem_reverse]; exact hmem v)
    (fun v m hm => get_sort_char pL cs hC name n v m (by have := idx_lt hm; omega) hm)

theorem ls_get_symbol_char (so : SetOrder) (hso : so.Valid) (pL cs) {mods : List RMod} (hC : Closed mods) (n : Nat)
    (hn : mods.length + 1 ≤ n) (name : Nat) :
    ∃ r, LanguageSemantics.get_symbol so n (heapL pL mods cs) name = some r ∧
      (∀ s, r = some s → ∃ (j : Nat) (mj : RMod), mods[j]? = some mj ∧ ownSymbol name mj = some s) ∧
      (r = none → ∀ (j : Nat) (mj : RMod), mods[j]? = some mj → ownSymbol name mj = none) := by
  obtain ⟨L, hL, hmem⟩ := ls_modules_char so hso pL cs hC n (by omega)
  unfold LanguageSemantics.get_symbol
  rw [hL, KoreTie.call_ret_val]
  exact ls_loop_char (ownSymbol name) (fun v => KModule.get_symbol n (heapL pL mods cs) v name) L.reverse
    (fun v => by rw [List.mem_reverse]; exact hmem v)
    (fun v m hm => get_symbol_char pL cs hC name n v m (by have := idx_lt hm; omega) hm)

#print axioms modules_eqM
#print axioms cl_trans
#print axioms get_sort_char
#print axioms get_symbol_char
#print axioms get_axiom_char
#print axioms ls_modules_char
#print axioms get_module_char
#print axioms ls_get_sort_char
#print axioms ls_get_symbol_char
end KDefTieM2
