import Pi2.MM.Accept
import Pi2.Props.C02
/-!
# Proof modules of the propositional fragment: the side conditions are derived

`NPat.PF`: symbols, clean metavariables, `imp`, `app`, the body `mu 0 (svar 0)` of `bot`, and notation
nodes over such patterns (with distinct keys).  `Pf.PF`: `prop1/2/3`, `mp`, `dynInst` (distinct keys,
values in the fragment), `loadAxiom`.  For such modules every call `execute_full` makes satisfies the
machine's side conditions, so `module_accepted` needs no `AllSideM` hypothesis.
-/
set_option linter.unusedSimpArgs false
set_option linter.unusedVariables false
open Pat PySt NPat MM

/-! ## the fragment -/

namespace NPat

/-- the set variable `X0` -/
def isSV0 : NPat → Bool
  | .svar Y => Y == 0
  | _ => false

mutual
def PF : NPat → Bool
  | .sym _ => true
  | .mv _ ef sf ps ns hs => ef.isEmpty && sf.isEmpty && ps.isEmpty && ns.isEmpty && hs.isEmpty
  | .imp l r => l.PF && r.PF
  | .app l r => l.PF && r.PF
  | .mu X p => X == 0 && p.isSV0
  | .inst p m => p.PF && PFMap m && decide ((m.map (·.1)).Nodup)
  | _ => false
def PFMap : List (Nat × NPat) → Bool
  | [] => true
  | (_, v) :: r => v.PF && PFMap r
end

theorem PFMap_iff (m : List (Nat × NPat)) : PFMap m = true ↔ ∀ kv ∈ m, kv.2.PF = true := by
  induction m with
  | nil => simp [PFMap]
  | cons kv r ih => obtain ⟨k, v⟩ := kv; simp [PFMap, ih]

theorem isSV0_eq {p : NPat} (h : p.isSV0 = true) : p = .svar 0 := by
  cases p <;> simp [isSV0] at h
  subst h; rfl

end NPat

/-- the expansions of the fragment: symbols, unconstrained metavariables, `imp`, `app`, `mu X. Y` -/
def Pat.isSV : Pat → Bool
  | .svar _ => true
  | _ => false

def Pat.PFS : Pat → Bool
  | .sym _ => true
  | .mv _ ef sf ps ns _ => ef.isEmpty && sf.isEmpty && ps.isEmpty && ns.isEmpty
  | .imp l r => l.PFS && r.PFS
  | .app l r => l.PFS && r.PFS
  | .mu _ p => p.isSV
  | _ => false

/-- the machine never rejects an instantiation of a pattern of the fragment -/
theorem Pat.inst_PFS (θ : VId → Option Pat) (p : Pat) (hp : p.PFS = true) :
    (Pat.inst θ p).isSome = true := by
  induction p with
  | sym _ => simp [Pat.inst]
  | mv id ef sf ps ns hs =>
    simp only [Pat.PFS, Bool.and_eq_true, List.isEmpty_iff] at hp
    obtain ⟨⟨⟨rfl, rfl⟩, rfl⟩, rfl⟩ := hp
    simp only [Pat.inst]
    cases θ id <;> simp [Pat.okPlug]
  | imp l r ihl ihr =>
    simp only [Pat.PFS, Bool.and_eq_true] at hp
    obtain ⟨a, ha⟩ := Option.isSome_iff_exists.mp (ihl hp.1)
    obtain ⟨b, hb⟩ := Option.isSome_iff_exists.mp (ihr hp.2)
    simp [Pat.inst, ha, hb]
  | app l r ihl ihr =>
    simp only [Pat.PFS, Bool.and_eq_true] at hp
    obtain ⟨a, ha⟩ := Option.isSome_iff_exists.mp (ihl hp.1)
    obtain ⟨b, hb⟩ := Option.isSome_iff_exists.mp (ihr hp.2)
    simp [Pat.inst, ha, hb]
  | mu X p _ =>
    simp only [Pat.PFS] at hp
    cases p <;> simp [Pat.isSV] at hp
    simp [Pat.inst]
  | _ => simp [Pat.PFS] at hp

theorem Py.inst_PFS (δ : VId → Option Pat) (hδ : ∀ k v, δ k = some v → v.PFS = true)
    (q : Pat) (hq : q.PFS = true) : (Py.inst δ q).PFS = true := by
  induction q with
  | sym _ => simp [Py.inst, Pat.PFS]
  | mv id ef sf ps ns hs =>
    simp only [Py.inst]
    cases h : δ id with
    | none => simpa using hq
    | some v => simpa using hδ _ _ h
  | imp l r ihl ihr =>
    simp only [Pat.PFS, Bool.and_eq_true] at hq
    simp [Py.inst, Pat.PFS, ihl hq.1, ihr hq.2]
  | app l r ihl ihr =>
    simp only [Pat.PFS, Bool.and_eq_true] at hq
    simp [Py.inst, Pat.PFS, ihl hq.1, ihr hq.2]
  | mu X p _ =>
    simp only [Pat.PFS] at hq
    cases p <;> simp [Pat.isSV] at hq
    simp [Py.inst, Pat.PFS, Pat.isSV]
  | _ => simp [Pat.PFS] at hq

/-- a term of the tracker is *good*: shaped, with an expansion in the fragment -/
def NPat.Good (a : NPat) : Prop := a.Shape = true ∧ a.expand.PFS = true

theorem lookup_PFS : ∀ (m : List (Nat × NPat)), (∀ kv ∈ m, kv.2.expand.PFS = true) →
    ∀ k v, Py.lookup (expand.expandMap m) k = some v → v.PFS = true
  | [], _ => by simp [expand.expandMap, Py.lookup]
  | (k, v) :: r, h => by
    intro i w hw
    simp only [expand.expandMap, Py.lookup] at hw
    split at hw
    · cases hw; exact h (k, v) (by simp)
    · exact lookup_PFS r (fun kv hkv => h kv (List.mem_cons_of_mem _ hkv)) i w hw

namespace NPat

mutual
theorem PF.shape : (p : NPat) → p.PF = true → p.Shape = true
  | .sym _, _ => rfl
  | .mv _ _ _ _ _ _, h => by
    simp only [PF, Bool.and_eq_true] at h
    simp [Shape, h.1.1.1.1, h.1.1.1.2]
  | .imp l r, h => by
    simp only [PF, Bool.and_eq_true] at h
    simp [Shape, PF.shape l h.1, PF.shape r h.2]
  | .app l r, h => by
    simp only [PF, Bool.and_eq_true] at h
    simp [Shape, PF.shape l h.1, PF.shape r h.2]
  | .inst p m, h => by
    simp only [PF, Bool.and_eq_true] at h
    simp [Shape, PF.shape p h.1.1, PFMap.shape m h.1.2]
  | .mu _ p, h => by
    simp only [PF, Bool.and_eq_true] at h
    rw [isSV0_eq h.2]; rfl
  | .evar _, h => by simp [PF] at h
  | .svar _, h => by simp [PF] at h
  | .ex _ _, h => by simp [PF] at h
  | .esub _ _ _, h => by simp [PF] at h
  | .ssub _ _ _, h => by simp [PF] at h
theorem PFMap.shape : (m : List (Nat × NPat)) → PFMap m = true → ShapeMap m = true
  | [], _ => rfl
  | (_, v) :: r, h => by
    simp only [PFMap, Bool.and_eq_true] at h
    simp [ShapeMap, PF.shape v h.1, PFMap.shape r h.2]
end

mutual
theorem PF.pfs : (p : NPat) → p.PF = true → p.expand.PFS = true
  | .sym _, _ => rfl
  | .mv _ _ _ _ _ _, h => by
    simp only [PF, Bool.and_eq_true] at h
    simp [expand, Pat.PFS, h.1.1.1.1, h.1.1.1.2, h.1.1.2, h.1.2]
  | .imp l r, h => by
    simp only [PF, Bool.and_eq_true] at h
    simp [expand, Pat.PFS, PF.pfs l h.1, PF.pfs r h.2]
  | .app l r, h => by
    simp only [PF, Bool.and_eq_true] at h
    simp [expand, Pat.PFS, PF.pfs l h.1, PF.pfs r h.2]
  | .inst p m, h => by
    simp only [PF, Bool.and_eq_true] at h
    simp only [expand]
    exact Py.inst_PFS _ (PFMap.pfs m h.1.2) _ (PF.pfs p h.1.1)
  | .mu _ p, h => by
    simp only [PF, Bool.and_eq_true] at h
    rw [isSV0_eq h.2]; rfl
  | .evar _, h => by simp [PF] at h
  | .svar _, h => by simp [PF] at h
  | .ex _ _, h => by simp [PF] at h
  | .esub _ _ _, h => by simp [PF] at h
  | .ssub _ _ _, h => by simp [PF] at h
theorem PFMap.pfs : (m : List (Nat × NPat)) → PFMap m = true →
    ∀ k v, Py.lookup (expand.expandMap m) k = some v → v.PFS = true
  | [], _ => by simp [expand.expandMap, Py.lookup]
  | (k, v) :: r, h => by
    simp only [PFMap, Bool.and_eq_true] at h
    intro i w hw
    simp only [expand.expandMap, Py.lookup] at hw
    split at hw
    · cases hw; exact PF.pfs v h.1
    · exact PFMap.pfs r h.2 i w hw
end

theorem PF.good {p : NPat} (h : p.PF = true) : p.Good := ⟨PF.shape p h, PF.pfs p h⟩

theorem PF.keys {p : NPat} {m : List (Nat × NPat)} (h : (NPat.inst p m).PF = true) :
    p.PF = true ∧ (∀ v ∈ m.map (·.2), v.PF = true) ∧ (m.map (·.1)).Nodup := by
  simp only [PF, Bool.and_eq_true, decide_eq_true_eq] at h
  refine ⟨h.1.1, ?_, h.2⟩
  intro v hv
  obtain ⟨kv, hkv, rfl⟩ := List.mem_map.mp hv
  exact (PFMap_iff m).mp h.1.2 kv hkv

/-! ### closure of good terms under the tracker's operations -/

theorem good_zip (keys : List Nat) (plugs : List NPat) (h : ∀ p ∈ plugs, p.Good) :
    ShapeMap (keys.zip plugs) = true ∧
      ∀ k v, Py.lookup (expand.expandMap (keys.zip plugs)) k = some v → v.PFS = true := by
  refine ⟨shapeMap_zip keys plugs (fun p hp => (h p hp).1), lookup_PFS _ ?_⟩
  intro kv hkv
  obtain ⟨k, v⟩ := kv
  exact (h v (List.of_mem_zip hkv).2).2

theorem Good.instF {N : Nat} {keys : List Nat} {plugs : List NPat} {a c : NPat} (ha : a.Good)
    (hp : ∀ p ∈ plugs, p.Good) (h : NPat.instF N (keys.zip plugs) a = some c) : c.Good := by
  obtain ⟨hz1, hz2⟩ := good_zip keys plugs hp
  obtain ⟨he, hs⟩ := instF_expand N _ a c ha.1 hz1 h
  exact ⟨hs, by rw [he]; exact Py.inst_PFS _ hz2 _ ha.2⟩

theorem Good.inst {keys : List Nat} {plugs : List NPat} {a : NPat} (ha : a.Good)
    (hp : ∀ p ∈ plugs, p.Good) : (NPat.inst a (keys.zip plugs)).Good := by
  obtain ⟨hz1, hz2⟩ := good_zip keys plugs hp
  exact ⟨by simp [Shape, ha.1, hz1], by simp only [expand]; exact Py.inst_PFS _ hz2 _ ha.2⟩

theorem Good.mp {N : Nat} {l r c : NPat} (hl : l.Good) (hr : r.Good)
    (h : pyMP N l r = some (some c)) : c.Good := by
  obtain ⟨he, hs⟩ := pyMP_spec N l r c hl.1 hr.1 h
  have := hl.2
  rw [he] at this
  simp only [Pat.PFS, Bool.and_eq_true] at this
  exact ⟨hs, this.2⟩

theorem good_prop1 : prop1N.Good := ⟨by decide, by decide⟩
theorem good_prop2 : prop2N.Good := ⟨by decide, by decide⟩
theorem good_prop3 : prop3N.Good := ⟨by decide, by decide⟩

end NPat

/-! ## traces on top of an arbitrary state -/

/-- calls made on top of `s0`: a trace with fuel `N` (with its side conditions), new entries `top`,
only quiet calls -/
def PostP (N : Nat) (s0 : PySt) (top : List (TTerm × Bool)) (acc : List Call) (s : PySt)
    (a : List Call) : Prop :=
  ∃ cs, a = acc ++ cs ∧ Tr N s0 cs s ∧ s.stack = top ++ s0.stack ∧ ∀ c ∈ cs, c.quiet = true

theorem PostP.init (N : Nat) (s : PySt) (acc : List Call) : PostP N s [] acc s acc :=
  ⟨[], by simp, Tr.nil N s, rfl, by simp⟩

theorem PostP.trans {N : Nat} {s0 s1 s2 : PySt} {t1 t2 : List (TTerm × Bool)}
    {acc a1 a2 : List Call} (h1 : PostP N s0 t1 acc s1 a1) (h2 : PostP N s1 t2 a1 s2 a2) :
    PostP N s0 (t2 ++ t1) acc s2 a2 := by
  obtain ⟨c1, rfl, tr1, k1, q1⟩ := h1
  obtain ⟨c2, rfl, tr2, k2, q2⟩ := h2
  refine ⟨c1 ++ c2, by simp, tr1.append tr2, by rw [k2, k1, List.append_assoc], ?_⟩
  intro c hc
  rcases List.mem_append.mp hc with hc | hc
  · exact q1 c hc
  · exact q2 c hc

theorem PostP.step {N : Nat} {s0 s s' : PySt} {top top' : List (TTerm × Bool)} {acc a : List Call}
    (c : Call) (hp : PostP N s0 top acc s a) (ht : track1 N s c = some (some s'))
    (hside : SideNS s c) (hstk : s'.stack = top' ++ s0.stack)
    (hq : c.quiet = true) : PostP N s0 top' acc s' (a ++ [c]) := by
  obtain ⟨cs, rfl, tr, _, q⟩ := hp
  refine ⟨cs ++ [c], by simp, tr.append (Tr.single ht (Or.inr hside)), hstk, ?_⟩
  intro x hx
  rcases List.mem_append.mp hx with hx | hx
  · exact q x hx
  · simp at hx; subst hx; exact hq

theorem PostP.stack {N : Nat} {s0 s : PySt} {top : List (TTerm × Bool)} {acc a : List Call}
    (h : PostP N s0 top acc s a) : s.stack = top ++ s0.stack := by
  obtain ⟨_, _, _, hk, _⟩ := h
  exact hk

theorem take_entry (l : List NPat) (rest : List (TTerm × Bool)) :
    ((l.map entry ++ rest).take l.length).any (·.2) = false := by
  have : (l.map entry ++ rest).take l.length = l.map entry := by
    exact List.take_left' (l₁ := l.map entry) (l₂ := rest) (i := l.length) (by simp)
  rw [this]
  rw [List.any_eq_false]
  intro e he
  obtain ⟨t, _, rfl⟩ := List.mem_map.mp he
  simp [entry]

/-- `instantiate` / `instantiate_pattern` on a fresh term over fresh plugs -/
theorem sideNS_instP (s : PySt) (c : Call) (keys : List Nat)
    (hc : c = .instantiate keys ∨ c = .instantiatePattern keys) (hnd : keys.Nodup)
    (t : TTerm) (l : List NPat) (rest : List (TTerm × Bool))
    (hs : s.stack = (t, false) :: (l.map entry ++ rest)) (hlen : keys.length = l.length)
    (ht : t.body.Good) : SideNS s c := by
  have hres : ((l.map entry ++ rest).take keys.length).any (·.2) = false := by
    rw [hlen]; exact take_entry l rest
  have hsc : ∀ a b st0 plugs st', s.stack = (a, b) :: st0 →
      PySt.takePlugs keys.length st0 = some (plugs, st') →
      (Pat.inst (Py.lookup (NPat.expand.expandMap (keys.zip plugs))) a.body.expand).isSome = true := by
    intro a b st0 plugs st' hs' _
    rw [hs] at hs'
    cases hs'
    exact Pat.inst_PFS _ _ ht.2
  rcases hc with rfl | rfl
  · exact ⟨hsc, by simp [touchesResidue, Call.arity, hs, List.take_succ_cons, hres],
      (fun _ e => by rcases e with e | e <;> cases e; exact hnd),
      (fun _ e => by cases e), (fun _ _ _ _ _ _ e => by cases e)⟩
  · exact ⟨hsc, by simp [touchesResidue, Call.arity, hs, List.take_succ_cons, hres],
      (fun _ e => by rcases e with e | e <;> cases e; exact hnd),
      (fun _ e => by cases e), (fun _ _ _ _ _ _ e => by cases e)⟩

/-! ## `Interpreter.pattern` on the fragment -/

/-- the patterns `Interpreter.pattern` is called on: the fragment and the variable under `mu` -/
def NPat.PFx (p : NPat) : Prop := p.PF = true ∨ p = .svar 0

theorem NPat.PFx.shape {p : NPat} (h : p.PFx) : p.Shape = true := by
  rcases h with h | rfl
  · exact PF.shape p h
  · rfl

def PatTr (cfg : Cfg) (N k : Nat) : Prop :=
  ∀ s p acc s' a', NPat.PFx p → patternF cfg k s p acc = some (some (s', a')) →
    PostP N s [entry p] acc s' a'

def ListTr (cfg : Cfg) (N k : Nat) : Prop :=
  ∀ s ps acc s' a', (∀ p ∈ ps, p.PF = true) →
    patternF.patternListF cfg k s ps acc = some (some (s', a')) →
    PostP N s (ps.reverse.map entry) acc s' a'

theorem buildPF (cfg : Cfg) (N k : Nat) (hk : k ≤ N) (ihP : PatTr cfg N k) (ihL : ListTr cfg N k)
    (s : PySt) (p : NPat) (acc : List Call) (s' : PySt) (a' : List Call)
    (hp : p.PFx) (h : buildF cfg k s p acc = some (some (s', a'))) :
    PostP N s [entry p] acc s' a' := by
  have hP0 := PostP.init N s acc
  have two : ∀ (l r : NPat) (c : Call) (res : NPat), l.PF = true → r.PF = true →
      (c = .implies ∨ c = .app) →
      (∀ (s2 : PySt) st, s2.stack = (.pat r, false) :: (.pat l, false) :: st →
        ∀ n, track1 n s2 c = some (some { s2 with stack := (.pat res, false) :: st })) →
      c.quiet = true →
      (andThen (patternF cfg k s l acc) fun s1 a1 =>
        andThen (patternF cfg k s1 r a1) fun s2 a2 => doCalls k s2 [c] a2) = some (some (s', a')) →
      PostP N s [entry res] acc s' a' := by
    intro l r c res hl hr hc htr hq h
    rcases andThen_eq_some _ _ _ h with ⟨_, e⟩ | ⟨s1, a1, h1, h⟩
    · cases e
    rcases andThen_eq_some _ _ _ h with ⟨_, e⟩ | ⟨s2, a2, h2, h⟩
    · cases e
    have p1 := ihP s l acc s1 a1 (Or.inl hl) h1
    have p2 := ihP s1 r a1 s2 a2 (Or.inl hr) h2
    have p12 := p1.trans p2
    obtain ⟨ht, rfl⟩ := doCalls_one h
    have hstk : s2.stack = (.pat r, false) :: (.pat l, false) :: s.stack := by
      simpa [entry] using p12.stack
    have ht' := htr s2 s.stack hstk k
    rw [ht'] at ht
    simp only [Option.some.injEq] at ht
    subst ht
    exact p12.step c (htr s2 s.stack hstk N)
      (sideNS_top2 s2 c _ _ _ hstk (by rcases hc with rfl | rfl <;> simp)) rfl hq
  cases p with
  | sym x =>
    simp only [buildF] at h
    obtain ⟨ht, rfl⟩ := doCalls_one h
    have ht' : track1 N s (.symbol x) = some (some s') := track1_mono hk _ _ _ ht
    cases ht
    exact hP0.step _ ht' (sideNS_symbol s x) rfl rfl
  | svar x =>
    simp only [buildF] at h
    obtain ⟨ht, rfl⟩ := doCalls_one h
    have ht' : track1 N s (.svar x) = some (some s') := track1_mono hk _ _ _ ht
    cases ht
    exact hP0.step _ ht'
      (sideNS_mk s _ trivial (by simp [touchesResidue, Call.arity]) (by simp) (by simp) (by simp))
      rfl rfl
  | mv id ef sf ps ns hs' =>
    rcases hp with hp | hp
    · simp only [PF, Bool.and_eq_true, List.isEmpty_iff] at hp
      obtain ⟨⟨⟨⟨rfl, rfl⟩, rfl⟩, rfl⟩, rfl⟩ := hp
      simp only [buildF] at h
      obtain ⟨ht, rfl⟩ := doCalls_one h
      have ht' : track1 N s (.metavar id [] [] [] [] []) = some (some s') := track1_mono hk _ _ _ ht
      cases ht
      exact hP0.step _ ht' (sideNS_mvclean s id) rfl rfl
    · cases hp
  | imp l r =>
    rcases hp with hp | hp
    · simp only [PF, Bool.and_eq_true] at hp
      simp only [buildF] at h
      exact two l r .implies (.imp l r) hp.1 hp.2 (Or.inl rfl)
        (fun s2 st hstk n => by dsimp only [track1]; rw [hstk]) rfl h
    · cases hp
  | app l r =>
    rcases hp with hp | hp
    · simp only [PF, Bool.and_eq_true] at hp
      simp only [buildF] at h
      exact two l r .app (.app l r) hp.1 hp.2 (Or.inr rfl)
        (fun s2 st hstk n => by dsimp only [track1]; rw [hstk]) rfl h
    · cases hp
  | mu X q =>
    rcases hp with hp | hp
    · simp only [PF, Bool.and_eq_true] at hp
      have hq := isSV0_eq hp.2
      subst hq
      simp only [buildF] at h
      rcases andThen_eq_some _ _ _ h with ⟨_, e⟩ | ⟨s1, a1, h1, h⟩
      · cases e
      have p1 := ihP s (.svar 0) acc s1 a1 (Or.inr rfl) h1
      obtain ⟨ht, rfl⟩ := doCalls_one h
      have hstk : s1.stack = (.pat (.svar 0), false) :: s.stack := by
        simpa [entry] using p1.stack
      have htr : ∀ n, track1 n s1 (.mu X)
          = some (some { s1 with stack := (.pat (.mu X (.svar 0)), false) :: s.stack }) := by
        intro n; dsimp only [track1]; rw [hstk]
      rw [htr k] at ht
      simp only [Option.some.injEq] at ht
      subst ht
      refine p1.step _ (htr N) ?_ rfl rfl
      refine sideNS_mk s1 _ ?_ (by simp [touchesResidue, Call.arity, hstk]) (by simp) (by simp)
        (by simp)
      intro p b st hs
      rw [hstk] at hs
      cases hs
      rfl
    · cases hp
  | inst q m =>
    rcases hp with hp | hp
    · obtain ⟨hq, hvals, hnd⟩ := PF.keys hp
      simp only [buildF] at h
      rcases andThen_eq_some _ _ _ h with ⟨_, e⟩ | ⟨s1, a1, h1, h⟩
      · cases e
      rcases andThen_eq_some _ _ _ h with ⟨_, e⟩ | ⟨s2, a2, h2, h⟩
      · cases e
      have p1 := ihL s (m.map (·.2)) acc s1 a1 hvals h1
      have p2 := ihP s1 q a1 s2 a2 (Or.inl hq) h2
      have p12 := p1.trans p2
      obtain ⟨ht, rfl⟩ := doCalls_one h
      have hstk : s2.stack = (.pat q, false) :: ((m.map (·.2)).reverse.map entry ++ s.stack) := by
        simpa [entry] using p12.stack
      have hlen : (m.map (·.1)).length = ((m.map (·.2)).reverse).length := by simp
      have htr : ∀ n, track1 n s2 (.instantiatePattern (m.map (·.1)))
          = some (some { s2 with stack := (.pat (.inst q m), false) :: s.stack }) := by
        intro n
        have := takePlugs_rev (m.map (·.2)).reverse s.stack
        simp only [List.reverse_reverse, List.length_reverse, List.length_map] at this
        dsimp only [track1]
        simp only [hstk, List.length_map, this, zip_keys_vals]
      rw [htr k] at ht
      simp only [Option.some.injEq] at ht
      subst ht
      exact p12.step _ (htr N)
        (sideNS_instP s2 _ _ (Or.inr rfl) hnd _ _ _ hstk hlen (PF.good hq)) rfl rfl
    · cases hp
  | evar _ => rcases hp with hp | hp <;> simp [PF] at hp
  | ex _ _ => rcases hp with hp | hp <;> simp [PF] at hp
  | esub _ _ _ => rcases hp with hp | hp <;> simp [PF] at hp
  | ssub _ _ _ => rcases hp with hp | hp <;> simp [PF] at hp

theorem patPF_step (cfg : Cfg) (N k : Nat) (hk : k + 1 ≤ N) (ihP : PatTr cfg N k)
    (ihL : ListTr cfg N k) : PatTr cfg N (k + 1) := by
  intro s p acc s' a' hp h
  rw [patternF_succ] at h
  simp only [Option.bind_eq_some_iff] at h
  obtain ⟨hit, _, h⟩ := h
  cases hit with
  | true =>
    simp only [if_true] at h
    obtain ⟨ht, rfl⟩ := doCalls_one h
    have e := track1_load_eq ht
    subst e
    exact (PostP.init N s acc).step _ (track1_mono (by omega) _ _ _ ht)
      (sideNS_load s _ hp.shape) rfl rfl
  | false =>
    simp only [Bool.false_eq_true, if_false] at h
    rcases andThen_eq_some _ _ _ h with ⟨_, e⟩ | ⟨s1, a1, hb, h⟩
    · cases e
    have p1 := buildPF cfg N k (by omega) ihP ihL s p acc s1 a1 hp hb
    unfold saveF at h
    split at h
    · split at h
      · obtain ⟨ht, rfl⟩ := doCalls_one h
        have hstk : s1.stack = (.pat p, false) :: s.stack := by
          simpa [entry] using p1.stack
        have ht2 : ∀ n, track1 n s1 .save
            = some (some { s1 with memory := s1.memory ++ [.pat p] }) := by
          intro n; dsimp only [track1]; rw [hstk]
        rw [ht2 k] at ht
        simp only [Option.some.injEq] at ht
        subst ht
        exact p1.step _ (ht2 N) (sideNS_top1 s1 _ _ _ hstk (Or.inl rfl)) hstk rfl
      · simp only [Option.some.injEq, Prod.mk.injEq] at h
        obtain ⟨rfl, rfl⟩ := h
        exact p1
    · simp only [Option.some.injEq, Prod.mk.injEq] at h
      obtain ⟨rfl, rfl⟩ := h
      exact p1

theorem listPF_step (cfg : Cfg) (N k : Nat) (ihP : PatTr cfg N k) (ihL : ListTr cfg N k) :
    ListTr cfg N (k + 1) := by
  intro s ps acc s' a' hps h
  cases ps with
  | nil =>
    simp only [patternF.patternListF, Option.some.injEq, Prod.mk.injEq] at h
    obtain ⟨rfl, rfl⟩ := h
    exact PostP.init N s acc
  | cons p ps =>
    rw [patternListF_cons] at h
    rcases andThen_eq_some _ _ _ h with ⟨_, e⟩ | ⟨s1, a1, h1, h⟩
    · cases e
    have p1 := ihP s p acc s1 a1 (Or.inl (hps p (by simp))) h1
    have p2 := ihL s1 ps a1 s' a' (fun x hx => hps x (List.mem_cons_of_mem _ hx)) h
    have := p1.trans p2
    simpa using this

theorem patPF_all (cfg : Cfg) (N : Nat) : ∀ k, k ≤ N → PatTr cfg N k ∧ ListTr cfg N k := by
  intro k
  induction k with
  | zero =>
    intro _
    constructor
    · intro s p acc s' a' _ h; simp [patternF] at h
    · intro s ps acc s' a' _ h; simp [patternF.patternListF] at h
  | succ k ih =>
    intro hk
    obtain ⟨ihP, ihL⟩ := ih (by omega)
    exact ⟨patPF_step cfg N k hk ihP ihL, listPF_step cfg N k ihP ihL⟩

/-- `Interpreter.pattern` (plain or memoising) on a pattern of the fragment pushes exactly that
pattern; every call it makes satisfies the side conditions -/
theorem patternF_PF (cfg : Cfg) {N k : Nat} (hk : k ≤ N) {s : PySt} {p : NPat} {acc : List Call}
    {s' : PySt} {a' : List Call} (hp : p.PF = true)
    (h : patternF cfg k s p acc = some (some (s', a'))) :
    PostP N s [entry p] acc s' a' := (patPF_all cfg N k hk).1 s p acc s' a' (Or.inl hp) h

theorem patternListF_PF (cfg : Cfg) {N k : Nat} (hk : k ≤ N) {s : PySt} {ps : List NPat}
    {acc : List Call} {s' : PySt} {a' : List Call} (hp : ∀ p ∈ ps, p.PF = true)
    (h : patternF.patternListF cfg k s ps acc = some (some (s', a'))) :
    PostP N s (ps.reverse.map entry) acc s' a' := (patPF_all cfg N k hk).2 s ps acc s' a' hp h

/-! ## proof expressions of the fragment -/

/-- `prop1/2/3`, `mp`, `dynInst` with distinct keys and values in the fragment, `loadAxiom` of a
pattern of the fragment; no `gen`, no `quantifier` -/
def Pf.PF : Pf → Bool
  | .prop1 => true | .prop2 => true | .prop3 => true
  | .mp l r => l.PF && r.PF
  | .dynInst p δ => p.PF && NPat.PFMap δ && decide ((δ.map (·.1)).Nodup)
  | .loadAxiom a => a.PF
  | .gen _ _ => false
  | .quantifier => false

theorem Pf.PF.shaped : (pf : Pf) → pf.PF = true → pf.Shaped
  | .prop1, _ => trivial
  | .prop2, _ => trivial
  | .prop3, _ => trivial
  | .quantifier, _ => trivial
  | .mp l r, h => by
    simp only [Pf.PF, Bool.and_eq_true] at h
    exact ⟨Pf.PF.shaped l h.1, Pf.PF.shaped r h.2⟩
  | .dynInst p δ, h => by
    simp only [Pf.PF, Bool.and_eq_true] at h
    exact ⟨Pf.PF.shaped p h.1.1, PFMap.shape δ h.1.2⟩
  | .loadAxiom a, h => PF.shape a h
  | .gen _ _, h => by simp [Pf.PF] at h

def RunTr (cfg : Cfg) (ax : List NPat) (N k : Nat) : Prop :=
  ∀ s pf acc s' a' c, Pf.PF pf = true → Pf.runF cfg ax k s pf acc = some (some (s', a', c)) →
    PostP N s [(.proved c, false)] acc s' a' ∧ c.Good

/-- the raw part of a run: one proved term is pushed, and it is good -/
theorem rawPF (cfg : Cfg) (ax : List NPat) (N k : Nat) (hk : k ≤ N) (ih : RunTr cfg ax N k)
    (s : PySt) (pf : Pf) (acc : List Call) (s' : PySt) (a' : List Call) (hpf : pf.PF = true)
    (h : rawF cfg ax k s pf acc = some (some (s', a'))) :
    ∃ c, PostP N s [(.proved c, false)] acc s' a' ∧ c.Good := by
  have hP0 := PostP.init N s acc
  have push : ∀ (cl : Call) (t : NPat), t.Good → cl.quiet = true → SideNS s cl →
      (∀ n, track1 n s cl = some (some (s.push (.proved t)))) →
      doCalls k s [cl] acc = some (some (s', a')) →
      ∃ c, PostP N s [(.proved c, false)] acc s' a' ∧ c.Good := by
    intro cl t ht hq hside htr h
    obtain ⟨ht1, rfl⟩ := doCalls_one h
    rw [htr k] at ht1
    simp only [Option.some.injEq] at ht1
    subst ht1
    exact ⟨t, hP0.step _ (htr N) hside rfl hq, ht⟩
  cases pf with
  | prop1 =>
    simp only [rawF] at h
    exact push _ _ good_prop1 rfl (sideNS_prop1 s) (fun n => rfl) h
  | prop2 =>
    simp only [rawF] at h
    exact push _ _ good_prop2 rfl (sideNS_prop2 s) (fun n => rfl) h
  | prop3 =>
    simp only [rawF] at h
    exact push _ _ good_prop3 rfl
      (sideNS_mk s .prop3 trivial (by simp [touchesResidue, Call.arity]) (by simp) (by simp)
        (by simp))
      (fun n => rfl) h
  | quantifier => simp [Pf.PF] at hpf
  | gen _ _ => simp [Pf.PF] at hpf
  | loadAxiom a =>
    simp only [Pf.PF] at hpf
    simp only [rawF] at h
    obtain ⟨ht, rfl⟩ := doCalls_one h
    have e := track1_load_eq ht
    subst e
    exact ⟨a, hP0.step _ (track1_mono hk _ _ _ ht) (sideNS_load s _ (PF.shape a hpf)) rfl rfl,
      PF.good hpf⟩
  | mp l r =>
    simp only [Pf.PF, Bool.and_eq_true] at hpf
    simp only [rawF] at h
    rcases andThen3_eq_some _ _ _ h with ⟨_, e⟩ | ⟨s1, a1, cl, h1, h⟩
    · cases e
    rcases andThen3_eq_some _ _ _ h with ⟨_, e⟩ | ⟨s2, a2, cr, h2, h⟩
    · cases e
    obtain ⟨p1, gl⟩ := ih s l acc s1 a1 cl hpf.1 h1
    obtain ⟨p2, gr⟩ := ih s1 r a1 s2 a2 cr hpf.2 h2
    have p12 := p1.trans p2
    obtain ⟨ht, rfl⟩ := doCalls_one h
    have hstk : s2.stack = (.proved cr, false) :: (.proved cl, false) :: s.stack := by
      simpa using p12.stack
    have htN := track1_mono hk _ _ _ ht
    dsimp only [track1] at htN
    simp only [hstk, Option.bind_eq_bind, Option.bind_eq_some_iff] at htN
    obtain ⟨oc, hmp, htN'⟩ := htN
    cases oc with
    | none => simp at htN'
    | some c =>
      simp only [Option.pure_def, Option.some.injEq] at htN'
      subst htN'
      refine ⟨c, p12.step _ (track1_mono hk _ _ _ ht)
        (sideNS_top2 s2 _ _ _ _ hstk (Or.inr (Or.inr rfl))) rfl rfl, Good.mp gl gr hmp⟩
  | dynInst p δ =>
    simp only [Pf.PF, Bool.and_eq_true, decide_eq_true_eq] at hpf
    obtain ⟨⟨hp, hδ⟩, hnd⟩ := hpf
    simp only [rawF] at h
    split at h
    · rcases andThen3_eq_some _ _ _ h with ⟨_, e⟩ | ⟨s1, a1, c, h1, h⟩
      · cases e
      simp only [Option.pure_def, Option.some.injEq, Prod.mk.injEq] at h
      obtain ⟨rfl, rfl⟩ := h
      exact ⟨c, ih s p acc s1 a1 c hp h1⟩
    · next hne =>
      rcases andThen_eq_some _ _ _ h with ⟨_, e⟩ | ⟨s1, a1, h1, h⟩
      · cases e
      rcases andThen3_eq_some _ _ _ h with ⟨_, e⟩ | ⟨s2, a2, cp, h2, h⟩
      · cases e
      have hvals : ∀ v ∈ δ.map (·.2), v.PF = true := by
        intro v hv
        obtain ⟨kv, hkv, rfl⟩ := List.mem_map.mp hv
        exact (PFMap_iff δ).mp hδ kv hkv
      have p1 := patternListF_PF cfg hk hvals h1
      obtain ⟨p2, gp⟩ := ih s1 p a1 s2 a2 cp hp h2
      have p12 := p1.trans p2
      obtain ⟨ht, rfl⟩ := doCalls_one h
      have hstk : s2.stack = (.proved cp, false) :: ((δ.map (·.2)).reverse.map entry ++ s.stack) := by
        simpa using p12.stack
      have hlen : (δ.map (·.1)).length = ((δ.map (·.2)).reverse).length := by simp
      have hke : (δ.map (·.1)).isEmpty = false := by
        cases δ with
        | nil => simp at hne
        | cons _ _ => rfl
      have htp := takePlugs_rev (δ.map (·.2)).reverse s.stack
      simp only [List.reverse_reverse, List.length_reverse, List.length_map] at htp
      have htN := track1_mono hk _ _ _ ht
      dsimp only [track1] at htN
      simp only [hstk, hke, Bool.false_eq_true, if_false, List.length_map, htp,
        zip_keys_vals, Option.bind_eq_bind, Option.bind_eq_some_iff, Option.pure_def,
        Option.some.injEq] at htN
      obtain ⟨c, hinst, htN'⟩ := htN
      subst htN'
      refine ⟨c, p12.step _ (track1_mono hk _ _ _ ht)
        (sideNS_instP s2 _ _ (Or.inl rfl) hnd _ _ _ hstk hlen gp) rfl rfl, ?_⟩
      have hz := zip_keys_vals δ
      rw [← hz] at hinst
      exact Good.instF gp (fun v hv => PF.good (hvals v hv)) hinst

theorem runPF_step (cfg : Cfg) (ax : List NPat) (N k : Nat) (hk : k + 1 ≤ N)
    (ih : RunTr cfg ax N k) : RunTr cfg ax N (k + 1) := by
  intro s pf acc s' a' c hpf h
  rw [runF_succ] at h
  rcases andThen_eq_some _ _ _ h with ⟨_, e⟩ | ⟨s1, a1, hraw, h⟩
  · cases e
  obtain ⟨c1, p1, g1⟩ := rawPF cfg ax N k (by omega) ih s pf acc s1 a1 hpf hraw
  have hstk : s1.stack = (.proved c1, false) :: s.stack := by simpa using p1.stack
  simp only [checkF, hstk, Option.bind_eq_some_iff] at h
  obtain ⟨o, _, h⟩ := h
  cases o with
  | none => simp at h
  | some adv =>
    simp only [Option.bind_eq_some_iff] at h
    obtain ⟨e, _, h⟩ := h
    cases e with
    | false => simp at h
    | true =>
      simp only [if_true, Option.pure_def, Option.some.injEq, Prod.mk.injEq] at h
      obtain ⟨rfl, rfl, rfl⟩ := h
      exact ⟨p1, g1⟩

theorem runPF_all (cfg : Cfg) (ax : List NPat) (N : Nat) : ∀ k, k ≤ N → RunTr cfg ax N k := by
  intro k
  induction k with
  | zero => intro _ s pf acc s' a' c _ h; simp [Pf.runF] at h
  | succ k ih => intro hk; exact runPF_step cfg ax N k hk (ih (by omega))

/-- a proof expression of the fragment pushes one proved term; every call of its run satisfies the
side conditions -/
theorem runF_PF (cfg : Cfg) (ax : List NPat) {N k : Nat} (hk : k ≤ N) {s : PySt} {pf : Pf}
    {acc : List Call} {s' : PySt} {a' : List Call} {c : NPat} (hpf : pf.PF = true)
    (h : Pf.runF cfg ax k s pf acc = some (some (s', a', c))) :
    PostP N s [(.proved c, false)] acc s' a' ∧ c.Good := runPF_all cfg ax N k hk s pf acc s' a' c hpf h

/-! ## the loops of `execute_full` -/

theorem pubPF (cfg : Cfg) (n : Nat) (c : Call) (hc : c = .publishAxiom ∨ c = .publishClaim) :
    ∀ (as : List NPat) (s : PySt) (acc : List Call) (s' : PySt) (a' : List Call),
    (∀ a ∈ as, a.PF = true) →
    PModule.executeFull.pub cfg n s acc c as = some (some (s', a')) →
    ∃ cs, a' = acc ++ cs ∧ Tr n s cs s' := by
  intro as
  induction as with
  | nil =>
    intro s acc s' a' _ h
    simp only [PModule.executeFull.pub, Option.some.injEq, Prod.mk.injEq] at h
    obtain ⟨rfl, rfl⟩ := h
    exact ⟨[], by simp, Tr.nil n _⟩
  | cons a r ih =>
    intro s acc s' a' has h
    simp only [PModule.executeFull.pub, Option.bind_eq_bind, Option.bind_eq_some_iff] at h
    obtain ⟨o1, hp, h⟩ := h
    rcases o1 with _ | ⟨s1, a1⟩
    · simp at h
    simp only [Option.bind_eq_some_iff] at h
    obtain ⟨o2, hd, h⟩ := h
    rcases o2 with _ | ⟨s2, a2⟩
    · simp at h
    simp only [] at h
    obtain ⟨cs1, hcs1, htr1, hstk, _⟩ := patternF_PF cfg (Nat.le_refl n) (has a (by simp)) hp
    simp only [List.singleton_append, entry] at hstk
    obtain ⟨ht, rfl⟩ := doCalls_one hd
    obtain ⟨cs2, rfl, htr2⟩ := ih s2 _ s' a' (fun x hx => has x (List.mem_cons_of_mem _ hx)) h
    have hside : SideNS s1 c := sideNS_top1 s1 c _ _ hstk (by rcases hc with rfl | rfl <;> simp)
    exact ⟨cs1 ++ c :: cs2, by rw [hcs1]; simp, htr1.append (Tr.cons ht (Or.inr hside) htr2)⟩

theorem proofsPF (cfg : Cfg) (m : PModule) (n : Nat) :
    ∀ (pfs : List Pf) (s : PySt) (acc : List Call) (s' : PySt) (a' : List Call),
    (∀ pf ∈ pfs, pf.PF = true) →
    PModule.executeFull.proofs cfg m n s acc pfs = some (some (s', a')) →
    ∃ cs, a' = acc ++ cs ∧ Tr n s cs s' := by
  intro pfs
  induction pfs with
  | nil =>
    intro s acc s' a' _ h
    simp only [PModule.executeFull.proofs, Option.some.injEq, Prod.mk.injEq] at h
    obtain ⟨rfl, rfl⟩ := h
    exact ⟨[], by simp, Tr.nil n _⟩
  | cons pf r ih =>
    intro s acc s' a' hpfs h
    simp only [PModule.executeFull.proofs, Option.bind_eq_bind, Option.bind_eq_some_iff] at h
    obtain ⟨o1, hp, h⟩ := h
    rcases o1 with _ | ⟨s1, a1, cc⟩
    · simp at h
    simp only [Option.bind_eq_some_iff] at h
    obtain ⟨o2, hd, h⟩ := h
    rcases o2 with _ | ⟨s2, a2⟩
    · simp at h
    simp only [] at h
    obtain ⟨⟨cs1, hcs1, htr1, hstk, _⟩, _⟩ :=
      runF_PF cfg m.axiomsOf (Nat.le_refl n) (hpfs pf (by simp)) hp
    simp only [List.singleton_append] at hstk
    obtain ⟨ht, rfl⟩ := doCalls_one hd
    obtain ⟨cs2, rfl, htr2⟩ := ih s2 _ s' a' (fun x hx => hpfs x (List.mem_cons_of_mem _ hx)) h
    have hside : SideNS s1 .publishProof :=
      sideNS_top1 s1 _ _ _ hstk (Or.inr (Or.inr (Or.inl rfl)))
    exact ⟨cs1 ++ .publishProof :: cs2, by rw [hcs1]; simp,
      htr1.append (Tr.cons ht (Or.inr hside) htr2)⟩

/-- the whole history of `execute_full` on a module of the fragment is a trace with fuel `n`: every
call satisfies the side conditions (all but the symbol naming) -/
theorem module_trace_PF (cfg : Cfg) (n : Nat) (m : PModule) (s : PySt) (calls : List Call)
    (hgam : ∀ a ∈ m.gammaAxioms, a.PF = true) (hclm : ∀ a ∈ m.claimsOf, a.PF = true)
    (hpfs : ∀ pf ∈ m.proofsOf, pf.PF = true)
    (hex : PModule.executeFull cfg n m = some (some (s, calls))) :
    Tr n (PySt.init m.claimsOf) calls s := by
  simp only [PModule.executeFull, Option.bind_eq_bind, Option.bind_eq_some_iff] at hex
  obtain ⟨o1, hpub1, hex⟩ := hex
  rcases o1 with _ | ⟨e1, a1⟩
  · simp at hex
  simp only [Option.bind_eq_some_iff] at hex
  obtain ⟨o2, hd1, hex⟩ := hex
  rcases o2 with _ | ⟨e2, a2⟩
  · simp at hex
  simp only [Option.bind_eq_some_iff] at hex
  obtain ⟨o3, hpub2, hex⟩ := hex
  rcases o3 with _ | ⟨e3, a3⟩
  · simp at hex
  simp only [Option.bind_eq_some_iff] at hex
  obtain ⟨o4, hd2, hex⟩ := hex
  rcases o4 with _ | ⟨e4, a4⟩
  · simp at hex
  simp only [] at hex
  obtain ⟨G, hG, trG⟩ := pubPF cfg n .publishAxiom (Or.inl rfl) m.gammaAxioms _ [] e1 a1 hgam hpub1
  simp only [List.nil_append] at hG
  subst hG
  obtain ⟨ht1, rfl⟩ := doCalls_one hd1
  obtain ⟨C, hC, trC⟩ := pubPF cfg n .publishClaim (Or.inr rfl) m.claimsOf.reverse e2 _ e3 a3
    (fun a ha => hclm a (List.mem_reverse.mp ha)) hpub2
  subst hC
  obtain ⟨ht3, rfl⟩ := doCalls_one hd2
  obtain ⟨P, hP, trP⟩ := proofsPF cfg m n m.proofsOf e4 _ s calls hpfs hex
  have hcalls : calls = a1 ++ .intoClaim :: (C ++ .intoProof :: P) := by
    rw [hP]; simp [List.append_assoc]
  rw [hcalls]
  exact trG.append (Tr.cons ht1 (Or.inl (Or.inl rfl))
    (trC.append (Tr.cons ht3 (Or.inl (Or.inr rfl)) trP)))

/-- the side conditions `AllSideM` of a module of the fragment are derived -/
theorem module_side_PF (cfg : Cfg) (n : Nat) (m : PModule) (s : PySt) (calls : List Call)
    (hgam : ∀ a ∈ m.gammaAxioms, a.PF = true) (hclm : ∀ a ∈ m.claimsOf, a.PF = true)
    (hpfs : ∀ pf ∈ m.proofsOf, pf.PF = true)
    (hex : PModule.executeFull cfg n m = some (some (s, calls)))
    (hcanon : MM.CanonCalls [] calls) :
    AllSideM n (PySt.init m.claimsOf) calls :=
  allSideM_of_NS n calls _ (module_trace_PF cfg n m s calls hgam hclm hpfs hex).2 hcanon

theorem axiomsOf_sub_gamma (m : PModule) : ∀ a ∈ m.axiomsOf, a ∈ m.gammaAxioms := by
  intro a ha
  cases m with
  | mk ax cl pf sub =>
    simp only [PModule.axiomsOf] at ha
    simp only [PModule.gammaAxioms]
    exact List.mem_append_right _ ha

/-- **acceptance without side conditions**: the checker accepts the serialisation of a proof module
of the propositional fragment, and publishes exactly the declaration -/
theorem module_accepted_PF (cfg : PySt.Cfg) (n : Nat) (m : PModule) (s : PySt) (calls : List Call)
    (g c p : List Instr)
    (hgam : ∀ a ∈ m.gammaAxioms, a.PF = true) (hclm : ∀ a ∈ m.claimsOf, a.PF = true)
    (hpfs : ∀ pf ∈ m.proofsOf, pf.PF = true)
    (hex : PModule.executeFull cfg n m = some (some (s, calls)))
    (hT : PySt.trackAll n (PySt.init m.claimsOf) calls ([], [], []) = some (some (s, (g, c, p))))
    (hcanon : MM.CanonCalls [] calls) (hfin : s.claims = []) :
    verify g c p = some (m.gammaAxioms.map NPat.expand, m.claimsOf.reverse.map NPat.expand) :=
  module_accepted cfg n m s calls g c p
    (fun a ha => PF.shape a (hgam a ha)) (fun a ha => PF.shape a (hclm a ha))
    (fun a ha => PF.shape a (hgam a (axiomsOf_sub_gamma m a ha)))
    (fun pf hpf => Pf.PF.shaped pf (hpfs pf hpf)) hex hT
    (module_side_PF cfg n m s calls hgam hclm hpfs hex hcanon) hfin

/-- the replay `hT` is derivable from the run of `execute_full` -/
theorem module_trackAll_PF (cfg : PySt.Cfg) (n : Nat) (m : PModule) (s : PySt) (calls : List Call)
    (hgam : ∀ a ∈ m.gammaAxioms, a.PF = true) (hclm : ∀ a ∈ m.claimsOf, a.PF = true)
    (hpfs : ∀ pf ∈ m.proofsOf, pf.PF = true)
    (hex : PModule.executeFull cfg n m = some (some (s, calls))) :
    ∃ g c p, PySt.trackAll n (PySt.init m.claimsOf) calls ([], [], []) = some (some (s, (g, c, p))) := by
  obtain ⟨⟨g, c, p⟩, h⟩ := reach_trackAll calls _ s ([], [], [])
    (module_trace_PF cfg n m s calls hgam hclm hpfs hex).1
  exact ⟨g, c, p, h⟩

/-- the variant without `hT`: the serialiser writes three streams and the checker accepts them -/
theorem module_accepted_PF' (cfg : PySt.Cfg) (n : Nat) (m : PModule) (s : PySt) (calls : List Call)
    (hgam : ∀ a ∈ m.gammaAxioms, a.PF = true) (hclm : ∀ a ∈ m.claimsOf, a.PF = true)
    (hpfs : ∀ pf ∈ m.proofsOf, pf.PF = true)
    (hex : PModule.executeFull cfg n m = some (some (s, calls)))
    (hcanon : MM.CanonCalls [] calls) (hfin : s.claims = []) :
    ∃ g c p, PySt.trackAll n (PySt.init m.claimsOf) calls ([], [], []) = some (some (s, (g, c, p))) ∧
      verify g c p = some (m.gammaAxioms.map NPat.expand, m.claimsOf.reverse.map NPat.expand) := by
  obtain ⟨g, c, p, hT⟩ := module_trackAll_PF cfg n m s calls hgam hclm hpfs hex
  exact ⟨g, c, p, hT, module_accepted_PF cfg n m s calls g c p hgam hclm hpfs hex hT hcanon hfin⟩

/-- **soundness composition** (with C01): every claim of a module of the propositional fragment whose
`execute_full` run succeeds (every claim proved, symbols named canonically) is valid in every model of
its axioms — no side condition assumed -/
theorem module_sound_PF (cfg : PySt.Cfg) (n : Nat) (m : PModule) (s : PySt) (calls : List Call)
    (hgam : ∀ a ∈ m.gammaAxioms, a.PF = true) (hclm : ∀ a ∈ m.claimsOf, a.PF = true)
    (hpfs : ∀ pf ∈ m.proofsOf, pf.PF = true)
    (hex : PModule.executeFull cfg n m = some (some (s, calls)))
    (hcanon : MM.CanonCalls [] calls) (hfin : s.claims = [])
    (𝔐 : Model) (hΓ : ∀ a ∈ m.gammaAxioms, ValidM 𝔐 a.expand) :
    ∀ q ∈ m.claimsOf, ValidM 𝔐 q.expand := by
  obtain ⟨g, c, p, _, hv⟩ := module_accepted_PF' cfg n m s calls hgam hclm hpfs hex hcanon hfin
  intro q hq
  apply C01.verify_sound g c p _ _ hv 𝔐
  · intro a ha
    simp only [List.mem_map] at ha
    obtain ⟨a0, h0, rfl⟩ := ha
    exact hΓ a0 h0
  · simp only [List.mem_map, List.mem_reverse]
    exact ⟨q, hq, rfl⟩

/-! ## non-vacuity: a concrete module of the fragment satisfies every hypothesis -/

namespace PFExample

/-- decidable form of `MM.CanonCalls` -/
def canonB : List Nat → List Call → Bool
  | _, [] => true
  | tab, .symbol nm :: cs =>
      decide (nm ≤ tab.length) && canonB (if tab.contains nm then tab else tab ++ [nm]) cs
  | tab, _ :: cs => canonB tab cs

theorem canonB_sound : ∀ (cs : List Call) (tab : List Nat), canonB tab cs = true →
    MM.CanonCalls tab cs := by
  intro cs
  induction cs with
  | nil => intro tab _; trivial
  | cons c cs ih =>
    intro tab h
    cases c with
    | symbol nm =>
      simp only [canonB, Bool.and_eq_true, decide_eq_true_eq] at h
      exact ⟨h.1, ih _ h.2⟩
    | _ => exact ih tab h

/-- a run of `execute_full` that passes the decidable checks satisfies the run hypotheses -/
theorem run_ok (o : Option (Option (PySt × List Call)))
    (h : (match o with
      | some (some (s, calls)) => s.claims.isEmpty && canonB [] calls
      | _ => false) = true) :
    ∃ s calls, o = some (some (s, calls)) ∧ MM.CanonCalls [] calls ∧ s.claims = [] := by
  rcases o with _ | _ | ⟨s, calls⟩
  · simp at h
  · simp at h
  · simp only [Bool.and_eq_true, List.isEmpty_iff] at h
    exact ⟨s, calls, rfl, canonB_sound calls [] h.2, h.1⟩

/-- `imp_refl` of `propositional.py` at `phi0` -/
def impRefl : Pf :=
  .mp (.mp (.dynInst .prop2 [(1, .imp (phiN 0) (phiN 0)), (2, phiN 0)])
           (.dynInst .prop1 [(1, .imp (phiN 0) (phiN 0))]))
      (.dynInst .prop1 [(1, phiN 0)])

/-- an axiom with two symbols and `bot` (a notation node over `mu 0 (svar 0)`) -/
def ax : NPat := .imp (.sym 0) (.imp (.sym 1) botN)

/-- axioms `[s0 → s1 → ⊥]`, claims `[phi0 → phi0, s0 → s1 → ⊥]`, proved by `imp_refl` and by loading
the axiom -/
def mod : PModule := .mk [ax] [.imp (phiN 0) (phiN 0), ax] [impRefl, .loadAxiom ax] []

theorem mod_gamma : ∀ a ∈ mod.gammaAxioms, a.PF = true := by decide
theorem mod_claims : ∀ a ∈ mod.claimsOf, a.PF = true := by decide
theorem mod_proofs : ∀ pf ∈ mod.proofsOf, pf.PF = true := by decide

/-- all hypotheses of `module_accepted_PF'` hold for `mod` (plain serialiser) … -/
theorem mod_run : ∃ s calls, PModule.executeFull {} 40 mod = some (some (s, calls)) ∧
    MM.CanonCalls [] calls ∧ s.claims = [] := run_ok _ (by decide)

/-- … and through the memoising optimiser (empty suggestion set: `NPat.seq` is defined by well-founded
recursion, so `decide` cannot evaluate a run that consults a non-empty suggestion set) -/
theorem mod_run_memo : ∃ s calls,
    PModule.executeFull { memo := some [] } 40 mod = some (some (s, calls)) ∧
    MM.CanonCalls [] calls ∧ s.claims = [] := run_ok _ (by decide)

/-- hence the checker accepts its serialisation and publishes the declaration -/
example : ∃ g c p, verify g c p =
    some (mod.gammaAxioms.map NPat.expand, mod.claimsOf.reverse.map NPat.expand) := by
  obtain ⟨s, calls, hex, hcanon, hfin⟩ := mod_run
  obtain ⟨g, c, p, _, hv⟩ :=
    module_accepted_PF' {} 40 mod s calls mod_gamma mod_claims mod_proofs hex hcanon hfin
  exact ⟨g, c, p, hv⟩

example : ∃ g c p, verify g c p =
    some (mod.gammaAxioms.map NPat.expand, mod.claimsOf.reverse.map NPat.expand) := by
  obtain ⟨s, calls, hex, hcanon, hfin⟩ := mod_run_memo
  obtain ⟨g, c, p, _, hv⟩ :=
    module_accepted_PF' _ 40 mod s calls mod_gamma mod_claims mod_proofs hex hcanon hfin
  exact ⟨g, c, p, hv⟩

/-- and its claims hold in every model of its axiom -/
example (𝔐 : Model) (hΓ : ValidM 𝔐 ax.expand) : ValidM 𝔐 (NPat.imp (phiN 0) (phiN 0)).expand := by
  obtain ⟨s, calls, hex, hcanon, hfin⟩ := mod_run
  exact module_sound_PF {} 40 mod s calls mod_gamma mod_claims mod_proofs hex hcanon hfin 𝔐
    (by intro a ha; simp [mod, PModule.gammaAxioms, PModule.gammaAxioms.gammaList] at ha; subst ha; exact hΓ)
    _ (by simp [mod, PModule.claimsOf])

end PFExample

#print axioms module_trace_PF
#print axioms module_side_PF
#print axioms module_accepted_PF
#print axioms module_accepted_PF'
#print axioms module_sound_PF
#print axioms PFExample.mod_run
#print axioms PFExample.mod_run_memo
