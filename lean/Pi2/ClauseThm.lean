import Pi2.ClauseTriv
/-!
# The proof objects of the clause utilities and of the resolution proof builder conclude what they advertise, and replay

`Pi2/Gen/ClauseProofs.lean` is regenerated on every run from `tautology.py` (`vlib/transclause.py`): `id_to_metavar`,
`foldl_op` / `foldr_op`, `clause_to_pattern`, `clause_conjunctionto_pattern`, `conjunction_implies_nth`, `ac_move_to_front`
(with its nested `unroll`), `or_move_to_front` / `and_move_to_front`, `reduce_n_or_duplicates_at_front`, `simplify_clause`,
`merge_clauses`, `prove_trivial_clause`, `build_proof_from_hint` — with ALL their statements, every `ProofThunk` expression
over a thunk algebra.

* `Pi2/ClauseBase.lean`: the library lemmas these functions call, on conclusions (`lib algCS ix_<lemma> .. = some ..`, from
  `C10.conc_stable`; `and_cong` / `or_cong` have no docstring: their schema is stated and checked there); `id_to_metavar`,
  `foldr_op`, `clause_to_pattern`, `clause_conjunctionto_pattern`, `conjunction_implies_nth_C`, `merge_clauses_C`, `reduce_n_C`.
* `Pi2/ClauseMove.lean`: `unroll_C`, `ac_move_to_front_C`, `or_move_to_front_C`, `and_move_to_front_C`.
* `Pi2/ClauseTriv.lean`: `simplify_clause_C`, `prove_trivial_clause_C` (equations with the advertised pattern, at every
  sufficient fuel); fuel monotonicity (`*_mono`); `lib_resolution_step_inv`.
* here: at ANY fuel (`*_any`); `prove_trivial_clause_any`, `build_proof_from_hint_any`: whatever they return concludes the
  clause pattern / the implication `clause_conjunctionto_pattern(terms) -> clause_to_pattern(r)` — for EVERY clause and EVERY
  hint; the homomorphism `algGS → algCS` of every generated function (`*_hom`), hence `ptc_spec`, `bpfh_spec`: the two
  hypotheses of `StageThm.prove_tautology_proofs` are discharged by the generated functions.
-/
set_option linter.unusedSimpArgs false
open Pat

namespace ClauseThm
open Lem StageSup Gen.PyTaut TautSup TautTie StageThm Gen.Clause

/-! ## at ANY fuel: whatever a utility returns is what it returns with sufficient fuel -/

theorem mapM_id_none {τ} (A : SAlg τ) (cl : List Int) (h : ¬ Res.NoZero cl) :
    List.mapM (fun id => do let t1_ ← id_to_metavar A id; pure t1_) cl = none := by
  cases hm : List.mapM (fun id => do let t1_ ← id_to_metavar A id; pure t1_) cl with
  | none => rfl
  | some ps => exact absurd (mapM_id_any A cl ps hm).1 h

theorem clause_to_pattern_zero {τ} (A : SAlg τ) (F : Nat) (cl : List Int) (h : ¬ Res.NoZero cl) :
    clause_to_pattern A F cl = none := by
  cases cl with
  | nil => exact absurd (fun x hx => by simp at hx) h
  | cons x r => simp [clause_to_pattern, mapM_id_none A _ h]

theorem clause_to_pattern_any (F : Nat) (cl : List Int) (p : Pat) (h : clause_to_pattern algCS F cl = some p) :
    Res.NoZero cl ∧ p = clausePat cl := by
  by_cases hz : Res.NoZero cl
  · have h1 := le_of_step (fun n (x : List Int) => clause_to_pattern algCS n x) (fun n x => clause_to_pattern_mono algCS n x)
      F (max F cl.length) cl (Nat.le_max_left _ _) p h
    simp only [clause_to_pattern_C algCS cl _ hz (Nat.le_max_right _ _)] at h1
    exact ⟨hz, (Option.some.inj h1).symm⟩
  · rw [clause_to_pattern_zero algCS F cl hz] at h; cases h

theorem mapM_none_of_mem {α β} (f : α → Option β) : ∀ (l : List α) (x : α), x ∈ l → f x = none → List.mapM f l = none := by
  intro l
  induction l with
  | nil => intro x hx; simp at hx
  | cons a l ih =>
    intro x hx hf
    rw [List.mapM_cons]
    simp only [List.mem_cons] at hx
    rcases hx with rfl | hx
    · simp [hf]
    · cases f a with
      | none => rfl
      | some y => simp [ih x hx hf]

theorem le_sum_of_mem : ∀ (l : List Nat) (x : Nat), x ∈ l → x ≤ l.sum := by
  intro l
  induction l with
  | nil => intro x hx; simp at hx
  | cons a l ih =>
    intro x hx
    simp only [List.mem_cons] at hx
    simp only [List.sum_cons]
    rcases hx with rfl | hx
    · omega
    · have := ih x hx; omega

theorem clause_conjunctionto_pattern_any (F : Nat) (cls : List (List Int)) (t : Pat)
    (h : clause_conjunctionto_pattern algCS F cls = some t) : t = clausesPat cls := by
  by_cases hz : ∀ cl ∈ cls, Res.NoZero cl
  · let G := F + cls.length + (cls.map List.length).sum
    have h1 := le_of_step (fun n (x : List (List Int)) => clause_conjunctionto_pattern algCS n x)
      (fun n x => clause_conjunctionto_pattern_mono algCS n x) F G cls (by omega) t h
    have hl : ∀ cl ∈ cls, cl.length ≤ G := by
      intro cl hcl
      have := le_sum_of_mem (cls.map List.length) cl.length (List.mem_map.mpr ⟨cl, hcl, rfl⟩)
      omega
    simp only [clause_conjunctionto_pattern_C algCS cls G hz hl (by omega)] at h1
    exact (Option.some.inj h1).symm
  · exfalso
    have hex : ∃ cl, cl ∈ cls ∧ ¬ Res.NoZero cl := by
      apply Classical.byContradiction
      intro hn
      apply hz
      intro cl hcl
      apply Classical.byContradiction
      intro hnz
      exact hn ⟨cl, hcl, hnz⟩
    obtain ⟨cl, hcl, hnz⟩ := hex
    have hne : cls ≠ [] := List.ne_nil_of_mem hcl
    have hm := mapM_none_of_mem (fun cl => do let t1_ ← clause_to_pattern algCS F cl; pure t1_) cls cl hcl
      (by simp [clause_to_pattern_zero algCS F cl hnz])
    cases cls with
    | nil => exact hne rfl
    | cons c r => simp [clause_conjunctionto_pattern, hm] at h

theorem conjunction_implies_nth_any (F : Nat) (ps : List Pat) (n : Int) (p : Pat)
    (h : conjunction_implies_nth algCS F (foldrP andP ps) n (ps.length : Int) = some p) :
    ∃ (k : Nat) (hk : k < ps.length), n = (k : Int) ∧ p = .imp (foldrP andP ps) ps[k] := by
  have hn : 0 ≤ n ∧ n < (ps.length : Int) := by
    cases F with
    | zero => simp [conjunction_implies_nth] at h
    | succ f =>
      by_cases hc : 0 ≤ n ∧ n < (ps.length : Int)
      · exact hc
      · exfalso
        have : (decide ((0 : Int) ≤ n) && decide (n < (ps.length : Int))) = false := by
          simp only [Bool.and_eq_false_iff, decide_eq_false_iff_not]
          by_cases h0 : 0 ≤ n
          · exact Or.inr (fun h1 => hc ⟨h0, h1⟩)
          · exact Or.inl h0
        simp [conjunction_implies_nth, pyAssert, this] at h
  obtain ⟨k, rfl⟩ : ∃ k : Nat, n = (k : Int) := ⟨n.toNat, by omega⟩
  have hk : k < ps.length := by omega
  have h1 := le_of_step (fun m (x : Pat × Int × Int) => conjunction_implies_nth algCS m x.1 x.2.1 x.2.2)
    (fun m x => conjunction_implies_nth_mono algCS m x.1 x.2.1 x.2.2) F (max F ps.length)
    (foldrP andP ps, (k : Int), (ps.length : Int)) (Nat.le_max_left _ _) p h
  simp only [conjunction_implies_nth_C ps k _ hk (Nat.le_max_right _ _)] at h1
  exact ⟨k, hk, rfl, (Option.some.inj h1).symm⟩

theorem merge_clauses_any (F : Nat) (ls : List Pat) (tr : Pat) (m : Pat) (hls : ls ≠ [])
    (h : merge_clauses algCS F (foldrP orP ls) (ls.length : Int) tr = some m) :
    m = equivP (orP (foldrP orP ls) tr) (foldrP orP (ls ++ [tr])) := by
  have h1 := le_of_step (fun n (x : Pat × Int × Pat) => merge_clauses algCS n x.1 x.2.1 x.2.2)
    (fun n x => merge_clauses_mono algCS n x.1 x.2.1 x.2.2) F (max F ls.length)
    (foldrP orP ls, (ls.length : Int), tr) (Nat.le_max_left _ _) m h
  simp only [merge_clauses_C tr ls _ hls (Nat.le_max_right _ _)] at h1
  exact (Option.some.inj h1).symm

theorem simplify_clause_zero {τ} (A : SAlg τ) (F : Nat) (cl : List Int) (x : Int) (h : ¬ Res.NoZero cl) :
    Gen.Clause.simplify_clause A F cl x = none := by
  have e := simplify_for1_C A x cl [] [] []
  have hr : pyRange (pyLen cl) = (List.range' 0 cl.length).map fun (k : Nat) => (k : Int) := by
    simp [pyRange, pyLen, List.range_eq_range']
  simp only [List.nil_append, List.length_nil] at e
  simp only [Gen.Clause.simplify_clause, hr, e, Option.pure_def, Option.bind_eq_bind, Option.bind_some,
    clause_to_pattern_zero A F cl h, mapM_id_none A cl h, Option.bind_none]
  split <;> rfl

theorem simplify_clause_any (F : Nat) (cl : List Int) (x : Int) (cl' : List Int) (p : Pat)
    (h : Gen.Clause.simplify_clause algCS F cl x = some (cl', p)) :
    cl' = simplified cl x ∧ p = equivP (clausePat cl) (clausePat (simplified cl x)) := by
  by_cases hz : Res.NoZero cl
  · have h1 := le_of_step (fun n (y : List Int × Int) => Gen.Clause.simplify_clause algCS n y.1 y.2)
      (fun n y => simplify_clause_mono algCS n y.1 y.2) F (max F (moveFuel cl.length)) (cl, x) (Nat.le_max_left _ _) _ h
    simp only [simplify_clause_C cl x _ hz (Nat.le_max_right _ _)] at h1
    have := Option.some.inj h1
    simp only [Prod.mk.injEq] at this
    exact ⟨this.1.symm, this.2.symm⟩
  · rw [simplify_clause_zero algCS F cl x hz] at h; cases h

theorem mapM_id_none' {τ} (A : SAlg τ) (cl : List Int) (h : ¬ Res.NoZero cl) :
    List.mapM (fun x => id_to_metavar A x) cl = none := by
  have := mapM_id_none A cl h
  simpa using this

/-- **`prove_trivial_clause`, at ANY fuel, on EVERY clause**: whatever it returns concludes `clause_to_pattern(cl)` -/
theorem prove_trivial_clause_any (F : Nat) (cl : List Int) (p : Pat)
    (h : Gen.Clause.prove_trivial_clause algCS F cl = some p) : p = clausePat cl := by
  cases hfind : (pyCombinations2 (pyEnumerate cl)).find? clash with
  | none =>
    simp [Gen.Clause.prove_trivial_clause, ptc_for1_C, hfind] at h
  | some pr =>
    obtain ⟨A, B, C, x1, x2, rfl, hsum, rfl⟩ := find_clash cl pr hfind
    by_cases hx : x1 = 0
    · subst hx
      simp [Gen.Clause.prove_trivial_clause, ptc_for1_C, hfind, ClauseSup.pyAbs, id_to_metavar_zero] at h
    · by_cases hz : Res.NoZero (A ++ x1 :: (B ++ x2 :: C))
      · have h1 := le_of_step (fun n (x : List Int) => Gen.Clause.prove_trivial_clause algCS n x)
          (fun n x => prove_trivial_clause_mono algCS n x) F (max F (moveFuel (A ++ x1 :: (B ++ x2 :: C)).length)) _
          (Nat.le_max_left _ _) p h
        simp only [ptc_core A B C x1 x2 _ hfind hsum hx hz (Nat.le_max_right _ _)] at h1
        exact (Option.some.inj h1).symm
      · exfalso
        have habs : ClauseSup.pyAbs x1 ≠ 0 := by unfold ClauseSup.pyAbs; omega
        have hid := id_to_metavar_C algCS (ClauseSup.pyAbs x1) habs
        by_cases h2 : (A ++ x1 :: (B ++ x2 :: C)).length = 2
        · have hA : A = [] := by
            apply List.eq_nil_of_length_eq_zero; simp at h2; omega
          have hB : B = [] := by
            apply List.eq_nil_of_length_eq_zero; simp at h2; omega
          have hC : C = [] := by
            apply List.eq_nil_of_length_eq_zero; simp at h2; omega
          subst hA hB hC
          apply hz
          intro y hy
          simp only [List.nil_append, List.mem_cons, List.not_mem_nil, or_false] at hy
          rcases hy with rfl | rfl <;> omega
        · have hl2 : ¬ (pyLen (A ++ x1 :: (B ++ x2 :: C)) == (2 : Int)) = true := by
            simp only [pyLen, beq_iff_eq]; omega
          simp [Gen.Clause.prove_trivial_clause, ptc_for1_C, hfind, hid, hl2, mapM_id_none' algCS _ hz] at h

/-! ## `build_proof_from_hint`, at ANY fuel, for EVERY hint -/

theorem clausePat_append (L R : List Int) (hL : L ≠ []) (hR : R ≠ []) :
    foldrP orP (L.map idPat ++ [clausePat R]) = clausePat (L ++ R) := by
  rw [clausePat_eq R hR, clausePat_eq (L ++ R) (by simp [hL]), List.map_append,
    foldrP_append orP _ _ (by simp), foldrP_append orP _ _ (by simpa using hR)]
  rfl

theorem id_to_metavar_any {τ} (A : SAlg τ) (i : Int) (t : Pat) (h : id_to_metavar A i = some t) : t = idPat i := by
  by_cases hi : i = 0
  · subst hi; rw [id_to_metavar_zero] at h; cases h
  · rw [id_to_metavar_C A i hi] at h; exact (Option.some.inj h).symm

theorem pyLen_beq_zero {α} (l : List α) : (pyLen l == (0 : Int)) = l.isEmpty := by
  cases l with
  | nil => rfl
  | cons a r => simp [pyLen]; omega

theorem rstep_any (C X Y P1 P2 D q : Pat)
    (h : lib algCS ix_resolution_step [] [.imp C X, .imp C Y, .imp P1 (.imp P2 D)] = some q) : q = .imp C D := by
  obtain ⟨a, b, c, d, h1, _, h3, rfl⟩ := lib_resolution_step_inv _ _ _ _ h
  simp only [Pat.imp.injEq] at h1 h3
  rw [h1.1, h3.2.2]

/-- **`build_proof_from_hint`, at ANY fuel, for EVERY hint, key and clause list**: whatever it returns — a clause `r` and a
proof — the proof concludes `clause_conjunctionto_pattern(terms) -> clause_to_pattern(r)` -/
theorem build_proof_from_hint_any : ∀ (F : Nat) (hint : StageThm.Hint) (cl : FrozenSet) (terms : List (List Int)) (r : List Int) (p : Pat),
    Gen.Clause.build_proof_from_hint algCS F hint cl terms = some (r, p) →
    p = .imp (clausesPat terms) (clausePat r) := by
  intro F
  induction F with
  | zero => intro hint cl terms r p h; cases h
  | succ f ih =>
    intro hint cl terms r p h
    rw [Gen.Clause.build_proof_from_hint] at h
    simp only [Option.pure_def, Option.bind_eq_bind] at h
    replace h := Option.bind_eq_some_iff.mp h
    obtain ⟨res, -, h⟩ := h
    cases res with
    | inr idx =>
      simp only [Option.bind_eq_some_iff, Option.some.injEq, Prod.mk.injEq] at h
      obtain ⟨t, h1, r', h2, q, h3, rfl, rfl⟩ := h
      cases clause_conjunctionto_pattern_any f terms t h1
      have hne : terms ≠ [] := by
        intro e; subst e; simp [pyIndex] at h2
      rw [clausesPat_eq terms hne, show pyLen terms = ((terms.map clausePat).length : Int) by simp [pyLen]] at h3
      obtain ⟨k, hk, rfl, rfl⟩ := conjunction_implies_nth_any f _ idx q h3
      rw [pyIndex_nat terms k (by simpa using hk)] at h2
      cases h2
      rw [clausesPat_eq terms hne, List.getElem_map]
    | inl src =>
      simp only [Option.bind_eq_some_iff] at h
      obtain ⟨rt, -, ⟨tl0, pl⟩, h3, ⟨tr0, pr⟩, h4, ⟨tl, sl⟩, h5, ⟨tr, sr⟩, h6, _, -, _, -, _, -, _, -, _, -, t9, h9, t10, h10,
        t11, h11, t12, h12, pf, hpf, t24, h24, heq⟩ := h
      cases ih _ _ _ _ _ h3
      cases ih _ _ _ _ _ h4
      obtain ⟨e1, e2⟩ := simplify_clause_any _ _ _ _ _ h5
      obtain ⟨e3, e4⟩ := simplify_clause_any _ _ _ _ _ h6
      rw [← e1] at e2
      rw [← e3] at e4
      subst e2 e4
      simp only [lib_and_l_equiv, Option.some.injEq] at h9 h11
      subst h9 h11
      simp only [lib_imp_transitivity, Option.some.injEq] at h10 h12
      subst h10 h12
      simp only [Option.some.injEq, Prod.mk.injEq] at heq
      obtain ⟨rfl, rfl⟩ := heq
      generalize pySliceFrom tl 1 = L at hpf h24 ⊢
      generalize pySliceFrom tr 1 = R at hpf h24 ⊢
      -- whatever the `match` on the two rests returns is a resolution instance that ends in the merged clause
      have hpf' : ∃ P1 P2, pf = .imp P1 (.imp P2 (clausePat (L ++ R))) := by
        simp only [pyLen_beq_zero] at hpf
        rcases L with _ | ⟨l1, L⟩ <;> rcases R with _ | ⟨r1, R⟩ <;>
          simp only [List.isEmpty_nil, List.isEmpty_cons, Bool.and_self, Bool.and_true, Bool.and_false, beq_self_eq_true,
            Bool.true_beq, Bool.false_beq, Bool.not_true, Bool.false_eq_true, if_true, if_false,
            Option.bind_eq_some_iff, Option.some.injEq] at hpf
        · obtain ⟨_, h7, rfl⟩ := hpf
          rw [lib_resolution_base] at h7
          cases h7
          exact ⟨_, _, rfl⟩
        · obtain ⟨cR, h8, _, h7, rfl⟩ := hpf
          cases (clause_to_pattern_any f _ cR h8).2
          rw [lib_resolution_r] at h7
          cases h7
          exact ⟨_, _, rfl⟩
        · obtain ⟨cL, h8, _, h7, rfl⟩ := hpf
          cases (clause_to_pattern_any f _ cL h8).2
          rw [lib_resolution_l] at h7
          cases h7
          exact ⟨_, _, by rw [List.append_nil]⟩
        · obtain ⟨cL, h8, cR, h9, _, h7, mg, h10, _, h11, _, h12, rfl⟩ := hpf
          cases (clause_to_pattern_any f _ cL h8).2
          cases (clause_to_pattern_any f _ cR h9).2
          have hcl : clausePat (l1 :: L) = foldrP orP ((l1 :: L).map idPat) := clausePat_eq _ (by simp)
          rw [hcl, show pyLen (l1 :: L) = (((l1 :: L).map idPat).length : Int) by simp [pyLen]] at h10
          have hmg := merge_clauses_any f _ _ mg (by simp) h10
          rw [← hcl, clausePat_append _ _ (by simp) (by simp)] at hmg
          subst hmg
          rw [lib_resolution] at h7
          rw [lib_and_l_equiv] at h11
          cases h7
          cases h11
          rw [lib_long_imp_trans] at h12
          cases h12
          exact ⟨_, _, rfl⟩
      obtain ⟨P1, P2, rfl⟩ := hpf'
      exact rstep_any _ _ _ _ _ _ _ h24

/-! ## from conclusions to proof trees: the homomorphism `GTh.conc : algGS → algCS` of the clause utilities -/

section Indep
variable {τ σ : Type} (A : SAlg τ) (B : SAlg σ)

theorem id_to_metavar_indep (i : Int) : id_to_metavar A i = id_to_metavar B i := rfl

theorem foldr_op_indep : ∀ (n : Nat) (op : Pat → Pat → Pat) (l : List Pat) (s e : Int),
    foldr_op A n op l s e = foldr_op B n op l s e := by
  intro n
  induction n with
  | zero => intro op l s e; rfl
  | succ n ih => intro op l s e; simp only [foldr_op, ih]

theorem clause_to_pattern_indep (n : Nat) (cl : List Int) : clause_to_pattern A n cl = clause_to_pattern B n cl := by
  simp only [clause_to_pattern, foldr_op_indep A B, id_to_metavar_indep A B]

theorem clause_conjunctionto_pattern_indep (n : Nat) (cls : List (List Int)) :
    clause_conjunctionto_pattern A n cls = clause_conjunctionto_pattern B n cls := by
  simp only [clause_conjunctionto_pattern, foldr_op_indep A B, clause_to_pattern_indep A B]

theorem ac_for1_indep : ∀ (l : List Int) (sp : List Int), ac_move_to_front_for1 A l sp = ac_move_to_front_for1 B l sp := by
  intro l
  induction l with
  | nil => intro sp; rfl
  | cons i l ih => intro sp; simp only [ac_move_to_front_for1, ih]

theorem simplify_for1_indep (cl : List Int) (x : Int) : ∀ (l pos str : List Int),
    Gen.Clause.simplify_clause_for1 A cl x l pos str = Gen.Clause.simplify_clause_for1 B cl x l pos str := by
  intro l
  induction l with
  | nil => intro pos str; rfl
  | cons i l ih => intro pos str; simp only [Gen.Clause.simplify_clause_for1, ih]

theorem ptc_for1_indep : ∀ (l : List ((Int × Int) × (Int × Int))) (a : Option Bool) (b : Option Int) (c : Option (List Int)),
    prove_trivial_clause_for1 A l a b c = prove_trivial_clause_for1 B l a b c := by
  intro l
  induction l with
  | nil => intro a b c; rfl
  | cons p l ih =>
    intro a b c
    obtain ⟨⟨i1, x1⟩, ⟨i2, x2⟩⟩ := p
    simp only [prove_trivial_clause_for1, ih]

end Indep

attribute [local irreducible] StageSup.lib

instance : Proj Pat Pat := ⟨id⟩

/-- one step of a homomorphism proof, as `StageThm.hstep`: the clause utilities never call `dynamic_inst`, so nothing has
to be rewritten after a step, and the alternatives are in the order of their frequency here (a failed `apply` on a goal of
this size is what these proofs cost) -/
local macro "cstep" : tactic => `(tactic| first
  | (apply hb_lib; intro t)
  | (apply hb_same; intro a)
  | apply hite
  | (apply hret; rfl)
  | exact hnone
  | exact lib_hom _ _ _
  | (apply hb_mp; intro t)
  | exact mp_hom _ _)

theorem conjunction_implies_nth_hom : ∀ (n : Nat) (term : Pat) (k l : Int),
    (conjunction_implies_nth algGS n term k l).map Proj.proj = conjunction_implies_nth algCS n term k l := by
  intro n
  induction n with
  | zero => intro term k l; rfl
  | succ n ih =>
    intro term k l
    simp only [conjunction_implies_nth, Option.pure_def, Option.bind_eq_bind]
    repeat' first
      | cstep
      | (apply hb (ih _ _ _); intro t)

theorem merge_clauses_hom : ∀ (n : Nat) (tl : Pat) (k : Int) (tr : Pat),
    (merge_clauses algGS n tl k tr).map Proj.proj = merge_clauses algCS n tl k tr := by
  intro n
  induction n with
  | zero => intro tl k tr; rfl
  | succ n ih =>
    intro tl k tr
    simp only [merge_clauses, Option.pure_def, Option.bind_eq_bind]
    repeat' first
      | cstep
      | (apply hb (ih _ _ _); intro t)

section UnrollHom
variable (assocG : Pat → Pat → Pat → Option GTh) (assocC : Pat → Pat → Pat → Option Pat)
  (commG : Pat → Pat → Option GTh) (commC : Pat → Pat → Option Pat)
  (congG : GTh → GTh → Option GTh) (congC : Pat → Pat → Option Pat)
  (op : Pat → Pat → Pat) (extract : Pat → Option (List Pat))
  (revG : Pat → Pat → Pat → Option GTh) (revC : Pat → Pat → Pat → Option Pat)
  (hassoc : ∀ a b c, (assocG a b c).map Proj.proj = assocC a b c)
  (hcomm : ∀ a b, (commG a b).map Proj.proj = commC a b)
  (hcong : ∀ t1 t2 : GTh, (congG t1 t2).map Proj.proj = congC t1.conc t2.conc)
  (hrev : ∀ a b c, (revG a b c).map Proj.proj = revC a b c)

include hassoc hcomm hcong hrev in
theorem unroll_hom : ∀ (n : Nat) (tl tr : Pat) (ps : List Int) (l u : Int),
    (ac_move_to_front_unroll algGS assocG commG congG op extract revG n tl tr ps l u).map Proj.proj =
      ac_move_to_front_unroll algCS assocC commC congC op extract revC n tl tr ps l u := by
  intro n
  induction n with
  | zero => intro tl tr ps l u; rfl
  | succ n ih =>
    intro tl tr ps l u
    simp only [ac_move_to_front_unroll, Option.pure_def, Option.bind_eq_bind]
    repeat' first
      | cstep
      | (apply hb (ih _ _ _ _ _); intro t)
      | (apply hb (hassoc _ _ _); intro t)
      | (apply hb (hcomm _ _); intro t)
      | (apply hb (hcong _ _); intro t)
      | (apply hb (hrev _ _ _); intro t)
      | exact hcong _ _
      | exact hcomm _ _
      | exact ih _ _ _ _ _

include hassoc hcomm hcong in
theorem ac_move_to_front_hom (n : Nat) (ps : List Int) (terms : List Pat) :
    (ac_move_to_front algGS n ps terms assocG commG congG op extract).map Proj.proj =
      ac_move_to_front algCS n ps terms assocC commC congC op extract := by
  have hrev : ∀ a b c, ((fun (a : Pat) (b : Pat) (c : Pat) => do
        let t1_ ← assocG a b c; let t2_ ← lib algGS ix_equiv_sym [] [t1_]; pure t2_) a b c).map Proj.proj =
      (fun (a : Pat) (b : Pat) (c : Pat) => do
        let t1_ ← assocC a b c; let t2_ ← lib algCS ix_equiv_sym [] [t1_]; pure t2_) a b c := by
    intro a b c
    simp only [Option.pure_def, Option.bind_eq_bind]
    repeat' first
      | cstep
      | (apply hb (hassoc _ _ _); intro t)
  simp only [ac_move_to_front, foldr_op_indep algGS algCS, ac_for1_indep algGS algCS, Option.pure_def, Option.bind_eq_bind]
  repeat' first
    | cstep
    | exact unroll_hom assocG assocC commG commC congG congC op extract _ _ hassoc hcomm hcong hrev _ _ _ _ _ _

end UnrollHom

theorem or_move_to_front_hom (n : Nat) (ps : List Int) (terms : List Pat) :
    (or_move_to_front algGS n ps terms).map Proj.proj = or_move_to_front algCS n ps terms := by
  simp only [or_move_to_front, Option.pure_def, Option.bind_eq_bind]
  first
    | exact ac_move_to_front_hom _ _ _ _ _ _ _ _ (fun _ _ _ => lib_hom _ _ _) (fun _ _ => lib_hom _ _ _)
        (fun _ _ => lib_hom _ _ _) _ _ _
    | (apply hb (ac_move_to_front_hom _ _ _ _ _ _ _ _ (fun _ _ _ => lib_hom _ _ _) (fun _ _ => lib_hom _ _ _)
        (fun _ _ => lib_hom _ _ _) _ _ _); intro t; cstep)

theorem reduce_for1_hom (p : Pat) : ∀ (it : List Int) (pf : GTh) (q : Pat),
    (reduce_n_or_duplicates_at_front_for1 algGS p it pf q).map Proj.proj =
      reduce_n_or_duplicates_at_front_for1 algCS p it pf.conc q := by
  intro it
  induction it with
  | nil => intro pf q; rfl
  | cons x it ih =>
    intro pf q
    simp only [reduce_n_or_duplicates_at_front_for1, Option.pure_def, Option.bind_eq_bind]
    repeat' first
      | cstep
      | exact ih _ _

theorem reduce_n_hom (n : Nat) (k : Int) (terms : List Pat) :
    (reduce_n_or_duplicates_at_front algGS n k terms).map Proj.proj = reduce_n_or_duplicates_at_front algCS n k terms := by
  simp only [reduce_n_or_duplicates_at_front, foldr_op_indep algGS algCS, Option.pure_def, Option.bind_eq_bind]
  repeat' first
    | cstep
    | (apply hb (reduce_for1_hom _ _ _ _); intro t)
    | (apply hb <;> first | (intro a; try simp only [Proj.proj, id]) | skip)

theorem simplify_clause_hom (n : Nat) (cl : List Int) (x : Int) :
    (Gen.Clause.simplify_clause algGS n cl x).map Proj.proj = Gen.Clause.simplify_clause algCS n cl x := by
  simp only [Gen.Clause.simplify_clause, simplify_for1_indep algGS algCS, clause_to_pattern_indep algGS algCS,
    id_to_metavar_indep algGS algCS, Option.pure_def, Option.bind_eq_bind]
  repeat' first
    | cstep
    | (apply hb (or_move_to_front_hom _ _ _); intro t)
    | (apply hb (reduce_n_hom _ _ _); intro t)

theorem prove_trivial_clause_hom (n : Nat) (cl : List Int) :
    (prove_trivial_clause algGS n cl).map Proj.proj = prove_trivial_clause algCS n cl := by
  simp only [prove_trivial_clause, ptc_for1_indep algGS algCS, clause_to_pattern_indep algGS algCS,
    id_to_metavar_indep algGS algCS, Option.pure_def, Option.bind_eq_bind]
  repeat' first
    | cstep
    | (apply hb (or_move_to_front_hom _ _ _); intro t)
    | (apply hb <;> first | (intro a; try simp only [Proj.proj, id]) | skip)

attribute [local irreducible] Gen.Clause.simplify_clause Gen.Clause.merge_clauses Gen.Clause.clause_to_pattern
  Gen.Clause.clause_conjunctionto_pattern Gen.Clause.conjunction_implies_nth Gen.Clause.id_to_metavar in
theorem build_proof_from_hint_hom : ∀ (n : Nat) (hint : StageThm.Hint) (cl : FrozenSet) (terms : List (List Int)),
    (Gen.Clause.build_proof_from_hint algGS n hint cl terms).map Proj.proj =
      Gen.Clause.build_proof_from_hint algCS n hint cl terms := by
  intro n
  induction n with
  | zero => intro hint cl terms; rfl
  | succ n ih =>
    intro hint cl terms
    simp only [Gen.Clause.build_proof_from_hint, clause_to_pattern_indep algGS algCS, id_to_metavar_indep algGS algCS,
      clause_conjunctionto_pattern_indep algGS algCS, Option.pure_def, Option.bind_eq_bind]
    apply hb_same; intro res
    cases res with
    | inl src =>
      simp only []
      repeat' first
        | cstep
        | (apply hb (ih _ _ _); intro t; try simp only [Proj.proj, id])
        | (apply hb (simplify_clause_hom _ _ _); intro t; try simp only [Proj.proj, id])
        | (apply hb (merge_clauses_hom _ _ _ _); intro t)
        | (apply hb <;> first | (intro a; try simp only [Proj.proj, id]) | skip)
    | inr idx =>
      simp only []
      repeat' first
        | cstep
        | (apply hb (conjunction_implies_nth_hom _ _ _ _); intro t)

/-! ## the two hypotheses of the final assembly, discharged -/

/-- **`PtcSpec` holds of the generated `prove_trivial_clause`**: at ANY fuel, on EVERY clause, whatever proof tree it returns
advertises `clause_to_pattern(cl)` -/
theorem ptc_spec : PtcSpec (Gen.Clause.prove_trivial_clause algGS) := by
  intro F cl th h
  have hh := prove_trivial_clause_hom F cl
  rw [h] at hh
  exact prove_trivial_clause_any F cl th.conc hh.symm

/-- **`BpfhSpec` holds of the generated `build_proof_from_hint`**: at ANY fuel, for EVERY hint, key and clause list, whatever
clause `r` and proof tree it returns, the tree advertises `clause_conjunctionto_pattern(terms) -> clause_to_pattern(r)` -/
theorem bpfh_spec : BpfhSpec (Gen.Clause.build_proof_from_hint algGS) := by
  intro F hint cl terms r th h
  have hh := build_proof_from_hint_hom F hint cl terms
  rw [h] at hh
  exact build_proof_from_hint_any F hint cl terms r th.conc hh.symm

/-- the same over proof trees: whatever `prove_trivial_clause` returns PROVES the clause -/
theorem prove_trivial_clause_proofs (F : Nat) (cl : List Int) (th : GTh)
    (h : Gen.Clause.prove_trivial_clause algGS F cl = some th) : Proves th (clausePat cl) :=
  proves_of_conc (ptc_spec F cl th h)

/-- …and on a trivial clause without the literal `0`, with sufficient fuel, it does return a proof -/
theorem prove_trivial_clause_total (cl : List Int) (fuel : Nat) (hz : Res.NoZero cl) (ht : Res.trivial cl = true)
    (hf : moveFuel cl.length ≤ fuel) :
    ∃ th, Gen.Clause.prove_trivial_clause algGS fuel cl = some th ∧ Proves th (clausePat cl) := by
  have hh := prove_trivial_clause_hom fuel cl
  rw [prove_trivial_clause_C cl fuel hz ht hf] at hh
  obtain ⟨th, hth, hc⟩ := of_hom hh
  exact ⟨th, hth, proves_of_conc hc⟩

/-- whatever `build_proof_from_hint` returns PROVES `clause_conjunctionto_pattern(terms) -> clause_to_pattern(r)` -/
theorem build_proof_from_hint_proofs (F : Nat) (hint : StageThm.Hint) (cl : FrozenSet) (terms : List (List Int))
    (r : List Int) (th : GTh) (h : Gen.Clause.build_proof_from_hint algGS F hint cl terms = some (r, th)) :
    Proves th (.imp (clausesPat terms) (clausePat r)) :=
  proves_of_conc (bpfh_spec F hint cl terms r th h)

end ClauseThm

#print axioms ClauseThm.conjunction_implies_nth_C
#print axioms ClauseThm.unroll_C
#print axioms ClauseThm.or_move_to_front_C
#print axioms ClauseThm.and_move_to_front_C
#print axioms ClauseThm.reduce_n_C
#print axioms ClauseThm.simplify_clause_C
#print axioms ClauseThm.merge_clauses_C
#print axioms ClauseThm.prove_trivial_clause_C
#print axioms ClauseThm.prove_trivial_clause_any
#print axioms ClauseThm.build_proof_from_hint_any
#print axioms ClauseThm.ptc_spec
#print axioms ClauseThm.bpfh_spec
