import Pi2.ModuleMOKAccept
import Pi2.ModuleMOKConv
import Pi2.KModMemo
import Pi2.SlotBudget2
/-!
# The memoising serialisation of a machine-OK module is accepted too

The patterns of a machine-OK module (`PModule.MOK`) are *shaped* (`NPat.Shape`), a class that is incomparable with the
quiet patterns `NPat.QF` of `Pi2/KModMemo.lean` (a shaped pattern may have a substitution node inside a notation node;
a quiet one may have constrained metavariables).  `==` is truthful on shaped patterns too (`NPat.peqF_expand`), so
`module_acceptedM`, `module_len_iff` and `module_mok_of_run` hold for every configuration; here they are restated with
the configuration explicit, and `runCS` states `runG` with the memory invariant `MemOKS`: every saved pattern and every
published axiom is shaped.
-/
set_option linter.unusedSimpArgs false
set_option linter.unusedVariables false
open Pat PySt

namespace KMod
open NPat

def MemOKS (mem : List TTerm) : Prop :=
  (∀ q, TTerm.pat q ∈ mem → q.Shape = true) ∧ (∀ a, TTerm.proved a ∈ mem → a.Shape = true)

theorem MemOKS.of_shaped {mem : List TTerm} (h : ∀ t ∈ mem, t.body.Shape = true) : MemOKS mem :=
  ⟨fun q hq => h _ hq, fun a ha => h _ ha⟩

/-- `top` was pushed; the memory invariant is kept; the symbol table grew -/
structure PushedS (s s' : PySt) (top : List (TTerm × Bool)) : Prop where
  stack : s'.stack = top ++ s.stack
  memory : MemOKS s.memory → MemOKS s'.memory
  claims : s'.claims = s.claims
  phase : s'.phase = s.phase
  symtab : ∃ e, s'.symtab = s.symtab ++ e

/-- tracker and machine in the proof phase -/
structure PRelS (ρ : Nat → Nat) (s : PySt) (m : St) : Prop where
  phase : s.phase = .proof
  memory : MRel ρ s m
  claims : m.claims = s.claims.map fun c => ren ρ c.expand
  memK : MemOKS s.memory
  clShape : ∀ c ∈ s.claims, c.Shape = true

/-- the result of running a proof expression, as a proposition -/
def RunOKS (n : Nat) (s : PySt) (acc : List Call) (s1 : PySt) (a1 : List Call) (c : NPat) (pf : Pf) : Prop :=
  PushedS s s1 [(.proved c, false)] ∧ c.Shape = true ∧ Pf.Sem pf c.expand ∧
  ∃ cs, a1 = acc ++ cs ∧ ∀ (ρ : Nat → Nat) (m : St), Agree ρ s1.symtab →
    MRel ρ s m → ∃ is, Sg n s m cs s1 (mprov (mset ρ s1 m []) (ren ρ c.expand)) is []

/-- **one proof expression against the machine, plain or memoising** -/
theorem runCS (cfg : Cfg) {n k : Nat} (hk : k ≤ n) (ax : List NPat) {pf : Pf} {s s1 : PySt} {acc a1 : List Call}
    {c : NPat} (h : Pf.runF cfg ax k s pf acc = some (some (s1, a1, c))) (hp : pf.patsOK = true) (hi : pf.InstOK)
    (hM : MemOKS s.memory) : RunOKS n s acc s1 a1 c pf := by
  obtain ⟨e, P, hc, hS, cs, rfl, S⟩ := runG (A := fun p => p.Shape = true) (Memoable.shape cfg) peq_shape hk ax h hp hi
    (within_of_patsOK pf hp)
  refine ⟨⟨P.stack, P.memG, P.claims, P.phase, P.symtab⟩, hc, hS, cs, rfl, ?_⟩
  intro ρ m hag hm
  simpa [← mafter_eq_mset P.memory hm, mafter] using S ρ m hag hM hm

/-- **acceptance of a module, plain or memoising** (any configuration `cfg`, any suggestion list) -/
theorem module_acceptedMS (cfg : Cfg) {n : Nat} (M : PModule) (s : PySt) (calls : List Call)
    (hgam : ∀ a ∈ M.gammaAxioms, a.SM = true) (hclm : ∀ a ∈ M.claimsOf, a.SM = true)
    (hpfs : ∀ pf ∈ M.proofsOf, PfOK pf) (hlen : M.claimsOf.length = M.proofsOf.length)
    (hex : PModule.executeFull cfg n M = some (some (s, calls)))
    (ρ : Nat → Nat) (hag : Agree ρ s.symtab) :
    s.claims = [] ∧ AllSideK n (PySt.init M.claimsOf) calls ∧
    ∃ g c p, PySt.trackAll n (PySt.init M.claimsOf) calls ([], [], []) = some (some (s, (g, c, p))) ∧
      verify g c p = some (M.gammaAxioms.map (fun a => ren ρ a.expand),
        M.claimsOf.reverse.map (fun a => ren ρ a.expand)) :=
  module_acceptedM M s calls hgam hclm hpfs hlen hex ρ hag

/-- no claim is left iff there is one proof per claim (any configuration) -/
theorem module_len_iffS (cfg : Cfg) {n : Nat} (M : PModule) (s : PySt) (calls : List Call)
    (hgam : ∀ a ∈ M.gammaAxioms, a.SM = true) (hclm : ∀ a ∈ M.claimsOf, a.SM = true)
    (hpfs : ∀ pf ∈ M.proofsOf, PfOK pf)
    (hex : PModule.executeFull cfg n M = some (some (s, calls))) :
    s.claims = [] ↔ M.claimsOf.length = M.proofsOf.length :=
  module_len_iff M s calls hgam hclm hpfs hex

/-- **the side conditions, on a module that runs (plain or memoising), are `PModule.MOK`** -/
theorem module_mok_of_runS (cfg : Cfg) {n : Nat} (M : PModule) (s : PySt) (calls : List Call)
    (hgam : ∀ a ∈ M.gammaAxioms, a.SM = true) (hclm : ∀ a ∈ M.claimsOf, a.SM = true)
    (hpfs : ∀ pf ∈ M.proofsOf, PfOK pf) (hfin : s.claims = [])
    (hex : PModule.executeFull cfg n M = some (some (s, calls))) : M.MOK = true :=
  module_mok_of_run M s calls hgam hclm hpfs hfin hex

end KMod

#print axioms KMod.runCS
#print axioms KMod.module_acceptedMS
#print axioms KMod.module_len_iffS
#print axioms KMod.module_mok_of_runS
