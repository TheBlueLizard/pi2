import Pi2.Gen.PyPretty
import Pi2.PrettyPat
import Pi2.SerTie
import Pi2.MM.Mono
/-!
# The pretty printer as written in `pattern.py` / `pretty_printing_interpreter.py` is the model's

`Pi2/Gen/PyPretty.lean` is regenerated from the source on every run (`vlib/transpretty.py`).

(a) `Gen.PyPretty.pretty` — the `pretty` methods of the eleven pattern classes with `Notation.print_instantiation`,
statement by statement — is proved equal to the hand-written model `PP.pretty` (`Pi2/PrettyPat.lean`) that the C19
theorems about shown arguments are stated about: `pretty_is_model`.  What a model term `napp idx args` stands for is
`obj`: the `Instantiate` object `Gen.notations[idx](*args)`; `opts.notations` is the whole shipped table keyed by
definition (`tableOpts`).  `table_lookup` (from `table_keys_distinct` and `table_self`, both decided over the regenerated table) is the fact the
tie needs about the table: looking a shipped definition up finds a notation with the same format string and a definition `==` to it.
Python's `str.format` is not translated — it is the hand-written `Fmt.parseFmt` / `Fmt.render` in both the model and
the translation (`PyP.strFormat`); so are `str(int)`, `str(dict)`, `repr(str)`, dict lookup (`Pi2/PrettySupport.lean`).
Also: `toStr_is_pretty_default` (`__str__`), `pretty_simplified`, `pretty_fallback` (the two branches of
`Instantiate.pretty` the model does not have).

(b) `Gen.PyPretty.PCall.writes / events / print_stack` — the decorated methods of `PrettyPrintingInterpreter` and the
decorator's wrapper.  `events_shape`: super method of the same name, the function's writes, one newline, the stack dump
iff `print_stack` (`stack_dump_table`).  `step_keyword`: the line a call writes starts with its keyword, whatever the
arguments.  `one_step_line_per_call`: read the way `vlib/props/c19.py` reads a pretty file (`stepsOfText`), the text of
a call is exactly one step.  `print_stack_quiet`: the dump consists of indented lines.  `file_steps`: a whole file
reads back as the keywords of its calls.  `steps_match_emitted` / `steps_match_serializer`: for every `Call` of the
tracker model, these keywords are the names of the instructions the serializer emits for the call (model `emit1`)
and the opcode byte the translated serializer `Gen.Ser.w_*` writes (`MetaVar` ↦ `MetaVar` / `CleanMetaVar`,
`instantiate` and `instantiate_pattern` ↦ `Instantiate`, `publish_*` ↦ `Publish`, the phase changes ↦ nothing).
-/
open PyI PyP Gen.PyPretty
set_option linter.unusedVariables false

namespace PrettyTie

theorem translated : Gen.PyPretty.translated = true := by decide

def notationOf (e : Gen.NotationEntry) : Notation := ⟨e.label, e.arity, e.definition, e.format⟩
def tableOpts : PrettyOptions :=
  { simplify_instantiations := false, notations := Gen.notations.map fun e => (e.definition, notationOf e) }

def K : Nat := 80
def entryFound (e : Gen.NotationEntry) : Bool :=
  match mapFind tableOpts.notations e.definition with
  | some f => f.format_str == e.format && (NPat.peqF K e.definition f.definition == some true)
  | none => false

/-- the definitions of the table are pairwise different keys: the dictionary `{n.definition: n for n in table}`
(`ProofExp.pretty_options`, the harness) has exactly the table's entries as items, in order -/
def keysDistinct : List Gen.NotationEntry → Bool
  | [] => true
  | e :: r => r.all (fun e' => !keyEq e.definition e'.definition && !keyEq e'.definition e.definition) && keysDistinct r

theorem table_keys_distinct : keysDistinct Gen.notations = true := by decide +kernel

theorem mapFind_distinct (l : List Gen.NotationEntry) (hd : keysDistinct l = true) (e : Gen.NotationEntry) (he : e ∈ l)
    (hr : keyEq e.definition e.definition = true) :
    mapFind (l.map fun e => (e.definition, notationOf e)) e.definition = some (notationOf e) := by
  induction l with
  | nil => cases he
  | cons a r ih =>
    simp only [keysDistinct, Bool.and_eq_true, List.all_eq_true, Bool.not_eq_true'] at hd
    simp only [List.map_cons, mapFind]
    rcases List.mem_cons.mp he with rfl | he
    · rw [if_pos hr]
    · rw [if_neg (by rw [(hd.1 e he).1]; exact Bool.false_ne_true), ih hd.2 he]

/-- every shipped definition is `==` to itself within fuel `K` (and is a key equal to itself) -/
theorem table_self :
    Gen.notations.all (fun e => keyEq e.definition e.definition && (NPat.peqF K e.definition e.definition == some true)) = true := by
  decide +kernel

theorem table_lookup : Gen.notations.all entryFound = true := by
  rw [List.all_eq_true]
  intro e he
  have hs := List.all_eq_true.mp table_self e he
  simp only [Bool.and_eq_true, beq_iff_eq] at hs
  have hf : mapFind tableOpts.notations e.definition = some (notationOf e) :=
    mapFind_distinct _ table_keys_distinct e he hs.1
  simp [entryFound, hf, notationOf, hs.2]

/-! ## (a) `pretty` as written is the model `PP.pretty` -/

@[simp] theorem toString_str (s : String) : toString s = s := rfl

/-- `frozendict(enumerate(args))`, the map `Notation.__call__` builds -/
def enumFrom {α} : Nat → List α → List (Nat × α)
  | _, [] => []
  | i, a :: r => (i, a) :: enumFrom (i + 1) r

theorem dictValues_enumFrom {α} (i : Nat) (l : List α) : dictValues (enumFrom i l) = l := by
  induction l generalizing i with
  | nil => rfl
  | cons a r ih => simp only [enumFrom, dictValues, List.map_cons, List.cons.injEq, true_and]; exact ih (i + 1)

/-- the Python object a term of the model stands for (`harness/py/py_cmds.py: pp_obj`): `napp idx args` is
`Gen.notations[idx](*args)` = `Instantiate(definition, frozendict(enumerate(args)))`; `code` numbers the symbol names -/
def obj (code : String → Nat) : PP → Option NPat
  | .evar x => some (.evar x)
  | .svar x => some (.svar x)
  | .sym s => some (.sym (code s))
  | .imp l r => do pure (.imp (← obj code l) (← obj code r))
  | .app l r => do pure (.app (← obj code l) (← obj code r))
  | .ex x p => do pure (.ex x (← obj code p))
  | .mu x p => do pure (.mu x (← obj code p))
  | .mv id => some (.mv id [] [] [] [] [])
  | .esub p x q => do pure (.esub (← obj code p) x (← obj code q))
  | .ssub p x q => do pure (.ssub (← obj code p) x (← obj code q))
  | .napp idx args => do
      let e ← Gen.notations[idx]?
      let as ← objList args
      pure (.inst e.definition (enumFrom 0 as))
where
  objList : List PP → Option (List NPat)
    | [] => some []
    | a :: r => do pure ((← obj code a) :: (← objList r))

def depth : PP → Nat
  | .evar _ => 0 | .svar _ => 0 | .sym _ => 0 | .mv _ => 0
  | .imp l r => max (depth l) (depth r) + 1
  | .app l r => max (depth l) (depth r) + 1
  | .ex _ p => depth p + 1
  | .mu _ p => depth p + 1
  | .esub p _ q => max (depth p) (depth q) + 1
  | .ssub p _ q => max (depth p) (depth q) + 1
  | .napp _ args => depthList args + 1
where
  depthList : List PP → Nat
    | [] => 0
    | a :: r => max (depth a) (depthList r)

theorem call_some {α β} (x : Option α) (k : α → Py β) :
    call (some x) k = match x with | none => some none | some a => k a := by
  cases x <;> rfl

theorem entry_found (idx : Nat) (e : Gen.NotationEntry) (h : Gen.notations[idx]? = some e) :
    ∃ f, mapFind tableOpts.notations e.definition = some f ∧ f.format_str = e.format ∧
      NPat.peqF K e.definition f.definition = some true := by
  have hm : e ∈ Gen.notations := List.mem_of_getElem? h
  have := List.all_eq_true.mp table_lookup e hm
  unfold entryFound at this
  split at this
  · rename_i f hf
    simp only [Bool.and_eq_true, beq_iff_eq] at this
    exact ⟨f, hf, this.1, this.2⟩
  · cases this

theorem call_ret {α β} (a : α) (k : α → Py β) : call (ret a) k = k a := rfl
theorem fuel_some {α β} (a : α) (k : α → Py β) : fuel (some a) k = k a := rfl
theorem assert_true {β} (k : Py β) : assert_ true k = k := rfl
theorem call_id {α} (x : Py α) : (call x fun t => ret t) = x := by
  rcases x with _ | _ | _ <;> rfl

theorem slash_x (s : String) : "/" ++ ("x" ++ s) = "/x" ++ s := by
  rw [← String.append_assoc]; congr 1
theorem slash_X (s : String) : "/" ++ ("X" ++ s) = "/X" ++ s := by
  rw [← String.append_assoc]; congr 1

/-- the comprehension `[p.pretty(opts) for p in applied.inst.values()]`, given the statement for the elements -/
theorem mapPy_args (σ : Nat → String) (code : String → Nat) (n : Nat)
    (ih : ∀ (p : PP) (q : NPat), obj code p = some q →
      (pretty σ n q tableOpts = none ∧ n ≤ depth p + K) ∨ pretty σ n q tableOpts = some p.pretty) :
    ∀ (args : List PP) (qs : List NPat), obj.objList code args = some qs →
      (mapPy (fun c_p => pretty σ n c_p tableOpts) qs = none ∧ n ≤ depth.depthList args + K) ∨
      mapPy (fun c_p => pretty σ n c_p tableOpts) qs = some (PP.pretty.prettyList args) := by
  intro args
  induction args with
  | nil =>
    intro qs h
    simp only [obj.objList, Option.some.injEq] at h; subst h
    right; rfl
  | cons a r ihr =>
    intro qs h
    simp only [obj.objList, Option.bind_eq_bind, Option.pure_def, Option.bind_eq_some_iff, Option.some.injEq] at h
    obtain ⟨qa, hqa, qr, hqr, rfl⟩ := h
    simp only [depth.depthList]
    rcases ih a qa hqa with ⟨ha, hf⟩ | ha
    · left; exact ⟨by simp [mapPy, ha, call], by omega⟩
    · rcases ihr qr hqr with ⟨hr, hf⟩ | hr
      · cases hpa : PP.pretty a with
        | none => right; simp [mapPy, ha, hpa, call_some, PP.pretty.prettyList]
        | some s => left; exact ⟨by simp [mapPy, ha, hr, hpa, call], by omega⟩
      · right
        simp only [mapPy, ha, hr, call_some, PP.pretty.prettyList]
        cases PP.pretty a <;> cases PP.pretty.prettyList r <;> rfl

/-- the translated `pretty` answers what the model answers, or runs out of fuel — the latter only at a fuel within the
nesting depth of the term plus `K` -/
theorem pretty_model_or_fuel (σ : Nat → String) (code : String → Nat) (hσ : ∀ s, σ (code s) = s) :
    ∀ (n : Nat) (p : PP) (q : NPat), obj code p = some q →
      (pretty σ n q tableOpts = none ∧ n ≤ depth p + K) ∨ pretty σ n q tableOpts = some p.pretty := by
  intro n
  induction n with
  | zero => intro p q _; left; exact ⟨by cases q <;> rfl, Nat.zero_le _⟩
  | succ n ih =>
    intro p q hq
    cases p with
    | evar x | svar x | mv id =>
      simp only [obj, Option.some.injEq] at hq; subst hq
      right; simp [pretty, EVar_pretty, SVar_pretty, MetaVar_pretty, PP.pretty, ret, cat, strNat]
    | sym s =>
      simp only [obj, Option.some.injEq] at hq; subst hq
      right; simp [pretty, Symbol_pretty, PP.pretty, ret, hσ]
    | imp l r | app l r =>
      simp only [obj, Option.bind_eq_bind, Option.pure_def, Option.bind_eq_some_iff, Option.some.injEq] at hq
      obtain ⟨ql, hl, qr, hr, rfl⟩ := hq
      simp only [depth]
      rcases ih l ql hl with ⟨h1, hf⟩ | h1
      · left; exact ⟨by simp [pretty, Implies_pretty, App_pretty, h1, call], by omega⟩
      · rcases ih r qr hr with ⟨h2, hf⟩ | h2
        · cases hpl : PP.pretty l with
          | none => right; simp [pretty, Implies_pretty, App_pretty, h1, hpl, call_some, PP.pretty]
          | some a => left; exact ⟨by simp [pretty, Implies_pretty, App_pretty, h1, h2, hpl, call], by omega⟩
        · right
          simp only [pretty, Implies_pretty, App_pretty, h1, h2, call_some, PP.pretty]
          cases PP.pretty l <;> cases PP.pretty r <;> simp [ret, cat, String.append_assoc]
    | ex x p | mu x p =>
      simp only [obj, Option.bind_eq_bind, Option.pure_def, Option.bind_eq_some_iff, Option.some.injEq] at hq
      obtain ⟨qp, hp, rfl⟩ := hq
      simp only [depth]
      rcases ih p qp hp with ⟨h1, hf⟩ | h1
      · left; exact ⟨by simp [pretty, Exists_pretty, Mu_pretty, h1, call], by omega⟩
      · right
        simp only [pretty, Exists_pretty, Mu_pretty, h1, call_some, PP.pretty]
        cases PP.pretty p <;> simp [ret, cat, strNat, String.append_assoc]
    | esub l x r | ssub l x r =>
      simp only [obj, Option.bind_eq_bind, Option.pure_def, Option.bind_eq_some_iff, Option.some.injEq] at hq
      obtain ⟨ql, hl, qr, hr, rfl⟩ := hq
      simp only [depth]
      rcases ih l ql hl with ⟨h1, hf⟩ | h1
      · left; exact ⟨by simp [pretty, ESubst_pretty, SSubst_pretty, h1, call], by omega⟩
      · rcases ih r qr hr with ⟨h2, hf⟩ | h2
        · cases hpl : PP.pretty l with
          | none => right; simp [pretty, ESubst_pretty, SSubst_pretty, h1, hpl, call_some, PP.pretty]
          | some a => left; exact ⟨by simp [pretty, ESubst_pretty, SSubst_pretty, h1, h2, hpl, call], by omega⟩
        · right
          simp only [pretty, ESubst_pretty, SSubst_pretty, EVar_pretty, SVar_pretty, h1, h2, call_some, PP.pretty]
          cases PP.pretty l <;> cases PP.pretty r <;> simp [ret, cat, strNat, String.append_assoc, slash_x, slash_X]
    | napp idx args =>
      simp only [obj, Option.bind_eq_bind, Option.pure_def, Option.bind_eq_some_iff, Option.some.injEq] at hq
      obtain ⟨e, he, qs, hqs, rfl⟩ := hq
      obtain ⟨f, hf, hfmt, hpeq⟩ := entry_found idx e he
      have hsimp : tableOpts.simplify_instantiations = false := rfl
      cases hpq : NPat.peqF n e.definition f.definition with
      | none =>
        -- the `==` of the assertion runs out of fuel only below `K`
        left
        refine ⟨?_, ?_⟩
        · simp only [pretty, Instantiate_pretty, hsimp, Bool.false_eq_true, if_false, mapHas, hf, Option.isSome_some, if_true,
            mapGet, call_ret, Notation_print_instantiation, hpq, call_id]
          rfl
        · rcases Nat.lt_or_ge n K with h | h
          · omega
          · rw [NPat.peqF_mono h _ _ true hpeq] at hpq; cases hpq
      | some r =>
        have hr : r = true := by
          have h1 := NPat.peqF_mono (Nat.le_max_left n K) _ _ r hpq
          have h2 := NPat.peqF_mono (Nat.le_max_right n K) _ _ true hpeq
          rw [h1] at h2
          exact Option.some.inj h2
        subst hr
        simp only [depth]
        rcases mapPy_args σ code n ih args qs hqs with ⟨hargs, hfl⟩ | hargs
        · left
          refine ⟨?_, by omega⟩
          simp only [pretty, Instantiate_pretty, hsimp, Bool.false_eq_true, if_false, mapHas, hf, Option.isSome_some, if_true,
            mapGet, call_ret, Notation_print_instantiation, hpq, fuel_some, assert_true, dictValues_enumFrom, call_id, hargs]
          rfl
        · right
          simp only [pretty, Instantiate_pretty, hsimp, Bool.false_eq_true, if_false, mapHas, hf, Option.isSome_some, if_true,
            mapGet, call_ret, Notation_print_instantiation, hpq, fuel_some, assert_true, dictValues_enumFrom, hargs, call_some,
            call_id, PP.pretty, he, hfmt, strFormat, Option.bind_eq_bind, Option.bind_some, Option.pure_def]
          cases Fmt.parseFmt e.format.toList with
          | none => cases PP.pretty.prettyList args <;> rfl
          | some segs =>
            cases PP.pretty.prettyList args with
            | none => rfl
            | some strs =>
              simp only [Option.bind_some]
              cases Fmt.render segs (List.map String.toList strs) <;> rfl

/-- **the text tie**: on the Python object a model term stands for, with `opts.notations` = the whole shipped table
(`simplify_instantiations` off), `Pattern.pretty` as written in `pattern.py` — dispatch over the eleven classes,
`Instantiate.pretty`'s lookup of the definition in `opts.notations`, `Notation.print_instantiation`'s
`assert applied.pattern == self.definition`, the comprehension over `applied.inst.values()`, `format_str.format(*…)`
inside its `try` — answers what the hand-written model `PP.pretty` answers (`none` = `ValueError`), at every fuel
above the nesting depth of the term plus `K` (`K` = what the reflexive `==` of the largest shipped definition costs).
`σ`/`code`: any numbering of the symbol names. -/
theorem pretty_is_model (σ : Nat → String) (code : String → Nat) (hσ : ∀ s, σ (code s) = s)
    (p : PP) (q : NPat) (hq : obj code p = some q) (n : Nat) (hn : depth p + K < n) :
    pretty σ n q tableOpts = some p.pretty :=
  (pretty_model_or_fuel σ code hσ n p q hq).resolve_left fun h => Nat.not_le.mpr hn h.2

/-- **at every fuel**: the translated `pretty` either runs out of fuel or answers what the model answers — never
anything else -/
theorem pretty_sound_any_fuel (σ : Nat → String) (code : String → Nat) (hσ : ∀ s, σ (code s) = s) :
    ∀ (n : Nat) (p : PP) (q : NPat), obj code p = some q →
      pretty σ n q tableOpts = none ∨ pretty σ n q tableOpts = some p.pretty :=
  fun n p q hq => (pretty_model_or_fuel σ code hσ n p q hq).imp_left And.left

/-! a term that mentions a notation index outside the table stands for no object, and the model answers `none` -/
mutual
theorem obj_none (code : String → Nat) : ∀ p : PP, obj code p = none → p.pretty = none
  | .evar x, h | .svar x, h | .sym x, h | .mv x, h => by simp [obj] at h
  | .imp l r, h | .app l r, h | .esub l x r, h | .ssub l x r, h => by
      simp only [obj, Option.bind_eq_bind, Option.pure_def] at h
      cases hl : obj code l with
      | none => simp [PP.pretty, obj_none code l hl]
      | some ql =>
        cases hr : obj code r with
        | none => simp [PP.pretty, obj_none code r hr]
        | some qr => simp [hl, hr] at h
  | .ex x p, h | .mu x p, h => by
      simp only [obj, Option.bind_eq_bind, Option.pure_def] at h
      cases hp : obj code p with
      | none => simp [PP.pretty, obj_none code p hp]
      | some q => simp [hp] at h
  | .napp idx args, h => by
      simp only [obj, Option.bind_eq_bind, Option.pure_def] at h
      cases he : Gen.notations[idx]? with
      | none => simp [PP.pretty, he]
      | some e =>
        cases ha : obj.objList code args with
        | none => simp [PP.pretty, objList_none code args ha]
        | some qs => simp [he, ha] at h
theorem objList_none (code : String → Nat) : ∀ l : List PP, obj.objList code l = none → PP.pretty.prettyList l = none
  | [], h => by simp [obj.objList] at h
  | a :: r, h => by
      simp only [obj.objList, Option.bind_eq_bind, Option.pure_def] at h
      cases ha : obj code a with
      | none => simp [PP.pretty.prettyList, obj_none code a ha]
      | some qa =>
        cases hr : obj.objList code r with
        | none => simp [PP.pretty.prettyList, objList_none code r hr]
        | some qr => simp [ha, hr] at h
end

/-- `PrettyOptions()` — what `__str__` and an interpreter constructed without options use: no simplification, no notations -/
theorem default_options : PrettyOptions_default = { simplify_instantiations := false, notations := [] } := rfl

/-- `str(p)` is `p.pretty(PrettyOptions())`: every class's `__str__` as written -/
theorem toStr_is_pretty_default (σ : Nat → String) (n : Nat) (q : NPat) :
    toStr σ n q = pretty σ n q PrettyOptions_default := by
  cases n with
  | zero => simp [toStr, pretty]
  | succ n =>
    cases q <;> simp [toStr, pretty, EVar_str, SVar_str, Symbol_str, MetaVar_str, Implies_str, App_str, Exists_str, Mu_str,
      ESubst_str, SSubst_str, Instantiate_str, call_id]

/-- with `simplify_instantiations` on, a notation node prints as its one-level simplification (`Instantiate.simplify`
as translated from the source by `transmatch.py`) -/
theorem pretty_simplified (σ : Nat → String) (n : Nat) (d : NPat) (m : List (Nat × NPat)) (opts : PrettyOptions)
    (h : opts.simplify_instantiations = true) :
    pretty σ (n + 1) (.inst d m) opts =
      call (Gen.PyMatch.Instantiate.simplify n (.inst d m)) fun t => pretty σ n t opts := by
  simp [pretty, Instantiate_pretty, h, call_id]

/-- a definition that is not a key of `opts.notations` (and no simplification): the fallback prints the definition and
the rendered arguments, `str(self.pattern)[{0: '…', 1: '…'}]` — every argument is shown -/
theorem pretty_fallback (σ : Nat → String) (n : Nat) (d : NPat) (m : List (Nat × NPat)) (opts : PrettyOptions)
    (h : opts.simplify_instantiations = false) (hk : mapFind opts.notations d = none) :
    pretty σ (n + 1) (.inst d m) opts =
      call (forItems m [] fun acc k v => call (pretty σ n v opts) fun t => ret (dictSet acc k t)) fun shown =>
      call (toStr σ n d) fun t => ret (cat [t, "[", strDict shown, "]"]) := by
  simp [pretty, Instantiate_pretty, h, mapHas, hk]

/-! ## (b) the step lines of `PrettyPrintingInterpreter` -/

/-- the text a decorated function writes before the wrapper's newline -/
def stepText (σ : Nat → String) (c : PCall) : String := cat (c.writes σ)

/-- the step keywords (the names of the instructions in `instruction.py`) -/
def KW : List String := ["EVar", "SVar", "Symbol", "MetaVar", "Implies", "App", "Exists", "Mu", "ESubst", "SSubst", "Prop1",
  "Prop2", "Prop3", "ModusPonens", "Quantifier", "Generalization", "Instantiate", "Pop", "Save", "Load", "Publish"]

/-- the longest keyword a line starts with (how `vlib/props/c19.py` and the demo of seeded change C19-B/D read a
pretty file) -/
def keywordOf (line : List Char) : Option String :=
  let best := KW.foldl (fun best kw => if kw.toList.isPrefixOf line && best.length < kw.length then kw else best) ""
  if best = "" then none else some best

/-- the step keyword of each decorated method -/
def kw : PCall → String
  | .evar _ => "EVar" | .svar _ => "SVar" | .symbol _ => "Symbol" | .metavar .. => "MetaVar"
  | .implies => "Implies" | .app => "App" | .«exists» _ => "Exists" | .mu _ => "Mu"
  | .esubst _ => "ESubst" | .ssubst _ => "SSubst" | .prop1 => "Prop1" | .prop2 => "Prop2" | .prop3 => "Prop3"
  | .modus_ponens => "ModusPonens" | .exists_quantifier => "Quantifier" | .exists_generalization _ => "Generalization"
  | .instantiate _ => "Instantiate" | .instantiate_pattern _ => "Instantiate"
  | .pop => "Pop" | .save _ => "Save" | .load .. => "Load"
  | .publish_proof => "Publish" | .publish_axiom => "Publish" | .publish_claim => "Publish"

theorem kw_mem (c : PCall) : kw c ∈ KW := by cases c <;> simp only [kw] <;> decide

/-- two words differ at a position both have -/
def diverge : List Char → List Char → Bool
  | a :: as, b :: bs => a != b || diverge as bs
  | _, _ => false

theorem diverge_not_prefix (a b : List Char) (h : diverge a b = true) (x : List Char) :
    List.isPrefixOf a (b ++ x) = false := by
  induction a generalizing b with
  | nil => simp [diverge] at h
  | cons c as ih =>
    cases b with
    | nil => simp [diverge] at h
    | cons d bs =>
      simp only [diverge, Bool.or_eq_true, bne_iff_ne, ne_eq] at h
      simp only [List.cons_append, List.isPrefixOf]
      by_cases hcd : c = d
      · subst hcd
        simp only [not_true_eq_false, false_or] at h
        simp [ih bs h]
      · simp [hcd]

/-- no keyword is a prefix of another one -/
theorem KW_diverge : ∀ k ∈ KW, ∀ k' ∈ KW, k ≠ k' → diverge k'.toList k.toList = true := by decide +kernel

theorem prefix_self_append (a x : List Char) : List.isPrefixOf a (a ++ x) = true := by
  induction a with
  | nil => simp [List.isPrefixOf]
  | cons c r ih => simp [ih]

theorem fold_pick (line : List Char) (k : String) (hk : k.toList.isPrefixOf line = true) (hlen : 0 < k.length)
    (L : List String) (hL : ∀ k' ∈ L, k' ≠ k → k'.toList.isPrefixOf line = false) (best : String)
    (hb : best = "" ∨ best = k) :
    L.foldl (fun best kw => if kw.toList.isPrefixOf line && best.length < kw.length then kw else best) best =
      if k ∈ L then k else best := by
  induction L generalizing best with
  | nil => simp
  | cons a r ih =>
    simp only [List.foldl_cons]
    have hr : ∀ k' ∈ r, k' ≠ k → k'.toList.isPrefixOf line = false := fun k' h => hL k' (List.mem_cons_of_mem _ h)
    by_cases hak : a = k
    · subst hak
      rcases hb with rfl | rfl
      · simp only [hk, String.length_empty, hlen, decide_true, Bool.and_self, if_true]
        rw [ih hr _ (Or.inr rfl)]; simp
      · simp only [Nat.lt_irrefl, decide_false, Bool.and_false, Bool.false_eq_true, if_false]
        rw [ih hr _ (Or.inr rfl)]; simp
    · have := hL a (List.mem_cons_self ..) hak
      simp only [this, Bool.false_and, Bool.false_eq_true, if_false]
      rw [ih hr best hb]
      have hka : ¬ k = a := fun e => hak e.symm
      simp [List.mem_cons, hka]

theorem KW_heads : ∀ k ∈ KW, (match k.toList with | c :: _ => c != '\t' && c != ' ' | [] => false) = true := by decide +kernel

/-- a line that starts with a keyword has that keyword, whatever follows -/
theorem keywordOf_kw (k : String) (hk : k ∈ KW) (x : List Char) : keywordOf (k.toList ++ x) = some k := by
  have hlen : 0 < k.length := by
    have h := KW_heads k hk
    rw [← String.length_toList]
    revert h
    cases k.toList with
    | nil => simp
    | cons c r => exact fun _ => Nat.succ_pos _
  have hne : k ≠ "" := by
    intro h; subst h; simp at hlen
  unfold keywordOf
  simp only []
  rw [fold_pick (k.toList ++ x) k (prefix_self_append _ _) hlen KW
    (fun k' hk' hne' => diverge_not_prefix _ _ (KW_diverge k hk k' hk' (fun e => hne' e.symm)) x) "" (Or.inl rfl)]
  simp [hk, hne]

theorem toList_cat (l : List String) : (cat l).toList = l.flatMap String.toList := by
  induction l with
  | nil => simp [cat]
  | cons a r ih => simp [cat, ih]

/-- `line` is the word `k`, alone or followed by a space -/
def startsWithWord : List Char → List Char → Bool
  | [], [] => true
  | [], c :: _ => c == ' '
  | a :: as, b :: bs => a == b && startsWithWord as bs
  | _ :: _, [] => false

/-- the keyword is the whole first word of the step line (nothing is glued to it): the line is the keyword alone or
the keyword, a space, and the arguments -/
theorem step_keyword_is_a_word (σ : Nat → String) (c : PCall) :
    startsWithWord (kw c).toList (stepText σ c).toList = true := by
  cases c <;> simp [stepText, PCall.writes, toList_cat, kw, cat, startsWithWord]

theorem prefix_of_startsWithWord : ∀ k l : List Char, startsWithWord k l = true → List.isPrefixOf k l = true
  | [], _, _ => by simp
  | _ :: _, [], h => by simp [startsWithWord] at h
  | a :: as, b :: bs, h => by
    simp only [startsWithWord, Bool.and_eq_true, beq_iff_eq] at h
    simp [h.1, prefix_of_startsWithWord as bs h.2]

/-- what every decorated function writes begins with its keyword -/
theorem stepText_prefix (σ : Nat → String) (c : PCall) :
    List.isPrefixOf (kw c).toList (stepText σ c).toList = true :=
  prefix_of_startsWithWord _ _ (step_keyword_is_a_word σ c)

/-- **the keyword of a step line**: for every decorated method and all arguments, the line the call writes starts with
the method's keyword and the reader recognises exactly that keyword -/
theorem step_keyword (σ : Nat → String) (c : PCall) : keywordOf (stepText σ c).toList = some (kw c) := by
  obtain ⟨rest, h⟩ := List.isPrefixOf_iff_prefix.mp (stepText_prefix σ c)
  rw [← h]
  exact keywordOf_kw _ (kw_mem c) rest

/-! ### one step line per emitted instruction, same kind, same order -/

/-- the decorated call that a call of the tracker model is.  The model's `Call` carries neither the text of a symbol
name (`symName`) nor the `id` strings of `save` / `load` (`saveId`, `loadId`); `memIdx` = `self.memory.index(term)`.
The two phase changes are not decorated (`Gen.PyPretty.undecorated`): `IOInterpreter` switches the output file. -/
def pcallOf (symName : Nat → String) (saveId loadId : String) (memIdx : Nat) : Call → Option PCall
  | .evar x => some (.evar x)
  | .svar x => some (.svar x)
  | .symbol nm => some (.symbol (symName nm))
  | .metavar id ef sf ps ns hs => some (.metavar id ef sf ps ns hs)
  | .implies => some .implies
  | .app => some .app
  | .ex x => some (.«exists» x)
  | .mu x => some (.mu x)
  | .esubst x => some (.esubst x)
  | .ssubst x => some (.ssubst x)
  | .prop1 => some .prop1
  | .prop2 => some .prop2
  | .prop3 => some .prop3
  | .quantifier => some .exists_quantifier
  | .mp => some .modus_ponens
  | .gen x => some (.exists_generalization x)
  | .instantiate keys => some (.instantiate keys)
  | .instantiatePattern keys => some (.instantiate_pattern keys)
  | .pop => some .pop
  | .save => some (.save saveId)
  | .load _ => some (.load loadId memIdx)
  | .publishProof => some .publish_proof
  | .publishAxiom => some .publish_axiom
  | .publishClaim => some .publish_claim
  | .intoClaim => none
  | .intoProof => none

/-- the name of an instruction in `instruction.py`; the pretty printer has one keyword, `MetaVar`, for both
`MetaVar` and its short form `CleanMetaVar` -/
def instrName : Instr → String
  | .evar _ => "EVar" | .svar _ => "SVar" | .sym _ => "Symbol" | .implies => "Implies" | .app => "App"
  | .ex _ => "Exists" | .mu _ => "Mu" | .metavar .. => "MetaVar" | .cleanmv _ => "MetaVar"
  | .esubst _ => "ESubst" | .ssubst _ => "SSubst" | .prop1 => "Prop1" | .prop2 => "Prop2" | .prop3 => "Prop3"
  | .quantifier => "Quantifier" | .existence => "Existence" | .mp => "ModusPonens" | .gen _ => "Generalization"
  | .subst _ => "Substitution" | .instantiate _ => "Instantiate" | .pop => "Pop" | .save => "Save" | .load _ => "Load"
  | .publish => "Publish"

/-- the method of the tracker each call of the model is (`InterpTie.pyCall` dispatches to the translated method of
this name) -/
def methodOfCall : Call → String
  | .evar _ => "evar" | .svar _ => "svar" | .symbol _ => "symbol" | .metavar .. => "metavar" | .implies => "implies"
  | .app => "app" | .ex _ => "exists" | .mu _ => "mu" | .esubst _ => "esubst" | .ssubst _ => "ssubst"
  | .prop1 => "prop1" | .prop2 => "prop2" | .prop3 => "prop3" | .quantifier => "exists_quantifier"
  | .mp => "modus_ponens" | .gen _ => "exists_generalization" | .instantiate _ => "instantiate"
  | .instantiatePattern _ => "instantiate_pattern" | .pop => "pop" | .save => "save" | .load _ => "load"
  | .publishProof => "publish_proof" | .publishAxiom => "publish_axiom" | .publishClaim => "publish_claim"
  | .intoClaim => "into_claim_phase" | .intoProof => "into_proof_phase"

/-- the wrapper as written: first the super method of the same name (on the same arguments), then what the decorated
function writes, then exactly one newline, then the stack dump iff `print_stack` -/
theorem events_shape (σ : Nat → String) (c : PCall) :
    c.events σ = [Ev.super_ c.method] ++ (c.writes σ).map Ev.out ++ [Ev.out "\n"] ++
      (if c.printStack then [Ev.printStack] else []) := by
  simp [PCall.events, wrapper]

/-- the super method the wrapper calls is the tracker method of the call; undecorated calls are exactly the phase changes -/
theorem wrapper_super (symName : Nat → String) (saveId loadId : String) (memIdx : Nat) (c : Call) :
    (match pcallOf symName saveId loadId memIdx c with
     | some pc => pc.method = methodOfCall c
     | none => methodOfCall c ∈ undecorated) := by
  cases c <;> simp [pcallOf, PCall.method, methodOfCall, undecorated]

/-- which decorated calls dump the stack: all but `save` and the three `publish_*` -/
theorem stack_dump_table (c : PCall) :
    c.printStack = (c.method != "save" && c.method != "publish_proof" && c.method != "publish_axiom" &&
      c.method != "publish_claim") := by
  cases c <;> simp [PCall.printStack, PCall.method, printStackDefault]

/-- **pretty steps ↔ emitted instructions** (model serializer `emit1`): for every call of the tracker model, the
keywords of the step lines the pretty-printing interpreter writes for it are the names of the instructions the
serializer emits for it — one line per instruction, in order, of the same kind (`MetaVar` for `CleanMetaVar`);
the two phase changes write neither. -/
theorem steps_match_emitted (n : Nat) (s : PySt) (c : Call) (is : List Instr) (h : PySt.emit1 n s c = some (some is))
    (σ symName : Nat → String) (saveId loadId : String) (memIdx : Nat) :
    (pcallOf symName saveId loadId memIdx c).toList.map (fun pc => keywordOf (stepText σ pc).toList) =
      is.map (fun i => some (instrName i)) := by
  simp only [step_keyword]
  cases c with
  | load t =>
    simp only [PySt.emit1, Option.bind_eq_bind, Option.bind_eq_some_iff] at h
    obtain ⟨r, hr, h⟩ := h
    cases r with
    | none => simp at h
    | some i =>
      simp only [Option.pure_def, Option.some.injEq] at h
      subst h
      rfl
  | metavar id ef sf ps ns hs =>
    dsimp only [PySt.emit1] at h
    split at h <;> simp only [Option.some.injEq] at h <;> subst h <;> rfl
  | _ =>
    simp only [PySt.emit1, Option.some.injEq] at h
    subst h
    rfl

/-- the opcode that belongs to a step line: the instruction named by its keyword; a `MetaVar` line whose five
constraint lists are all empty stands for the short form `CleanMetaVar` -/
def stepOpcode : PCall → Nat
  | .metavar _ ef sf ps ns hs =>
      if ef.isEmpty && sf.isEmpty && ps.isEmpty && ns.isEmpty && hs.isEmpty then Gen.Ser.opc "CleanMetaVar"
      else Gen.Ser.opc "MetaVar"
  | pc => Gen.Ser.opc (kw pc)

/-- **pretty steps ↔ the bytes of the translated serializer** (`Gen.Ser.w_*`, regenerated from
`serializing_interpreter.py`): for every call of the tracker model, the serializer writes no byte iff the call is
undecorated, and otherwise its first byte — the opcode of the one instruction it writes (`SerTie.emit_is_serializer`)
— is the opcode named by the keyword of the step line the pretty printer writes for the same call -/
theorem steps_match_serializer (s : PySt) (c : Call) (symName : Nat → String) (saveId loadId : String) (memIdx : Nat) :
    (SerTie.bytesOfCall s memIdx c).head? = (pcallOf symName saveId loadId memIdx c).map stepOpcode := by
  cases c with
  | metavar id ef sf ps ns hs =>
    obtain ⟨_, _, _, _, _, _, _, h9, _, _, _, _, _, _, _, _, _, _, _, _, _, h137⟩ := SerTie.opc_values
    simp only [SerTie.bytesOfCall, SerTie.metavar_bytes, pcallOf, Option.map_some, stepOpcode]
    split <;> simp [encode1, h9, h137]
  | _ =>
    simp [SerTie.bytesOfCall, pcallOf, stepOpcode, kw, Gen.Ser.w_evar, Gen.Ser.w_svar, Gen.Ser.w_symbol, Gen.Ser.w_implies,
      Gen.Ser.w_app, Gen.Ser.w_exists, Gen.Ser.w_mu, Gen.Ser.w_esubst, Gen.Ser.w_ssubst, Gen.Ser.w_prop1, Gen.Ser.w_prop2,
      Gen.Ser.w_prop3, Gen.Ser.w_exists_quantifier, Gen.Ser.w_modus_ponens, Gen.Ser.w_exists_generalization,
      Gen.Ser.w_instantiate, Gen.Ser.w_instantiate_pattern, Gen.Ser.w_pop, Gen.Ser.w_save, Gen.Ser.w_load,
      Gen.Ser.w_publish_proof, Gen.Ser.w_publish_axiom, Gen.Ser.w_publish_claim]

/-- the exact table keyword ↦ opcode -/
theorem keyword_opcode_table :
    KW.map Gen.Ser.opc = [2, 3, 4, 9, 5, 6, 8, 7, 10, 11, 12, 13, 14, 21, 15, 22, 26, 27, 28, 29, 30] ∧
    Gen.Ser.opc "CleanMetaVar" = 137 := by decide +kernel

/-! ### exactly one step line per call -/

/-- `text.split('\n')` -/
def lines : List Char → List (List Char)
  | [] => [[]]
  | c :: r =>
      if c = '\n' then [] :: lines r
      else match lines r with
        | l :: ls => (c :: l) :: ls
        | [] => [[c]]

/-- a step line: not empty, not indented, starts with a keyword (the reader of `vlib/props/c19.py`) -/
def stepOfLine : List Char → Option String
  | [] => none
  | c :: r => if c = '\t' || c = ' ' then none else keywordOf (c :: r)

/-- the steps a pretty-printed file lists -/
def stepsOfText (t : List Char) : List String := (lines t).filterMap stepOfLine

theorem lines_ne_nil (t : List Char) : lines t ≠ [] := by
  cases t with
  | nil => simp [lines]
  | cons c r =>
    simp only [lines]
    split
    · simp
    · split <;> simp

theorem lines_no_nl (a : List Char) (h : '\n' ∉ a) : lines a = [a] := by
  induction a with
  | nil => rfl
  | cons c r ih =>
    simp only [List.mem_cons, not_or] at h
    have hc : ¬ c = '\n' := fun e => h.1 e.symm
    simp [lines, hc, ih h.2]

theorem lines_append_nl (a b : List Char) (h : '\n' ∉ a) : lines (a ++ '\n' :: b) = a :: lines b := by
  induction a with
  | nil => simp [lines]
  | cons c r ih =>
    simp only [List.mem_cons, not_or] at h
    have hc : ¬ c = '\n' := fun e => h.1 e.symm
    simp [lines, hc, ih h.2]

theorem steps_append_nl (a b : List Char) (h : '\n' ∉ a) :
    stepsOfText (a ++ '\n' :: b) = (stepOfLine a).toList ++ stepsOfText b := by
  simp only [stepsOfText, lines_append_nl a b h, List.filterMap_cons]
  cases stepOfLine a <;> simp

theorem steps_nl : stepsOfText ['\n'] = [] := by
  simp [stepsOfText, lines, stepOfLine]

/-- a segment of text that starts no step: nothing, or one complete line that is not a step line -/
def Quiet (w : List Char) : Prop := w = [] ∨ ∃ b, w = b ++ ['\n'] ∧ '\n' ∉ b ∧ stepOfLine b = none

/-- quiet segments followed by the wrapper's newline list no step … -/
theorem steps_quiet (ws : List (List Char)) (h : ∀ w ∈ ws, Quiet w) : stepsOfText (ws.flatten ++ ['\n']) = [] := by
  induction ws with
  | nil => simpa using steps_nl
  | cons w r ih =>
    have hr := ih (fun x hx => h x (List.mem_cons_of_mem _ hx))
    rcases h w (List.mem_cons_self ..) with rfl | ⟨b, rfl, hb, hs⟩
    · simpa using hr
    · simp only [List.flatten_cons, List.append_assoc, List.cons_append, List.nil_append]
      rw [steps_append_nl b _ hb, hs]
      simpa using hr

/-- … and after a line prefix `a` whose keyword is `k` whatever follows on the line, exactly the step `k` -/
theorem steps_after_prefix (a : List Char) (k : String) (ha : '\n' ∉ a) (hk : ∀ x, stepOfLine (a ++ x) = some k)
    (ws : List (List Char)) (h : ∀ w ∈ ws, Quiet w) : stepsOfText (a ++ ws.flatten ++ ['\n']) = [k] := by
  induction ws with
  | nil =>
    simp only [List.flatten_nil, List.append_nil]
    rw [steps_append_nl a [] ha]
    have := hk []
    simp only [List.append_nil] at this
    rw [this]
    simp [stepsOfText, lines, stepOfLine]
  | cons w r ih =>
    have hr := ih (fun x hx => h x (List.mem_cons_of_mem _ hx))
    rcases h w (List.mem_cons_self ..) with rfl | ⟨b, rfl, hb, hs⟩
    · simpa using hr
    · have hab : '\n' ∉ a ++ b := by simp [ha, hb]
      have : a ++ ((b ++ ['\n']) :: r).flatten ++ ['\n'] = (a ++ b) ++ '\n' :: (r.flatten ++ ['\n']) := by simp
      rw [this, steps_append_nl _ _ hab, hk b, steps_quiet r (fun x hx => h x (List.mem_cons_of_mem _ hx))]
      rfl

theorem stepOfLine_kw (k : String) (hk : k ∈ KW) (x : List Char) : stepOfLine (k.toList ++ x) = some k := by
  have h := KW_heads k hk
  have h2 := keywordOf_kw k hk x
  cases hl : k.toList with
  | nil => simp [hl] at h
  | cons c r =>
    simp only [hl, Bool.and_eq_true, bne_iff_ne, ne_eq] at h
    simp only [hl, List.cons_append] at h2
    simp [stepOfLine, h.1, h.2, h2]

theorem keywordOf_none (line : List Char) (h : ∀ k ∈ KW, k.toList.isPrefixOf line = false) : keywordOf line = none := by
  have : ∀ (L : List String), (∀ k ∈ L, k.toList.isPrefixOf line = false) →
      L.foldl (fun best kw => if kw.toList.isPrefixOf line && best.length < kw.length then kw else best) "" = "" := by
    intro L
    induction L with
    | nil => intro _; rfl
    | cons a r ih =>
      intro hL
      simp only [List.foldl_cons, hL a (List.mem_cons_self ..), Bool.false_and, Bool.false_eq_true, if_false]
      exact ih (fun k hk => hL k (List.mem_cons_of_mem _ hk))
  unfold keywordOf
  simp only [this KW h, if_true]

/-- the names `write_list` prints the constraint lists under -/
def listNames : List String := ["eFresh", "sFresh", "pos", "neg", "appctx"]

theorem listNames_diverge : ∀ nm ∈ listNames, ∀ k ∈ KW, diverge k.toList nm.toList = true := by decide +kernel
theorem listNames_heads : ∀ nm ∈ listNames,
    (match nm.toList with | c :: _ => c != '\t' && c != ' ' && c != '\n' | [] => false) = true := by decide
theorem listNames_nl : ∀ nm ∈ listNames, ('\n' ∈ nm.toList) = False := by decide

/-- a line that starts with the name of a constraint list is not a step line -/
theorem stepOfLine_listName (nm : String) (hn : nm ∈ listNames) (x : List Char) : stepOfLine (nm.toList ++ x) = none := by
  have hk : keywordOf (nm.toList ++ x) = none :=
    keywordOf_none _ (fun k hk => diverge_not_prefix _ _ (listNames_diverge nm hn k hk) x)
  have h := listNames_heads nm hn
  cases hl : nm.toList with
  | nil => simp [hl] at h
  | cons c r =>
    simp only [hl, List.cons_append] at hk
    simp [stepOfLine, hk]

theorem nl_strNat (n : Nat) : '\n' ∉ (strNat n).toList := by
  intro h
  simp only [strNat, toString, Nat.toList_repr] at h
  have := Nat.isDigit_of_mem_toDigits (by decide) (by decide) h
  simp [Char.isDigit] at this

theorem nl_strJoin (l : List Nat) : '\n' ∉ (strJoin ", " (l.map strNat)).toList := by
  induction l with
  | nil => simp [strJoin]
  | cons a r ih =>
    cases r with
    | nil => simpa [strJoin] using nl_strNat a
    | cons b r' =>
      simp only [List.map_cons, strJoin, String.toList_append, List.mem_append, not_or]
      simp only [List.map_cons] at ih
      exact ⟨⟨nl_strNat a, by decide⟩, ih⟩

/-- the strings of a call that are not under the pretty printer's control contain no newline: the symbol name, the
`id` of `load` -/
def Clean : PCall → Prop
  | .symbol name => '\n' ∉ name.toList
  | .load id _ => '\n' ∉ id.toList
  | _ => True

theorem one_line (σ : Nat → String) (c : PCall) (hnl : '\n' ∉ (stepText σ c).toList) :
    stepsOfText ((stepText σ c).toList ++ ['\n']) = [kw c] := by
  obtain ⟨rest, h⟩ := List.isPrefixOf_iff_prefix.mp (stepText_prefix σ c)
  have hk : ∀ x, stepOfLine ((stepText σ c).toList ++ x) = some (kw c) := by
    intro x
    rw [← h, List.append_assoc]
    exact stepOfLine_kw _ (kw_mem c) _
  simpa using steps_after_prefix _ _ hnl hk [] (by simp)

theorem items_toList (strItem : Nat → String) (lst : List Nat) :
    List.flatMap String.toList (List.flatMap (fun c_item => [strItem c_item, " "]) lst) =
      List.flatMap (fun c_item => (strItem c_item).toList ++ [' ']) lst := by
  induction lst with
  | nil => rfl
  | cons a r ih => simp [List.flatMap_cons, ih]

theorem write_list_quiet (strItem : Nat → String) (nm : String) (hn : nm ∈ listNames) (lst : List Nat)
    (hitem : ∀ i, '\n' ∉ (strItem i).toList) : Quiet (cat (metavar_write_list strItem nm lst)).toList := by
  unfold metavar_write_list
  by_cases hl : lst.length = 0
  · left; simp [hl, cat]
  · right
    have hnm : '\n' ∉ nm.toList := by
      have := listNames_nl nm hn
      simpa using this
    have hitems : '\n' ∉ List.flatMap (fun c_item => (strItem c_item).toList ++ [' ']) lst := by
      simp only [List.mem_flatMap, List.mem_append, not_exists, not_and, not_or]
      intro i _
      exact ⟨hitem i, by decide⟩
    refine ⟨nm.toList ++ (", len=".toList ++ ((strNat lst.length).toList ++ (' ' :: List.flatMap (fun c_item => (strItem c_item).toList ++ [' ']) lst))), ?_, ?_, ?_⟩
    · have : (lst.length == 0) = false := by simp [hl]
      simp [this, toList_cat, cat, List.flatMap_append, items_toList]
    · simp only [List.mem_append, List.mem_cons, not_or]
      exact ⟨hnm, by decide, nl_strNat _, by decide, hitems⟩
    · exact stepOfLine_listName nm hn _

theorem nl_EVar_str (σ : Nat → String) (i : Nat) : '\n' ∉ (EVar_str σ i).toList := by
  simp only [EVar_str, EVar_pretty, toList_cat, List.flatMap_cons, List.flatMap_nil, List.append_nil, List.mem_append, not_or]
  exact ⟨by decide, nl_strNat i⟩
theorem nl_SVar_str (σ : Nat → String) (i : Nat) : '\n' ∉ (SVar_str σ i).toList := by
  simp only [SVar_str, SVar_pretty, toList_cat, List.flatMap_cons, List.flatMap_nil, List.append_nil, List.mem_append, not_or]
  exact ⟨by decide, nl_strNat i⟩

/-- **exactly one step line per call**: the text a decorated function writes, closed by the wrapper's newline, reads
as exactly one step — the method's keyword — for every method and all arguments whose free strings (symbol name,
`load` id) contain no newline.  (`metavar` with constraints writes further, unindented lines — one per non-empty
list, and then an empty one; none of them starts with a keyword.) -/
theorem one_step_line_per_call (σ : Nat → String) (c : PCall) (hc : Clean c) :
    stepsOfText ((stepText σ c).toList ++ ['\n']) = [kw c] := by
  cases c with
  | metavar id ef sf ps ns hs =>
    have hk : ∀ x, stepOfLine (("MetaVar ".toList ++ (strNat id).toList) ++ x) = some "MetaVar" := by
      intro x
      have := stepOfLine_kw "MetaVar" (by decide) (' ' :: ((strNat id).toList ++ x))
      simpa using this
    have hnl : '\n' ∉ "MetaVar ".toList ++ (strNat id).toList := by
      simp only [List.mem_append, not_or]; exact ⟨by decide, nl_strNat id⟩
    have := steps_after_prefix _ _ hnl hk
      [(cat (metavar_write_list (EVar_str σ) "eFresh" ef)).toList, (cat (metavar_write_list (SVar_str σ) "sFresh" sf)).toList,
       (cat (metavar_write_list (SVar_str σ) "pos" ps)).toList, (cat (metavar_write_list (SVar_str σ) "neg" ns)).toList,
       (cat (metavar_write_list (EVar_str σ) "appctx" hs)).toList]
      (by
        intro w hw
        simp only [List.mem_cons, List.not_mem_nil, or_false] at hw
        rcases hw with rfl | rfl | rfl | rfl | rfl
        · exact write_list_quiet _ _ (by decide) _ (nl_EVar_str σ)
        · exact write_list_quiet _ _ (by decide) _ (nl_SVar_str σ)
        · exact write_list_quiet _ _ (by decide) _ (nl_SVar_str σ)
        · exact write_list_quiet _ _ (by decide) _ (nl_SVar_str σ)
        · exact write_list_quiet _ _ (by decide) _ (nl_EVar_str σ))
    simpa [stepText, PCall.writes, toList_cat, kw, List.flatMap_append] using this
  | symbol name =>
    apply one_line
    simp only [Clean] at hc
    simp [stepText, PCall.writes, toList_cat, hc]
  | load id mi =>
    apply one_line
    simp only [Clean] at hc
    simp [stepText, PCall.writes, toList_cat, hc, nl_strNat]
  | _ =>
    apply one_line
    simp [stepText, PCall.writes, cat, nl_strNat, nl_strJoin]

/-! ### the whole file: the steps read back are the calls, in order -/

theorem lines_append_nl_gen (x y : List Char) : lines (x ++ '\n' :: y) = lines x ++ lines y := by
  induction x with
  | nil => simp [lines]
  | cons c r ih =>
    by_cases hc : c = '\n'
    · simp [lines, hc, ih]
    · simp only [List.cons_append, lines, hc, if_false, ih]
      cases hl : lines r with
      | nil => exact absurd hl (lines_ne_nil r)
      | cons l ls => simp

theorem steps_append (x y : List Char) : stepsOfText (x ++ '\n' :: y) = stepsOfText (x ++ ['\n']) ++ stepsOfText y := by
  simp only [stepsOfText, lines_append_nl_gen, List.filterMap_append]
  simp [lines, stepOfLine]

/-- a complete line that is not a step line -/
def QuietLine (w : List Char) : Prop := ∃ b, w = b ++ ['\n'] ∧ '\n' ∉ b ∧ stepOfLine b = none

theorem steps_quiet_lines (ws : List (List Char)) (h : ∀ w ∈ ws, QuietLine w) (y : List Char) :
    stepsOfText (ws.flatten ++ y) = stepsOfText y := by
  induction ws with
  | nil => simp
  | cons w r ih =>
    obtain ⟨b, rfl, hb, hs⟩ := h w (List.mem_cons_self ..)
    have : ((b ++ ['\n']) :: r).flatten ++ y = b ++ '\n' :: (r.flatten ++ y) := by simp
    rw [this, steps_append_nl b _ hb, hs, ih (fun x hx => h x (List.mem_cons_of_mem _ hx))]
    rfl

/-- the text one decorated call appends to the file (`events_shape`): what the function writes, the newline, and —
iff `print_stack` — the strings `dump` that `print_stack()` writes -/
def callText (σ : Nat → String) (c : PCall) (dump : List String) : List Char :=
  (stepText σ c).toList ++ '\n' :: (if c.printStack then (dump.map String.toList).flatten else [])

/-- **the pretty file lists the calls**: a file made of the texts of decorated calls whose free strings contain no
newline and whose stack dumps consist of complete non-step lines (`print_stack_quiet`) reads back as exactly the
keywords of the calls, one per call, in order -/
theorem file_steps (σ : Nat → String) (cs : List (PCall × List String)) (hclean : ∀ c ∈ cs, Clean c.1)
    (hdump : ∀ c ∈ cs, ∀ s ∈ c.2, QuietLine s.toList) :
    stepsOfText (cs.map fun c => callText σ c.1 c.2).flatten = cs.map fun c => kw c.1 := by
  induction cs with
  | nil => simp [stepsOfText, lines, stepOfLine]
  | cons c r ih =>
    have hr := ih (fun x hx => hclean x (List.mem_cons_of_mem _ hx)) (fun x hx => hdump x (List.mem_cons_of_mem _ hx))
    have h1 := one_step_line_per_call σ c.1 (hclean c (List.mem_cons_self ..))
    have hc : callText σ c.1 c.2 = (stepText σ c.1).toList ++
        '\n' :: (if c.1.printStack then (c.2.map String.toList).flatten else []) := rfl
    rw [List.map_cons, List.flatten_cons, hc, List.append_assoc, List.cons_append, steps_append, h1]
    by_cases hp : c.1.printStack
    · simp only [hp, if_true]
      rw [steps_quiet_lines _ (by
        intro w hw
        obtain ⟨s, hs, rfl⟩ := List.mem_map.mp hw
        exact hdump c (List.mem_cons_self ..) s hs), hr]
      rfl
    · simp only [hp, Bool.false_eq_true, if_false, List.nil_append]
      rw [hr]
      rfl

/-! ### the stack dump is indented -/

/-- the body of the loop of `print_stack`, as generated -/
def dumpBody (σ : Nat → String) (n : Nat) (opts : PrettyOptions) (out : List String) (c_i : Nat) (item : TTerm) :
    Py (List String) :=
  match item with
  | .proved conclusion =>
    call (pretty σ n conclusion opts) fun t1 => ret (out ++ [cat ["\t", strNat c_i, ": ⊢ ", t1, "\n"]])
  | .pat item =>
    call (pretty σ n item opts) fun t2 => ret (out ++ [cat ["\t", strNat c_i, ": ", t2, "\n"]])

theorem print_stack_def (σ : Nat → String) (n : Nat) (stack : List TTerm) (opts : PrettyOptions) :
    print_stack σ n stack opts = call (forEnum stack 0 ["\tStack:\n"] (dumpBody σ n opts)) fun out => ret out := rfl

theorem quiet_dump_line (i : Nat) (mid t : String) (hm : '\n' ∉ mid.toList) (ht : '\n' ∉ t.toList) :
    QuietLine (cat ["\t", strNat i, mid, t, "\n"]).toList := by
  refine ⟨'\t' :: ((strNat i).toList ++ (mid.toList ++ t.toList)), ?_, ?_, ?_⟩
  · simp [toList_cat]
  · simp only [List.mem_cons, List.mem_append, not_or]
    exact ⟨by decide, nl_strNat i, hm, ht⟩
  · simp [stepOfLine]

theorem forEnum_dump (σ : Nat → String) (n : Nat) (opts : PrettyOptions) :
    ∀ (stack : List TTerm) (i0 : Nat) (acc out : List String),
      forEnum stack i0 acc (dumpBody σ n opts) = some (some out) →
      (∀ item ∈ stack, ∀ t, pretty σ n item.body opts = some (some t) → '\n' ∉ t.toList) →
      ∃ ls, out = acc ++ ls ∧ ls.length = stack.length ∧ ∀ s ∈ ls, QuietLine s.toList := by
  intro stack
  induction stack with
  | nil =>
    intro i0 acc out h _
    simp only [forEnum, ret, Option.some.injEq] at h
    exact ⟨[], by simp [h], rfl, by simp⟩
  | cons item r ih =>
    intro i0 acc out h hnl
    simp only [forEnum] at h
    have hitem := hnl item (List.mem_cons_self ..)
    have hrest := fun x hx => hnl x (List.mem_cons_of_mem _ hx)
    cases item with
    | proved c | pat c =>
      simp only [dumpBody, TTerm.body] at h hitem
      rcases hp : pretty σ n c opts with _ | _ | t
      · simp [hp, call] at h
      · simp [hp, call] at h
      · simp only [hp, call, ret] at h
        obtain ⟨ls, rfl, hlen, hq⟩ := ih (i0 + 1) _ out h hrest
        refine ⟨_, List.append_assoc _ _ _, by simp [hlen], ?_⟩
        intro s hs
        rcases List.mem_cons.mp hs with rfl | hs
        · exact quiet_dump_line i0 _ t (by decide) (hitem t hp)
        · exact hq s hs

/-- **the stack dump**: `print_stack` writes the header and one string per stack entry (bottom first); if the
renderings of the entries contain no newline, every string is one complete indented line — none is read as a step -/
theorem print_stack_quiet (σ : Nat → String) (n : Nat) (stack : List TTerm) (opts : PrettyOptions) (out : List String)
    (h : print_stack σ n stack opts = some (some out))
    (hnl : ∀ item ∈ stack, ∀ t, pretty σ n item.body opts = some (some t) → '\n' ∉ t.toList) :
    out.length = stack.length + 1 ∧ ∀ s ∈ out, QuietLine s.toList := by
  rw [print_stack_def, call_id] at h
  obtain ⟨ls, rfl, hlen, hq⟩ := forEnum_dump σ n opts stack 0 _ out h hnl
  refine ⟨by simp [hlen], ?_⟩
  intro s hs
  rcases List.mem_append.mp hs with hs | hs
  · simp only [List.mem_cons, List.not_mem_nil, or_false] at hs
    subst hs
    exact ⟨"\tStack:".toList, by decide, by decide, by simp [stepOfLine]⟩
  · exact hq s hs

end PrettyTie
