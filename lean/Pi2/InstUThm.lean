import Pi2.Subst
import Pi2.NotationThm
/-!
# `instU` (Rust `instantiate_internal` with the "unchanged" optimisation) = `inst` on shaped patterns

The two differ on a substitution node whose head is *not* rebuilt by `apply_esubst` / `apply_ssubst`: Rust returns the
node unchanged, `inst` pushes the substitution in.  `RShape` is the exact condition under which they agree
(`instU_eq_inst_RShape`); `Shape` of `Pi2.NotationThm` implies it (`Shape_RShape`, `instU_eq_inst`).
-/
open Pat
namespace Pat

/-! ## `lookupPlug` is `position` then index -/

/-- `lookupPlug` walks both lists; `instU` uses `idxOf?` then `plugs[pos]?`. -/
theorem lookupPlug_eq_idxOf (vars : List VId) (plugs : List Pat) (hlen : vars.length = plugs.length)
    (k : VId) : lookupPlug vars plugs k = (vars.idxOf? k).bind (plugs[·]?) := by
  induction vars generalizing plugs with
  | nil => cases plugs <;> simp [lookupPlug]
  | cons i is ih =>
    cases plugs with
    | nil => simp at hlen
    | cons p ps =>
      have hlen' : is.length = ps.length := by simpa using hlen
      simp only [lookupPlug, List.idxOf?_cons, beq_iff_eq]
      by_cases h : i = k
      · simp [h]
      · simp only [h, if_false, ih ps hlen']
        cases List.idxOf? k is <;> simp

/-- a found position is in bounds of `vars` -/
theorem idxOf_lt (vars : List VId) (k : VId) (pos : Nat) (h : vars.idxOf? k = some pos) :
    pos < vars.length := by
  induction vars generalizing pos with
  | nil => simp at h
  | cons i is ih =>
    simp only [List.idxOf?_cons, beq_iff_eq] at h
    by_cases hik : i = k
    · simp [hik] at h; subst h; simp
    · simp only [hik, if_false] at h
      cases hq : List.idxOf? k is with
      | none => simp [hq] at h
      | some n => simp [hq] at h; subst h; have := ih n hq; simp; omega

theorem map_some_getD (d : Pat) (o : Option Pat) : (o.map some).map (·.getD d) = o := by
  cases o <;> rfl

/-! ## the patterns on which re-applying a node's substitution to its unchanged children rebuilds the node -/

/-- `apply_esubst` of `x` wraps `p` in an `ESubst` node -/
def rebuildE (x : VId) : Pat → Bool
  | mv _ ef _ _ _ _ => !ef.contains x
  | esub .. => true | ssub .. => true
  | _ => false

/-- `apply_ssubst` of `X` wraps `p` in an `SSubst` node -/
def rebuildS (X : VId) : Pat → Bool
  | mv _ _ sf _ _ _ => !sf.contains X
  | esub .. => true | ssub .. => true
  | _ => false

/-- every substitution node is rebuilt by re-applying its substitution -/
def RShape : Pat → Bool
  | evar _ => true | svar _ => true | sym _ => true | mv .. => true
  | imp l r => l.RShape && r.RShape
  | app l r => l.RShape && r.RShape
  | ex _ p => p.RShape | mu _ p => p.RShape
  | esub p x q => p.rebuildE x && p.RShape && q.RShape
  | ssub p X q => p.rebuildS X && p.RShape && q.RShape

theorem rebuild_of_meta (x : VId) (p : Pat) (hm : p.isMeta = true) (hs : p.Shape = true) :
    p.rebuildE x = true ∧ p.rebuildS x = true := by
  cases p with
  | mv id ef sf ps ns holes =>
    simp only [Shape, Bool.and_eq_true, List.isEmpty_iff] at hs
    simp [rebuildE, rebuildS, hs.1, hs.2]
  | esub p y q | ssub p y q => exact ⟨rfl, rfl⟩
  | _ => cases hm

theorem Shape_RShape (p : Pat) (h : p.Shape = true) : p.RShape = true := by
  induction p with
  | imp l r ihl ihr | app l r ihl ihr =>
    simp only [Shape, Bool.and_eq_true] at h
    simp only [RShape, ihl h.1, ihr h.2, Bool.and_self]
  | ex x p ih | mu x p ih => exact ih h
  | esub p x q ihp ihq =>
    simp only [Shape, Bool.and_eq_true] at h
    simp only [RShape, (rebuild_of_meta x p h.1.1 h.1.2).1, ihp h.1.2, ihq h.2, Bool.and_self]
  | ssub p x q ihp ihq =>
    simp only [Shape, Bool.and_eq_true] at h
    simp only [RShape, (rebuild_of_meta x p h.1.1 h.1.2).2, ihp h.1.2, ihq h.2, Bool.and_self]
  | _ => rfl

theorem applyESubst_rebuild (x : VId) (q p : Pat) (h : p.rebuildE x = true) :
    applyESubst x q p = some (esub p x q) := by
  cases p <;> simp_all [rebuildE, applyESubst]

theorem applySSubst_rebuild (X : VId) (q p : Pat) (h : p.rebuildS X = true) :
    applySSubst X q p = some (ssub p X q) := by
  cases p <;> simp_all [rebuildS, applySSubst]

/-! ## the main statement -/

/-- A node with two children, built by `f`: Rust answers "unchanged" when both children are, otherwise rebuilds from
the children with the unchanged ones put back; the model always rebuilds, which on unchanged children gives `node`. -/
theorem instU_node₂ (A B : Option (Option Pat)) (l r node : Pat) (f : Pat → Pat → Option Pat)
    (hf : f l r = some node) :
    (A.bind fun a => B.bind fun b =>
        match a, b with
        | none, none => pure none
        | _, _ => (f (a.getD l) (b.getD r)).map some).map (·.getD node)
      = (A.map (·.getD l)).bind fun l' => (B.map (·.getD r)).bind fun r' => f l' r' := by
  rcases A with _ | _ | a <;> rcases B with _ | _ | b <;> try rfl
  · exact hf.symm
  all_goals exact map_some_getD ..

/-- `instantiate_in_place` (Rust, `instU`) = the simple model `inst`, on every pattern the machine can build -/
theorem instU_eq_inst_RShape (vars : List VId) (plugs : List Pat) (hlen : vars.length = plugs.length)
    (p : Pat) (hs : p.RShape = true) :
    (instU vars plugs p).map (·.getD p) = inst (lookupPlug vars plugs) p := by
  induction p with
  | evar x | svar x | sym x => rfl
  | mv id ef sf ps ns holes =>
    simp only [instU, inst, lookupPlug_eq_idxOf vars plugs hlen]
    cases hq : List.idxOf? id vars with
    | none => rfl
    | some pos =>
      have hlt : pos < plugs.length := hlen ▸ idxOf_lt vars id pos hq
      simp only [Option.bind_some, List.getElem?_eq_getElem hlt]
      split <;> rfl
  | imp l r ihl ihr =>
    simp only [RShape, Bool.and_eq_true] at hs
    simp only [instU, inst, ← ihl hs.1, ← ihr hs.2]
    exact instU_node₂ _ _ l r _ (fun l r => some (imp l r)) rfl
  | app l r ihl ihr =>
    simp only [RShape, Bool.and_eq_true] at hs
    simp only [instU, inst, ← ihl hs.1, ← ihr hs.2]
    exact instU_node₂ _ _ l r _ (fun l r => some (app l r)) rfl
  | ex x p ih | mu x p ih =>
    simp only [instU, inst, ← ih hs]
    rcases instU vars plugs p with _ | _ | a <;> rfl
  | esub p x plug ihp ihq =>
    simp only [RShape, Bool.and_eq_true] at hs
    simp only [instU, inst, ← ihp hs.1.2, ← ihq hs.2]
    exact instU_node₂ _ _ p plug _ (fun p q => applyESubst x q p) (applyESubst_rebuild _ _ _ hs.1.1)
  | ssub p x plug ihp ihq =>
    simp only [RShape, Bool.and_eq_true] at hs
    simp only [instU, inst, ← ihp hs.1.2, ← ihq hs.2]
    exact instU_node₂ _ _ p plug _ (fun p q => applySSubst x q p) (applySSubst_rebuild _ _ _ hs.1.1)

/-- the same on the patterns of `Pat.Shape` (every `mv` without freshness lists, every substitution node meta-headed) -/
theorem instU_eq_inst (vars : List VId) (plugs : List Pat) (hlen : vars.length = plugs.length)
    (p : Pat) (hs : p.Shape = true) :
    (instU vars plugs p).map (·.getD p) = inst (lookupPlug vars plugs) p :=
  instU_eq_inst_RShape vars plugs hlen p (Shape_RShape p hs)

theorem instU_unchanged (vars : List VId) (plugs : List Pat) (hlen : vars.length = plugs.length)
    (p : Pat) (hs : p.Shape = true) :
    instU vars plugs p = some none → inst (lookupPlug vars plugs) p = some p := by
  intro h; rw [← instU_eq_inst vars plugs hlen p hs, h]; rfl

theorem instU_changed (vars : List VId) (plugs : List Pat) (hlen : vars.length = plugs.length)
    (p : Pat) (hs : p.Shape = true) (q : Pat) :
    instU vars plugs p = some (some q) → inst (lookupPlug vars plugs) p = some q := by
  intro h; rw [← instU_eq_inst vars plugs hlen p hs, h]; rfl

theorem instU_panic (vars : List VId) (plugs : List Pat) (hlen : vars.length = plugs.length)
    (p : Pat) (hs : p.Shape = true) :
    instU vars plugs p = none → inst (lookupPlug vars plugs) p = none := by
  intro h; rw [← instU_eq_inst vars plugs hlen p hs, h]; rfl

/-! ## non-vacuity, and `Shape` is needed -/

/-- a shaped `esub` over a metavariable; only the plug is instantiated, the head is "unchanged" and the node is
rebuilt by `applyESubst` -/
example :
    let p := esub (mv 0 [] [] [] [] []) 0 (mv 1 [] [] [] [] [])
    p.Shape = true ∧
    instU [1] [evar 5] (mv 0 [] [] [] [] []) = some none ∧
    instU [1] [evar 5] p = some (some (esub (mv 0 [] [] [] [] []) 0 (evar 5))) ∧
    inst (lookupPlug [1] [evar 5]) p = some (esub (mv 0 [] [] [] [] []) 0 (evar 5)) := by decide

/-- the head metavariable is instantiated: both functions push the substitution into the plug -/
example :
    let p := esub (mv 0 [] [] [] [] []) 0 (mv 1 [] [] [] [] [])
    instU [0, 1] [imp (evar 0) (evar 2), evar 5] p = some (some (imp (evar 5) (evar 2))) ∧
    inst (lookupPlug [0, 1] [imp (evar 0) (evar 2), evar 5]) p = some (imp (evar 5) (evar 2)) := by decide

/-- nothing to instantiate: `instU` says "unchanged", `inst` rebuilds the same node -/
example :
    let p := ssub (esub (mv 0 [] [] [] [] []) 0 (evar 1)) 2 (svar 3)
    p.Shape = true ∧ instU [7] [sym 0] p = some none ∧ inst (lookupPlug [7] [sym 0]) p = some p := by decide

/-- a violated constraint panics in both -/
example :
    let p := imp (sym 0) (mv 0 [] [] [2] [] [])
    p.Shape = true ∧ instU [0] [imp (svar 2) (sym 0)] p = none ∧
      inst (lookupPlug [0] [imp (svar 2) (sym 0)]) p = none := by decide

/-- `Shape` is needed: on a substitution node with a concrete head the Rust code returns the node unchanged, `inst`
pushes the substitution in -/
example :
    let p := esub (evar 0) 0 (evar 1)
    p.Shape = false ∧
    (instU [] [] p).map (·.getD p) = some p ∧ inst (lookupPlug [] []) p = some (evar 1) ∧
    (instU [] [] p).map (·.getD p) ≠ inst (lookupPlug [] []) p := by decide

/-- `vars.length = plugs.length` is needed: a found position past the end of `plugs` is a Rust panic, `lookupPlug`
reports "not bound" -/
example :
    let p := mv 0 [] [] [] [] []
    p.Shape = true ∧ instU [0] [] p = none ∧ inst (lookupPlug [0] []) p = some p := by decide

end Pat

#print axioms Pat.instU_unchanged
#print axioms Pat.instU_changed
#print axioms Pat.instU_panic
#print axioms Pat.instU_eq_inst
