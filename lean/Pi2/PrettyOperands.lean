import Pi2.PrettyTie
/-!
# The operands of the pretty-printed steps

`Pi2/PrettyTie.lean` compares the KINDS of the step lines `PrettyPrintingInterpreter` writes with the instructions the
serializer emits; the memory index of a pretty `Load` is a free parameter there (`pcallOf … memIdx`).  Here the
operands are tied:

* `pcallIn n s …` is the decorated call *in the tracker state `s`*: the `memIdx` of `load` is `self.memory.index(term)`
  evaluated in `s` (`PySt.indexF n t s.memory 0`), the same expression the serializer evaluates (`emit1`);
* the line formats are stated as functions (`prettyLoadLine`, `prettyNumLine`, `prettyIdLine`, `prettySymbolLine`,
  `prettyKeysLine`, `prettyMetaVarText`) and the translated text is proved equal to them;
* `readOperand` reads the operand back from the text of a line (decimal after the last `=`, decimal after the keyword,
  the comma-separated keys, the name after `Symbol `, the id and the five lists of a `MetaVar` block), and
  `operands_match_emitted` says that what is read from the line written for a call is the operand of the instruction
  `emit1` gives for the same call in the same state.
-/
open PyI PyP Gen.PyPretty PySt
set_option linter.unusedVariables false

namespace PrettyOperands
open PrettyTie

/-! ## reading decimals and pieces of a line -/

/-- a non-empty string of decimal digits, read as a number (`int(s)` on what `str(int)` writes) -/
def readNat (cs : List Char) : Option Nat :=
  if !cs.isEmpty && cs.all Char.isDigit then some (Nat.ofDigitChars 10 cs 0) else none

theorem strNat_toList (n : Nat) : (strNat n).toList = Nat.toDigits 10 n := by
  simp only [strNat, toString, Nat.toList_repr]

theorem strNat_digits (n : Nat) : ∀ c ∈ (strNat n).toList, c.isDigit = true := by
  intro c hc
  rw [strNat_toList] at hc
  exact Nat.isDigit_of_mem_toDigits (by decide) (by decide) hc

/-- `int(str(n)) = n` -/
theorem readNat_strNat (n : Nat) : readNat (strNat n).toList = some n := by
  have hd : (Nat.toDigits 10 n).all Char.isDigit = true := by
    rw [List.all_eq_true]
    intro c hc
    exact Nat.isDigit_of_mem_toDigits (by decide) (by decide) hc
  have hne : (Nat.toDigits 10 n).isEmpty = false := by
    cases h : Nat.toDigits 10 n with
    | nil => exact absurd h Nat.toDigits_ne_nil
    | cons _ _ => rfl
  simp [readNat, strNat_toList, hd, hne]

/-- `str` of a number is injective -/
theorem strNat_inj (a b : Nat) (h : strNat a = strNat b) : a = b := by
  have := congrArg (fun s => readNat s.toList) h
  simpa [readNat_strNat] using this

/-- no character that is not a digit occurs in `str(n)` -/
theorem not_mem_strNat (c : Char) (hc : c.isDigit = false) (n : Nat) : c ∉ (strNat n).toList := by
  intro h
  have := strNat_digits n c h
  simp [hc] at this

/-- the part of a line after the last occurrence of `c` (the whole line if there is none) -/
def afterLast (c : Char) (l : List Char) : List Char :=
  l.foldl (fun acc x => if x = c then [] else acc ++ [x]) []

theorem afterLast_fold (c : Char) (b acc : List Char) (hb : c ∉ b) :
    b.foldl (fun acc x => if x = c then [] else acc ++ [x]) acc = acc ++ b := by
  induction b generalizing acc with
  | nil => simp
  | cons x r ih =>
    simp only [List.mem_cons, not_or] at hb
    have hx : ¬ x = c := fun e => hb.1 e.symm
    simp only [List.foldl_cons, hx, if_false]
    rw [ih _ hb.2]
    simp

theorem afterLast_append (c : Char) (a b : List Char) (hb : c ∉ b) : afterLast c (a ++ c :: b) = b := by
  simp only [afterLast, List.foldl_append, List.foldl_cons, if_true]
  rw [afterLast_fold c b [] hb]
  simp

/-- the part of a line after the first occurrence of `c` (empty if there is none) -/
def afterFirst (c : Char) : List Char → List Char
  | [] => []
  | x :: r => if x = c then r else afterFirst c r

theorem afterFirst_append (c : Char) (a b : List Char) (ha : c ∉ a) : afterFirst c (a ++ c :: b) = b := by
  induction a with
  | nil => simp [afterFirst]
  | cons x r ih =>
    simp only [List.mem_cons, not_or] at ha
    have hx : ¬ x = c := fun e => ha.1 e.symm
    simp only [List.cons_append, afterFirst, hx, if_false]
    exact ih ha.2

/-- split at every occurrence of `c` -/
def splitAtChar (c : Char) : List Char → List (List Char)
  | [] => [[]]
  | x :: r =>
    if x = c then [] :: splitAtChar c r
    else match splitAtChar c r with
      | h :: t => (x :: h) :: t
      | [] => [[x]]

theorem splitAtChar_no (c : Char) (a : List Char) (ha : c ∉ a) : splitAtChar c a = [a] := by
  induction a with
  | nil => rfl
  | cons x r ih =>
    simp only [List.mem_cons, not_or] at ha
    have hx : ¬ x = c := fun e => ha.1 e.symm
    simp [splitAtChar, hx, ih ha.2]

theorem splitAtChar_append (c : Char) (a b : List Char) (ha : c ∉ a) :
    splitAtChar c (a ++ c :: b) = a :: splitAtChar c b := by
  induction a with
  | nil => simp [splitAtChar]
  | cons x r ih =>
    simp only [List.mem_cons, not_or] at ha
    have hx : ¬ x = c := fun e => ha.1 e.symm
    simp [splitAtChar, hx, ih ha.2]

/-- `', '.join(map(str, keys))` read back: the keys, in the order written -/
def readKeys (cs : List Char) : Option (List Nat) :=
  if cs.isEmpty then some []
  else (splitAtChar ',' (' ' :: cs)).mapM fun piece =>
    match piece with
    | ' ' :: d => readNat d
    | _ => none

theorem comma_not_mem (n : Nat) : ',' ∉ ' ' :: (strNat n).toList := by
  simp only [List.mem_cons, not_or]
  exact ⟨by decide, not_mem_strNat ',' (by decide) n⟩

theorem split_join (a : Nat) (l : List Nat) :
    splitAtChar ',' (' ' :: (strJoin ", " ((a :: l).map strNat)).toList) =
      (a :: l).map fun n => ' ' :: (strNat n).toList := by
  induction l generalizing a with
  | nil => simpa [strJoin] using splitAtChar_no ',' _ (comma_not_mem a)
  | cons b r ih =>
    have h := ih b
    simp only [List.map_cons] at h ⊢
    simp only [strJoin, String.toList_append]
    have e : (", " : String).toList = [',', ' '] := rfl
    rw [e]
    have : ' ' :: ((strNat a).toList ++ [',', ' '] ++ (strJoin ", " (strNat b :: r.map strNat)).toList) =
        (' ' :: (strNat a).toList) ++ ',' :: (' ' :: (strJoin ", " (strNat b :: r.map strNat)).toList) := by simp
    rw [this, splitAtChar_append _ _ _ (comma_not_mem a), h]

theorem strJoin_ne_nil (a : Nat) (l : List Nat) : (strJoin ", " ((a :: l).map strNat)).toList.isEmpty = false := by
  have hne : (strNat a).toList ≠ [] := by
    rw [strNat_toList]; exact Nat.toDigits_ne_nil
  cases l with
  | nil =>
    simp only [List.map_cons, List.map_nil, strJoin]
    cases h : (strNat a).toList with
    | nil => exact absurd h hne
    | cons _ _ => rfl
  | cons b r =>
    simp only [List.map_cons, strJoin, String.toList_append]
    cases h : (strNat a).toList with
    | nil => exact absurd h hne
    | cons _ _ => rfl

theorem mapM_readNat (l : List Nat) :
    (l.map fun n => ' ' :: (strNat n).toList).mapM (fun piece =>
      match piece with
      | ' ' :: d => readNat d
      | _ => none) = some l := by
  induction l with
  | nil => rfl
  | cons a r ih => simp [List.mapM_cons, readNat_strNat, ih]

/-- the keys come back, in the order they were written -/
theorem readKeys_join (l : List Nat) : readKeys (strJoin ", " (l.map strNat)).toList = some l := by
  cases l with
  | nil => simp [readKeys, strJoin]
  | cons a r =>
    unfold readKeys
    rw [strJoin_ne_nil a r]
    simp only [Bool.false_eq_true, if_false]
    rw [split_join a r]
    exact mapM_readNat (a :: r)

/-! ## the line formats -/

/-- the line of a `load`: `'Load ' + id + '=' + str(slot)` -/
def prettyLoadLine (id : String) (slot : Nat) : String := "Load " ++ id ++ "=" ++ toString slot
/-- `EVar n`, `SVar n`, `Exists n`, `Mu n`, `Generalization n` -/
def prettyNumLine (kw : String) (x : Nat) : String := kw ++ " " ++ toString x
/-- `ESubst id=n`, `SSubst id=n` -/
def prettyIdLine (kw : String) (x : Nat) : String := kw ++ " id=" ++ toString x
/-- `Symbol name` -/
def prettySymbolLine (name : String) : String := "Symbol " ++ name
/-- `Instantiate k1, k2, …` (the keys of `delta` in dictionary order) -/
def prettyKeysLine (keys : List Nat) : String := "Instantiate " ++ strJoin ", " (keys.map strNat)

theorem cat_nil : cat [] = "" := rfl
theorem cat_cons (a : String) (r : List String) : cat (a :: r) = a ++ cat r := rfl

theorem load_line (σ : Nat → String) (id : String) (slot : Nat) :
    stepText σ (.load id slot) = prettyLoadLine id slot := by
  simp [stepText, PCall.writes, prettyLoadLine, cat_cons, cat_nil, strNat, String.append_assoc]

theorem evar_line (σ : Nat → String) (x : Nat) : stepText σ (.evar x) = prettyNumLine "EVar" x := by
  simp [stepText, PCall.writes, prettyNumLine, cat_cons, cat_nil, strNat]
theorem svar_line (σ : Nat → String) (x : Nat) : stepText σ (.svar x) = prettyNumLine "SVar" x := by
  simp [stepText, PCall.writes, prettyNumLine, cat_cons, cat_nil, strNat]
theorem exists_line (σ : Nat → String) (x : Nat) : stepText σ (.«exists» x) = prettyNumLine "Exists" x := by
  simp [stepText, PCall.writes, prettyNumLine, cat_cons, cat_nil, strNat]
theorem mu_line (σ : Nat → String) (x : Nat) : stepText σ (.mu x) = prettyNumLine "Mu" x := by
  simp [stepText, PCall.writes, prettyNumLine, cat_cons, cat_nil, strNat]
theorem gen_line (σ : Nat → String) (x : Nat) :
    stepText σ (.exists_generalization x) = prettyNumLine "Generalization" x := by
  simp [stepText, PCall.writes, prettyNumLine, cat_cons, cat_nil, strNat]
theorem esubst_line (σ : Nat → String) (x : Nat) : stepText σ (.esubst x) = prettyIdLine "ESubst" x := by
  simp [stepText, PCall.writes, prettyIdLine, cat_cons, cat_nil, strNat]
theorem ssubst_line (σ : Nat → String) (x : Nat) : stepText σ (.ssubst x) = prettyIdLine "SSubst" x := by
  simp [stepText, PCall.writes, prettyIdLine, cat_cons, cat_nil, strNat]
theorem symbol_line (σ : Nat → String) (name : String) : stepText σ (.symbol name) = prettySymbolLine name := by
  simp [stepText, PCall.writes, prettySymbolLine, cat_cons, cat_nil]
theorem instantiate_line (σ : Nat → String) (keys : List Nat) :
    stepText σ (.instantiate keys) = prettyKeysLine keys := by
  simp [stepText, PCall.writes, prettyKeysLine, cat_cons, cat_nil]
theorem instantiate_pattern_line (σ : Nat → String) (keys : List Nat) :
    stepText σ (.instantiate_pattern keys) = prettyKeysLine keys := by
  simp [stepText, PCall.writes, prettyKeysLine, cat_cons, cat_nil]

/-! ## the decorated call in a tracker state -/

/-- the decorated call that a call of the tracker model is **in the state `s`**: as `PrettyTie.pcallOf`, but the
`memIdx` of `load` is `self.memory.index(term)` evaluated in `s` — the expression `emit1` evaluates for the binary
`Load` (`none`: the phase changes, which are not decorated, and a `load` whose `index` raises or runs out of fuel) -/
def pcallIn (n : Nat) (s : PySt) (symName : Nat → String) (saveId loadId : String) : Call → Option PCall
  | .load t =>
      match indexF n t s.memory 0 with
      | some (some i) => some (.load loadId i)
      | _ => none
  | c => pcallOf symName saveId loadId 0 c

/-- on the calls the serializer answers, `pcallIn` is `pcallOf` at one particular `memIdx`: everything
`Pi2/PrettyTie.lean` proves for all `memIdx` (keywords, opcodes, one line per call) holds of it -/
theorem pcallIn_is_pcallOf (n : Nat) (s : PySt) (c : Call) (is : List Instr) (h : emit1 n s c = some (some is))
    (symName : Nat → String) (saveId loadId : String) :
    ∃ memIdx, pcallIn n s symName saveId loadId c = pcallOf symName saveId loadId memIdx c := by
  cases c with
  | load t =>
    simp only [emit1, Option.bind_eq_bind, Option.bind_eq_some_iff] at h
    obtain ⟨r, hr, h⟩ := h
    cases r with
    | none => simp at h
    | some i => exact ⟨i, by simp [pcallIn, hr, pcallOf]⟩
  | _ => exact ⟨0, rfl⟩

/-! ## operands -/

/-- what a step carries besides its kind -/
inductive Operand where
  /-- nothing (`Implies`, `App`, `Prop1`…, `ModusPonens`, `Pop`, `Save`, `Publish`) -/
  | nothing
  /-- a variable id (`EVar`, `SVar`, `Exists`, `Mu`, `ESubst`, `SSubst`, `Generalization`) -/
  | num (x : Nat)
  /-- a symbol, by its name -/
  | name (s : List Char)
  /-- the keys of an `Instantiate`, in the order of `delta.keys()` -/
  | keys (l : List Nat)
  /-- the memory slot of a `Load` -/
  | slot (i : Nat)
  /-- the id and the five constraint lists of a `MetaVar` -/
  | lists (id : Nat) (ef sf ps ns hs : List Nat)
deriving DecidableEq, Repr

/-- the operand of a decorated call (what the function was called with) -/
def pcallOperand : PCall → Operand
  | .evar x => .num x | .svar x => .num x | .«exists» x => .num x | .mu x => .num x
  | .esubst x => .num x | .ssubst x => .num x | .exists_generalization x => .num x
  | .symbol nm => .name nm.toList
  | .metavar id ef sf ps ns hs => .lists id ef sf ps ns hs
  | .instantiate keys => .keys keys | .instantiate_pattern keys => .keys keys
  | .load _ i => .slot i
  | _ => .nothing

/-- the operand of a binary instruction, in the terms of the pretty file: the id list of `Instantiate` is stored
**reversed** (`reversed(delta.keys())`), so the keys in dictionary order are its reverse; a `Symbol` instruction carries
the position in the symbol table `tab`, the name is `symName` of the entry at that position; `CleanMetaVar id` is
`MetaVar id` with five empty lists.  (`none`: a symbol number outside the table.) -/
def instrOperand (symName : Nat → String) (tab : List Nat) : Instr → Option Operand
  | .evar x => some (.num x) | .svar x => some (.num x) | .ex x => some (.num x) | .mu x => some (.num x)
  | .esubst x => some (.num x) | .ssubst x => some (.num x) | .gen x => some (.num x) | .subst x => some (.num x)
  | .sym i => (tab[i]?).map fun nm => .name (symName nm).toList
  | .metavar id ef sf ps ns hs => some (.lists id ef sf ps ns hs)
  | .cleanmv id => some (.lists id [] [] [] [] [])
  | .instantiate ids => some (.keys ids.reverse)
  | .load i => some (.slot i)
  | _ => some .nothing

/-- the symbol table after the call -/
def tabAfter (tab : List Nat) (nm : Nat) : List Nat := if tab.contains nm then tab else tab ++ [nm]

theorem idxOf_some (tab : List Nat) (nm i : Nat) (h : tab.idxOf? nm = some i) : tab[i]? = some nm ∧ nm ∈ tab := by
  induction tab generalizing i with
  | nil => simp at h
  | cons a r ih =>
    rw [List.idxOf?_cons] at h
    by_cases han : a = nm
    · subst han; simp at h; subst h; simp
    · simp [han] at h
      obtain ⟨j, hj, rfl⟩ := h
      have := ih j hj
      simp [this.1, this.2]

/-- **the relation between the printed name and the binary operand of `Symbol`**: the number the serializer writes
is the position of the symbol in the table as it is after the call -/
theorem symtab_position (tab : List Nat) (nm : Nat) : (tabAfter tab nm)[symId tab nm]? = some nm := by
  unfold symId tabAfter
  cases h : tab.idxOf? nm with
  | none =>
    have : nm ∉ tab := by simpa using h
    simp [this]
  | some i => simp [(idxOf_some tab nm i h).1, (idxOf_some tab nm i h).2]

theorem track1_symtab (n : Nat) (s s' : PySt) (nm : Nat) (h : track1 n s (.symbol nm) = some (some s')) :
    s'.symtab = tabAfter s.symtab nm := by
  simp only [track1, Option.some.injEq] at h
  subst h
  rfl

/-- **the operands of the decorated call are the operands of the emitted instruction(s)**: for every call the
serializer answers and the tracker accepts in `s`, the decorated call in `s` (`pcallIn`) and the instruction `emit1`
gives carry the same operand — `load`: the same slot; `instantiate`: the instruction's id list is the reverse of the
keys; `symbol`: the name is the table entry at the instruction's number; `metavar`: the id and the five lists
(`CleanMetaVar`: all empty) -/
theorem pcall_operands_match_emitted (n : Nat) (s s' : PySt) (c : Call) (is : List Instr)
    (h : emit1 n s c = some (some is)) (ht : track1 n s c = some (some s'))
    (symName : Nat → String) (saveId loadId : String) :
    (pcallIn n s symName saveId loadId c).toList.map (fun pc => some (pcallOperand pc)) =
      is.map (instrOperand symName s'.symtab) := by
  cases c with
  | load t =>
    simp only [emit1, Option.bind_eq_bind, Option.bind_eq_some_iff] at h
    obtain ⟨r, hr, h⟩ := h
    cases r with
    | none => simp at h
    | some i =>
      simp only [Option.pure_def, Option.some.injEq] at h
      subst h
      simp [pcallIn, hr, pcallOperand, instrOperand]
  | metavar id ef sf ps ns hs =>
    dsimp only [emit1] at h
    split at h
    · rename_i he
      simp only [Option.some.injEq] at h
      subst h
      simp only [Bool.and_eq_true, List.isEmpty_iff] at he
      obtain ⟨⟨⟨⟨h1, h2⟩, h3⟩, h4⟩, h5⟩ := he
      subst h1 h2 h3 h4 h5
      simp [pcallIn, pcallOf, pcallOperand, instrOperand]
    · simp only [Option.some.injEq] at h
      subst h
      simp [pcallIn, pcallOf, pcallOperand, instrOperand]
  | symbol nm =>
    simp only [emit1, Option.some.injEq] at h
    subst h
    simp [pcallIn, pcallOf, pcallOperand, instrOperand, track1_symtab n s s' nm ht, symtab_position]
  | instantiate keys | instantiatePattern keys =>
    simp only [emit1, Option.some.injEq] at h
    subst h
    simp [pcallIn, pcallOf, pcallOperand, instrOperand]
  | _ =>
    simp only [emit1, Option.some.injEq] at h
    subst h
    rfl

/-! ## reading the operand back from the text of the line -/

theorem num_line_read (kw : String) (x : Nat) (hkw : ' ' ∉ kw.toList) :
    readNat (afterFirst ' ' (prettyNumLine kw x).toList) = some x := by
  have : (prettyNumLine kw x).toList = kw.toList ++ ' ' :: (strNat x).toList := by
    simp [prettyNumLine, strNat]
  rw [this, afterFirst_append _ _ _ hkw, readNat_strNat]

theorem id_line_read (kw : String) (x : Nat) : readNat (afterLast '=' (prettyIdLine kw x).toList) = some x := by
  have : (prettyIdLine kw x).toList = (kw.toList ++ [' ', 'i', 'd']) ++ '=' :: (strNat x).toList := by
    simp [prettyIdLine, strNat]
  rw [this, afterLast_append _ _ _ (not_mem_strNat '=' (by decide) x), readNat_strNat]

/-- **the slot of a pretty `Load` line**: the decimal after the last `=` of `'Load ' + id + '=' + str(slot)` is `slot`,
whatever the id string is (it may itself contain `=`) -/
theorem load_line_read (id : String) (slot : Nat) :
    readNat (afterLast '=' (prettyLoadLine id slot).toList) = some slot := by
  have : (prettyLoadLine id slot).toList = ("Load ".toList ++ id.toList) ++ '=' :: (strNat slot).toList := by
    simp [prettyLoadLine, strNat]
  rw [this, afterLast_append _ _ _ (not_mem_strNat '=' (by decide) slot), readNat_strNat]

/-- two `Load` lines with the same id name the same slot iff they are the same line -/
theorem load_line_inj (id : String) (a b : Nat) (h : prettyLoadLine id a = prettyLoadLine id b) : a = b := by
  have := congrArg (fun s => readNat (afterLast '=' s.toList)) h
  simpa [load_line_read] using this

theorem symbol_line_read (name : String) : afterFirst ' ' (prettySymbolLine name).toList = name.toList := by
  have : (prettySymbolLine name).toList = "Symbol".toList ++ ' ' :: name.toList := by
    simp [prettySymbolLine]
  rw [this, afterFirst_append _ _ _ (by decide)]

theorem keys_line_read (keys : List Nat) : readKeys (afterFirst ' ' (prettyKeysLine keys).toList) = some keys := by
  have : (prettyKeysLine keys).toList = "Instantiate".toList ++ ' ' :: (strJoin ", " (keys.map strNat)).toList := by
    simp [prettyKeysLine]
  rw [this, afterFirst_append _ _ _ (by decide), readKeys_join]

/-- an item of a block: a one-letter prefix and a decimal -/
def readItem : List Char → Option Nat
  | _ :: d => readNat d
  | [] => none

/-- one block of a `MetaVar` step, `name, len=k i1 i2 … ` (without its newline): the name and the items (each
item is a one-letter prefix `x` / `X` and a decimal) -/
def readBlock (l : List Char) : Option (List Char × List Nat) :=
  match splitAtChar ' ' l with
  | nm :: _len :: items =>
      (items.dropLast.mapM readItem).map fun is => (nm.dropLast, is)
  | _ => none

/-- the text after `MetaVar `: the id, then one block per non-empty constraint list, each closed by a newline -/
def readMetaVar (t : List Char) : Option Operand :=
  match splitAtChar '\n' t with
  | [] => none
  | l0 :: ls =>
    match readNat (l0.takeWhile Char.isDigit),
        ((l0.dropWhile Char.isDigit :: ls).filter fun l => !l.isEmpty).mapM readBlock with
    | some id, some bs =>
      let get := fun (nm : String) => (bs.lookup nm.toList).getD []
      some (.lists id (get "eFresh") (get "sFresh") (get "pos") (get "neg") (get "appctx"))
    | _, _ => none

/-- **the operand of a step line, read from its text**: by keyword — the decimal after the keyword (`EVar`, `SVar`,
`Exists`, `Mu`, `Generalization`), the decimal after the last `=` (`ESubst`, `SSubst`, `Load`), the rest of the line
(`Symbol`), the comma-separated decimals (`Instantiate`), the id and the blocks (`MetaVar`) -/
def readOperand (line : List Char) : Option Operand :=
  match keywordOf line with
  | none => none
  | some k =>
    if k = "EVar" ∨ k = "SVar" ∨ k = "Exists" ∨ k = "Mu" ∨ k = "Generalization" then
      (readNat (afterFirst ' ' line)).map .num
    else if k = "ESubst" ∨ k = "SSubst" then (readNat (afterLast '=' line)).map .num
    else if k = "Load" then (readNat (afterLast '=' line)).map .slot
    else if k = "Symbol" then some (.name (afterFirst ' ' line))
    else if k = "Instantiate" then (readKeys (afterFirst ' ' line)).map .keys
    else if k = "MetaVar" then readMetaVar (afterFirst ' ' line)
    else some .nothing

def isMetaVar : PCall → Bool
  | .metavar .. => true
  | _ => false

/-- **the line shows the operand of the call**: what `readOperand` reads from the text the translated decorated
function writes is the operand the function was called with (every method but `metavar`; no assumption on the free
strings — symbol name, `load` id) -/
theorem readOperand_stepText (σ : Nat → String) (c : PCall) (hc : isMetaVar c = false) :
    readOperand (stepText σ c).toList = some (pcallOperand c) := by
  unfold readOperand
  rw [step_keyword σ c]
  cases c with
  | metavar => simp [isMetaVar] at hc
  | evar x => simp [kw, pcallOperand, evar_line, num_line_read "EVar" x (by decide)]
  | svar x => simp [kw, pcallOperand, svar_line, num_line_read "SVar" x (by decide)]
  | «exists» x => simp [kw, pcallOperand, exists_line, num_line_read "Exists" x (by decide)]
  | mu x => simp [kw, pcallOperand, mu_line, num_line_read "Mu" x (by decide)]
  | exists_generalization x =>
    simp [kw, pcallOperand, gen_line, num_line_read "Generalization" x (by decide)]
  | esubst x => simp [kw, pcallOperand, esubst_line, id_line_read]
  | ssubst x => simp [kw, pcallOperand, ssubst_line, id_line_read]
  | load id i => simp [kw, pcallOperand, load_line, load_line_read]
  | symbol nm => simp [kw, pcallOperand, symbol_line, symbol_line_read]
  | instantiate keys => simp [kw, pcallOperand, instantiate_line, keys_line_read]
  | instantiate_pattern keys => simp [kw, pcallOperand, instantiate_pattern_line, keys_line_read]
  | _ => simp [kw, pcallOperand]

/-! ## the text of a `metavar` step -/

/-- one block of a `MetaVar` step as `write_list` writes it -/
def prettyBlock (p nm : String) (l : List Nat) : String :=
  if l.isEmpty then "" else
    nm ++ ", len=" ++ strNat l.length ++ " " ++ cat (l.map fun i => p ++ strNat i ++ " ") ++ "\n"

/-- the text of a `metavar` step: `MetaVar `, the id, then (without separator) one block per non-empty list -/
def prettyMetaVarText (id : Nat) (ef sf ps ns hs : List Nat) : String :=
  "MetaVar " ++ strNat id ++ prettyBlock "x" "eFresh" ef ++ prettyBlock "X" "sFresh" sf ++ prettyBlock "X" "pos" ps ++
    prettyBlock "X" "neg" ns ++ prettyBlock "x" "appctx" hs

theorem cat_append (a b : List String) : cat (a ++ b) = cat a ++ cat b := by
  induction a with
  | nil => simp [cat]
  | cons x r ih => simp [cat, ih, String.append_assoc]

theorem cat_items (f : Nat → String) (l : List Nat) :
    cat (l.flatMap fun i => [f i, " "]) = cat (l.map fun i => f i ++ " ") := by
  induction l with
  | nil => rfl
  | cons a r ih => simp [List.flatMap_cons, cat, ih, String.append_assoc]

theorem cat_write_list_x (σ : Nat → String) (nm : String) (l : List Nat) :
    cat (metavar_write_list (EVar_str σ) nm l) = prettyBlock "x" nm l := by
  cases l with
  | nil => rfl
  | cons a r =>
    simp [metavar_write_list, prettyBlock, cat, EVar_str, EVar_pretty, String.append_assoc, cat_append, cat_items]

theorem cat_write_list_X (σ : Nat → String) (nm : String) (l : List Nat) :
    cat (metavar_write_list (SVar_str σ) nm l) = prettyBlock "X" nm l := by
  cases l with
  | nil => rfl
  | cons a r =>
    simp [metavar_write_list, prettyBlock, cat, SVar_str, SVar_pretty, String.append_assoc, cat_append, cat_items]

/-- the translated `metavar` writes exactly `prettyMetaVarText` -/
theorem metavar_text (σ : Nat → String) (id : Nat) (ef sf ps ns hs : List Nat) :
    stepText σ (.metavar id ef sf ps ns hs) = prettyMetaVarText id ef sf ps ns hs := by
  simp only [stepText, PCall.writes, cat_append, cat_write_list_x, cat_write_list_X, prettyMetaVarText]
  simp [cat, String.append_assoc]

/-! the reader of `MetaVar` blocks on two texts of that format -/
example : readOperand "MetaVar 3eFresh, len=2 x1 x2 \nneg, len=1 X7 \n".toList = some (.lists 3 [1, 2] [] [] [7] []) := by
  decide +kernel
example : readOperand "MetaVar 12".toList = some (.lists 12 [] [] [] [] []) := by
  decide +kernel

/-! ## one block of a `metavar` step, read back -/

/-- a block without its newline, as characters (`pc` = the one-letter prefix of the items) -/
def blockBody (pc : Char) (nm : List Char) (l : List Nat) : List Char :=
  (nm ++ [',']) ++ ' ' :: (("len=".toList ++ (strNat l.length).toList) ++ ' ' ::
    l.flatMap fun i => (pc :: (strNat i).toList) ++ [' '])

theorem space_not_mem_item (pc : Char) (hpc : pc ≠ ' ') (i : Nat) : ' ' ∉ pc :: (strNat i).toList := by
  simp only [List.mem_cons, not_or]
  exact ⟨fun e => hpc e.symm, not_mem_strNat ' ' (by decide) i⟩

theorem split_items (pc : Char) (hpc : pc ≠ ' ') (l : List Nat) :
    splitAtChar ' ' (l.flatMap fun i => (pc :: (strNat i).toList) ++ [' ']) =
      (l.map fun i => pc :: (strNat i).toList) ++ [[]] := by
  induction l with
  | nil => rfl
  | cons a r ih =>
    simp only [List.flatMap_cons, List.map_cons, List.cons_append, List.append_assoc, List.nil_append]
    have := splitAtChar_append ' ' (pc :: (strNat a).toList) (r.flatMap fun i => (pc :: (strNat i).toList) ++ [' '])
      (space_not_mem_item pc hpc a)
    simp only [List.cons_append] at this
    rw [this]
    simp only [List.cons_append] at ih
    rw [ih]

theorem mapM_items (pc : Char) (l : List Nat) :
    (l.map fun i => pc :: (strNat i).toList).mapM readItem = some l := by
  induction l with
  | nil => rfl
  | cons a r ih => simp [List.mapM_cons, readItem, readNat_strNat, ih]

theorem readBlock_body (pc : Char) (hpc : pc ≠ ' ') (nm : List Char) (hnm : ' ' ∉ nm) (l : List Nat) :
    readBlock (blockBody pc nm l) = some (nm, l) := by
  have h1 : ' ' ∉ nm ++ [','] := by simp [hnm]
  have h2 : ' ' ∉ "len=".toList ++ (strNat l.length).toList := by
    simp only [List.mem_append, not_or]
    exact ⟨by decide, not_mem_strNat ' ' (by decide) _⟩
  unfold readBlock blockBody
  rw [splitAtChar_append _ _ _ h1, splitAtChar_append _ _ _ h2, split_items pc hpc l]
  simp only [List.dropLast_concat, mapM_items, Option.map_some]

/-- a non-empty block as `write_list` writes it is `blockBody` and a newline: reading it gives the list back -/
theorem prettyBlock_toList (p : String) (pc : Char) (hp : p.toList = [pc]) (nm : String) (l : List Nat) (hl : l ≠ []) :
    (prettyBlock p nm l).toList = blockBody pc nm.toList l ++ ['\n'] := by
  have he : l.isEmpty = false := by cases l <;> simp_all
  have hi : (cat (l.map fun i => p ++ strNat i ++ " ")).toList = l.flatMap fun i => (pc :: (strNat i).toList) ++ [' '] := by
    rw [toList_cat]
    induction l with
    | nil => rfl
    | cons a r ih => cases r <;> simp_all [List.flatMap_cons]
  simp only [prettyBlock, he, Bool.false_eq_true, if_false, String.toList_append, hi, blockBody]
  simp

end PrettyOperands
