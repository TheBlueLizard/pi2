import Pi2.Gen.ClauseProofs
import Pi2.StageThm
/-!
# The proof objects of the clause utilities: library lemmas on conclusions, clause patterns, the simple utilities
(first part of `Pi2/ClauseThm.lean`; same namespace)

`Pi2/Gen/ClauseProofs.lean` is regenerated on every run from `tautology.py` (`vlib/transclause.py`): `id_to_metavar`,
`foldl_op` / `foldr_op`, `clause_to_pattern`, `clause_conjunctionto_pattern`, `conjunction_implies_nth`, `ac_move_to_front`
(with its nested `unroll`), `or_move_to_front` / `and_move_to_front`, `reduce_n_or_duplicates_at_front`, `simplify_clause`,
`merge_clauses`, `prove_trivial_clause`, `build_proof_from_hint` — with ALL their statements, every `ProofThunk` expression
over a thunk algebra.

* Part A: the library lemmas these functions call, on conclusions (`lib algCS ix_<lemma> .. = some ..`, from `C10.conc_stable`;
  `and_cong` / `or_cong` have no docstring: their body is evaluated on the conclusions of its callees; `resolution_step` is also inverted).
* Part B..: every utility on conclusions (`*_C`: an equation with the advertised pattern, at every sufficient fuel), fuel
  monotonicity (`*_mono`), hence at ANY fuel (`*_any`).
* `prove_trivial_clause_any`, `build_proof_from_hint_any`: whatever they return concludes the clause pattern / the implication
  `clause_conjunctionto_pattern(terms) -> clause_to_pattern(resolvent)` — for EVERY clause and EVERY hint.
* the homomorphism `algGS → algCS` of every generated function (`*_hom`), hence `ptc_spec`, `bpfh_spec`: the two hypotheses of
  `StageThm.prove_tautology_proofs` are discharged by the generated functions.
-/
set_option linter.unusedSimpArgs false
open Pat

namespace ClauseThm
open Lem StageSup Gen.PyTaut TautSup TautTie StageThm Gen.Clause

theorem translated : Gen.Clause.translated = true := by decide

/-! ## Part A — the library lemmas on conclusions -/

section LibC
variable (a b c d p q r : Pat)

theorem lib_imp_refl : lib algCS ix_imp_refl [p] [] = some (.imp p p) :=
  StageThm.lib_imp_refl p
theorem lib_and_l_imp : lib algCS ix_and_l_imp [a, b] [] = some (.imp (andP a b) a) :=
  lib_at ix_and_l_imp _ rfl (fun i => [a, b][i]?)
theorem lib_and_r_imp : lib algCS ix_and_r_imp [a, b] [] = some (.imp (andP a b) b) :=
  lib_at ix_and_r_imp _ rfl (fun i => [a, b][i]?)
theorem lib_imp_transitivity : lib algCS ix_imp_transitivity [] [.imp a b, .imp b c] = some (.imp a c) :=
  StageThm.lib_imp_transitivity a b c
theorem lib_equiv_sym : lib algCS ix_equiv_sym [] [equivP a b] = some (equivP b a) :=
  lib_at ix_equiv_sym _ rfl (fun i => [a, b][i]?)
theorem lib_equiv_refl : lib algCS ix_equiv_refl [p] [] = some (equivP p p) :=
  lib_at ix_equiv_refl _ rfl (fun i => [p][i]?)
theorem lib_equiv_transitivity : lib algCS ix_equiv_transitivity [] [equivP a b, equivP b c] = some (equivP a c) :=
  lib_at ix_equiv_transitivity _ rfl (fun i => [a, b, c][i]?)
theorem lib_or_assoc : lib algCS ix_or_assoc [a, b, c] [] = some (equivP (orP a (orP b c)) (orP (orP a b) c)) :=
  lib_at ix_or_assoc _ rfl (fun i => [a, b, c][i]?)
theorem lib_or_comm : lib algCS ix_or_comm [a, b] [] = some (equivP (orP a b) (orP b a)) :=
  lib_at ix_or_comm _ rfl (fun i => [a, b][i]?)
theorem lib_and_assoc : lib algCS ix_and_assoc [a, b, c] [] = some (equivP (andP a (andP b c)) (andP (andP a b) c)) :=
  lib_at ix_and_assoc _ rfl (fun i => [a, b, c][i]?)
theorem lib_and_comm : lib algCS ix_and_comm [a, b] [] = some (equivP (andP a b) (andP b a)) :=
  lib_at ix_and_comm _ rfl (fun i => [a, b][i]?)
theorem lib_or_idem : lib algCS ix_or_idem [p] [] = some (equivP (orP p p) p) :=
  lib_at ix_or_idem _ rfl (fun i => [p][i]?)
theorem lib_reduce_dup : lib algCS ix_reduce_or_duplicates_at_front [p, q] [] =
    some (equivP (orP p (orP p q)) (orP p q)) :=
  lib_at ix_reduce_or_duplicates_at_front _ rfl (fun i => [p, q][i]?)
theorem lib_and_r : lib algCS ix_and_r [] [andP a b] = some b :=
  lib_at ix_and_r _ rfl (fun i => [a, b][i]?)
theorem lib_and_l : lib algCS ix_and_l [] [andP a b] = some a :=
  lib_at ix_and_l _ rfl (fun i => [a, b][i]?)
theorem lib_or_assoc_r : lib algCS ix_or_assoc_r [a, b, c] [] = some (.imp (orP (orP a b) c) (orP a (orP b c))) :=
  StageThm.lib_or_assoc_r a b c
theorem lib_or_l : lib algCS ix_or_l [q] [p] = some (orP p q) :=
  lib_at ix_or_l _ rfl (fun i => [q, p][i]?)
theorem lib_resolution : lib algCS ix_resolution [p, a, b] [] =
    some (.imp (orP (negP p) a) (.imp (orP p b) (orP a b))) :=
  lib_at ix_resolution _ rfl (fun i => [p, a, b][i]?)
theorem lib_long_imp_trans : lib algCS ix_long_imp_trans [] [.imp a (.imp b c), .imp c d] = some (.imp a (.imp b d)) :=
  lib_at ix_long_imp_trans _ rfl (fun i => [a, b, c, d][i]?)
theorem lib_resolution_l : lib algCS ix_resolution_l [p, a] [] = some (.imp (orP (negP p) a) (.imp p a)) :=
  lib_at ix_resolution_l _ rfl (fun i => [p, a][i]?)
theorem lib_resolution_r : lib algCS ix_resolution_r [p, b] [] = some (.imp (negP p) (.imp (orP p b) b)) :=
  lib_at ix_resolution_r _ rfl (fun i => [p, b][i]?)
theorem lib_resolution_base : lib algCS ix_resolution_base [p] [] = some (.imp (negP p) (.imp p Lem.botP)) :=
  lib_at ix_resolution_base _ rfl (fun i => [p][i]?)
theorem lib_resolution_step : lib algCS ix_resolution_step [] [.imp a b, .imp a c, .imp b (.imp c d)] = some (.imp a d) :=
  lib_at ix_resolution_step _ rfl (fun i => [a, b, c, d][i]?)

theorem lib_dneg_elim : lib algCS ix_dneg_elim [p] [] = some (.imp (negP (negP p)) p) :=
  StageThm.lib_dneg_elim p

end LibC

/-! `and_cong` / `or_cong` have no docstring, hence no generated `Lem.Spec`: their common body
`and_intro (k (and_l t0) (and_l t1)) (k (and_r t0) (and_r t1))` with `k` = `imim_and` / `imim_or` is evaluated on the
documented conclusions of its callees -/

theorem lib_cong (name : String) (i k : Nat) (op : Pat → Pat → Pat)
    (hd : Gen.lemmaDefs[i]? = some ⟨name, 0, 2, [],
      .call Gen.Stage.ix_and_intro [] [.call k [] [.call ix_and_l [] [.tvar 0], .call ix_and_l [] [.tvar 1]],
        .call k [] [.call ix_and_r [] [.tvar 0], .call ix_and_r [] [.tvar 1]]]⟩)
    (hk : ∀ a b c d, lib algCS k [] [.imp a b, .imp c d] = some (.imp (op a c) (op b d)))
    (hi : Gen.Stage.ix_and_intro < i ∧ k < i ∧ ix_and_l < i ∧ ix_and_r < i) (a b c d : Pat) :
    lib algCS i [] [equivP a b, equivP c d] = some (equivP (op a c) (op b d)) := by
  have l0 : lib algCS ix_and_l [] [equivP a b] = some (.imp a b) := lib_and_l _ _
  have l1 : lib algCS ix_and_l [] [equivP c d] = some (.imp c d) := lib_and_l _ _
  have r0 : lib algCS ix_and_r [] [equivP a b] = some (.imp b a) := lib_and_r _ _
  have r1 : lib algCS ix_and_r [] [equivP c d] = some (.imp d c) := lib_and_r _ _
  unfold lib
  rw [sem_getElem_take _ _ _ _ hd]
  simp only [Lem.evalDef, Lem.evalBody, evalTE_call algCS i _ hi.1, evalTE_call algCS i _ hi.2.1,
    evalTE_call algCS i _ hi.2.2.1, evalTE_call algCS i _ hi.2.2.2, Lem.evalTEs, Lem.evalPEs]
  simp only [Lem.evalTE, List.length_cons, List.length_nil, and_self, if_true, List.getElem?_cons_zero, List.getElem?_cons_succ,
    Option.pure_def, Option.bind_eq_bind, Option.bind_some, l0, l1, r0, r1, hk, lib_and_intro]
  rfl

theorem lib_and_cong (a b c d : Pat) :
    lib algCS ix_and_cong [] [equivP a b, equivP c d] = some (equivP (andP a c) (andP b d)) :=
  lib_cong "and_cong" ix_and_cong Gen.Stage.ix_imim_and andP rfl lib_imim_and (by decide) a b c d

theorem lib_or_cong (a b c d : Pat) :
    lib algCS ix_or_cong [] [equivP a b, equivP c d] = some (equivP (orP a c) (orP b d)) :=
  lib_cong "or_cong" ix_or_cong Gen.Stage.ix_imim_or orP rfl lib_imim_or (by decide) a b c d

/-! ## Part B — patterns of literals, clauses, clause lists -/

theorem id_to_metavar_C {τ} (A : SAlg τ) (i : Int) (h : i ≠ 0) : id_to_metavar A i = some (idPat i) := by
  have hb : (i != 0) = true := by simpa using h
  unfold id_to_metavar idPat
  by_cases hn : i < 0 <;> simp [pyAssert, hb, hn, mvP]

theorem id_to_metavar_zero {τ} (A : SAlg τ) : id_to_metavar A 0 = none := by
  simp [id_to_metavar, pyAssert]

/-- `[id_to_metavar(id) for id in cl]` -/
theorem mapM_id_C {τ} (A : SAlg τ) : ∀ (cl : List Int), Res.NoZero cl →
    List.mapM (fun id => do let t1_ ← id_to_metavar A id; pure t1_) cl = some (cl.map idPat) := by
  intro cl
  induction cl with
  | nil => intro _; rfl
  | cons x cl ih =>
    intro h
    have hx : x ≠ 0 := h x List.mem_cons_self
    have hcl : Res.NoZero cl := fun y hm => h y (List.mem_cons_of_mem _ hm)
    rw [List.mapM_cons, ih hcl]
    simp [id_to_metavar_C A x hx]

theorem mapM_id_any {τ} (A : SAlg τ) : ∀ (cl : List Int) (ps : List Pat),
    List.mapM (fun id => do let t1_ ← id_to_metavar A id; pure t1_) cl = some ps → Res.NoZero cl ∧ ps = cl.map idPat := by
  intro cl
  induction cl with
  | nil => intro ps h; simp at h; subst h; exact ⟨by intro x hx; simp at hx, rfl⟩
  | cons x cl ih =>
    intro ps h
    rw [List.mapM_cons] at h
    by_cases hx : x = 0
    · subst hx; simp [id_to_metavar_zero] at h
    · simp only [id_to_metavar_C A x hx, Option.pure_def, Option.bind_eq_bind, Option.bind_some] at h
      cases h2 : List.mapM (fun id => do let t1_ ← id_to_metavar A id; pure t1_) cl with
      | none => simp [h2] at h
      | some ps' =>
        obtain ⟨hz, hp⟩ := ih ps' h2
        simp only [h2, Option.bind_some, Option.some.injEq] at h
        subst h; subst hp
        refine ⟨?_, rfl⟩
        intro y hm
        simp only [List.mem_cons] at hm
        rcases hm with hm | hm
        · exact hm ▸ hx
        · exact hz y hm

theorem pyIndex_nat {α} (l : List α) (s : Nat) (h : s < l.length) : pyIndex l (s : Int) = some l[s] := by
  simp [pyIndex, h]

theorem drop_eq_cons {α} (l : List α) (s : Nat) (h : s < l.length) : l.drop s = l[s] :: l.drop (s + 1) := by
  rw [List.drop_eq_getElem_cons h]

/-- `foldr_op(op, l, start, end)` with `end` the default `-1` or (in the recursive calls) `len(l) - 1`: the right-nested
`op`-chain of `l[start:]` -/
theorem foldr_op_C {τ} (A : SAlg τ) (op : Pat → Pat → Pat) (l : List Pat) : ∀ (k s fuel : Nat) (e : Int),
    s + k + 1 = l.length → k < fuel → (e = -1 ∨ e = (l.length : Int) - 1) →
    foldr_op A fuel op l (s : Int) e = some (foldrP op (l.drop s)) := by
  intro k
  induction k with
  | zero =>
    intro s fuel e hs hf he
    obtain ⟨f, rfl⟩ : ∃ f, fuel = f + 1 := ⟨fuel - 1, by omega⟩
    have hidx := pyIndex_nat l s (by omega)
    have hdrop : l.drop s = [l[s]'(by omega)] := by
      rw [drop_eq_cons l s (by omega), List.drop_of_length_le (by omega)]
    have h1 : ((-1 : Int) + (l.length : Int)) = (s : Int) := by omega
    have h2 : ((l.length : Int) - 1) = (s : Int) := by omega
    have h5 : ¬ ((s : Int) < 0) := by omega
    rcases he with rfl | rfl <;>
      simp [foldr_op, pyLen, h1, h2, h5, hidx, hdrop, foldrP]
  | succ k ih =>
    intro s fuel e hs hf he
    obtain ⟨f, rfl⟩ : ∃ f, fuel = f + 1 := ⟨fuel - 1, by omega⟩
    have hidx := pyIndex_nat l s (by omega)
    have hrec := ih (s + 1) f ((l.length : Int) - 1) (by omega) (by omega) (Or.inr rfl)
    have hne : l.drop (s + 1) ≠ [] := by
      intro h
      have := congrArg List.length h
      simp at this
      omega
    have hdrop : foldrP op (l.drop s) = op (l[s]'(by omega)) (foldrP op (l.drop (s + 1))) := by
      rw [drop_eq_cons l s (by omega), foldrP_cons op _ _ hne]
    have h1 : ((-1 : Int) + (l.length : Int)) = (l.length : Int) - 1 := by omega
    have h3 : ¬ ((l.length : Int) - 1 < 0) := by omega
    have h4 : ((s : Int) < (l.length : Int) - 1) := by omega
    rw [show ((s + 1 : Nat) : Int) = (s : Int) + 1 from by omega] at hrec
    rcases he with rfl | rfl <;>
      simp [foldr_op, pyLen, h1, h3, h4, hidx, hdrop, hrec]

/-- `foldr_op(op, l)` / `foldr_op(op, l, start)` -/
theorem foldr_op_default {τ} (A : SAlg τ) (op : Pat → Pat → Pat) (l : List Pat) (s fuel : Nat)
    (hs : s < l.length) (hf : l.length ≤ fuel + s) :
    foldr_op A fuel op l (s : Int) (-(1 : Int)) = some (foldrP op (l.drop s)) :=
  foldr_op_C A op l (l.length - s - 1) s fuel (-1) (by omega) (by omega) (Or.inl rfl)

theorem foldr_op_zero {τ} (A : SAlg τ) (op : Pat → Pat → Pat) (l : List Pat) (fuel : Nat)
    (hs : l ≠ []) (hf : l.length ≤ fuel) :
    foldr_op A fuel op l (0 : Int) (-(1 : Int)) = some (foldrP op l) := by
  have hl : 0 < l.length := List.length_pos_iff.mpr hs
  have := foldr_op_default A op l 0 fuel hl (by omega)
  simpa using this

/-- `clause_to_pattern` -/
theorem clause_to_pattern_C {τ} (A : SAlg τ) (cl : List Int) (fuel : Nat) (hz : Res.NoZero cl) (hf : cl.length ≤ fuel) :
    clause_to_pattern A fuel cl = some (clausePat cl) := by
  cases cl with
  | nil => simp [clause_to_pattern, clausePat]
  | cons x r =>
    have hfo := foldr_op_zero A orP ((x :: r).map idPat) fuel (by simp) (by simpa using hf)
    simp only [clause_to_pattern, mapM_id_C A _ hz, hfo, clausePat, List.isEmpty_cons, Bool.not_false, Bool.not_true,
      Bool.false_eq_true, if_false, Option.pure_def, Option.bind_eq_bind, Option.bind_some]

theorem mapM_clause_C {τ} (A : SAlg τ) (fuel : Nat) : ∀ (cls : List (List Int)),
    (∀ cl ∈ cls, Res.NoZero cl) → (∀ cl ∈ cls, cl.length ≤ fuel) →
    List.mapM (fun cl => do let t1_ ← clause_to_pattern A fuel cl; pure t1_) cls = some (cls.map clausePat) := by
  intro cls
  induction cls with
  | nil => intro _ _; rfl
  | cons c cls ih =>
    intro hz hf
    rw [List.mapM_cons, ih (fun x hx => hz x (List.mem_cons_of_mem _ hx)) (fun x hx => hf x (List.mem_cons_of_mem _ hx))]
    simp [clause_to_pattern_C A c fuel (hz c List.mem_cons_self) (hf c List.mem_cons_self)]

/-- `clause_conjunctionto_pattern` -/
theorem clause_conjunctionto_pattern_C {τ} (A : SAlg τ) (cls : List (List Int)) (fuel : Nat)
    (hz : ∀ cl ∈ cls, Res.NoZero cl) (hl : ∀ cl ∈ cls, cl.length ≤ fuel) (hf : cls.length ≤ fuel) :
    clause_conjunctionto_pattern A fuel cls = some (clausesPat cls) := by
  cases cls with
  | nil => simp [clause_conjunctionto_pattern, clausesPat]
  | cons x r =>
    have hfo := foldr_op_zero A andP ((x :: r).map clausePat) fuel (by simp) (by simpa using hf)
    simp only [clause_conjunctionto_pattern, mapM_clause_C A fuel _ hz hl, hfo, clausesPat, List.isEmpty_cons, Bool.not_false,
      Bool.not_true, Bool.false_eq_true, if_false, Option.pure_def, Option.bind_eq_bind, Option.bind_some]

/-! ## Part C — `conjunction_implies_nth`, `merge_clauses`, `reduce_n_or_duplicates_at_front` on conclusions -/

theorem assertOr_orP (a b : Pat) : assertOr (orP a b) = some (a, b) := by
  simp [assertOr, matchNotn, orP, negP]

theorem matchNotn_or (a b : Pat) : matchNotn .or (orP a b) = some [a, b] := by
  simp [matchNotn, orP, negP]

theorem matchNotn_and (a b : Pat) : matchNotn .and (andP a b) = some [a, b] := by
  simp [matchNotn, matchAnd_andP]

/-- `conjunction_implies_nth(term, n, l)`: `p0 /\ (p1 /\ (... /\ pl)) -> pn` -/
theorem conjunction_implies_nth_C : ∀ (ps : List Pat) (n fuel : Nat) (hn : n < ps.length), ps.length ≤ fuel →
    conjunction_implies_nth algCS fuel (foldrP andP ps) (n : Int) (ps.length : Int) =
      some (.imp (foldrP andP ps) ps[n]) := by
  intro ps
  induction ps with
  | nil => intro n fuel hn; simp at hn
  | cons a ps ih =>
    intro n fuel hn hf
    obtain ⟨f, rfl⟩ : ∃ f, fuel = f + 1 := ⟨fuel - 1, by simp at hf; omega⟩
    cases ps with
    | nil =>
      have : n = 0 := by simpa using hn
      subst this
      simp [conjunction_implies_nth, pyAssert, foldrP, lib_imp_refl]
    | cons b r =>
      have hl1 : ¬ ((r.length : Int) + 1 + 1 = 1) := by omega
      have hpos : (0 : Int) < (r.length : Int) + 1 + 1 := by omega
      cases n with
      | zero =>
        simp [conjunction_implies_nth, pyAssert, foldrP, hl1, hpos, assertAnd_andP, lib_and_l_imp]
      | succ m =>
        have hrec := ih m f (by simpa using hn) (by simpa using hf)
        have hm : (m : Int) < (r.length : Int) + 1 := by simp at hn; omega
        have hlt : (m : Int) + 1 < (r.length : Int) + 1 + 1 := by omega
        have h0 : (0 : Int) ≤ (m : Int) + 1 := by omega
        have hm0 : ¬ ((m : Int) + 1 = 0) := by omega
        have e1 : (m : Int) + 1 - 1 = (m : Int) := by omega
        have e2 : (r.length : Int) + 1 + 1 - 1 = (r.length : Int) + 1 := by omega
        simp only [List.length_cons] at hrec
        push_cast at hrec
        simp [conjunction_implies_nth, pyAssert, foldrP, hl1, assertAnd_andP, lib_and_r_imp,
          hlt, h0, hm0, e1, e2, hrec, lib_imp_transitivity]

/-- `merge_clauses(term_l, len_l, term_r)`: `(l1 \/ (.. \/ ln)) \/ r <-> l1 \/ (.. \/ (ln \/ r))` -/
theorem merge_clauses_C (tr : Pat) : ∀ (ls : List Pat) (fuel : Nat), ls ≠ [] → ls.length ≤ fuel →
    merge_clauses algCS fuel (foldrP orP ls) (ls.length : Int) tr =
      some (equivP (orP (foldrP orP ls) tr) (foldrP orP (ls ++ [tr]))) := by
  intro ls
  induction ls with
  | nil => intro fuel h; exact absurd rfl h
  | cons a ls ih =>
    intro fuel _ hf
    obtain ⟨f, rfl⟩ : ∃ f, fuel = f + 1 := ⟨fuel - 1, by simp at hf; omega⟩
    cases ls with
    | nil => simp [merge_clauses, foldrP, lib_equiv_refl]
    | cons b r =>
      have hl1 : ¬ ((r.length : Int) + 1 + 1 = 1) := by omega
      have hrec := ih f (by simp) (by simpa using hf)
      simp only [List.length_cons] at hrec
      push_cast at hrec
      have e2 : (r.length : Int) + 1 + 1 - 1 = (r.length : Int) + 1 := by omega
      cases r with
      | nil =>
        simp [merge_clauses, foldrP, assertOr_orP, lib_or_assoc, lib_equiv_sym]
      | cons c r' =>
        have hl2 : ¬ (((r'.length : Int) + 1) + 1 + 1 = 2) := by omega
        simp only [List.length_cons] at hrec hl1 e2
        push_cast at hrec hl1 e2
        simp only [foldrP, List.cons_append] at hrec
        simp [merge_clauses, foldrP, assertOr_orP, lib_or_assoc, lib_equiv_sym, hl1, hl2, e2, hrec, lib_equiv_refl,
          lib_or_cong, lib_equiv_transitivity]

/-- the loop of `reduce_n_or_duplicates_at_front`: one more `p \/ _` in front per iteration -/
theorem reduce_for1_C (p T : Pat) : ∀ (it : List Int) (q : Pat),
    reduce_n_or_duplicates_at_front_for1 algCS p it (equivP (orP p q) T) q =
      some (equivP (orP p ((List.replicate it.length p).foldr orP q)) T, (List.replicate it.length p).foldr orP q) := by
  intro it
  induction it with
  | nil => intro q; rfl
  | cons x it ih =>
    intro q
    simp only [reduce_n_or_duplicates_at_front_for1, lib_reduce_dup, lib_equiv_transitivity, Option.pure_def,
      Option.bind_eq_bind, Option.bind_some, ih (orP p q), List.length_cons]
    rw [List.replicate_succ', List.foldr_append]
    rfl

theorem foldrP_replicate (p : Pat) (B : List Pat) (hB : B ≠ []) (k : Nat) :
    foldrP orP (List.replicate k p ++ B) = (List.replicate k p).foldr orP (foldrP orP B) :=
  foldrP_append orP _ B hB

/-- `reduce_n_or_duplicates_at_front(n, terms)`: `p \/ (p ... (p \/ q)) <-> p \/ q` (`n + 1` copies of `p` in front) -/
theorem reduce_n_C (p : Pat) (rest : List Pat) (n fuel : Nat) (hf : n + 1 + rest.length ≤ fuel) :
    reduce_n_or_duplicates_at_front algCS fuel (n : Int) (List.replicate (n + 1) p ++ rest) =
      some (equivP (foldrP orP (List.replicate (n + 1) p ++ rest)) (foldrP orP (p :: rest))) := by
  have hlen : ((List.replicate (n + 1) p ++ rest).length : Int) = (n : Int) + 1 + rest.length := by simp
  have hne : List.replicate (n + 1) p ++ rest ≠ [] := by simp
  have hlt : (n : Int) < (n : Int) + 1 + (rest.length : Int) := by omega
  have h0 : (0 : Int) ≤ (n : Int) := by omega
  cases n with
  | zero =>
    have hfo := foldr_op_zero algCS orP (List.replicate 1 p ++ rest) fuel hne (by simp; omega)
    have hp : (0 : Int) < 1 + (rest.length : Int) := by omega
    simp only [reduce_n_or_duplicates_at_front, pyAssert, pyLen, hlen, hfo, lib_equiv_refl]
    simp [List.replicate, hp]
  | succ m =>
    have hm0 : ¬ ((m : Int) + 1 = 0) := by omega
    have hidx : pyIndex (List.replicate (m + 1 + 1) p ++ rest) (0 : Int) = some p := by
      simp [pyIndex, List.replicate_succ]
    have hrange : (pyRange (m : Int)).length = m := by
      simp [pyRange]
    have a1 : (0 : Int) ≤ (m : Int) + 1 := by omega
    cases rest with
    | nil =>
      have a2 : (m : Int) + 1 < (m : Int) + 1 + 1 := by omega
      simp only [List.append_nil] at hidx
      have hgoal : foldrP orP (List.replicate (m + 1 + 1) p) = orP p ((List.replicate m p).foldr orP p) := by
        have := foldrP_replicate p [p] (by simp) (m + 1)
        rw [← List.replicate_succ'] at this
        rw [this]; rfl
      simp only [reduce_n_or_duplicates_at_front, pyAssert, pyLen, hidx, Option.pure_def, Option.bind_eq_bind,
        Option.bind_some, List.append_nil, List.length_replicate]
      push_cast
      simp [a1, a2, hm0, lib_or_idem, reduce_for1_C p p, hrange, hgoal, foldrP]
    | cons b r =>
      have a2 : (m : Int) + 1 < (m : Int) + 1 + 1 + ((r.length : Int) + 1) := by omega
      have e3 : ¬ ((m : Int) + 1 + 1 + ((r.length : Int) + 1) = (m : Int) + 1 + 1) := by omega
      have hfo : foldr_op algCS fuel orP (List.replicate (m + 1 + 1) p ++ b :: r) ((m : Int) + 1 + 1) (-(1 : Int)) =
          some (foldrP orP (b :: r)) := by
        have := foldr_op_default algCS orP (List.replicate (m + 1 + 1) p ++ b :: r) (m + 1 + 1) fuel (by simp)
          (by simp at hf ⊢; omega)
        push_cast at this
        rw [this]
        simp [List.drop_append]
      have hgoal : foldrP orP (List.replicate (m + 1 + 1) p ++ b :: r) =
          orP p ((List.replicate m p).foldr orP (orP p (foldrP orP (b :: r)))) := by
        rw [foldrP_replicate p (b :: r) (by simp) (m + 1 + 1), List.replicate_succ, List.foldr_cons,
          List.replicate_succ', List.foldr_append]
        rfl
      simp only [reduce_n_or_duplicates_at_front, pyAssert, pyLen, hidx, Option.pure_def, Option.bind_eq_bind,
        Option.bind_some, List.length_append, List.length_replicate, List.length_cons]
      push_cast
      simp [a1, a2, hm0, e3, hfo, lib_reduce_dup, reduce_for1_C p (orP p (foldrP orP (b :: r))), hrange, hgoal]
      rfl

end ClauseThm
