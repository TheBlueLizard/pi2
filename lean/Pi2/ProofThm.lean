import Pi2.Proof
import Pi2.TrackerThm
import Pi2.DeserializeThm
/-!
# C08 — one proof expression, all interpreters: same success, same conclusion

`Pf.Sem ax pf C`: the documented meaning of a proof expression on full expansions.  Every run
(`runBasicF`, `runF` plain or memoising) that returns, returns a conclusion whose expansion is the
`Sem` conclusion; conversely a run of a meaningful expression cannot raise.
-/
set_option linter.unusedSimpArgs false
set_option linter.unusedVariables false
open PySt

/-! ## unfolding equations -/

/-- sequencing of two raising computations -/
def andThen {α β γ} (x : Option (Option (α × β))) (f : α → β → Option (Option γ)) :
    Option (Option γ) :=
  x.bind fun o => match o with | none => pure none | some (a, b) => f a b

def andThen3 {α β γ δ} (x : Option (Option (α × β × γ))) (f : α → β → γ → Option (Option δ)) :
    Option (Option δ) :=
  x.bind fun o => match o with | none => pure none | some (a, b, c) => f a b c

theorem andThen_eq_some {α β γ} (x : Option (Option (α × β))) (f : α → β → Option (Option γ))
    (r : Option γ) (h : andThen x f = some r) :
    (x = some none ∧ r = none) ∨ ∃ a b, x = some (some (a, b)) ∧ f a b = some r := by
  unfold andThen at h
  simp only [Option.bind_eq_some_iff] at h
  obtain ⟨o, ho, h⟩ := h
  cases o with
  | none => simp at h; exact Or.inl ⟨ho, h.symm⟩
  | some ab => obtain ⟨a, b⟩ := ab; exact Or.inr ⟨a, b, ho, h⟩

theorem andThen3_eq_some {α β γ δ} (x : Option (Option (α × β × γ)))
    (f : α → β → γ → Option (Option δ)) (r : Option δ) (h : andThen3 x f = some r) :
    (x = some none ∧ r = none) ∨ ∃ a b c, x = some (some (a, b, c)) ∧ f a b c = some r := by
  unfold andThen3 at h
  simp only [Option.bind_eq_some_iff] at h
  obtain ⟨o, ho, h⟩ := h
  cases o with
  | none => simp at h; exact Or.inl ⟨ho, h.symm⟩
  | some abc => obtain ⟨a, b, c⟩ := abc; exact Or.inr ⟨a, b, c, ho, h⟩

theorem obind_congr {α β} {x y : Option α} {f g : α → Option β} (hxy : x = y)
    (h : ∀ a, f a = g a) : x.bind f = y.bind g := by
  subst hxy; cases x <;> simp [h]

def memoHitF (cfg : Cfg) (n : Nat) (p : NPat) (s : PySt) : Option Bool :=
  match cfg.memo with
  | none => some false
  | some _ => inMemoryF n p s.memory

def saveF (cfg : Cfg) (n : Nat) (p : NPat) (s' : PySt) (a' : List Call) :
    Option (Option (PySt × List Call)) :=
  match cfg.memo with
  | some S => if S.any (NPat.seq p) then doCalls n s' [.save] a' else some (some (s', a'))
  | none => some (some (s', a'))

def buildF (cfg : Cfg) (n : Nat) (s : PySt) (p : NPat) (acc : List Call) :
    Option (Option (PySt × List Call)) :=
  match p with
  | .evar x => doCalls n s [.evar x] acc
  | .svar x => doCalls n s [.svar x] acc
  | .sym x => doCalls n s [.symbol x] acc
  | .mv id ef sf ps ns hs => doCalls n s [.metavar id ef sf ps ns hs] acc
  | .imp l r => andThen (patternF cfg n s l acc) fun s1 a1 =>
      andThen (patternF cfg n s1 r a1) fun s2 a2 => doCalls n s2 [.implies] a2
  | .app l r => andThen (patternF cfg n s l acc) fun s1 a1 =>
      andThen (patternF cfg n s1 r a1) fun s2 a2 => doCalls n s2 [.app] a2
  | .ex x q => andThen (patternF cfg n s q acc) fun s1 a1 => doCalls n s1 [.ex x] a1
  | .mu x q => andThen (patternF cfg n s q acc) fun s1 a1 => doCalls n s1 [.mu x] a1
  | .esub q x plug => andThen (patternF cfg n s plug acc) fun s1 a1 =>
      andThen (patternF cfg n s1 q a1) fun s2 a2 => doCalls n s2 [.esubst x] a2
  | .ssub q x plug => andThen (patternF cfg n s plug acc) fun s1 a1 =>
      andThen (patternF cfg n s1 q a1) fun s2 a2 => doCalls n s2 [.ssubst x] a2
  | .inst q m => andThen (patternF.patternListF cfg n s (m.map (·.2)) acc) fun s1 a1 =>
      andThen (patternF cfg n s1 q a1) fun s2 a2 =>
        doCalls n s2 [.instantiatePattern (m.map (·.1))] a2

/-- a step `match ← x with | none => pure none | some (a, b) => f a b` of a `do`-block, to whatever
matcher it was compiled, is `andThen` -/
theorem bind_andThen {α β γ} {x x' : Option (Option (α × β))} {g : Option (α × β) → Option (Option γ)}
    {f : α → β → Option (Option γ)} (hx : x = x') (hn : g none = some none)
    (hs : ∀ a b, g (some (a, b)) = f a b) : x.bind g = andThen x' f := by
  subst hx
  rcases x with _ | _ | ⟨a, b⟩
  · rfl
  · exact hn
  · exact hs a b

theorem bind_andThen3 {α β γ δ} {x x' : Option (Option (α × β × γ))}
    {g : Option (α × β × γ) → Option (Option δ)} {f : α → β → γ → Option (Option δ)} (hx : x = x')
    (hn : g none = some none) (hs : ∀ a b c, g (some (a, b, c)) = f a b c) :
    x.bind g = andThen3 x' f := by
  subst hx
  rcases x with _ | _ | ⟨a, b, c⟩
  · rfl
  · exact hn
  · exact hs a b c

theorem patternF_succ (cfg : Cfg) (n : Nat) (s : PySt) (p : NPat) (acc : List Call) :
    patternF cfg (n + 1) s p acc =
      (memoHitF cfg n p s).bind fun hit =>
        if hit then doCalls n s [.load (.pat p)] acc
        else andThen (buildF cfg n s p acc) fun s' a' => saveF cfg n p s' a' := by
  obtain ⟨memo⟩ := cfg
  simp only [patternF]
  -- the construction is `buildF`: a chain of at most two `andThen`s before the last call
  cases memo
  · refine bind_andThen ?_ rfl fun _ _ => rfl
    cases p <;> first | rfl | refine bind_andThen rfl rfl fun _ _ => ?_
    all_goals first | rfl | exact bind_andThen rfl rfl fun _ _ => rfl
  · refine obind_congr rfl fun hit => ?_
    cases hit
    · refine bind_andThen ?_ rfl fun _ _ => rfl
      cases p <;> first | rfl | refine bind_andThen rfl rfl fun _ _ => ?_
      all_goals first | rfl | exact bind_andThen rfl rfl fun _ _ => rfl
    · rfl

theorem patternListF_cons (cfg : Cfg) (n : Nat) (s : PySt) (p : NPat) (ps : List NPat)
    (acc : List Call) :
    patternF.patternListF cfg (n + 1) s (p :: ps) acc =
      andThen (patternF cfg n s p acc) fun s1 a1 => patternF.patternListF cfg n s1 ps a1 :=
  bind_andThen rfl rfl fun _ _ => rfl

theorem doCalls_single (n : Nat) (s : PySt) (c : Call) (acc : List Call)
    (r : Option (PySt × List Call)) :
    doCalls n s [c] acc = some r ↔
      ∃ x, track1 n s c = some x ∧ r = x.map fun s' => (s', acc ++ [c]) := by
  simp only [doCalls, Option.bind_eq_bind, Option.bind_eq_some_iff]
  constructor
  · rintro ⟨x, hx, h⟩
    refine ⟨x, hx, ?_⟩
    cases x with
    | none => simp at h; simp [h]
    | some s' => simp at h; simp [h]
  · rintro ⟨x, hx, rfl⟩
    refine ⟨x, hx, ?_⟩
    cases x <;> simp

/-- a single successful call -/
theorem doCalls_ok (n : Nat) (s s' : PySt) (c : Call) (acc : List Call)
    (h : track1 n s c = some (some s')) : doCalls n s [c] acc = some (some (s', acc ++ [c])) :=
  (doCalls_single n s c acc _).mpr ⟨_, h, rfl⟩

/-! ## frames -/

/-- what the calls made for patterns and proof expressions leave alone -/
def Frame (s s' : PySt) : Prop :=
  s'.phase = s.phase ∧ s'.claims = s.claims ∧ (∃ e, s'.memory = s.memory ++ e) ∧
    (∃ e, s'.symtab = s.symtab ++ e)

theorem Frame.refl (s : PySt) : Frame s s := ⟨rfl, rfl, ⟨[], by simp⟩, ⟨[], by simp⟩⟩

theorem Frame.trans {a b c : PySt} (h1 : Frame a b) (h2 : Frame b c) : Frame a c := by
  obtain ⟨p1, c1, ⟨m1, hm1⟩, ⟨y1, hy1⟩⟩ := h1
  obtain ⟨p2, c2, ⟨m2, hm2⟩, ⟨y2, hy2⟩⟩ := h2
  exact ⟨p2.trans p1, c2.trans c1, ⟨m1 ++ m2, by rw [hm2, hm1, List.append_assoc]⟩,
    ⟨y1 ++ y2, by rw [hy2, hy1, List.append_assoc]⟩⟩

theorem frame_stack (s : PySt) (S : List (TTerm × Bool)) : Frame s { s with stack := S } :=
  ⟨rfl, rfl, ⟨[], by simp⟩, ⟨[], by simp⟩⟩

theorem track1_frame (n : Nat) (s s' : PySt) (c : Call) (h1 : c ≠ .publishProof)
    (h2 : c ≠ .intoClaim) (h3 : c ≠ .intoProof) (ht : track1 n s c = some (some s')) :
    Frame s s' := by
  cases Step.of_track1 ht
  case publishProof => exact absurd rfl h1
  case intoClaim => exact absurd rfl h2
  case intoProof => exact absurd rfl h3
  case symbol nm =>
    refine ⟨rfl, rfl, ⟨[], (List.append_nil _).symm⟩, ?_⟩
    dsimp only [PySt.push]
    split
    · exact ⟨[], (List.append_nil _).symm⟩
    · exact ⟨[nm], rfl⟩
  case save | publishAxiom => exact ⟨rfl, rfl, ⟨_, rfl⟩, ⟨[], (List.append_nil _).symm⟩⟩
  all_goals exact ⟨rfl, rfl, ⟨[], (List.append_nil _).symm⟩, ⟨[], (List.append_nil _).symm⟩⟩

/-! ## postconditions -/

/-- calls that neither publish nor switch phase -/
def Call.quiet : Call → Bool
  | .publishProof => false | .publishAxiom => false | .publishClaim => false
  | .intoClaim => false | .intoProof => false
  | _ => true

/-- the calls, executed one after the other (each with some fuel), lead from `s` to `s'` -/
inductive Exec : PySt → List Call → PySt → Prop
  | nil (s : PySt) : Exec s [] s
  | cons {s s1 s' : PySt} {c : Call} {cs : List Call} (k : Nat) :
      track1 k s c = some (some s1) → Exec s1 cs s' → Exec s (c :: cs) s'

theorem Exec.append {s s1 s2 : PySt} {cs1 cs2 : List Call} (h1 : Exec s cs1 s1)
    (h2 : Exec s1 cs2 s2) : Exec s (cs1 ++ cs2) s2 := by
  induction h1 with
  | nil s => simpa using h2
  | cons k ht _ ih => exact Exec.cons k ht (ih h2)

theorem Exec.single {s s' : PySt} {c : Call} (k : Nat) (h : track1 k s c = some (some s')) :
    Exec s [c] s' := Exec.cons k h (Exec.nil s')

/-- the state after compiling something on top of `s0`: new entries `top`, everything else framed;
the calls made are quiet and lead from `s0` to `s'` -/
def Post (s0 : PySt) (top : List (TTerm × Bool)) (acc : List Call) (s' : PySt)
    (a' : List Call) : Prop :=
  s'.stack = top ++ s0.stack ∧ Frame s0 s' ∧ ShapeSt s' ∧
    ∃ cs, a' = acc ++ cs ∧ Exec s0 cs s' ∧ ∀ c ∈ cs, c.quiet = true

theorem Post.trans {s0 s1 s2 : PySt} {t1 t2 : List (TTerm × Bool)} {acc a1 a2 : List Call}
    (h1 : Post s0 t1 acc s1 a1) (h2 : Post s1 t2 a1 s2 a2) : Post s0 (t2 ++ t1) acc s2 a2 := by
  obtain ⟨k1, f1, _, ⟨c1, rfl, e1, q1⟩⟩ := h1
  obtain ⟨k2, f2, sh2, ⟨c2, rfl, e2, q2⟩⟩ := h2
  refine ⟨by rw [k2, k1, List.append_assoc], f1.trans f2, sh2, ⟨c1 ++ c2, by simp, e1.append e2, ?_⟩⟩
  intro c hc
  rcases List.mem_append.mp hc with hc | hc
  · exact q1 c hc
  · exact q2 c hc

theorem Post.init (s : PySt) (acc : List Call) (hSh : ShapeSt s) : Post s [] acc s acc :=
  ⟨rfl, Frame.refl s, hSh, ⟨[], by simp, Exec.nil s, by simp⟩⟩

/-- quiet calls whose argument needs no side condition -/
def Call.plain : Call → Bool
  | .load _ => false | .metavar .. => false
  | c => c.quiet

/-- one more call -/
theorem Post.step {s0 s s' : PySt} {top top' : List (TTerm × Bool)} {acc a : List Call}
    (n : Nat) (c : Call) (hp : Post s0 top acc s a) (ht : track1 n s c = some (some s'))
    (hstk : s'.stack = top' ++ s0.stack) (hq : c.quiet = true)
    (hload : ∀ t, c = .load t → t.body.Shape = true)
    (hmv : ∀ id ef sf ps ns hs, c = .metavar id ef sf ps ns hs → ef = [] ∧ sf = []) :
    Post s0 top' acc s' (a ++ [c]) := by
  obtain ⟨_, f, sh, ⟨cs, rfl, ex, q⟩⟩ := hp
  refine ⟨hstk, f.trans (track1_frame n s s' c ?_ ?_ ?_ ht),
    (track1_pres n s s' c sh hload hmv ht).1,
    ⟨cs ++ [c], by simp, ex.append (Exec.single n ht), ?_⟩⟩
  iterate 3 exact fun e => by subst e; cases hq
  intro x hx
  rcases List.mem_append.mp hx with hx | hx
  · exact q x hx
  · simp at hx; subst hx; exact hq

theorem Post.step_plain {s0 s s' : PySt} {top top' : List (TTerm × Bool)} {acc a : List Call}
    (n : Nat) (c : Call) (hp : Post s0 top acc s a) (ht : track1 n s c = some (some s'))
    (hstk : s'.stack = top' ++ s0.stack) (hc : c.plain = true) :
    Post s0 top' acc s' (a ++ [c]) :=
  hp.step n c ht hstk (by cases c <;> first | exact hc | cases hc)
    (fun _ e => by subst e; cases hc) (fun _ _ _ _ _ _ e => by subst e; cases hc)

theorem andThen_spec {α β γ} {x : Option (Option (α × β))} {f : α → β → Option (Option γ)}
    {r : Option γ} {P : α → β → Prop} (h : andThen x f = some r)
    (hx : ∀ o, x = some o → ∃ a b, o = some (a, b) ∧ P a b) :
    ∃ a b, P a b ∧ f a b = some r := by
  rcases andThen_eq_some x f r h with ⟨hn, _⟩ | ⟨a, b, hab, hf⟩
  · obtain ⟨a, b, hc, _⟩ := hx _ hn; cases hc
  · obtain ⟨a', b', hc, hP⟩ := hx _ hab
    cases hc
    exact ⟨a, b, hP, hf⟩

theorem andThen3_spec {α β γ δ} {x : Option (Option (α × β × γ))}
    {f : α → β → γ → Option (Option δ)}
    {r : Option δ} {P : α → β → γ → Prop} (h : andThen3 x f = some r)
    (hx : ∀ o, x = some o → ∃ a b c, o = some (a, b, c) ∧ P a b c) :
    ∃ a b c, P a b c ∧ f a b c = some r := by
  rcases andThen3_eq_some x f r h with ⟨hn, _⟩ | ⟨a, b, c, hab, hf⟩
  · obtain ⟨a, b, c, hc, _⟩ := hx _ hn; cases hc
  · obtain ⟨a', b', c', hc, hP⟩ := hx _ hab
    cases hc
    exact ⟨a, b, c, hP, hf⟩

/-! ## 2b (patterns): `Interpreter.pattern` -/

/-- the stack entry of a compiled pattern -/
def entry (t : NPat) : TTerm × Bool := (.pat t, false)

/-- compiling `p` pushed exactly one `Pattern` whose expansion is `p`'s -/
def PatPost (s : PySt) (p : NPat) (acc : List Call) (s' : PySt) (a' : List Call) : Prop :=
  ∃ t, Post s [entry t] acc s' a' ∧ t.expand = p.expand ∧ t.isMetaHead = p.isMetaHead

def ListPost (s : PySt) (ps : List NPat) (acc : List Call) (s' : PySt) (a' : List Call) : Prop :=
  ∃ ts : List NPat, Post s (ts.reverse.map entry) acc s' a' ∧
    ts.map NPat.expand = ps.map NPat.expand

theorem inMemory_index (n : Nat) (p : NPat) (mem : List TTerm) (k : Nat)
    (h : inMemoryF n p mem = some true) : ∃ i, indexF n (.pat p) mem k = some (some i) := by
  induction mem generalizing k with
  | nil => simp [inMemoryF] at h
  | cons u r ih =>
    simp only [inMemoryF, Option.bind_eq_bind, Option.bind_eq_some_iff] at h
    obtain ⟨b, hb, h⟩ := h
    cases b with
    | true => exact ⟨k, by simp [indexF, hb]⟩
    | false =>
      simp only [Bool.false_eq_true, if_false] at h
      obtain ⟨i, hi⟩ := ih (k + 1) h
      exact ⟨i, by simp [indexF, hb, hi]⟩

theorem tr_load (n : Nat) (s : PySt) (t : TTerm) (i : Nat)
    (h : indexF n t s.memory 0 = some (some i)) :
    track1 n s (.load t) = some (some (s.push t)) := by
  simp [track1, h]

theorem takePlugs_rev (l : List NPat) (rest : List (TTerm × Bool)) :
    takePlugs l.length (l.map entry ++ rest) = some (l.reverse, rest) := by
  induction l with
  | nil => simp [takePlugs]
  | cons t l ih => simp [takePlugs, entry] at ih ⊢; simp [ih]

theorem shape_mv_lists {id : VId} {ef sf ps ns hs : List VId}
    (h : (NPat.mv id ef sf ps ns hs).Shape = true) : ef = [] ∧ sf = [] := by
  simpa [NPat.Shape] using h

theorem isMetaN_of_shape_esub {q plug : NPat} {x : VId}
    (h : (NPat.esub q x plug).Shape = true) : q.isMetaHead = true ∧ q.Shape = true ∧ plug.Shape = true := by
  simp only [NPat.Shape, Bool.and_eq_true] at h
  exact ⟨by rw [isMetaHead_eq]; exact h.1.1, h.1.2, h.2⟩

theorem isMetaN_of_shape_ssub {q plug : NPat} {x : VId}
    (h : (NPat.ssub q x plug).Shape = true) : q.isMetaHead = true ∧ q.Shape = true ∧ plug.Shape = true := by
  simp only [NPat.Shape, Bool.and_eq_true] at h
  exact ⟨by rw [isMetaHead_eq]; exact h.1.1, h.1.2, h.2⟩

theorem shapeMap_vals (m : List (Nat × NPat)) (h : NPat.ShapeMap m = true) :
    ∀ p ∈ m.map (·.2), p.Shape = true := by
  intro p hp
  obtain ⟨kv, hkv, rfl⟩ := List.mem_map.mp hp
  exact (NPat.shapeMap_iff m).mp h kv hkv

theorem zip_keys_vals (m : List (Nat × NPat)) : (m.map (·.1)).zip (m.map (·.2)) = m := by
  induction m with
  | nil => rfl
  | cons kv r ih => obtain ⟨k, v⟩ := kv; simp [ih]

/-- the induction hypotheses at fuel `n` -/
def PatOK (cfg : Cfg) (n : Nat) : Prop :=
  ∀ s p acc r, p.Shape = true → ShapeSt s → patternF cfg n s p acc = some r →
    ∃ s' a', r = some (s', a') ∧ PatPost s p acc s' a'

def ListOK (cfg : Cfg) (n : Nat) : Prop :=
  ∀ s ps acc r, (∀ p ∈ ps, p.Shape = true) → ShapeSt s →
    patternF.patternListF cfg n s ps acc = some r →
    ∃ s' a', r = some (s', a') ∧ ListPost s ps acc s' a'

/-- constructing (not loading) a pattern -/
theorem build_spec (cfg : Cfg) (n : Nat) (ihP : PatOK cfg n) (ihL : ListOK cfg n)
    (s : PySt) (p : NPat) (acc : List Call) (o : Option (PySt × List Call))
    (hp : p.Shape = true) (hSh : ShapeSt s) (h : buildF cfg n s p acc = some o) :
    ∃ s' a', o = some (s', a') ∧ PatPost s p acc s' a' := by
  have hP0 := Post.init s acc hSh
  cases p with
  | evar x =>
    have ht : track1 n s (.evar x) = some (some (s.push (.pat (.evar x)))) := rfl
    simp only [buildF, doCalls_ok n s _ _ acc ht, Option.some.injEq] at h; subst h
    exact ⟨_, _, rfl, .evar x, hP0.step_plain n _ ht rfl rfl, rfl, rfl⟩
  | svar x =>
    have ht : track1 n s (.svar x) = some (some (s.push (.pat (.svar x)))) := rfl
    simp only [buildF, doCalls_ok n s _ _ acc ht, Option.some.injEq] at h; subst h
    exact ⟨_, _, rfl, .svar x, hP0.step_plain n _ ht rfl rfl, rfl, rfl⟩
  | sym x =>
    have ht : track1 n s (.symbol x) = some (some ({ s.push (.pat (.sym x)) with
      symtab := if s.symtab.contains x then s.symtab else s.symtab ++ [x] })) := rfl
    simp only [buildF, doCalls_ok n s _ _ acc ht, Option.some.injEq] at h; subst h
    exact ⟨_, _, rfl, .sym x, hP0.step_plain n _ ht rfl rfl, rfl, rfl⟩
  | mv id ef sf ps ns hs =>
    have ht : track1 n s (.metavar id ef sf ps ns hs)
        = some (some (s.push (.pat (.mv id ef sf ps ns hs)))) := rfl
    simp only [buildF, doCalls_ok n s _ _ acc ht, Option.some.injEq] at h; subst h
    exact ⟨_, _, rfl, .mv id ef sf ps ns hs, hP0.step n _ ht rfl rfl
      (fun _ e => by cases e) (fun _ _ _ _ _ _ e => by cases e; exact shape_mv_lists hp), rfl, rfl⟩
  | imp l r =>
    simp only [NPat.Shape, Bool.and_eq_true] at hp
    simp only [buildF] at h
    obtain ⟨s1, a1, ⟨tl, hp1, hel, _⟩, h⟩ := andThen_spec h (fun o ho => ihP s l acc o hp.1 hSh ho)
    obtain ⟨s2, a2, ⟨tr, hp2, her, _⟩, h⟩ :=
      andThen_spec h (fun o ho => ihP s1 r a1 o hp.2 hp1.2.2.1 ho)
    have hp12 := hp1.trans hp2
    have ht : track1 n s2 .implies
        = some (some { s2 with stack := (.pat (.imp tl tr), false) :: s.stack }) := by
      simp [track1, hp12.1, entry]
    rw [doCalls_ok n s2 _ _ a2 ht] at h
    simp only [Option.some.injEq] at h; subst h
    exact ⟨_, _, rfl, .imp tl tr, hp12.step_plain n _ ht rfl rfl,
      by simp [NPat.expand, hel, her], rfl⟩
  | app l r =>
    simp only [NPat.Shape, Bool.and_eq_true] at hp
    simp only [buildF] at h
    obtain ⟨s1, a1, ⟨tl, hp1, hel, _⟩, h⟩ := andThen_spec h (fun o ho => ihP s l acc o hp.1 hSh ho)
    obtain ⟨s2, a2, ⟨tr, hp2, her, _⟩, h⟩ :=
      andThen_spec h (fun o ho => ihP s1 r a1 o hp.2 hp1.2.2.1 ho)
    have hp12 := hp1.trans hp2
    have ht : track1 n s2 .app
        = some (some { s2 with stack := (.pat (.app tl tr), false) :: s.stack }) := by
      simp [track1, hp12.1, entry]
    rw [doCalls_ok n s2 _ _ a2 ht] at h
    simp only [Option.some.injEq] at h; subst h
    exact ⟨_, _, rfl, .app tl tr, hp12.step_plain n _ ht rfl rfl,
      by simp [NPat.expand, hel, her], rfl⟩
  | ex x q =>
    simp only [NPat.Shape] at hp
    simp only [buildF] at h
    obtain ⟨s1, a1, ⟨tq, hp1, heq, _⟩, h⟩ := andThen_spec h (fun o ho => ihP s q acc o hp hSh ho)
    have ht : track1 n s1 (.ex x)
        = some (some { s1 with stack := (.pat (.ex x tq), false) :: s.stack }) := by
      simp [track1, hp1.1, entry]
    rw [doCalls_ok n s1 _ _ a1 ht] at h
    simp only [Option.some.injEq] at h; subst h
    exact ⟨_, _, rfl, .ex x tq, hp1.step_plain n _ ht rfl rfl,
      by simp [NPat.expand, heq], rfl⟩
  | mu x q =>
    simp only [NPat.Shape] at hp
    simp only [buildF] at h
    obtain ⟨s1, a1, ⟨tq, hp1, heq, _⟩, h⟩ := andThen_spec h (fun o ho => ihP s q acc o hp hSh ho)
    have ht : track1 n s1 (.mu x)
        = some (some { s1 with stack := (.pat (.mu x tq), false) :: s.stack }) := by
      simp [track1, hp1.1, entry]
    rw [doCalls_ok n s1 _ _ a1 ht] at h
    simp only [Option.some.injEq] at h; subst h
    exact ⟨_, _, rfl, .mu x tq, hp1.step_plain n _ ht rfl rfl,
      by simp [NPat.expand, heq], rfl⟩
  | esub q x plug =>
    obtain ⟨hqm, hqs, hps⟩ := isMetaN_of_shape_esub hp
    simp only [buildF] at h
    obtain ⟨s1, a1, ⟨tp, hp1, hep, _⟩, h⟩ :=
      andThen_spec h (fun o ho => ihP s plug acc o hps hSh ho)
    obtain ⟨s2, a2, ⟨tq, hp2, heq, hmq⟩, h⟩ :=
      andThen_spec h (fun o ho => ihP s1 q a1 o hqs hp1.2.2.1 ho)
    have hp12 := hp1.trans hp2
    have ht : track1 n s2 (.esubst x)
        = some (some { s2 with stack := (.pat (.esub tq x tp), false) :: s.stack }) := by
      simp [track1, hp12.1, entry, hmq, hqm]
    rw [doCalls_ok n s2 _ _ a2 ht] at h
    simp only [Option.some.injEq] at h; subst h
    exact ⟨_, _, rfl, .esub tq x tp, hp12.step_plain n _ ht rfl rfl,
      by simp [NPat.expand, heq, hep], rfl⟩
  | ssub q x plug =>
    obtain ⟨hqm, hqs, hps⟩ := isMetaN_of_shape_ssub hp
    simp only [buildF] at h
    obtain ⟨s1, a1, ⟨tp, hp1, hep, _⟩, h⟩ :=
      andThen_spec h (fun o ho => ihP s plug acc o hps hSh ho)
    obtain ⟨s2, a2, ⟨tq, hp2, heq, hmq⟩, h⟩ :=
      andThen_spec h (fun o ho => ihP s1 q a1 o hqs hp1.2.2.1 ho)
    have hp12 := hp1.trans hp2
    have ht : track1 n s2 (.ssubst x)
        = some (some { s2 with stack := (.pat (.ssub tq x tp), false) :: s.stack }) := by
      simp [track1, hp12.1, entry, hmq, hqm]
    rw [doCalls_ok n s2 _ _ a2 ht] at h
    simp only [Option.some.injEq] at h; subst h
    exact ⟨_, _, rfl, .ssub tq x tp, hp12.step_plain n _ ht rfl rfl,
      by simp [NPat.expand, heq, hep], rfl⟩
  | inst q m =>
    simp only [NPat.Shape, Bool.and_eq_true] at hp
    simp only [buildF] at h
    obtain ⟨s1, a1, ⟨ts, hp1, hets⟩, h⟩ :=
      andThen_spec h (fun o ho => ihL s (m.map (·.2)) acc o (shapeMap_vals m hp.2) hSh ho)
    obtain ⟨s2, a2, ⟨tq, hp2, heq, _⟩, h⟩ :=
      andThen_spec h (fun o ho => ihP s1 q a1 o hp.1 hp1.2.2.1 ho)
    have hp12 := hp1.trans hp2
    have hlen : ts.length = m.length := by
      have := congrArg List.length hets
      simpa using this
    have htp : takePlugs (m.map (·.1)).length (ts.reverse.map entry ++ s.stack)
        = some (ts, s.stack) := by
      have := takePlugs_rev ts.reverse s.stack
      simpa [hlen] using this
    have ht : track1 n s2 (.instantiatePattern (m.map (·.1)))
        = some (some { s2 with stack :=
            (.pat (.inst tq ((m.map (·.1)).zip ts)), false) :: s.stack }) := by
      have hstk2 : s2.stack = (TTerm.pat tq, false) ::
          (List.map (fun t => (TTerm.pat t, false)) ts.reverse ++ s.stack) := hp12.1
      delta entry at htp
      simp only [track1, hstk2, htp]
    rw [doCalls_ok n s2 _ _ a2 ht] at h
    simp only [Option.some.injEq] at h; subst h
    refine ⟨_, _, rfl, .inst tq ((m.map (·.1)).zip ts), hp12.step_plain n _ ht rfl rfl, ?_, rfl⟩
    simp only [NPat.expand, heq, expandMap_zip, hets]
    conv => rhs; rw [← zip_keys_vals m, expandMap_zip]

theorem pat_step (cfg : Cfg) (n : Nat) (ihP : PatOK cfg n) (ihL : ListOK cfg n) :
    PatOK cfg (n + 1) := by
  intro s p acc r hp hSh h
  rw [patternF_succ] at h
  simp only [Option.bind_eq_some_iff] at h
  obtain ⟨hit, hhit, h⟩ := h
  cases hit with
  | true =>
    simp only [if_true] at h
    have hidx : ∃ i, indexF n (.pat p) s.memory 0 = some (some i) := by
      unfold memoHitF at hhit
      split at hhit
      · simp at hhit
      · exact inMemory_index n p s.memory 0 hhit
    obtain ⟨i, hi⟩ := hidx
    have ht := tr_load n s (.pat p) i hi
    rw [doCalls_ok n s _ _ acc ht] at h
    simp only [Option.some.injEq] at h; subst h
    exact ⟨_, _, rfl, p, (Post.init s acc hSh).step n _ ht rfl rfl
      (fun _ e => by cases e; exact hp) (fun _ _ _ _ _ _ e => by cases e), rfl, rfl⟩
  | false =>
    simp only [Bool.false_eq_true, if_false] at h
    obtain ⟨s1, a1, ⟨t, hp1, het, hmt⟩, h⟩ :=
      andThen_spec h (fun o ho => build_spec cfg n ihP ihL s p acc o hp hSh ho)
    unfold saveF at h
    split at h
    · split at h
      · have hstk := hp1.1
        simp only [entry, List.singleton_append] at hstk
        have ht : track1 n s1 .save = some (some { s1 with memory := s1.memory ++ [.pat t] }) := by
          simp [track1, hstk]
        rw [doCalls_ok n s1 _ _ a1 ht] at h
        simp only [Option.some.injEq] at h; subst h
        exact ⟨_, _, rfl, t, hp1.step_plain n _ ht hp1.1 rfl, het, hmt⟩
      · simp only [Option.some.injEq] at h; subst h
        exact ⟨_, _, rfl, t, hp1, het, hmt⟩
    · simp only [Option.some.injEq] at h; subst h
      exact ⟨_, _, rfl, t, hp1, het, hmt⟩

theorem list_step (cfg : Cfg) (n : Nat) (ihP : PatOK cfg n) (ihL : ListOK cfg n) :
    ListOK cfg (n + 1) := by
  intro s ps acc r hps hSh h
  cases ps with
  | nil =>
    simp only [patternF.patternListF, Option.some.injEq] at h; subst h
    exact ⟨_, _, rfl, [], Post.init s acc hSh, rfl⟩
  | cons p ps =>
    rw [patternListF_cons] at h
    obtain ⟨s1, a1, ⟨t, hp1, het, _⟩, h⟩ :=
      andThen_spec h (fun o ho => ihP s p acc o (hps p (by simp)) hSh ho)
    obtain ⟨s2, a2, rfl, ts, hp2, hets⟩ :=
      ihL s1 ps a1 r (fun q hq => hps q (List.mem_cons_of_mem _ hq)) hp1.2.2.1 h
    refine ⟨_, _, rfl, t :: ts, ?_, by simp [het, hets]⟩
    have := hp1.trans hp2
    simpa using this

theorem pattern_spec (cfg : Cfg) (n : Nat) : PatOK cfg n ∧ ListOK cfg n := by
  induction n with
  | zero =>
    constructor
    · intro s p acc r _ _ h; simp [patternF] at h
    · intro s ps acc r _ _ h; simp [patternF.patternListF] at h
  | succ n ih => exact ⟨pat_step cfg n ih.1 ih.2, list_step cfg n ih.1 ih.2⟩

/-- 2b for patterns: `Interpreter.pattern` (plain or memoising) never raises on a shaped pattern,
pushes exactly one `Pattern` whose expansion is the pattern's, and leaves the rest alone -/
theorem PySt.patternF_spec (cfg : Cfg) (n : Nat) (s : PySt) (p : NPat) (acc : List Call)
    (r : Option (PySt × List Call)) :
    p.Shape = true → ShapeSt s → patternF cfg n s p acc = some r →
    ∃ s' a' t, r = some (s', a') ∧ s'.stack = (.pat t, false) :: s.stack ∧
      t.expand = p.expand ∧ t.isMetaHead = p.isMetaHead ∧ Frame s s' ∧ ShapeSt s' ∧
      ∃ cs, a' = acc ++ cs := by
  intro hp hSh h
  obtain ⟨s', a', rfl, t, ⟨hstk, hf, hsh, hcs⟩, het, hmt⟩ := (pattern_spec cfg n).1 s p acc r hp hSh h
  obtain ⟨cs, hcs, _, _⟩ := hcs
  exact ⟨s', a', t, rfl, hstk, het, hmt, hf, hsh, cs, hcs⟩

theorem PySt.patternListF_spec (cfg : Cfg) (n : Nat) (s : PySt) (ps : List NPat)
    (acc : List Call) (r : Option (PySt × List Call)) :
    (∀ p ∈ ps, p.Shape = true) → ShapeSt s → patternF.patternListF cfg n s ps acc = some r →
    ∃ s' a', ∃ ts : List NPat, r = some (s', a') ∧
      s'.stack = ts.reverse.map (fun t => (TTerm.pat t, false)) ++ s.stack ∧
      ts.map NPat.expand = ps.map NPat.expand ∧ Frame s s' ∧ ShapeSt s' ∧
      ∃ cs, a' = acc ++ cs := by
  intro hp hSh h
  obtain ⟨s', a', rfl, ts, ⟨hstk, hf, hsh, hcs⟩, het⟩ := (pattern_spec cfg n).2 s ps acc r hp hSh h
  obtain ⟨cs, hcs, _, _⟩ := hcs
  exact ⟨s', a', ts, rfl, hstk, het, hf, hsh, cs, hcs⟩

/-! ## unfolding `runF`, `runBasicF` -/

def rawF (cfg : Cfg) (ax : List NPat) (n : Nat) (s : PySt) (pf : Pf) (acc : List Call) :
    Option (Option (PySt × List Call)) :=
  match pf with
  | .prop1 => doCalls n s [.prop1] acc
  | .prop2 => doCalls n s [.prop2] acc
  | .prop3 => doCalls n s [.prop3] acc
  | .quantifier => doCalls n s [.quantifier] acc
  | .mp l r => andThen3 (Pf.runF cfg ax n s l acc) fun s1 a1 _ =>
      andThen3 (Pf.runF cfg ax n s1 r a1) fun s2 a2 _ => doCalls n s2 [.mp] a2
  | .gen p x => andThen3 (Pf.runF cfg ax n s p acc) fun s1 a1 _ => doCalls n s1 [.gen x] a1
  | .dynInst p δ =>
      if δ.isEmpty then
        andThen3 (Pf.runF cfg ax n s p acc) fun s1 a1 _ => pure (some (s1, a1))
      else
        andThen (patternF.patternListF cfg n s (δ.map (·.2)) acc) fun s1 a1 =>
          andThen3 (Pf.runF cfg ax n s1 p a1) fun s2 a2 _ =>
            doCalls n s2 [.instantiate (δ.map (·.1))] a2
  | .loadAxiom a => doCalls n s [.load (.proved a)] acc

def checkF (ax : List NPat) (n : Nat) (pf : Pf) (s' : PySt) (a' : List Call) :
    Option (Option (PySt × List Call × NPat)) :=
  match s'.stack with
  | (.proved c, _) :: _ =>
      (Pf.concF ax n pf).bind fun o => match o with
        | none => pure none
        | some adv => (NPat.peqF n c adv).bind fun e =>
            if e then pure (some (s', a', c)) else pure none
  | _ => pure none

/-- the same when the `do`-block goes on after the step: the rest `k` was compiled into both branches -/
theorem bind_andThen3_then {α β γ δ δ' ε} {x : Option (Option (α × β × γ))}
    {g : Option (α × β × γ) → Option (Option ε)} {f : α → β → γ → Option (Option (δ × δ'))}
    {k : δ → δ' → Option (Option ε)} (hn : g none = some none)
    (hs : ∀ a b c, g (some (a, b, c)) = andThen (f a b c) k) : x.bind g = andThen (andThen3 x f) k := by
  rcases x with _ | _ | ⟨a, b, c⟩
  · rfl
  · exact hn
  · exact hs a b c

theorem bind_andThen_then {α β δ δ' ε} {x : Option (Option (α × β))}
    {g : Option (α × β) → Option (Option ε)} {f : α → β → Option (Option (δ × δ'))}
    {k : δ → δ' → Option (Option ε)} (hn : g none = some none)
    (hs : ∀ a b, g (some (a, b)) = andThen (f a b) k) : x.bind g = andThen (andThen x f) k := by
  rcases x with _ | _ | ⟨a, b⟩
  · rfl
  · exact hn
  · exact hs a b

theorem runF_succ (cfg : Cfg) (ax : List NPat) (n : Nat) (s : PySt) (pf : Pf) (acc : List Call) :
    Pf.runF cfg ax (n + 1) s pf acc = andThen (rawF cfg ax n s pf acc) (checkF ax n pf) := by
  simp only [Pf.runF]
  -- the `do`-block repeats the check after every way the rule can end; peel the rule, then compare the checks
  cases pf
  case' mp =>
    refine bind_andThen3_then rfl fun _ _ _ => bind_andThen3_then rfl fun _ _ _ => bind_andThen rfl rfl fun s' a' => ?_
  case' gen => refine bind_andThen3_then rfl fun _ _ _ => bind_andThen rfl rfl fun s' a' => ?_
  case' dynInst p δ =>
    cases δ
    case' nil => refine bind_andThen3_then rfl fun s' a' _ => (?_ : _ = checkF ax n _ s' a')
    case' cons =>
      refine bind_andThen_then rfl fun _ _ => bind_andThen3_then rfl fun _ _ _ => bind_andThen rfl rfl fun s' a' => ?_
  case' prop1 | prop2 | prop3 | quantifier | loadAxiom => refine bind_andThen rfl rfl fun s' a' => ?_
  all_goals
    dsimp only [checkF, Option.pure_def, Option.bind_eq_bind, Option.bind_some]
    rcases s'.stack with _ | ⟨⟨_ | c, _⟩, _⟩
    · rfl
    · rfl
    · exact obind_congr rfl fun o => by cases o <;> rfl

def rawB (ax : List NPat) (n : Nat) (pf : Pf) : Option (Option NPat) :=
  match pf with
  | .prop1 => pure (some prop1N)
  | .prop2 => pure (some prop2N)
  | .prop3 => pure (some prop3N)
  | .quantifier => pure (some quantN)
  | .mp l r => (Pf.runBasicF ax n l).bind fun x => (Pf.runBasicF ax n r).bind fun y =>
      match x, y with
      | some a, some b => NPat.pyMP n a b
      | _, _ => pure none
  | .gen p x => (Pf.runBasicF ax n p).bind fun o => match o with
      | none => pure none
      | some a => NPat.pyGen n a x
  | .dynInst p δ =>
      if δ.isEmpty then Pf.runBasicF ax n p
      else (Pf.runBasicF ax n p).bind fun o => match o with
        | none => pure none
        | some a => (NPat.instF n δ a).bind fun c => pure (some c)
  | .loadAxiom a => pure (some a)

def checkB (ax : List NPat) (n : Nat) (pf : Pf) (c : NPat) : Option (Option NPat) :=
  (Pf.concF ax n pf).bind fun o => match o with
    | none => pure none
    | some adv => (NPat.peqF n c adv).bind fun e => if e then pure (some c) else pure none

theorem obind_then {α β γ} {x : Option α} {g : α → Option γ} {f : α → Option β} {k : β → Option γ}
    (h : ∀ a, g a = (f a).bind k) : x.bind g = (x.bind f).bind k := by
  cases x
  · rfl
  · exact h _

theorem runBasicF_succ (ax : List NPat) (n : Nat) (pf : Pf) :
    Pf.runBasicF ax (n + 1) pf =
      (rawB ax n pf).bind fun raw => match raw with
        | none => pure none
        | some c => checkB ax n pf c := by
  simp only [Pf.runBasicF]
  -- as for `runF_succ`: peel the rule; what remains is the check after each way it can end
  cases pf
  case' mp => refine obind_then fun x => obind_then fun y => ?_; cases x <;> cases y
  case' gen => refine obind_then fun o => ?_; cases o
  case' dynInst p δ =>
    cases δ
    case' cons =>
      refine obind_then fun o => ?_
      cases o
      case' some => refine obind_then fun _ => ?_
  all_goals
    refine obind_congr rfl fun raw => ?_
    cases raw
    · rfl
    · exact obind_congr rfl fun o => by cases o <;> rfl

/-! ## the meaning of a proof expression, on expansions -/

/-- every pattern a proof expression mentions is shaped -/
def Pf.Shaped : Pf → Prop
  | .mp l r => l.Shaped ∧ r.Shaped
  | .gen p _ => p.Shaped
  | .dynInst p δ => p.Shaped ∧ NPat.ShapeMap δ = true
  | .loadAxiom a => a.Shape = true
  | _ => True

def AxShaped (ax : List NPat) : Prop := ∀ x ∈ ax, x.Shape = true

/-- the axioms a proof expression loads -/
def Pf.loadedAxioms : Pf → List NPat
  | .mp l r => l.loadedAxioms ++ r.loadedAxioms
  | .gen p _ => p.loadedAxioms
  | .dynInst p _ => p.loadedAxioms
  | .loadAxiom a => [a]
  | _ => []

/-- every loaded axiom is one of the module's axioms (`assert axiom_term in self._axioms`) -/
def Pf.AxOK (ax : List NPat) (pf : Pf) : Prop :=
  ∀ a ∈ pf.loadedAxioms, ∃ x ∈ ax, x.expand = a.expand

/-- the documented rules, on full expansions -/
inductive Pf.Sem : Pf → Pat → Prop
  | prop1 : Pf.Sem .prop1 prop1N.expand
  | prop2 : Pf.Sem .prop2 prop2N.expand
  | prop3 : Pf.Sem .prop3 prop3N.expand
  | quantifier : Pf.Sem .quantifier quantN.expand
  | mp {l r : Pf} {B C : Pat} : Pf.Sem l (.imp B C) → Pf.Sem r B → Pf.Sem (.mp l r) C
  | gen {p : Pf} {x : VId} {L R : Pat} : Pf.Sem p (.imp L R) → R.eFresh x = true →
      Pf.Sem (.gen p x) (.imp (.ex x L) R)
  | dynInst {p : Pf} {δ : List (Nat × NPat)} {A : Pat} : Pf.Sem p A →
      Pf.Sem (.dynInst p δ) (Py.inst (Py.lookup (NPat.expand.expandMap δ)) A)
  | loadAxiom {a : NPat} : Pf.Sem (.loadAxiom a) a.expand

theorem Pf.Sem.functional {pf : Pf} {C C' : Pat} (h : Pf.Sem pf C) (h' : Pf.Sem pf C') :
    C = C' := by
  induction h generalizing C' with
  | prop1 | prop2 | prop3 | quantifier | loadAxiom => cases h'; rfl
  | mp hl hr ihl ihr =>
    cases h' with
    | mp hl' hr' =>
      have := ihl hl'
      simp only [Pat.imp.injEq] at this
      exact this.2
  | gen hp hfr ih =>
    cases h' with
    | gen hp' hfr' =>
      have := ih hp'
      simp only [Pat.imp.injEq] at this
      rw [this.1, this.2]
  | dynInst hp ih =>
    cases h' with
    | dynInst hp' => rw [ih hp']

/-! ### `concF` -/

theorem mem_spec (a : NPat) (m : Nat) (l : List NPat) (e : Bool) (ha : a.Shape = true)
    (hl : ∀ x ∈ l, x.Shape = true) (h : Pf.concF.mem a m l = some e) :
    (e = true ↔ ∃ x ∈ l, x.expand = a.expand) := by
  induction l with
  | nil =>
    simp only [Pf.concF.mem, Option.some.injEq] at h
    subst h; simp
  | cons x l ih =>
    simp only [Pf.concF.mem, Option.bind_eq_bind, Option.bind_eq_some_iff] at h
    obtain ⟨b, hb, h⟩ := h
    have hdec := NPat.peqF_expand m x a b (hl x (by simp)) ha hb
    cases b with
    | true =>
      simp only [if_true, Option.pure_def, Option.some.injEq] at h
      subst h
      have : x.expand = a.expand := by simpa using hdec.symm
      simp [this]
    | false =>
      simp only [Bool.false_eq_true, if_false] at h
      have hne : ¬ x.expand = a.expand := by simpa using hdec.symm
      rw [ih (fun y hy => hl y (List.mem_cons_of_mem _ hy)) h]
      simp [hne]

/-- if the expression is meaningful, `conc` does not raise and advertises the meaning -/
theorem concF_sem (ax : List NPat) (hax : AxShaped ax) {pf : Pf} {C : Pat} (hS : Pf.Sem pf C) :
    ∀ (n : Nat) (x : Option NPat), pf.Shaped → pf.AxOK ax → Pf.concF ax n pf = some x →
    ∃ adv, x = some adv ∧ adv.expand = C ∧ adv.Shape = true := by
  induction hS with
  | prop1 | prop2 | prop3 | quantifier =>
    intro n x _ _ h
    cases n with
    | zero => simp [Pf.concF] at h
    | succ m => simp only [Pf.concF, Option.some.injEq] at h; exact ⟨_, h.symm, rfl, by rfl⟩
  | @mp l r B C hl hr ihl ihr =>
    intro n x hsh hok h
    cases n with
    | zero => simp [Pf.concF] at h
    | succ m =>
      simp only [Pf.Shaped] at hsh
      have hokl : l.AxOK ax := fun a ha => hok a (List.mem_append_left _ ha)
      have hokr : r.AxOK ax := fun a ha => hok a (List.mem_append_right _ ha)
      simp only [Pf.concF, Option.bind_eq_bind, Option.bind_eq_some_iff] at h
      obtain ⟨xl, hxl, xr, hxr, h⟩ := h
      obtain ⟨a, rfl, hae, has⟩ := ihl m xl hsh.1 hokl hxl
      obtain ⟨b, rfl, hbe, hbs⟩ := ihr m xr hsh.2 hokr hxr
      simp only [] at h
      obtain ⟨c, rfl, hce⟩ := pyMP_complete m a b x C has hbs (by rw [hae, hbe]) h
      exact ⟨c, rfl, hce, (pyMP_spec m a b c has hbs h).2⟩
  | @gen p y L Rr hp hfr ih =>
    intro n x hsh hok h
    cases n with
    | zero => simp [Pf.concF] at h
    | succ m =>
      simp only [Pf.Shaped] at hsh
      have hokp : p.AxOK ax := hok
      simp only [Pf.concF, Option.bind_eq_bind, Option.bind_eq_some_iff] at h
      obtain ⟨xp, hxp, h⟩ := h
      obtain ⟨a, rfl, hae, has⟩ := ih m xp hsh hokp hxp
      simp only [Option.bind_eq_some_iff] at h
      obtain ⟨q, hq, h⟩ := h
      obtain ⟨hqe, hqs, hqi⟩ := NPat.headF_expand m a q has hq
      rw [hae] at hqe
      cases q with
      | imp ql qr =>
        simp only [NPat.expand, Pat.imp.injEq] at hqe
        simp only [NPat.Shape, Bool.and_eq_true] at hqs
        simp only [Option.pure_def, Option.some.injEq] at h
        exact ⟨_, h.symm, by simp [NPat.expand, hqe.1, hqe.2], by simp [NPat.Shape, hqs.1, hqs.2]⟩
      | inst q' m' => simp [NPat.isInst] at hqi
      | _ => simp [NPat.expand] at hqe
  | @dynInst p δ A hp ih =>
    intro n x hsh hok h
    cases n with
    | zero => simp [Pf.concF] at h
    | succ m =>
      simp only [Pf.Shaped] at hsh
      have hokp : p.AxOK ax := hok
      simp only [Pf.concF, Option.bind_eq_bind, Option.bind_eq_some_iff] at h
      obtain ⟨xp, hxp, h⟩ := h
      obtain ⟨a, rfl, hae, has⟩ := ih m xp hsh.1 hokp hxp
      simp only [] at h
      split at h
      · next hemp =>
        simp only [Option.pure_def, Option.some.injEq] at h
        exact ⟨a, h.symm, by rw [← hae]; exact NPat.inst_isEmpty δ hemp a has, has⟩
      · simp only [Option.bind_eq_some_iff, Option.pure_def, Option.some.injEq] at h
        obtain ⟨c, hc, h⟩ := h
        obtain ⟨hce, hcs⟩ := NPat.instF_expand m δ a c has hsh.2 hc
        exact ⟨c, h.symm, by rw [hce, hae], hcs⟩
  | @loadAxiom a =>
    intro n x hsh hok h
    cases n with
    | zero => simp [Pf.concF] at h
    | succ m =>
      simp only [Pf.Shaped] at hsh
      simp only [Pf.concF, Option.bind_eq_bind, Option.bind_eq_some_iff] at h
      obtain ⟨e, he, h⟩ := h
      have := (mem_spec a m ax e hsh hax he).mpr (hok a (List.mem_singleton.mpr rfl))
      subst this
      simp only [if_true, Option.pure_def, Option.some.injEq] at h
      exact ⟨a, h.symm, rfl, hsh⟩

/-- a `conc` that does not raise certifies that the loaded axioms are axioms -/
theorem concF_axok (ax : List NPat) (hax : AxShaped ax) :
    ∀ (n : Nat) (pf : Pf) (adv : NPat), pf.Shaped → Pf.concF ax n pf = some (some adv) →
    pf.AxOK ax := by
  intro n
  induction n with
  | zero => intro pf adv _ h; simp [Pf.concF] at h
  | succ m ih =>
    intro pf adv hsh h
    cases pf with
    | prop1 | prop2 | prop3 | quantifier => intro a ha; simp [Pf.loadedAxioms] at ha
    | mp l r =>
      simp only [Pf.Shaped] at hsh
      simp only [Pf.concF, Option.bind_eq_bind, Option.bind_eq_some_iff] at h
      obtain ⟨xl, hxl, xr, hxr, h⟩ := h
      cases xl with
      | none => simp at h
      | some a =>
        cases xr with
        | none => simp at h
        | some b =>
          intro c hc
          simp only [Pf.loadedAxioms, List.mem_append] at hc
          rcases hc with hc | hc
          · exact ih l a hsh.1 hxl c hc
          · exact ih r b hsh.2 hxr c hc
    | gen p y =>
      simp only [Pf.Shaped] at hsh
      simp only [Pf.concF, Option.bind_eq_bind, Option.bind_eq_some_iff] at h
      obtain ⟨xp, hxp, h⟩ := h
      cases xp with
      | none => simp at h
      | some a => exact ih p a hsh hxp
    | dynInst p δ =>
      simp only [Pf.Shaped] at hsh
      simp only [Pf.concF, Option.bind_eq_bind, Option.bind_eq_some_iff] at h
      obtain ⟨xp, hxp, h⟩ := h
      cases xp with
      | none => simp at h
      | some a => exact ih p a hsh.1 hxp
    | loadAxiom a =>
      simp only [Pf.Shaped] at hsh
      simp only [Pf.concF, Option.bind_eq_bind, Option.bind_eq_some_iff] at h
      obtain ⟨e, he, h⟩ := h
      cases e with
      | false => simp at h
      | true =>
        intro c hc
        simp only [Pf.loadedAxioms, List.mem_singleton] at hc
        subst hc
        exact (mem_spec c m ax true hsh hax he).mp rfl

/-! ## the basic interpreter -/

def BasicOK (ax : List NPat) (k : Nat) : Prop :=
  ∀ pf r, pf.Shaped → Pf.runBasicF ax k pf = some r →
    (∀ c, r = some c → Pf.Sem pf c.expand ∧ c.Shape = true ∧ pf.AxOK ax ∧
        ∃ adv, Pf.concF ax (k - 1) pf = some (some adv) ∧ NPat.peqF (k - 1) c adv = some true) ∧
    (∀ C, Pf.Sem pf C → pf.AxOK ax → ∃ c, r = some c)

theorem rawB_spec (ax : List NPat) (n : Nat) (ih : BasicOK ax n) (pf : Pf) (o : Option NPat)
    (hsh : pf.Shaped) (h : rawB ax n pf = some o) :
    (∀ c, o = some c → Pf.Sem pf c.expand ∧ c.Shape = true) ∧
    (∀ C, Pf.Sem pf C → pf.AxOK ax → ∃ c, o = some c) := by
  cases pf with
  | prop1 | prop2 | prop3 | quantifier =>
    simp only [rawB, Option.pure_def, Option.some.injEq] at h; subst h
    exact ⟨fun c e => by cases e; exact ⟨by constructor, by rfl⟩, fun _ _ _ => ⟨_, rfl⟩⟩
  | loadAxiom a =>
    simp only [Pf.Shaped] at hsh
    simp only [rawB, Option.pure_def, Option.some.injEq] at h; subst h
    exact ⟨fun c e => by cases e; exact ⟨.loadAxiom, hsh⟩, fun _ _ _ => ⟨_, rfl⟩⟩
  | mp l r =>
    simp only [Pf.Shaped] at hsh
    simp only [rawB, Option.bind_eq_some_iff] at h
    obtain ⟨x, hx, y, hy, h⟩ := h
    obtain ⟨hlA, hlB⟩ := ih l x hsh.1 hx
    obtain ⟨hrA, hrB⟩ := ih r y hsh.2 hy
    constructor
    · intro c hc
      subst hc
      cases x with
      | none => simp at h
      | some a =>
        cases y with
        | none => simp at h
        | some b =>
          simp only [] at h
          obtain ⟨hsa, hash, _, _⟩ := hlA a rfl
          obtain ⟨hsb, hbsh, _, _⟩ := hrA b rfl
          obtain ⟨hexp, hcs⟩ := pyMP_spec n a b c hash hbsh h
          rw [hexp] at hsa
          exact ⟨.mp hsa hsb, hcs⟩
    · intro C hS hok
      cases hS with
      | @mp _ _ B _ hSl hSr =>
        obtain ⟨a, rfl⟩ := hlB _ hSl (fun a ha => hok a (List.mem_append_left _ ha))
        obtain ⟨b, rfl⟩ := hrB _ hSr (fun a ha => hok a (List.mem_append_right _ ha))
        obtain ⟨hsa, hash, _, _⟩ := hlA a rfl
        obtain ⟨hsb, hbsh, _, _⟩ := hrA b rfl
        have ea := hsa.functional hSl
        have eb := hsb.functional hSr
        simp only [] at h
        obtain ⟨c, hc, _⟩ := pyMP_complete n a b o C hash hbsh (by rw [ea, eb]) h
        exact ⟨c, hc⟩
  | gen p y =>
    simp only [Pf.Shaped] at hsh
    simp only [rawB, Option.bind_eq_some_iff] at h
    obtain ⟨x, hx, h⟩ := h
    obtain ⟨hpA, hpB⟩ := ih p x hsh hx
    constructor
    · intro c hc
      subst hc
      cases x with
      | none => simp at h
      | some a =>
        simp only [] at h
        obtain ⟨hsa, hash, _, _⟩ := hpA a rfl
        obtain ⟨L, Rr, hexp, hfr, hce, hcs⟩ := pyGen_spec n a c y hash h
        rw [hexp] at hsa
        rw [hce]
        exact ⟨.gen hsa hfr, hcs⟩
    · intro C hS hok
      cases hS with
      | @gen _ _ L Rr hSp hfr =>
        obtain ⟨a, rfl⟩ := hpB _ hSp hok
        obtain ⟨hsa, hash, _, _⟩ := hpA a rfl
        have ea := hsa.functional hSp
        simp only [] at h
        obtain ⟨c, hc, _⟩ := pyGen_complete n a y o L Rr hash ea hfr h
        exact ⟨c, hc⟩
  | dynInst p δ =>
    simp only [Pf.Shaped] at hsh
    simp only [rawB] at h
    split at h
    · next hemp =>
      obtain ⟨hpA, hpB⟩ := ih p o hsh.1 h
      constructor
      · intro c hc
        obtain ⟨hsc, hcsh, _, _⟩ := hpA c hc
        refine ⟨?_, hcsh⟩
        have := Pf.Sem.dynInst (δ := δ) hsc
        rwa [← NPat.inst_isEmpty δ hemp c hcsh] at this
      · intro C hS hok
        cases hS with
        | dynInst hSp =>
          exact hpB _ hSp hok
    · simp only [Option.bind_eq_some_iff] at h
      obtain ⟨x, hx, h⟩ := h
      obtain ⟨hpA, hpB⟩ := ih p x hsh.1 hx
      constructor
      · intro c hc
        subst hc
        cases x with
        | none => simp at h
        | some a =>
          simp only [Option.bind_eq_some_iff, Option.pure_def, Option.some.injEq] at h
          obtain ⟨c', hc', rfl⟩ := h
          obtain ⟨hsa, hash, _, _⟩ := hpA a rfl
          obtain ⟨hce, hcs⟩ := NPat.instF_expand n δ a c' hash hsh.2 hc'
          rw [hce]
          exact ⟨.dynInst hsa, hcs⟩
      · intro C hS hok
        cases hS with
        | dynInst hSp =>
          obtain ⟨a, rfl⟩ := hpB _ hSp hok
          simp only [Option.bind_eq_some_iff, Option.pure_def, Option.some.injEq] at h
          obtain ⟨c', _, rfl⟩ := h
          exact ⟨c', rfl⟩

theorem basic_step (ax : List NPat) (hax : AxShaped ax) (n : Nat) (ih : BasicOK ax n) :
    BasicOK ax (n + 1) := by
  intro pf r hsh h
  rw [runBasicF_succ] at h
  simp only [Option.bind_eq_some_iff] at h
  obtain ⟨o, ho, h⟩ := h
  obtain ⟨hA, hB⟩ := rawB_spec ax n ih pf o hsh ho
  constructor
  · intro c hc
    subst hc
    cases o with
    | none => simp at h
    | some c' =>
      simp only [checkB, Option.bind_eq_some_iff] at h
      obtain ⟨x, hx, h⟩ := h
      cases x with
      | none => simp at h
      | some adv =>
        simp only [Option.bind_eq_some_iff] at h
        obtain ⟨e, he, h⟩ := h
        cases e with
        | false => simp at h
        | true =>
          simp only [if_true, Option.pure_def, Option.some.injEq] at h
          subst h
          obtain ⟨hs, hcs⟩ := hA c' rfl
          exact ⟨hs, hcs, concF_axok ax hax n pf adv hsh hx, adv, hx, he⟩
  · intro C hS hok
    obtain ⟨c, rfl⟩ := hB C hS hok
    obtain ⟨hs, hcs⟩ := hA c rfl
    have hC := hs.functional hS
    simp only [checkB, Option.bind_eq_some_iff] at h
    obtain ⟨x, hx, h⟩ := h
    obtain ⟨adv, rfl, hae, hash⟩ := concF_sem ax hax hS n x hsh hok hx
    simp only [Option.bind_eq_some_iff] at h
    obtain ⟨e, he, h⟩ := h
    have hdec := NPat.peqF_expand n c adv e hcs hash he
    have : e = true := by rw [hdec]; simp [hC, hae]
    subst this
    simp only [if_true, Option.pure_def, Option.some.injEq] at h
    exact ⟨c, h.symm⟩

theorem basic_all (ax : List NPat) (hax : AxShaped ax) (k : Nat) : BasicOK ax k := by
  induction k with
  | zero => intro pf r _ h; simp [Pf.runBasicF] at h
  | succ n ih => exact basic_step ax hax n ih

/-! ## the stateful interpreters -/

/-- every axiom the expression loads is in memory (up to notation) -/
def MemHas (s : PySt) (pf : Pf) : Prop :=
  ∀ a ∈ pf.loadedAxioms, ∃ m ∈ s.memory, convT m = .proved a.expand

theorem MemHas.mono {s s' : PySt} {pf : Pf} (h : MemHas s pf) (hf : Frame s s') :
    MemHas s' pf := by
  intro a ha
  obtain ⟨m, hm, hc⟩ := h a ha
  obtain ⟨e, he⟩ := hf.2.2.1
  exact ⟨m, by rw [he]; exact List.mem_append_left _ hm, hc⟩

def RunOK (cfg : Cfg) (ax : List NPat) (n : Nat) : Prop :=
  ∀ s pf acc r, pf.Shaped → ShapeSt s → Pf.runF cfg ax n s pf acc = some r →
    (∀ s' a' c, r = some (s', a', c) →
      Post s [(.proved c, false)] acc s' a' ∧ Pf.Sem pf c.expand ∧ pf.AxOK ax ∧
        ∃ adv, Pf.concF ax (n - 1) pf = some (some adv) ∧
          NPat.peqF (n - 1) c adv = some true) ∧
    (∀ C, Pf.Sem pf C → pf.AxOK ax → MemHas s pf → ∃ s' a' c, r = some (s', a', c))

def RawGood (ax : List NPat) (s : PySt) (pf : Pf) (acc : List Call)
    (o : Option (PySt × List Call)) : Prop :=
  (∀ s1 a1, o = some (s1, a1) →
      ∃ c, Post s [(.proved c, false)] acc s1 a1 ∧ Pf.Sem pf c.expand) ∧
  (∀ C, Pf.Sem pf C → pf.AxOK ax → MemHas s pf → ∃ s1 a1, o = some (s1, a1))

/-- the axiom rules: one call that pushes the axiom -/
theorem raw_axiom (ax : List NPat) (n : Nat) (s : PySt) (pf : Pf) (acc : List Call) (c : Call)
    (cN : NPat) (o : Option (PySt × List Call)) (hSh : ShapeSt s)
    (ht : track1 n s c = some (some (s.push (.proved cN)))) (hS : Pf.Sem pf cN.expand)
    (hc : c.plain = true)
    (h : doCalls n s [c] acc = some o) : RawGood ax s pf acc o := by
  rw [doCalls_ok n s _ _ acc ht] at h
  simp only [Option.some.injEq] at h; subst h
  constructor
  · intro s1 a1 e
    simp only [Option.some.injEq, Prod.mk.injEq] at e
    obtain ⟨rfl, rfl⟩ := e
    exact ⟨cN, (Post.init s acc hSh).step_plain n c ht rfl hc, hS⟩
  · intro _ _ _ _; exact ⟨_, _, rfl⟩

theorem top_shape {s : PySt} {t : TTerm} {b : Bool} {st : List (TTerm × Bool)}
    (hSh : ShapeSt s) (h : s.stack = (t, b) :: st) : t.body.Shape = true :=
  hSh.1 (t, b) (by rw [h]; simp)

theorem rawF_spec (cfg : Cfg) (ax : List NPat) (n : Nat) (ih : RunOK cfg ax n)
    (s : PySt) (pf : Pf) (acc : List Call) (o : Option (PySt × List Call))
    (hsh : pf.Shaped) (hSh : ShapeSt s) (h : rawF cfg ax n s pf acc = some o) :
    RawGood ax s pf acc o := by
  cases pf with
  | prop1 =>
    exact raw_axiom ax n s _ acc .prop1 prop1N o hSh rfl .prop1 rfl h
  | prop2 =>
    exact raw_axiom ax n s _ acc .prop2 prop2N o hSh rfl .prop2 rfl h
  | prop3 =>
    exact raw_axiom ax n s _ acc .prop3 prop3N o hSh rfl .prop3 rfl h
  | quantifier =>
    exact raw_axiom ax n s _ acc .quantifier quantN o hSh rfl .quantifier rfl h
  | loadAxiom a =>
    simp only [Pf.Shaped] at hsh
    simp only [rawF] at h
    obtain ⟨y, hy, rfl⟩ := (doCalls_single n s _ acc o).mp h
    simp only [track1, Option.bind_eq_bind, Option.bind_eq_some_iff] at hy
    obtain ⟨z, hz, hy⟩ := hy
    constructor
    · intro s1 a1 e
      cases z with
      | none => simp only [Option.pure_def, Option.some.injEq] at hy; subst hy; simp at e
      | some i =>
        simp only [Option.pure_def, Option.some.injEq] at hy; subst hy
        simp only [Option.map_some, Option.some.injEq, Prod.mk.injEq] at e
        obtain ⟨rfl, rfl⟩ := e
        have ht := tr_load n s (.proved a) i hz
        exact ⟨a, (Post.init s acc hSh).step n _ ht rfl rfl
          (fun _ e => by cases e; exact hsh) (fun _ _ _ _ _ _ e => by cases e), .loadAxiom⟩
    · intro C _ _ hmem
      cases z with
      | none =>
        exfalso
        obtain ⟨m, hm, hc⟩ := hmem a (List.mem_singleton.mpr rfl)
        exact indexF_none n (.proved a) hsh s.memory hSh.2.1 0 hz m hm (by simpa [convT] using hc)
      | some i =>
        simp only [Option.pure_def, Option.some.injEq] at hy; subst hy
        exact ⟨_, _, rfl⟩
  | mp l r =>
    simp only [Pf.Shaped] at hsh
    simp only [rawF] at h
    rcases andThen3_eq_some _ _ _ h with ⟨hl, rfl⟩ | ⟨s1, a1, cl, hl, h⟩
    · refine ⟨(fun _ _ e => by cases e), ?_⟩
      intro C hS hok hmem
      cases hS with
      | mp hSl hSr =>
        obtain ⟨_, _, _, e⟩ := (ih s l acc _ hsh.1 hSh hl).2 _ hSl
          (fun a ha => hok a (List.mem_append_left _ ha))
          (fun a ha => hmem a (List.mem_append_left _ ha))
        cases e
    · obtain ⟨hP1, hS1, _, _⟩ := (ih s l acc _ hsh.1 hSh hl).1 s1 a1 cl rfl
      rcases andThen3_eq_some _ _ _ h with ⟨hr, rfl⟩ | ⟨s2, a2, cr, hr, h⟩
      · refine ⟨(fun _ _ e => by cases e), ?_⟩
        intro C hS hok hmem
        cases hS with
        | mp hSl hSr =>
          have hmr : MemHas s r := fun a ha => hmem a (List.mem_append_right _ ha)
          obtain ⟨_, _, _, e⟩ := (ih s1 r a1 _ hsh.2 hP1.2.2.1 hr).2 _ hSr
            (fun a ha => hok a (List.mem_append_right _ ha)) (hmr.mono hP1.2.1)
          cases e
      · obtain ⟨hP2, hS2, _, _⟩ := (ih s1 r a1 _ hsh.2 hP1.2.2.1 hr).1 s2 a2 cr rfl
        have hP12 := hP1.trans hP2
        have hstk : s2.stack = (.proved cr, false) :: (.proved cl, false) :: s.stack := hP12.1
        have hcr := top_shape hP2.2.2.1 hstk
        have hcl : cl.Shape = true :=
          hP2.2.2.1.1 (.proved cl, false) (by rw [hstk]; simp)
        simp only [TTerm.body] at hcr
        obtain ⟨y, hy, rfl⟩ := (doCalls_single n s2 _ a2 o).mp h
        have hy' := hy
        simp only [track1, hstk, Option.bind_eq_bind, Option.bind_eq_some_iff] at hy'
        obtain ⟨z, hz, hy'⟩ := hy'
        constructor
        · intro s3 a3 e
          cases z with
          | none => simp only [Option.pure_def, Option.some.injEq] at hy'; subst hy'; simp at e
          | some c =>
            simp only [Option.pure_def, Option.some.injEq] at hy'; subst hy'
            simp only [Option.map_some, Option.some.injEq, Prod.mk.injEq] at e
            obtain ⟨rfl, rfl⟩ := e
            obtain ⟨hexp, _⟩ := pyMP_spec n cl cr c hcl hcr hz
            rw [hexp] at hS1
            exact ⟨c, hP12.step_plain n _ hy rfl rfl, .mp hS1 hS2⟩
        · intro C hS _ _
          cases hS with
          | mp hSl hSr =>
            have ea := hS1.functional hSl
            have eb := hS2.functional hSr
            obtain ⟨c, rfl, _⟩ := pyMP_complete n cl cr z C hcl hcr (by rw [ea, eb]) hz
            simp only [Option.pure_def, Option.some.injEq] at hy'; subst hy'
            exact ⟨_, _, rfl⟩
  | gen p x =>
    simp only [Pf.Shaped] at hsh
    simp only [rawF] at h
    rcases andThen3_eq_some _ _ _ h with ⟨hl, rfl⟩ | ⟨s1, a1, cp, hl, h⟩
    · refine ⟨(fun _ _ e => by cases e), ?_⟩
      intro C hS hok hmem
      cases hS with
      | gen hSp hfr =>
        obtain ⟨_, _, _, e⟩ := (ih s p acc _ hsh hSh hl).2 _ hSp
          hok
          hmem
        cases e
    · obtain ⟨hP1, hS1, _, _⟩ := (ih s p acc _ hsh hSh hl).1 s1 a1 cp rfl
      have hstk : s1.stack = (.proved cp, false) :: s.stack := hP1.1
      have hcp := top_shape hP1.2.2.1 hstk
      simp only [TTerm.body] at hcp
      obtain ⟨y, hy, rfl⟩ := (doCalls_single n s1 _ a1 o).mp h
      have hy' := hy
      simp only [track1, hstk, Option.bind_eq_bind, Option.bind_eq_some_iff] at hy'
      obtain ⟨z, hz, hy'⟩ := hy'
      constructor
      · intro s3 a3 e
        cases z with
        | none => simp only [Option.pure_def, Option.some.injEq] at hy'; subst hy'; simp at e
        | some c =>
          simp only [Option.pure_def, Option.some.injEq] at hy'; subst hy'
          simp only [Option.map_some, Option.some.injEq, Prod.mk.injEq] at e
          obtain ⟨rfl, rfl⟩ := e
          obtain ⟨L, Rr, hexp, hfr, hce, _⟩ := pyGen_spec n cp c x hcp hz
          rw [hexp] at hS1
          refine ⟨c, hP1.step_plain n _ hy rfl rfl, ?_⟩
          rw [hce]; exact .gen hS1 hfr
      · intro C hS _ _
        cases hS with
        | @gen _ _ L Rr hSp hfr =>
          have ea := hS1.functional hSp
          obtain ⟨c, rfl, _⟩ := pyGen_complete n cp x z L Rr hcp ea hfr hz
          simp only [Option.pure_def, Option.some.injEq] at hy'; subst hy'
          exact ⟨_, _, rfl⟩
  | dynInst p δ =>
    simp only [Pf.Shaped] at hsh
    simp only [rawF] at h
    split at h
    · next hemp =>
      rcases andThen3_eq_some _ _ _ h with ⟨hl, rfl⟩ | ⟨s1, a1, cp, hl, h⟩
      · refine ⟨(fun _ _ e => by cases e), ?_⟩
        intro C hS hok hmem
        cases hS with
        | dynInst hSp =>
          obtain ⟨_, _, _, e⟩ := (ih s p acc _ hsh.1 hSh hl).2 _ hSp
            hok
            hmem
          cases e
      · obtain ⟨hP1, hS1, _, _⟩ := (ih s p acc _ hsh.1 hSh hl).1 s1 a1 cp rfl
        simp only [Option.pure_def, Option.some.injEq] at h; subst h
        have hcp := top_shape hP1.2.2.1 hP1.1
        simp only [TTerm.body] at hcp
        constructor
        · intro s3 a3 e
          simp only [Option.some.injEq, Prod.mk.injEq] at e
          obtain ⟨rfl, rfl⟩ := e
          refine ⟨cp, hP1, ?_⟩
          have := Pf.Sem.dynInst (δ := δ) hS1
          rwa [← NPat.inst_isEmpty δ hemp cp hcp] at this
        · intro _ _ _ _; exact ⟨_, _, rfl⟩
    · next hemp =>
      obtain ⟨s1, a1, ⟨ts, hP1, hets⟩, h⟩ := andThen_spec h
        (fun o ho => (pattern_spec cfg n).2 s (δ.map (·.2)) acc o (shapeMap_vals δ hsh.2) hSh ho)
      rcases andThen3_eq_some _ _ _ h with ⟨hl, rfl⟩ | ⟨s2, a2, cp, hl, h⟩
      · refine ⟨(fun _ _ e => by cases e), ?_⟩
        intro C hS hok hmem
        cases hS with
        | dynInst hSp =>
          have hmp : MemHas s p := hmem
          obtain ⟨_, _, _, e⟩ := (ih s1 p a1 _ hsh.1 hP1.2.2.1 hl).2 _ hSp
            hok (hmp.mono hP1.2.1)
          cases e
      · obtain ⟨hP2, hS2, _, _⟩ := (ih s1 p a1 _ hsh.1 hP1.2.2.1 hl).1 s2 a2 cp rfl
        have hP12 := hP1.trans hP2
        have hstk : s2.stack = (.proved cp, false) ::
            (List.map (fun t => (TTerm.pat t, false)) ts.reverse ++ s.stack) := hP12.1
        have hcp := top_shape hP2.2.2.1 hstk
        simp only [TTerm.body] at hcp
        have hlen : ts.length = δ.length := by
          have := congrArg List.length hets
          simpa using this
        have htp : takePlugs (δ.map (·.1)).length (ts.reverse.map entry ++ s.stack)
            = some (ts, s.stack) := by
          have := takePlugs_rev ts.reverse s.stack
          simpa [hlen] using this
        delta entry at htp
        have hkeys : (δ.map (·.1)).isEmpty = false := by
          cases δ with
          | nil => simp at hemp
          | cons _ _ => simp
        have hts : ∀ t ∈ ts, t.Shape = true := by
          intro t ht
          have : (TTerm.pat t, false) ∈ s2.stack := by
            rw [hstk]; simp [ht]
          exact hP2.2.2.1.1 _ this
        have hsm : NPat.ShapeMap ((δ.map (·.1)).zip ts) = true := shapeMap_zip _ _ hts
        obtain ⟨y, hy, rfl⟩ := (doCalls_single n s2 _ a2 o).mp h
        have hy' := hy
        simp only [track1, hstk, hkeys, Bool.false_eq_true, if_false, htp, Option.bind_eq_bind,
          Option.bind_eq_some_iff, Option.pure_def, Option.some.injEq] at hy'
        obtain ⟨c, hc, hy'⟩ := hy'
        subst hy'
        constructor
        · intro s3 a3 e
          simp only [Option.map_some, Option.some.injEq, Prod.mk.injEq] at e
          obtain ⟨rfl, rfl⟩ := e
          obtain ⟨hce, _⟩ := NPat.instF_expand n _ cp c hcp hsm hc
          refine ⟨c, hP12.step_plain n _ hy rfl rfl, ?_⟩
          have hmap : NPat.expand.expandMap ((δ.map (·.1)).zip ts) = NPat.expand.expandMap δ := by
            rw [expandMap_zip, hets]
            conv => rhs; rw [← zip_keys_vals δ, expandMap_zip]
          rw [hce, hmap]
          exact .dynInst hS2
        · intro _ _ _ _; exact ⟨_, _, rfl⟩

theorem run_step (cfg : Cfg) (ax : List NPat) (hax : AxShaped ax) (n : Nat)
    (ih : RunOK cfg ax n) : RunOK cfg ax (n + 1) := by
  intro s pf acc r hsh hSh h
  rw [runF_succ] at h
  rcases andThen_eq_some _ _ _ h with ⟨hraw, rfl⟩ | ⟨s1, a1, hraw, h⟩
  · obtain ⟨_, hB⟩ := rawF_spec cfg ax n ih s pf acc _ hsh hSh hraw
    refine ⟨(fun _ _ _ e => by cases e), ?_⟩
    intro C hS hok hmem
    obtain ⟨_, _, e⟩ := hB C hS hok hmem
    cases e
  · obtain ⟨hA, _⟩ := rawF_spec cfg ax n ih s pf acc _ hsh hSh hraw
    obtain ⟨c, hP, hSc⟩ := hA s1 a1 rfl
    have hstk : s1.stack = (.proved c, false) :: s.stack := hP.1
    have hcs := top_shape hP.2.2.1 hstk
    simp only [TTerm.body] at hcs
    simp only [checkF, hstk, Option.bind_eq_some_iff] at h
    obtain ⟨x, hx, h⟩ := h
    constructor
    · intro s' a' c' e
      subst e
      cases x with
      | none => simp at h
      | some adv =>
        simp only [Option.bind_eq_some_iff] at h
        obtain ⟨e, he, h⟩ := h
        cases e with
        | false => simp at h
        | true =>
          simp only [if_true, Option.pure_def, Option.some.injEq, Prod.mk.injEq] at h
          obtain ⟨rfl, rfl, rfl⟩ := h
          exact ⟨hP, hSc, concF_axok ax hax n pf adv hsh hx, adv, hx, he⟩
    · intro C hS hok _
      have hC := hSc.functional hS
      obtain ⟨adv, rfl, hae, hash⟩ := concF_sem ax hax hS n x hsh hok hx
      simp only [Option.bind_eq_some_iff] at h
      obtain ⟨e, he, h⟩ := h
      have hdec := NPat.peqF_expand n c adv e hcs hash he
      have : e = true := by rw [hdec]; simp [hC, hae]
      subst this
      simp only [if_true, Option.pure_def, Option.some.injEq] at h
      exact ⟨s1, a1, c, h.symm⟩

theorem run_all (cfg : Cfg) (ax : List NPat) (hax : AxShaped ax) (n : Nat) : RunOK cfg ax n := by
  induction n with
  | zero => intro s pf acc r _ _ h; simp [Pf.runF] at h
  | succ n ih => exact run_step cfg ax hax n ih

/-! ## the C08 theorems -/

/-- 2a. the returned conclusion is `==` to the advertised one and sits on top of the stack -/
theorem Pf.runF_conclusion (cfg : Cfg) (ax : List NPat) (n : Nat) (s : PySt) (pf : Pf)
    (acc : List Call) (s' : PySt) (a' : List Call) (c : NPat) :
    AxShaped ax → pf.Shaped → ShapeSt s →
    Pf.runF cfg ax n s pf acc = some (some (s', a', c)) →
    ∃ adv, Pf.concF ax (n - 1) pf = some (some adv) ∧ NPat.peqF (n - 1) c adv = some true ∧
      (∃ st, s'.stack = (.proved c, false) :: st) := by
  intro hax hsh hSh h
  obtain ⟨hP, _, _, adv, h1, h2⟩ := (run_all cfg ax hax n s pf acc _ hsh hSh h).1 s' a' c rfl
  exact ⟨adv, h1, h2, s.stack, hP.1⟩

theorem Pf.runBasicF_conclusion (ax : List NPat) (k : Nat) (pf : Pf) (c : NPat) :
    AxShaped ax → pf.Shaped → Pf.runBasicF ax k pf = some (some c) →
    ∃ adv, Pf.concF ax (k - 1) pf = some (some adv) ∧ NPat.peqF (k - 1) c adv = some true ∧
      c.expand = adv.expand := by
  intro hax hsh h
  obtain ⟨hS, hcs, hok, adv, h1, h2⟩ := (basic_all ax hax k pf _ hsh h).1 c rfl
  refine ⟨adv, h1, h2, ?_⟩
  obtain ⟨adv', e, hae, _⟩ := concF_sem ax hax hS (k - 1) _ hsh hok h1
  cases e
  exact hae.symm

/-- 2b. stack discipline of a proof expression on a stateful interpreter -/
theorem Pf.runF_stack (cfg : Cfg) (ax : List NPat) (n : Nat) (s : PySt) (pf : Pf)
    (acc : List Call) (s' : PySt) (a' : List Call) (c : NPat) :
    AxShaped ax → pf.Shaped → ShapeSt s →
    Pf.runF cfg ax n s pf acc = some (some (s', a', c)) →
    s'.stack = (.proved c, false) :: s.stack ∧ s'.phase = s.phase ∧ s'.claims = s.claims ∧
      (∃ ext, s'.symtab = s.symtab ++ ext) ∧ (∃ ext, s'.memory = s.memory ++ ext) ∧
      (∃ cs, a' = acc ++ cs) ∧ ShapeSt s' := by
  intro hax hsh hSh h
  obtain ⟨⟨hstk, hf, hsh', hcs⟩, _⟩ := (run_all cfg ax hax n s pf acc _ hsh hSh h).1 s' a' c rfl
  obtain ⟨cs, hcs, _, _⟩ := hcs
  exact ⟨hstk, hf.1, hf.2.1, hf.2.2.2, hf.2.2.1, ⟨cs, hcs⟩, hsh'⟩

/-- every run that returns, returns the documented conclusion -/
theorem Pf.runF_sem (cfg : Cfg) (ax : List NPat) (n : Nat) (s : PySt) (pf : Pf)
    (acc : List Call) (s' : PySt) (a' : List Call) (c : NPat) :
    AxShaped ax → pf.Shaped → ShapeSt s →
    Pf.runF cfg ax n s pf acc = some (some (s', a', c)) → Pf.Sem pf c.expand ∧ pf.AxOK ax := by
  intro hax hsh hSh h
  obtain ⟨_, hS, hok, _⟩ := (run_all cfg ax hax n s pf acc _ hsh hSh h).1 s' a' c rfl
  exact ⟨hS, hok⟩

theorem Pf.runBasicF_sem (ax : List NPat) (k : Nat) (pf : Pf) (c : NPat) :
    AxShaped ax → pf.Shaped → Pf.runBasicF ax k pf = some (some c) →
    Pf.Sem pf c.expand ∧ pf.AxOK ax ∧ c.Shape = true := by
  intro hax hsh h
  obtain ⟨hS, hcs, hok, _⟩ := (basic_all ax hax k pf _ hsh h).1 c rfl
  exact ⟨hS, hok, hcs⟩

/-- 2c. a proof that runs on a stateful interpreter (plain or memoising) also runs on the basic one,
with the same conclusion up to notation -/
theorem Pf.runF_agrees_basic (cfg : Cfg) (ax : List NPat) (n k : Nat) (s : PySt) (pf : Pf)
    (acc : List Call) (s' : PySt) (a' : List Call) (c : NPat) (r : Option NPat) :
    AxShaped ax → pf.Shaped → ShapeSt s →
    Pf.runF cfg ax n s pf acc = some (some (s', a', c)) → Pf.runBasicF ax k pf = some r →
    ∃ c', r = some c' ∧ c'.expand = c.expand := by
  intro hax hsh hSh h hb
  obtain ⟨hS, hok⟩ := Pf.runF_sem cfg ax n s pf acc s' a' c hax hsh hSh h
  obtain ⟨hA, hB⟩ := basic_all ax hax k pf r hsh hb
  obtain ⟨c', rfl⟩ := hB _ hS hok
  obtain ⟨hS', _⟩ := hA c' rfl
  exact ⟨c', rfl, hS'.functional hS⟩

/-- 2c, converse (partial correctness): a proof that runs on the basic interpreter cannot raise on a
stateful one whose memory holds the axioms it loads; the conclusions agree up to notation -/
theorem Pf.basic_agrees_runF (cfg : Cfg) (ax : List NPat) (n k : Nat) (s : PySt) (pf : Pf)
    (acc : List Call) (c' : NPat) (r : Option (PySt × List Call × NPat)) :
    AxShaped ax → pf.Shaped → ShapeSt s →
    Pf.runBasicF ax k pf = some (some c') →
    (∀ a ∈ pf.loadedAxioms, ∃ m ∈ s.memory, convT m = .proved a.expand) →
    Pf.runF cfg ax n s pf acc = some r →
    ∃ s' a' c, r = some (s', a', c) ∧ c.expand = c'.expand := by
  intro hax hsh hSh hb hmem h
  obtain ⟨hS', hok, _⟩ := Pf.runBasicF_sem ax k pf c' hax hsh hb
  obtain ⟨hA, hB⟩ := run_all cfg ax hax n s pf acc r hsh hSh h
  obtain ⟨s', a', c, rfl⟩ := hB _ hS' hok hmem
  obtain ⟨_, hS, _⟩ := hA s' a' c rfl
  exact ⟨s', a', c, rfl, hS.functional hS'⟩

/-- the memory hypothesis from Python's `==` -/
theorem memHas_of_teq (n : Nat) (s : PySt) (pf : Pf) (hSh : ShapeSt s) (hsh : pf.Shaped)
    (h : ∀ a ∈ pf.loadedAxioms, a.Shape = true ∧
      ∃ m ∈ s.memory, PySt.teqF n m (.proved a) = some true) :
    ∀ a ∈ pf.loadedAxioms, ∃ m ∈ s.memory, convT m = .proved a.expand := by
  intro a ha
  obtain ⟨hash, m, hm, ht⟩ := h a ha
  exact ⟨m, hm, teqF_conv n m (.proved a) (hSh.2.1 m hm) hash ht⟩

/-- 2d. memoisation (and the starting state) does not change conclusions -/
theorem Pf.runF_cfg_independent (cfg₁ cfg₂ : Cfg) (ax : List NPat) (n₁ n₂ : Nat)
    (s₁ s₂ : PySt) (pf : Pf) (acc₁ acc₂ : List Call) (s₁' s₂' : PySt) (a₁' a₂' : List Call)
    (c₁ c₂ : NPat) :
    AxShaped ax → pf.Shaped → ShapeSt s₁ → ShapeSt s₂ →
    Pf.runF cfg₁ ax n₁ s₁ pf acc₁ = some (some (s₁', a₁', c₁)) →
    Pf.runF cfg₂ ax n₂ s₂ pf acc₂ = some (some (s₂', a₂', c₂)) →
    c₁.expand = c₂.expand := by
  intro hax hsh h1 h2 hr1 hr2
  exact (Pf.runF_sem cfg₁ ax n₁ s₁ pf acc₁ s₁' a₁' c₁ hax hsh h1 hr1).1.functional
    (Pf.runF_sem cfg₂ ax n₂ s₂ pf acc₂ s₂' a₂' c₂ hax hsh h2 hr2).1

/-- the calls `Interpreter.pattern` made: quiet, and they lead from `s` to `s'` -/
theorem PySt.patternF_exec (cfg : Cfg) (n : Nat) (s : PySt) (p : NPat) (acc : List Call)
    (s' : PySt) (a' : List Call) :
    p.Shape = true → ShapeSt s → patternF cfg n s p acc = some (some (s', a')) →
    ∃ t cs, s'.stack = (.pat t, false) :: s.stack ∧ t.expand = p.expand ∧ a' = acc ++ cs ∧
      Exec s cs s' ∧ (∀ c ∈ cs, c.quiet = true) ∧ ShapeSt s' ∧ Frame s s' := by
  intro hp hSh h
  obtain ⟨s1, a1, e, t, ⟨hstk, hf, hsh, cs, hcs, hex, hq⟩, het, _⟩ :=
    (pattern_spec cfg n).1 s p acc _ hp hSh h
  cases e
  exact ⟨t, cs, hstk, het, hcs, hex, hq, hsh, hf⟩

/-- the calls a proof expression made: quiet, and they lead from `s` to `s'` -/
theorem Pf.runF_exec (cfg : Cfg) (ax : List NPat) (n : Nat) (s : PySt) (pf : Pf)
    (acc : List Call) (s' : PySt) (a' : List Call) (c : NPat) :
    AxShaped ax → pf.Shaped → ShapeSt s →
    Pf.runF cfg ax n s pf acc = some (some (s', a', c)) →
    ∃ cs, s'.stack = (.proved c, false) :: s.stack ∧ a' = acc ++ cs ∧ Exec s cs s' ∧
      (∀ x ∈ cs, x.quiet = true) ∧ ShapeSt s' ∧ Frame s s' := by
  intro hax hsh hSh h
  obtain ⟨⟨hstk, hf, hsh', cs, hcs, hex, hq⟩, _⟩ :=
    (run_all cfg ax hax n s pf acc _ hsh hSh h).1 s' a' c rfl
  exact ⟨cs, hstk, hcs, hex, hq, hsh', hf⟩

#print axioms PySt.patternF_spec
#print axioms PySt.patternListF_spec
#print axioms Pf.runF_conclusion
#print axioms Pf.runBasicF_conclusion
#print axioms Pf.runF_stack
#print axioms Pf.runF_agrees_basic
#print axioms Pf.basic_agrees_runF
#print axioms Pf.runF_cfg_independent
