import Pi2.KModRun
/-!
# The fragment of K execution modules

* `==` of a pattern headed by `∃` (after simplification), or of `(∃ … ) → …`, against a pattern of the propositional
  fragment is never `True` (`noEx`, `impEx`): the functional assumptions and the imported axiom of `Substitution`
  are never mistaken for a rewrite rule by `load_axiom`;
* `functional(v)` for a closed `v` of the fragment is machine-OK: the only constrained metavariable, `phi0` with
  `x0` fresh inside the definition of `functional`, receives a plug in which `x0` is fresh;
* instantiating a pattern of the fragment stays in the fragment (`instF_PF`);
* conversions of Kore terms are in the fragment, conversions of ground terms are closed (`conv_PF`,
  `conv_ground_closed`);
* what `traceF` builds (`trace_inv`).
-/
set_option linter.unusedSimpArgs false
set_option linter.unusedVariables false
open Pat PySt

namespace KMod
open NPat Kore

/-! ## `==` against the fragment -/

/-- `b` is well shaped and expands into the propositional fragment -/
def SPF (b : NPat) : Prop := b.Shape = true ∧ b.expand.PFS = true

theorem SPF.of_PF {b : NPat} (h : b.PF = true) : SPF b := ⟨PF.shape b h, PF.pfs b h⟩

theorem SPF.simp {n : Nat} {p : NPat} {m : List (Nat × NPat)} {s : NPat} (h : SPF (.inst p m))
    (hs : NPat.instF n m p = some s) : SPF s := by
  obtain ⟨h1, h2⟩ := h
  simp only [NPat.Shape, Bool.and_eq_true] at h1
  obtain ⟨e, sh⟩ := NPat.instF_expand n m p s h1.1 h1.2 hs
  refine ⟨sh, ?_⟩
  rw [e]
  simpa [NPat.expand] using h2

theorem noEx (n : Nat) : ∀ (b : NPat), SPF b → ∀ (x : VId) (y : NPat) (r : Bool),
    (NPat.peqF n b (.ex x y) = some r → r = false) ∧ (NPat.peqF n (.ex x y) b = some r → r = false) := by
  induction n with
  | zero => intro b _ x y r; simp [NPat.peqF]
  | succ n ih =>
    intro b hb x y r
    cases b with
    | inst p m =>
      -- either way round the notation node is simplified and stands on the left
      constructor <;>
      · intro h
        simp only [NPat.peqF, Option.bind_eq_bind, Option.bind_eq_some_iff] at h
        obtain ⟨s, hs, h⟩ := h
        exact (ih s (hb.simp hs) x y r).1 h
    | ex x' q => exact absurd hb.2 (by simp [NPat.expand, Pat.PFS])
    | _ => constructor <;> (intro h; simp only [NPat.peqF, Option.some.injEq] at h; exact h.symm)

theorem SPF.imp_left {l r : NPat} (h : SPF (.imp l r)) : SPF l := by
  obtain ⟨h1, h2⟩ := h
  simp only [NPat.Shape, NPat.expand, Pat.PFS, Bool.and_eq_true] at h1 h2
  exact ⟨h1.1, h2.1⟩

theorem impEx (n : Nat) : ∀ (b : NPat), SPF b → ∀ (x : VId) (y R : NPat) (r : Bool),
    (NPat.peqF n b (.imp (.ex x y) R) = some r → r = false) ∧
    (NPat.peqF n (.imp (.ex x y) R) b = some r → r = false) := by
  induction n with
  | zero => intro b _ x y R r; simp [NPat.peqF]
  | succ n ih =>
    intro b hb x y R r
    cases b with
    | inst p m =>
      constructor <;>
      · intro h
        simp only [NPat.peqF, Option.bind_eq_bind, Option.bind_eq_some_iff] at h
        obtain ⟨s, hs, h⟩ := h
        exact (ih s (hb.simp hs) x y R r).1 h
    | imp l r' =>
      constructor
      · intro h
        simp only [NPat.peqF, Option.bind_eq_bind, Option.bind_eq_some_iff] at h
        obtain ⟨a, ha, h⟩ := h
        have := (noEx n l hb.imp_left x y a).1 ha
        subst this
        simpa using h.symm
      · intro h
        simp only [NPat.peqF, Option.bind_eq_bind, Option.bind_eq_some_iff] at h
        obtain ⟨a, ha, h⟩ := h
        have := (noEx n l hb.imp_left x y a).2 ha
        subst this
        simpa using h.symm
    | _ => constructor <;> (intro h; simp only [NPat.peqF, Option.some.injEq] at h; exact h.symm)

/-- an axiom `(∃ x . …) → …` is never `==` to a pattern of the fragment -/
theorem peqOK_impEx (x : VId) (y R : NPat) : PeqOK (.imp (.ex x y) R) := by
  intro n b hb h
  have := (impEx n b (SPF.of_PF hb) x y R true).2 h
  cases this

/-- instantiating an `∃` gives an `∃` -/
theorem instF_ex {n : Nat} {δ : List (Nat × NPat)} {x : VId} {q s : NPat}
    (h : NPat.instF n δ (.ex x q) = some s) : ∃ q', s = .ex x q' := by
  cases n with
  | zero => simp [NPat.instF] at h
  | succ n =>
    simp only [NPat.instF] at h
    split at h
    · simp only [Option.some.injEq] at h; exact ⟨q, h.symm⟩
    · simp only [Option.bind_eq_bind, Option.bind_eq_some_iff, Option.pure_def, Option.some.injEq] at h
      obtain ⟨q', _, rfl⟩ := h
      exact ⟨q', rfl⟩

/-- a notation node over an `∃` is never `==` to a pattern of the fragment -/
theorem peqOK_instEx (x : VId) (q : NPat) (m : List (Nat × NPat)) : PeqOK (.inst (.ex x q) m) := by
  intro n b hb h
  cases n with
  | zero => simp [NPat.peqF] at h
  | succ n =>
    simp only [NPat.peqF, Option.bind_eq_bind, Option.bind_eq_some_iff] at h
    obtain ⟨s, hs, h⟩ := h
    obtain ⟨q', rfl⟩ := instF_ex hs
    have := (noEx n b (SPF.of_PF hb) x q' true).2 h
    cases this

/-! ## `functional(v)` -/

/-- the definition of the notation `functional` (`proofs/definedness.py`), from the regenerated table -/
def fnDef : NPat :=
  ((Gen.notations.find? fun e => e.group == "definedness" && e.label == "functional").map
    (·.definition)).getD (.sym 0)

def fnBody : NPat := match fnDef with | .ex _ q => q | _ => .sym 0

theorem fnDef_eq : fnDef = .ex 0 fnBody := by rfl

theorem functionalOf_eq (p : NPat) : functionalOf p = some (.inst fnDef [(0, p)]) := by rfl

/-- no substitution nodes; a metavariable is unconstrained or constrained only by "`x0` fresh" -/
def fnLike : Pat → Bool
  | .evar _ => true | .svar _ => true | .sym _ => true
  | .imp l r => fnLike l && fnLike r
  | .app l r => fnLike l && fnLike r
  | .ex _ p => fnLike p
  | .mu _ p => fnLike p
  | .mv _ ef sf ps ns _ => sf.isEmpty && ps.isEmpty && ns.isEmpty && (ef.isEmpty || ef == [0])
  | .esub _ _ _ => false
  | .ssub _ _ _ => false

theorem fn_facts : fnDef.MOK = true ∧ fnLike fnDef.expand = true := by decide +kernel

/-- the machine accepts an instantiation of such a pattern by plugs in which `x0` is fresh -/
theorem inst_fnLike (θ : VId → Option Pat) (hθ : ∀ k v, θ k = some v → v.eFresh 0 = true) :
    ∀ q : Pat, fnLike q = true → (Pat.inst θ q).isSome = true := by
  intro q
  induction q with
  | evar _ | svar _ | sym _ => intro _; simp [Pat.inst]
  | imp l r ihl ihr | app l r ihl ihr =>
    intro h
    simp only [fnLike, Bool.and_eq_true] at h
    obtain ⟨a, ha⟩ := Option.isSome_iff_exists.mp (ihl h.1)
    obtain ⟨b, hb⟩ := Option.isSome_iff_exists.mp (ihr h.2)
    simp [Pat.inst, ha, hb]
  | ex x p ih | mu x p ih =>
    intro h
    simp only [fnLike] at h
    obtain ⟨a, ha⟩ := Option.isSome_iff_exists.mp (ih h)
    simp [Pat.inst, ha]
  | mv id ef sf ps ns hs =>
    intro h
    simp only [fnLike, Bool.and_eq_true, List.isEmpty_iff, Bool.or_eq_true, beq_iff_eq] at h
    obtain ⟨⟨⟨rfl, rfl⟩, rfl⟩, hef⟩ := h
    simp only [Pat.inst]
    cases hk : θ id with
    | none => rfl
    | some v =>
      rcases hef with rfl | rfl
      · simp [Pat.okPlug]
      · simp [Pat.okPlug, hθ id v hk]
  | esub _ _ _ _ _ | ssub _ _ _ _ _ => intro h; simp [fnLike] at h

/-- **the functional assumption of a closed value is machine-OK** -/
theorem functional_MOK (v : NPat) (hv : v.PF = true) (hfr : v.expand.eFresh 0 = true) :
    (NPat.inst fnDef [(0, v)]).MOK = true := by
  have hm : fnDef.MOK = true := fn_facts.1
  simp only [MOK, MOKMap, hm, PF.mok v hv, Bool.and_self, Bool.true_and, List.map_cons, List.map_nil,
    List.nodup_cons, List.not_mem_nil, not_false_eq_true, List.nodup_nil, and_self, decide_true]
  apply inst_fnLike _ _ _ fn_facts.2
  intro k w hw
  simp only [NPat.expand.expandMap, Py.lookup] at hw
  split at hw
  · cases hw; exact hfr
  · cases hw

theorem functional_PeqOK (v : NPat) : PeqOK (NPat.inst fnDef [(0, v)]) := by
  rw [fnDef_eq]; exact peqOK_instEx 0 fnBody _

/-! ## instantiation stays in the fragment -/

theorem dedupKeys_spec : ∀ (l : List (Nat × NPat)) (seen : List Nat),
    ((dedupKeys l seen).map (·.1)).Nodup ∧ ∀ kv ∈ dedupKeys l seen, kv.1 ∉ seen := by
  intro l
  induction l with
  | nil => intro seen; simp [dedupKeys]
  | cons kv r ih =>
    intro seen
    obtain ⟨k, v⟩ := kv
    simp only [dedupKeys]
    split
    · exact ih seen
    · next hk =>
      obtain ⟨h1, h2⟩ := ih (k :: seen)
      have hk' : k ∉ seen := by simpa using hk
      refine ⟨?_, ?_⟩
      · simp only [List.map_cons, List.nodup_cons]
        refine ⟨?_, h1⟩
        intro hmem
        obtain ⟨kv', hkv', e⟩ := List.mem_map.mp hmem
        exact h2 kv' hkv' (by rw [e]; simp)
      · intro kv' hkv'
        rcases List.mem_cons.mp hkv' with rfl | hkv'
        · exact hk'
        · intro hs
          exact h2 kv' hkv' (List.mem_cons_of_mem _ hs)

theorem PFMap_append (a b : List (Nat × NPat)) : PFMap (a ++ b) = (PFMap a && PFMap b) := by
  induction a with
  | nil => simp [PFMap]
  | cons kv r ih => obtain ⟨k, v⟩ := kv; simp [PFMap, ih, Bool.and_assoc]

def InstPF (n : Nat) : Prop :=
  (∀ δ p r, p.PF = true → PFMap δ = true → NPat.instF n δ p = some r → r.PF = true) ∧
  (∀ δ m m', PFMap m = true → PFMap δ = true → NPat.mapF n δ m = some m' →
    PFMap m' = true ∧ m'.map (·.1) = m.map (·.1))

theorem instPF_step (n : Nat) (ih : InstPF n) : InstPF (n + 1) := by
  obtain ⟨ihI, ihM⟩ := ih
  constructor
  · intro δ p r hp hδ h
    cases p with
    | sym s => simp only [NPat.instF, Option.some.injEq] at h; subst h; rfl
    | mv id ef sf ps ns hs =>
      simp only [NPat.instF, Option.some.injEq] at h
      subst h
      cases hl : Py.lookup δ id with
      | none => exact hp
      | some q => exact (PFMap_iff δ).mp hδ _ (Py.lookup_mem _ _ _ hl)
    | imp l r' | app l r' =>
      simp only [PF, Bool.and_eq_true] at hp
      simp only [NPat.instF] at h
      split at h
      · simp only [Option.some.injEq] at h; subst h; simp [PF, hp.1, hp.2]
      · simp only [Option.bind_eq_bind, Option.bind_eq_some_iff, Option.pure_def, Option.some.injEq] at h
        obtain ⟨a, ha, b, hb, rfl⟩ := h
        simp [PF, ihI δ l a hp.1 hδ ha, ihI δ r' b hp.2 hδ hb]
    | mu X q =>
      have hp0 := hp
      simp only [PF, Bool.and_eq_true] at hp
      have hq := isSV0_eq hp.2
      subst hq
      simp only [NPat.instF] at h
      split at h
      · simp only [Option.some.injEq] at h; subst h; exact hp0
      · simp only [Option.bind_eq_bind, Option.bind_eq_some_iff, Option.pure_def, Option.some.injEq] at h
        obtain ⟨a, ha, rfl⟩ := h
        cases n with
        | zero => simp [NPat.instF] at ha
        | succ n =>
          simp only [NPat.instF, Option.some.injEq] at ha
          subst ha
          exact hp0
    | inst q m =>
      simp only [PF, Bool.and_eq_true, decide_eq_true_eq] at hp
      obtain ⟨⟨hq, hm⟩, hnd⟩ := hp
      simp only [NPat.instF, Option.bind_eq_bind, Option.bind_eq_some_iff, Option.pure_def,
        Option.some.injEq] at h
      obtain ⟨m', hm', mvs, _, rfl⟩ := h
      obtain ⟨hpm, hkeys⟩ := ihM δ m m' hm hδ hm'
      obtain ⟨hdn, hdseen⟩ := dedupKeys_spec
        (δ.filter fun x => !(keys m).contains x.1 && mvs.contains x.1) []
      have hdm : ∀ kv ∈ dedupKeys (δ.filter fun x => !(keys m).contains x.1 && mvs.contains x.1) [],
          kv ∈ δ ∧ kv.1 ∉ keys m := by
        intro kv hkv
        have := mem_dedupKeys _ _ _ hkv
        simp only [List.mem_filter, Bool.and_eq_true, Bool.not_eq_true', List.contains_eq_mem,
          decide_eq_false_iff_not, decide_eq_true_eq] at this
        exact ⟨this.1, this.2.1⟩
      simp only [PF, hq, PFMap_append, hpm, Bool.true_and, Bool.and_eq_true, decide_eq_true_eq]
      refine ⟨?_, ?_⟩
      · rw [PFMap_iff]
        intro kv hkv
        exact (PFMap_iff δ).mp hδ kv (hdm kv hkv).1
      · rw [List.map_append, hkeys]
        refine List.nodup_append.mpr ⟨hnd, hdn, ?_⟩
        intro a ha b hb e
        subst e
        obtain ⟨kv, hkv, rfl⟩ := List.mem_map.mp hb
        exact (hdm kv hkv).2 ha
    | _ => simp [PF] at hp
  · intro δ m m' hm hδ h
    cases m with
    | nil => simp only [NPat.mapF, Option.some.injEq] at h; subst h; exact ⟨rfl, rfl⟩
    | cons kv r =>
      obtain ⟨k, v⟩ := kv
      simp only [PFMap, Bool.and_eq_true] at hm
      simp only [NPat.mapF, Option.bind_eq_bind, Option.bind_eq_some_iff, Option.pure_def,
        Option.some.injEq] at h
      obtain ⟨v', hv', r', hr', rfl⟩ := h
      obtain ⟨h1, h2⟩ := ihM δ r r' hm.2 hδ hr'
      exact ⟨by simp [PFMap, ihI δ v v' hm.1 hδ hv', h1], by simp [h2]⟩

theorem instPF_all (n : Nat) : InstPF n := by
  induction n with
  | zero => exact ⟨fun _ _ _ _ _ h => by simp [NPat.instF] at h, fun _ _ _ _ _ h => by simp [NPat.mapF] at h⟩
  | succ n ih => exact instPF_step n ih

/-- instantiating a pattern of the propositional fragment by patterns of the fragment stays in the fragment -/
theorem instF_PF {n : Nat} {δ : List (Nat × NPat)} {p r : NPat} (hp : p.PF = true) (hδ : PFMap δ = true)
    (h : NPat.instF n δ p = some r) : r.PF = true := (instPF_all n).1 δ p r hp hδ h

/-! ## conversions of Kore terms -/

/-- closed patterns of the fragment: no variable of any kind but under `mu` -/
def PFG : Pat → Bool
  | .sym _ => true
  | .imp l r => PFG l && PFG r
  | .app l r => PFG l && PFG r
  | .mu _ p => p.isSV
  | _ => false

theorem PFG.eFresh (e : VId) : ∀ q : Pat, PFG q = true → q.eFresh e = true := by
  intro q
  induction q with
  | sym _ => intro _; rfl
  | imp l r ihl ihr | app l r ihl ihr =>
    intro h; simp only [PFG, Bool.and_eq_true] at h
    simp [Pat.eFresh, ihl h.1, ihr h.2]
  | mu X p _ =>
    intro h; simp only [PFG] at h
    cases p <;> simp [Pat.isSV] at h
    simp [Pat.eFresh]
  | _ => intro h; simp [PFG] at h

theorem pyinst_PFG (δ : VId → Option Pat) : ∀ q : Pat, q.PFS = true →
    (∀ k ∈ Py.metavars q, ∃ v, δ k = some v ∧ PFG v = true) → PFG (Py.inst δ q) = true := by
  intro q
  induction q with
  | sym _ => intro _ _; rfl
  | mv id ef sf ps ns hs =>
    intro _ h
    obtain ⟨v, hv, hg⟩ := h id (by simp [Py.metavars])
    simp [Py.inst, hv, hg]
  | imp l r ihl ihr | app l r ihl ihr =>
    intro hq h
    simp only [Pat.PFS, Bool.and_eq_true] at hq
    simp only [Py.inst, PFG, Bool.and_eq_true]
    exact ⟨ihl hq.1 (fun k hk => h k (by simp [Py.metavars, hk])),
      ihr hq.2 (fun k hk => h k (by simp [Py.metavars, hk]))⟩
  | mu X p _ =>
    intro hq _
    simp only [Pat.PFS] at hq
    cases p <;> simp [Pat.isSV] at hq
    simp [Py.inst, PFG, Pat.isSV]
  | _ => intro hq; simp [Pat.PFS] at hq

/-- every notation of `proofs/kore.py` but the two binders is defined by a pattern of the fragment -/
theorem kore_entries_PF : ∀ e ∈ Gen.notations, e.group = "kore" →
    e.definition.PF = true ∨ e.label = "kore-exists" ∨ e.label = "sorted-exists" := by decide +kernel

theorem koreNotation_PF {L : String} (hL : L ≠ "kore-exists" ∧ L ≠ "sorted-exists") {d : NPat} {ar : Nat}
    (h : koreNotation L = some (d, ar)) : d.PF = true := by
  unfold koreNotation at h
  simp only [Option.map_eq_some_iff, Prod.mk.injEq] at h
  obtain ⟨e, he, rfl, rfl⟩ := h
  have hp := List.find?_some he
  simp only [Bool.and_eq_true, beq_iff_eq] at hp
  rcases kore_entries_PF e (List.mem_of_find?_eq_some he) hp.1 with h | h | h
  · exact h
  · exact absurd (hp.2 ▸ h) hL.1
  · exact absurd (hp.2 ▸ h) hL.2

theorem naryDef_PF (s n : Nat) : (naryDef (.sym s) n).PF = true := by
  induction n with
  | zero => rw [naryDef_zero]; rfl
  | succ n ih => rw [naryDef_succ]; simp [PF, ih, mvN]

theorem head_PF (sg : Sig) (t : KTerm) (d : NPat) (ar : Nat) (h : t.head sg = some (d, ar)) :
    d.PF = true := by
  cases t with
  | evar x => simp [KTerm.head] at h
  | app f ss as =>
    simp only [KTerm.head, Option.bind_eq_some_iff] at h
    obtain ⟨sd, _, h⟩ := h
    split at h
    · exact koreNotation_PF (by simp) h
    · simp only [Option.some.injEq, Prod.mk.injEq] at h
      obtain ⟨rfl, rfl⟩ := h
      exact naryDef_PF _ _
  | _ => exact koreNotation_PF (by simp) h

theorem IsSortPat.PF {p : NPat} (h : IsSortPat p) : p.PF = true := by
  rcases h with ⟨i, _, rfl⟩ | ⟨n, rfl⟩ <;> simp [mvN, sortSym, NPat.PF]

theorem PF_node (d : NPat) (ar : Nat) (args : List NPat) (hd : d.PF = true) (hlen : args.length = ar)
    (hargs : ∀ a ∈ args, a.PF = true) : (NPat.inst d ((List.range ar).zip args)).PF = true := by
  simp only [PF, hd, Bool.true_and, Bool.and_eq_true, decide_eq_true_eq]
  refine ⟨?_, ?_⟩
  · rw [PFMap_iff]
    intro kv hkv
    exact hargs _ (List.of_mem_zip hkv).2
  · rw [show ((List.range ar).zip args).map (·.1) = List.range ar from List.map_fst_zip (by simp [hlen])]
    exact List.nodup_range

theorem convSorts_ground_sym (sg : Sig) : ∀ (ss : List KSort) (sc sc' : Scope) (sp : List NPat),
    ss.all KSort.ground = true → convSorts sg sc ss = some (sc', sp) → ∀ p ∈ sp, ∃ n, p = sortSym n := by
  intro ss
  induction ss with
  | nil =>
    intro sc sc' sp _ h
    simp only [convSorts, Option.some.injEq, Prod.mk.injEq] at h
    obtain ⟨_, rfl⟩ := h
    simp
  | cons s ss ih =>
    intro sc sc' sp hg h
    simp only [List.all_cons, Bool.and_eq_true] at hg
    simp only [convSorts, Option.bind_eq_bind, Option.bind_eq_some_iff, Option.pure_def, Option.some.injEq,
      Prod.mk.injEq, Prod.exists] at h
    obtain ⟨sc1, p, h1, sc3, ps, h3, rfl, rfl⟩ := h
    intro q hq
    cases hq with
    | head =>
      cases s with
      | var x => simp [KSort.ground] at hg
      | app n =>
        simp only [convSort] at h1
        split at h1
        · simp only [Option.some.injEq, Prod.mk.injEq] at h1
          exact ⟨n, h1.2.symm⟩
        · cases h1
    | tail _ hq => exact ih sc1 sc3 ps hg.2 h3 q hq

/-- conversions are in the fragment; conversions of ground terms are closed -/
theorem conv_frag (sg : Sig) :
    (∀ t : KTerm, ∀ sc sc' p, conv sg sc t = some (sc', p) →
      p.PF = true ∧ (t.ground = true → PFG p.expand = true)) ∧
    (∀ ts : List KTerm, ∀ sc sc' ps, convList sg sc ts = some (sc', ps) →
      ∀ p ∈ ps, p.PF = true ∧ (groundList ts = true → PFG p.expand = true)) := by
  apply KTerm.ind
  · intro x sc sc' p h
    rw [conv_evar] at h
    simp only [Option.some.injEq, Prod.mk.injEq] at h
    obtain ⟨_, rfl⟩ := h
    exact ⟨by simp [mvN, NPat.PF], fun hg => by simp [KTerm.ground] at hg⟩
  · intro t ht ih sc sc' p h
    obtain ⟨d, ar, sc1, sp, ap, hh, hs, hl, hlen, rfl⟩ := (conv_node_iff sg sc sc' t p ht).mp h
    have hd := head_PF sg t d ar hh
    constructor
    · obtain ⟨_, hsp, _, _, _⟩ := convSorts_spec sg _ _ _ _ hs
      apply PF_node d ar _ hd hlen
      intro a ha
      simp only [List.mem_append] at ha
      rcases ha with (ha | ha) | ha
      · exact IsSortPat.PF (hsp a ha)
      · obtain ⟨v, rfl⟩ := extra_spec t a ha; rfl
      · exact (ih sc1 sc' ap hl a ha).1
    · intro hg
      rw [ground_node t ht, Bool.and_eq_true] at hg
      rw [node_expand d ar _ hlen]
      apply pyinst_PFG _ _ (PF.pfs d hd)
      intro k hk
      have hlt : k < (sp ++ t.extra ++ ap).length := by
        rw [hlen]; exact (head_good sg t d ar hh).2.1 k hk
      refine ⟨((sp ++ t.extra ++ ap)[k]).expand, by rw [List.getElem?_eq_getElem hlt]; rfl, ?_⟩
      have hmem : (sp ++ t.extra ++ ap)[k] ∈ sp ++ t.extra ++ ap := List.getElem_mem hlt
      generalize (sp ++ t.extra ++ ap)[k] = a at hmem
      simp only [List.mem_append] at hmem
      rcases hmem with (ha | ha) | ha
      · obtain ⟨n, rfl⟩ := convSorts_ground_sym sg _ _ _ _ hg.1 hs a ha; rfl
      · obtain ⟨v, rfl⟩ := extra_spec t a ha; rfl
      · exact (ih sc1 sc' ap hl a ha).2 hg.2
  · intro sc sc' ps h
    rw [convList_nil] at h
    simp only [Option.some.injEq, Prod.mk.injEq] at h
    obtain ⟨_, rfl⟩ := h
    simp
  · intro t ts iht ihts sc sc' ps h
    obtain ⟨sc1, p, ps', h1, h2, rfl⟩ := (convList_cons_iff sg sc sc' t ts ps).mp h
    intro q hq
    simp only [groundList, Bool.and_eq_true]
    cases hq with
    | head => exact ⟨(iht sc sc1 p h1).1, fun hg => (iht sc sc1 p h1).2 hg.1⟩
    | tail _ hq => exact ⟨(ihts sc1 sc' ps' h2 q hq).1, fun hg => (ihts sc1 sc' ps' h2 q hq).2 hg.2⟩

/-- **conversions of Kore terms are in the propositional fragment** -/
theorem conv_PF (sg : Sig) (sc sc' : Scope) (t : KTerm) (p : NPat) (h : conv sg sc t = some (sc', p)) :
    p.PF = true := ((conv_frag sg).1 t sc sc' p h).1

/-- **the conversion of a ground Kore term is closed**: no metavariable, no free element or set variable — in
particular every element variable is fresh in it -/
theorem conv_ground_closed (sg : Sig) (sc sc' : Scope) (t : KTerm) (p : NPat) (hg : t.ground = true)
    (h : conv sg sc t = some (sc', p)) :
    p.PF = true ∧ PFG p.expand = true ∧ ∀ e, p.expand.eFresh e = true :=
  have ⟨h1, h2⟩ := (conv_frag sg).1 t sc sc' p h
  ⟨h1, h2 hg, fun e => PFG.eFresh e _ (h2 hg)⟩

/-! ## what `traceF` builds -/

/-- the axioms of an execution module: a rule of the fragment, or the functional assumption of a closed value -/
def KAx (a : NPat) : Prop :=
  a.PF = true ∨ ∃ v, v.PF = true ∧ v.expand.eFresh 0 = true ∧ a = .inst fnDef [(0, v)]

theorem KAx.gax {a : NPat} (h : KAx a) : GAx a := by
  rcases h with h | ⟨v, hv, hfr, rfl⟩
  · exact ⟨PF.mok a h, PeqOK.of_shape (PF.shape a h)⟩
  · exact ⟨functional_MOK v hv hfr, functional_PeqOK v⟩

/-- a step of the fragment: the rule and the values of the substitution are in the propositional fragment, the keys
are distinct, `x0` is fresh in every value (true of every closed value) -/
def stepOK (st : NPat × List (Nat × NPat)) : Bool :=
  st.1.PF && PFMap st.2 && decide ((st.2.map (·.1)).Nodup) && st.2.all fun kv => kv.2.expand.eFresh 0

/-- the decidable fragment of traces (on converted inputs) -/
def KSteps (steps : List (NPat × List (Nat × NPat))) : Bool := steps.all stepOK

structure KInv (st : ExecSt) : Prop where
  axioms : ∀ a ∈ st.axioms, KAx a
  claims : ∀ c ∈ st.claims, c.PF = true
  proofs : ∀ pf ∈ st.proofs, KPf pf
  len : st.claims.length = st.proofs.length

theorem kinv_init (init : NPat) : KInv (initSt init) :=
  ⟨by simp [initSt], by simp [initSt], by simp [initSt], rfl⟩

theorem addAxiomF_mem {n : Nat} {axs axs' : List NPat} {p : NPat} (h : addAxiomF n axs p = some axs') :
    ∀ a ∈ axs', a ∈ axs ∨ a = p := by
  simp only [addAxiomF, Option.bind_eq_bind, Option.bind_eq_some_iff] at h
  obtain ⟨b, _, h⟩ := h
  cases b with
  | true => simp only [if_true, Option.pure_def, Option.some.injEq] at h; subst h; exact fun a ha => Or.inl ha
  | false =>
    simp only [Bool.false_eq_true, if_false, Option.pure_def, Option.some.injEq] at h
    subst h
    intro a ha
    rcases List.mem_append.mp ha with ha | ha
    · exact Or.inl ha
    · exact Or.inr (by simpa using ha)

theorem addFunctionalF_mem (sg : Sig) (n : Nat) : ∀ (σ : List (Nat × NPat)) (axs axs' : List NPat),
    addFunctionalF sg n axs σ = some (some axs') →
    ∀ a ∈ axs', a ∈ axs ∨ ∃ kv ∈ σ, a = .inst fnDef [(0, kv.2)] := by
  intro σ
  induction σ with
  | nil =>
    intro axs axs' h
    simp only [addFunctionalF, Option.some.injEq] at h
    subst h
    exact fun a ha => Or.inl ha
  | cons kv r ih =>
    intro axs axs' h
    obtain ⟨k, p⟩ := kv
    simp only [addFunctionalF, Option.bind_eq_bind, Option.bind_eq_some_iff] at h
    obtain ⟨⟨hd, args⟩, _, h⟩ := h
    split at h
    · split at h
      · split at h
        · split at h
          · rw [functionalOf_eq] at h
            simp only [Option.bind_eq_bind, Option.bind_eq_some_iff] at h
            obtain ⟨axs1, h1, h⟩ := h
            intro a ha
            rcases ih axs1 axs' h a ha with ha1 | ⟨kv, hkv, rfl⟩
            · rcases addAxiomF_mem h1 a ha1 with ha0 | rfl
              · exact Or.inl ha0
              · exact Or.inr ⟨(k, p), by simp, rfl⟩
            · exact Or.inr ⟨kv, List.mem_cons_of_mem _ hkv, rfl⟩
          · simp at h
        · simp at h
      · simp at h
    · simp at h

theorem rewriteEvent_full (sg : Sig) (n : Nat) (st st' : ExecSt) (rule : NPat) (σ : List (Nat × NPat))
    (h : rewriteEventF sg n st rule σ = some (some st')) :
    ∃ inst axs1, NPat.instF n σ rule = some inst ∧ addFunctionalF sg n st.axioms σ = some (some axs1) ∧
      addAxiomF n axs1 rule = some st'.axioms ∧ st'.claims = st.claims ++ [inst] ∧
      st'.proofs = st.proofs ++ [if σ.isEmpty then .loadAxiom rule else .dynInst (.loadAxiom rule) σ] := by
  unfold rewriteEventF at h
  simp only [Option.bind_eq_bind, Option.bind_eq_some_iff, Option.pure_def] at h
  obtain ⟨inst, hi, h⟩ := h
  split at h
  · simp only [Option.bind_eq_some_iff] at h
    obtain ⟨mr, _, h⟩ := h
    split at h
    · simp only [Option.bind_eq_some_iff] at h
      obtain ⟨b, _, h⟩ := h
      split at h
      · cases h
      · simp only [Option.bind_eq_some_iff] at h
        obtain ⟨fr, hf, h⟩ := h
        split at h
        · cases h
        · simp only [Option.bind_eq_some_iff, Option.some.injEq] at h
          obtain ⟨axs2, ha, rfl⟩ := h
          exact ⟨inst, _, hi, hf, ha, rfl, rfl⟩
    · cases h
  · cases h

theorem rewriteEvent_inv (sg : Sig) (n : Nat) (st st' : ExecSt) (rule : NPat) (σ : List (Nat × NPat))
    (hok : stepOK (rule, σ) = true) (hinv : KInv st)
    (h : rewriteEventF sg n st rule σ = some (some st')) : KInv st' := by
  simp only [stepOK, Bool.and_eq_true, decide_eq_true_eq, List.all_eq_true] at hok
  obtain ⟨⟨⟨hrule, hσ⟩, hnd⟩, hfr⟩ := hok
  obtain ⟨inst, axs1, hi, hf, ha, hcl, hpf⟩ := rewriteEvent_full sg n st st' rule σ h
  refine ⟨?_, ?_, ?_, ?_⟩
  · intro a ha'
    rcases addAxiomF_mem ha a ha' with h1 | rfl
    · rcases addFunctionalF_mem sg n σ _ _ hf a h1 with h0 | ⟨kv, hkv, rfl⟩
      · exact hinv.axioms a h0
      · exact Or.inr ⟨kv.2, (PFMap_iff σ).mp hσ kv hkv, hfr kv hkv, rfl⟩
    · exact Or.inl hrule
  · intro c hc
    rw [hcl] at hc
    rcases List.mem_append.mp hc with hc | hc
    · exact hinv.claims c hc
    · simp only [List.mem_singleton] at hc
      subst hc
      exact instF_PF hrule hσ hi
  · intro pf hp
    rw [hpf] at hp
    rcases List.mem_append.mp hp with hp | hp
    · exact hinv.proofs pf hp
    · simp only [List.mem_singleton] at hp
      exact ⟨rule, σ, hrule, hσ, hnd, hp⟩
  · rw [hcl, hpf]; simp [hinv.len]

/-- **what a trace of the fragment builds**: axioms that are rules of the fragment or functional assumptions of
closed values; claims in the fragment; one proof `load_axiom` / `dynamic_inst(load_axiom)` per claim -/
theorem trace_inv (sg : Sig) (n : Nat) : ∀ (steps : List (NPat × List (Nat × NPat))) (st st' : ExecSt),
    KSteps steps = true → KInv st → traceF sg n st steps = some (some st') → KInv st' := by
  intro steps
  induction steps with
  | nil =>
    intro st st' _ hinv h
    simp only [traceF, Option.some.injEq] at h
    subst h
    exact hinv
  | cons step r ih =>
    intro st st' hok hinv h
    obtain ⟨rule, σ⟩ := step
    simp only [KSteps, List.all_cons, Bool.and_eq_true] at hok
    obtain ⟨st1, h1, h2⟩ := traceF_cons_inv sg n st st' rule σ r h
    exact ih st1 st' hok.2 (rewriteEvent_inv sg n st st1 rule σ hok.1 hinv h1) h2

/-! ## converted substitutions -/

/-- keys distinct, values in the fragment and closed -/
def SubOK (δ : List (Nat × NPat)) : Prop :=
  (δ.map (·.1)).Nodup ∧ ∀ kv ∈ δ, kv.2.PF = true ∧ ∀ e, kv.2.expand.eFresh e = true

theorem subOK_update {acc : List (Nat × NPat)} (h : SubOK acc) (i : Nat) (p : NPat)
    (hp : p.PF = true ∧ ∀ e, p.expand.eFresh e = true) :
    SubOK (if acc.any (·.1 == i) then acc.map (fun (k, v) => if k == i then (k, p) else (k, v))
      else acc ++ [(i, p)]) := by
  obtain ⟨hnd, hv⟩ := h
  split
  · refine ⟨?_, ?_⟩
    · have : (acc.map (fun (k, v) => if k == i then (k, p) else (k, v))).map (·.1) = acc.map (·.1) := by
        rw [List.map_map]
        apply List.map_congr_left
        intro kv _
        obtain ⟨k, v⟩ := kv
        simp only [Function.comp]
        split <;> rfl
      rw [this]; exact hnd
    · intro kv hkv
      obtain ⟨kv0, hkv0, rfl⟩ := List.mem_map.mp hkv
      obtain ⟨k, v⟩ := kv0
      simp only []
      split
      · exact hp
      · exact hv _ hkv0
  · next hany =>
    refine ⟨?_, ?_⟩
    · rw [List.map_append]
      refine List.nodup_append.mpr ⟨hnd, by simp, ?_⟩
      intro a ha b hb e
      subst e
      simp only [List.map_cons, List.map_nil, List.mem_singleton] at hb
      subst hb
      obtain ⟨kv, hkv, e⟩ := List.mem_map.mp ha
      apply hany
      rw [List.any_eq_true]
      exact ⟨kv, hkv, by simp [e]⟩
    · intro kv hkv
      rcases List.mem_append.mp hkv with hkv | hkv
      · exact hv kv hkv
      · simp only [List.mem_singleton] at hkv
        subst hkv
        exact hp

/-- **a converted ground substitution is in the fragment**: distinct keys, closed values -/
theorem convertSubst_ok (sg : Sig) : ∀ (σ : List (Nat × KTerm)) (sc sc' : Scope) (acc δ : List (Nat × NPat)),
    (∀ x t, (x, t) ∈ σ → t.ground = true) → SubOK acc →
    convertSubst sg sc σ acc = some (sc', δ) → SubOK δ := by
  intro σ
  induction σ with
  | nil =>
    intro sc sc' acc δ _ hacc h
    simp only [convertSubst, Option.some.injEq, Prod.mk.injEq] at h
    obtain ⟨_, rfl⟩ := h
    exact hacc
  | cons xt r ih =>
    intro sc sc' acc δ hg hacc h
    obtain ⟨x, t⟩ := xt
    simp only [convertSubst, Option.bind_eq_bind, Option.bind_eq_some_iff] at h
    obtain ⟨i, _, ⟨sc1, p⟩, hc, h⟩ := h
    obtain ⟨hpf, _, hfr⟩ := conv_ground_closed sg sc sc1 t p (hg x t (by simp)) hc
    exact ih sc1 sc' _ δ (fun y u hyu => hg y u (List.mem_cons_of_mem _ hyu))
      (subOK_update hacc i p ⟨hpf, hfr⟩) h

theorem SubOK.stepOK {rule : NPat} {δ : List (Nat × NPat)} (hr : rule.PF = true) (h : SubOK δ) :
    stepOK (rule, δ) = true := by
  simp only [KMod.stepOK, hr, Bool.true_and, Bool.and_eq_true, decide_eq_true_eq, List.all_eq_true]
  exact ⟨⟨(PFMap_iff δ).mpr fun kv hkv => (h.2 kv hkv).1, h.1⟩, fun kv hkv => (h.2 kv hkv).2 0⟩

end KMod
