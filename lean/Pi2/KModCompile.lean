import Pi2.KModSeg
/-!
# `pattern` compiles a pattern into instructions the machine accepts, plain or memoising

`NPat.MOK p` ("machine OK", decidable): every check the machine makes while the instructions of `p` run succeeds —
positivity under `mu`, well-formed metavariables, meta-headed substitution nodes that are not trivial, and at every
notation node the constraint checks of `instantiate` on the plugs (distinct keys).  No `Shape` condition: constrained
metavariables are allowed.

`MemoizingInterpreter.pattern(p)` (`patternF { memo := some S }`): if `p` is `==` to a memory entry, `load` it; else
build it and `save` it if `p ∈ S`.  On the machine `save` appends the top of the stack to the memory and `load i`
pushes entry `i`, so what has to be shown is that the entry `memory.index(p)` finds — the first one `==` to `p` — has
the expansion of `p`.  The development is stated for a class `Q` of patterns that is closed under sub-patterns and on
which `==` is truthful if the configuration memoises (`Memoable cfg Q`); the plain configuration asks nothing of `Q`.

`pattern_compilesG`: the calls `pattern p` makes push `p` on the tracker and save patterns `e` of `Q`; the
instructions written for them push `ren ρ p.expand` on the machine and save the images of `e`, for every `ρ` that
agrees with the symbol table afterwards; every call satisfies `SideK`.
-/
set_option linter.unusedSimpArgs false
set_option linter.unusedVariables false
open Pat PySt

namespace NPat

mutual
def MOK : NPat → Bool
  | .evar _ => true | .svar _ => true | .sym _ => true
  | .imp l r => l.MOK && r.MOK
  | .app l r => l.MOK && r.MOK
  | .ex _ p => p.MOK
  | .mu X p => p.MOK && p.expand.pos X
  | .mv _ ef _ _ _ hs => !(hs.any (ef.contains ·))
  | .esub q x plug =>
      q.isMetaHead && q.MOK && plug.MOK && !(plug.expand == Pat.evar x) && !(q.expand.eFresh x)
  | .ssub q X plug =>
      q.isMetaHead && q.MOK && plug.MOK && !(plug.expand == Pat.svar X) && !(q.expand.sFresh X)
  | .inst q m =>
      q.MOK && MOKMap m && decide ((m.map (·.1)).Nodup) &&
        (Pat.inst (Py.lookup (expand.expandMap m)) q.expand).isSome
def MOKMap : List (Nat × NPat) → Bool
  | [] => true
  | (_, v) :: r => v.MOK && MOKMap r
end

theorem MOKMap_iff (m : List (Nat × NPat)) : MOKMap m = true ↔ ∀ kv ∈ m, kv.2.MOK = true := by
  induction m with
  | nil => simp [MOKMap]
  | cons kv r ih => obtain ⟨k, v⟩ := kv; simp [MOKMap, ih]

theorem MOKMap_vals {m : List (Nat × NPat)} (h : MOKMap m = true) : ∀ v ∈ m.map (·.2), v.MOK = true := by
  intro v hv
  obtain ⟨kv, hkv, rfl⟩ := List.mem_map.mp hv
  exact (MOKMap_iff m).mp h kv hkv

end NPat

namespace KMod
open NPat

/-! ## frames -/

/-- `top` was pushed, nothing else changed but the symbol table, which grew -/
structure Pushed (s s' : PySt) (top : List (TTerm × Bool)) : Prop where
  stack : s'.stack = top ++ s.stack
  memory : s'.memory = s.memory
  claims : s'.claims = s.claims
  phase : s'.phase = s.phase
  symtab : ∃ e, s'.symtab = s.symtab ++ e

/-- `top` was pushed and the patterns `e` were saved — by a memoising configuration only, patterns of `Q` only;
nothing else changed but the symbol table, which grew -/
structure PushedG (cfg : Cfg) (Q : NPat → Prop) (s s' : PySt) (top : List (TTerm × Bool)) (e : List NPat) :
    Prop where
  stack : s'.stack = top ++ s.stack
  memory : s'.memory = s.memory ++ e.map .pat
  saved : ∀ q ∈ e, Q q ∧ cfg.memo ≠ none
  claims : s'.claims = s.claims
  phase : s'.phase = s.phase
  symtab : ∃ t, s'.symtab = s.symtab ++ t

def MemQ (Q : NPat → Prop) (mem : List TTerm) : Prop := ∀ q, TTerm.pat q ∈ mem → Q q

section
variable {cfg : Cfg} {Q : NPat → Prop} {s s1 s2 : PySt} {t1 t2 : List (TTerm × Bool)} {e1 e2 : List NPat}

theorem PushedG.refl (s : PySt) : PushedG cfg Q s s [] [] :=
  ⟨rfl, by simp, by simp, rfl, rfl, ⟨[], by simp⟩⟩

theorem PushedG.push (s : PySt) (t : TTerm) : PushedG cfg Q s (s.push t) [(t, false)] [] :=
  ⟨rfl, by simp [PySt.push], by simp, rfl, rfl, ⟨[], by simp [PySt.push]⟩⟩

theorem PushedG.trans (h1 : PushedG cfg Q s s1 t1 e1) (h2 : PushedG cfg Q s1 s2 t2 e2) :
    PushedG cfg Q s s2 (t2 ++ t1) (e1 ++ e2) := by
  obtain ⟨x1, hx1⟩ := h1.symtab
  obtain ⟨x2, hx2⟩ := h2.symtab
  exact ⟨by rw [h2.stack, h1.stack, List.append_assoc],
    by rw [h2.memory, h1.memory, List.map_append, List.append_assoc],
    fun q hq => (List.mem_append.mp hq).elim (h1.saved q) (h2.saved q),
    h2.claims.trans h1.claims, h2.phase.trans h1.phase, ⟨x1 ++ x2, by rw [hx2, hx1, List.append_assoc]⟩⟩

/-- the consumed top entries are replaced by one -/
theorem PushedG.replace (h : PushedG cfg Q s s2 t1 e1) (x : TTerm × Bool) :
    PushedG cfg Q s { s2 with stack := x :: s.stack } [x] e1 :=
  ⟨rfl, h.memory, h.saved, h.claims, h.phase, h.symtab⟩

theorem PushedG.agree {ρ : Nat → Nat} (h : PushedG cfg Q s s1 t1 e1) (ha : Agree ρ s1.symtab) :
    Agree ρ s.symtab := by
  obtain ⟨x, hx⟩ := h.symtab
  rw [hx] at ha
  exact ha.prefix

theorem PushedG.memQ (h : PushedG cfg Q s s1 t1 e1) (hQ : MemQ Q s.memory) : MemQ Q s1.memory := by
  intro q hq
  rw [h.memory] at hq
  rcases List.mem_append.mp hq with hq | hq
  · exact hQ q hq
  · obtain ⟨x, hx, e⟩ := List.mem_map.mp hq
    cases e
    exact (h.saved q hx).1

end

/-- the machine with patterns pushed (head = top) -/
def mpush (m : St) (ps : List Pat) : St := { m with stack := ps.map Term.pat ++ m.stack }

@[simp] theorem mpush_nil (m : St) : mpush m [] = m := rfl

/-- the machine's image of a tracked term under a symbol naming -/
def convR (ρ : Nat → Nat) : TTerm → Term
  | .pat p => .pat (ren ρ p.expand)
  | .proved p => .proved (ren ρ p.expand)

def MRel (ρ : Nat → Nat) (s : PySt) (m : St) : Prop := m.memory = s.memory.map (convR ρ)

/-- the machine with the images of the patterns `e` saved -/
def msave (ρ : Nat → Nat) (m : St) (e : List NPat) : St :=
  { m with memory := m.memory ++ (e.map TTerm.pat).map (convR ρ) }

/-- the machine after a segment: the images of `e` saved, the patterns `ps` pushed -/
def mafter (ρ : Nat → Nat) (m : St) (e : List NPat) (ps : List Pat) : St := mpush (msave ρ m e) ps

theorem mafter_nil (ρ : Nat → Nat) (m : St) (ps : List Pat) : mafter ρ m [] ps = mpush m ps := by
  simp [mafter, msave]

theorem mafter_mafter (ρ : Nat → Nat) (m : St) (e1 e2 : List NPat) (a b : List Pat) :
    mafter ρ (mafter ρ m e1 a) e2 b = mafter ρ m (e1 ++ e2) (b ++ a) := by
  simp [mafter, msave, mpush, List.append_assoc]

theorem msave_nil (ρ : Nat → Nat) (m : St) : msave ρ m [] = m := by simp [msave]

theorem mrel_msave {ρ : Nat → Nat} {s s' : PySt} {m : St} {e : List NPat}
    (hs : s'.memory = s.memory ++ e.map .pat) (hm : MRel ρ s m) : MRel ρ s' (msave ρ m e) := by
  have hm : m.memory = s.memory.map (convR ρ) := hm
  show m.memory ++ _ = _
  rw [hs, List.map_append, hm]

theorem sideK_mk (s : PySt) (c : Call) (h1 : SideCond s c) (h2 : touchesResidue s c = false)
    (hk : ∀ keys, c ≠ .instantiate keys ∧ c ≠ .instantiatePattern keys) : SideK s c :=
  ⟨h1, h2, fun keys e => by rcases e with e | e; exact absurd e (hk keys).1; exact absurd e (hk keys).2⟩

theorem popPats_pats (l : List Pat) (rest : List Term) :
    popPats l.length (l.map Term.pat ++ rest) = some (l, rest) := by
  induction l with
  | nil => simp [popPats]
  | cons p l ih => simp [popPats, ih]

theorem touches_push0 (s : PySt) (c : Call) (h : c.arity = 0) : touchesResidue s c = false := by
  simp [touchesResidue, h]

/-! ## the machine's `Instantiate` on renamed plugs -/

theorem inst_plugs (ρ : Nat → Nat) (keys : List Nat) (vals : List NPat) (a r : Pat) (hnd : keys.Nodup)
    (hlen : vals.length = keys.length)
    (h : Pat.inst (Py.lookup (NPat.expand.expandMap (keys.zip vals))) a = some r) :
    Pat.inst (lookupPlug keys.reverse (vals.reverse.map fun p => ren ρ p.expand)) (ren ρ a)
      = some (ren ρ r) := by
  have e : (vals.reverse.map fun p => ren ρ p.expand) = ((vals.map NPat.expand).map (ren ρ)).reverse := by
    simp [List.map_reverse, List.map_map, Function.comp_def]
  have : lookupPlug keys.reverse (vals.reverse.map fun p => ren ρ p.expand)
      = fun k => (Py.lookup (NPat.expand.expandMap (keys.zip vals)) k).map (ren ρ) := by
    funext k
    rw [e, lookupPlug_reverse keys _ k hnd (by simp [hlen]), lookupPlug_ren, lookupPlug_zip]
  rw [this, inst_ren, h]
  rfl

theorem popPats_plugs (ρ : Nat → Nat) (keys : List Nat) (vals : List NPat) (rest : List Term)
    (hlen : vals.length = keys.length) :
    popPats keys.reverse.length ((vals.reverse.map fun p => ren ρ p.expand).map Term.pat ++ rest)
      = some (vals.reverse.map fun p => ren ρ p.expand, rest) := by
  have : keys.reverse.length = (vals.reverse.map fun p => ren ρ p.expand).length := by simp [hlen]
  rw [this]
  exact popPats_pats _ rest

/-- `Instantiate` on a pattern (`T = .pat`) or a proved pattern (`T = .proved`) over its plugs -/
theorem step_inst (T : Pat → Term) (hT : T = .pat ∨ T = .proved) (ρ : Nat → Nat) (ph : Phase) (m0 : St) (a r : Pat)
    (keys : List Nat) (vals : List NPat) (hnd : keys.Nodup) (hlen : vals.length = keys.length)
    (h : Pat.inst (Py.lookup (NPat.expand.expandMap (keys.zip vals))) a = some r) :
    step ph { m0 with stack := T (ren ρ a) ::
        ((vals.reverse.map fun p => ren ρ p.expand).map Term.pat ++ m0.stack) } (.instantiate keys.reverse)
      = some ({ m0 with stack := T (ren ρ r) :: m0.stack }, none) := by
  have hp := popPats_plugs ρ keys vals m0.stack hlen
  have hi := inst_plugs ρ keys vals a r hnd hlen h
  rcases hT with rfl | rfl <;> simp only [step, hp, hi, Option.bind_eq_bind, Option.bind_some, Option.pure_def]

theorem takePlugs_vals (vals : List NPat) (rest : List (TTerm × Bool)) :
    takePlugs vals.length (vals.reverse.map entry ++ rest) = some (vals, rest) := by
  have := takePlugs_rev vals.reverse rest
  simpa using this

/-- side condition of an instantiation whose term and plugs are known -/
theorem sideK_inst (s2 : PySt) (c : Call) (keys : List Nat) (vals : List NPat) (t : TTerm)
    (rest : List (TTerm × Bool))
    (hc : c = .instantiate keys ∨ c = .instantiatePattern keys) (hnd : keys.Nodup)
    (hlen : vals.length = keys.length)
    (hstk : s2.stack = (t, false) :: (vals.reverse.map entry ++ rest))
    (hinst : (Pat.inst (Py.lookup (NPat.expand.expandMap (keys.zip vals))) t.body.expand).isSome = true) :
    SideK s2 c := by
  have hres : ((vals.reverse.map entry ++ rest).take keys.length).any (·.2) = false := by
    have := take_entry vals.reverse rest
    simpa [hlen] using this
  have hsc : ∀ a b st0 plugs st', s2.stack = (a, b) :: st0 →
      PySt.takePlugs keys.length st0 = some (plugs, st') →
      (Pat.inst (Py.lookup (NPat.expand.expandMap (keys.zip plugs))) a.body.expand).isSome = true := by
    intro a b st0 plugs st' hs' htp
    rw [hstk] at hs'
    cases hs'
    rw [← hlen, takePlugs_vals] at htp
    cases htp
    exact hinst
  have htr : (s2.stack.take (keys.length + 1)).any (·.2) = false := by
    rw [hstk, List.take_succ_cons, List.any_cons, hres]; rfl
  rcases hc with rfl | rfl <;> exact ⟨hsc, htr, (fun _ e => by rcases e with e | e <;> cases e; exact hnd)⟩

theorem andThen_some {α β γ} {x : Option (Option (α × β))} {f : α → β → Option (Option γ)} {r : γ}
    (h : andThen x f = some (some r)) : ∃ a b, x = some (some (a, b)) ∧ f a b = some (some r) := by
  rcases andThen_eq_some x f _ h with ⟨_, e⟩ | h
  · cases e
  · exact h

theorem andThen3_some {α β γ δ} {x : Option (Option (α × β × γ))} {f : α → β → γ → Option (Option δ)} {r : δ}
    (h : andThen3 x f = some (some r)) : ∃ a b c, x = some (some (a, b, c)) ∧ f a b c = some (some r) := by
  rcases andThen3_eq_some x f _ h with ⟨_, e⟩ | h
  · cases e
  · exact h

theorem indexF_found (n : Nat) (t : TTerm) : ∀ (mem : List TTerm) (k i : Nat),
    indexF n t mem k = some (some i) →
    ∃ j u, i = k + j ∧ mem[j]? = some u ∧ teqF n u t = some true := by
  intro mem
  induction mem with
  | nil => intro k i h; simp [indexF] at h
  | cons u r ih =>
    intro k i h
    simp only [indexF, Option.bind_eq_bind, Option.bind_eq_some_iff] at h
    obtain ⟨b, hb, h⟩ := h
    cases b with
    | true =>
      simp only [if_true, Option.pure_def, Option.some.injEq] at h
      subst h
      exact ⟨0, u, rfl, by simp, hb⟩
    | false =>
      simp only [Bool.false_eq_true, if_false] at h
      obtain ⟨j, v, hj, hv, ht⟩ := ih (k + 1) i h
      exact ⟨j + 1, v, by omega, by simpa using hv, ht⟩


/-- what `pattern` under configuration `cfg` needs of the class `Q` of the patterns it is given: `Q` is closed under
the sub-patterns `pattern` recurses into and, if `cfg` memoises, `==` is truthful on `Q` -/
structure Memoable (cfg : Cfg) (Q : NPat → Prop) : Prop where
  imp : ∀ {l r}, Q (.imp l r) → Q l ∧ Q r
  app : ∀ {l r}, Q (.app l r) → Q l ∧ Q r
  ex : ∀ {x p}, Q (.ex x p) → Q p
  mu : ∀ {X p}, Q (.mu X p) → Q p
  esub : ∀ {p x q}, Q (.esub p x q) → Q p ∧ Q q
  ssub : ∀ {p X q}, Q (.ssub p X q) → Q p ∧ Q q
  inst : ∀ {p m}, Q (.inst p m) → Q p ∧ ∀ v ∈ m.map (·.2), Q v
  hit : cfg.memo ≠ none → ∀ n q p, Q q → Q p → peqF n q p = some true → q.expand = p.expand

theorem Memoable.plain : Memoable {} fun _ => True :=
  ⟨fun _ => ⟨trivial, trivial⟩, fun _ => ⟨trivial, trivial⟩, fun _ => trivial, fun _ => trivial,
    fun _ => ⟨trivial, trivial⟩, fun _ => ⟨trivial, trivial⟩, fun _ => ⟨trivial, fun _ _ => trivial⟩,
    fun h => absurd rfl h⟩

/-- between `(s, acc)` and `(s', a')` the tracker pushed the patterns `ps` (head = top) and saved patterns of `Q`;
for every naming `ρ` that agrees with the symbol table afterwards the instructions written for the calls push the
renamed expansions on the machine and save the images of what was saved.  A memoising configuration needs the memory
to hold patterns of `Q` only and the machine's memory to be its image. -/
def CompG (cfg : Cfg) (Q : NPat → Prop) (n : Nat) (s : PySt) (acc : List Call) (s' : PySt) (a' : List Call)
    (ps : List NPat) : Prop :=
  ∃ e, PushedG cfg Q s s' (ps.map entry) e ∧ ∃ cs, a' = acc ++ cs ∧
    ∀ (ρ : Nat → Nat) (m : St), Agree ρ s'.symtab → MemQ Q s.memory → (cfg.memo ≠ none → MRel ρ s m) →
      ∃ is, Sg n s m cs s' (mafter ρ m e (ps.map fun p => ren ρ p.expand)) is []

section
variable {cfg : Cfg} {Q : NPat → Prop}

def PatG (cfg : Cfg) (Q : NPat → Prop) (n k : Nat) : Prop :=
  ∀ s p acc s' a', patternF cfg k s p acc = some (some (s', a')) → p.MOK = true → Q p →
    CompG cfg Q n s acc s' a' [p]

def ListG (cfg : Cfg) (Q : NPat → Prop) (n k : Nat) : Prop :=
  ∀ s ps acc s' a', patternF.patternListF cfg k s ps acc = some (some (s', a')) →
    (∀ p ∈ ps, p.MOK = true) → (∀ p ∈ ps, Q p) → CompG cfg Q n s acc s' a' ps.reverse

/-- the second of two consecutive segments starts where the first ended -/
theorem CompG.then {n : Nat} {s s1 s2 : PySt} {acc a1 a2 : List Call} {ps1 ps2 : List NPat}
    (h1 : CompG cfg Q n s acc s1 a1 ps1) (h2 : CompG cfg Q n s1 a1 s2 a2 ps2) :
    CompG cfg Q n s acc s2 a2 (ps2 ++ ps1) := by
  obtain ⟨e1, P1, cs1, rfl, S1⟩ := h1
  obtain ⟨e2, P2, cs2, rfl, S2⟩ := h2
  refine ⟨e1 ++ e2, by simpa using P1.trans P2, cs1 ++ cs2, by simp, ?_⟩
  intro ρ m hag hQ hm
  obtain ⟨is1, G1⟩ := S1 ρ m (P2.agree hag) hQ hm
  obtain ⟨is2, G2⟩ := S2 ρ (mafter ρ m e1 (ps1.map fun p => ren ρ p.expand)) hag (P1.memQ hQ)
    fun h => mrel_msave P1.memory (hm h)
  rw [mafter_mafter] at G2
  exact ⟨is1 ++ is2, by simpa using G1.append G2⟩

/-- after a segment that pushed `ps`, one call that replaces them by `res` -/
theorem CompG.call {n k : Nat} (hk : k ≤ n) {s s1 s' : PySt} {acc a1 a' : List Call} {ps : List NPat}
    (h1 : CompG cfg Q n s acc s1 a1 ps) (res : NPat) (c : Call) (i : Instr)
    (h : doCalls k s1 [c] a1 = some (some (s', a')))
    (htr : ∀ n', track1 n' s1 c = some (some { s1 with stack := entry res :: s.stack }))
    (he : emit1 n s1 c = some (some [i]))
    (hs : ∀ (ρ : Nat → Nat) (m : St), Agree ρ s1.symtab →
      step s1.phase (mpush m (ps.map fun p => ren ρ p.expand)) i = some (mpush m [ren ρ res.expand], none))
    (hside : SideK s1 c) : CompG cfg Q n s acc s' a' [res] := by
  obtain ⟨e1, P1, cs1, rfl, S1⟩ := h1
  obtain ⟨ht, rfl⟩ := MM.doCalls_one h
  rw [htr k] at ht
  simp only [Option.some.injEq] at ht
  subst ht
  refine ⟨e1, P1.replace _, cs1 ++ [c], by simp, ?_⟩
  intro ρ m hag hQ hm
  obtain ⟨is1, G1⟩ := S1 ρ m hag hQ hm
  have G2 := Sg.single (j := none) (htr n) he (hs ρ (msave ρ m e1) hag) rfl hside
  exact ⟨is1 ++ [i], by simpa [mafter] using G1.append G2⟩

end

section
variable {cfg : Cfg} {Q : NPat → Prop}

theorem CompG.nil {n : Nat} (s : PySt) (acc : List Call) : CompG cfg Q n s acc s acc [] :=
  ⟨[], PushedG.refl s, [], by simp, fun ρ m _ _ _ => ⟨[], by simpa [mafter_nil] using Sg.nil s m⟩⟩

theorem CompG.stack {n : Nat} {s s' : PySt} {acc a' : List Call} {ps : List NPat}
    (h : CompG cfg Q n s acc s' a' ps) : s'.stack = ps.map entry ++ s.stack := by
  obtain ⟨_, P, _⟩ := h
  exact P.stack

theorem PatG.two {n k : Nat} (ihP : PatG cfg Q n k) {s s' : PySt} {acc a' : List Call} {a b : NPat}
    {f : PySt → List Call → Option (Option (PySt × List Call))}
    (h : (andThen (patternF cfg k s a acc) fun s1 a1 => andThen (patternF cfg k s1 b a1) f) = some (some (s', a')))
    (ha : a.MOK = true) (hb : b.MOK = true) (qa : Q a) (qb : Q b) :
    ∃ s2 a2, CompG cfg Q n s acc s2 a2 [b, a] ∧ f s2 a2 = some (some (s', a')) := by
  obtain ⟨s1, a1, h1, h⟩ := andThen_some h
  obtain ⟨s2, a2, h2, h⟩ := andThen_some h
  exact ⟨s2, a2, (ihP _ _ _ _ _ h1 ha qa).then (ihP _ _ _ _ _ h2 hb qb), h⟩

theorem buildG (H : Memoable cfg Q) {n k : Nat} (hk : k ≤ n) (ihP : PatG cfg Q n k) (ihL : ListG cfg Q n k)
    (s : PySt) (p : NPat) (acc : List Call) (s' : PySt) (a' : List Call)
    (h : buildF cfg k s p acc = some (some (s', a'))) (hp : p.MOK = true) (hq : Q p) :
    CompG cfg Q n s acc s' a' [p] := by
  cases p with
  | evar x | svar x =>
    simp only [buildF] at h
    exact (CompG.nil s acc).call hk _ _ _ h (fun _ => rfl) rfl
      (fun ρ m _ => by simp [step, mpush, NPat.expand, ren])
      (sideK_mk _ _ (by simp [SideCond]) (touches_push0 _ _ rfl) (by simp))
  | sym nm =>
    simp only [buildF] at h
    obtain ⟨ht, rfl⟩ := MM.doCalls_one h
    simp only [track1, Option.some.injEq] at ht
    subst ht
    refine ⟨[], ⟨rfl, by simp [PySt.push], by simp, rfl, rfl, ?_⟩, [.symbol nm], rfl, ?_⟩
    · show ∃ e, (if s.symtab.contains nm then s.symtab else s.symtab ++ [nm]) = s.symtab ++ e
      split
      · exact ⟨[], by simp⟩
      · exact ⟨[nm], rfl⟩
    · intro ρ m hag _ _
      have hid : symId s.symtab nm = ρ nm := symId_agree s.symtab nm hag
      exact ⟨[.sym (symId s.symtab nm)], by
        simpa [mafter_nil] using Sg.single (n := n) (m := m) (j := none) (PySt.track1_mono hk _ _ _
          (MM.doCalls_one h).1) rfl (by simp [step, mpush, NPat.expand, ren, hid]) rfl
          (sideK_mk _ _ (by simp [SideCond]) (touches_push0 _ _ rfl) (by simp))⟩
  | mv id ef sf ps ns hs =>
    simp only [buildF] at h
    simp only [MOK, Bool.not_eq_true'] at hp
    by_cases hall : (ef.isEmpty && sf.isEmpty && ps.isEmpty && ns.isEmpty && hs.isEmpty) = true
    · have he : emit1 n s (.metavar id ef sf ps ns hs) = some (some [.cleanmv id]) := by
        simp only [emit1, hall, if_true]
      simp only [Bool.and_eq_true, List.isEmpty_iff] at hall
      obtain ⟨⟨⟨⟨rfl, rfl⟩, rfl⟩, rfl⟩, rfl⟩ := hall
      exact (CompG.nil s acc).call hk (.mv id [] [] [] [] []) _ (.cleanmv id) h (fun _ => rfl) he
        (fun ρ m _ => by simp [step, mpush, NPat.expand, ren])
        (sideK_mk _ _ (by simp [SideCond]) (touches_push0 _ _ rfl) (by simp))
    · have he : emit1 n s (.metavar id ef sf ps ns hs) = some (some [.metavar id ef sf ps ns hs]) := by
        simp only [emit1, hall, Bool.false_eq_true, if_false]
      have hp' : ∀ x ∈ hs, x ∉ ef := by simpa using hp
      exact (CompG.nil s acc).call hk (.mv id ef sf ps ns hs) _ (.metavar id ef sf ps ns hs) h (fun _ => rfl) he
        (fun ρ m _ => by simpa [step, mpush, NPat.expand, ren] using hp')
        (sideK_mk _ _ (by simpa [SideCond] using hp') (touches_push0 _ _ rfl) (by simp))
  | imp l r | app l r =>
    simp only [buildF] at h
    simp only [MOK, Bool.and_eq_true] at hp
    have hq2 : Q l ∧ Q r := by first | exact H.imp hq | exact H.app hq
    obtain ⟨s2, a2, C, h⟩ := ihP.two h hp.1 hp.2 hq2.1 hq2.2
    have hstk := C.stack
    exact C.call hk _ _ _ h (fun _ => by simp [track1, hstk, entry]) rfl
      (fun ρ m _ => by simp [step, mpush, NPat.expand, ren])
      (sideK_mk _ _ (by simp [SideCond]) (by simp [touchesResidue, Call.arity, hstk, entry]) (by simp))
  | ex x q =>
    simp only [buildF] at h
    simp only [MOK] at hp
    obtain ⟨s1, a1, h1, h⟩ := andThen_some h
    have C := ihP _ _ _ _ _ h1 hp (H.ex hq)
    have hstk := C.stack
    exact C.call hk (.ex x q) (.ex x) (.ex x) h (fun _ => by simp [track1, hstk, entry]) rfl
      (fun ρ m _ => by simp [step, mpush, NPat.expand, ren])
      (sideK_mk _ _ (by simp [SideCond]) (by simp [touchesResidue, Call.arity, hstk, entry]) (by simp))
  | mu X q =>
    simp only [buildF] at h
    simp only [MOK, Bool.and_eq_true] at hp
    obtain ⟨s1, a1, h1, h⟩ := andThen_some h
    have C := ihP _ _ _ _ _ h1 hp.1 (H.mu hq)
    have hstk := C.stack
    refine C.call hk (.mu X q) (.mu X) (.mu X) h (fun _ => by simp [track1, hstk, entry]) rfl
      (fun ρ m _ => by simp [step, mpush, NPat.expand, ren, hp.2])
      (sideK_mk _ _ ?_ (by simp [touchesResidue, Call.arity, hstk, entry]) (by simp))
    intro p b st' hs'
    rw [hstk] at hs'
    cases hs'
    exact hp.2
  | esub q x plug | ssub q x plug =>
    simp only [buildF] at h
    simp only [MOK, Bool.and_eq_true, Bool.not_eq_true'] at hp
    obtain ⟨⟨⟨⟨hmh, hq'⟩, hplug⟩, hne⟩, hfr⟩ := hp
    have hme : q.expand.isMeta = true := NPat.isMeta_expand q (by rw [← isMetaHead_eq]; exact hmh)
    have hq2 : Q q ∧ Q plug := by first | exact H.esub hq | exact H.ssub hq
    obtain ⟨s2, a2, C, h⟩ := ihP.two h hplug hq' hq2.2 hq2.1
    have hstk := C.stack
    refine C.call hk _ _ _ h
      (fun _ => by simp [track1, hstk, entry, hmh]) rfl
      (fun ρ m _ => by simp [step, mpush, NPat.expand, ren, hme, hne, hfr])
      (sideK_mk _ _ ?_ (by simp [touchesResidue, Call.arity, hstk, entry]) (by simp))
    intro p b pl b' st' hs'
    rw [hstk] at hs'
    cases hs'
    exact ⟨hne, hfr⟩
  | inst q m =>
    simp only [buildF] at h
    simp only [MOK, Bool.and_eq_true, decide_eq_true_eq] at hp
    obtain ⟨⟨⟨hq', hm⟩, hnd⟩, hinst⟩ := hp
    -- the values of the notation node, then its body
    obtain ⟨s1, a1, h1, h⟩ := andThen_some h
    obtain ⟨s2, a2, h2, h⟩ := andThen_some h
    have C := (ihL _ _ _ _ _ h1 (MOKMap_vals hm) (H.inst hq).2).then (ihP _ _ _ _ _ h2 hq' (H.inst hq).1)
    have hstk : s2.stack = (.pat q, false) :: ((m.map (·.2)).reverse.map entry ++ s.stack) := by
      simpa [entry] using C.stack
    have hlen : (m.map (·.2)).length = (m.map (·.1)).length := by simp
    have hz : (m.map (·.1)).zip (m.map (·.2)) = m := zip_keys_vals m
    have htp := takePlugs_vals (m.map (·.2)) s.stack
    rw [hlen] at htp
    obtain ⟨r, hr⟩ := Option.isSome_iff_exists.mp hinst
    have hre : r = (NPat.inst q m).expand := (C11.py_inst_eq_rust _ _ _ hr).symm
    refine C.call hk (.inst q m) (.instantiatePattern (m.map (·.1))) (.instantiate (m.map (·.1)).reverse) h
      (fun _ => by simp only [track1, hstk, htp, hz, entry]) rfl (fun ρ m0 _ => ?_)
      (sideK_inst s2 _ (m.map (·.1)) (m.map (·.2)) (.pat q) s.stack (Or.inr rfl) hnd hlen hstk
        (by rw [hz]; exact hinst))
    have := step_inst .pat (Or.inl rfl) ρ s2.phase m0 q.expand r (m.map (·.1)) (m.map (·.2)) hnd hlen
      (by rw [hz]; exact hr)
    rw [hre] at this
    simpa [mpush] using this

/-- `load t`: the machine pushes the image of `t` if every memory entry `==` to `t` has the image of `t` -/
theorem load_sg {n k : Nat} (hk : k ≤ n) (ρ : Nat → Nat) {s : PySt} {t : TTerm} (m : St)
    (ht : track1 k s (.load t) = some (some (s.push t))) (hm : MRel ρ s m)
    (heq : ∀ u ∈ s.memory, teqF n u t = some true → convR ρ u = convR ρ t) :
    ∃ i, Sg n s m [.load t] (s.push t) { m with stack := convR ρ t :: m.stack } [.load i] [] := by
  have htn := PySt.track1_mono hk _ _ _ ht
  have htn' := htn
  simp only [track1, Option.bind_eq_bind, Option.bind_eq_some_iff] at htn'
  obtain ⟨oi, hidx, h2⟩ := htn'
  cases oi with
  | none => simp at h2
  | some i =>
    obtain ⟨j, u, hj, hu, hteq⟩ := indexF_found n _ _ 0 i hidx
    have hij : i = j := by omega
    subst hij
    have hmi : m.memory[i]? = some (convR ρ t) := by
      rw [hm, List.getElem?_map, hu, Option.map_some, heq u (List.mem_of_getElem? hu) hteq]
    exact ⟨i, by
      simpa using Sg.single (m := m) (j := none) htn (by simp [emit1, hidx]) (by simp [step, hmi]) rfl
        (sideK_mk _ _ (by simp [SideCond]) (touches_push0 _ _ rfl) (by simp))⟩

theorem patG_step (H : Memoable cfg Q) {n k : Nat} (hk : k + 1 ≤ n) (ihP : PatG cfg Q n k)
    (ihL : ListG cfg Q n k) : PatG cfg Q n (k + 1) := by
  intro s p acc s' a' h hp hq
  rw [patternF_succ] at h
  simp only [Option.bind_eq_some_iff] at h
  obtain ⟨hit, hhit, h⟩ := h
  cases hit with
  | true =>
    simp only [if_true] at h
    obtain ⟨ht, rfl⟩ := MM.doCalls_one h
    have e := MM.track1_load_eq ht
    subst e
    refine ⟨[], PushedG.push s _, [.load (.pat p)], rfl, ?_⟩
    intro ρ m _ hK hm
    have hc : cfg.memo ≠ none := fun e => by simp [memoHitF, e] at hhit
    obtain ⟨i, G⟩ := load_sg (n := n) (by omega) ρ m ht (hm hc) fun u hu hteq => by
      cases u with
      | proved a => simp [teqF] at hteq
      | pat q => simp [convR, H.hit hc n q p (hK q hu) hq hteq]
    exact ⟨[.load i], by simpa [mafter_nil, mpush, convR] using G⟩
  | false =>
    simp only [Bool.false_eq_true, if_false] at h
    obtain ⟨s1, a1, hb, h⟩ := andThen_some h
    have C := buildG H (by omega) ihP ihL s p acc s1 a1 hb hp hq
    unfold saveF at h
    split at h
    · next S hS =>
      split at h
      · -- the pattern is suggested: `save`
        obtain ⟨e1, P1, cs1, rfl, S1⟩ := C
        obtain ⟨ht, rfl⟩ := MM.doCalls_one h
        have hstk : s1.stack = entry p :: s.stack := by simpa using P1.stack
        have ht2 : ∀ n', track1 n' s1 .save = some (some { s1 with memory := s1.memory ++ [.pat p] }) := by
          intro n'; simp [track1, hstk, entry]
        rw [ht2 k] at ht
        simp only [Option.some.injEq] at ht
        subst ht
        refine ⟨e1 ++ [p], ⟨P1.stack, by simp [P1.memory], ?_, P1.claims, P1.phase, P1.symtab⟩,
          cs1 ++ [.save], by simp, ?_⟩
        · intro q hq'
          rcases List.mem_append.mp hq' with hq' | hq'
          · exact P1.saved q hq'
          · simp only [List.mem_singleton] at hq'
            subst hq'
            exact ⟨hq, by simp [hS]⟩
        intro ρ m hag hK hm
        obtain ⟨is1, G1⟩ := S1 ρ m hag hK hm
        have G2 : Sg n s1 (mafter ρ m e1 [ren ρ p.expand]) [.save] { s1 with memory := s1.memory ++ [.pat p] }
            (mafter ρ m (e1 ++ [p]) [ren ρ p.expand]) [.save] (none : Option Pat).toList :=
          Sg.single (ht2 n) rfl (by simp [step, mafter, msave, mpush, convR]) rfl
            (sideK_mk _ _ (by simp [SideCond]) (by simp [touchesResidue, Call.arity, hstk, entry]) (by simp))
        exact ⟨is1 ++ [.save], by simpa using G1.append G2⟩
      · simp only [Option.some.injEq, Prod.mk.injEq] at h
        obtain ⟨rfl, rfl⟩ := h
        exact C
    · simp only [Option.some.injEq, Prod.mk.injEq] at h
      obtain ⟨rfl, rfl⟩ := h
      exact C

theorem listG_step {n k : Nat} (ihP : PatG cfg Q n k) (ihL : ListG cfg Q n k) : ListG cfg Q n (k + 1) := by
  intro s ps acc s' a' h hps hqs
  cases ps with
  | nil =>
    simp only [patternF.patternListF, Option.some.injEq, Prod.mk.injEq] at h
    obtain ⟨rfl, rfl⟩ := h
    exact CompG.nil s acc
  | cons p ps =>
    rw [patternListF_cons] at h
    obtain ⟨s1, a1, h1, h⟩ := andThen_some h
    have := (ihP _ _ _ _ _ h1 (hps p (by simp)) (hqs p (by simp))).then
      (ihL _ _ _ _ _ h (fun x hx => hps x (List.mem_cons_of_mem _ hx)) fun x hx => hqs x (List.mem_cons_of_mem _ hx))
    simpa using this

theorem patG_all (H : Memoable cfg Q) (n : Nat) : ∀ k, k ≤ n → PatG cfg Q n k ∧ ListG cfg Q n k := by
  intro k
  induction k with
  | zero =>
    intro _
    constructor
    · intro s p acc s' a' h; simp [patternF] at h
    · intro s ps acc s' a' h; simp [patternF.patternListF] at h
  | succ k ih =>
    intro hk
    obtain ⟨ihP, ihL⟩ := ih (by omega)
    exact ⟨patG_step H hk ihP ihL, listG_step ihP ihL⟩

/-- **`pattern` compiles, plain or memoising**: the tracker pushes `p`, the machine `ren ρ p.expand`; what the tracker
saves the machine saves; every call satisfies `SideK` -/
theorem pattern_compilesG (H : Memoable cfg Q) {n k : Nat} (hk : k ≤ n) {s : PySt} {p : NPat} {acc : List Call}
    {s' : PySt} {a' : List Call} (h : patternF cfg k s p acc = some (some (s', a')))
    (hp : p.MOK = true) (hq : Q p) : CompG cfg Q n s acc s' a' [p] :=
  (patG_all H n k hk).1 s p acc s' a' h hp hq

theorem patternList_compilesG (H : Memoable cfg Q) {n k : Nat} (hk : k ≤ n) {s : PySt} {ps : List NPat}
    {acc : List Call} {s' : PySt} {a' : List Call}
    (h : patternF.patternListF cfg k s ps acc = some (some (s', a')))
    (hp : ∀ p ∈ ps, p.MOK = true) (hq : ∀ p ∈ ps, Q p) : CompG cfg Q n s acc s' a' ps.reverse :=
  (patG_all H n k hk).2 s ps acc s' a' h hp hq

end

/-- the result of a plain compilation, as a proposition -/
def CompOK (n : Nat) (ρ : Nat → Nat) (s : PySt) (p : NPat) (acc : List Call) (s' : PySt) (a' : List Call) : Prop :=
  Pushed s s' [entry p] ∧ ∃ cs, a' = acc ++ cs ∧
    ∀ m, ∃ is, Sg n s m cs s' (mpush m [ren ρ p.expand]) is []

/-- a plain compilation saves nothing and does not look at the machine's memory -/
theorem CompG.plain {n : Nat} {ρ : Nat → Nat} {s s' : PySt} {acc a' : List Call} {ps : List NPat}
    (h : CompG {} (fun _ => True) n s acc s' a' ps) (hag : Agree ρ s'.symtab) :
    Pushed s s' (ps.map entry) ∧ ∃ cs, a' = acc ++ cs ∧
      ∀ m, ∃ is, Sg n s m cs s' (mpush m (ps.map fun p => ren ρ p.expand)) is [] := by
  obtain ⟨e, P, cs, rfl, S⟩ := h
  have he : e = [] := List.eq_nil_iff_forall_not_mem.mpr fun q hq => (P.saved q hq).2 rfl
  subst he
  exact ⟨⟨P.stack, by simpa using P.memory, P.claims, P.phase, P.symtab⟩, cs, rfl, fun m => by
    simpa [mafter_nil] using S ρ m hag (fun _ _ => trivial) fun h => absurd rfl h⟩

/-- **`Interpreter.pattern` compiles**: the tracker pushes `p`, the machine `ren ρ p.expand` -/
theorem pattern_compiles {n k : Nat} (hk : k ≤ n) (ρ : Nat → Nat) {s : PySt} {p : NPat} {acc : List Call}
    {s' : PySt} {a' : List Call} (h : patternF {} k s p acc = some (some (s', a')))
    (hp : p.MOK = true) (hag : Agree ρ s'.symtab) : CompOK n ρ s p acc s' a' :=
  (pattern_compilesG Memoable.plain hk h hp trivial).plain hag

/-! ## the propositional fragment is machine-OK -/

mutual
theorem PF.mok : (p : NPat) → p.PF = true → p.MOK = true
  | .sym _, _ => rfl
  | .mv _ _ _ _ _ _, h => by
    simp only [PF, Bool.and_eq_true, List.isEmpty_iff] at h
    obtain ⟨⟨⟨⟨rfl, rfl⟩, rfl⟩, rfl⟩, rfl⟩ := h
    rfl
  | .imp l r, h | .app l r, h => by
    simp only [PF, Bool.and_eq_true] at h
    simp [MOK, PF.mok l h.1, PF.mok r h.2]
  | .inst p m, h => by
    have hpfs := PF.pfs _ h
    simp only [PF, Bool.and_eq_true, decide_eq_true_eq] at h
    simp only [MOK, PF.mok p h.1.1, PFMap.mok m h.1.2, h.2, decide_true, Bool.and_self, Bool.true_and]
    exact Pat.inst_PFS _ _ (PF.pfs p h.1.1)
  | .mu _ p, h => by
    simp only [PF, Bool.and_eq_true] at h
    rw [isSV0_eq h.2]
    simp [MOK, NPat.expand, Pat.pos]
  | .evar _, h | .svar _, h | .ex _ _, h | .esub _ _ _, h | .ssub _ _ _, h => by simp [PF] at h
theorem PFMap.mok : (m : List (Nat × NPat)) → PFMap m = true → MOKMap m = true
  | [], _ => rfl
  | (_, v) :: r, h => by
    simp only [PFMap, Bool.and_eq_true] at h
    simp [MOKMap, PF.mok v h.1, PFMap.mok r h.2]
end

end KMod

#print axioms KMod.pattern_compilesG
