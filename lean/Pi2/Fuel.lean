/-!
# Fuelled computations

A function translated from Python or Rust text recurses on a counter (`Nat → … → Option α`, `none` = out of fuel or
raised).  Everything the development says about fuel is said with the three notions of this file:

* `OLe x y` — `y` answers whatever `x` answers; the congruences for `bind`, `if`, `map`, `mapM`, `foldlM`; `mono_step`
  walks a body with them.  A fuelled `f` is monotone when `OLe (f n) (f (n + 1))` (`OLe.of_step` gives `n ≤ m`).
* `OLe.eq_of_enough` — monotone + "with fuel ≥ N the answer is `v`" ⇒ whatever is answered at ANY fuel is `v`.
* `FuelOr n d t m` — at fuel `n` the text `t` is out of fuel (which `d` would cure) or is the model `m`; one induction
  proves it, and it gives both "enough fuel ⇒ equal" and "any answer is the model's" without monotonicity.
* `Lim f a` — from some fuel on `f` answers `a`; `Lim.bind` is the one place where two thresholds meet, so statements of the
  form "with enough fuel …" compose along a `do` block without fuel arithmetic.
-/

/-- `x` is at most as defined as `y` -/
def OLe {α} (x y : Option α) : Prop := ∀ a, x = some a → y = some a

namespace OLe
variable {α β : Type _}

theorem refl (x : Option α) : OLe x x := fun _ h => h
theorem none (y : Option α) : OLe (none : Option α) y := fun _ h => by cases h
theorem trans {x y z : Option α} (h1 : OLe x y) (h2 : OLe y z) : OLe x z :=
  fun a h => h2 a (h1 a h)
theorem bind {x x' : Option α} {f f' : α → Option β} (hx : OLe x x')
    (hf : ∀ a, OLe (f a) (f' a)) : OLe (x.bind f) (x'.bind f') := by
  intro b h
  cases x with
  | none => cases h
  | some a => rw [hx a rfl]; exact hf a b h
theorem bindL {x x' : Option α} {f : α → Option β} (hx : OLe x x') :
    OLe (x.bind f) (x'.bind f) := bind hx (fun _ => refl _)
theorem map {x x' : Option α} {f : α → β} (hx : OLe x x') : OLe (x.map f) (x'.map f) := by
  intro b h
  cases x with
  | none => cases h
  | some a => rw [hx a rfl]; exact h
theorem ite {c : Prop} [Decidable c] {a a' b b' : Option α} (h1 : c → OLe a a')
    (h2 : ¬ c → OLe b b') : OLe (if c then a else b) (if c then a' else b') := by
  by_cases hc : c
  · rw [if_pos hc, if_pos hc]; exact h1 hc
  · rw [if_neg hc, if_neg hc]; exact h2 hc

/-- a `for` loop that collects (`[f(x) for x in l]`) -/
theorem mapM {f g : α → Option β} (h : ∀ x, OLe (f x) (g x)) : ∀ l : List α, OLe (l.mapM f) (l.mapM g)
  | [] => refl _
  | a :: l => by
    rw [List.mapM_cons, List.mapM_cons]
    exact bind (h a) fun _ => bind (mapM h l) fun _ => refl _

/-- a `for` loop that threads a state -/
theorem foldlM {σ : Type _} {f g : σ → α → Option σ} (h : ∀ s x, OLe (f s x) (g s x)) :
    ∀ (l : List α) (s : σ), OLe (l.foldlM f s) (l.foldlM g s)
  | [], _ => refl _
  | a :: l, s => by
    rw [List.foldlM_cons, List.foldlM_cons]
    exact bind (h s a) fun s' => foldlM h l s'

theorem of_step (f : Nat → Option α) (h : ∀ n, OLe (f n) (f (n + 1))) {n m : Nat}
    (hnm : n ≤ m) : OLe (f n) (f m) := by
  induction hnm with
  | refl => exact refl _
  | step _ ih => exact ih.trans (h _)

/-- monotone, and `v` with fuel `N` or more: whatever is answered at any fuel is `v` -/
theorem eq_of_enough {f : Nat → Option α} (hm : ∀ n, OLe (f n) (f (n + 1))) {N : Nat} {v : α}
    (he : ∀ n, N ≤ n → f n = some v) {n : Nat} {a : α} (h : f n = some a) : a = v :=
  Option.some.inj ((of_step f hm (Nat.le_max_left n N) a h).symm.trans (he _ (Nat.le_max_right n N)))

/-- the same when the model's answer may be `none` (a raise) -/
theorem eq_of_enough' {f : Nat → Option α} (hm : ∀ n, OLe (f n) (f (n + 1))) {N : Nat} {v : Option α}
    (he : ∀ n, N ≤ n → f n = v) {n : Nat} {a : α} (h : f n = some a) : v = some a :=
  (he _ (Nat.le_max_right n N)).symm.trans (of_step f hm (Nat.le_max_left n N) a h)

end OLe

/-- One congruence step on a goal `OLe e e'`; a file that defines a sequencing operator of its own adds its congruence
(`macro_rules | `(tactic| mono_step1) => `(tactic| apply OLe.andThen)`). -/
syntax "mono_step1" : tactic
macro_rules | `(tactic| mono_step1) => `(tactic| first
  | apply OLe.bind | intro _ | apply OLe.refl | apply_assumption (transparency := .reducible) | apply OLe.ite
  | apply OLe.mapM | apply OLe.foldlM | apply OLe.none | contradiction | split)

/-- Closes `OLe e e'` where `e'` is `e` with more fuel in its calls: congruence down to the calls, each of which is settled
by a hypothesis (`have := callee_step` before the call).  At reducible transparency, so that an alternative that does not
apply fails without unfolding the calls. -/
macro "mono_step" : tactic => `(tactic| with_reducible_and_instances repeat' mono_step1)

/-- At fuel `n` the text's answer `t` is out of fuel, which fuel `d` would cure, or is the model's answer `m`. -/
def FuelOr {α} (n d : Nat) (t m : Option α) : Prop := t = none ∧ n < d ∨ t = m

namespace FuelOr
variable {α β γ δ : Type _} {n d : Nat}

theorem out {m : Option α} (h : n < d) : FuelOr n d none m := .inl ⟨rfl, h⟩
theorem done {t : Option α} : FuelOr n d t t := .inr rfl

/-- enough fuel: the model's answer, raises included -/
theorem enough {t m : Option α} (h : FuelOr n d t m) (hn : d ≤ n) : t = m :=
  h.resolve_left fun h => Nat.not_lt.mpr hn h.2

/-- any fuel: what the text answers, the model answers -/
theorem sound {t m : Option α} (h : FuelOr n d t m) {a : α} (ht : t = some a) : m = some a := by
  rcases h with ⟨rfl, _⟩ | rfl
  · cases ht
  · exact ht

theorem weaken {t m : Option α} (h : FuelOr n d t m) {d' : Nat} (hd : d ≤ d') : FuelOr n d' t m :=
  h.imp_left fun h => ⟨h.1, Nat.lt_of_lt_of_le h.2 hd⟩

theorem none_or {t m : Option α} (h : FuelOr n d t m) : t = none ∨ t = m := h.imp_left (·.1)

/-- one call, then a continuation that on the model's value is again out of fuel or the model's: so is the whole.  The
text's values are the model's seen through `enc`. -/
theorem bind {d' : Nat} {t : Option α} {m : Option β} {enc : β → α} {k : α → Option γ} {k' : β → Option γ}
    (h : FuelOr n d t (m.map enc)) (hk : ∀ x, m = some x → FuelOr n d' (k (enc x)) (k' x)) :
    FuelOr n (max d d') (t.bind k) (m.bind k') := by
  rcases h with ⟨rfl, h⟩ | rfl
  · exact out (Nat.lt_of_lt_of_le h (Nat.le_max_left _ _))
  · cases m with
    | none => exact done
    | some x => exact (hk x rfl).weaken (Nat.le_max_right _ _)

/-- the recursive call spends one unit -/
theorem succ {t m : Option α} (h : FuelOr n d t m) : FuelOr (n + 1) (d + 1) t m :=
  h.imp_left fun h => ⟨h.1, Nat.succ_lt_succ h.2⟩

theorem map {t m : Option α} (h : FuelOr n d t m) (f : α → β) : FuelOr n d (t.map f) (m.map f) := by
  rcases h with ⟨rfl, h⟩ | rfl
  · exact out h
  · exact done

end FuelOr

/-- from some fuel on the answer is `a` -/
def Lim {α} (f : Nat → Option α) (a : α) : Prop := ∃ n, ∀ m, n ≤ m → f m = some a

namespace Lim
variable {α β : Type _}

theorem const {f : Nat → Option α} {a : α} (h : ∀ n, f n = some a) : Lim f a := ⟨0, fun m _ => h m⟩

theorem pure (a : α) : Lim (fun _ => some a) a := const fun _ => rfl

/-- a monotone computation that answers once answers from then on -/
theorem of_step {f : Nat → Option α} (hf : ∀ n, OLe (f n) (f (n + 1))) {n : Nat} {a : α} (h : f n = some a) :
    Lim f a := ⟨n, fun _ hm => OLe.of_step f hf hm a h⟩

theorem exists_fuel {f : Nat → Option α} {a : α} (h : Lim f a) : ∃ n, f n = some a :=
  let ⟨n, h⟩ := h; ⟨n, h n (Nat.le_refl n)⟩

/-- the only rule that mentions two fuels -/
theorem bind {f : Nat → Option α} {g : Nat → α → Option β} {a : α} {b : β} (hf : Lim f a) (hg : Lim (g · a) b) :
    Lim (fun n => (f n).bind (g n)) b := by
  obtain ⟨n1, h1⟩ := hf
  obtain ⟨n2, h2⟩ := hg
  refine ⟨max n1 n2, fun m hm => ?_⟩
  show (f m).bind (g m) = some b
  rw [h1 m (Nat.le_trans (Nat.le_max_left ..) hm)]
  exact h2 m (Nat.le_trans (Nat.le_max_right ..) hm)

/-- a definition by recursion on the fuel: `f (n + 1) = F n` -/
theorem succ {f : Nat → Option α} {a : α} (h : Lim (fun n => f (n + 1)) a) : Lim f a := by
  obtain ⟨n, h⟩ := h
  exact ⟨n + 1, fun m hm => by obtain ⟨k, rfl⟩ : ∃ k, m = k + 1 := ⟨m - 1, by omega⟩; exact h k (by omega)⟩

theorem congr {f g : Nat → Option α} {a : α} (h : Lim g a) (e : ∀ n, f n = g n) : Lim f a :=
  let ⟨n, h⟩ := h; ⟨n, fun m hm => (e m).trans (h m hm)⟩

theorem unique {f : Nat → Option α} {a b : α} (ha : Lim f a) (hb : Lim f b) : a = b := by
  obtain ⟨n1, h1⟩ := ha
  obtain ⟨n2, h2⟩ := hb
  have := (h1 (max n1 n2) (Nat.le_max_left ..)).symm.trans (h2 (max n1 n2) (Nat.le_max_right ..))
  exact Option.some.inj this

end Lim
