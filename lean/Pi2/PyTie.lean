import Pi2.Notation
import Pi2.Gen.PyPattern
/-!
# The Python pattern operations as written in `pattern.py` are the model's

`Pi2/Gen/PyPattern.lean` is regenerated from `generation/src/proof_generation/pattern.py` on every run
(`vlib/transpy.py`): the methods `evar_is_free`, `metavars`, `apply_esubst`, `apply_ssubst`,
`instantiate` of the ten notation-free classes, class by class.  Here they are proved equal to the
hand-written Python semantics on notation-free patterns (`Py.esub`, `Py.ssub`, `Py.inst`,
`Py.metavars`) and to the checker's freshness judgement, which is what the notation theorems
(`Pi2.NotationThm`: everything commutes with expansion) and C06/C07/C11/C12/C13 build on.
The `Instantiate` class (notation) is `simplify()` followed by delegation and is modelled by hand.
-/
namespace PyTie
open Pat

theorem translated : Gen.Py.translated = true := by decide

/-- Python's `evar_is_free` ("is fresh") on a notation-free pattern is the checker's `e_fresh` -/
theorem evar_is_free_eq (p : Pat) (e : VId) : Gen.Py.evar_is_free p e = p.eFresh e := by
  induction p with
  | evar x => simp [Gen.Py.evar_is_free, Pat.eFresh, bne_comm]
  | svar x | sym x | mv id ef sf ps ns hs => simp [Gen.Py.evar_is_free, Pat.eFresh]
  | imp l r ihl ihr | app l r ihl ihr => simp [Gen.Py.evar_is_free, Pat.eFresh, ihl, ihr]
  | ex x p ih | mu x p ih => simp [Gen.Py.evar_is_free, Pat.eFresh, ih]
  | esub p x q ihp ihq =>
    simp only [Gen.Py.evar_is_free, Pat.eFresh, ihp, ihq]
    by_cases h : x = e
    · subst h; simp
    · have h' : ¬ e = x := fun h2 => h h2.symm
      simp [h, h']
  | ssub p x q ihp ihq => simp [Gen.Py.evar_is_free, Pat.eFresh, ihp, ihq]

theorem metavars_eq (p : Pat) : Gen.Py.metavars p = Py.metavars p := by
  induction p with
  | evar x | svar x | sym x | mv id ef sf ps ns hs => rfl
  | imp l r ihl ihr | app l r ihl ihr => simp [Gen.Py.metavars, Py.metavars, ihl, ihr]
  | ex x p ih | mu x p ih => simp [Gen.Py.metavars, Py.metavars, ih]
  | esub p x q ihp ihq | ssub p x q ihp ihq => simp [Gen.Py.metavars, Py.metavars, ihp, ihq]

theorem apply_esubst_eq (p : Pat) (x : VId) (plug : Pat) : Gen.Py.apply_esubst p x plug = Py.esub x plug p := by
  induction p with
  | evar y =>
    by_cases h : x = y
    · subst h; simp [Gen.Py.apply_esubst, Py.esub]
    · have h' : ¬ y = x := fun e => h e.symm
      simp [Gen.Py.apply_esubst, Py.esub, h, h']
  | svar y | sym y | mv id ef sf ps ns hs | esub q y r _ _ | ssub q y r _ _ => simp [Gen.Py.apply_esubst, Py.esub]
  | imp l r ihl ihr | app l r ihl ihr => simp [Gen.Py.apply_esubst, Py.esub, ihl, ihr]
  | ex y q ih =>
    by_cases h : x = y
    · subst h; simp [Gen.Py.apply_esubst, Py.esub]
    · have h' : ¬ y = x := fun e => h e.symm
      simp [Gen.Py.apply_esubst, Py.esub, ih, h, h']
  | mu y q ih => simp [Gen.Py.apply_esubst, Py.esub, ih]

theorem apply_ssubst_eq (p : Pat) (x : VId) (plug : Pat) : Gen.Py.apply_ssubst p x plug = Py.ssub x plug p := by
  induction p with
  | evar y | sym y | mv id ef sf ps ns hs | esub q y r _ _ | ssub q y r _ _ => simp [Gen.Py.apply_ssubst, Py.ssub]
  | svar y =>
    by_cases h : x = y
    · subst h; simp [Gen.Py.apply_ssubst, Py.ssub]
    · have h' : ¬ y = x := fun e => h e.symm
      simp [Gen.Py.apply_ssubst, Py.ssub, h, h']
  | imp l r ihl ihr | app l r ihl ihr => simp [Gen.Py.apply_ssubst, Py.ssub, ihl, ihr]
  | ex y q ih => simp [Gen.Py.apply_ssubst, Py.ssub, ih]
  | mu y q ih =>
    by_cases h : x = y
    · subst h; simp [Gen.Py.apply_ssubst, Py.ssub]
    · have h' : ¬ y = x := fun e => h e.symm
      simp [Gen.Py.apply_ssubst, Py.ssub, ih, h, h']

/-- `instantiate` with the empty map returns the receiver (every class has the `if not delta` exit or is a leaf) -/
theorem instantiate_nil (p : Pat) : Gen.Py.instantiate p [] = p := by
  cases p <;> simp [Gen.Py.instantiate, Py.lookup]

/-- `instantiate` with a non-empty map is the simultaneous instantiation `Py.inst` -/
theorem instantiate_eq (p : Pat) (δ : List (Nat × Pat)) (h : δ ≠ []) :
    Gen.Py.instantiate p δ = Py.inst (Py.lookup δ) p := by
  have he : δ.isEmpty = false := by cases δ <;> simp_all
  induction p with
  | evar y | svar y | sym y => simp [Gen.Py.instantiate, Py.inst]
  | mv id ef sf ps ns hs =>
    simp only [Gen.Py.instantiate, Py.inst]
    cases Py.lookup δ id <;> simp
  | imp l r ihl ihr | app l r ihl ihr => simp [Gen.Py.instantiate, Py.inst, he, ihl, ihr]
  | ex y q ih | mu y q ih => simp [Gen.Py.instantiate, Py.inst, he, ih]
  | esub q y r ihq ihr => simp [Gen.Py.instantiate, Py.inst, he, ihq, ihr, apply_esubst_eq]
  | ssub q y r ihq ihr => simp [Gen.Py.instantiate, Py.inst, he, ihq, ihr, apply_ssubst_eq]

end PyTie
