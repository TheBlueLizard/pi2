import Pi2.Gen.PyNotation
import Pi2.NotationThm
import Pi2.MM.Mono
/-!
# The pattern methods on patterns with notation, as written in `pattern.py`, are the model's

`Pi2/Gen/PyNotation.lean` is regenerated from `generation/src/proof_generation/pattern.py` on every run
(`vlib/transnot.py`): `instantiate`, `metavars`, `apply_esubst`, `apply_ssubst`, `evar_is_free`, `__eq__`
of all eleven pattern classes (incl. `Instantiate`; `__eq__` as written for `Instantiate`, as generated by
`@dataclass` for the others), `Instantiate.simplify`, and the operator `==` — statement by statement.  Here
they are tied to the hand-written model `NPat.instF`, `mapF`, `metavarsF`, `esubF`, `ssubF`, `simplifyF`, `peqF`,
`evarIsFreeF` (`Pi2/Notation.lean`) that C06 / C11 / C12 are stated about.

* `instantiate_eq`, `dictcomp_eq`, `metavars_eq`, `apply_esubst_eq`, `apply_ssubst_eq`, `simplify_eq`, `eq_eq`:
  **plain equations at every fuel** (the translator's accounting — one unit per method call, one per element
  of the lifted comprehension, `simplify()` inlined, operators free — is the model's), so they also say exactly
  when the text runs out of fuel.  `metavars` is equal to `metavarsF` *as a list* (the translation builds the
  Python set in the order `set()`, `{x}`, `union` are executed, which is the order of the model).
* `evar_is_free`: the model evaluates both operands of `Implies/App.evar_is_free`'s `and`, Python (and the
  translation) short-circuits.  The two therefore differ as functions of the fuel (`evar_is_free_differs`: at
  fuel 2 the text answers `False`, the model is out of fuel) — not in any answer: `evar_is_free_of_model`
  (whatever the model answers, the text answers, at the same fuel), `evar_is_free_consistent` (two answers at
  any two fuels agree), `evar_is_free_true_iff` (the verdict `True` = "not free" is exact at every fuel).

Hypothesis `DK` ("distinct keys"): an argument map is a Python `dict`, its item list has distinct keys.  The
model is defined on arbitrary association lists (first entry wins); on a list with a repeated key the loop
`for k, v in delta.items(): … instantiated_subst[k] = v` (last entry wins) is *not* the model
(`instantiate_needs_distinct_keys`) — such a list is not the item list of any `dict`.  `DK` is preserved by
all operations (`instF_DK`, `esubF_DK`, `ssubF_DK`) and holds for `Notation.__call__`'s `frozendict(enumerate(args))`.
-/
set_option linter.unusedVariables false
set_option linter.unusedSimpArgs false
namespace NotTie
open NPat PyM PyN

theorem translated : Gen.PyNot.translated = true := by decide

/-! ## distinct keys -/

mutual
/-- every argument map in the pattern has distinct keys (it is the item list of a `dict`) -/
def DK : NPat → Bool
  | .imp l r => DK l && DK r
  | .app l r => DK l && DK r
  | .ex _ p => DK p
  | .mu _ p => DK p
  | .esub p _ q => DK p && DK q
  | .ssub p _ q => DK p && DK q
  | .inst p m => DK p && DKMap m && decide (keys m).Nodup
  | _ => true
def DKMap : List (Nat × NPat) → Bool
  | [] => true
  | (_, v) :: r => DK v && DKMap r
end

/-- a `dict[int, Pattern]`: distinct keys, values with distinct keys -/
def DKDict (δ : List (Nat × NPat)) : Prop := DKMap δ = true ∧ (keys δ).Nodup

theorem DKMap_iff (m : List (Nat × NPat)) : DKMap m = true ↔ ∀ kv ∈ m, DK kv.2 = true := by
  induction m with
  | nil => simp [DKMap]
  | cons kv r ih => obtain ⟨k, v⟩ := kv; simp [DKMap, ih]

theorem DKMap_append (a b : List (Nat × NPat)) : DKMap (a ++ b) = (DKMap a && DKMap b) := by
  induction a with
  | nil => simp [DKMap]
  | cons kv r ih => obtain ⟨k, v⟩ := kv; simp [DKMap, ih, Bool.and_assoc]

theorem DK_of_lookup (m : List (Nat × NPat)) (h : DKMap m = true) (i : Nat) (v : NPat)
    (hl : Py.lookup m i = some v) : DK v = true :=
  (DKMap_iff m).mp h _ (Py.lookup_mem _ _ _ hl)

theorem DK_inst {p : NPat} {m : List (Nat × NPat)} (h : DK (.inst p m) = true) :
    DK p = true ∧ DKDict m := by
  simp only [DK, Bool.and_eq_true, decide_eq_true_eq] at h
  exact ⟨h.1.1, h.1.2, h.2⟩

theorem keys_append (a b : List (Nat × NPat)) : keys (a ++ b) = keys a ++ keys b := by
  simp [keys]

theorem keys_dedupKeys (l : List (Nat × NPat)) (seen : List Nat) :
    (keys (dedupKeys l seen)).Nodup ∧ ∀ k ∈ keys (dedupKeys l seen), k ∉ seen := by
  induction l generalizing seen with
  | nil => simp [dedupKeys, keys]
  | cons kv r ih =>
    obtain ⟨k, v⟩ := kv
    simp only [dedupKeys]
    by_cases hk : seen.contains k = true
    · simp only [hk, if_true]; exact ih seen
    · simp only [hk, Bool.false_eq_true, if_false]
      obtain ⟨h1, h2⟩ := ih (k :: seen)
      refine ⟨?_, ?_⟩
      · simp only [keys, List.map_cons, List.nodup_cons]
        refine ⟨fun hm => ?_, h1⟩
        exact h2 k hm (by simp)
      · intro k' hk'
        simp only [keys, List.map_cons, List.mem_cons] at hk'
        rcases hk' with rfl | hk'
        · simpa using hk
        · intro hs; exact h2 k' hk' (List.mem_cons_of_mem _ hs)

/-- on the item list of a `dict` nothing is dropped -/
theorem dedupKeys_of_nodup (l : List (Nat × NPat)) (seen : List Nat) (hn : (keys l).Nodup)
    (hs : ∀ k ∈ keys l, k ∉ seen) : dedupKeys l seen = l := by
  induction l generalizing seen with
  | nil => rfl
  | cons kv r ih =>
    obtain ⟨k, v⟩ := kv
    simp only [keys, List.map_cons, List.nodup_cons] at hn
    have hk : seen.contains k = false := by
      have := hs k (by simp [keys])
      simpa using this
    simp only [dedupKeys, hk, Bool.false_eq_true, if_false]
    rw [ih (k :: seen) hn.2]
    intro k' hk' hm
    simp only [List.mem_cons] at hm
    rcases hm with rfl | hm
    · exact hn.1 hk'
    · exact hs k' (by simp only [keys, List.map_cons, List.mem_cons]; exact Or.inr hk') hm

theorem mapF_keys (n : Nat) (δ : List (Nat × NPat)) : ∀ (m m' : List (Nat × NPat)),
    mapF n δ m = some m' → keys m' = keys m := by
  induction n with
  | zero => intro m m' h; simp [mapF] at h
  | succ n ih =>
    intro m m' h
    cases m with
    | nil => simp only [mapF, Option.some.injEq] at h; subst h; rfl
    | cons kv r =>
      obtain ⟨k, v⟩ := kv
      simp only [mapF, Option.bind_eq_bind, Option.pure_def, Option.bind_eq_some_iff,
        Option.some.injEq] at h
      obtain ⟨a, ha, b, hb, rfl⟩ := h
      simp [keys, show List.map (·.1) b = List.map (·.1) r from ih r b hb]

/-! ## `DK` is preserved by the operations -/

def PresAll (n : Nat) : Prop :=
  (∀ δ p r, DK p = true → DKDict δ → instF n δ p = some r → DK r = true) ∧
  (∀ δ m m', DKMap m = true → DKDict δ → mapF n δ m = some m' → DKMap m' = true) ∧
  (∀ x plug p r, DK p = true → DK plug = true → esubF n x plug p = some r → DK r = true) ∧
  (∀ x plug p r, DK p = true → DK plug = true → ssubF n x plug p = some r → DK r = true)

theorem pres_step (n : Nat) (ih : PresAll n) : PresAll (n + 1) := by
  obtain ⟨hi, hm, he, hs⟩ := ih
  refine ⟨?_, ?_, ?_, ?_⟩
  · intro δ p r hp hδ h
    cases p with
    | evar x | svar x | sym x => cases h; rfl
    | mv id ef sf ps ns hs' =>
      simp only [instF, Option.some.injEq] at h; subst h
      cases hl : Py.lookup δ id with
      | none => rfl
      | some v => simpa using DK_of_lookup δ hδ.1 id v hl
    | imp l r' | app l r' =>
      simp only [instF] at h
      split at h
      · cases h; exact hp
      · simp only [DK, Bool.and_eq_true] at hp
        simp only [Option.bind_eq_bind, Option.pure_def, Option.bind_eq_some_iff,
          Option.some.injEq] at h
        obtain ⟨a, ha, b, hb, rfl⟩ := h
        simp only [DK, hi _ _ _ hp.1 hδ ha, hi _ _ _ hp.2 hδ hb, Bool.and_self]
    | ex x q | mu x q =>
      simp only [instF] at h
      split at h
      · cases h; exact hp
      · simp only [DK] at hp
        simp only [Option.bind_eq_bind, Option.pure_def, Option.bind_eq_some_iff,
          Option.some.injEq] at h
        obtain ⟨a, ha, rfl⟩ := h
        simp only [DK, hi _ _ _ hp hδ ha, Bool.and_self]
    | esub q x q' =>
      simp only [instF] at h
      split at h
      · cases h; exact hp
      · simp only [DK, Bool.and_eq_true] at hp
        simp only [Option.bind_eq_bind, Option.bind_eq_some_iff] at h
        obtain ⟨a, ha, b, hb, hr⟩ := h
        exact he _ _ _ _ (hi _ _ _ hp.1 hδ ha) (hi _ _ _ hp.2 hδ hb) hr
    | ssub q x q' =>
      simp only [instF] at h
      split at h
      · cases h; exact hp
      · simp only [DK, Bool.and_eq_true] at hp
        simp only [Option.bind_eq_bind, Option.bind_eq_some_iff] at h
        obtain ⟨a, ha, b, hb, hr⟩ := h
        exact hs _ _ _ _ (hi _ _ _ hp.1 hδ ha) (hi _ _ _ hp.2 hδ hb) hr
    | inst q m =>
      obtain ⟨hq, hm1, hm2⟩ := DK_inst hp
      simp only [instF, Option.bind_eq_bind, Option.pure_def, Option.bind_eq_some_iff,
        Option.some.injEq] at h
      obtain ⟨m', hm', mvs, hmvs, rfl⟩ := h
      have h1 := hm _ _ _ hm1 hδ hm'
      have hk := mapF_keys _ _ _ _ hm'
      have h2 : DKMap (dedupKeys (δ.filter fun x => !(keys m).contains x.1 && mvs.contains x.1) [])
          = true := by
        rw [DKMap_iff]
        intro kv hkv
        exact (DKMap_iff δ).mp hδ.1 kv (List.mem_filter.mp (mem_dedupKeys _ _ _ hkv)).1
      obtain ⟨h3, _⟩ := keys_dedupKeys (δ.filter fun x => !(keys m).contains x.1 && mvs.contains x.1) []
      simp only [DK, hq, DKMap_append, h1, Bool.true_and, Bool.and_eq_true, decide_eq_true_eq]
      refine ⟨h2, ?_⟩
      rw [keys_append, hk, List.nodup_append]
      refine ⟨hm2, h3, ?_⟩
      intro a ha b hb hab
      subst hab
      simp only [keys, List.mem_map] at hb
      obtain ⟨kv, hkv, rfl⟩ := hb
      have := (List.mem_filter.mp (mem_dedupKeys _ _ _ hkv)).2
      simp only [Bool.and_eq_true, Bool.not_eq_true', List.contains_eq_mem,
        decide_eq_false_iff_not] at this
      exact this.1 ha
  · intro δ m m' hsm hδ h
    cases m with
    | nil => simp only [mapF, Option.some.injEq] at h; subst h; rfl
    | cons kv r =>
      obtain ⟨k, v⟩ := kv
      simp only [DKMap, Bool.and_eq_true] at hsm
      simp only [mapF, Option.bind_eq_bind, Option.pure_def, Option.bind_eq_some_iff,
        Option.some.injEq] at h
      obtain ⟨a, ha, b, hb, rfl⟩ := h
      simp [DKMap, hi _ _ _ hsm.1 hδ ha, hm _ _ _ hsm.2 hδ hb]
  · intro x plug p r hp hq h
    cases p with
    | evar y =>
      simp only [esubF, Option.some.injEq] at h; subst h
      split
      · exact hq
      · rfl
    | svar y | sym y => cases h; rfl
    | imp l r' | app l r' =>
      simp only [DK, Bool.and_eq_true] at hp
      simp only [esubF, Option.bind_eq_bind, Option.pure_def, Option.bind_eq_some_iff,
        Option.some.injEq] at h
      obtain ⟨a, ha, b, hb, rfl⟩ := h
      simp only [DK, he _ _ _ _ hp.1 hq ha, he _ _ _ _ hp.2 hq hb, Bool.and_self]
    | ex y q =>
      simp only [esubF] at h
      split at h
      · cases h; exact hp
      · simp only [DK] at hp
        simp only [Option.bind_eq_bind, Option.pure_def, Option.bind_eq_some_iff,
          Option.some.injEq] at h
        obtain ⟨a, ha, rfl⟩ := h
        simp only [DK, he _ _ _ _ hp hq ha, Bool.and_self]
    | mu y q =>
      simp only [DK] at hp
      simp only [esubF, Option.bind_eq_bind, Option.pure_def, Option.bind_eq_some_iff,
        Option.some.injEq] at h
      obtain ⟨a, ha, rfl⟩ := h
      simp only [DK, he _ _ _ _ hp hq ha, Bool.and_self]
    | mv id ef sf ps ns hs' =>
      simp only [esubF, Option.some.injEq] at h; subst h
      split
      · rfl
      · simp [DK, hq]
    | esub q y q' | ssub q y q' => cases h; rw [DK, hp, hq]; rfl
    | inst q m =>
      obtain ⟨hq1, hm1⟩ := DK_inst hp
      simp only [esubF, Option.bind_eq_bind, Option.bind_eq_some_iff] at h
      obtain ⟨s, hs1, hr⟩ := h
      exact he _ _ _ _ (hi _ _ _ hq1 hm1 hs1) hq hr
  · intro x plug p r hp hq h
    cases p with
    | svar y =>
      simp only [ssubF, Option.some.injEq] at h; subst h
      split
      · exact hq
      · rfl
    | evar y | sym y => cases h; rfl
    | imp l r' | app l r' =>
      simp only [DK, Bool.and_eq_true] at hp
      simp only [ssubF, Option.bind_eq_bind, Option.pure_def, Option.bind_eq_some_iff,
        Option.some.injEq] at h
      obtain ⟨a, ha, b, hb, rfl⟩ := h
      simp only [DK, hs _ _ _ _ hp.1 hq ha, hs _ _ _ _ hp.2 hq hb, Bool.and_self]
    | mu y q =>
      simp only [ssubF] at h
      split at h
      · cases h; exact hp
      · simp only [DK] at hp
        simp only [Option.bind_eq_bind, Option.pure_def, Option.bind_eq_some_iff,
          Option.some.injEq] at h
        obtain ⟨a, ha, rfl⟩ := h
        simp only [DK, hs _ _ _ _ hp hq ha, Bool.and_self]
    | ex y q =>
      simp only [DK] at hp
      simp only [ssubF, Option.bind_eq_bind, Option.pure_def, Option.bind_eq_some_iff,
        Option.some.injEq] at h
      obtain ⟨a, ha, rfl⟩ := h
      simp only [DK, hs _ _ _ _ hp hq ha, Bool.and_self]
    | mv id ef sf ps ns hs' =>
      simp only [ssubF, Option.some.injEq] at h; subst h
      split
      · rfl
      · simp [DK, hq]
    | esub q y q' | ssub q y q' => cases h; rw [DK, hp, hq]; rfl
    | inst q m =>
      obtain ⟨hq1, hm1⟩ := DK_inst hp
      simp only [ssubF, Option.bind_eq_bind, Option.bind_eq_some_iff] at h
      obtain ⟨s, hs1, hr⟩ := h
      exact hs _ _ _ _ (hi _ _ _ hq1 hm1 hs1) hq hr

theorem presAll (n : Nat) : PresAll n := by
  induction n with
  | zero =>
    refine ⟨?_, ?_, ?_, ?_⟩ <;> intros <;> simp_all [instF, mapF, esubF, ssubF]
  | succ n ih => exact pres_step n ih

theorem instF_DK (n : Nat) (δ : List (Nat × NPat)) (p r : NPat) (hp : DK p = true) (hδ : DKDict δ)
    (h : instF n δ p = some r) : DK r = true := (presAll n).1 δ p r hp hδ h

theorem mapF_DK (n : Nat) (δ m m' : List (Nat × NPat)) (hm : DKMap m = true) (hδ : DKDict δ)
    (h : mapF n δ m = some m') : DKMap m' = true := (presAll n).2.1 δ m m' hm hδ h

theorem esubF_DK (n : Nat) (x : VId) (plug p r : NPat) (hp : DK p = true) (hq : DK plug = true)
    (h : esubF n x plug p = some r) : DK r = true := (presAll n).2.2.1 x plug p r hp hq h

theorem ssubF_DK (n : Nat) (x : VId) (plug p r : NPat) (hp : DK p = true) (hq : DK plug = true)
    (h : ssubF n x plug p = some r) : DK r = true := (presAll n).2.2.2 x plug p r hp hq h

/-! ## auxiliary facts about the target language -/

theorem bind_congr' {α β} {x : Option α} {f g : α → Option β} (h : ∀ a, x = some a → f a = g a) :
    (x >>= f) = (x >>= g) := by
  cases x with
  | none => rfl
  | some a => exact h a rfl

/-- `k in d` is membership in the key list -/
theorem lookup_isSome_keys (m : List (Nat × NPat)) (k : Nat) :
    (Py.lookup m k).isSome = (keys m).contains k := by
  induction m with
  | nil => rfl
  | cons kv r ih =>
    obtain ⟨k', v⟩ := kv
    by_cases hk : k' = k
    · subst hk; simp [Py.lookup, keys]
    · have hk' : ¬ k = k' := fun e => hk e.symm
      simp only [Py.lookup, hk, if_false, ih, keys, List.map_cons, List.contains_cons]
      simp [hk']

theorem lookup_none_of_not_keys (m : List (Nat × NPat)) (k : Nat) (h : (keys m).contains k = false) :
    Py.lookup m k = none := by
  have := lookup_isSome_keys m k
  rw [h] at this
  cases hl : Py.lookup m k with
  | none => rfl
  | some v => rw [hl] at this; cases this

/-- `d[k] = v` on a new key appends -/
theorem dictSet_new (d : Dict) (k : Nat) (v : NPat) (h : Py.lookup d k = none) :
    dictSet d k v = d ++ [(k, v)] := by
  induction d with
  | nil => rfl
  | cons x r ih =>
    obtain ⟨k', v'⟩ := x
    simp only [Py.lookup] at h
    by_cases hk : k' = k
    · simp [hk] at h
    · simp only [hk, if_false] at h
      simp [dictSet, hk, ih h]

/-- the loop `for k, v in δ.items(): if c(k): acc[k] = v` over the item list of a `dict`, when no selected key is
in `acc` yet: the selected items are appended in order -/
theorem forItems_append (c : Nat → Bool) : ∀ (δ acc : List (Nat × NPat)), (keys δ).Nodup →
    (∀ kv ∈ δ, c kv.1 = true → Py.lookup acc kv.1 = none) →
    forItems δ acc (fun k v s => if c k = true then dictSet s k v else s)
      = acc ++ δ.filter (fun kv => c kv.1) := by
  intro δ
  induction δ with
  | nil => intro acc _ _; simp [forItems]
  | cons kv r ih =>
    intro acc hn hc
    obtain ⟨k, v⟩ := kv
    simp only [keys, List.map_cons, List.nodup_cons] at hn
    have hrest : forItems ((k, v) :: r) acc (fun k v s => if c k = true then dictSet s k v else s)
        = forItems r (if c k = true then dictSet acc k v else acc) (fun k v s => if c k = true then dictSet s k v else s) := by
      simp [forItems]
    rw [hrest]
    by_cases hk : c k = true
    · have h0 := hc (k, v) (by simp) hk
      simp only [hk, if_true, dictSet_new acc k v h0, List.filter_cons]
      rw [ih (acc ++ [(k, v)]) hn.2]
      · simp
      · intro kv hkv hckv
        rw [Py.lookup_append, hc kv (List.mem_cons_of_mem _ hkv) hckv]
        have hne : ¬ k = kv.1 := by
          intro e
          apply hn.1
          rw [e]
          exact List.mem_map.mpr ⟨kv, hkv, rfl⟩
        simp [Py.lookup, hne]
    · have hk' : c k = false := by simpa using hk
      simp only [hk', Bool.false_eq_true, if_false, List.filter_cons]
      exact ih acc hn.2 (fun kv hkv => hc kv (List.mem_cons_of_mem _ hkv))

/-! ## `instantiate`, the lifted comprehension, `metavars`, `apply_esubst`, `apply_ssubst` -/

def TieAll (n : Nat) : Prop :=
  (∀ p δ, DK p = true → DKDict δ → Gen.PyNot.instantiate n p δ = instF n δ p) ∧
  (∀ δ m, DKMap m = true → DKDict δ → Gen.PyNot.Instantiate_instantiate_dictcomp1 n δ m = mapF n δ m) ∧
  (∀ p, DK p = true → Gen.PyNot.metavars n p = metavarsF n p) ∧
  (∀ p x plug, DK p = true → DK plug = true → Gen.PyNot.apply_esubst n p x plug = esubF n x plug p) ∧
  (∀ p x plug, DK p = true → DK plug = true → Gen.PyNot.apply_ssubst n p x plug = ssubF n x plug p)

theorem tie_step (n : Nat) (ih : TieAll n) : TieAll (n + 1) := by
  obtain ⟨hi, hm, hv, he, hs⟩ := ih
  have P := presAll n
  refine ⟨?_, ?_, ?_, ?_, ?_⟩
  · intro p δ hp hδ
    cases p with
    | evar x | svar x | sym x => rfl
    | mv id ef sf ps ns hs' =>
      simp only [Gen.PyNot.instantiate, instF]
      cases Py.lookup δ id <;> rfl
    | imp l r | app l r =>
      simp only [DK, Bool.and_eq_true] at hp
      simp only [Gen.PyNot.instantiate, instF, hi l δ hp.1 hδ, hi r δ hp.2 hδ]
      rfl
    | ex x q | mu x q =>
      simp only [DK] at hp
      simp only [Gen.PyNot.instantiate, instF, hi q δ hp hδ]
      rfl
    | esub q y r =>
      simp only [DK, Bool.and_eq_true] at hp
      simp only [Gen.PyNot.instantiate, instF, hi q δ hp.1 hδ, hi r δ hp.2 hδ]
      by_cases hc : δ.isEmpty = true
      · simp only [hc, if_true]; rfl
      · simp only [hc, if_false]
        apply bind_congr'; intro a ha; apply bind_congr'; intro b hb
        exact he a y b (P.1 _ _ _ hp.1 hδ ha) (P.1 _ _ _ hp.2 hδ hb)
    | ssub q y r =>
      simp only [DK, Bool.and_eq_true] at hp
      simp only [Gen.PyNot.instantiate, instF, hi q δ hp.1 hδ, hi r δ hp.2 hδ]
      by_cases hc : δ.isEmpty = true
      · simp only [hc, if_true]; rfl
      · simp only [hc, if_false]
        apply bind_congr'; intro a ha; apply bind_congr'; intro b hb
        exact hs a y b (P.1 _ _ _ hp.1 hδ ha) (P.1 _ _ _ hp.2 hδ hb)
    | inst q m =>
      obtain ⟨hq, hm1, hm2⟩ := DK_inst hp
      simp only [Gen.PyNot.instantiate, instF, hm δ m hm1 hδ, hv q hq]
      apply bind_congr'; intro m' hm'; apply bind_congr'; intro mvs hmvs
      have hk := mapF_keys _ _ _ _ hm'
      have hloop := forItems_append (fun k => !(Py.lookup m k).isSome && mvs.contains k) δ m' hδ.2 (by
        intro kv hkv hc
        simp only [Bool.and_eq_true, Bool.not_eq_true', lookup_isSome_keys] at hc
        exact lookup_none_of_not_keys m' kv.1 (by rw [hk]; exact hc.1))
      have hfilter : (δ.filter fun kv => !(Py.lookup m kv.1).isSome && mvs.contains kv.1)
          = dedupKeys (δ.filter fun x => !(keys m).contains x.1 && mvs.contains x.1) [] := by
        have e : (fun kv : Nat × NPat => !(Py.lookup m kv.1).isSome && mvs.contains kv.1)
            = (fun x : Nat × NPat => !(keys m).contains x.1 && mvs.contains x.1) := by
          funext kv; rw [lookup_isSome_keys]
        rw [e, dedupKeys_of_nodup _ [] _ (by simp)]
        exact List.Nodup.sublist (List.Sublist.map _ List.filter_sublist) hδ.2
      show some (NPat.inst q (forItems δ m' _)) = some (NPat.inst q (m' ++ dedupKeys _ []))
      rw [hloop, hfilter]
  · intro δ m hm1 hδ
    cases m with
    | nil => rfl
    | cons kv r =>
      obtain ⟨k, v⟩ := kv
      simp only [DKMap, Bool.and_eq_true] at hm1
      simp only [Gen.PyNot.Instantiate_instantiate_dictcomp1, mapF, hi v δ hm1.1 hδ, hm δ r hm1.2 hδ]
  · intro p hp
    cases p with
    | evar x | svar x | sym x | mv id ef sf ps ns hs' => rfl
    | imp l r | app l r | esub l y r | ssub l y r =>
      simp only [DK, Bool.and_eq_true] at hp
      simp only [Gen.PyNot.metavars, metavarsF, hv l hp.1, hv r hp.2]
    | ex x q | mu x q =>
      simp only [DK] at hp
      simp only [Gen.PyNot.metavars, metavarsF, hv q hp]
    | inst q m =>
      obtain ⟨hq, hm1⟩ := DK_inst hp
      simp only [Gen.PyNot.metavars, metavarsF, hi q m hq hm1]
      apply bind_congr'; intro s hs1
      exact hv s (P.1 _ _ _ hq hm1 hs1)
  · intro p x plug hp hq
    cases p with
    | evar y =>
      simp only [Gen.PyNot.apply_esubst, esubF]
      by_cases h : x = y
      · subst h; simp
      · have h' : ¬ y = x := fun e => h e.symm
        simp [h, h']
    | svar y | sym y => rfl
    | imp l r | app l r =>
      simp only [DK, Bool.and_eq_true] at hp
      simp only [Gen.PyNot.apply_esubst, esubF, he l x plug hp.1 hq, he r x plug hp.2 hq]
    | ex y q =>
      simp only [DK] at hp
      simp only [Gen.PyNot.apply_esubst, esubF, he q x plug hp hq]
      by_cases h : x = y
      · subst h; simp
      · have h' : ¬ y = x := fun e => h e.symm
        simp only [beq_iff_eq, h, h', if_false]
    | mu y q =>
      simp only [DK] at hp
      simp only [Gen.PyNot.apply_esubst, esubF, he q x plug hp hq]
    | mv id ef sf ps ns hs' =>
      simp only [Gen.PyNot.apply_esubst, esubF]
      cases ef.contains x <;> rfl
    | esub q y r | ssub q y r => rfl
    | inst q m =>
      obtain ⟨hq1, hm1⟩ := DK_inst hp
      simp only [Gen.PyNot.apply_esubst, esubF, hi q m hq1 hm1]
      apply bind_congr'; intro s hs1
      exact he s x plug (P.1 _ _ _ hq1 hm1 hs1) hq
  · intro p x plug hp hq
    cases p with
    | svar y =>
      simp only [Gen.PyNot.apply_ssubst, ssubF]
      by_cases h : x = y
      · subst h; simp
      · have h' : ¬ y = x := fun e => h e.symm
        simp [h, h']
    | evar y | sym y => rfl
    | imp l r | app l r =>
      simp only [DK, Bool.and_eq_true] at hp
      simp only [Gen.PyNot.apply_ssubst, ssubF, hs l x plug hp.1 hq, hs r x plug hp.2 hq]
    | mu y q =>
      simp only [DK] at hp
      simp only [Gen.PyNot.apply_ssubst, ssubF, hs q x plug hp hq]
      by_cases h : x = y
      · subst h; simp
      · have h' : ¬ y = x := fun e => h e.symm
        simp only [beq_iff_eq, h, h', if_false]
    | ex y q =>
      simp only [DK] at hp
      simp only [Gen.PyNot.apply_ssubst, ssubF, hs q x plug hp hq]
    | mv id ef sf ps ns hs' =>
      simp only [Gen.PyNot.apply_ssubst, ssubF]
      cases sf.contains x <;> rfl
    | esub q y r | ssub q y r => rfl
    | inst q m =>
      obtain ⟨hq1, hm1⟩ := DK_inst hp
      simp only [Gen.PyNot.apply_ssubst, ssubF, hi q m hq1 hm1]
      apply bind_congr'; intro s hs1
      exact hs s x plug (P.1 _ _ _ hq1 hm1 hs1) hq

theorem tieAll (n : Nat) : TieAll n := by
  induction n with
  | zero => exact ⟨fun _ _ _ _ => rfl, fun _ _ _ _ => rfl, fun _ _ => rfl, fun _ _ _ _ _ => rfl, fun _ _ _ _ _ => rfl⟩
  | succ n ih => exact tie_step n ih


/-- the translated `instantiate` is the model's, at every fuel -/
theorem instantiate_eq (n : Nat) (p : NPat) (δ : List (Nat × NPat)) (hp : DK p = true) (hδ : DKDict δ) :
    Gen.PyNot.instantiate n p δ = instF n δ p := (tieAll n).1 p δ hp hδ

/-- the lifted comprehension `{k: v.instantiate(delta) for k, v in self.inst.items()}` is `mapF` -/
theorem dictcomp_eq (n : Nat) (δ m : List (Nat × NPat)) (hm : DKMap m = true) (hδ : DKDict δ) :
    Gen.PyNot.Instantiate_instantiate_dictcomp1 n δ m = mapF n δ m := (tieAll n).2.1 δ m hm hδ

/-- the translated `metavars` is the model's, at every fuel, as a list -/
theorem metavars_eq (n : Nat) (p : NPat) (hp : DK p = true) :
    Gen.PyNot.metavars n p = metavarsF n p := (tieAll n).2.2.1 p hp

theorem apply_esubst_eq (n : Nat) (p : NPat) (x : VId) (plug : NPat) (hp : DK p = true) (hq : DK plug = true) :
    Gen.PyNot.apply_esubst n p x plug = esubF n x plug p := (tieAll n).2.2.2.1 p x plug hp hq

theorem apply_ssubst_eq (n : Nat) (p : NPat) (x : VId) (plug : NPat) (hp : DK p = true) (hq : DK plug = true) :
    Gen.PyNot.apply_ssubst n p x plug = ssubF n x plug p := (tieAll n).2.2.2.2 p x plug hp hq

/-- `Instantiate.simplify` is `simplifyF` on notation nodes … -/
theorem simplify_eq (n : Nat) (p : NPat) (m : List (Nat × NPat)) (h : DK (.inst p m) = true) :
    Gen.PyNot.simplify n (.inst p m) = (simplifyF n (.inst p m)).map some := by
  obtain ⟨hp, hm⟩ := DK_inst h
  simp only [Gen.PyNot.simplify, simplifyF, instantiate_eq n p m hp hm]
  cases instF n m p <;> rfl

/-- … and no other class has the method (`AttributeError`; the model's `simplifyF` is the identity there) -/
theorem simplify_other (n : Nat) (p : NPat) (h : p.isInst = false) : Gen.PyNot.simplify n p = some none := by
  cases p <;> first | rfl | simp [isInst] at h

/-! ## `==` -/

theorem opEq_first {f : NPat → NPat → Option (Option Bool)} {a b : NPat} {x : Option Bool}
    (h : f a b = x.map some) : opEq f a b = x := by
  cases x <;> simp [opEq, h]

theorem opEq_reflected {f : NPat → NPat → Option (Option Bool)} {a b : NPat} {x : Option Bool}
    (h1 : f a b = some none) (h2 : f b a = x.map some) : opEq f a b = x := by
  cases x <;> simp [opEq, h1, h2]

theorem opEq_neither {f : NPat → NPat → Option (Option Bool)} {a b : NPat}
    (h1 : f a b = some none) (h2 : f b a = some none) : opEq f a b = some false := by
  simp [opEq, h1, h2]

/-- `Instantiate.__eq__`: `self.simplify() == o` -/
theorem eq_method_inst (n : Nat) (ih : ∀ a b, DK a = true → DK b = true → opEq (Gen.PyNot.__eq__ n) a b = peqF n a b)
    (p : NPat) (m : List (Nat × NPat)) (b : NPat) (h : DK (.inst p m) = true) (hb : DK b = true) :
    Gen.PyNot.__eq__ (n + 1) (.inst p m) b = (instF n m p >>= fun s => peqF n s b).map some := by
  obtain ⟨hp, hm⟩ := DK_inst h
  simp only [Gen.PyNot.__eq__, instantiate_eq n p m hp hm]
  cases hs : instF n m p with
  | none => rfl
  | some s =>
    have := ih s b (instF_DK n m p s hp hm hs) hb
    simp only [Option.bind_eq_bind, Option.bind_some, this]
    cases peqF n s b <;> rfl

/-- the translated `==` is the model's `peqF`, at every fuel -/
theorem opEq_eq : ∀ (n : Nat) (a b : NPat), DK a = true → DK b = true →
    opEq (Gen.PyNot.__eq__ n) a b = peqF n a b := by
  intro n
  induction n with
  | zero => intro a b _ _; simp [opEq, Gen.PyNot.__eq__, peqF]
  | succ n ih =>
    intro a b ha hb
    have two : ∀ (l r l' r' : NPat), DK l = true → DK r = true → DK l' = true → DK r' = true →
        (opEq (Gen.PyNot.__eq__ n) l l' >>= fun t1 => if (!t1) = true then pure (some false) else
          opEq (Gen.PyNot.__eq__ n) r r' >>= fun t2 => if (!t2) = true then pure (some false) else pure (some true))
        = (peqF n l l' >>= fun a => if a = true then peqF n r r' else pure false).map some := by
      intro l r l' r' hl hr hl' hr'
      rw [ih l l' hl hl', ih r r' hr hr']
      cases peqF n l l' with
      | none => rfl
      | some a =>
        cases a
        · rfl
        · cases peqF n r r' with
          | none => rfl
          | some c => cases c <;> rfl
    have one : ∀ (x y : VId) (q q' : NPat), DK q = true → DK q' = true →
        (if (!(x == y)) = true then pure (some false) else
          opEq (Gen.PyNot.__eq__ n) q q' >>= fun t1 => if (!t1) = true then pure (some false) else pure (some true))
        = (if (x == y) = true then peqF n q q' else some false).map some := by
      intro x y q q' hq hq'
      rw [ih q q' hq hq']
      cases (x == y)
      · rfl
      · cases peqF n q q' with
        | none => rfl
        | some c => cases c <;> rfl
    have three : ∀ (x y : VId) (q r q' r' : NPat), DK q = true → DK r = true → DK q' = true → DK r' = true →
        (opEq (Gen.PyNot.__eq__ n) q q' >>= fun t1 => if (!t1) = true then pure (some false) else
          if (!(x == y)) = true then pure (some false) else
          opEq (Gen.PyNot.__eq__ n) r r' >>= fun t2 => if (!t2) = true then pure (some false) else pure (some true))
        = (peqF n q q' >>= fun a => if (!a) = true then pure false else if (x != y) = true then pure false else peqF n r r').map some := by
      intro x y q r q' r' hq hr hq' hr'
      rw [ih q q' hq hq', ih r r' hr hr']
      cases peqF n q q' with
      | none => rfl
      | some a =>
        cases a
        · rfl
        · by_cases hxy : x = y
          · subst hxy
            simp only [Option.bind_eq_bind, Option.bind_some, Bool.not_true, Bool.false_eq_true, if_false, beq_self_eq_true,
              bne_self_eq_false]
            cases peqF n r r' with
            | none => rfl
            | some c => cases c <;> rfl
          · have h1 : (x == y) = false := by simpa using hxy
            have h2 : (x != y) = true := by simpa using hxy
            simp [h1, h2]
    cases a with
    | inst p m => exact opEq_first (eq_method_inst n ih p m b ha hb)
    | evar x =>
      cases b with
      | inst p m => exact opEq_reflected rfl (eq_method_inst n ih p m _ hb ha)
      | evar y => apply opEq_first; simp only [Gen.PyNot.__eq__, peqF]; cases (x == y) <;> rfl
      | _ => exact opEq_neither rfl rfl
    | svar x =>
      cases b with
      | inst p m => exact opEq_reflected rfl (eq_method_inst n ih p m _ hb ha)
      | svar y => apply opEq_first; simp only [Gen.PyNot.__eq__, peqF]; cases (x == y) <;> rfl
      | _ => exact opEq_neither rfl rfl
    | sym x =>
      cases b with
      | inst p m => exact opEq_reflected rfl (eq_method_inst n ih p m _ hb ha)
      | sym y => apply opEq_first; simp only [Gen.PyNot.__eq__, peqF]; cases (x == y) <;> rfl
      | _ => exact opEq_neither rfl rfl
    | imp l r =>
      simp only [DK, Bool.and_eq_true] at ha
      cases b with
      | inst p m => exact opEq_reflected rfl (eq_method_inst n ih p m _ hb (by simp [DK, ha]))
      | imp l' r' =>
        simp only [DK, Bool.and_eq_true] at hb
        apply opEq_first; simp only [Gen.PyNot.__eq__, peqF]; exact two l r l' r' ha.1 ha.2 hb.1 hb.2
      | _ => exact opEq_neither rfl rfl
    | app l r =>
      simp only [DK, Bool.and_eq_true] at ha
      cases b with
      | inst p m => exact opEq_reflected rfl (eq_method_inst n ih p m _ hb (by simp [DK, ha]))
      | app l' r' =>
        simp only [DK, Bool.and_eq_true] at hb
        apply opEq_first; simp only [Gen.PyNot.__eq__, peqF]; exact two l r l' r' ha.1 ha.2 hb.1 hb.2
      | _ => exact opEq_neither rfl rfl
    | ex x q =>
      simp only [DK] at ha
      cases b with
      | inst p m => exact opEq_reflected rfl (eq_method_inst n ih p m _ hb (by simp [DK, ha]))
      | ex y q' =>
        simp only [DK] at hb
        apply opEq_first; simp only [Gen.PyNot.__eq__, peqF]; exact one x y q q' ha hb
      | _ => exact opEq_neither rfl rfl
    | mu x q =>
      simp only [DK] at ha
      cases b with
      | inst p m => exact opEq_reflected rfl (eq_method_inst n ih p m _ hb (by simp [DK, ha]))
      | mu y q' =>
        simp only [DK] at hb
        apply opEq_first; simp only [Gen.PyNot.__eq__, peqF]; exact one x y q q' ha hb
      | _ => exact opEq_neither rfl rfl
    | mv a1 a2 a3 a4 a5 a6 =>
      cases b with
      | inst p m => exact opEq_reflected rfl (eq_method_inst n ih p m _ hb ha)
      | mv b1 b2 b3 b4 b5 b6 =>
        apply opEq_first; simp only [Gen.PyNot.__eq__, peqF]
        -- the first field that differs decides, on both sides
        cases (a1 == b1); · rfl
        cases (a2 == b2); · rfl
        cases (a3 == b3); · rfl
        cases (a4 == b4); · rfl
        cases (a5 == b5); · rfl
        cases (a6 == b6) <;> rfl
      | _ => exact opEq_neither rfl rfl
    | esub q x r =>
      simp only [DK, Bool.and_eq_true] at ha
      cases b with
      | inst p m => exact opEq_reflected rfl (eq_method_inst n ih p m _ hb (by simp [DK, ha]))
      | esub q' y r' =>
        simp only [DK, Bool.and_eq_true] at hb
        apply opEq_first; simp only [Gen.PyNot.__eq__, peqF]; exact three x y q r q' r' ha.1 ha.2 hb.1 hb.2
      | _ => exact opEq_neither rfl rfl
    | ssub q x r =>
      simp only [DK, Bool.and_eq_true] at ha
      cases b with
      | inst p m => exact opEq_reflected rfl (eq_method_inst n ih p m _ hb (by simp [DK, ha]))
      | ssub q' y r' =>
        simp only [DK, Bool.and_eq_true] at hb
        apply opEq_first; simp only [Gen.PyNot.__eq__, peqF]; exact three x y q r q' r' ha.1 ha.2 hb.1 hb.2
      | _ => exact opEq_neither rfl rfl

/-- Python's `a == b` on patterns, as generated from the dataclass declarations and `Instantiate.__eq__`, is `peqF` -/
theorem eq_eq (n : Nat) (a b : NPat) (ha : DK a = true) (hb : DK b = true) :
    Gen.PyNot.eq n a b = peqF n a b := opEq_eq n a b ha hb


/-! ## `evar_is_free` -/

/-- whatever the model answers, the text answers, at the same fuel -/
theorem evar_is_free_of_model : ∀ (n : Nat) (e : VId) (p : NPat) (b : Bool), DK p = true →
    evarIsFreeF n e p = some b → Gen.PyNot.evar_is_free n p e = some b := by
  intro n
  induction n with
  | zero => intro e p b _ h; simp [evarIsFreeF] at h
  | succ n ih =>
    intro e p b hp h
    cases p with
    | evar x =>
      simp only [evarIsFreeF, Option.some.injEq] at h; subst h
      simp only [Gen.PyNot.evar_is_free, bne_comm]; rfl
    | svar x | sym x | mv id ef sf ps ns hs' => exact h
    | imp l r | app l r =>
      simp only [DK, Bool.and_eq_true] at hp
      simp only [evarIsFreeF, Option.bind_eq_bind, Option.pure_def, Option.bind_eq_some_iff,
        Option.some.injEq] at h
      obtain ⟨a, ha, c, hc, rfl⟩ := h
      simp only [Gen.PyNot.evar_is_free, ih e l a hp.1 ha, ih e r c hp.2 hc]
      cases a <;> rfl
    | ex x q =>
      simp only [DK] at hp
      simp only [evarIsFreeF] at h
      simp only [Gen.PyNot.evar_is_free]
      split at h
      · next hx => simp only [hx, if_true]; exact h
      · next hx => simp only [hx, if_false]; exact ih e q b hp h
    | mu x q =>
      simp only [DK] at hp
      simp only [evarIsFreeF] at h
      simp only [Gen.PyNot.evar_is_free]
      exact ih e q b hp h
    | esub q x r =>
      simp only [DK, Bool.and_eq_true] at hp
      simp only [evarIsFreeF] at h
      simp only [Gen.PyNot.evar_is_free]
      split at h
      · next hx => simp only [hx, if_true]; exact ih e r b hp.2 h
      · next hx =>
        simp only [hx, if_false]
        simp only [Option.bind_eq_bind, Option.bind_eq_some_iff] at h
        obtain ⟨a, ha, h⟩ := h
        rw [ih e q a hp.1 ha]
        cases a
        · simpa using h
        · simp only [if_true] at h; exact ih e r b hp.2 h
    | ssub q x r =>
      simp only [DK, Bool.and_eq_true] at hp
      simp only [evarIsFreeF, Option.bind_eq_bind, Option.bind_eq_some_iff] at h
      simp only [Gen.PyNot.evar_is_free]
      obtain ⟨a, ha, h⟩ := h
      rw [ih e q a hp.1 ha]
      cases a
      · simpa using h
      · simp only [if_true] at h; exact ih e r b hp.2 h
    | inst q m =>
      obtain ⟨hq, hm⟩ := DK_inst hp
      simp only [evarIsFreeF, Option.bind_eq_bind, Option.bind_eq_some_iff] at h
      obtain ⟨s, hs, h⟩ := h
      simp only [Gen.PyNot.evar_is_free, instantiate_eq n q m hq hm, hs]
      exact ih e s b (instF_DK n m q s hq hm hs) h

theorem instF_agree {n m : Nat} {δ : List (Nat × NPat)} {p s s' : NPat} (h1 : instF n δ p = some s)
    (h2 : instF m δ p = some s') : s = s' := by
  have a := instF_mono (Nat.le_max_left n m) δ p s h1
  have b := instF_mono (Nat.le_max_right n m) δ p s' h2
  rw [a] at b; exact Option.some.inj b

/-- an answer of the text and an answer of the model, at any two fuels, agree -/
theorem evar_is_free_consistent : ∀ (n m : Nat) (e : VId) (p : NPat) (b b' : Bool), DK p = true →
    Gen.PyNot.evar_is_free n p e = some b → evarIsFreeF m e p = some b' → b = b' := by
  intro n
  induction n with
  | zero => intro m e p b b' _ h; simp [Gen.PyNot.evar_is_free] at h
  | succ n ih =>
    intro m e p b b' hp h h'
    cases m with
    | zero => simp [evarIsFreeF] at h'
    | succ m =>
    cases p with
    | evar x =>
      simp only [Gen.PyNot.evar_is_free, Option.pure_def, Option.some.injEq] at h
      simp only [evarIsFreeF, Option.some.injEq] at h'
      rw [← h, ← h', bne_comm]
    | svar x | sym x | mv id ef sf ps ns hs' => cases h; cases h'; rfl
    | imp l r | app l r =>
      simp only [DK, Bool.and_eq_true] at hp
      simp only [Gen.PyNot.evar_is_free, Option.bind_eq_bind, Option.bind_eq_some_iff] at h
      simp only [evarIsFreeF, Option.bind_eq_bind, Option.pure_def, Option.bind_eq_some_iff,
        Option.some.injEq] at h'
      obtain ⟨t1, ht1, h⟩ := h
      obtain ⟨a, ha, c, hc, rfl⟩ := h'
      have e1 := ih m e l t1 a hp.1 ht1 ha
      subst e1
      cases t1
      · simpa using h.symm
      · simp only [if_true] at h
        simpa using ih m e r b c hp.2 h hc
    | ex x q =>
      simp only [DK] at hp
      simp only [Gen.PyNot.evar_is_free] at h
      simp only [evarIsFreeF] at h'
      split at h
      · next hx => simp only [hx, if_true, Option.some.injEq] at h'; simp only [Option.pure_def, Option.some.injEq] at h; rw [← h, ← h']
      · next hx => simp only [hx, if_false] at h'; exact ih m e q b b' hp h h'
    | mu x q =>
      simp only [DK] at hp
      simp only [Gen.PyNot.evar_is_free] at h
      simp only [evarIsFreeF] at h'
      exact ih m e q b b' hp h h'
    | esub q x r =>
      simp only [DK, Bool.and_eq_true] at hp
      simp only [Gen.PyNot.evar_is_free] at h
      simp only [evarIsFreeF] at h'
      split at h
      · next hx => simp only [hx, if_true] at h'; exact ih m e r b b' hp.2 h h'
      · next hx =>
        simp only [hx, Bool.false_eq_true, if_false, Option.bind_eq_bind, Option.bind_eq_some_iff] at h'
        simp only [Option.bind_eq_bind, Option.bind_eq_some_iff] at h
        obtain ⟨t1, ht1, h⟩ := h
        obtain ⟨a, ha, h'⟩ := h'
        have e1 := ih m e q t1 a hp.1 ht1 ha
        subst e1
        cases t1
        · simp only [Bool.false_eq_true, if_false, Option.pure_def, Option.some.injEq] at h h'
          rw [← h, ← h']
        · simp only [if_true] at h h'
          exact ih m e r b b' hp.2 h h'
    | ssub q x r =>
      simp only [DK, Bool.and_eq_true] at hp
      simp only [Gen.PyNot.evar_is_free, Option.bind_eq_bind, Option.bind_eq_some_iff] at h
      simp only [evarIsFreeF, Option.bind_eq_bind, Option.bind_eq_some_iff] at h'
      obtain ⟨t1, ht1, h⟩ := h
      obtain ⟨a, ha, h'⟩ := h'
      have e1 := ih m e q t1 a hp.1 ht1 ha
      subst e1
      cases t1
      · simp only [Bool.false_eq_true, if_false, Option.pure_def, Option.some.injEq] at h h'
        rw [← h, ← h']
      · simp only [if_true] at h h'
        exact ih m e r b b' hp.2 h h'
    | inst q mm =>
      obtain ⟨hq, hm⟩ := DK_inst hp
      simp only [Gen.PyNot.evar_is_free, instantiate_eq n q mm hq hm, Option.bind_eq_bind,
        Option.bind_eq_some_iff] at h
      simp only [evarIsFreeF, Option.bind_eq_bind, Option.bind_eq_some_iff] at h'
      obtain ⟨s, hs, h⟩ := h
      obtain ⟨s', hs', h'⟩ := h'
      have := instF_agree hs hs'
      subst this
      exact ih m e s b b' (instF_DK n mm q s hq hm hs) h h'

/-- the verdict `True` ("does not occur free" — the one that licenses a proof step) is exact at every fuel -/
theorem evar_is_free_true_iff : ∀ (n : Nat) (e : VId) (p : NPat), DK p = true →
    (Gen.PyNot.evar_is_free n p e = some true ↔ evarIsFreeF n e p = some true) := by
  intro n e p hp
  refine ⟨?_, evar_is_free_of_model n e p true hp⟩
  induction n generalizing p with
  | zero => intro h; simp [Gen.PyNot.evar_is_free] at h
  | succ n ih =>
    intro h
    cases p with
    | evar x =>
      simp only [Gen.PyNot.evar_is_free, Option.pure_def, Option.some.injEq] at h
      simp only [evarIsFreeF, Option.some.injEq, bne_comm, h]
    | svar x | sym x | mv id ef sf ps ns hs' => exact h
    | imp l r | app l r =>
      simp only [DK, Bool.and_eq_true] at hp
      simp only [Gen.PyNot.evar_is_free, Option.bind_eq_bind, Option.bind_eq_some_iff] at h
      obtain ⟨t1, ht1, h⟩ := h
      cases t1
      · simp at h
      · simp only [if_true] at h
        simp [evarIsFreeF, ih l hp.1 ht1, ih r hp.2 h]
    | ex x q =>
      simp only [DK] at hp
      simp only [Gen.PyNot.evar_is_free] at h
      simp only [evarIsFreeF]
      split at h
      · next hx => simp only [hx, if_true]
      · next hx => simp only [hx, if_false]; exact ih q hp h
    | mu x q =>
      simp only [DK] at hp
      simp only [Gen.PyNot.evar_is_free] at h
      simp only [evarIsFreeF]
      exact ih q hp h
    | esub q x r =>
      simp only [DK, Bool.and_eq_true] at hp
      simp only [Gen.PyNot.evar_is_free] at h
      simp only [evarIsFreeF]
      split at h
      · next hx => simp only [hx, if_true]; exact ih r hp.2 h
      · next hx =>
        simp only [hx, if_false]
        simp only [Option.bind_eq_bind, Option.bind_eq_some_iff] at h
        obtain ⟨t1, ht1, h⟩ := h
        cases t1
        · simp at h
        · simp only [if_true] at h
          simp [ih q hp.1 ht1, ih r hp.2 h]
    | ssub q x r =>
      simp only [DK, Bool.and_eq_true] at hp
      simp only [Gen.PyNot.evar_is_free, Option.bind_eq_bind, Option.bind_eq_some_iff] at h
      simp only [evarIsFreeF]
      obtain ⟨t1, ht1, h⟩ := h
      cases t1
      · simp at h
      · simp only [if_true] at h
        simp [ih q hp.1 ht1, ih r hp.2 h]
    | inst q m =>
      obtain ⟨hq, hm⟩ := DK_inst hp
      simp only [Gen.PyNot.evar_is_free, instantiate_eq n q m hq hm, Option.bind_eq_bind,
        Option.bind_eq_some_iff] at h
      obtain ⟨s, hs, h⟩ := h
      simp only [evarIsFreeF, hs, Option.bind_eq_bind, Option.bind_some]
      exact ih s (instF_DK n m q s hq hm hs) h

/-- … and the two are not the same function of the fuel: `Implies(x0, Implies(x1, x1)).evar_is_free(0)` at fuel 2 —
Python's `and` does not evaluate the right operand (answer `False`), the model evaluates both (out of fuel) -/
theorem evar_is_free_differs :
    Gen.PyNot.evar_is_free 2 (.imp (.evar 0) (.imp (.evar 1) (.evar 1))) 0 = some false ∧
    evarIsFreeF 2 0 (.imp (.evar 0) (.imp (.evar 1) (.evar 1))) = none := by decide

/-! ## the hypothesis -/

/-- on an association list with a repeated key (not the item list of a `dict`) the loop of `Instantiate.instantiate`
keeps the last entry, the model the first -/
theorem instantiate_needs_distinct_keys :
    (Gen.PyNot.instantiate 5 (.inst (.mv 1 [] [] [] [] []) []) [(1, .evar 1), (1, .evar 2)]).map NPat.expand
      = some (.evar 2) ∧
    (instF 5 [(1, .evar 1), (1, .evar 2)] (.inst (.mv 1 [] [] [] [] []) [])).map NPat.expand = some (.evar 1) := by
  decide

/-- `frozendict(enumerate(args))` (`Notation.__call__`) -/
def enumFrom : Nat → List NPat → List (Nat × NPat)
  | _, [] => []
  | i, a :: r => (i, a) :: enumFrom (i + 1) r

theorem keys_enumFrom (i : Nat) (args : List NPat) : keys (enumFrom i args) = List.range' i args.length := by
  induction args generalizing i with
  | nil => rfl
  | cons a r ih => simp [enumFrom, keys, List.range'] at ih ⊢; exact ih (i + 1)

/-- an application `N(args)` of a notation has distinct keys if its body and arguments have -/
theorem DK_call (body : NPat) (args : List NPat) (hb : DK body = true) (ha : ∀ a ∈ args, DK a = true) :
    DK (.inst body (enumFrom 0 args)) = true := by
  have h1 : ∀ i, DKMap (enumFrom i args) = true := by
    induction args with
    | nil => intro i; rfl
    | cons a r ih =>
      intro i
      simp only [enumFrom, DKMap, Bool.and_eq_true]
      exact ⟨ha a (by simp), ih (fun a' h' => ha a' (List.mem_cons_of_mem _ h')) (i + 1)⟩
  simp only [DK, hb, h1 0, Bool.true_and, decide_eq_true_eq, keys_enumFrom]
  exact List.nodup_range'

/-- a notation-free pattern has no maps -/
theorem DK_ofPat (q : Pat) : DK (NPat.ofPat q) = true := by
  induction q with
  | imp l r ihl ihr | app l r ihl ihr => simp [NPat.ofPat, DK, ihl, ihr]
  | ex x p ih | mu x p ih => simp [NPat.ofPat, DK, ih]
  | esub p x q ihp ihq | ssub p x q ihp ihq => simp [NPat.ofPat, DK, ihp, ihq]
  | _ => rfl


end NotTie
