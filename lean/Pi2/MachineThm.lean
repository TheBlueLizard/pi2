import Pi2.CodecThm
/-! # Lemmas about the reference machine used by C05 (rejection behaviour, left-to-right execution) -/
set_option linter.unusedVariables false
set_option linter.unusedSimpArgs false
open Pat

/-- the opcode bytes the machine implements -/
def validOps : List Nat := [2,3,4,5,6,7,8,9,10,11,12,13,14,15,19,21,22,24,26,27,28,29,30,137]

theorem decode1_badOpcode (b : Nat) (rest : List Nat) (h : b ∉ validOps) : decode1 (b :: rest) = none := by
  cases hd : decode1 (b :: rest) with
  | none => rfl
  | some ir => exact absurd (decode1_opcode hd) h

theorem decodeF_cons_none {f : Nat} {b : Nat} {bs : List Nat} (h : decode1 (b :: bs) = none) :
    decodeF f (b :: bs) = none := by
  cases f <;> simp [decodeF, h]

theorem decode_append_instr (is : List Instr) (rest : List Nat) :
    decode (encode is ++ rest) = (decode rest).map (is ++ ·) := by
  induction is with
  | nil => simp [encode]
  | cons i is ih =>
    have henc : encode (i :: is) ++ rest = encode1 i ++ (encode is ++ rest) := by simp [encode]
    rw [henc]
    have hne := encode1_ne_nil i
    cases hb : encode1 i ++ (encode is ++ rest) with
    | nil => simp at hb; exact absurd hb.1 hne
    | cons b bs =>
      unfold decode
      simp only [List.length_cons, decodeF]
      rw [← hb, decode1_encode1]
      simp only []
      have hlen : (encode is ++ rest).length ≤ bs.length := by
        have h1 := List.length_pos_iff.mpr hne
        have := congrArg List.length hb
        simp at this ⊢; omega
      rw [decodeF_fuel _ _ hlen]
      have := ih
      unfold decode at this
      rw [this]
      cases decodeF rest.length rest <;> simp

/-- run is left to right: running `is ++ js` is running `is` and then `js` from the state reached -/
theorem run_append (ph : Phase) : ∀ (is js : List Instr) (s : St),
    run ph s (is ++ js) =
      (run ph s is).bind fun (s', o) => (run ph s' js).map fun (s'', o') => (s'', o ++ o') := by
  intro is
  induction is with
  | nil =>
    intro js s
    simp only [List.nil_append, run, Option.bind_some]
    cases run ph s js with
    | none => rfl
    | some r => simp
  | cons i is ih =>
    intro js s
    simp only [List.cons_append, run]
    cases h1 : step ph s i with
    | none => simp
    | some r1 =>
      obtain ⟨s1, j⟩ := r1
      simp only [Option.bind_eq_bind, Option.bind_some]
      rw [ih js s1]
      cases h2 : run ph s1 is with
      | none => simp
      | some r2 =>
        obtain ⟨s2, o2⟩ := r2
        simp only [Option.bind_some]
        cases h3 : run ph s2 js with
        | none => simp [h3]
        | some r3 => obtain ⟨s3, o3⟩ := r3; simp [h3, List.append_assoc]

/-- once a prefix is rejected, no continuation is accepted -/
theorem run_prefix_rejected (ph : Phase) (is js : List Instr) (s : St) (h : run ph s is = none) :
    run ph s (is ++ js) = none := by
  rw [run_append, h]; rfl

/-! ### what each instruction needs on the stack -/

inductive Need where | any | pat | proved
deriving DecidableEq, Repr

def Need.ok : Need → Term → Bool
  | .any, _ => true
  | .pat, .pat _ => true
  | .proved, .proved _ => true
  | _, _ => false

/-- required kinds, top of stack first -/
def needs (ph : Phase) : Instr → List Need
  | .implies | .app => [.pat, .pat]
  | .ex _ | .mu _ => [.pat]
  | .esubst _ | .ssubst _ => [.pat, .pat]
  | .mp => [.proved, .proved]
  | .gen _ => [.proved]
  | .subst _ => [.proved, .pat]
  | .instantiate ids => .any :: List.replicate ids.length .pat
  | .pop | .save => [.any]
  | .publish => match ph with | .proof => [.proved] | _ => [.pat]
  | _ => []

def stackOK : List Need → List Term → Bool
  | [], _ => true
  | _ :: _, [] => false
  | n :: ns, t :: ts => n.ok t && stackOK ns ts

theorem popPats_none_of_not_ok : ∀ (n : Nat) (st : List Term),
    stackOK (List.replicate n .pat) st = false → popPats n st = none := by
  intro n
  induction n with
  | zero => intro st h; simp [stackOK] at h
  | succ n ih =>
    intro st h
    cases st with
    | nil => simp [popPats]
    | cons t ts =>
      cases t with
      | proved q => simp [popPats]
      | pat q =>
        simp only [List.replicate_succ, stackOK, Need.ok, Bool.true_and] at h
        simp [popPats, ih ts h]

/-- **underflow / type confusion**: if the stack does not hold the kinds of terms an instruction
needs (too few entries, a proof where a pattern is required or vice versa), the machine rejects. -/
theorem step_type_confusion (ph : Phase) (s : St) (i : Instr)
    (h : stackOK (needs ph i) s.stack = false) : step ph s i = none := by
  obtain ⟨stack, memory, claims⟩ := s
  cases i <;> dsimp only [needs] at h <;> try (simp [stackOK] at h; done)
  case implies | app | esubst x | ssubst x =>
    dsimp only [step]
    match stack, h with
    | [], _ => rfl
    | [_], _ => simp
    | .pat _ :: .pat _ :: _, h => simp [stackOK, Need.ok] at h
    | .proved _ :: _ :: _, _ => rfl
    | .pat _ :: .proved _ :: _, _ => rfl
  case ex x | mu x =>
    dsimp only [step]
    match stack, h with
    | [], _ => rfl
    | .pat _ :: _, h => simp [stackOK, Need.ok] at h
    | .proved _ :: _, _ => rfl
  case mp =>
    dsimp only [step]
    match stack, h with
    | [], _ => rfl
    | [_], _ => simp
    | .proved _ :: .proved _ :: _, h => simp [stackOK, Need.ok] at h
    | .pat _ :: _ :: _, _ => rfl
    | .proved _ :: .pat _ :: _, _ => rfl
  case gen x =>
    dsimp only [step]
    match stack, h with
    | [], _ => rfl
    | .proved _ :: _, h => simp [stackOK, Need.ok] at h
    | .pat _ :: _, _ => rfl
  case subst x =>
    dsimp only [step]
    match stack, h with
    | [], _ => rfl
    | [_], _ => simp
    | .proved _ :: .pat _ :: _, h => simp [stackOK, Need.ok] at h
    | .pat _ :: _ :: _, _ => rfl
    | .proved _ :: .proved _ :: _, _ => rfl
  case instantiate ids =>
    dsimp only [step]
    match stack, h with
    | [], _ => rfl
    | .pat p :: st, h | .proved p :: st, h =>
      simp only [stackOK, Need.ok, Bool.true_and] at h
      simp [popPats_none_of_not_ok _ _ h]
  case pop | save =>
    dsimp only [step]
    match stack, h with
    | [], _ => rfl
    | _ :: _, h => simp [stackOK, Need.ok] at h
  case publish =>
    cases ph <;> simp only [step] <;> simp only [] at h
    iterate 2
      match stack, h with
      | [], _ => rfl
      | .pat _ :: _, h => simp [stackOK, Need.ok] at h
      | .proved _ :: _, _ => rfl
    · match stack, h with
      | [], _ => rfl
      | .proved _ :: _, h => simp [stackOK, Need.ok] at h
      | .pat _ :: _, _ => rfl

theorem step_load_badIndex (ph : Phase) (s : St) (i : Nat) (h : s.memory.length ≤ i) :
    step ph s (.load i) = none := by
  simp [step, List.getElem?_eq_none h]

theorem step_publish_mismatch (s : St) (t c : Pat) (st : List Term) (cs : List Pat)
    (hs : s.stack = .proved t :: st) (hc : s.claims = c :: cs) (hne : c ≠ t) :
    step .proof s .publish = none := by
  simp [step, hs, hc, hne]

theorem step_publish_noClaim (s : St) (hc : s.claims = []) : step .proof s .publish = none := by
  simp only [step, hc]
  split <;> simp_all
