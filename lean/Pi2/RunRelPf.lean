import Pi2.RunRel
/-!
# What a returning run of a proof thunk is (scratch, design A, second level)

Every proof form is: compile the plugs `pf.plugs` (a `Run`), run the sub-proofs `pf.subs` in order, make at most one
call `pf.headCall`; the thunk then checks the top of the stack against the advertised conclusion.
-/
set_option linter.unusedVariables false
open PySt

namespace Pf
def plugs : Pf → List NPat
  | dynInst _ δ => if δ.isEmpty then [] else δ.map (·.2)
  | _ => []
def subs : Pf → List Pf
  | mp l r => [l, r] | gen p _ => [p] | dynInst p _ => [p] | _ => []
def headCall : Pf → Option Call
  | prop1 => some .prop1 | prop2 => some .prop2 | prop3 => some .prop3 | quantifier => some .quantifier
  | mp _ _ => some .mp | gen _ x => some (.gen x)
  | dynInst _ δ => if δ.isEmpty then none else some (.instantiate (δ.map (·.1)))
  | loadAxiom a => some (.load (.proved a))
end Pf

/-- at most one call -/
inductive OptStep (N : Nat) : Option Call → PySt → PySt → List Call → Prop
  | none (s : PySt) : OptStep N none s s []
  | some {c : Call} {s s' : PySt} : track1 N s c = some (some s') → OptStep N (some c) s s' [c]

/-- the thunk's check of what it proved against what it advertised -/
def Checked (ax : List NPat) (pf : Pf) (c : NPat) : Prop :=
  ∃ k adv, Pf.concF ax k pf = some (some adv) ∧ NPat.peqF k c adv = some true

/-- a returning run of the thunks `pfs` one after the other; `concs` are the proved conclusions they return -/
inductive PfRun (cfg : Cfg) (ax : List NPat) (N : Nat) : PySt → List Pf → PySt → List Call → List NPat → Prop
  | nil (s : PySt) : PfRun cfg ax N s [] s [] []
  | cons {s s1 s2 s3 s' : PySt} {pf : Pf} {pfs : List Pf} {c1 c2 c3 cs : List Call} {c : NPat} {b : Bool}
      {st : List (TTerm × Bool)} {sub concs : List NPat} :
      Run cfg N s pf.plugs s1 c1 → PfRun cfg ax N s1 pf.subs s2 c2 sub → OptStep N pf.headCall s2 s3 c3 →
      s3.stack = (.proved c, b) :: st → Checked ax pf c →
      PfRun cfg ax N s3 pfs s' cs concs → PfRun cfg ax N s (pf :: pfs) s' (c1 ++ c2 ++ c3 ++ cs) (c :: concs)

theorem PfRun.append {cfg : Cfg} {ax : List NPat} {N : Nat} {s s1 s2 : PySt} {ps qs : List Pf} {cs cs' : List Call}
    {a b : List NPat} (h1 : PfRun cfg ax N s ps s1 cs a) (h2 : PfRun cfg ax N s1 qs s2 cs' b) :
    PfRun cfg ax N s (ps ++ qs) s2 (cs ++ cs') (a ++ b) := by
  induction h1 with
  | nil s => exact h2
  | cons hp hs ho hst hc _ _ ih =>
    have := PfRun.cons hp hs ho hst hc (ih h2)
    simpa using this

theorem andThen3_ret {α β γ δ} {x : Option (Option (α × β × γ))} {f : α → β → γ → Option (Option δ)} {r : δ}
    (h : andThen3 x f = some (some r)) : ∃ a b c, x = some (some (a, b, c)) ∧ f a b c = some (some r) := by
  rcases andThen3_eq_some x f _ h with ⟨_, e⟩ | h
  · cases e
  · exact h

theorem checkF_ret {ax : List NPat} {k : Nat} {pf : Pf} {s' s1 : PySt} {a' a1 : List Call} {c : NPat}
    (h : checkF ax k pf s' a' = some (some (s1, a1, c))) :
    s1 = s' ∧ a1 = a' ∧ (∃ b st, s'.stack = (.proved c, b) :: st) ∧ Checked ax pf c := by
  simp only [checkF] at h
  split at h
  · next c' b' st' hst =>
    simp only [Option.bind_eq_some_iff] at h
    obtain ⟨o, ho, h⟩ := h
    cases o with
    | none => simp at h
    | some adv =>
      simp only [Option.bind_eq_some_iff] at h
      obtain ⟨e, he, h⟩ := h
      cases e with
      | false => simp at h
      | true =>
        simp only [if_true, Option.pure_def, Option.some.injEq, Prod.mk.injEq] at h
        obtain ⟨rfl, rfl, rfl⟩ := h
        exact ⟨rfl, rfl, ⟨b', st', hst⟩, k, adv, ho, he⟩
  · simp at h

variable {cfg : Cfg} {ax : List NPat} {N : Nat}

/-- **a returning thunk is a run** -/
theorem runF_run : ∀ k, k ≤ N → ∀ s pf acc s1 a1 c, Pf.runF cfg ax k s pf acc = some (some (s1, a1, c)) →
    ∃ cs, a1 = acc ++ cs ∧ PfRun cfg ax N s [pf] s1 cs [c] := by
  intro k
  induction k with
  | zero => intro _ s pf acc s1 a1 c h; simp [Pf.runF] at h
  | succ k ih =>
    intro hk1 s pf acc s1 a1 c h
    have hk : k ≤ N := Nat.le_of_succ_le hk1
    have ih := ih hk
    rw [runF_succ] at h
    obtain ⟨s3, a3, hraw, hchk⟩ := andThen_ret h
    obtain ⟨rfl, rfl, ⟨b, st, hst⟩, hc⟩ := checkF_ret hchk
    have call : ∀ {s2 : PySt} {a2 : List Call} {x : Call}, doCalls k s2 [x] a2 = some (some (s1, a1)) →
        OptStep N (some x) s2 s1 [x] ∧ a1 = a2 ++ [x] := fun h =>
      ⟨.some (track1_mono hk _ _ _ (MM.doCalls_one h).1), (MM.doCalls_one h).2⟩
    cases pf with
    | prop1 | prop2 | prop3 | quantifier | loadAxiom a =>
      obtain ⟨ho, rfl⟩ := call hraw
      exact ⟨_, rfl, by simpa using PfRun.cons (.nil s) (.nil s) ho hst hc (.nil _)⟩
    | gen p x =>
      obtain ⟨s1', a1', c1, h1, h⟩ := andThen3_ret hraw
      obtain ⟨cs1, rfl, r1⟩ := ih _ _ _ _ _ _ h1
      obtain ⟨ho, rfl⟩ := call h
      exact ⟨cs1 ++ [.gen x], by simp, by simpa using PfRun.cons (.nil s) r1 ho hst hc (.nil _)⟩
    | mp l r =>
      obtain ⟨s1', a1', c1, h1, h⟩ := andThen3_ret hraw
      obtain ⟨s2', a2', c2, h2, h⟩ := andThen3_ret h
      obtain ⟨cs1, rfl, r1⟩ := ih _ _ _ _ _ _ h1
      obtain ⟨cs2, rfl, r2⟩ := ih _ _ _ _ _ _ h2
      obtain ⟨ho, rfl⟩ := call h
      exact ⟨cs1 ++ cs2 ++ [.mp], by simp,
        by simpa using PfRun.cons (.nil s) (r1.append r2) ho hst hc (.nil _)⟩
    | dynInst p δ =>
      cases hne : δ.isEmpty with
      | true =>
        simp only [rawF, hne, if_true] at hraw
        obtain ⟨s1', a1', c1, h1, h⟩ := andThen3_ret hraw
        simp only [Option.pure_def, Option.some.injEq, Prod.mk.injEq] at h
        obtain ⟨rfl, rfl⟩ := h
        obtain ⟨cs1, rfl, r1⟩ := ih _ _ _ _ _ _ h1
        have hp : (Pf.dynInst p δ).plugs = [] := by simp [Pf.plugs, hne]
        have hh : (Pf.dynInst p δ).headCall = none := by simp [Pf.headCall, hne]
        have r0 : Run cfg N s (Pf.dynInst p δ).plugs s [] := by rw [hp]; exact .nil s
        have ho : ∀ x, OptStep N (Pf.dynInst p δ).headCall x x [] := fun x => by rw [hh]; exact .none x
        exact ⟨cs1, rfl, by simpa using PfRun.cons r0 r1 (ho _) hst hc (.nil _)⟩
      | false =>
        simp only [rawF, hne, Bool.false_eq_true, if_false] at hraw
        obtain ⟨t1, b1, h1, h⟩ := andThen_ret hraw
        obtain ⟨t2, b2, c2, h2, h⟩ := andThen3_ret h
        obtain ⟨cs0, rfl, r0⟩ := patternListF_run hk h1
        obtain ⟨cs1, rfl, r1⟩ := ih _ _ _ _ _ _ h2
        obtain ⟨ho, rfl⟩ := call h
        have hp : (Pf.dynInst p δ).plugs = δ.map (·.2) := by simp [Pf.plugs, hne]
        have hh : (Pf.dynInst p δ).headCall = some (.instantiate (δ.map (·.1))) := by simp [Pf.headCall, hne]
        rw [← hp] at r0
        rw [← hh] at ho
        exact ⟨cs0 ++ cs1 ++ [.instantiate (δ.map (·.1))], by simp, by
          simpa using PfRun.cons r0 r1 ho hst hc (.nil _)⟩

/-! ## the loops of `execute_full` -/

/-- `pattern a; c` for each `a` (the gamma loop with `c = publishAxiom`, the claim loop with `c = publishClaim`) -/
inductive PubRun (cfg : Cfg) (N : Nat) (c : Call) : PySt → List NPat → PySt → List Call → Prop
  | nil (s : PySt) : PubRun cfg N c s [] s []
  | cons {s s1 s2 s' : PySt} {a : NPat} {r : List NPat} {c1 cs : List Call} :
      Run cfg N s [a] s1 c1 → track1 N s1 c = some (some s2) → PubRun cfg N c s2 r s' cs →
      PubRun cfg N c s (a :: r) s' (c1 ++ c :: cs)

/-- `thunk(); publish_proof` for each proof expression -/
inductive ProofsRun (cfg : Cfg) (ax : List NPat) (N : Nat) : PySt → List Pf → PySt → List Call → Prop
  | nil (s : PySt) : ProofsRun cfg ax N s [] s []
  | cons {s s1 s2 s' : PySt} {pf : Pf} {r : List Pf} {c1 cs : List Call} {c : NPat} :
      PfRun cfg ax N s [pf] s1 c1 [c] → track1 N s1 .publishProof = some (some s2) → ProofsRun cfg ax N s2 r s' cs →
      ProofsRun cfg ax N s (pf :: r) s' (c1 ++ .publishProof :: cs)

/-- a returning `execute_full` -/
def ModRun (cfg : Cfg) (N : Nat) (M : PModule) (s : PySt) (calls : List Call) : Prop :=
  ∃ s1 c1 s2 s3 c3 s4 c5,
    PubRun cfg N .publishAxiom (PySt.init M.claimsOf) M.gammaAxioms s1 c1 ∧ track1 N s1 .intoClaim = some (some s2) ∧
    PubRun cfg N .publishClaim s2 M.claimsOf.reverse s3 c3 ∧ track1 N s3 .intoProof = some (some s4) ∧
    ProofsRun cfg M.axiomsOf N s4 M.proofsOf s c5 ∧ calls = c1 ++ .intoClaim :: (c3 ++ .intoProof :: c5)

theorem bind_ret {α β} {x : Option (Option α)} {f : Option α → Option (Option β)} {r : β}
    (h : x.bind f = some (some r)) (hn : f none = some none) : ∃ a, x = some (some a) ∧ f (some a) = some (some r) := by
  obtain ⟨o, ho, h⟩ := Option.bind_eq_some_iff.mp h
  cases o with
  | none => rw [hn] at h; cases h
  | some a => exact ⟨a, ho, h⟩

theorem pub_run {c : Call} : ∀ (as : List NPat) (s : PySt) (acc : List Call) (s' : PySt) (a' : List Call),
    PModule.executeFull.pub cfg N s acc c as = some (some (s', a')) → ∃ cs, a' = acc ++ cs ∧ PubRun cfg N c s as s' cs := by
  intro as
  induction as with
  | nil =>
    intro s acc s' a' h
    simp only [PModule.executeFull.pub, Option.some.injEq, Prod.mk.injEq] at h
    obtain ⟨rfl, rfl⟩ := h
    exact ⟨[], by simp, .nil _⟩
  | cons a r ih =>
    intro s acc s' a' h
    simp only [PModule.executeFull.pub, Option.bind_eq_bind] at h
    obtain ⟨⟨s1, a1⟩, hp, h⟩ := bind_ret h rfl
    obtain ⟨⟨s2, a2⟩, hd, h⟩ := bind_ret h rfl
    obtain ⟨c1, rfl, r1⟩ := patternF_run (Nat.le_refl N) hp
    obtain ⟨ht, rfl⟩ := MM.doCalls_one hd
    obtain ⟨cs, rfl, r2⟩ := ih _ _ _ _ h
    exact ⟨c1 ++ c :: cs, by simp, .cons r1 ht r2⟩

theorem proofs_run {M : PModule} : ∀ (pfs : List Pf) (s : PySt) (acc : List Call) (s' : PySt) (a' : List Call),
    PModule.executeFull.proofs cfg M N s acc pfs = some (some (s', a')) →
    ∃ cs, a' = acc ++ cs ∧ ProofsRun cfg M.axiomsOf N s pfs s' cs := by
  intro pfs
  induction pfs with
  | nil =>
    intro s acc s' a' h
    simp only [PModule.executeFull.proofs, Option.some.injEq, Prod.mk.injEq] at h
    obtain ⟨rfl, rfl⟩ := h
    exact ⟨[], by simp, .nil _⟩
  | cons pf r ih =>
    intro s acc s' a' h
    simp only [PModule.executeFull.proofs, Option.bind_eq_bind] at h
    obtain ⟨⟨s1, a1, c⟩, hp, h⟩ := bind_ret h rfl
    obtain ⟨⟨s2, a2⟩, hd, h⟩ := bind_ret h rfl
    obtain ⟨c1, rfl, r1⟩ := runF_run N (Nat.le_refl N) _ _ _ _ _ _ hp
    obtain ⟨ht, rfl⟩ := MM.doCalls_one hd
    obtain ⟨cs, rfl, r2⟩ := ih _ _ _ _ h
    exact ⟨c1 ++ .publishProof :: cs, by simp, .cons r1 ht r2⟩

/-- **a returning `execute_full` is a run** -/
theorem executeFull_run {M : PModule} {s : PySt} {calls : List Call}
    (h : PModule.executeFull cfg N M = some (some (s, calls))) : ModRun cfg N M s calls := by
  simp only [PModule.executeFull, Option.bind_eq_bind] at h
  obtain ⟨⟨s1, a1⟩, h1, h⟩ := bind_ret h rfl
  obtain ⟨⟨s2, a2⟩, h2, h⟩ := bind_ret h rfl
  obtain ⟨⟨s3, a3⟩, h3, h⟩ := bind_ret h rfl
  obtain ⟨⟨s4, a4⟩, h4, h⟩ := bind_ret h rfl
  obtain ⟨c1, rfl, r1⟩ := pub_run _ _ _ _ _ h1
  obtain ⟨t2, rfl⟩ := MM.doCalls_one h2
  obtain ⟨c3, rfl, r3⟩ := pub_run _ _ _ _ _ h3
  obtain ⟨t4, rfl⟩ := MM.doCalls_one h4
  obtain ⟨c5, rfl, r5⟩ := proofs_run _ _ _ _ _ h
  exact ⟨s1, a1, s2, s3, c3, s4, c5, r1, t2, r3, t4, r5, by simp⟩
