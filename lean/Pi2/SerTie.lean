import Pi2.Tracker
import Pi2.Codec
import Pi2.Gen.Serializer
/-!
# What the serializer writes, as written in `serializing_interpreter.py`, is `encode ∘ emit1`

`Pi2/Gen/Serializer.lean` is regenerated from the source on every run (`vlib/transser.py`): the byte list each
interpreter method writes.  `emit1` (`Pi2/Tracker.lean`) is the hand-written serializer model — the instruction a
call emits — and `encode1` (`Pi2/Codec.lean`) its byte encoding; the theorems about generated modules (C02–C04, C14,
C16) are stated about them.  Here: for every call, the bytes of the emitted instructions are the bytes the Python
method writes (opcode, operand order — e.g. the reversed key list of `instantiate` —, the clean-metavariable
shortcut, the five constraint lists, the memory index of `load`, the symbol number).
-/
open PySt

namespace SerTie

theorem translated : Gen.Ser.translated = true := by decide

/-- the bytes the Python serializer writes for a call; `memIdx` = `self.memory.index(term)` of `load` -/
def bytesOfCall (s : PySt) (memIdx : Nat) : Call → List Nat
  | .evar x => Gen.Ser.w_evar x
  | .svar x => Gen.Ser.w_svar x
  | .symbol nm => Gen.Ser.w_symbol (symId s.symtab nm)
  | .metavar id ef sf ps ns hs => Gen.Ser.w_metavar id ef sf ps ns hs
  | .implies => Gen.Ser.w_implies
  | .app => Gen.Ser.w_app
  | .ex x => Gen.Ser.w_exists x
  | .mu x => Gen.Ser.w_mu x
  | .esubst x => Gen.Ser.w_esubst x
  | .ssubst x => Gen.Ser.w_ssubst x
  | .prop1 => Gen.Ser.w_prop1
  | .prop2 => Gen.Ser.w_prop2
  | .prop3 => Gen.Ser.w_prop3
  | .quantifier => Gen.Ser.w_exists_quantifier
  | .mp => Gen.Ser.w_modus_ponens
  | .gen x => Gen.Ser.w_exists_generalization x
  | .instantiate keys => Gen.Ser.w_instantiate keys
  | .instantiatePattern keys => Gen.Ser.w_instantiate_pattern keys
  | .pop => Gen.Ser.w_pop
  | .save => Gen.Ser.w_save
  | .load _ => Gen.Ser.w_load memIdx
  | .publishProof => Gen.Ser.w_publish_proof
  | .publishAxiom => Gen.Ser.w_publish_axiom
  | .publishClaim => Gen.Ser.w_publish_claim
  | .intoClaim => []
  | .intoProof => []

theorem opc_values :
    Gen.Ser.opc "EVar" = 2 ∧ Gen.Ser.opc "SVar" = 3 ∧ Gen.Ser.opc "Symbol" = 4 ∧ Gen.Ser.opc "Implies" = 5 ∧
    Gen.Ser.opc "App" = 6 ∧ Gen.Ser.opc "Mu" = 7 ∧ Gen.Ser.opc "Exists" = 8 ∧ Gen.Ser.opc "MetaVar" = 9 ∧
    Gen.Ser.opc "ESubst" = 10 ∧ Gen.Ser.opc "SSubst" = 11 ∧ Gen.Ser.opc "Prop1" = 12 ∧ Gen.Ser.opc "Prop2" = 13 ∧
    Gen.Ser.opc "Prop3" = 14 ∧ Gen.Ser.opc "Quantifier" = 15 ∧ Gen.Ser.opc "ModusPonens" = 21 ∧
    Gen.Ser.opc "Generalization" = 22 ∧ Gen.Ser.opc "Instantiate" = 26 ∧ Gen.Ser.opc "Pop" = 27 ∧
    Gen.Ser.opc "Save" = 28 ∧ Gen.Ser.opc "Load" = 29 ∧ Gen.Ser.opc "Publish" = 30 ∧ Gen.Ser.opc "CleanMetaVar" = 137 := by
  decide

theorem metavar_bytes (id : Nat) (ef sf ps ns hs : List Nat) :
    Gen.Ser.w_metavar id ef sf ps ns hs =
      if ef.isEmpty && sf.isEmpty && ps.isEmpty && ns.isEmpty && hs.isEmpty then encode1 (.cleanmv id)
      else encode1 (.metavar id ef sf ps ns hs) := by
  obtain ⟨_, _, _, _, _, _, _, h9, _, _, _, _, _, _, _, _, _, _, _, _, _, h137⟩ := opc_values
  have hz : (([ef, sf, ps, ns, hs].map List.length).sum == 0) =
      (ef.isEmpty && sf.isEmpty && ps.isEmpty && ns.isEmpty && hs.isEmpty) := by
    rw [Bool.eq_iff_iff]
    simp [Nat.add_eq_zero_iff, and_assoc]
  simp only [Gen.Ser.w_metavar, hz, h9, h137]
  split
  · rfl
  · simp [encode1, encVec]

/-- **the serializer tie**: the bytes of what `emit1` emits for a call are the bytes the Python method writes -/
theorem emit_is_serializer (n : Nat) (s : PySt) (c : Call) (is : List Instr)
    (h : emit1 n s c = some (some is)) : ∃ memIdx, encode is = bytesOfCall s memIdx c := by
  obtain ⟨h2, h3, h4, h5, h6, h7, h8, h9, h10, h11, h12, h13, h14, h15, h21, h22, h26, h27, h28, h29, h30, h137⟩ := opc_values
  cases c with
  | load t =>
    simp only [emit1, Option.bind_eq_bind, Option.bind_eq_some_iff] at h
    obtain ⟨r, hr, h⟩ := h
    cases r with
    | none => simp at h
    | some i =>
      simp only [Option.pure_def, Option.some.injEq] at h
      subst h
      exact ⟨i, by simp [bytesOfCall, Gen.Ser.w_load, encode, encode1, h29]⟩
  | metavar id ef sf ps ns hs =>
    refine ⟨0, ?_⟩
    simp only [bytesOfCall, metavar_bytes]
    dsimp only [emit1] at h
    split at h <;> simp only [Option.some.injEq] at h <;> subst h <;> simp_all [encode]
  | _ =>
    refine ⟨0, ?_⟩
    simp only [emit1, Option.some.injEq] at h
    subst h
    simp [bytesOfCall, encode, encode1, Gen.Ser.w_evar, Gen.Ser.w_svar, Gen.Ser.w_symbol, Gen.Ser.w_implies, Gen.Ser.w_app,
      Gen.Ser.w_exists, Gen.Ser.w_mu, Gen.Ser.w_esubst, Gen.Ser.w_ssubst, Gen.Ser.w_prop1, Gen.Ser.w_prop2, Gen.Ser.w_prop3,
      Gen.Ser.w_exists_quantifier, Gen.Ser.w_modus_ponens, Gen.Ser.w_exists_generalization, Gen.Ser.w_instantiate,
      Gen.Ser.w_instantiate_pattern, Gen.Ser.w_pop, Gen.Ser.w_save, Gen.Ser.w_publish_proof, Gen.Ser.w_publish_axiom,
      Gen.Ser.w_publish_claim, *]

end SerTie
