import Pi2.TrackerStep
import Pi2.MatchThm
import Pi2.Props.C11
/-!
# The tracker simulates the machine

`R s m`: the machine state `m` is the expansion of the tracker state `s` (residue entries removed).
`sim_step` (agreement), `sim_accept` (acceptance under the side conditions the tracker lacks),
`sim_load_index`, the phase switches, and `publish_leaves_residue`.
-/
set_option linter.unusedSimpArgs false
set_option linter.unusedVariables false

/-! ## definitions -/

def convT : TTerm → Term
  | .pat p => .pat p.expand
  | .proved p => .proved p.expand

def live (st : List (TTerm × Bool)) : List TTerm := (st.filter fun e => !e.2).map (·.1)

structure R (s : PySt) (m : St) : Prop where
  stack : m.stack = (live s.stack).map convT
  memory : m.memory = s.memory.map convT
  claims : s.phase = .proof → m.claims = s.claims.map NPat.expand

def ShapeSt (s : PySt) : Prop :=
  (∀ e ∈ s.stack, e.1.body.Shape = true) ∧ (∀ t ∈ s.memory, t.body.Shape = true) ∧
    (∀ c ∈ s.claims, c.Shape = true)

/-- symbols are named by first-occurrence index -/
def CanonTab (tab : List Nat) : Prop := tab = List.range tab.length

/-- how many top entries a call consumes or reads -/
def Call.arity : Call → Nat
  | .implies => 2 | .app => 2 | .esubst _ => 2 | .ssubst _ => 2 | .mp => 2
  | .ex _ => 1 | .mu _ => 1 | .gen _ => 1 | .pop => 1 | .save => 1
  | .publishProof => 1 | .publishAxiom => 1 | .publishClaim => 1
  | .instantiate keys => keys.length + 1
  | .instantiatePattern keys => keys.length + 1
  | _ => 0

def touchesResidue (s : PySt) (c : Call) : Bool := (s.stack.take c.arity).any (·.2)

/-- the well-formedness / constraint / capture checks of the machine that the tracker lacks -/
def SideCond (s : PySt) : Call → Prop
  | .metavar _ ef _ _ _ hs => (hs.any (ef.contains ·)) = false
  | .mu x => ∀ p b st, s.stack = (.pat p, b) :: st → p.expand.pos x = true
  | .esubst x => ∀ p b plug b' st, s.stack = (.pat p, b) :: (.pat plug, b') :: st →
      (plug.expand == Pat.evar x) = false ∧ p.expand.eFresh x = false
  | .ssubst x => ∀ p b plug b' st, s.stack = (.pat p, b) :: (.pat plug, b') :: st →
      (plug.expand == Pat.svar x) = false ∧ p.expand.sFresh x = false
  | .instantiate keys | .instantiatePattern keys => ∀ a b st plugs st', s.stack = (a, b) :: st →
      PySt.takePlugs keys.length st = some (plugs, st') →
      (Pat.inst (Py.lookup (NPat.expand.expandMap (keys.zip plugs))) a.body.expand).isSome = true
  | _ => True

/-! ## basic lemmas -/

@[simp] theorem live_nil : live [] = [] := rfl
@[simp] theorem live_cons_false (t : TTerm) (st : List (TTerm × Bool)) :
    live ((t, false) :: st) = t :: live st := by simp [live]
@[simp] theorem live_cons_true (t : TTerm) (st : List (TTerm × Bool)) :
    live ((t, true) :: st) = live st := by simp [live]

theorem isMetaHead_eq (p : NPat) : p.isMetaHead = p.isMetaN := by
  cases p <;> rfl

theorem run_single (ph : Phase) (m : St) (i : Instr) (m' : St) (out : List Pat) :
    run ph m [i] = some (m', out) ↔ ∃ j, step ph m i = some (m', j) ∧ out = j.toList := by
  simp only [run, Option.bind_eq_bind, Option.pure_def]
  cases h : step ph m i with
  | none => simp
  | some r =>
    obtain ⟨m1, j⟩ := r
    simp only [Option.bind_some, Option.some.injEq, Prod.mk.injEq, List.append_nil]
    constructor
    · rintro ⟨rfl, rfl⟩; exact ⟨j, ⟨rfl, rfl⟩, rfl⟩
    · rintro ⟨j', ⟨rfl, rfl⟩, rfl⟩; exact ⟨rfl, rfl⟩

/-! ### symbols -/

theorem symId_canon (tab : List Nat) (nm : Nat) (hC : CanonTab tab) (h : nm ≤ tab.length) :
    PySt.symId tab nm = nm ∧
      CanonTab (if tab.contains nm then tab else tab ++ [nm]) := by
  unfold CanonTab at hC
  by_cases hlt : nm < tab.length
  · have hmem : nm ∈ tab := by rw [hC]; exact List.mem_range.mpr hlt
    constructor
    · unfold PySt.symId
      have : tab.idxOf? nm = some nm := by
        rw [List.idxOf?_eq_some_iff]
        refine ⟨hlt, ?_, ?_⟩
        · conv => lhs; arg 1; rw [hC]
          simp
        · intro j hj
          have hjl : j < tab.length := by omega
          have : tab[j] = j := by
            conv => lhs; arg 1; rw [hC]
            simp
          rw [this]; omega
      simp [this]
    · simp [hmem]; exact hC
  · have hEq : nm = tab.length := by omega
    have hnm : nm ∉ tab := by
      rw [hC]; intro hm; have := List.mem_range.mp hm; omega
    constructor
    · unfold PySt.symId
      have : tab.idxOf? nm = none := List.idxOf?_eq_none_iff.mpr hnm
      rw [this]; exact hEq.symm
    · simp only [List.contains_eq_mem, hnm, decide_false, Bool.false_eq_true, if_false]
      unfold CanonTab
      rw [List.length_append, List.length_singleton, List.range_succ, ← hC, hEq]

/-! ### plugs: `lookupPlug` against `Py.lookup` over the zipped map -/

theorem lookupPlug_zip (ks : List Nat) (ps : List NPat) (k : Nat) :
    Pat.lookupPlug ks (ps.map NPat.expand) k
      = Py.lookup (NPat.expand.expandMap (ks.zip ps)) k := by
  induction ks generalizing ps with
  | nil => simp [Pat.lookupPlug, NPat.expand.expandMap, Py.lookup]
  | cons a ks ih =>
    cases ps with
    | nil => simp [Pat.lookupPlug, NPat.expand.expandMap, Py.lookup]
    | cons p ps =>
      simp only [List.map_cons, Pat.lookupPlug, List.zip_cons_cons, NPat.expand.expandMap,
        Py.lookup, ih]

theorem lookupPlug_not_mem (ks : List Nat) (ps : List Pat) (k : Nat) (h : k ∉ ks) :
    Pat.lookupPlug ks ps k = none := by
  induction ks generalizing ps with
  | nil => simp [Pat.lookupPlug]
  | cons a ks ih =>
    cases ps with
    | nil => simp [Pat.lookupPlug]
    | cons p ps =>
      simp only [List.mem_cons, not_or] at h
      have : ¬ a = k := fun e => h.1 e.symm
      simp [Pat.lookupPlug, this, ih ps h.2]

theorem lookupPlug_append (l1 r1 : List Nat) (l2 r2 : List Pat) (k : Nat)
    (h : l1.length = l2.length) :
    Pat.lookupPlug (l1 ++ r1) (l2 ++ r2) k
      = (Pat.lookupPlug l1 l2 k).or (Pat.lookupPlug r1 r2 k) := by
  induction l1 generalizing l2 with
  | nil =>
    cases l2 with
    | nil => simp [Pat.lookupPlug]
    | cons _ _ => simp at h
  | cons a l1 ih =>
    cases l2 with
    | nil => simp at h
    | cons p l2 =>
      simp only [List.length_cons, Nat.add_right_cancel_iff] at h
      simp only [List.cons_append, Pat.lookupPlug, ih l2 h]
      split <;> simp

theorem lookupPlug_reverse (ks : List Nat) (ps : List Pat) (k : Nat) (hnd : ks.Nodup)
    (h : ks.length = ps.length) :
    Pat.lookupPlug ks.reverse ps.reverse k = Pat.lookupPlug ks ps k := by
  induction ks generalizing ps with
  | nil => simp [Pat.lookupPlug]
  | cons a ks ih =>
    cases ps with
    | nil => simp at h
    | cons p ps =>
      simp only [List.length_cons, Nat.add_right_cancel_iff] at h
      obtain ⟨hna, hnd'⟩ := List.nodup_cons.mp hnd
      rw [List.reverse_cons, List.reverse_cons,
        lookupPlug_append _ _ _ _ _ (by simp [h]), ih ps hnd' h]
      simp only [Pat.lookupPlug]
      by_cases e : a = k
      · subst e
        simp [lookupPlug_not_mem ks ps a hna]
      · simp [e]

/-- the machine's substitution for `Instantiate keys.reverse` on plugs popped top-first is the
tracker's `delta` -/
theorem plug_subst_eq (keys : List Nat) (plugs : List NPat) (hnd : keys.Nodup)
    (h : plugs.length = keys.length) :
    Pat.lookupPlug keys.reverse (plugs.reverse.map NPat.expand)
      = Py.lookup (NPat.expand.expandMap (keys.zip plugs)) := by
  funext k
  rw [← lookupPlug_zip, List.map_reverse,
    lookupPlug_reverse keys (plugs.map NPat.expand) k hnd (by simp [h])]

/-! ### `takePlugs` against `popPats` -/

theorem takePlugs_spec (k : Nat) (st : List (TTerm × Bool)) (plugs : List NPat)
    (st' : List (TTerm × Bool)) (h : PySt.takePlugs k st = some (plugs, st'))
    (hres : (st.take k).any (·.2) = false) :
    plugs.length = k
    ∧ popPats k ((live st).map convT) = some (plugs.reverse.map NPat.expand, (live st').map convT)
    ∧ (∀ p ∈ plugs, ∃ b, (TTerm.pat p, b) ∈ st) ∧ (∀ e ∈ st', e ∈ st) := by
  induction k generalizing st plugs with
  | zero =>
    simp only [PySt.takePlugs, Option.some.injEq, Prod.mk.injEq] at h
    obtain ⟨rfl, rfl⟩ := h
    simp [popPats]
  | succ k ih =>
    cases st with
    | nil => simp [PySt.takePlugs] at h
    | cons e st1 =>
      obtain ⟨t, b⟩ := e
      cases t with
      | proved p => simp [PySt.takePlugs] at h
      | pat p =>
        simp only [PySt.takePlugs, Option.map_eq_some_iff] at h
        obtain ⟨⟨ps, st2⟩, h1, h2⟩ := h
        simp only [Prod.mk.injEq] at h2
        obtain ⟨rfl, rfl⟩ := h2
        simp only [List.take_succ_cons, List.any_cons, Bool.or_eq_false_iff] at hres
        obtain ⟨hb, hres'⟩ := hres
        subst hb
        obtain ⟨hl, hp, hm, hm'⟩ := ih st1 ps h1 hres'
        refine ⟨by simp [hl], ?_, ?_, ?_⟩
        · simp [popPats, convT, hp]
        · intro q hq
          rcases List.mem_append.mp hq with hq | hq
          · obtain ⟨b, hb⟩ := hm q hq
            exact ⟨b, List.mem_cons_of_mem _ hb⟩
          · simp at hq; subst hq
            exact ⟨false, by simp⟩
        · intro e he; exact List.mem_cons_of_mem _ (hm' e he)

/-! ### the rules -/

theorem pyMP_spec (n : Nat) (a b c : NPat) (ha : a.Shape = true) (hb : b.Shape = true)
    (h : NPat.pyMP n a b = some (some c)) :
    a.expand = .imp b.expand c.expand ∧ c.Shape = true := by
  simp only [NPat.pyMP, Option.bind_eq_bind, Option.bind_eq_some_iff] at h
  obtain ⟨q, hh, h⟩ := h
  obtain ⟨he, hs, _⟩ := NPat.headF_expand n a q ha hh
  cases q with
  | imp l r =>
    simp only [Option.bind_eq_some_iff, Option.pure_def, Option.some.injEq] at h
    obtain ⟨eq, hp, h⟩ := h
    have hsl : l.Shape = true ∧ r.Shape = true := by simpa [NPat.Shape] using hs
    have hdec := NPat.peqF_expand n l b eq hsl.1 hb hp
    cases eq with
    | false => simp at h
    | true =>
      simp only [if_true, Option.some.injEq] at h
      subst h
      have hlb : l.expand = b.expand := by simpa using hdec.symm
      exact ⟨by rw [← he, ← hlb]; simp only [NPat.expand], hsl.2⟩
  | _ => simp at h

theorem pyGen_spec (n : Nat) (a c : NPat) (x : VId) (ha : a.Shape = true)
    (h : NPat.pyGen n a x = some (some c)) :
    ∃ l r, a.expand = .imp l r ∧ r.eFresh x = true ∧ c.expand = .imp (.ex x l) r
      ∧ c.Shape = true := by
  simp only [NPat.pyGen, Option.bind_eq_bind, Option.bind_eq_some_iff] at h
  obtain ⟨q, hh, h⟩ := h
  obtain ⟨he, hs, _⟩ := NPat.headF_expand n a q ha hh
  cases q with
  | imp l r =>
    simp only [Option.bind_eq_some_iff, Option.pure_def, Option.some.injEq] at h
    obtain ⟨fr, hp, h⟩ := h
    have hsl : l.Shape = true ∧ r.Shape = true := by simpa [NPat.Shape] using hs
    have hfr := NPat.evarIsFreeF_expand n x r fr hsl.2 hp
    cases fr with
    | false => simp at h
    | true =>
      simp only [if_true, Option.some.injEq] at h
      subst h
      exact ⟨l.expand, r.expand, by rw [← he]; simp only [NPat.expand], hfr.symm,
        by simp only [NPat.expand], by simp [NPat.Shape, hsl.1, hsl.2]⟩
  | _ => simp at h

/-! ### memory lookup (C) -/

theorem teqF_conv (n : Nat) (t1 t2 : TTerm) (h1 : t1.body.Shape = true)
    (h2 : t2.body.Shape = true) (h : PySt.teqF n t1 t2 = some true) : convT t1 = convT t2 := by
  cases t1 with
  | pat a =>
    cases t2 with
    | pat b =>
      simp only [PySt.teqF] at h
      have := NPat.peqF_expand n a b true h1 h2 h
      have e : a.expand = b.expand := by simpa using this.symm
      simp [convT, e]
    | proved b => simp [PySt.teqF] at h
  | proved a =>
    cases t2 with
    | proved b =>
      simp only [PySt.teqF] at h
      have := NPat.peqF_expand n a b true h1 h2 h
      have e : a.expand = b.expand := by simpa using this.symm
      simp [convT, e]
    | pat b => simp [PySt.teqF] at h

theorem indexF_spec (n : Nat) (t : TTerm) (ht : t.body.Shape = true) (mem : List TTerm)
    (hm : ∀ u ∈ mem, u.body.Shape = true) (k i : Nat)
    (h : PySt.indexF n t mem k = some (some i)) :
    ∃ j, i = k + j ∧ (mem.map convT)[j]? = some (convT t) := by
  induction mem generalizing k with
  | nil => simp [PySt.indexF] at h
  | cons u r ih =>
    simp only [PySt.indexF, Option.bind_eq_bind, Option.bind_eq_some_iff] at h
    obtain ⟨b, hb, h⟩ := h
    cases b with
    | true =>
      simp only [if_true, Option.pure_def, Option.some.injEq] at h
      subst h
      have := teqF_conv n u t (hm u (by simp)) ht hb
      exact ⟨0, rfl, by simp [this]⟩
    | false =>
      simp only [Bool.false_eq_true, if_false] at h
      obtain ⟨j, hj, hg⟩ := ih (fun u hu => hm u (List.mem_cons_of_mem _ hu)) (k + 1) h
      exact ⟨j + 1, by omega, by simpa using hg⟩

theorem sim_load_index (n : Nat) (s : PySt) (m : St) (t : TTerm) (i : Nat) :
    R s m → ShapeSt s → t.body.Shape = true →
    PySt.indexF n t s.memory 0 = some (some i) → m.memory[i]? = some (convT t) := by
  intro hR hSh ht h
  obtain ⟨j, hj, hg⟩ := indexF_spec n t ht s.memory hSh.2.1 0 i h
  have : i = j := by omega
  subst this
  rw [hR.memory]; exact hg

/-! ## one lemma per call kind -/

/-- what every call satisfies: a single instruction is emitted; under the side conditions the
machine accepts it; whenever the machine accepts it, it ends in the tracker's state -/
def Sim1 (s s' : PySt) (m : St) (c : Call) (is : List Instr) : Prop :=
  ∃ i, is = [i] ∧ (SideCond s c → (step s.phase m i).isSome = true) ∧
    (∀ m' j, step s.phase m i = some (m', j) → R s' m') ∧ ShapeSt s' ∧ CanonTab s'.symtab

theorem R.stack_cons {s : PySt} {m : St} (hR : R s m) {t : TTerm} {st : List (TTerm × Bool)}
    (hs : s.stack = (t, false) :: st) : m.stack = convT t :: (live st).map convT := by
  rw [hR.stack, hs]; rfl

theorem ShapeSt.top {s : PySt} (h : ShapeSt s) {t : TTerm} {b : Bool} {st : List (TTerm × Bool)}
    (hs : s.stack = (t, b) :: st) : t.body.Shape = true := h.1 (t, b) (by rw [hs]; simp)
theorem ShapeSt.snd {s : PySt} (h : ShapeSt s) {e : TTerm × Bool} {t : TTerm} {b : Bool} {st : List (TTerm × Bool)}
    (hs : s.stack = e :: (t, b) :: st) : t.body.Shape = true := h.1 (t, b) (by rw [hs]; simp)

/-- a call that consumes the top entry and does not touch residue: that entry is live, and so are the others it
consumes -/
theorem residue_cons {s : PySt} {c : Call} {k : Nat} {t : TTerm} {b : Bool} {st : List (TTerm × Bool)}
    (ha : c.arity = k + 1) (hs : s.stack = (t, b) :: st) (h : touchesResidue s c = false) :
    b = false ∧ (st.take k).any (·.2) = false := by
  simpa [touchesResidue, ha, hs] using h

theorem residue_two {s : PySt} {c : Call} {t t' : TTerm} {b b' : Bool} {st : List (TTerm × Bool)}
    (ha : c.arity = 2) (hs : s.stack = (t, b) :: (t', b') :: st) (h : touchesResidue s c = false) :
    b = false ∧ b' = false := by
  simpa [touchesResidue, ha, hs] using h

/-- the common shape: the consumed (live) top entries are replaced by one fresh entry `t`; the
machine may have a check `cond` that the tracker lacks -/
theorem sim_replace (s : PySt) (m : St) (c : Call) (i : Instr) (t : TTerm)
    (st : List (TTerm × Bool)) (cond : Bool)
    (hR : R s m) (hSh : ShapeSt s) (hC : CanonTab s.symtab) (ht : t.body.Shape = true)
    (hst : ∀ e ∈ st, e ∈ s.stack)
    (hstep : step s.phase m i = if cond = true then some ({ m with stack := convT t :: (live st).map convT }, none)
      else none)
    (hside : SideCond s c → cond = true) :
    Sim1 s { s with stack := (t, false) :: st } m c [i] := by
  refine ⟨i, rfl, fun hs => by rw [hstep, hside hs]; rfl, fun m' j h => ?_, ⟨?_, hSh.2.1, hSh.2.2⟩, hC⟩
  · rw [hstep] at h
    split at h
    · cases h
      exact ⟨rfl, hR.memory, hR.claims⟩
    · cases h
  · intro e he
    rcases List.mem_cons.mp he with rfl | he
    · exact ht
    · exact hSh.1 e (hst e he)

/-- all calls that just push a term whose expansion the machine pushes -/
theorem sim_push (s : PySt) (m : St) (c : Call) (i : Instr) (t : TTerm)
    (hR : R s m) (hSh : ShapeSt s) (hC : CanonTab s.symtab) (ht : t.body.Shape = true)
    (hstep : step s.phase m i = some ({ m with stack := convT t :: m.stack }, none)) :
    Sim1 s (s.push t) m c [i] :=
  sim_replace s m c i t s.stack true hR hSh hC ht (fun _ h => h)
    (by rw [hstep, hR.stack]; rfl) (fun _ => rfl)

theorem sim_var (n : Nat) (s s' : PySt) (m : St) (c : Call) (x : VId) (is : List Instr)
    (hc : c = .evar x ∨ c = .svar x) (hR : R s m) (hSh : ShapeSt s) (hC : CanonTab s.symtab)
    (ht : PySt.track1 n s c = some (some s')) (he : PySt.emit1 n s c = some (some is)) : Sim1 s s' m c is := by
  rcases hc with rfl | rfl <;>
  · cases ht; cases he
    exact sim_push s m _ _ _ hR hSh hC rfl rfl

theorem sim_symbol (n : Nat) (s s' : PySt) (m : St) (nm : Nat) (is : List Instr)
    (hR : R s m) (hSh : ShapeSt s) (hC : CanonTab s.symtab) (hnm : nm ≤ s.symtab.length)
    (ht : PySt.track1 n s (.symbol nm) = some (some s'))
    (he : PySt.emit1 n s (.symbol nm) = some (some is)) : Sim1 s s' m (.symbol nm) is := by
  cases ht; cases he
  obtain ⟨hid, hC'⟩ := symId_canon s.symtab nm hC hnm
  rw [hid]
  have hp := sim_push s m (.symbol nm) (.sym nm) (.pat (.sym nm)) hR hSh hC rfl rfl
  obtain ⟨i, hi, hacc, hsim, hsh, _⟩ := hp
  refine ⟨i, hi, hacc, ?_, hsh, hC'⟩
  intro m' j h
  obtain ⟨h1, h2, h3⟩ := hsim m' j h
  exact ⟨h1, h2, h3⟩

theorem sim_metavar (n : Nat) (s s' : PySt) (m : St) (id : VId) (ef sf ps ns hs : List VId)
    (is : List Instr) (hR : R s m) (hSh : ShapeSt s) (hC : CanonTab s.symtab)
    (hmv : ef = [] ∧ sf = [])
    (ht : PySt.track1 n s (.metavar id ef sf ps ns hs) = some (some s'))
    (he : PySt.emit1 n s (.metavar id ef sf ps ns hs) = some (some is)) :
    Sim1 s s' m (.metavar id ef sf ps ns hs) is := by
  obtain ⟨rfl, rfl⟩ := hmv
  cases ht
  dsimp only [PySt.emit1] at he
  split at he
  · next hall =>
    simp only [List.isEmpty_nil, Bool.true_and, Bool.and_eq_true, List.isEmpty_iff] at hall
    obtain ⟨⟨rfl, rfl⟩, rfl⟩ := hall
    cases he
    exact sim_push s m _ _ _ hR hSh hC rfl rfl
  · cases he
    exact sim_replace s m _ _ (.pat (.mv id [] [] ps ns hs)) s.stack
      (!hs.any (([] : List VId).contains ·)) hR hSh hC rfl
      (fun _ h => h) (by dsimp only [step]; rw [hR.stack]; cases hs.any (([] : List VId).contains ·) <;> rfl)
      (fun h => by simpa [SideCond] using h)

/-- the four axiom schemas: the machine pushes the expansion of the tracker's pattern -/
theorem sim_axiom (n : Nat) (s s' : PySt) (m : St) (c : Call) (is : List Instr)
    (hc : c = .prop1 ∨ c = .prop2 ∨ c = .prop3 ∨ c = .quantifier)
    (hR : R s m) (hSh : ShapeSt s) (hC : CanonTab s.symtab)
    (ht : PySt.track1 n s c = some (some s')) (he : PySt.emit1 n s c = some (some is)) : Sim1 s s' m c is := by
  rcases hc with rfl | rfl | rfl | rfl <;>
  · cases ht; cases he
    exact sim_push s m _ _ _ hR hSh hC rfl rfl

theorem sim_load (n : Nat) (s s' : PySt) (m : St) (t : TTerm) (is : List Instr)
    (hR : R s m) (hSh : ShapeSt s) (hC : CanonTab s.symtab) (hts : t.body.Shape = true)
    (ht : PySt.track1 n s (.load t) = some (some s'))
    (he : PySt.emit1 n s (.load t) = some (some is)) : Sim1 s s' m (.load t) is := by
  dsimp only [PySt.emit1, PySt.track1] at he ht
  cases hidx : PySt.indexF n t s.memory 0 with
  | none => rw [hidx] at he; cases he
  | some oi =>
    rw [hidx] at he ht
    cases oi with
    | none => cases he
    | some i =>
      cases he; cases ht
      have hm := sim_load_index n s m t i hR hSh hts hidx
      exact sim_push s m _ _ _ hR hSh hC hts (by dsimp only [step]; rw [hm]; rfl)

theorem sim_binary (n : Nat) (s s' : PySt) (m : St) (c : Call) (is : List Instr)
    (hc : c = .implies ∨ c = .app) (hR : R s m) (hSh : ShapeSt s) (hC : CanonTab s.symtab)
    (hres : touchesResidue s c = false)
    (ht : PySt.track1 n s c = some (some s')) (he : PySt.emit1 n s c = some (some is)) : Sim1 s s' m c is := by
  rcases hc with rfl | rfl <;>
  · cases he
    dsimp only [PySt.track1] at ht
    split at ht
    · next r b1 l b2 st hs =>
      cases ht
      obtain ⟨rfl, rfl⟩ := residue_two rfl hs hres
      have hm : m.stack = .pat r.expand :: .pat l.expand :: (live st).map convT := hR.stack_cons hs
      have h1 : r.Shape = true := hSh.top hs
      have h2 : l.Shape = true := hSh.snd hs
      exact sim_replace s m _ _ _ st true hR hSh hC
        (by simp [TTerm.body, NPat.Shape, h1, h2]) (by intro e he; rw [hs]; simp [he])
        (by dsimp only [step]; rw [hm]; rfl) (fun _ => rfl)
    · simp at ht

theorem sim_ex (n : Nat) (s s' : PySt) (m : St) (x : VId) (is : List Instr)
    (hR : R s m) (hSh : ShapeSt s) (hC : CanonTab s.symtab)
    (hres : touchesResidue s (.ex x) = false)
    (ht : PySt.track1 n s (.ex x) = some (some s'))
    (he : PySt.emit1 n s (.ex x) = some (some is)) : Sim1 s s' m (.ex x) is := by
  cases he
  dsimp only [PySt.track1] at ht
  split at ht
  · next p b1 st hs =>
    cases ht
    obtain ⟨rfl, -⟩ := residue_cons rfl hs hres
    have hm : m.stack = .pat p.expand :: (live st).map convT := hR.stack_cons hs
    have h1 : p.Shape = true := hSh.top hs
    exact sim_replace s m _ _ _ st true hR hSh hC
      (by simp [TTerm.body, NPat.Shape, h1]) (by intro e he; rw [hs]; simp [he])
      (by dsimp only [step]; rw [hm]; rfl) (fun _ => rfl)
  · simp at ht

theorem sim_mu (n : Nat) (s s' : PySt) (m : St) (x : VId) (is : List Instr)
    (hR : R s m) (hSh : ShapeSt s) (hC : CanonTab s.symtab)
    (hres : touchesResidue s (.mu x) = false)
    (ht : PySt.track1 n s (.mu x) = some (some s'))
    (he : PySt.emit1 n s (.mu x) = some (some is)) : Sim1 s s' m (.mu x) is := by
  cases he
  dsimp only [PySt.track1] at ht
  split at ht
  · next p b1 st hs =>
    cases ht
    obtain ⟨rfl, -⟩ := residue_cons rfl hs hres
    have hm : m.stack = .pat p.expand :: (live st).map convT := hR.stack_cons hs
    have h1 : p.Shape = true := hSh.top hs
    exact sim_replace s m _ _ _ st (p.expand.pos x) hR hSh hC
      (by simp [TTerm.body, NPat.Shape, h1]) (by intro e he; rw [hs]; simp [he])
      (by dsimp only [step]; rw [hm]; rfl) (fun hside => hside p false st hs)
  · simp at ht

theorem sim_subst (n : Nat) (s s' : PySt) (m : St) (c : Call) (x : VId) (is : List Instr)
    (hc : c = .esubst x ∨ c = .ssubst x) (hR : R s m) (hSh : ShapeSt s) (hC : CanonTab s.symtab)
    (hres : touchesResidue s c = false)
    (ht : PySt.track1 n s c = some (some s')) (he : PySt.emit1 n s c = some (some is)) : Sim1 s s' m c is := by
  rcases hc with rfl | rfl <;>
  · cases he
    dsimp only [PySt.track1] at ht
    split at ht
    · next p b1 plug b2 st hs =>
      split at ht
      · next hmeta =>
        cases ht
        obtain ⟨rfl, rfl⟩ := residue_two rfl hs hres
        have hm : m.stack = .pat p.expand :: .pat plug.expand :: (live st).map convT := hR.stack_cons hs
        have h1 : p.Shape = true := hSh.top hs
        have h2 : plug.Shape = true := hSh.snd hs
        rw [isMetaHead_eq] at hmeta
        have hme := NPat.isMeta_expand p hmeta
        -- the machine's condition is read off its step
        refine sim_replace s m _ _ _ st _ hR hSh hC
          (by simp [TTerm.body, NPat.Shape, h1, h2, hmeta]) (by intro e he; rw [hs]; simp [he])
          (by dsimp only [step]; rw [hm]; rfl) (fun hside => ?_)
        obtain ⟨h3, h4⟩ := hside p false plug false st hs
        simp [hme, h3, h4]
      · simp at ht
    · simp at ht

theorem sim_mp (n : Nat) (s s' : PySt) (m : St) (is : List Instr)
    (hR : R s m) (hSh : ShapeSt s) (hC : CanonTab s.symtab)
    (hres : touchesResidue s .mp = false)
    (ht : PySt.track1 n s .mp = some (some s'))
    (he : PySt.emit1 n s .mp = some (some is)) : Sim1 s s' m .mp is := by
  cases he
  dsimp only [PySt.track1] at ht
  split at ht
  · next r b1 l b2 st hs =>
    simp only [Option.bind_eq_bind, Option.bind_eq_some_iff] at ht
    obtain ⟨oc, hmp, ht⟩ := ht
    cases oc with
    | none => simp at ht
    | some c =>
      simp only [Option.pure_def, Option.some.injEq] at ht; subst ht
      obtain ⟨rfl, rfl⟩ := residue_two rfl hs hres
      have h1 : r.Shape = true := hSh.top hs
      have h2 : l.Shape = true := hSh.snd hs
      obtain ⟨hexp, hcs⟩ := pyMP_spec n l r c h2 h1 hmp
      have hm : m.stack = .proved r.expand :: .proved (.imp r.expand c.expand)
          :: (live st).map convT := by
        rw [hR.stack, hs]; simp [convT, hexp]
      exact sim_replace s m _ _ _ st true hR hSh hC
        (by simpa [TTerm.body] using hcs) (by intro e he; rw [hs]; simp [he])
        (by dsimp only [step]; rw [hm]; exact if_pos rfl) (fun _ => rfl)
  · simp at ht

theorem sim_gen (n : Nat) (s s' : PySt) (m : St) (x : VId) (is : List Instr)
    (hR : R s m) (hSh : ShapeSt s) (hC : CanonTab s.symtab)
    (hres : touchesResidue s (.gen x) = false)
    (ht : PySt.track1 n s (.gen x) = some (some s'))
    (he : PySt.emit1 n s (.gen x) = some (some is)) : Sim1 s s' m (.gen x) is := by
  cases he
  dsimp only [PySt.track1] at ht
  split at ht
  · next a b1 st hs =>
    simp only [Option.bind_eq_bind, Option.bind_eq_some_iff] at ht
    obtain ⟨oc, hgen, ht⟩ := ht
    cases oc with
    | none => simp at ht
    | some c =>
      simp only [Option.pure_def, Option.some.injEq] at ht; subst ht
      obtain ⟨rfl, -⟩ := residue_cons rfl hs hres
      have h1 : a.Shape = true := hSh.top hs
      obtain ⟨L, Rr, hexp, hfr, hce, hcs⟩ := pyGen_spec n a c x h1 hgen
      have hm : m.stack = .proved (.imp L Rr) :: (live st).map convT := by
        rw [hR.stack, hs]; simp [convT, hexp]
      exact sim_replace s m _ _ _ st true hR hSh hC
        (by simpa [TTerm.body] using hcs) (by intro e he; rw [hs]; simp [he])
        (by dsimp only [step]; rw [hm]; dsimp only [convT]; rw [hce]; exact if_pos hfr) (fun _ => rfl)
  · simp at ht

/-- the machine side of both `instantiate` calls -/
theorem sim_inst_core (s : PySt) (m : St) (c : Call) (keys : List Nat)
    (hc : c = .instantiate keys ∨ c = .instantiatePattern keys)
    (top res : TTerm) (st st' : List (TTerm × Bool)) (plugs : List NPat)
    (hR : R s m) (hSh : ShapeSt s) (hC : CanonTab s.symtab) (hnd : keys.Nodup)
    (hs : s.stack = (top, false) :: st)
    (htp : PySt.takePlugs keys.length st = some (plugs, st'))
    (hres : (st.take keys.length).any (·.2) = false)
    (hkind : top.isProved = res.isProved)
    (hce : res.body.expand
      = Py.inst (Py.lookup (NPat.expand.expandMap (keys.zip plugs))) top.body.expand)
    (hcs : res.body.Shape = true) :
    Sim1 s { s with stack := (res, false) :: st' } m c [.instantiate keys.reverse] := by
  obtain ⟨hlen, hpop, _, hsub⟩ := takePlugs_spec keys.length st plugs st' htp hres
  have hθ := plug_subst_eq keys plugs hnd hlen
  have hm : m.stack = convT top :: (live st).map convT := hR.stack_cons hs
  refine sim_replace s m c _ res st'
    (Pat.inst (Py.lookup (NPat.expand.expandMap (keys.zip plugs))) top.body.expand).isSome
    hR hSh hC hcs (by intro e he; rw [hs]; exact List.mem_cons_of_mem _ (hsub e he)) ?_ ?_
  · -- what the machine's `inst` returns is the expansion of the tracker's result
    have key : ∀ (C : Pat → Term) (o : Option Pat), (∀ r, o = some r → r = res.body.expand) →
        (o.bind fun r => pure (({ m with stack := C r :: List.map convT (live st') } : St), (none : Option Pat)))
          = if o.isSome = true then some ({ m with stack := C res.body.expand :: List.map convT (live st') }, none)
            else none := by
      intro C o ho
      cases o with
      | none => rfl
      | some r => rw [ho r rfl]; rfl
    have hI := fun r hI => (hce.trans (C11.py_inst_eq_rust _ top.body.expand r hI)).symm
    dsimp only [step]
    rw [hm]
    cases top <;> cases res <;> first | cases hkind | skip
    all_goals
      simp only [convT, List.length_reverse, hpop, Option.bind_eq_bind, Option.bind_some, hθ]
      exact key _ _ hI
  · intro hside
    rcases hc with rfl | rfl <;> exact hside top false st plugs st' hs htp

theorem shapeMap_zip (keys : List Nat) (plugs : List NPat)
    (h : ∀ p ∈ plugs, p.Shape = true) : NPat.ShapeMap (keys.zip plugs) = true := by
  rw [NPat.shapeMap_iff]
  intro kv hkv
  obtain ⟨k, v⟩ := kv
  exact h v (List.of_mem_zip hkv).2

theorem sim_instantiate (n : Nat) (s s' : PySt) (m : St) (keys : List Nat) (is : List Instr)
    (hR : R s m) (hSh : ShapeSt s) (hC : CanonTab s.symtab) (hnd : keys.Nodup)
    (hres : touchesResidue s (.instantiate keys) = false)
    (ht : PySt.track1 n s (.instantiate keys) = some (some s'))
    (he : PySt.emit1 n s (.instantiate keys) = some (some is)) :
    Sim1 s s' m (.instantiate keys) is := by
  cases he
  dsimp only [PySt.track1] at ht
  split at ht
  · next a b1 st hs =>
    obtain ⟨rfl, hres⟩ := residue_cons rfl hs hres
    have h1 : a.Shape = true := hSh.top hs
    split at ht
    · next hemp =>
      have hk : keys = [] := by simpa using hemp
      subst hk
      cases ht
      exact sim_inst_core s m _ [] (Or.inl rfl) (.proved a) (.proved a) st st [] hR hSh hC hnd
        hs (by simp [PySt.takePlugs]) (by simp) rfl
        (by simpa [TTerm.body] using NPat.inst_isEmpty [] (by simp) a h1)
        (by simpa [TTerm.body] using h1)
    · split at ht
      · simp at ht
      · next plugs st' htp =>
        simp only [Option.bind_eq_bind, Option.bind_eq_some_iff, Option.pure_def,
          Option.some.injEq] at ht
        obtain ⟨c, hinst, ht⟩ := ht
        subst ht
        obtain ⟨hlen, _, hmem, _⟩ := takePlugs_spec keys.length st plugs st' htp hres
        have hsm : NPat.ShapeMap (keys.zip plugs) = true := by
          apply shapeMap_zip
          intro p hp
          obtain ⟨b, hb⟩ := hmem p hp
          exact hSh.1 (.pat p, b) (by rw [hs]; exact List.mem_cons_of_mem _ hb)
        obtain ⟨hce, hcs⟩ := NPat.instF_expand n _ a c h1 hsm hinst
        exact sim_inst_core s m _ keys (Or.inl rfl) (.proved a) (.proved c) st st' plugs hR hSh hC
          hnd hs htp hres rfl (by simpa [TTerm.body] using hce) (by simpa [TTerm.body] using hcs)
  · simp at ht

theorem sim_instantiatePattern (n : Nat) (s s' : PySt) (m : St) (keys : List Nat)
    (is : List Instr)
    (hR : R s m) (hSh : ShapeSt s) (hC : CanonTab s.symtab) (hnd : keys.Nodup)
    (hres : touchesResidue s (.instantiatePattern keys) = false)
    (ht : PySt.track1 n s (.instantiatePattern keys) = some (some s'))
    (he : PySt.emit1 n s (.instantiatePattern keys) = some (some is)) :
    Sim1 s s' m (.instantiatePattern keys) is := by
  cases he
  dsimp only [PySt.track1] at ht
  split at ht
  · next a b1 st hs =>
    obtain ⟨rfl, hres⟩ := residue_cons rfl hs hres
    have h1 : a.Shape = true := hSh.top hs
    split at ht
    · simp at ht
    · next plugs st' htp =>
      simp only [Option.some.injEq] at ht
      subst ht
      obtain ⟨hlen, _, hmem, _⟩ := takePlugs_spec keys.length st plugs st' htp hres
      have hsm : NPat.ShapeMap (keys.zip plugs) = true := by
        apply shapeMap_zip
        intro p hp
        obtain ⟨b, hb⟩ := hmem p hp
        exact hSh.1 (.pat p, b) (by rw [hs]; exact List.mem_cons_of_mem _ hb)
      exact sim_inst_core s m _ keys (Or.inr rfl) (.pat a) (.pat (.inst a (keys.zip plugs)))
        st st' plugs hR hSh hC hnd hs htp hres rfl (by simp [TTerm.body, NPat.expand])
        (by simp [TTerm.body, NPat.Shape, h1, hsm])
  · simp at ht

/-- the calls without a side condition whose effect is not a replaced top entry: the machine's step is known -/
theorem sim_of_step {s s' : PySt} {m : St} {c : Call} {i : Instr} (m1 : St) (j : Option Pat)
    (hstep : step s.phase m i = some (m1, j)) (hR' : R s' m1) (hSh' : ShapeSt s') (hC' : CanonTab s'.symtab) :
    Sim1 s s' m c [i] :=
  ⟨i, rfl, fun _ => by rw [hstep]; rfl, fun m' j' h => by rw [hstep] at h; cases h; exact hR', hSh', hC'⟩

/-- marking the top entry (or not) keeps the stack shaped -/
theorem shape_mark {s : PySt} (hSh : ShapeSt s) {t : TTerm} {b b' : Bool} {st : List (TTerm × Bool)}
    (hs : s.stack = (t, b) :: st) : ∀ e ∈ (t, b') :: st, e.1.body.Shape = true := by
  intro e he
  rcases List.mem_cons.mp he with rfl | he
  · exact hSh.top hs
  · exact hSh.1 e (by rw [hs]; exact List.mem_cons_of_mem _ he)

theorem shape_snoc {mem : List TTerm} (h : ∀ u ∈ mem, u.body.Shape = true) {t : TTerm} (ht : t.body.Shape = true) :
    ∀ u ∈ mem ++ [t], u.body.Shape = true := by
  intro u hu
  rcases List.mem_append.mp hu with hu | hu
  · exact h u hu
  · rw [List.mem_singleton.mp hu]; exact ht

theorem sim_pop (n : Nat) (s s' : PySt) (m : St) (is : List Instr)
    (hR : R s m) (hSh : ShapeSt s) (hC : CanonTab s.symtab)
    (hres : touchesResidue s .pop = false)
    (ht : PySt.track1 n s .pop = some (some s'))
    (he : PySt.emit1 n s .pop = some (some is)) : Sim1 s s' m .pop is := by
  cases he
  dsimp only [PySt.track1] at ht
  split at ht
  · next e st hs =>
    obtain ⟨t, b⟩ := e
    cases ht
    obtain ⟨rfl, -⟩ := residue_cons rfl hs hres
    have hm : m.stack = convT t :: (live st).map convT := hR.stack_cons hs
    exact sim_of_step { m with stack := (live st).map convT } none (by dsimp only [step]; rw [hm]) ⟨rfl, hR.memory, hR.claims⟩
      ⟨fun e he => hSh.1 e (by rw [hs]; exact List.mem_cons_of_mem _ he), hSh.2.1, hSh.2.2⟩ hC
  · simp at ht

theorem sim_save (n : Nat) (s s' : PySt) (m : St) (is : List Instr)
    (hR : R s m) (hSh : ShapeSt s) (hC : CanonTab s.symtab)
    (hres : touchesResidue s .save = false)
    (ht : PySt.track1 n s .save = some (some s'))
    (he : PySt.emit1 n s .save = some (some is)) : Sim1 s s' m .save is := by
  cases he
  dsimp only [PySt.track1] at ht
  split at ht
  · next t b st hs =>
    cases ht
    obtain ⟨rfl, -⟩ := residue_cons rfl hs hres
    have hm : m.stack = convT t :: (live st).map convT := hR.stack_cons hs
    have h1 := hSh.top hs
    exact sim_of_step { m with memory := m.memory ++ [convT t] } none (by dsimp only [step]; rw [hm])
      ⟨hR.stack, by simp [hR.memory], hR.claims⟩ ⟨hSh.1, shape_snoc hSh.2.1 h1, hSh.2.2⟩ hC
  · simp at ht

theorem sim_publishProof (n : Nat) (s s' : PySt) (m : St) (is : List Instr)
    (hR : R s m) (hSh : ShapeSt s) (hC : CanonTab s.symtab)
    (hres : touchesResidue s .publishProof = false)
    (ht : PySt.track1 n s .publishProof = some (some s'))
    (he : PySt.emit1 n s .publishProof = some (some is)) : Sim1 s s' m .publishProof is := by
  cases he
  dsimp only [PySt.track1] at ht
  split at ht
  · next t b st c cs hph hs hcl =>
    simp only [Option.bind_eq_bind, Option.bind_eq_some_iff] at ht
    obtain ⟨eq, hpeq, ht⟩ := ht
    cases eq with
    | false => simp at ht
    | true =>
      simp only [if_true, Option.pure_def, Option.some.injEq] at ht; subst ht
      obtain ⟨rfl, -⟩ := residue_cons rfl hs hres
      have h1 : t.Shape = true := hSh.top hs
      have h2 := hSh.2.2 c (by rw [hcl]; simp)
      have hdec := NPat.peqF_expand n t c true h1 h2 hpeq
      have htc : t.expand = c.expand := by simpa using hdec.symm
      have hm : m.stack = .proved t.expand :: (live st).map convT := hR.stack_cons hs
      have hmc : m.claims = c.expand :: cs.map NPat.expand := by
        rw [hR.claims hph, hcl]; simp
      exact sim_of_step { m with stack := (live st).map convT, claims := cs.map NPat.expand } none
        (by dsimp only [step]; rw [hph, hm, hmc]; exact if_pos htc.symm) ⟨rfl, hR.memory, fun _ => rfl⟩
        ⟨shape_mark hSh hs, hSh.2.1, fun c' hc' => hSh.2.2 c' (by rw [hcl]; exact List.mem_cons_of_mem _ hc')⟩ hC
  · simp at ht

theorem sim_publishAxiom (n : Nat) (s s' : PySt) (m : St) (is : List Instr)
    (hR : R s m) (hSh : ShapeSt s) (hC : CanonTab s.symtab)
    (hres : touchesResidue s .publishAxiom = false)
    (ht : PySt.track1 n s .publishAxiom = some (some s'))
    (he : PySt.emit1 n s .publishAxiom = some (some is)) : Sim1 s s' m .publishAxiom is := by
  cases he
  dsimp only [PySt.track1] at ht
  split at ht
  · next a b st hph hs =>
    cases ht
    obtain ⟨rfl, -⟩ := residue_cons rfl hs hres
    have h1 : a.Shape = true := hSh.top hs
    have hm : m.stack = .pat a.expand :: (live st).map convT := hR.stack_cons hs
    exact sim_of_step { m with stack := (live st).map convT, memory := m.memory ++ [.proved a.expand] }
      (some a.expand) (by dsimp only [step]; rw [hph, hm])
      ⟨rfl, by simp [hR.memory, convT], fun h => by simp [hph] at h⟩
      ⟨shape_mark hSh hs, shape_snoc hSh.2.1 h1, hSh.2.2⟩ hC
  · simp at ht

theorem sim_publishClaim (n : Nat) (s s' : PySt) (m : St) (is : List Instr)
    (hR : R s m) (hSh : ShapeSt s) (hC : CanonTab s.symtab)
    (hres : touchesResidue s .publishClaim = false)
    (ht : PySt.track1 n s .publishClaim = some (some s'))
    (he : PySt.emit1 n s .publishClaim = some (some is)) : Sim1 s s' m .publishClaim is := by
  cases he
  dsimp only [PySt.track1] at ht
  split at ht
  · next a b st hph hs =>
    cases ht
    obtain ⟨rfl, -⟩ := residue_cons rfl hs hres
    have h1 : a.Shape = true := hSh.top hs
    have hm : m.stack = .pat a.expand :: (live st).map convT := hR.stack_cons hs
    exact sim_of_step { m with stack := (live st).map convT, claims := a.expand :: m.claims } (some a.expand)
      (by dsimp only [step]; rw [hph, hm]) ⟨rfl, hR.memory, fun h => by simp [hph] at h⟩
      ⟨shape_mark hSh hs, hSh.2.1, hSh.2.2⟩ hC
  · simp at ht

/-! ## assembly -/

theorem sim1 (n : Nat) (s s' : PySt) (m : St) (c : Call) (is : List Instr)
    (hR : R s m) (hSh : ShapeSt s) (hC : CanonTab s.symtab)
    (hsym : ∀ nm, c = .symbol nm → nm ≤ s.symtab.length)
    (hkeys : ∀ keys, (c = .instantiate keys ∨ c = .instantiatePattern keys) → keys.Nodup)
    (hload : ∀ t, c = .load t → t.body.Shape = true)
    (hmv : ∀ id ef sf ps ns hs, c = .metavar id ef sf ps ns hs → ef = [] ∧ sf = [])
    (hnc : c ≠ .intoClaim) (hnp : c ≠ .intoProof)
    (hres : touchesResidue s c = false)
    (ht : PySt.track1 n s c = some (some s'))
    (he : PySt.emit1 n s c = some (some is)) : Sim1 s s' m c is := by
  cases c with
  | evar x => exact sim_var n s s' m _ x is (.inl rfl) hR hSh hC ht he
  | svar x => exact sim_var n s s' m _ x is (.inr rfl) hR hSh hC ht he
  | symbol nm => exact sim_symbol n s s' m nm is hR hSh hC (hsym nm rfl) ht he
  | metavar id ef sf ps ns hs =>
    exact sim_metavar n s s' m id ef sf ps ns hs is hR hSh hC (hmv _ _ _ _ _ _ rfl) ht he
  | implies => exact sim_binary n s s' m _ is (.inl rfl) hR hSh hC hres ht he
  | app => exact sim_binary n s s' m _ is (.inr rfl) hR hSh hC hres ht he
  | ex x => exact sim_ex n s s' m x is hR hSh hC hres ht he
  | mu x => exact sim_mu n s s' m x is hR hSh hC hres ht he
  | esubst x => exact sim_subst n s s' m _ x is (.inl rfl) hR hSh hC hres ht he
  | ssubst x => exact sim_subst n s s' m _ x is (.inr rfl) hR hSh hC hres ht he
  | prop1 => exact sim_axiom n s s' m _ is (.inl rfl) hR hSh hC ht he
  | prop2 => exact sim_axiom n s s' m _ is (.inr (.inl rfl)) hR hSh hC ht he
  | prop3 => exact sim_axiom n s s' m _ is (.inr (.inr (.inl rfl))) hR hSh hC ht he
  | quantifier => exact sim_axiom n s s' m _ is (.inr (.inr (.inr rfl))) hR hSh hC ht he
  | mp => exact sim_mp n s s' m is hR hSh hC hres ht he
  | gen x => exact sim_gen n s s' m x is hR hSh hC hres ht he
  | instantiate keys =>
    exact sim_instantiate n s s' m keys is hR hSh hC (hkeys keys (Or.inl rfl)) hres ht he
  | instantiatePattern keys =>
    exact sim_instantiatePattern n s s' m keys is hR hSh hC (hkeys keys (Or.inr rfl)) hres ht he
  | pop => exact sim_pop n s s' m is hR hSh hC hres ht he
  | save => exact sim_save n s s' m is hR hSh hC hres ht he
  | load t => exact sim_load n s s' m t is hR hSh hC (hload t rfl) ht he
  | publishProof => exact sim_publishProof n s s' m is hR hSh hC hres ht he
  | publishAxiom => exact sim_publishAxiom n s s' m is hR hSh hC hres ht he
  | publishClaim => exact sim_publishClaim n s s' m is hR hSh hC hres ht he
  | intoClaim => exact absurd rfl hnc
  | intoProof => exact absurd rfl hnp

/-- A. agreement: whenever the machine accepts the bytes of a call, it ends in the tracker's state -/
theorem sim_step (n : Nat) (s s' : PySt) (m m' : St) (c : Call) (is : List Instr)
    (out : List Pat) :
    R s m → ShapeSt s → CanonTab s.symtab →
    (∀ nm, c = .symbol nm → nm ≤ s.symtab.length) →
    (∀ keys, (c = .instantiate keys ∨ c = .instantiatePattern keys) → keys.Nodup) →
    (∀ t, c = .load t → t.body.Shape = true) →
    (∀ id ef sf ps ns hs, c = .metavar id ef sf ps ns hs → ef = [] ∧ sf = []) →
    c ≠ .intoClaim → c ≠ .intoProof → touchesResidue s c = false →
    PySt.track1 n s c = some (some s') → PySt.emit1 n s c = some (some is) →
    run s.phase m is = some (m', out) →
    R s' m' ∧ ShapeSt s' ∧ CanonTab s'.symtab := by
  intro hR hSh hC hsym hkeys hload hmv hnc hnp hres ht he hrun
  obtain ⟨i, rfl, _, hsim, hsh, hc⟩ :=
    sim1 n s s' m c is hR hSh hC hsym hkeys hload hmv hnc hnp hres ht he
  obtain ⟨j, hj, _⟩ := (run_single _ _ _ _ _).mp hrun
  exact ⟨hsim m' j hj, hsh, hc⟩

/-- B. acceptance: the machine rejects only because of the checks the tracker lacks -/
theorem sim_accept (n : Nat) (s s' : PySt) (m : St) (c : Call) (is : List Instr) :
    R s m → ShapeSt s → CanonTab s.symtab →
    (∀ nm, c = .symbol nm → nm ≤ s.symtab.length) →
    (∀ keys, (c = .instantiate keys ∨ c = .instantiatePattern keys) → keys.Nodup) →
    (∀ t, c = .load t → t.body.Shape = true) →
    (∀ id ef sf ps ns hs, c = .metavar id ef sf ps ns hs → ef = [] ∧ sf = []) →
    c ≠ .intoClaim → c ≠ .intoProof → touchesResidue s c = false →
    PySt.track1 n s c = some (some s') → PySt.emit1 n s c = some (some is) →
    SideCond s c →
    ∃ m' out, run s.phase m is = some (m', out) := by
  intro hR hSh hC hsym hkeys hload hmv hnc hnp hres ht he hside
  obtain ⟨i, rfl, hacc, _, _, _⟩ :=
    sim1 n s s' m c is hR hSh hC hsym hkeys hload hmv hnc hnp hres ht he
  obtain ⟨⟨m', j⟩, hstep⟩ := Option.isSome_iff_exists.mp (hacc hside)
  exact ⟨m', j.toList, (run_single _ _ _ _ _).mpr ⟨j, hstep, rfl⟩⟩

/-! ## D. phase switches -/

theorem sim_intoClaim (n : Nat) (s s' : PySt) (m : St) :
    R s m → PySt.track1 n s .intoClaim = some (some s') → R s' { m with stack := [] } := by
  intro hR ht
  dsimp only [PySt.track1] at ht
  split at ht
  · cases ht
    exact ⟨by simp, hR.memory, fun h => by simp at h⟩
  · simp at ht

theorem sim_intoProof (n : Nat) (s s' : PySt) (m : St) :
    R s m → m.claims = s.claims.map NPat.expand →
    PySt.track1 n s .intoProof = some (some s') → R s' { m with stack := [] } := by
  intro hR hcl ht
  dsimp only [PySt.track1] at ht
  split at ht
  · cases ht
    exact ⟨by simp, hR.memory, fun _ => hcl⟩
  · simp at ht

/-! ## E. the known finding: publish leaves the published term on the tracker's stack -/

theorem publish_leaves_residue (n : Nat) (s s' : PySt) (c : Call)
    (hc : c = .publishAxiom ∨ c = .publishClaim ∨ c = .publishProof)
    (ht : PySt.track1 n s c = some (some s')) :
    ∃ t b st, s.stack = (t, b) :: st ∧ s'.stack = (t, true) :: st
      ∧ live s'.stack = live st := by
  rcases hc with rfl | rfl | rfl <;> cases PySt.Step.of_track1 ht <;>
    exact ⟨_, _, _, ‹s.stack = _›, rfl, by simp [live]⟩

#print axioms sim_step
#print axioms sim_accept
#print axioms sim_load_index
#print axioms sim_intoClaim
#print axioms sim_intoProof
#print axioms publish_leaves_residue
