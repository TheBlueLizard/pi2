import Pi2.MM.Mono
/-!
# What a returning run of `Interpreter.pattern` is

`buildF` in normal form: every pattern is built by compiling its children `p.kids` in order and then making ONE call
`p.headCall`.  `Run cfg N s ps s' cs`: compiling the patterns `ps` one after the other from `s` returns in `s'` and makes the
calls `cs` — without fuel bookkeeping (every call is run with the one fuel `N`) and without the accumulator.
`patternF_run`/`patternListF_run`: every returning `patternF`/`patternListF` is such a run.  This is the only place that
unfolds `patternF`, `buildF`, `saveF`; facts about compiled patterns are proved by `induction` on `Run`.
-/
set_option linter.unusedVariables false
open PySt

namespace MM
theorem track1_load_eq {n : Nat} {s s' : PySt} {t : TTerm}
    (h : track1 n s (.load t) = some (some s')) : s' = s.push t := by
  simp only [track1, Option.bind_eq_bind, Option.bind_eq_some_iff] at h
  obtain ⟨oi, _, h⟩ := h
  cases oi with
  | none => simp at h
  | some i => simp only [Option.pure_def, Option.some.injEq] at h; exact h.symm

/-- a successful single call made through `doCalls` -/
theorem doCalls_one {n : Nat} {s s' : PySt} {c : Call} {acc a' : List Call}
    (h : doCalls n s [c] acc = some (some (s', a'))) :
    track1 n s c = some (some s') ∧ a' = acc ++ [c] := by
  obtain ⟨x, hx, e⟩ := (doCalls_single n s c acc _).mp h
  cases x with
  | none => simp at e
  | some s1 =>
    simp only [Option.map_some, Option.some.injEq, Prod.mk.injEq] at e
    obtain ⟨rfl, rfl⟩ := e
    exact ⟨hx, rfl⟩

theorem memoHitF_mono (cfg : Cfg) {n m : Nat} (h : n ≤ m) (p : NPat) (s : PySt) :
    OLe (memoHitF cfg n p s) (memoHitF cfg m p s) :=
  OLe.of_step (fun n => memoHitF cfg n p s) (fun n => memoHitF_step cfg n p s) h
end MM

namespace NPat
/-- the sub-patterns `pattern` compiles, in the order it compiles them -/
def kids : NPat → List NPat
  | .imp l r | .app l r => [l, r]
  | .ex _ q | .mu _ q => [q]
  | .esub q _ plug | .ssub q _ plug => [plug, q]
  | .inst q m => m.map (·.2) ++ [q]
  | _ => []

/-- the one call that builds `p` from its compiled children -/
def headCall : NPat → Call
  | .evar x => .evar x | .svar x => .svar x | .sym x => .symbol x
  | .mv id ef sf ps ns hs => .metavar id ef sf ps ns hs
  | .imp _ _ => .implies | .app _ _ => .app | .ex x _ => .ex x | .mu x _ => .mu x
  | .esub _ x _ => .esubst x | .ssub _ x _ => .ssubst x
  | .inst _ m => .instantiatePattern (m.map (·.1))
end NPat

/-- does the configuration save `p` once it is built -/
def PySt.Cfg.saves (cfg : Cfg) (p : NPat) : Bool :=
  match cfg.memo with
  | some S => S.any (NPat.seq p)
  | none => false

/-- the optional `save` after `p` is built -/
inductive Saved (cfg : Cfg) (N : Nat) (p : NPat) : PySt → PySt → List Call → Prop
  | no {s : PySt} : cfg.saves p = false → Saved cfg N p s s []
  | yes {s s' : PySt} : cfg.saves p = true → track1 N s .save = some (some s') → Saved cfg N p s s' [.save]

/-- a returning run of `pattern` on each of `ps` in turn: a pattern found in the memory is loaded; any other is built from
its children by its head call, and saved if suggested -/
inductive Run (cfg : Cfg) (N : Nat) : PySt → List NPat → PySt → List Call → Prop
  | nil (s : PySt) : Run cfg N s [] s []
  | hit {s s1 s' : PySt} {p : NPat} {ps : List NPat} {cs : List Call} :
      memoHitF cfg N p s = some true → track1 N s (.load (.pat p)) = some (some s1) →
      Run cfg N s1 ps s' cs → Run cfg N s (p :: ps) s' (.load (.pat p) :: cs)
  | build {s s1 s2 s3 s' : PySt} {p : NPat} {ps : List NPat} {ck sv cs : List Call} :
      memoHitF cfg N p s = some false → Run cfg N s p.kids s1 ck →
      track1 N s1 p.headCall = some (some s2) → Saved cfg N p s2 s3 sv →
      Run cfg N s3 ps s' cs → Run cfg N s (p :: ps) s' (ck ++ p.headCall :: sv ++ cs)

theorem Run.append {cfg : Cfg} {N : Nat} {s s1 s2 : PySt} {ps qs : List NPat} {cs cs' : List Call}
    (h1 : Run cfg N s ps s1 cs) (h2 : Run cfg N s1 qs s2 cs') : Run cfg N s (ps ++ qs) s2 (cs ++ cs') := by
  induction h1 with
  | nil s => exact h2
  | hit hm ht _ ih => exact .hit hm ht (ih h2)
  | build hm hk ht hs _ _ ih =>
    have := Run.build hm hk ht hs (ih h2)
    simpa using this

/-! ## every returning `patternF` is a run -/

theorem andThen_ret {α β γ} {x : Option (Option (α × β))} {f : α → β → Option (Option γ)} {r : γ}
    (h : andThen x f = some (some r)) : ∃ a b, x = some (some (a, b)) ∧ f a b = some (some r) := by
  rcases andThen_eq_some x f _ h with ⟨_, hc⟩ | h
  · cases hc
  · exact h

/-- the induction hypotheses at fuel `k` -/
def RunsAt (cfg : Cfg) (N k : Nat) : Prop :=
  (∀ s p acc s' a', patternF cfg k s p acc = some (some (s', a')) →
    ∃ cs, a' = acc ++ cs ∧ Run cfg N s [p] s' cs) ∧
  (∀ s ps acc s' a', patternF.patternListF cfg k s ps acc = some (some (s', a')) →
    ∃ cs, a' = acc ++ cs ∧ Run cfg N s ps s' cs)

variable {cfg : Cfg} {N k : Nat}

/-- `buildF` in normal form: the children, then the head call -/
theorem buildF_run (hk : k ≤ N) (ih : RunsAt cfg N k) {s s' : PySt} {p : NPat} {acc a' : List Call}
    (h : buildF cfg k s p acc = some (some (s', a'))) :
    ∃ s1 ck, Run cfg N s p.kids s1 ck ∧ track1 N s1 p.headCall = some (some s') ∧
      a' = acc ++ (ck ++ [p.headCall]) := by
  have call : ∀ {s1 : PySt} {a1 : List Call}, doCalls k s1 [p.headCall] a1 = some (some (s', a')) →
      track1 N s1 p.headCall = some (some s') ∧ a' = a1 ++ [p.headCall] := fun h =>
    ⟨track1_mono hk _ _ _ (MM.doCalls_one h).1, (MM.doCalls_one h).2⟩
  cases p with
  | evar x | svar x | sym x | mv id ef sf ps ns hs =>
    obtain ⟨ht, rfl⟩ := call h
    exact ⟨s, [], .nil s, ht, rfl⟩
  | ex x q | mu x q =>
    unfold buildF at h
    obtain ⟨s1, a1, h1, h⟩ := andThen_ret h
    obtain ⟨c1, rfl, r1⟩ := ih.1 _ _ _ _ _ h1
    obtain ⟨ht, rfl⟩ := call h
    exact ⟨s1, c1, r1, ht, by simp⟩
  | imp l r | app l r | esub q x plug | ssub q x plug =>
    unfold buildF at h
    obtain ⟨s1, a1, h1, h⟩ := andThen_ret h
    obtain ⟨s2, a2, h2, h⟩ := andThen_ret h
    obtain ⟨c1, rfl, r1⟩ := ih.1 _ _ _ _ _ h1
    obtain ⟨c2, rfl, r2⟩ := ih.1 _ _ _ _ _ h2
    obtain ⟨ht, rfl⟩ := call h
    exact ⟨s2, c1 ++ c2, r1.append r2, ht, by simp⟩
  | inst q m =>
    unfold buildF at h
    obtain ⟨s1, a1, h1, h⟩ := andThen_ret h
    obtain ⟨s2, a2, h2, h⟩ := andThen_ret h
    obtain ⟨c1, rfl, r1⟩ := ih.2 _ _ _ _ _ h1
    obtain ⟨c2, rfl, r2⟩ := ih.1 _ _ _ _ _ h2
    obtain ⟨ht, rfl⟩ := call h
    exact ⟨s2, c1 ++ c2, r1.append r2, ht, by simp⟩

theorem saveF_run (hk : k ≤ N) {s s' : PySt} {p : NPat} {a a' : List Call}
    (h : saveF cfg k p s a = some (some (s', a'))) : ∃ sv, Saved cfg N p s s' sv ∧ a' = a ++ sv := by
  unfold saveF at h
  split at h
  · split at h
    · obtain ⟨ht, rfl⟩ := MM.doCalls_one h
      exact ⟨[.save], .yes (by simp [Cfg.saves, *]) (track1_mono hk _ _ _ ht), rfl⟩
    · cases h; exact ⟨[], .no (by simp [Cfg.saves, *]), by simp⟩
  · cases h; exact ⟨[], .no (by simp [Cfg.saves, *]), by simp⟩

theorem runsAt (cfg : Cfg) (N : Nat) : ∀ k, k ≤ N → RunsAt cfg N k := by
  intro k
  induction k with
  | zero => exact fun _ => ⟨fun s p acc s' a' h => by simp [patternF] at h,
      fun s ps acc s' a' h => by simp [patternF.patternListF] at h⟩
  | succ k ih =>
    intro hk1
    have hk : k ≤ N := Nat.le_of_succ_le hk1
    have ih := ih hk
    constructor
    · intro s p acc s' a' h
      rw [patternF_succ] at h
      obtain ⟨hit, hhit, h⟩ := Option.bind_eq_some_iff.mp h
      cases hit with
      | true =>
        obtain ⟨ht, rfl⟩ := MM.doCalls_one (show doCalls k s [.load (.pat p)] acc = _ from h)
        exact ⟨_, rfl, .hit (MM.memoHitF_mono cfg hk p s _ hhit) (track1_mono hk _ _ _ ht) (.nil _)⟩
      | false =>
        obtain ⟨s2, a2, hb, h⟩ := andThen_ret (show andThen (buildF cfg k s p acc) _ = _ from h)
        obtain ⟨s1, ck, hr, ht, rfl⟩ := buildF_run hk ih hb
        obtain ⟨sv, hs, rfl⟩ := saveF_run hk h
        exact ⟨ck ++ p.headCall :: sv ++ [], by simp,
          .build (MM.memoHitF_mono cfg hk p s _ hhit) hr ht hs (.nil _)⟩
    · intro s ps acc s' a' h
      cases ps with
      | nil =>
        simp only [patternF.patternListF, Option.some.injEq, Prod.mk.injEq] at h
        obtain ⟨rfl, rfl⟩ := h
        exact ⟨[], by simp, .nil _⟩
      | cons p ps =>
        rw [patternListF_cons] at h
        obtain ⟨s1, a1, h1, h⟩ := andThen_ret h
        obtain ⟨c1, rfl, r1⟩ := ih.1 _ _ _ _ _ h1
        obtain ⟨c2, rfl, r2⟩ := ih.2 _ _ _ _ _ h
        exact ⟨c1 ++ c2, by simp, r1.append r2⟩

/-- **a returning `pattern` is a run** -/
theorem patternF_run (hk : k ≤ N) {s s' : PySt} {p : NPat} {acc a' : List Call}
    (h : patternF cfg k s p acc = some (some (s', a'))) : ∃ cs, a' = acc ++ cs ∧ Run cfg N s [p] s' cs :=
  (runsAt cfg N k hk).1 _ _ _ _ _ h

theorem patternListF_run (hk : k ≤ N) {s s' : PySt} {ps : List NPat} {acc a' : List Call}
    (h : patternF.patternListF cfg k s ps acc = some (some (s', a'))) :
    ∃ cs, a' = acc ++ cs ∧ Run cfg N s ps s' cs :=
  (runsAt cfg N k hk).2 _ _ _ _ _ h

/-! ## the head call -/

/-- on the compiled children, the head call of `p` replaces them by `p`; only `symbol` touches anything else (the table) -/
theorem headCall_state {n : Nat} {s s1 s2 : PySt} {p : NPat} (ht : track1 n s1 p.headCall = some (some s2))
    (hst : s1.stack = p.kids.reverse.map entry ++ s.stack) :
    s2 = { s1 with stack := entry p :: s.stack, symtab := s2.symtab } := by
  cases p with
  | evar x | svar x | sym x | mv id ef sf ps ns hs =>
    simp only [NPat.kids, List.reverse_nil, List.map_nil, List.nil_append] at hst
    simp only [NPat.headCall, track1, PySt.push, Option.some.injEq] at ht; subst ht
    simp only [hst, entry]
  | imp l r | app l r | ex x q | mu x q =>
    simp only [NPat.headCall, NPat.kids, track1, hst, entry, List.reverse_cons, List.reverse_nil, List.map_cons,
      List.map_nil, List.nil_append, List.cons_append, Option.some.injEq] at ht; subst ht
    rfl
  | esub q x plug | ssub q x plug =>
    simp only [NPat.headCall, NPat.kids, track1, hst, entry, List.reverse_cons, List.reverse_nil, List.map_cons,
      List.map_nil, List.nil_append, List.cons_append] at ht
    split at ht
    · simp only [Option.some.injEq] at ht; subst ht; rfl
    · simp at ht
  | inst q m =>
    have htp := takePlugs_rev ((m.map (·.2)).reverse) s.stack
    have hlen : ((m.map (·.2)).reverse).length = (m.map (·.1)).length := by simp
    rw [hlen, List.reverse_reverse] at htp
    simp only [NPat.headCall, NPat.kids, List.reverse_append, List.reverse_cons, List.reverse_nil, List.nil_append,
      List.map_append, List.map_cons, List.map_nil, List.cons_append] at ht hst
    simp only [track1, hst, entry] at ht
    rw [htp] at ht
    simp only [Option.some.injEq, zip_keys_vals] at ht; subst ht
    rfl

