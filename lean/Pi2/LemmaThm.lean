import Pi2.Lemma
/-!
# The derived-rule libraries: proof trees, homomorphism, stability under instantiation

* `algG : Alg GTh` — the algebra of proof trees (`Pf`) carrying their meaning (`Pf.Sem`); it agrees with the
  conclusion-only algebra `algC` on conclusions (L0).
* `sem_hom` — the semantic functions of any list of definitions over `algG` project, by `GTh.conc`, onto the
  semantic functions over `algC` (L1): one induction over the language and over the list of definitions.
* `sem_stable` — over `algC`, a successful run stays successful under any instantiation of the arguments
  and premise conclusions, and returns the instantiated conclusion (L2), for well-formed definitions
  (`Def.wf`, decidable).

Core Lean only.
-/
open Pat

namespace Lem

/-! ## L0 — patterns without substitution nodes whose metavariables are clean `phi i`, `i < n` -/

/-- no `esub`/`ssub` node; every metavariable is `phi i` with `i < n` -/
def Simple (n : Nat) : Pat → Bool
  | .evar _ => true | .svar _ => true | .sym _ => true
  | .imp l r => Simple n l && Simple n r
  | .app l r => Simple n l && Simple n r
  | .ex _ p => Simple n p
  | .mu _ p => Simple n p
  | .mv id ef sf ps ns hs =>
      decide (id < n) && ef.isEmpty && sf.isEmpty && ps.isEmpty && ns.isEmpty && hs.isEmpty
  | .esub .. => false
  | .ssub .. => false

theorem simple_mv {n id : Nat} {ef sf ps ns hs : List VId} (h : Simple n (.mv id ef sf ps ns hs) = true) :
    id < n ∧ Pat.mv id ef sf ps ns hs = phi id := by
  simp only [Simple, Bool.and_eq_true, decide_eq_true_eq, List.isEmpty_iff] at h
  obtain ⟨⟨⟨⟨⟨h1, h2⟩, h3⟩, h4⟩, h5⟩, h6⟩ := h
  subst h2 h3 h4 h5 h6
  exact ⟨h1, rfl⟩

theorem ofPat_expand : (p : Pat) → (NPat.ofPat p).expand = p
  | .evar _ => rfl | .svar _ => rfl | .sym _ => rfl | .mv .. => rfl
  | .imp l r | .app l r => by simp only [NPat.ofPat, NPat.expand, ofPat_expand l, ofPat_expand r]
  | .ex _ p | .mu _ p => by simp only [NPat.ofPat, NPat.expand, ofPat_expand p]
  | .esub p _ q | .ssub p _ q => by simp only [NPat.ofPat, NPat.expand, ofPat_expand p, ofPat_expand q]

theorem expandMap_ofPat (δ : List (Nat × Pat)) :
    NPat.expand.expandMap (δ.map fun (i, p) => (i, NPat.ofPat p)) = δ := by
  induction δ with
  | nil => rfl
  | cons kv r ih =>
    obtain ⟨k, v⟩ := kv
    simp only [List.map_cons, NPat.expand.expandMap, ofPat_expand, ih]

theorem inst_phi (δ : Nat → Option Pat) (i : Nat) :
    Py.inst δ (phi i) = match δ i with | some q => q | none => phi i := rfl

/-- instantiating with the empty map does nothing on simple patterns -/
theorem inst_none_simple (n : Nat) : (A : Pat) → Simple n A = true → Py.inst (fun _ => none) A = A
  | .evar _, _ => rfl | .svar _, _ => rfl | .sym _, _ => rfl
  | .imp l r, h | .app l r, h => by
      simp only [Simple, Bool.and_eq_true] at h
      simp only [Py.inst, inst_none_simple n l h.1, inst_none_simple n r h.2]
  | .ex _ p, h | .mu _ p, h => by simp only [Py.inst, inst_none_simple n p h]
  | .mv .., _ => rfl

/-- what `instantiate(_build_subst(ps))` does to the metavariable `phi i` -/
theorem lookup_buildSubst_aux (ps : List Pat) : ∀ (k i : Nat),
    (match Py.lookup (((List.range' k ps.length).zip ps).filter fun (j, p) => p != phi j) i with
      | some q => q | none => phi i) =
    if k ≤ i then (ps[i - k]?).getD (phi i) else phi i := by
  induction ps with
  | nil => intro k i; simp [Py.lookup]
  | cons p ps ih =>
    intro k i
    rw [List.length_cons, List.range'_succ, List.zip_cons_cons, List.filter_cons]
    have hih := ih (k + 1) i
    rcases Nat.lt_trichotomy k i with hk | rfl | hk
    · obtain ⟨m, rfl⟩ : ∃ m, i = k + 1 + m := ⟨i - (k + 1), by omega⟩
      have e : k + 1 + m - k = m + 1 := by omega
      simp only [Nat.le_add_right, if_true, Nat.add_sub_cancel_left] at hih
      by_cases hp : (p != phi k) = true <;>
        simp [Py.lookup, hp, hih, e, show k ≠ k + 1 + m by omega, show k ≤ k + 1 + m by omega]
    · simp only [show ¬ k + 1 ≤ k by omega, if_false] at hih
      by_cases hp : p = phi k <;> simp [Py.lookup, hp, hih]
    · simp only [show ¬ k + 1 ≤ i by omega, if_false] at hih
      by_cases hp : (p != phi k) = true <;>
        simp [Py.lookup, hp, hih, show k ≠ i by omega, show ¬ k ≤ i by omega]

theorem lookup_buildSubst (ps : List Pat) (i : Nat) :
    (match Py.lookup (buildSubst ps) i with | some q => q | none => phi i) = (ps[i]?).getD (phi i) := by
  have := lookup_buildSubst_aux ps 0 i
  simp only [Nat.zero_le, if_true, Nat.sub_zero] at this
  unfold buildSubst
  rw [List.range_eq_range']
  exact this

section
variable {n : Nat} (σ : Pat → Pat)
    (himp : ∀ a b, σ (.imp a b) = .imp (σ a) (σ b)) (happ : ∀ a b, σ (.app a b) = .app (σ a) (σ b))
    (hex : ∀ x a, σ (.ex x a) = .ex x (σ a)) (hmu : ∀ x a, σ (.mu x a) = .mu x (σ a))
    (hev : ∀ x, σ (.evar x) = .evar x) (hsv : ∀ x, σ (.svar x) = .svar x) (hsy : ∀ x, σ (.sym x) = .sym x)
    {δ δ' : Nat → Option Pat} (hphi : ∀ i < n, σ (Py.inst δ (phi i)) = Py.inst δ' (phi i))
include himp happ hex hmu hev hsv hsy hphi

/-- a map `σ` that commutes with the constructors of simple patterns, applied after an instantiation, is
another instantiation as soon as it is one on the metavariables -/
theorem inst_args_comm : (A : Pat) → Simple n A = true → σ (Py.inst δ A) = Py.inst δ' A
  | .evar _, _ => hev _ | .svar _, _ => hsv _ | .sym _, _ => hsy _
  | .imp l r, h => by
      simp only [Simple, Bool.and_eq_true] at h
      simp only [Py.inst, himp, inst_args_comm l h.1, inst_args_comm r h.2]
  | .app l r, h => by
      simp only [Simple, Bool.and_eq_true] at h
      simp only [Py.inst, happ, inst_args_comm l h.1, inst_args_comm r h.2]
  | .ex _ p, h => by simp only [Py.inst, hex, inst_args_comm p h]
  | .mu _ p, h => by simp only [Py.inst, hmu, inst_args_comm p h]
  | .mv id ef sf qs ns hs, h => by
      obtain ⟨hlt, he⟩ := simple_mv h
      rw [he]
      exact hphi id hlt
end

/-- on a pattern whose metavariables are clean `phi i`, `i < n = |ps|`, the substitution built by `_build_subst`
(identity entries dropped) instantiates like the full list of arguments -/
theorem instP_buildSubst (ps : List Pat) (A : Pat) (h : Simple ps.length A = true) :
    instP (buildSubst ps) A = Py.inst (fun i => ps[i]?) A :=
  inst_args_comm id (fun _ _ => rfl) (fun _ _ => rfl) (fun _ _ => rfl) (fun _ _ => rfl) (fun _ => rfl)
    (fun _ => rfl) (fun _ => rfl)
    (fun i hi => by rw [inst_phi, inst_phi]; exact (lookup_buildSubst ps i).trans (by simp [hi])) A h

/-! ## L0 — the proof-tree algebra -/

/-- `dynamic_inst(pf, delta)` means the instance -/
theorem sem_dyn {pf : Pf} {A : Pat} (δ : List (Nat × Pat)) (h : Pf.Sem pf A) (hA : instP [] A = A) :
    Pf.Sem (dyn pf δ) (instP δ A) := by
  cases δ with
  | nil => rw [hA]; exact h
  | cons kv r =>
    have := Pf.Sem.dynInst (δ := (kv :: r).map fun (i, p) => (i, NPat.ofPat p)) h
    rwa [expandMap_ofPat] at this

theorem inst_botP (δ : Nat → Option Pat) : Py.inst δ botP = botP := rfl

/-- an axiom schema in the metavariables `phi i`, `i < |ps|`, instantiated with the arguments `ps` -/
theorem sem_args {pf : Pf} {A : Pat} (ps : List Pat) (h : Pf.Sem pf A) (hA : Simple ps.length A = true) :
    Pf.Sem (dyn pf (buildSubst ps)) (Py.inst (fun i => ps[i]?) A) :=
  instP_buildSubst ps A hA ▸ sem_dyn (buildSubst ps) h (inst_none_simple _ A hA)

theorem sem_prop1 (p q : Pat) : Pf.Sem (dyn .prop1 (buildSubst [p, q])) (.imp p (.imp q p)) :=
  sem_args [p, q] Pf.Sem.prop1 rfl

theorem sem_prop2 (p q r : Pat) : Pf.Sem (dyn .prop2 (buildSubst [p, q, r]))
    (.imp (.imp p (.imp q r)) (.imp (.imp p q) (.imp p r))) :=
  sem_args [p, q, r] Pf.Sem.prop2 rfl

theorem sem_prop3 (p : Pat) : Pf.Sem (dyn .prop3 (buildSubst [p])) (.imp (negP (negP p)) p) :=
  sem_args [p] Pf.Sem.prop3 rfl

/-- all six axioms of the `Tautology` module have exactly the clean metavariables `phi 0, phi 1, phi 2` -/
theorem tautAxioms_simple : ∀ A ∈ tautAxioms, Simple 3 A = true := by decide

theorem tautAxioms_getElem_simple {i : Nat} {A : Pat} (h : tautAxioms[i]? = some A) : Simple 3 A = true :=
  tautAxioms_simple A (List.mem_of_getElem? h)

theorem sem_axiomInst {i : Nat} {A : Pat} (h : tautAxioms[i]? = some A) (ps : List Pat) :
    Pf.Sem (dyn (.loadAxiom (NPat.ofPat A)) (buildSubst ps)) (instP (buildSubst ps) A) := by
  have h0 := Pf.Sem.loadAxiom (a := NPat.ofPat A)
  rw [ofPat_expand] at h0
  exact sem_dyn (buildSubst ps) h0 (inst_none_simple 3 A (tautAxioms_getElem_simple h))

/-- `ProofExp.modus_ponens(l, r)`: `p, q = Implies.extract(l.conc); assert p == r.conc` -/
def mpG : GTh → GTh → Option GTh
  | ⟨pl, .imp a b, okl⟩, r =>
      if h : a = r.conc then some ⟨.mp pl r.pf, b, Pf.Sem.mp okl (h ▸ r.ok)⟩ else none
  | _, _ => none

def axiomInstG (i : Nat) (ps : List Pat) : Option GTh :=
  match h : tautAxioms[i]? with
  | some A => some ⟨dyn (.loadAxiom (NPat.ofPat A)) (buildSubst ps), instP (buildSubst ps) A, sem_axiomInst h ps⟩
  | none => none

/-- the proof trees the Python code builds, with the evidence that they mean their conclusions -/
def algG : Alg GTh where
  conc := GTh.conc
  mp := mpG
  prop1 p q := ⟨dyn .prop1 (buildSubst [p, q]), .imp p (.imp q p), sem_prop1 p q⟩
  prop2 p q r := ⟨dyn .prop2 (buildSubst [p, q, r]),
    .imp (.imp p (.imp q r)) (.imp (.imp p q) (.imp p r)), sem_prop2 p q r⟩
  prop3 p := ⟨dyn .prop3 (buildSubst [p]), .imp (negP (negP p)) p, sem_prop3 p⟩
  axiomInst := axiomInstG

/-! agreement with `algC` on conclusions -/

theorem algG_conc (t : GTh) : algC.conc (algG.conc t) = t.conc := rfl
theorem algG_prop1 (p q : Pat) : (algG.prop1 p q).conc = algC.prop1 p q := rfl
theorem algG_prop2 (p q r : Pat) : (algG.prop2 p q r).conc = algC.prop2 p q r := rfl
theorem algG_prop3 (p : Pat) : (algG.prop3 p).conc = algC.prop3 p := rfl

theorem algG_mp (l r : GTh) : (algG.mp l r).map GTh.conc = algC.mp l.conc r.conc := by
  obtain ⟨pl, cl, okl⟩ := l
  show (mpG ⟨pl, cl, okl⟩ r).map GTh.conc = mpC cl r.conc
  cases cl <;> try rfl
  simp only [mpG, mpC]
  split <;> rfl

theorem algG_axiomInst (i : Nat) (ps : List Pat) :
    (algG.axiomInst i ps).map GTh.conc = algC.axiomInst i ps := by
  show (axiomInstG i ps).map GTh.conc = (tautAxioms[i]?).map (instP (buildSubst ps))
  unfold axiomInstG
  split <;> rename_i h <;> exact (congrArg (Option.map (instP (buildSubst ps))) h).symm

/-- the tree of `algG.mp` and the trees of the schema instances, as the Python code builds them -/
theorem algG_mp_pf (l r t : GTh) (h : algG.mp l r = some t) : t.pf = .mp l.pf r.pf := by
  obtain ⟨pl, cl, okl⟩ := l
  change mpG ⟨pl, cl, okl⟩ r = some t at h
  cases cl <;> try cases h
  simp only [mpG] at h
  split at h <;> cases h
  rfl

theorem algG_prop1_pf (p q : Pat) : (algG.prop1 p q).pf = dyn .prop1 (buildSubst [p, q]) := rfl
theorem algG_prop2_pf (p q r : Pat) : (algG.prop2 p q r).pf = dyn .prop2 (buildSubst [p, q, r]) := rfl
theorem algG_prop3_pf (p : Pat) : (algG.prop3 p).pf = dyn .prop3 (buildSubst [p]) := rfl
theorem algG_axiomInst_pf (i : Nat) (ps : List Pat) (A : Pat) (t : GTh) (hA : tautAxioms[i]? = some A)
    (h : algG.axiomInst i ps = some t) : t.pf = dyn (.loadAxiom (NPat.ofPat A)) (buildSubst ps) := by
  change axiomInstG i ps = some t at h
  unfold axiomInstG at h
  split at h <;> rename_i h' <;> cases h
  cases hA.symm.trans h'
  rfl

/-! ## L1 — the homomorphism `GTh.conc : algG → algC` -/

/-- the first definition is treated like the others -/
theorem sem_eq_go {τ} (A : Alg τ) : (defs : List Def) → sem A defs = sem.go A [] defs
  | [] => rfl
  | _ :: _ => rfl

theorem sem_go_length {τ} (A : Alg τ) : ∀ (ds : List Def) (acc : List (Fun τ)),
    (sem.go A acc ds).length = acc.length + ds.length := by
  intro ds
  induction ds with
  | nil => intro acc; rfl
  | cons d ds ih =>
    intro acc
    simp only [sem.go, ih, List.length_append, List.length_cons, List.length_nil]
    omega

theorem sem_length {τ} (A : Alg τ) (defs : List Def) : (sem A defs).length = defs.length := by
  rw [sem_eq_go, sem_go_length, List.length_nil, Nat.zero_add]

theorem evalPE_hom (ps : List Pat) (ts : List GTh) : (e : PE) →
    evalPE algG ps ts e = evalPE algC ps (ts.map GTh.conc) e
  | .pvar _ => rfl | .mv _ => rfl | .bot => rfl | .top => rfl
  | .neg a => by simp only [evalPE, evalPE_hom ps ts a]
  | .imp a b | .and a b | .or a b | .equiv a b => by
      simp only [evalPE, evalPE_hom ps ts a, evalPE_hom ps ts b]
  | .concOf t => by simp only [evalPE, List.getElem?_map, Option.map_map]; rfl

theorem evalPEs_hom (ps : List Pat) (ts : List GTh) : (es : List PE) →
    evalPEs algG ps ts es = evalPEs algC ps (ts.map GTh.conc) es
  | [] => rfl
  | e :: es => by simp only [evalPEs, evalPE_hom ps ts e, evalPEs_hom ps ts es]

/-- a semantic function on proof trees projects onto one on conclusions -/
def HomF (f : Fun GTh) (g : Fun Pat) : Prop :=
  ∀ ps ts, (f ps ts).map GTh.conc = g ps (ts.map GTh.conc)

def HomFs (fG : List (Fun GTh)) (fC : List (Fun Pat)) : Prop :=
  fG.length = fC.length ∧ ∀ (i : Nat) f g, fG[i]? = some f → fC[i]? = some g → HomF f g

theorem HomFs.nil : HomFs [] [] := ⟨rfl, by intro i f g h; simp at h⟩

theorem HomFs.snoc {fG : List (Fun GTh)} {fC : List (Fun Pat)} {f : Fun GTh} {g : Fun Pat}
    (h : HomFs fG fC) (hf : HomF f g) : HomFs (fG ++ [f]) (fC ++ [g]) := by
  refine ⟨by simp [h.1], fun i f' g' h1 h2 => ?_⟩
  rw [List.getElem?_append] at h1 h2
  rw [← h.1] at h2
  by_cases hi : i < fG.length
  · rw [if_pos hi] at h1 h2
    exact h.2 i f' g' h1 h2
  · rw [if_neg hi] at h1 h2
    cases hj : i - fG.length with
    | zero => rw [hj] at h1 h2; cases h1; cases h2; exact hf
    | succ j => rw [hj] at h1; cases h1

theorem HomFs.get {fG : List (Fun GTh)} {fC : List (Fun Pat)} (h : HomFs fG fC) (i : Nat) :
    (fG[i]? = none ∧ fC[i]? = none) ∨ ∃ f g, fG[i]? = some f ∧ fC[i]? = some g ∧ HomF f g := by
  by_cases hi : i < fG.length
  · right
    have hi' : i < fC.length := h.1 ▸ hi
    exact ⟨fG[i], fC[i], List.getElem?_eq_getElem hi, List.getElem?_eq_getElem hi',
      h.2 i _ _ (List.getElem?_eq_getElem hi) (List.getElem?_eq_getElem hi')⟩
  · left
    have hi' : fG.length ≤ i := Nat.le_of_not_lt hi
    exact ⟨List.getElem?_eq_none hi', List.getElem?_eq_none (h.1 ▸ hi')⟩

/- In the proofs below `Option.map_bind`, `Option.bind_map` push the projection through the binds of the interpreter,
so that both sides become the same chain of binds over the conclusion side. -/
mutual
theorem evalTE_hom {fG : List (Fun GTh)} {fC : List (Fun Pat)} (hF : HomFs fG fC)
    (ps : List Pat) (ts : List GTh) : (e : TE) →
    (evalTE algG fG ps ts e).map GTh.conc = evalTE algC fC ps (ts.map GTh.conc) e
  | .tvar j => by simp only [evalTE, List.getElem?_map]
  | .call f pes tes => by
      simp only [evalTE, Option.bind_eq_bind, evalPEs_hom ps ts pes, ← evalTEs_hom hF ps ts tes,
        Option.map_bind, Option.bind_map, Function.comp_def]
      rcases hF.get f with ⟨h1, h2⟩ | ⟨f', g', h1, h2, hfg⟩ <;>
        simp only [h1, h2, Option.bind_none, Option.bind_some]
      simp only [hfg _ _]
  | .mp l r => by
      simp only [evalTE, Option.bind_eq_bind, ← evalTE_hom hF ps ts l, ← evalTE_hom hF ps ts r,
        Option.map_bind, Option.bind_map, Function.comp_def, algG_mp]
  | .prop1 p q => by
      simp only [evalTE, Option.bind_eq_bind, Option.pure_def, evalPE_hom ps ts p, evalPE_hom ps ts q,
        Option.map_bind, Function.comp_def, Option.map_some, algG_prop1]
  | .prop2 p q r => by
      simp only [evalTE, Option.bind_eq_bind, Option.pure_def, evalPE_hom ps ts p, evalPE_hom ps ts q,
        evalPE_hom ps ts r, Option.map_bind, Function.comp_def, Option.map_some, algG_prop2]
  | .prop3 p => by
      simp only [evalTE, Option.bind_eq_bind, Option.pure_def, evalPE_hom ps ts p, Option.map_bind,
        Function.comp_def, Option.map_some, algG_prop3]
  | .axiomInst i pes => by
      simp only [evalTE, Option.bind_eq_bind, evalPEs_hom ps ts pes, Option.map_bind, Function.comp_def,
        algG_axiomInst]
theorem evalTEs_hom {fG : List (Fun GTh)} {fC : List (Fun Pat)} (hF : HomFs fG fC)
    (ps : List Pat) (ts : List GTh) : (es : List TE) →
    (evalTEs algG fG ps ts es).map (List.map GTh.conc) = evalTEs algC fC ps (ts.map GTh.conc) es
  | [] => rfl
  | e :: es => by
      simp only [evalTEs, Option.bind_eq_bind, Option.pure_def, ← evalTE_hom hF ps ts e,
        ← evalTEs_hom hF ps ts es, Option.map_bind, Option.bind_map, Function.comp_def, Option.map_some,
        List.map_cons]
end

/-- the projection of environments -/
def projEnv (x : List Pat × List GTh) : List Pat × List Pat := (x.1, x.2.map GTh.conc)

theorem evalBody_hom {fG : List (Fun GTh)} {fC : List (Fun Pat)} (hF : HomFs fG fC) :
    ∀ (body : List Stmt) (ps : List Pat) (ts : List GTh),
    (evalBody algG fG ps ts body).map projEnv = evalBody algC fC ps (ts.map GTh.conc) body := by
  intro body
  induction body with
  | nil => intro ps ts; rfl
  | cons st r ih =>
    intro ps ts
    cases st with
    | letP e =>
      simp only [evalBody, Option.bind_eq_bind, evalPE_hom ps ts e, Option.map_bind, Function.comp_def, ih]
    | letT e =>
      simp only [evalBody, Option.bind_eq_bind, ← evalTE_hom hF ps ts e, Option.map_bind, Option.bind_map,
        Function.comp_def, ih, List.map_append, List.map_cons, List.map_nil]
    | extractImp e =>
      simp only [evalBody, Option.bind_eq_bind, evalPE_hom ps ts e, Option.map_bind, Function.comp_def]
      congr 1; funext a
      cases a <;> first | rfl | exact ih _ _
    | matchNot n e =>
      simp only [evalBody, Option.bind_eq_bind, evalPE_hom ps ts e, Option.map_bind, Function.comp_def, ih]
    | assertEq a b =>
      simp only [evalBody, Option.bind_eq_bind, evalPE_hom ps ts a, evalPE_hom ps ts b, Option.map_bind,
        Function.comp_def, apply_ite, ih, Option.map_none]

theorem evalDef_hom {fG : List (Fun GTh)} {fC : List (Fun Pat)} (hF : HomFs fG fC) (d : Def) :
    HomF (evalDef algG fG d) (evalDef algC fC d) := by
  intro ps ts
  simp only [evalDef, List.length_map, Option.bind_eq_bind, ← evalBody_hom hF d.body ps ts, apply_ite (Option.map GTh.conc), Option.map_bind,
    Option.bind_map, Function.comp_def, projEnv, evalTE_hom hF, Option.map_none]

theorem sem_go_hom : ∀ (ds : List Def) {aG : List (Fun GTh)} {aC : List (Fun Pat)},
    HomFs aG aC → HomFs (sem.go algG aG ds) (sem.go algC aC ds) := by
  intro ds
  induction ds with
  | nil => intro aG aC h; exact h
  | cons d ds ih =>
    intro aG aC h
    exact ih (h.snoc (evalDef_hom h d))

theorem sem_homFs (defs : List Def) : HomFs (sem algG defs) (sem algC defs) := by
  rw [sem_eq_go, sem_eq_go]
  exact sem_go_hom defs HomFs.nil

/-- **L1.** For every list of definitions, the semantic function of entry `i` on proof trees projects, by
`GTh.conc`, onto the semantic function on conclusions. -/
theorem sem_hom (defs : List Def) (i : Nat) (ps : List Pat) (ts : List GTh) :
    (match (sem algG defs)[i]? with | some f => (f ps ts).map GTh.conc | none => none) =
    (match (sem algC defs)[i]? with | some g => g ps (ts.map GTh.conc) | none => none) := by
  rcases (sem_homFs defs).get i with ⟨h1, h2⟩ | ⟨f, g, h1, h2, hfg⟩
  · rw [h1, h2]
  · rw [h1, h2]; exact hfg ps ts

/-- the same, entry by entry -/
theorem sem_hom_get (defs : List Def) (i : Nat) (g : Fun Pat) (hg : (sem algC defs)[i]? = some g) :
    ∃ f, (sem algG defs)[i]? = some f ∧ HomF f g := by
  rcases (sem_homFs defs).get i with ⟨_, h2⟩ | ⟨f, g', h1, h2, hfg⟩
  · rw [h2] at hg; cases hg
  · rw [h2] at hg; cases hg; exact ⟨f, h1, hfg⟩

/-- every theorem returned by a library function carries the evidence for its conclusion -/
theorem sem_sound (defs : List Def) (i : Nat) (f : Fun GTh) (_hf : (sem algG defs)[i]? = some f)
    (ps : List Pat) (ts : List GTh) (th : GTh) (_h : f ps ts = some th) : Pf.Sem th.pf th.conc := th.ok

/-! ## L2 — stability under instantiation -/

/-- no `PE.mv` (the translated bodies never mention a metavariable of their own) -/
def PE.wf : PE → Bool
  | .pvar _ => true
  | .mv _ => false
  | .imp a b => a.wf && b.wf
  | .bot => true
  | .neg a => a.wf
  | .top => true
  | .and a b => a.wf && b.wf
  | .or a b => a.wf && b.wf
  | .equiv a b => a.wf && b.wf
  | .concOf _ => true

mutual
/-- no `PE.mv`; every instantiated axiom is one of the six and gets exactly three arguments -/
def TE.wf : TE → Bool
  | .tvar _ => true
  | .call _ ps ts => ps.all PE.wf && TE.wfs ts
  | .mp l r => l.wf && r.wf
  | .prop1 p q => p.wf && q.wf
  | .prop2 p q r => p.wf && q.wf && r.wf
  | .prop3 p => p.wf
  | .axiomInst i ps => decide (i < tautAxioms.length) && ps.length == 3 && ps.all PE.wf
def TE.wfs : List TE → Bool
  | [] => true
  | e :: es => e.wf && TE.wfs es
end

def Stmt.wf : Stmt → Bool
  | .letP e => e.wf
  | .letT e => e.wf
  | .extractImp e => e.wf
  | .matchNot _ e => e.wf
  | .assertEq a b => a.wf && b.wf

def Def.wf (d : Def) : Bool := d.body.all Stmt.wf && d.ret.wf

theorem matchAnd_some {x : Pat} {xs : List Pat} (h : matchAnd x = some xs) :
    ∃ a b, x = .imp (.imp a (.imp b botP)) botP ∧ xs = [a, b] := by
  unfold matchAnd at h
  split at h
  · simp only [Option.ite_none_right_eq_some, Option.some.injEq] at h
    obtain ⟨⟨rfl, rfl⟩, rfl⟩ := h
    exact ⟨_, _, rfl, rfl⟩
  · cases h

theorem matchAnd_andP (a b : Pat) : matchAnd (andP a b) = some [a, b] := by
  show (if botP = botP ∧ botP = botP then some [a, b] else none) = some [a, b]
  rw [if_pos ⟨rfl, rfl⟩]

/-- `matchNotn` succeeds exactly on the notation's shape -/
theorem matchNotn_some {n : Notn} {x : Pat} {xs : List Pat} (h : matchNotn n x = some xs) :
    match n with
    | .neg => ∃ a, x = negP a ∧ xs = [a]
    | .and => ∃ a b, x = andP a b ∧ xs = [a, b]
    | .or => ∃ a b, x = orP a b ∧ xs = [a, b]
    | .equiv => ∃ a b, x = equivP a b ∧ xs = [a, b] := by
  cases n with
  | neg =>
    cases x <;> try (simp [matchNotn] at h; done)
    simp only [matchNotn, Option.ite_none_right_eq_some, Option.some.injEq] at h
    obtain ⟨rfl, rfl⟩ := h
    exact ⟨_, rfl, rfl⟩
  | and => exact matchAnd_some h
  | or =>
    cases x <;> try (simp [matchNotn] at h; done)
    rename_i l b
    cases l <;> try (simp [matchNotn] at h; done)
    simp only [matchNotn, Option.ite_none_right_eq_some, Option.some.injEq] at h
    obtain ⟨rfl, rfl⟩ := h
    exact ⟨_, _, rfl, rfl⟩
  | equiv =>
    cases hm : matchAnd x with
    | none => simp [matchNotn, hm] at h
    | some ys =>
      obtain ⟨p, q, rfl, rfl⟩ := matchAnd_some hm
      cases p <;> try (simp [matchNotn, hm] at h; done)
      cases q <;> try (simp [matchNotn, hm] at h; done)
      simp only [matchNotn, hm, Option.ite_none_right_eq_some, Option.some.injEq] at h
      obtain ⟨⟨rfl, rfl⟩, rfl⟩ := h
      exact ⟨_, _, rfl, rfl⟩

theorem evalPEs_length {τ} (A : Alg τ) (ps : List Pat) (ts : List τ) : ∀ (es : List PE) (xs : List Pat),
    evalPEs A ps ts es = some xs → xs.length = es.length := by
  intro es
  induction es with
  | nil => intro xs h; cases h; rfl
  | cons e es ih =>
    intro xs h
    simp only [evalPEs, Option.bind_eq_bind, Option.pure_def, Option.bind_eq_some_iff,
      Option.some.injEq] at h
    obtain ⟨a, _, ys, hys, hxs⟩ := h
    subst hxs
    simp only [List.length_cons, ih ys hys]

section Stable
variable (ρ : Nat → Option Pat)

theorem inst_negP (a : Pat) : Py.inst ρ (negP a) = negP (Py.inst ρ a) := rfl
theorem inst_topP : Py.inst ρ topP = topP := rfl
theorem inst_andP (a b : Pat) : Py.inst ρ (andP a b) = andP (Py.inst ρ a) (Py.inst ρ b) := rfl
theorem inst_orP (a b : Pat) : Py.inst ρ (orP a b) = orP (Py.inst ρ a) (Py.inst ρ b) := rfl
theorem inst_equivP (a b : Pat) : Py.inst ρ (equivP a b) = equivP (Py.inst ρ a) (Py.inst ρ b) := rfl

theorem mpC_stable {l r c : Pat} (h : mpC l r = some c) :
    mpC (Py.inst ρ l) (Py.inst ρ r) = some (Py.inst ρ c) := by
  unfold mpC at h
  split at h
  · simp only [Option.ite_none_right_eq_some, Option.some.injEq] at h
    obtain ⟨rfl, rfl⟩ := h
    exact if_pos rfl
  · cases h

theorem matchNotn_stable {n : Notn} {x : Pat} {xs : List Pat} (h : matchNotn n x = some xs) :
    matchNotn n (Py.inst ρ x) = some (xs.map (Py.inst ρ)) := by
  have hs := matchNotn_some h
  cases n with
  | neg =>
    obtain ⟨a, rfl, rfl⟩ := hs
    exact if_pos (c := botP = botP) (e := none) rfl
  | and =>
    obtain ⟨a, b, rfl, rfl⟩ := hs
    exact matchAnd_andP _ _
  | or =>
    obtain ⟨a, b, rfl, rfl⟩ := hs
    exact if_pos (c := botP = botP) (e := none) rfl
  | equiv =>
    obtain ⟨a, b, rfl, rfl⟩ := hs
    rw [inst_equivP]
    simp only [matchNotn, equivP, matchAnd_andP, and_self, if_true, List.map_cons, List.map_nil]

/-- the instantiated axioms commute with instantiation of their three arguments -/
theorem axiomInst_stable {i : Nat} {ps : List Pat} {c : Pat} (hlen : ps.length = 3)
    (h : algC.axiomInst i ps = some c) :
    algC.axiomInst i (ps.map (Py.inst ρ)) = some (Py.inst ρ c) := by
  change (tautAxioms[i]?).map (instP (buildSubst ps)) = some c at h
  show (tautAxioms[i]?).map (instP (buildSubst (ps.map (Py.inst ρ)))) = some (Py.inst ρ c)
  cases hA : tautAxioms[i]? with
  | none => rw [hA] at h; cases h
  | some A =>
    rw [hA] at h
    simp only [Option.map_some, Option.some.injEq] at h ⊢
    subst h
    refine (inst_args_comm (n := 3) (Py.inst ρ) (fun _ _ => rfl) (fun _ _ => rfl) (fun _ _ => rfl)
      (fun _ _ => rfl) (fun _ => rfl) (fun _ => rfl) (fun _ => rfl) (fun i hi => ?_) A
      (tautAxioms_getElem_simple hA)).symm
    rw [inst_phi, inst_phi, lookup_buildSubst, lookup_buildSubst, List.getElem?_map,
      List.getElem?_eq_getElem (hlen ▸ hi)]
    rfl

theorem evalPE_stable (ps cs : List Pat) : (e : PE) → e.wf = true →
    evalPE algC (ps.map (Py.inst ρ)) (cs.map (Py.inst ρ)) e = (evalPE algC ps cs e).map (Py.inst ρ)
  | .pvar i, _ => by simp only [evalPE, List.getElem?_map]
  | .bot, _ => rfl
  | .top, _ => rfl
  | .neg a, h => by
      simp only [evalPE, evalPE_stable ps cs a h, Option.bind_eq_bind, Option.pure_def, Option.map_bind,
        Option.bind_map, Function.comp_def, Option.map_some, inst_negP]
  | .imp a b, h | .and a b, h | .or a b, h | .equiv a b, h => by
      simp only [PE.wf, Bool.and_eq_true] at h
      simp only [evalPE, evalPE_stable ps cs a h.1, evalPE_stable ps cs b h.2, Option.bind_eq_bind,
        Option.pure_def, Option.map_bind, Option.bind_map, Function.comp_def, Option.map_some, Py.inst,
        inst_andP, inst_orP, inst_equivP]
  | .concOf t, _ => by simp only [evalPE, List.getElem?_map, Option.map_map, algC, Function.comp_def, id]

theorem evalPEs_stable (ps cs : List Pat) : (es : List PE) → es.all PE.wf = true →
    evalPEs algC (ps.map (Py.inst ρ)) (cs.map (Py.inst ρ)) es =
      (evalPEs algC ps cs es).map (List.map (Py.inst ρ))
  | [], _ => rfl
  | e :: es, h => by
      simp only [List.all_cons, Bool.and_eq_true] at h
      simp only [evalPEs, evalPE_stable ρ ps cs e h.1, evalPEs_stable ps cs es h.2, Option.bind_eq_bind,
        Option.pure_def, Option.map_bind, Option.bind_map, Function.comp_def, Option.map_some, List.map_cons]

/-- a semantic function on conclusions is stable under the instantiation `ρ` -/
def StableF (g : Fun Pat) : Prop :=
  ∀ ps cs c, g ps cs = some c → g (ps.map (Py.inst ρ)) (cs.map (Py.inst ρ)) = some (Py.inst ρ c)

def StableFs (funs : List (Fun Pat)) : Prop := ∀ g ∈ funs, StableF ρ g

mutual
theorem evalTE_stable {funs : List (Fun Pat)} (hF : StableFs ρ funs) (ps cs : List Pat) :
    (e : TE) → e.wf = true → ∀ c, evalTE algC funs ps cs e = some c →
    evalTE algC funs (ps.map (Py.inst ρ)) (cs.map (Py.inst ρ)) e = some (Py.inst ρ c)
  | .tvar j, _, c, h => by
      simp only [evalTE] at h ⊢
      rw [List.getElem?_map, h]; rfl
  | .call f pes tes, hw, c, h => by
      simp only [TE.wf, Bool.and_eq_true] at hw
      simp only [evalTE, Option.bind_eq_bind, Option.bind_eq_some_iff] at h
      obtain ⟨g, hg, pa, hpa, ta, hta, hc⟩ := h
      simp only [evalTE, Option.bind_eq_bind, hg, Option.bind_some, evalPEs_stable ρ ps cs pes hw.1, hpa,
        Option.map_some, evalTEs_stable hF ps cs tes hw.2 ta hta]
      exact hF g (List.mem_of_getElem? hg) pa ta c hc
  | .mp l r, hw, c, h => by
      simp only [TE.wf, Bool.and_eq_true] at hw
      simp only [evalTE, Option.bind_eq_bind, Option.bind_eq_some_iff] at h
      obtain ⟨a, ha, b, hb, hc⟩ := h
      simp only [evalTE, Option.bind_eq_bind, evalTE_stable hF ps cs l hw.1 a ha,
        evalTE_stable hF ps cs r hw.2 b hb, Option.bind_some]
      exact mpC_stable ρ hc
  | .prop1 p q, hw, c, h => by
      simp only [TE.wf, Bool.and_eq_true] at hw
      simp only [evalTE, Option.bind_eq_bind, Option.pure_def, Option.bind_eq_some_iff,
        Option.some.injEq] at h
      obtain ⟨a, ha, b, hb, rfl⟩ := h
      simp only [evalTE, Option.bind_eq_bind, Option.pure_def, evalPE_stable ρ ps cs p hw.1,
        evalPE_stable ρ ps cs q hw.2, ha, hb, Option.map_some, Option.bind_some]
      rfl
  | .prop2 p q r, hw, c, h => by
      simp only [TE.wf, Bool.and_eq_true] at hw
      simp only [evalTE, Option.bind_eq_bind, Option.pure_def, Option.bind_eq_some_iff,
        Option.some.injEq] at h
      obtain ⟨a, ha, b, hb, d, hd, rfl⟩ := h
      simp only [evalTE, Option.bind_eq_bind, Option.pure_def, evalPE_stable ρ ps cs p hw.1.1,
        evalPE_stable ρ ps cs q hw.1.2, evalPE_stable ρ ps cs r hw.2, ha, hb, hd, Option.map_some,
        Option.bind_some]
      rfl
  | .prop3 p, hw, c, h => by
      simp only [TE.wf] at hw
      simp only [evalTE, Option.bind_eq_bind, Option.pure_def, Option.bind_eq_some_iff,
        Option.some.injEq] at h
      obtain ⟨a, ha, rfl⟩ := h
      simp only [evalTE, Option.bind_eq_bind, Option.pure_def, evalPE_stable ρ ps cs p hw, ha,
        Option.map_some, Option.bind_some]
      rfl
  | .axiomInst i pes, hw, c, h => by
      simp only [TE.wf, Bool.and_eq_true, decide_eq_true_eq, beq_iff_eq] at hw
      simp only [evalTE, Option.bind_eq_bind, Option.bind_eq_some_iff] at h
      obtain ⟨pa, hpa, hc⟩ := h
      simp only [evalTE, Option.bind_eq_bind, evalPEs_stable ρ ps cs pes hw.2, hpa, Option.map_some,
        Option.bind_some]
      have hlen : pa.length = 3 := by rw [evalPEs_length algC ps cs pes pa hpa]; exact hw.1.2
      exact axiomInst_stable ρ hlen hc
theorem evalTEs_stable {funs : List (Fun Pat)} (hF : StableFs ρ funs) (ps cs : List Pat) :
    (es : List TE) → TE.wfs es = true → ∀ xs, evalTEs algC funs ps cs es = some xs →
    evalTEs algC funs (ps.map (Py.inst ρ)) (cs.map (Py.inst ρ)) es = some (xs.map (Py.inst ρ))
  | [], _, xs, h => by cases h; rfl
  | e :: es, hw, xs, h => by
      simp only [TE.wfs, Bool.and_eq_true] at hw
      simp only [evalTEs, Option.bind_eq_bind, Option.pure_def, Option.bind_eq_some_iff,
        Option.some.injEq] at h
      obtain ⟨a, ha, ys, hys, rfl⟩ := h
      simp only [evalTEs, Option.bind_eq_bind, Option.pure_def, evalTE_stable hF ps cs e hw.1 a ha,
        evalTEs_stable hF ps cs es hw.2 ys hys, Option.bind_some, List.map_cons]
end

theorem evalBody_stable {funs : List (Fun Pat)} (hF : StableFs ρ funs) :
    ∀ (body : List Stmt), body.all Stmt.wf = true → ∀ (ps cs ps' cs' : List Pat),
    evalBody algC funs ps cs body = some (ps', cs') →
    evalBody algC funs (ps.map (Py.inst ρ)) (cs.map (Py.inst ρ)) body =
      some (ps'.map (Py.inst ρ), cs'.map (Py.inst ρ)) := by
  intro body
  induction body with
  | nil =>
    intro _ ps cs ps' cs' h
    cases h
    rfl
  | cons st r ih =>
    intro hw ps cs ps' cs' h
    simp only [List.all_cons, Bool.and_eq_true] at hw
    obtain ⟨hst, hr⟩ := hw
    cases st with
    | letP e =>
      simp only [evalBody, Option.bind_eq_bind, Option.bind_eq_some_iff] at h
      obtain ⟨a, ha, h⟩ := h
      simp only [evalBody, Option.bind_eq_bind, evalPE_stable ρ ps cs e hst, ha, Option.map_some,
        Option.bind_some]
      exact (List.map_append ▸ ih hr _ _ _ _ h :)
    | letT e =>
      simp only [evalBody, Option.bind_eq_bind, Option.bind_eq_some_iff] at h
      obtain ⟨a, ha, h⟩ := h
      simp only [evalBody, Option.bind_eq_bind, evalTE_stable ρ hF ps cs e hst a ha, Option.bind_some]
      exact (List.map_append ▸ ih hr _ _ _ _ h :)
    | extractImp e =>
      simp only [evalBody, Option.bind_eq_bind, Option.bind_eq_some_iff] at h
      obtain ⟨x, hx, h⟩ := h
      simp only [evalBody, Option.bind_eq_bind, evalPE_stable ρ ps cs e hst, hx, Option.map_some,
        Option.bind_some]
      cases x <;> try cases h
      exact (List.map_append ▸ ih hr _ _ _ _ h :)
    | matchNot n e =>
      simp only [evalBody, Option.bind_eq_bind, Option.bind_eq_some_iff] at h
      obtain ⟨x, hx, xs, hxs, h⟩ := h
      simp only [evalBody, Option.bind_eq_bind, evalPE_stable ρ ps cs e hst, hx, Option.map_some,
        Option.bind_some, matchNotn_stable ρ hxs]
      exact (List.map_append ▸ ih hr _ _ _ _ h :)
    | assertEq a b =>
      simp only [Stmt.wf, Bool.and_eq_true] at hst
      simp only [evalBody, Option.bind_eq_bind, Option.bind_eq_some_iff] at h
      obtain ⟨x, hx, y, hy, h⟩ := h
      split at h <;> try cases h
      subst x
      simp only [evalBody, Option.bind_eq_bind, evalPE_stable ρ ps cs a hst.1,
        evalPE_stable ρ ps cs b hst.2, hx, hy, Option.map_some, Option.bind_some, if_true]
      exact ih hr _ _ _ _ h

theorem evalDef_stable {funs : List (Fun Pat)} (hF : StableFs ρ funs) (d : Def) (hd : d.wf = true) :
    StableF ρ (evalDef algC funs d) := by
  intro ps cs c h
  simp only [Def.wf, Bool.and_eq_true] at hd
  simp only [evalDef] at h ⊢
  by_cases hl : ps.length = d.nP ∧ cs.length = d.nT
  · rw [if_pos hl] at h
    simp only [List.length_map, if_pos hl]
    simp only [Option.bind_eq_bind, Option.bind_eq_some_iff] at h
    obtain ⟨⟨ps', cs'⟩, hb, hr⟩ := h
    simp only [Option.bind_eq_bind, evalBody_stable ρ hF d.body hd.1 ps cs ps' cs' hb, Option.bind_some]
    exact evalTE_stable ρ hF ps' cs' d.ret hd.2 c hr
  · rw [if_neg hl] at h; cases h

theorem StableFs.snoc {funs : List (Fun Pat)} {g : Fun Pat} (h : StableFs ρ funs) (hg : StableF ρ g) :
    StableFs ρ (funs ++ [g]) := by
  intro g' hm
  rcases List.mem_append.1 hm with hm | hm
  · exact h g' hm
  · rw [List.mem_singleton.1 hm]; exact hg

theorem sem_go_stable : ∀ (ds : List Def), (∀ d ∈ ds, d.wf = true) → ∀ {acc : List (Fun Pat)},
    StableFs ρ acc → StableFs ρ (sem.go algC acc ds) := by
  intro ds
  induction ds with
  | nil => intro _ acc h; exact h
  | cons d ds ih =>
    intro hw acc h
    exact ih (fun d' hd' => hw d' (List.mem_cons_of_mem _ hd'))
      (h.snoc ρ (evalDef_stable ρ h d (hw d List.mem_cons_self)))

theorem sem_stableFs (defs : List Def) (hwf : ∀ d ∈ defs, d.wf = true) : StableFs ρ (sem algC defs) := by
  rw [sem_eq_go]
  exact sem_go_stable ρ defs hwf (fun g hg => nomatch hg)

end Stable

/-- **L2.** Over conclusions, a run of entry `i` that succeeds on `ps`, `cs` with conclusion `c` succeeds on
the instantiated arguments and premise conclusions, with conclusion the instance of `c`. -/
theorem sem_stable (defs : List Def) (hwf : ∀ d ∈ defs, d.wf = true) (ρ : Nat → Option Pat) (i : Nat)
    (g : Fun Pat) (hg : (sem algC defs)[i]? = some g) (ps cs : List Pat) (c : Pat)
    (h : g ps cs = some c) :
    g (ps.map (Py.inst ρ)) (cs.map (Py.inst ρ)) = some (Py.inst ρ c) :=
  sem_stableFs ρ defs hwf g (List.mem_of_getElem? hg) ps cs c h

end Lem

#print axioms Lem.algG_mp
#print axioms Lem.algG_axiomInst
#print axioms Lem.instP_buildSubst
#print axioms Lem.sem_hom
#print axioms Lem.sem_stable
