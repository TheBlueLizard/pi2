import Pi2.KModCompile
/-!
# Machine-OK proof expressions: the side conditions of C02 as a Boolean function of the module text

`Pf.concM pf`: the conclusion the MACHINE reaches for a proof expression, computed on expansions with the machine's
own rules (`none` = one of the machine's checks fails: the premises of `mp` do not match, `gen` is not fresh, an
`Instantiate` violates a metavariable constraint or captures).  No fuel, nothing is run.

`Pf.MOK ax pf` (decidable): the patterns the expression mentions are shaped and machine-OK, keys are distinct, loaded
axioms are declared, and `concM` is defined.  `PModule.MOK m`: axioms and claims are shaped and machine-OK
(`NPat.MOK`), one proof per claim, every proof is `Pf.MOK`.

`runG` (`Pi2/ModuleMOKRun.lean`): every run of a proof expression whose patterns are in order (`Pf.patsOK`) and whose instantiations the machine
accepts (`Pf.InstOK`; implied by `Pf.MOK`, and by `Pf.PF`) is matched, call by call, by the machine (`KMod.Sg`), for
every naming `ρ` of the symbols that agrees with the symbol table.
-/
set_option linter.unusedSimpArgs false
set_option linter.unusedVariables false
open Pat PySt

namespace Pf

/-- the machine's conclusion of a proof expression, on expansions; `none` = a check of the machine fails -/
def concM : Pf → Option Pat
  | prop1 => some prop1P
  | prop2 => some prop2P
  | prop3 => some prop3P
  | quantifier => some quantP
  | mp l r =>
      match concM l, concM r with
      | some (.imp a b), some c => if a = c then some b else none
      | _, _ => none
  | gen p x =>
      match concM p with
      | some (.imp l r) => if r.eFresh x then some (.imp (.ex x l) r) else none
      | _ => none
  | dynInst p δ =>
      match concM p with
      | some c => if δ.isEmpty then some c else Pat.inst (Py.lookup (NPat.expand.expandMap δ)) c
      | none => none
  | loadAxiom a => some a.expand

/-- the patterns a proof expression mentions: plugs shaped and machine-OK with distinct keys, loaded axioms shaped -/
def patsOK : Pf → Bool
  | mp l r => patsOK l && patsOK r
  | gen p _ => patsOK p
  | dynInst p δ => patsOK p && NPat.MOKMap δ && NPat.ShapeMap δ && decide ((δ.map (·.1)).Nodup)
  | loadAxiom a => a.Shape
  | _ => true

/-- every loaded axiom is (up to notation) one of the declared axioms -/
def declared (ax : List NPat) : Pf → Bool
  | mp l r => declared ax l && declared ax r
  | gen p _ => declared ax p
  | dynInst p _ => declared ax p
  | loadAxiom a => ax.any fun x => x.expand == a.expand
  | _ => true

/-- **machine-OK proof expression**: a Boolean function of the text -/
def MOK (ax : List NPat) (pf : Pf) : Bool := pf.patsOK && pf.declared ax && (concM pf).isSome

/-- the machine accepts every `Instantiate` of the expression (stated on the documented conclusions `Pf.Sem`) -/
def InstOK : Pf → Prop
  | mp l r => InstOK l ∧ InstOK r
  | gen p _ => InstOK p
  | dynInst p δ => InstOK p ∧ (δ.isEmpty = false → ∀ A, Pf.Sem p A →
      (Pat.inst (Py.lookup (NPat.expand.expandMap δ)) A).isSome = true)
  | _ => True

end Pf

namespace NPat
/-- shaped and machine-OK -/
def SM (a : NPat) : Bool := a.Shape && a.MOK
end NPat

namespace PModule
/-- **machine-OK module**: a Boolean function of the module text -/
def MOK (m : PModule) : Bool :=
  m.gammaAxioms.all NPat.SM && m.claimsOf.all NPat.SM && m.proofsOf.all (Pf.MOK m.axiomsOf) &&
    (m.claimsOf.length == m.proofsOf.length)
end PModule

namespace KMod
open NPat

/-! ## `concM` against the documented meaning -/

theorem lookup_expandMap_nil : Py.lookup (NPat.expand.expandMap []) = fun _ => (none : Option Pat) :=
  funext fun _ => rfl

theorem concM_mp_inv {l r : Pf} {C : Pat} (h : Pf.concM (.mp l r) = some C) :
    ∃ A, Pf.concM l = some (.imp A C) ∧ Pf.concM r = some A := by
  simp only [Pf.concM] at h
  split at h
  · next a b c hl hr =>
    split at h
    · next hac => cases h; subst hac; exact ⟨a, hl, hr⟩
    · cases h
  · cases h

theorem concM_gen_inv {p : Pf} {x : VId} {C : Pat} (h : Pf.concM (.gen p x) = some C) :
    ∃ L R, Pf.concM p = some (.imp L R) ∧ R.eFresh x = true ∧ C = .imp (.ex x L) R := by
  simp only [Pf.concM] at h
  split at h
  · next l r hp =>
    split at h
    · next hfr => cases h; exact ⟨l, r, hp, hfr, rfl⟩
    · cases h
  · cases h

theorem concM_dyn_inv {p : Pf} {δ : List (Nat × NPat)} {C : Pat} (h : Pf.concM (.dynInst p δ) = some C) :
    ∃ A, Pf.concM p = some A ∧
      (if δ.isEmpty then C = A else Pat.inst (Py.lookup (NPat.expand.expandMap δ)) A = some C) := by
  simp only [Pf.concM] at h
  split at h
  · next c hp =>
    refine ⟨c, hp, ?_⟩
    split at h
    · next he => cases h; simp [he]
    · next he => simp [he, h]
  · cases h

theorem axioms_shape : prop1P.Shape = true ∧ prop2P.Shape = true ∧ prop3P.Shape = true ∧ quantP.Shape = true := by
  decide

/-- `concM` computes the documented conclusion (and it is shaped) -/
theorem concM_sem : ∀ (pf : Pf) (C : Pat), Pf.concM pf = some C → pf.patsOK = true →
    Pf.Sem pf C ∧ C.Shape = true := by
  intro pf
  induction pf with
  | prop1 => intro C h _; cases h; exact ⟨.prop1, axioms_shape.1⟩
  | prop2 => intro C h _; cases h; exact ⟨.prop2, axioms_shape.2.1⟩
  | prop3 => intro C h _; cases h; exact ⟨.prop3, axioms_shape.2.2.1⟩
  | quantifier => intro C h _; cases h; exact ⟨.quantifier, axioms_shape.2.2.2⟩
  | mp l r ihl ihr =>
    intro C h hp
    simp only [Pf.patsOK, Bool.and_eq_true] at hp
    obtain ⟨A, hl, hr⟩ := concM_mp_inv h
    obtain ⟨sl, shl⟩ := ihl _ hl hp.1
    obtain ⟨sr, _⟩ := ihr _ hr hp.2
    simp only [Pat.Shape, Bool.and_eq_true] at shl
    exact ⟨.mp sl sr, shl.2⟩
  | gen p x ih =>
    intro C h hp
    simp only [Pf.patsOK] at hp
    obtain ⟨L, R, hpc, hfr, rfl⟩ := concM_gen_inv h
    obtain ⟨sp, shp⟩ := ih _ hpc hp
    simp only [Pat.Shape, Bool.and_eq_true] at shp
    exact ⟨.gen sp hfr, by simp [Pat.Shape, shp.1, shp.2]⟩
  | dynInst p δ ih =>
    intro C h hp
    simp only [Pf.patsOK, Bool.and_eq_true, decide_eq_true_eq] at hp
    obtain ⟨A, hpc, hC⟩ := concM_dyn_inv h
    obtain ⟨sp, shp⟩ := ih _ hpc hp.1.1.1
    by_cases he : δ.isEmpty = true
    · simp only [he, if_true] at hC
      subst hC
      have hnil : δ = [] := by simpa using he
      have : Pf.Sem (.dynInst p δ) (Py.inst (Py.lookup (NPat.expand.expandMap δ)) C) := .dynInst sp
      rw [hnil, lookup_expandMap_nil, Py.inst_empty _ shp] at this
      rw [hnil]
      exact ⟨this, shp⟩
    · simp only [he, Bool.false_eq_true, if_false] at hC
      have := C11.py_inst_eq_rust _ _ _ hC
      subst this
      exact ⟨.dynInst sp, Py.shape_inst _ (NPat.shape_expandMap δ hp.1.2) _ shp⟩
  | loadAxiom a =>
    intro C h hp
    cases h
    exact ⟨.loadAxiom, NPat.shape_expand a hp⟩

/-- a defined `concM` certifies that the machine accepts every instantiation -/
theorem instOK_of_concM : ∀ (pf : Pf) (C : Pat), Pf.concM pf = some C → pf.patsOK = true → pf.InstOK := by
  intro pf
  induction pf with
  | prop1 | prop2 | prop3 | quantifier | loadAxiom a => intro _ _ _; trivial
  | mp l r ihl ihr =>
    intro C h hp
    simp only [Pf.patsOK, Bool.and_eq_true] at hp
    obtain ⟨A, hl, hr⟩ := concM_mp_inv h
    exact ⟨ihl _ hl hp.1, ihr _ hr hp.2⟩
  | gen p x ih =>
    intro C h hp
    simp only [Pf.patsOK] at hp
    obtain ⟨L, R, hpc, _, _⟩ := concM_gen_inv h
    exact ih _ hpc hp
  | dynInst p δ ih =>
    intro C h hp
    simp only [Pf.patsOK, Bool.and_eq_true, decide_eq_true_eq] at hp
    obtain ⟨A, hpc, hC⟩ := concM_dyn_inv h
    refine ⟨ih _ hpc hp.1.1.1, ?_⟩
    intro he A' hA'
    simp only [he, Bool.false_eq_true, if_false] at hC
    have := (concM_sem p A hpc hp.1.1.1).1.functional hA'
    subst this
    rw [hC]; rfl

theorem Pf.MOK.patsOK {ax : List NPat} {pf : Pf} (h : Pf.MOK ax pf = true) : pf.patsOK = true := by
  simp only [Pf.MOK, Bool.and_eq_true] at h; exact h.1.1

theorem Pf.MOK.instOK {ax : List NPat} {pf : Pf} (h : Pf.MOK ax pf = true) : pf.InstOK := by
  have hp := Pf.MOK.patsOK h
  simp only [Pf.MOK, Bool.and_eq_true] at h
  obtain ⟨C, hC⟩ := Option.isSome_iff_exists.mp h.2
  exact instOK_of_concM pf C hC hp

/-- conversely: the documented conclusion of an expression whose instantiations the machine accepts is `concM` -/
theorem concM_of_sem {pf : Pf} {C : Pat} (hS : Pf.Sem pf C) : pf.patsOK = true → pf.InstOK →
    Pf.concM pf = some C := by
  induction hS with
  | prop1 | prop2 | prop3 | quantifier | loadAxiom => intro _ _; rfl
  | @mp l r B C hl hr ihl ihr =>
    intro hp hi
    simp only [Pf.patsOK, Bool.and_eq_true] at hp
    simp only [Pf.concM, ihl hp.1 hi.1, ihr hp.2 hi.2, if_true]
  | @gen p x L R hp' hfr ih =>
    intro hp hi
    simp only [Pf.patsOK] at hp
    simp only [Pf.concM, ih hp hi, hfr, if_true]
  | @dynInst p δ A hp' ih =>
    intro hp hi
    simp only [Pf.patsOK, Bool.and_eq_true, decide_eq_true_eq] at hp
    have hA := ih hp.1.1.1 hi.1
    have hsh := (concM_sem p A hA hp.1.1.1).2
    simp only [Pf.concM, hA]
    by_cases he : δ.isEmpty = true
    · have hnil : δ = [] := by simpa using he
      subst hnil
      simp [lookup_expandMap_nil, Py.inst_empty _ hsh]
    · simp only [he, Bool.false_eq_true, if_false]
      obtain ⟨r, hr⟩ := Option.isSome_iff_exists.mp (hi.2 (by simpa using he) A hp')
      rw [hr, C11.py_inst_eq_rust _ _ _ hr]

end KMod
