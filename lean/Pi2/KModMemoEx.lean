import Pi2.KModMemo
/-!
# Evaluating a run of `execute_full` in the kernel

Two things stand in the way of `decide +kernel` on `PModule.executeFull cfg n m`.

`patternF { memo := some S }` tests `p ∈ S` by `S.any (NPat.seq p)`, and `NPat.seq` is defined by well-founded recursion,
which the kernel cannot evaluate.  `executeFullP sugg` is `PModule.executeFull { memo := some S }` with the membership
test as a parameter `sugg : NPat → Bool` (literally the same text otherwise); `executeFullP_eq`: they are equal whenever
`sugg` is the membership test of `S`.  For `S = [phi0 with x0 fresh]` the test is `isX` (`seq_X`), which the kernel
evaluates — so a run that `save`s and `load`s the constrained metavariable can be exhibited by `decide +kernel`.

`doCalls` puts every call at the END of the history (`acc ++ [c]`), so that forcing the history costs the square of its
length.  `executeFullR cfg sugg` is `executeFull cfg` — as its equations `patternF_succ`, `runF_succ`,
`ProofTie.executeFull_eq` give it — with the history kept newest-first, and the membership test as a parameter again;
`executeFullR_eq`: with the history turned round (`turn`) it returns what `executeFull cfg` returns.  `wireCalls` is
`wireCheck` call by call (the streams of `trackAll` grow at the end too).
-/
set_option linter.unusedVariables false
open Pat PySt PyI ProofTie

namespace KMod


/-- `patternF { memo := some S }` with `p ∈ S` as a parameter -/
def patternP (sugg : NPat → Bool) : Nat → PySt → NPat → List Call → Option (Option (PySt × List Call))
  | 0, _, _, _ => none
  | n + 1, s, p, acc => do
    let memoHit ← inMemoryF n p s.memory
    if memoHit then
      doCalls n s [.load (.pat p)] acc
    else
      let build : Option (Option (PySt × List Call)) :=
        match p with
        | .evar x => doCalls n s [.evar x] acc
        | .svar x => doCalls n s [.svar x] acc
        | .sym x => doCalls n s [.symbol x] acc
        | .mv id ef sf ps ns hs => doCalls n s [.metavar id ef sf ps ns hs] acc
        | .imp l r => do
            match ← patternP sugg n s l acc with
            | none => pure none
            | some (s1, a1) =>
              match ← patternP sugg n s1 r a1 with
              | none => pure none
              | some (s2, a2) => doCalls n s2 [.implies] a2
        | .app l r => do
            match ← patternP sugg n s l acc with
            | none => pure none
            | some (s1, a1) =>
              match ← patternP sugg n s1 r a1 with
              | none => pure none
              | some (s2, a2) => doCalls n s2 [.app] a2
        | .ex x q => do
            match ← patternP sugg n s q acc with
            | none => pure none
            | some (s1, a1) => doCalls n s1 [.ex x] a1
        | .mu x q => do
            match ← patternP sugg n s q acc with
            | none => pure none
            | some (s1, a1) => doCalls n s1 [.mu x] a1
        | .esub q x plug => do
            match ← patternP sugg n s plug acc with
            | none => pure none
            | some (s1, a1) =>
              match ← patternP sugg n s1 q a1 with
              | none => pure none
              | some (s2, a2) => doCalls n s2 [.esubst x] a2
        | .ssub q x plug => do
            match ← patternP sugg n s plug acc with
            | none => pure none
            | some (s1, a1) =>
              match ← patternP sugg n s1 q a1 with
              | none => pure none
              | some (s2, a2) => doCalls n s2 [.ssubst x] a2
        | .inst q m => do
            match ← patternListP sugg n s (m.map (·.2)) acc with
            | none => pure none
            | some (s1, a1) =>
              match ← patternP sugg n s1 q a1 with
              | none => pure none
              | some (s2, a2) => doCalls n s2 [.instantiatePattern (m.map (·.1))] a2
      match ← build with
      | none => pure none
      | some (s', a') => if sugg p then doCalls n s' [.save] a' else pure (some (s', a'))
where
  patternListP (sugg : NPat → Bool) : Nat → PySt → List NPat → List Call → Option (Option (PySt × List Call))
    | 0, _, _, _ => none
    | _ + 1, s, [], acc => some (some (s, acc))
    | n + 1, s, p :: r, acc => do
        match ← patternP sugg n s p acc with
        | none => pure none
        | some (s1, a1) => patternListP sugg n s1 r a1

theorem patternP_eq (S : List NPat) (sugg : NPat → Bool) (hs : ∀ p, S.any (NPat.seq p) = sugg p) :
    ∀ n, (∀ s p acc, patternF { memo := some S } n s p acc = patternP sugg n s p acc) ∧
      (∀ s ps acc, patternF.patternListF { memo := some S } n s ps acc = patternP.patternListP sugg n s ps acc) := by
  intro n
  induction n with
  | zero => exact ⟨fun _ _ _ => rfl, fun _ _ _ => rfl⟩
  | succ n ih =>
    obtain ⟨ihP, ihL⟩ := ih
    constructor
    · intro s p acc
      cases p <;> simp only [patternF, patternP, ihP, ihL, hs] <;> rfl
    · intro s ps acc
      cases ps with
      | nil => rfl
      | cons p r => simp only [patternF.patternListF, patternP.patternListP, ihP, ihL] <;> rfl

/-- `Pf.runF { memo := some S }` with `p ∈ S` as a parameter -/
def runP (sugg : NPat → Bool) (axioms : List NPat) :
    Nat → PySt → Pf → List Call → Option (Option (PySt × List Call × NPat))
  | 0, _, _, _ => none
  | n + 1, s, pf, acc => do
    let raw : Option (PySt × List Call) ← match pf with
      | .prop1 => doCalls n s [.prop1] acc
      | .prop2 => doCalls n s [.prop2] acc
      | .prop3 => doCalls n s [.prop3] acc
      | .quantifier => doCalls n s [.quantifier] acc
      | .mp l r => do
          match ← runP sugg axioms n s l acc with
          | none => pure none
          | some (s1, a1, _) =>
            match ← runP sugg axioms n s1 r a1 with
            | none => pure none
            | some (s2, a2, _) => doCalls n s2 [.mp] a2
      | .gen p x => do
          match ← runP sugg axioms n s p acc with
          | none => pure none
          | some (s1, a1, _) => doCalls n s1 [.gen x] a1
      | .dynInst p δ => do
          if δ.isEmpty then
            match ← runP sugg axioms n s p acc with
            | none => pure none
            | some (s1, a1, _) => pure (some (s1, a1))
          else
            match ← patternP.patternListP sugg n s (δ.map (·.2)) acc with
            | none => pure none
            | some (s1, a1) =>
              match ← runP sugg axioms n s1 p a1 with
              | none => pure none
              | some (s2, a2, _) => doCalls n s2 [.instantiate (δ.map (·.1))] a2
      | .loadAxiom a => doCalls n s [.load (.proved a)] acc
    match raw with
    | none => pure none
    | some (s', a') =>
      match s'.stack with
      | (.proved c, _) :: _ =>
        match ← Pf.concF axioms n pf with
        | none => pure none
        | some adv => if ← NPat.peqF n c adv then pure (some (s', a', c)) else pure none
      | _ => pure none

theorem runP_eq (S : List NPat) (sugg : NPat → Bool) (hs : ∀ p, S.any (NPat.seq p) = sugg p) (ax : List NPat) :
    ∀ n s pf acc, Pf.runF { memo := some S } ax n s pf acc = runP sugg ax n s pf acc := by
  intro n
  induction n with
  | zero => intro _ _ _; rfl
  | succ n ih =>
    intro s pf acc
    cases pf <;> simp only [Pf.runF, runP, ih, (patternP_eq S sugg hs n).2] <;> rfl

/-- `PModule.executeFull { memo := some S }` with `p ∈ S` as a parameter -/
def executeFullP (sugg : NPat → Bool) (n : Nat) (m : PModule) : Option (Option (PySt × List Call)) := do
  let s0 := PySt.init m.claimsOf
  let rec pub (n : Nat) (s : PySt) (acc : List Call) (c : Call) : List NPat → Option (Option (PySt × List Call))
    | [] => some (some (s, acc))
    | a :: r => do
        match ← patternP sugg n s a acc with
        | none => pure none
        | some (s1, a1) =>
          match ← doCalls n s1 [c] a1 with
          | none => pure none
          | some (s2, a2) => pub n s2 a2 c r
  match ← pub n s0 [] .publishAxiom m.gammaAxioms with
  | none => pure none
  | some (s1, a1) =>
  match ← doCalls n s1 [.intoClaim] a1 with
  | none => pure none
  | some (s2, a2) =>
  match ← pub n s2 a2 .publishClaim m.claimsOf.reverse with
  | none => pure none
  | some (s3, a3) =>
  match ← doCalls n s3 [.intoProof] a3 with
  | none => pure none
  | some (s4, a4) =>
  let rec proofs (n : Nat) (s : PySt) (acc : List Call) : List Pf → Option (Option (PySt × List Call))
    | [] => some (some (s, acc))
    | pf :: r => do
        match ← runP sugg m.axiomsOf n s pf acc with
        | none => pure none
        | some (s1, a1, _) =>
          match ← doCalls n s1 [.publishProof] a1 with
          | none => pure none
          | some (s2, a2) => proofs n s2 a2 r
  proofs n s4 a4 m.proofsOf

theorem pubP_eq (S : List NPat) (sugg : NPat → Bool) (hs : ∀ p, S.any (NPat.seq p) = sugg p) (n : Nat) (c : Call) :
    ∀ as s acc, PModule.executeFull.pub { memo := some S } n s acc c as = executeFullP.pub sugg n s acc c as := by
  intro as
  induction as with
  | nil => intro _ _; rfl
  | cons a r ih =>
    intro s acc
    simp only [PModule.executeFull.pub, executeFullP.pub, (patternP_eq S sugg hs n).1, ih] <;> rfl

theorem proofsP_eq (S : List NPat) (sugg : NPat → Bool) (hs : ∀ p, S.any (NPat.seq p) = sugg p) (m : PModule)
    (n : Nat) :
    ∀ pfs s acc, PModule.executeFull.proofs { memo := some S } m n s acc pfs
      = executeFullP.proofs sugg m n s acc pfs := by
  intro pfs
  induction pfs with
  | nil => intro _ _; rfl
  | cons pf r ih =>
    intro s acc
    simp only [PModule.executeFull.proofs, executeFullP.proofs, runP_eq S sugg hs, ih] <;> rfl

/-- the run with the membership test as a parameter is the memoising run -/
theorem executeFullP_eq (S : List NPat) (sugg : NPat → Bool) (hs : ∀ p, S.any (NPat.seq p) = sugg p) (n : Nat)
    (m : PModule) : PModule.executeFull { memo := some S } n m = executeFullP sugg n m := by
  simp only [PModule.executeFull, executeFullP, pubP_eq S sugg hs, proofsP_eq S sugg hs] <;> rfl


/-- a result whose history is kept newest-first, with the history turned round -/
def turn (x : Py (PySt × List Call)) : Py (PySt × List Call) := pmap (fun r => (r.1, r.2.reverse)) x
def turn3 (x : Py (PySt × List Call × NPat)) : Py (PySt × List Call × NPat) :=
  pmap (fun r => (r.1, r.2.1.reverse, r.2.2)) x

theorem andThen_turn {γ} (x : Py (PySt × List Call)) (f : PySt → List Call → Py γ) :
    andThen (turn x) f = andThen x fun s a => f s a.reverse := by
  rcases x with _ | _ | ⟨s, a⟩ <;> rfl

theorem andThen3_turn3 {γ} (x : Py (PySt × List Call × NPat)) (f : PySt → List Call → NPat → Py γ) :
    andThen3 (turn3 x) f = andThen3 x fun s a c => f s a.reverse c := by
  rcases x with _ | _ | ⟨s, a, c⟩ <;> rfl

theorem andThen_pmap {α β γ δ} (h : γ → δ) (x : Py (α × β)) (f : α → β → Py γ) :
    andThen x (fun a b => pmap h (f a b)) = pmap h (andThen x f) := by
  rcases x with _ | _ | ⟨a, b⟩ <;> rfl

theorem andThen3_pmap {α β γ δ ε} (h : δ → ε) (x : Py (α × β × γ)) (f : α → β → γ → Py δ) :
    andThen3 x (fun a b c => pmap h (f a b c)) = pmap h (andThen3 x f) := by
  rcases x with _ | _ | ⟨a, b, c⟩ <;> rfl

theorem turn_andThen {α β} (x : Py (α × β)) (f : α → β → Py (PySt × List Call)) :
    andThen x (fun a b => turn (f a b)) = turn (andThen x f) := andThen_pmap ..

theorem turn_andThen3 {α β γ} (x : Py (α × β × γ)) (f : α → β → γ → Py (PySt × List Call)) :
    andThen3 x (fun a b c => turn (f a b c)) = turn (andThen3 x f) := andThen3_pmap ..

theorem turn3_andThen {α β} (x : Py (α × β)) (f : α → β → Py (PySt × List Call × NPat)) :
    andThen x (fun a b => turn3 (f a b)) = turn3 (andThen x f) := andThen_pmap ..

/-- `doCalls n s [c]` on a history kept newest-first -/
def callR (n : Nat) (s : PySt) (c : Call) (acc : List Call) : Py (PySt × List Call) :=
  pmap (fun s' => (s', c :: acc)) (track1 n s c)

theorem doCalls_turn (n : Nat) (s : PySt) (c : Call) (acc : List Call) :
    doCalls n s [c] acc.reverse = turn (callR n s c acc) := by
  simp only [doCalls, callR, turn, pmap_pmap]
  rcases track1 n s c with _ | _ | s' <;> simp [pmap]

/-- `patternF cfg` with the history newest-first and `p ∈ S` as a parameter -/
def patternR (cfg : Cfg) (sugg : NPat → Bool) : Nat → PySt → NPat → List Call → Py (PySt × List Call)
  | 0, _, _, _ => none
  | n + 1, s, p, acc =>
    (memoHitF cfg n p s).bind fun hit =>
      if hit then callR n s (.load (.pat p)) acc
      else andThen
        (match p with
          | .evar x => callR n s (.evar x) acc
          | .svar x => callR n s (.svar x) acc
          | .sym x => callR n s (.symbol x) acc
          | .mv id ef sf ps ns hs => callR n s (.metavar id ef sf ps ns hs) acc
          | .imp l r => andThen (patternR cfg sugg n s l acc) fun s1 a1 =>
              andThen (patternR cfg sugg n s1 r a1) fun s2 a2 => callR n s2 .implies a2
          | .app l r => andThen (patternR cfg sugg n s l acc) fun s1 a1 =>
              andThen (patternR cfg sugg n s1 r a1) fun s2 a2 => callR n s2 .app a2
          | .ex x q => andThen (patternR cfg sugg n s q acc) fun s1 a1 => callR n s1 (.ex x) a1
          | .mu x q => andThen (patternR cfg sugg n s q acc) fun s1 a1 => callR n s1 (.mu x) a1
          | .esub q x plug => andThen (patternR cfg sugg n s plug acc) fun s1 a1 =>
              andThen (patternR cfg sugg n s1 q a1) fun s2 a2 => callR n s2 (.esubst x) a2
          | .ssub q x plug => andThen (patternR cfg sugg n s plug acc) fun s1 a1 =>
              andThen (patternR cfg sugg n s1 q a1) fun s2 a2 => callR n s2 (.ssubst x) a2
          | .inst q m => andThen (listR cfg sugg n s (m.map (·.2)) acc) fun s1 a1 =>
              andThen (patternR cfg sugg n s1 q a1) fun s2 a2 => callR n s2 (.instantiatePattern (m.map (·.1))) a2)
        fun s' a' => if sugg p then callR n s' .save a' else some (some (s', a'))
where
  listR (cfg : Cfg) (sugg : NPat → Bool) : Nat → PySt → List NPat → List Call → Py (PySt × List Call)
    | 0, _, _, _ => none
    | _ + 1, s, [], acc => some (some (s, acc))
    | n + 1, s, p :: r, acc => andThen (patternR cfg sugg n s p acc) fun s1 a1 => listR cfg sugg n s1 r a1

/-- `sugg` is the test `p ∈ S` of `patternF cfg` -/
def SuggOf (cfg : Cfg) (sugg : NPat → Bool) : Prop :=
  ∀ p, (match cfg.memo with | some S => S.any (NPat.seq p) | none => false) = sugg p

theorem saveF_turn {cfg : Cfg} {sugg : NPat → Bool} (hs : SuggOf cfg sugg) (n : Nat) (p : NPat) (s : PySt)
    (acc : List Call) :
    saveF cfg n p s acc.reverse = turn (if sugg p then callR n s .save acc else some (some (s, acc))) := by
  rw [← hs p]
  unfold saveF
  cases cfg.memo with
  | none => rfl
  | some S => dsimp only; split <;> first | exact doCalls_turn .. | rfl

theorem patternR_eq {cfg : Cfg} {sugg : NPat → Bool} (hs : SuggOf cfg sugg) :
    ∀ n, (∀ s p acc, patternF cfg n s p acc.reverse = turn (patternR cfg sugg n s p acc)) ∧
      (∀ s ps acc, patternF.patternListF cfg n s ps acc.reverse = turn (patternR.listR cfg sugg n s ps acc)) := by
  intro n
  induction n with
  | zero => exact ⟨fun _ _ _ => rfl, fun _ _ _ => rfl⟩
  | succ n ih =>
    obtain ⟨ihP, ihL⟩ := ih
    constructor
    · intro s p acc
      rw [patternF_succ]
      simp only [patternR]
      rcases memoHitF cfg n p s with _ | _ | _
      · rfl
      · cases p <;>
          simp only [Option.bind_some, Bool.false_eq_true, if_false, buildF, ihP, ihL, doCalls_turn, andThen_turn,
            saveF_turn hs, turn_andThen]
      · exact doCalls_turn ..
    · intro s ps acc
      cases ps with
      | nil => rfl
      | cons p r => simp only [patternListF_cons, patternR.listR, ihP, ihL, andThen_turn, turn_andThen]

/-- `Pf.runF cfg` with the history newest-first and `p ∈ S` as a parameter -/
def runR (cfg : Cfg) (sugg : NPat → Bool) (ax : List NPat) :
    Nat → PySt → Pf → List Call → Py (PySt × List Call × NPat)
  | 0, _, _, _ => none
  | n + 1, s, pf, acc =>
    andThen
      (match pf with
        | .prop1 => callR n s .prop1 acc
        | .prop2 => callR n s .prop2 acc
        | .prop3 => callR n s .prop3 acc
        | .quantifier => callR n s .quantifier acc
        | .mp l r => andThen3 (runR cfg sugg ax n s l acc) fun s1 a1 _ =>
            andThen3 (runR cfg sugg ax n s1 r a1) fun s2 a2 _ => callR n s2 .mp a2
        | .gen p x => andThen3 (runR cfg sugg ax n s p acc) fun s1 a1 _ => callR n s1 (.gen x) a1
        | .dynInst p δ =>
            if δ.isEmpty then andThen3 (runR cfg sugg ax n s p acc) fun s1 a1 _ => some (some (s1, a1))
            else andThen (patternR.listR cfg sugg n s (δ.map (·.2)) acc) fun s1 a1 =>
              andThen3 (runR cfg sugg ax n s1 p a1) fun s2 a2 _ => callR n s2 (.instantiate (δ.map (·.1))) a2
        | .loadAxiom a => callR n s (.load (.proved a)) acc)
      (checkF ax n pf)

theorem checkF_turn (ax : List NPat) (n : Nat) (pf : Pf) (s : PySt) (acc : List Call) :
    checkF ax n pf s acc.reverse = turn3 (checkF ax n pf s acc) := by
  unfold checkF
  split
  · rcases Pf.concF ax n pf with _ | _ | adv
    · rfl
    · rfl
    · rename_i c _ _ _
      simp only [Option.bind_some]
      rcases NPat.peqF n c adv with _ | _ | _ <;> rfl
  · rfl

theorem runR_eq {cfg : Cfg} {sugg : NPat → Bool} (hs : SuggOf cfg sugg) (ax : List NPat) :
    ∀ n s pf acc, Pf.runF cfg ax n s pf acc.reverse = turn3 (runR cfg sugg ax n s pf acc) := by
  intro n
  induction n with
  | zero => intro _ _ _; rfl
  | succ n ih =>
    intro s pf acc
    rw [runF_succ]
    simp only [runR]
    have ret (s : PySt) (a : List Call) : (some (some (s, a.reverse)) : Py _) = turn (some (some (s, a))) := rfl
    cases pf with
    | dynInst p δ =>
      cases hδ : δ.isEmpty <;>
        simp only [rawF, hδ, if_true, if_false, Bool.false_eq_true, Option.pure_def, ret, ih, (patternR_eq hs n).2,
          doCalls_turn, andThen_turn, andThen3_turn3, checkF_turn, turn_andThen, turn_andThen3, turn3_andThen]
    | _ =>
      simp only [rawF, ih, doCalls_turn, andThen_turn, andThen3_turn3, checkF_turn, turn_andThen3, turn3_andThen]

/-- `PModule.executeFull cfg` with the history newest-first and `p ∈ S` as a parameter -/
def executeFullR (cfg : Cfg) (sugg : NPat → Bool) (n : Nat) (m : PModule) : Py (PySt × List Call) :=
  andThen (pub (PySt.init m.claimsOf) [] .publishAxiom m.gammaAxioms) fun s1 a1 =>
  andThen (callR n s1 .intoClaim a1) fun s2 a2 =>
  andThen (pub s2 a2 .publishClaim m.claimsOf.reverse) fun s3 a3 =>
  andThen (callR n s3 .intoProof a3) fun s4 a4 =>
  proofs s4 a4 m.proofsOf
where
  pub (s : PySt) (acc : List Call) (c : Call) : List NPat → Py (PySt × List Call)
    | [] => some (some (s, acc))
    | a :: r => andThen (patternR cfg sugg n s a acc) fun s1 a1 => andThen (callR n s1 c a1) fun s2 a2 => pub s2 a2 c r
  proofs (s : PySt) (acc : List Call) : List Pf → Py (PySt × List Call)
    | [] => some (some (s, acc))
    | pf :: r => andThen3 (runR cfg sugg m.axiomsOf n s pf acc) fun s1 a1 _ =>
        andThen (callR n s1 .publishProof a1) fun s2 a2 => proofs s2 a2 r

theorem pubR_eq {cfg : Cfg} {sugg : NPat → Bool} (hs : SuggOf cfg sugg) (n : Nat) (c : Call) :
    ∀ l s acc, PModule.executeFull.pub cfg n s acc.reverse c l = turn (executeFullR.pub cfg sugg n s acc c l) := by
  intro l
  induction l with
  | nil => intro _ _; rfl
  | cons a r ih =>
    intro s acc
    simp only [pub_cons, executeFullR.pub, (patternR_eq hs n).1, doCalls_turn, andThen_turn, ih, turn_andThen]

theorem proofsR_eq {cfg : Cfg} {sugg : NPat → Bool} (hs : SuggOf cfg sugg) (n : Nat) (m : PModule) :
    ∀ l s acc, PModule.executeFull.proofs cfg m n s acc.reverse l
      = turn (executeFullR.proofs cfg sugg n m s acc l) := by
  intro l
  induction l with
  | nil => intro _ _; rfl
  | cons pf r ih =>
    intro s acc
    simp only [proofs_cons, executeFullR.proofs, runR_eq hs, doCalls_turn, andThen_turn, andThen3_turn3, ih,
      turn_andThen, turn_andThen3]

theorem executeFullR_eq {cfg : Cfg} {sugg : NPat → Bool} (hs : SuggOf cfg sugg) (n : Nat) (m : PModule) :
    PModule.executeFull cfg n m = turn (executeFullR cfg sugg n m) := by
  have h := pubR_eq hs n .publishAxiom m.gammaAxioms (PySt.init m.claimsOf) []
  rw [List.reverse_nil] at h
  simp only [executeFull_eq, executeFullR, h, pubR_eq hs, proofsR_eq hs, doCalls_turn, andThen_turn, turn_andThen]

/-- a computation returns (a Boolean the kernel evaluates without building the value), and its value (anything if it
does not return) -/
def returns {α} (x : Py α) : Bool := (x.bind id).isSome
def retVal {α} [Inhabited α] (x : Py α) : α := (x.bind id).getD default

theorem eq_retVal {α} [Inhabited α] {x : Py α} (h : returns x = true) : x = some (some (retVal x)) := by
  match x, h with
  | some (some a), _ => rfl

/-- the same for a pair, in the form `(_, _)`: identifying `retVal x` with it would make Lean evaluate `x` -/
theorem eq_retVal_pair {α β} [Inhabited α] [Inhabited β] {x : Py (α × β)} (h : returns x = true) :
    x = some (some ((retVal x).1, (retVal x).2)) :=
  eq_retVal h

theorem eq_retVal_some {α} [Inhabited α] {x : Py (Option α)} (h : returns x = true) (h' : (retVal x).isSome = true) :
    x = some (some (some ((retVal x).getD default))) := by
  match x, h, h' with
  | some (some (some a)), _, _ => rfl

/-- what `executeFull cfg n m` returns, if it returns, computed with the history newest-first -/
def runVal (cfg : Cfg) (sugg : NPat → Bool) (n : Nat) (m : PModule) : PySt × List Call :=
  ((retVal (executeFullR cfg sugg n m)).1, (retVal (executeFullR cfg sugg n m)).2.reverse)

theorem executeFull_runVal {cfg : Cfg} {sugg : NPat → Bool} (hs : SuggOf cfg sugg) {n : Nat} {m : PModule}
    (h : returns (executeFullR cfg sugg n m) = true) :
    PModule.executeFull cfg n m = some (some ((runVal cfg sugg n m).1, (runVal cfg sugg n m).2)) := by
  rw [executeFullR_eq hs, eq_retVal_pair h]
  rfl

theorem suggOf_plain : SuggOf {} fun _ => false := fun _ => rfl
theorem suggOf_nil : SuggOf { memo := some [] } fun _ => false := fun _ => rfl

open EndToEnd in
/-- the check of `wireCheck` call by call (the streams of `trackAll` grow at the end too): every call of the history is
served, and what it writes are wire bytes -/
def wireCalls (n : Nat) : PySt → List Call → Bool
  | _, [] => true
  | s, c :: cs =>
    match emit1 n s c, track1 n s c with
    | some (some is), some (some s') => decide (Wire (encode is)) && wireCalls n s' cs
    | _, _ => false

open EndToEnd in
theorem trackAll_wire {n : Nat} : ∀ {cs : List Call} {s : PySt} {g c p : List Instr}, wireCalls n s cs = true →
    Wire (encode g) → Wire (encode c) → Wire (encode p) →
    ∃ s' g' c' p', trackAll n s cs (g, c, p) = some (some (s', (g', c', p'))) ∧
      Wire (encode g') ∧ Wire (encode c') ∧ Wire (encode p')
  | [], s, g, c, p, _, hg, hc, hp => ⟨s, g, c, p, rfl, hg, hc, hp⟩
  | k :: cs, s, g, c, p, h, hg, hc, hp => by
    unfold wireCalls at h
    split at h
    · rename_i is s' he ht
      simp only [Bool.and_eq_true, decide_eq_true_eq] at h
      have hw : ∀ x, Wire (encode x) → Wire (encode (x ++ is)) := fun x hx b hb => by
        rw [encode_append, List.mem_append] at hb
        exact hb.elim (hx b) (h.1 b)
      simp only [trackAll, he, ht, Option.bind_eq_bind, Option.bind_some]
      cases s.phase
      · exact trackAll_wire h.2 (hw g hg) hc hp
      · exact trackAll_wire h.2 hg (hw c hc) hp
      · exact trackAll_wire h.2 hg hc (hw p hp)
    · cases h

open EndToEnd in
theorem wireCheck_of_calls {n : Nat} {claims : List NPat} {calls : List Call}
    (h : wireCalls n (PySt.init claims) calls = true) : wireCheck n claims calls = true := by
  have h0 : Wire (encode []) := fun b hb => by cases hb
  obtain ⟨s', g', c', p', hT, hg, hc, hp⟩ := trackAll_wire h h0 h0 h0
  simp [wireCheck, hT, hg, hc, hp]

/-- `NPat.seq` against a pattern of a known form -/
theorem seq_sym (p : NPat) (a : Nat) : NPat.seq p (.sym a) = match p with | .sym b => b == a | _ => false := by
  cases p <;> simp only [NPat.seq]

theorem seq_evar (p : NPat) (a : Nat) : NPat.seq p (.evar a) = match p with | .evar b => b == a | _ => false := by
  cases p <;> simp only [NPat.seq]

theorem seq_app (p l r : NPat) :
    NPat.seq p (.app l r) = match p with | .app c d => NPat.seq c l && NPat.seq d r | _ => false := by
  cases p <;> simp only [NPat.seq]

/-- the constrained metavariable of `functional` and `func_subst_axiom` -/
def phiX : NPat := .mv 0 [0] [] [] [] []

def isX : NPat → Bool
  | .mv a b c d e f => a == 0 && b == [0] && c == [] && d == [] && e == [] && f == []
  | _ => false

theorem seq_X (p : NPat) : [phiX].any (NPat.seq p) = isX p := by
  cases p <;> simp [phiX, NPat.seq, isX]

end KMod
