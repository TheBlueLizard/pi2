import Pi2.ClauseThm
/-!
# The generated prover WITH proof objects, closed: `prove_tautology` over the generated `prove_trivial_clause` and
`build_proof_from_hint`

* `bpfh_erase`, `sra_erase`: the data component of the generated `build_proof_from_hint` / `start_resolution_algorithm`
  (with proof objects) is the data slice `Gen.PyTaut` (which `Pi2/TautTie.lean` ties to the model);
* `stage_prover_sound`: at ANY fuel, whatever the generated `prove_tautology` with proof objects answers, the model
  `proveTautology` answers (verdict) at every sufficient fuel — hence (`C09.prover_returns_proof_iff`) the verdict is right
  and the proof object PROVES the pattern / its negation.
-/
set_option linter.unusedSimpArgs false
open Pat

namespace ClauseThm
open Lem StageSup Gen.PyTaut TautSup TautTie StageThm

/-- the generated `prove_trivial_clause` / `build_proof_from_hint`, on conclusions and on proof trees -/
abbrev ptcC := Gen.Clause.prove_trivial_clause algCS
abbrev bpfhC := Gen.Clause.build_proof_from_hint algCS
abbrev ptcG := Gen.Clause.prove_trivial_clause algGS
abbrev bpfhG := Gen.Clause.build_proof_from_hint algGS

theorem pyAssert_some (b : Bool) : pyAssert b = some () ↔ b = true := by
  cases b <;> simp [pyAssert]

/-- the data component of `build_proof_from_hint` with proof objects is the data slice -/
theorem bpfh_erase : ∀ (F : Nat) (hint : StageThm.Hint) (cl : FrozenSet) (terms : List (List Int)) (r : List Int) (p : Pat),
    bpfhC F hint cl terms = some (r, p) → Gen.PyTaut.build_proof_from_hint F hint cl terms = some (r, ()) := by
  intro F
  induction F with
  | zero => intro hint cl terms r p h; simp [bpfhC, Gen.Clause.build_proof_from_hint] at h
  | succ f ih =>
    intro hint cl terms r p h
    unfold bpfhC at h
    rw [Gen.Clause.build_proof_from_hint] at h
    rw [Gen.PyTaut.build_proof_from_hint]
    simp only [Option.pure_def, Option.bind_eq_bind] at h ⊢
    replace h := Option.bind_eq_some_iff.mp h
    obtain ⟨res, hg, h⟩ := h
    cases res with
    | inr idx =>
      simp only [hg, Option.bind_some, Option.bind_eq_some_iff, Option.some.injEq, Prod.mk.injEq] at h ⊢
      obtain ⟨t, _, r', hr', q, _, rfl, _⟩ := h
      exact ⟨r', hr', by simp⟩
    | inl src =>
      obtain ⟨L0, R0, r0⟩ := src
      simp only [ResolutionHintSource.left_set, ResolutionHintSource.right_set, ResolutionHintSource.resolvant,
        Option.bind_eq_some_iff] at h
      obtain ⟨rt, _, ⟨tl0, pl⟩, h3, ⟨tr0, pr⟩, h4, ⟨tl, sl⟩, h5, ⟨tr, sr⟩, h6, a, ha, _, ha', b, hb, _, hb', _, hc, rest⟩ := h
      have e3 := ih hint L0 terms tl0 pl h3
      have e4 := ih hint R0 terms tr0 pr h4
      have e5 := (simplify_clause_any f tl0 (-r0) tl sl h5).1
      have e6 := (simplify_clause_any f tr0 r0 tr sr h6).1
      have hr : r = pySliceFrom tl 1 ++ pySliceFrom tr 1 := by
        obtain ⟨_, _, _, _, _, _, _, _, _, _, _, _, heq⟩ := rest
        simp only [Option.some.injEq, Prod.mk.injEq] at heq
        exact heq.1.symm
      simp only [hg, Option.bind_some, ResolutionHintSource.left_set, ResolutionHintSource.right_set,
        ResolutionHintSource.resolvant, e3, e4, simplify_clause_eq]
      unfold simplified at e5 e6
      rw [← e5, ← e6]
      simp only [ha, ha', hb, hb', hc, Option.bind_some, hr]

theorem sra_for1_erase {τ} (A : SAlg τ) (ptc : Nat → List Int → Option τ)
    (bpfh : Nat → StageThm.Hint → FrozenSet → List (List Int) → Option (List Int × τ)) :
    ∀ (l : List (Int × FrozenSet)) (hint : StageThm.Hint),
    Gen.Stage.start_resolution_algorithm_for1 A ptc bpfh l hint = Gen.PyTaut.start_resolution_algorithm_for1 l hint := by
  intro l
  induction l with
  | nil => intro hint; rfl
  | cons x l ih =>
    intro hint
    obtain ⟨i, c⟩ := x
    simp only [Gen.Stage.start_resolution_algorithm_for1, Gen.PyTaut.start_resolution_algorithm_for1, ih]

/-- the data component of `start_resolution_algorithm` with proof objects is the data slice -/
theorem sra_erase (F : Nat) (cls : List (List Int)) (v : Option (Bool × Pat))
    (h : Gen.Stage.start_resolution_algorithm algCS ptcC bpfhC F cls = some v) :
    Gen.PyTaut.start_resolution_algorithm F cls = some (v.map fun p => (p.1, ())) := by
  simp only [Gen.Stage.start_resolution_algorithm, Option.pure_def, Option.bind_eq_bind, bind_some_eta, sra_for1_erase] at h
  simp only [Gen.PyTaut.start_resolution_algorithm, Option.pure_def, Option.bind_eq_bind]
  by_cases hne : cls = []
  · subst hne
    simp [StageThm.lib_top_intro] at h
    subst h
    simp
  · have hie : cls.isEmpty = false := by cases cls <;> simp_all
    simp only [hie, Bool.not_false, Bool.not_true, Bool.false_eq_true, if_false] at h ⊢
    cases hX : Gen.PyTaut.start_resolution_algorithm_for1 (pyEnumerate (List.map (fun cl => fsOfList cl) cls)) [] with
    | none => rw [hX] at h; cases h
    | some hint =>
      simp only [hX, Option.bind_some] at h ⊢
      by_cases ht : (!dictTruthy hint) = true
      · simp only [ht, if_true] at h ⊢
        by_cases hl : (pyLen cls == (1 : Int)) = true
        · simp only [hl, if_true, Option.bind_eq_some_iff, Option.some.injEq] at h ⊢
          obtain ⟨_, _, t4, _, rfl⟩ := h
          rfl
        · simp only [hl, Bool.false_eq_true, if_false, Option.bind_eq_some_iff, Option.some.injEq] at h ⊢
          obtain ⟨_, _, _, _, _, _, _, _, prf, _, rfl⟩ := h
          rfl
      · simp only [ht, Bool.false_eq_true, if_false] at h ⊢
        cases h2 : resolution_algorithm F hint (dictKeys hint) with
        | none => rw [h2] at h; cases h
        | some rr =>
          obtain ⟨t, hint', l'⟩ := rr
          simp only [h2, Option.bind_some] at h ⊢
          cases t with
          | false => simp at h ⊢; subst h; rfl
          | true =>
            simp only [Bool.not_true, Bool.false_eq_true, if_false, Option.bind_eq_some_iff] at h
            obtain ⟨⟨rl, pf⟩, h3, _, hassert, heq⟩ := h
            have e3 := bpfh_erase F hint' _ cls rl pf h3
            simp only [Option.some.injEq] at heq
            subst heq
            have ha : pyAssert rl.isEmpty = some () := by simpa using hassert
            simp [e3, ha]

/-- **the generated prover with proof objects, on conclusions, answers as the model**: at ANY fuel, whatever it returns,
the model `proveTautology` returns the same verdict at every sufficient fuel -/
theorem stage_prover_sound (n : Nat) (f : Form) (v : Option (Bool × Pat))
    (h : Gen.Stage.prove_tautology algCS ptcC bpfhC n f = some v) :
    ∃ N, ∀ m, proveTautology (N + m) f = some (v.map (·.1)) := by
  simp only [Gen.Stage.prove_tautology, Option.pure_def, Option.bind_eq_bind] at h
  cases h1 : Gen.Stage.to_conj_form algCS n (TautSup.neg f) with
  | none => rw [h1] at h; cases h
  | some r1 =>
    have e1 := to_conj_form_C_any _ n r1 h1
    subst e1
    simp only [h1, Option.bind_some, conjSpec] at h
    have hshape := CF.ofForm_shape (TautSup.neg f)
    cases hb : (CF.ofForm (TautSup.neg f)).isBot with
    | true =>
      cases hc : CF.ofForm (TautSup.neg f) with
      | bot bb =>
        have hc' : CF.ofForm (Form.neg f) = CF.bot bb := hc
        cases bb <;>
          simp [hc, ofCF, CF.isBot, CF.negated, ConjForm.isCFBot, ConjForm.negated, toPat_neg, StageThm.lib_dneg_elim, mpC_imp] at h <;>
          subst h <;> exact ⟨0, fun m => by simp [proveTautology, hc']⟩
      | var b i => simp [hc, CF.isBot] at hb
      | or b l r => simp [hc, CF.isBot] at hb
      | and b l r => simp [hc, CF.isBot] at hb
    | false =>
      generalize hc : CF.ofForm (TautSup.neg f) = c at h hshape hb
      have hc' : CF.ofForm (Form.neg f) = c := hc
      have hor : c.IsOrTree = true := by
        rcases hshape with h' | h'
        · rw [hb] at h'; cases h'
        · exact h'
      have hnb : (ofCF c).isCFBot = false := by simpa using hb
      simp only [hb, hnb, Bool.false_eq_true, if_false, pyAssert, Option.isSome_some, if_true, Option.bind_some] at h
      cases h2 : Gen.Stage.propag_neg algCS n (ofCF c) with
      | none => rw [h2] at h; cases h
      | some r2 =>
        obtain ⟨c2, hc2, e2⟩ := propag_neg_C_any c n r2 h2
        subst e2
        obtain ⟨c2', hc2', _, hnnf⟩ := CF.propagNeg_spec c hor
        rw [hc2] at hc2'
        cases hc2'
        simp only [h2, Option.bind_some, pfPair, to_cnf_C n c2 hnnf] at h
        cases h3 : CF.toCnfF n c2 with
        | none => rw [h3] at h; cases h
        | some c3 =>
          have hcnf := (CF.toCnfF_spec n c2 c3 hnnf h3).2
          simp only [h3, Option.map_some, Option.bind_some, pfPair] at h
          cases h4 : Gen.Stage.to_clauses algCS n (ofCF c3) with
          | none => rw [h4] at h; cases h
          | some r4 =>
            obtain ⟨cls, hcls, e4⟩ := to_clauses_C_any c3 hcnf n r4 h4
            subst e4
            simp only [h4, Option.bind_some, clSpec] at h
            cases h5 : Gen.Stage.start_resolution_algorithm algCS ptcC bpfhC n cls with
            | none => rw [h5] at h; cases h
            | some res =>
              have h5' := sra_erase n cls res h5
              obtain ⟨N, hN⟩ := start_sound n cls (toClauses_noZero c3 cls hcls) _ h5'
              refine ⟨n + N, fun m => ?_⟩
              have e1 : CF.toCnfF (n + N + m) c2 = some c3 := by
                have := toCnfF_mono_add n (N + m) c2 c3 h3
                rwa [← Nat.add_assoc] at this
              have e2 : Res.start (n + N + m) cls = some ((res.map fun p => (p.1, ())).map (·.1)) := by
                have := hN (n + m)
                have e : N + (n + m) = n + N + m := by omega
                rwa [e] at this
              rw [proveTautology_nonbot _ _ (by rw [hc']; exact hb), hc']
              simp only [Option.bind_eq_bind, hc2, e1, hcls, e2, Option.bind_some, Option.pure_def]
              cases res with
              | none => simp [h5] at h; subst h; rfl
              | some bp =>
                obtain ⟨pt, pf⟩ := bp
                cases pt <;> simp [h5, Option.bind_eq_some_iff] at h
                · obtain ⟨_, _, _, _, _, _, _, _, _, _, _, _, rfl⟩ := h; rfl
                · obtain ⟨_, _, _, _, _, _, _, _, rfl⟩ := h; rfl

end ClauseThm
