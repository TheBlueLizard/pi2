import Pi2.Gen.PyMatch
/-!
# Matching and destructuring as written in `pattern.py` are the model's

`Pi2/Gen/PyMatch.lean` is regenerated from `generation/src/proof_generation/pattern.py` on every run
(`vlib/transmatch.py`): `match_single`, `match`, `Pattern.unwrap / extract`, the five `deconstruct`
static methods, `Instantiate.simplify`, `MetaVar.can_be_replaced_by`, `Notation.matches / assert_matches`,
statement by statement, in the combinators of `Pi2/InterpSupport.lean` / `Pi2/MatchSupport.lean`
(`Py α = Option (Option α)`: outer `none` = out of fuel, inner `none` = an exception).  Here they are
proved equal to the hand-written model of `Pi2/Match.lean` that C13 (and the n-ary notation and lemma
theorems) are stated about:

* every destructor is `headF` (repeated `simplify()`) seen through a projection: `unwrap_eq`,
  `*_deconstruct_eq`, `extract_eq`; the `while isinstance(pattern, Instantiate)` loop is `headF` (`while_head`);
* `match_single_eq`: the translated `match_single` **equals** `matchF` for every fuel, pattern, instance
  and optional seed (`extend if extend else {}` = `seed`) — a plain equation, so it also says exactly when
  the text runs out of fuel, and that it never raises (`match_single_never_raises`);
* `match_eq`: the translated `match` equals `matchListF` from the empty dictionary;
* `matches_eq`, `assert_matches_eq`: `Notation.matches` is `notationMatchesF`, `assert_matches` turns its
  "no match" into the exception.

The fuel accounting of the translation (a self-recursive function and a `while` iteration consume one unit,
everything else passes the fuel on) coincides with the model's, which is why no monotonicity argument is needed.

What the model abstracts and the translation makes explicit: a dictionary is its insertion-ordered
association list (`dictSet` on a new key = append, `dictSet_new`); `ret[id] = instance` mutates the caller's
dictionary in Python when `extend` is non-empty — the translation is value-level, which is observable only
by a caller that keeps using a dictionary it passed to a *failed* `match_single` (no caller in /repo does:
`match` returns `None` at once, the recursive calls return `None` at once).
-/
set_option linter.unusedVariables false
set_option linter.unusedSimpArgs false
namespace MatchTie
open PyI PyM NPat Gen.PyMatch

theorem translated : Gen.PyMatch.translated = true := by decide

/-- what a destructor answers: the head of the pattern (repeated `simplify()`), seen through `f`;
it can run out of fuel, it never raises -/
def viaHead {α} (n : Nat) (p : NPat) (f : NPat → α) : Py α := (headF n p).map fun h => some (f h)

theorem call_ret {α} (x : Py α) : call x (fun t => ret t) = x := by
  cases x with
  | none => rfl
  | some o => cases o <;> rfl

theorem simplify_inst (n : Nat) (p : NPat) (m : List (Nat × NPat)) :
    Instantiate.simplify n (.inst p m) = (instF n m p).map some := by
  simp only [Instantiate.simplify, fuel, ret]
  cases instF n m p <;> rfl

/-- Every destructor has the same recursion: on an `Instantiate` it simplifies and calls itself, on any other
node it answers at once.  Such a function is `viaHead` of what it answers on a head. -/
theorem viaHead_of_rec {α} (F : Nat → NPat → Py α) (f : NPat → α) (h0 : ∀ p, F 0 p = none)
    (hi : ∀ n q m, F (n + 1) (.inst q m)
      = call (Instantiate.simplify n (.inst q m)) fun t => call (F n t) fun r => ret r)
    (hh : ∀ n p, p.isInst = false → F (n + 1) p = ret (f p)) (n : Nat) (p : NPat) :
    F n p = viaHead n p f := by
  induction n generalizing p with
  | zero => exact h0 p
  | succ n ih =>
    cases p with
    | inst q m =>
      rw [hi, simplify_inst]
      simp only [viaHead, headF, Option.bind_eq_bind]
      cases instF n m q with
      | none => rfl
      | some s => exact (call_ret _).trans (ih s)
    | _ => exact hh n _ rfl

theorem unwrap_eq (cls : PyClass) (n : Nat) (p : NPat) :
    Pattern.unwrap cls n p
      = viaHead n p fun h => if isinstance h cls then some (patternFields h) else none :=
  viaHead_of_rec _ _ (fun _ => rfl) (fun _ _ _ => rfl)
    (fun n p hp => by
      cases p with
      | inst => cases hp
      | _ => simp only [Pattern.unwrap]; split <;> rfl) n p

/-- the model's view of a head for each `deconstruct` -/
def evarOf : NPat → Option Nat | .evar x => some x | _ => none
def svarOf : NPat → Option Nat | .svar x => some x | _ => none
def symOf : NPat → Option Nat | .sym x => some x | _ => none
def exOf : NPat → Option (Nat × NPat) | .ex x b => some (x, b) | _ => none
def muOf : NPat → Option (Nat × NPat) | .mu x b => some (x, b) | _ => none

theorem evar_deconstruct_eq (n : Nat) (p : NPat) : EVar.deconstruct n p = viaHead n p evarOf :=
  viaHead_of_rec _ _ (fun _ => rfl) (fun _ _ _ => rfl)
    (fun n p hp => by cases p with | inst => cases hp | _ => rfl) n p

theorem svar_deconstruct_eq (n : Nat) (p : NPat) : SVar.deconstruct n p = viaHead n p svarOf :=
  viaHead_of_rec _ _ (fun _ => rfl) (fun _ _ _ => rfl)
    (fun n p hp => by cases p with | inst => cases hp | _ => rfl) n p

theorem symbol_deconstruct_eq (n : Nat) (p : NPat) : Symbol.deconstruct n p = viaHead n p symOf :=
  viaHead_of_rec _ _ (fun _ => rfl) (fun _ _ _ => rfl)
    (fun n p hp => by cases p with | inst => cases hp | _ => rfl) n p

theorem exists_deconstruct_eq (n : Nat) (p : NPat) : Exists.deconstruct n p = viaHead n p exOf :=
  viaHead_of_rec _ _ (fun _ => rfl) (fun _ _ _ => rfl)
    (fun n p hp => by cases p with | inst => cases hp | _ => rfl) n p

theorem mu_deconstruct_eq (n : Nat) (p : NPat) : Mu.deconstruct n p = viaHead n p muOf :=
  viaHead_of_rec _ _ (fun _ => rfl) (fun _ _ _ => rfl)
    (fun n p hp => by cases p with | inst => cases hp | _ => rfl) n p

/-! ## `match_single` -/

/-- `extend if extend else {}` -/
def seed (e : Option Subst) : Subst := e.getD []

theorem seed_eq (e : Option Subst) :
    ifTruthy (truthyDict e) (fun d => d) [] = seed e := by
  cases e with
  | none => rfl
  | some d => cases d <;> rfl

theorem headF_not_inst {n : Nat} {p h : NPat} (hh : headF n p = some h) : h.isInst = false := by
  induction n generalizing p with
  | zero => simp [headF] at hh
  | succ n ih =>
    cases p <;> simp only [headF, Option.some.injEq] at hh <;> try (subst hh; rfl)
    rename_i q m
    simp only [Option.bind_eq_bind, Option.bind_eq_some_iff] at hh
    obtain ⟨s, _, hs⟩ := hh
    exact ih hs

theorem headF_pos {n : Nat} {p h : NPat} (hh : headF n p = some h) : ∃ k, n = k + 1 := by
  cases n with
  | zero => simp [headF] at hh
  | succ k => exact ⟨k, rfl⟩

theorem viaHead_head {α} (k : Nat) (h : NPat) (f : NPat → α) (hh : h.isInst = false) :
    viaHead (k + 1) h f = some (some (f h)) := by
  cases h <;> first | rfl | simp [isInst] at hh

/-- the `while isinstance(pattern, Instantiate): pattern = pattern.simplify()` loop is `headF` -/
theorem while_head {β} (body : Nat → NPat → Py NPat)
    (hb : ∀ n q m, body n (.inst q m) = (instF n m q).map some) (n : Nat) (p : NPat) (k : NPat → Py β) :
    whileF (fun v => isinstance v PyClass.Instantiate) body n p k = fuel (headF n p) k := by
  induction n generalizing p with
  | zero => rfl
  | succ n ih =>
    cases p <;> try rfl
    rename_i q m
    have hi : isinstance (.inst q m) PyClass.Instantiate = true := rfl
    simp only [whileF, hi, if_true, hb, headF, Option.bind_eq_bind]
    cases instF n m q with
    | none => rfl
    | some s => simp only [Option.map_some, call, Option.bind_some, ih]

theorem loop_body (n : Nat) (q : NPat) (m : List (Nat × NPat)) :
    (call (Instantiate.simplify n (.inst q m)) fun t1 => let v : NPat := t1; ret v) = (instF n m q).map some := by
  simp only [simplify_inst, call_ret]

theorem dictSet_new (d : Subst) (k : Nat) (v : NPat) (h : Py.lookup d k = none) :
    dictSet d k v = d ++ [(k, v)] := by
  induction d with
  | nil => rfl
  | cons x r ih =>
    obtain ⟨k', v'⟩ := x
    simp only [Py.lookup] at h
    by_cases hk : k' = k
    · simp [hk] at h
    · simp only [hk, if_false] at h
      simp [dictSet, hk, ih h]

theorem call_map_some {α β} (x : Option α) (f : α → Py β) : call (x.map some) f = x.bind f := by
  cases x <;> rfl

theorem call_some {α β} (a : α) (f : α → Py β) : call (some (some a)) f = f a := rfl
theorem call_none {α β} (f : α → Py β) : call (none : Py α) f = none := rfl

theorem bind_ret {α} (x : Option (Option α)) : (x.bind fun t => some (some t)) = x.map some := by
  cases x <;> rfl

theorem seed_some (s : Subst) : seed (some s) = s := rfl

/-! The three shapes of arm in which both heads belong to the class tested. -/

theorem atom_arm (x y : Nat) (s : Subst) :
    (if (some x != some y) = true then ret none else ret (some s))
      = Option.map some (pure (if x = y then some s else none)) := by
  by_cases h : x = y <;> simp [h, ret]

theorem pair_arm (a : Option (Option Subst)) (b : Subst → Option (Option Subst)) :
    (call (a.map some) fun t => match t with
      | none => ret none
      | some r => call ((b r).map some) fun t' => ret t')
      = Option.map some (a.bind fun o => match o with | none => pure none | some r => b r) := by
  cases a with
  | none => rfl
  | some o => cases o with
    | none => rfl
    | some r => exact call_ret _

theorem binder_arm (x y : Nat) (a : Option (Option Subst)) :
    (if (x != y) = true then ret none else call (a.map some) fun t => ret t)
      = Option.map some (if x = y then a else pure none) := by
  by_cases h : x = y <;> simp [h, call_ret] <;> rfl

theorem mv_arm (n id : Nat) (ef sf ps ns hs : List VId) (i : NPat) (s : Subst) :
    (if dictHas s id then
        dictGet s id fun v => fuel (peqF n v i) fun eq => if !eq then ret none else ret (some s)
      else call (MetaVar.can_be_replaced_by (.mv id ef sf ps ns hs) i) fun ok =>
        if !ok then ret none else ret (some (dictSet s id i)))
      = Option.map some (match Py.lookup s id with
        | some v => (peqF n v i).bind fun eq => pure (if eq then some s else none)
        | none => pure (some (s ++ [(id, i)]))) := by
  cases hl : Py.lookup s id with
  | none => simp [dictHas, hl, dictSet_new _ _ _ hl, call, ret, MetaVar.can_be_replaced_by]
  | some v =>
    simp only [dictHas, dictGet, hl, Option.isSome_some, if_true]
    cases peqF n v i with
    | none => rfl
    | some b => cases b <;> rfl

theorem match_single_eq (n : Nat) (p i : NPat) (e : Option Subst) :
    match_single n p i e = (matchF n p i (seed e)).map some := by
  induction n generalizing p i e with
  | zero => rfl
  | succ n ih =>
    simp only [match_single, matchF, seed_eq]
    rw [while_head _ loop_body]
    generalize seed e = s
    cases hp : headF n p with
    | none => rfl
    | some h =>
      obtain ⟨k, rfl⟩ := headF_pos hp
      have hni := headF_not_inst hp
      simp only [fuel, Option.bind_eq_bind, Option.bind_some, unwrap_eq, evar_deconstruct_eq,
        svar_deconstruct_eq, symbol_deconstruct_eq, exists_deconstruct_eq, mu_deconstruct_eq,
        viaHead_head k h _ hni, ih, seed_some]
      -- a metavariable head does not look at the instance's head; every other head does
      cases hi : headF (k + 1) i with
      | none =>
        simp only [viaHead, hi]
        cases h with
        | inst q m => cases hni
        | mv id ef sf ps ns hs => exact mv_arm ..
        | _ => rfl
      | some j =>
        simp only [viaHead, hi, Option.map_some, Option.bind_some]
        cases h with
        | inst q m => cases hni
        | mv id ef sf ps ns hs => exact mv_arm ..
        -- two heads of different classes fail every test, as the model's last arm does
        | evar x => cases j with | evar y => exact atom_arm .. | _ => rfl
        | svar x => cases j with | svar y => exact atom_arm .. | _ => rfl
        | sym x => cases j with | sym y => exact atom_arm .. | _ => rfl
        | imp pl pr => cases j with | imp il ir => exact pair_arm .. | _ => rfl
        | app pl pr => cases j with | app il ir => exact pair_arm .. | _ => rfl
        | ex x pb => cases j with | ex y ib => exact binder_arm .. | _ => rfl
        | mu x pb => cases j with | mu y ib => exact binder_arm .. | _ => rfl
        | _ => rfl

/-- with an explicit seed dictionary (what every recursive call and `match` pass) -/
theorem match_single_seeded (n : Nat) (p i : NPat) (s : Subst) :
    match_single n p i (some s) = (matchF n p i s).map some := match_single_eq n p i (some s)

/-- without the optional argument (what `Notation.matches` passes) -/
theorem match_single_default (n : Nat) (p i : NPat) :
    match_single n p i none = (matchF n p i []).map some := match_single_eq n p i none

/-- `match_single` never raises (`KeyError`, `IndexError`, `AttributeError`): it returns or runs out of fuel -/
theorem match_single_never_raises (n : Nat) (p i : NPat) (e : Option Subst) :
    match_single n p i e ≠ some none := by
  rw [match_single_eq]
  cases matchF n p i (seed e) <;> simp

/-! ## `match` -/

theorem match_loop (n : Nat) (eqs : List (NPat × NPat)) (s : Subst) :
    forEach eqs s
      (fun (pi : NPat × NPat) r cont =>
        call (match_single n pi.1 pi.2 (some r)) fun t1 =>
          match t1 with
          | none => ret none
          | some sm => cont sm)
      (fun r => ret (some r))
      = (matchListF n eqs s).map some := by
  induction eqs generalizing s with
  | nil => rfl
  | cons x r ih =>
    obtain ⟨p, i⟩ := x
    simp only [forEach, matchListF, Option.bind_eq_bind]
    rw [match_single_seeded, call_map_some]
    cases matchF n p i s with
    | none => rfl
    | some o =>
      cases o with
      | none => rfl
      | some s1 => exact ih s1

theorem match_eq (n : Nat) (eqs : List (NPat × NPat)) :
    «match» n eqs = (matchListF n eqs []).map some := match_loop n eqs []

/-! ## `Notation.matches`, `Notation.assert_matches` -/

theorem mapPy_pure {α β γ} (xs : List α) (f : α → Py β) (g : α → β) (k : List β → Py γ)
    (h : ∀ x, f x = ret (g x)) : mapPy xs f k = k (xs.map g) := by
  induction xs generalizing k with
  | nil => rfl
  | cons x r ih => simp only [mapPy, h, call, ret, ih, List.map_cons]

theorem matches_eq (n : Nat) (N : PyNotation) (p : NPat) :
    Notation.matches n N p = (notationMatchesF n N.definition N.arity p).map some := by
  simp only [Notation.matches, notationMatchesF, match_single_default, call_map_some, Option.bind_eq_bind]
  cases matchF n N.definition p [] with
  | none => rfl
  | some o =>
    cases o with
    | none => rfl
    | some s =>
      simp only [Option.bind_some]
      rw [mapPy_pure _ _ (fun i => match Py.lookup s i with | some v => v | none => mv i [] [] [] [] [])]
      · rfl
      · intro i
        match hl : Py.lookup s i with
        | none =>
          have h1 : dictHas s i = false := by simp [dictHas, hl]
          simp [h1, hl]
        | some v =>
          have h1 : dictHas s i = true := by simp [dictHas, hl]
          simp [h1, hl, dictGet]

/-- `assert_matches`: the model's "no match" is the `AssertionError` -/
theorem assert_matches_eq (n : Nat) (N : PyNotation) (p : NPat) :
    Notation.assert_matches n N p = notationMatchesF n N.definition N.arity p := by
  simp only [Notation.assert_matches, matches_eq, call_map_some]
  cases notationMatchesF n N.definition N.arity p with
  | none => rfl
  | some o => cases o <;> rfl

/-! ## `extract`, the field table, the two small methods -/

theorem extract_eq (cls : PyClass) (n : Nat) (p : NPat) :
    Pattern.extract cls n p
      = match headF n p with
        | none => none
        | some h => if isinstance h cls then ret (patternFields h) else raise := by
  simp only [Pattern.extract, unwrap_eq, viaHead]
  cases headF n p with
  | none => rfl
  | some h => simp only [Option.map_some, call]; cases isinstance h cls <;> rfl

theorem implies_unwrap_eq (n : Nat) (p : NPat) :
    Pattern.unwrap .Implies n p = viaHead n p fun h => match h with | .imp l r => some [l, r] | _ => none := by
  rw [unwrap_eq]; congr; funext h; cases h <;> rfl

theorem app_unwrap_eq (n : Nat) (p : NPat) :
    Pattern.unwrap .App n p = viaHead n p fun h => match h with | .app l r => some [l, r] | _ => none := by
  rw [unwrap_eq]; congr; funext h; cases h <;> rfl

/-- `Implies.extract` is the `extractImplies` of the interpreter translation (`Pi2/InterpSupport.lean`) -/
theorem implies_extract_eq (n : Nat) (p : NPat) :
    Pattern.extract .Implies n p = extractImplies n p fun l r => ret [l, r] := by
  rw [extract_eq]
  simp only [extractImplies]
  cases headF n p with
  | none => rfl
  | some h => cases h <;> rfl

theorem patternFields_eq (x : VId) (l r q : NPat) (ef sf ps ns hs : List VId) (m : List (Nat × NPat)) :
    patternFields (.evar x) = [] ∧ patternFields (.svar x) = [] ∧ patternFields (.sym x) = [] ∧
    patternFields (.imp l r) = [l, r] ∧ patternFields (.app l r) = [l, r] ∧
    patternFields (.ex x q) = [q] ∧ patternFields (.mu x q) = [q] ∧
    patternFields (.mv x ef sf ps ns hs) = [] ∧
    patternFields (.esub q x r) = [q, r, .evar x] ∧ patternFields (.ssub q x r) = [q, r, .svar x] ∧
    patternFields (.inst q m) = [q] :=
  ⟨rfl, rfl, rfl, rfl, rfl, rfl, rfl, rfl, rfl, rfl, rfl⟩

/-- `can_be_replaced_by` is the stub `return True` -/
theorem can_be_replaced_by_eq (x : VId) (ef sf ps ns hs : List VId) (q : NPat) :
    MetaVar.can_be_replaced_by (.mv x ef sf ps ns hs) q = ret true := rfl

theorem simplify_eq (n : Nat) (q : NPat) (m : List (Nat × NPat)) :
    Instantiate.simplify n (.inst q m) = (simplifyF n (.inst q m)).map some := simplify_inst n q m

end MatchTie

#print axioms MatchTie.translated
#print axioms MatchTie.unwrap_eq
#print axioms MatchTie.evar_deconstruct_eq
#print axioms MatchTie.svar_deconstruct_eq
#print axioms MatchTie.symbol_deconstruct_eq
#print axioms MatchTie.exists_deconstruct_eq
#print axioms MatchTie.mu_deconstruct_eq
#print axioms MatchTie.while_head
#print axioms MatchTie.match_single_eq
#print axioms MatchTie.match_single_never_raises
#print axioms MatchTie.match_eq
#print axioms MatchTie.matches_eq
#print axioms MatchTie.assert_matches_eq
#print axioms MatchTie.extract_eq
#print axioms MatchTie.implies_extract_eq
#print axioms MatchTie.patternFields_eq
