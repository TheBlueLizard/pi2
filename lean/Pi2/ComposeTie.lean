import Pi2.ProofTie
/-!
# `proof.py` as written, running on `stateful_interpreter.py` as written, is the model

`Pi2/ProofTie.lean` ties the generated proof generator (`Pi2/Gen/PyProof.lean`) to the hand-written model with the
interpreter *object* instantiated by `ProofTie.callI`: every method ignores its pattern / proof arguments and
performs `track1` on the corresponding `Call`.  `Pi2/InterpTie.lean` ties the generated `StatefulInterpreter`
methods (`Pi2/Gen/PyInterp.lean`) to `track1` *when they are called with the terms that are on the stack*.
Here the two are composed:

* `statefulI n` is the interpreter object whose methods are the generated `Gen.PyInterp.Stateful.*` methods
  applied to the arguments they are given (plus the ghost bookkeeping of the model: the list of calls made,
  the serializer's symbol table in `symbol`, the residue mark of `publish_*` — exactly what `InterpTie.pyCall`
  adds); `statefulK N k` is its closure under the generated `Interpreter.pattern`, `statefulMemoK N k S` is the
  generated `MemoizingInterpreter(statefulI, S)`.
* **the calling convention holds**: along every run of the generated `Interpreter.pattern`
  (`pattern_id`, `memo_pattern_id`: the value returned for a pattern is *the pattern itself*, and it is the one
  new entry on top of the stack) and of a thunk built by the generated rule constructors (`run_top`: the `Proved`
  returned is the one new entry on top of the stack), every method of the interpreter is called with exactly
  the terms on top of the stack.  Hence (`Checks`) each call of a `statefulI` method is the `track1` step preceded
  by the reflexive comparisons `t == t` of the entries it consumes.
* **sound** (`*_S`): whatever a run on `statefulK` / `statefulMemoK` returns, the run on `trackerK` / `memoK`
  returns (same fuel, same state, same calls, same value) — no hypothesis on patterns or fuel; for proof
  expressions the dicts have distinct keys (`ProofTie.KeysNodup`: they are Python dicts).
* **complete** (`*_C`): whatever a run on `trackerK` / `memoK` returns, the run on `statefulK` / `statefulMemoK`
  returns, provided the fuel suffices for the reflexive comparisons (`Refl`): of every sub-pattern of a pattern
  walked (`SubRefl`) and of every conclusion a consumed sub-proof returns (`ConcsRefl`, `OwnRefl`).  (`t == t`
  can only run out of fuel for shaped terms — `InterpTie.teqF_refl`; its termination is not proved in general,
  which is why it is a hypothesis.)
-/
set_option linter.unusedSimpArgs false
set_option linter.unusedVariables false
open PySt PyI
open Gen.PyProof
open Gen.PyInterp
open ProofTie

namespace ComposeTie
open InterpTie (chkA chkLA)

/-! ## reflexive comparisons -/

/-- the comparison `t == t` evaluates to `True` within fuel `M` -/
def Refl (M : Nat) (t : TTerm) : Prop := teqF M t t = some true

theorem refl_mono {n m : Nat} (h : n ≤ m) {t : TTerm} (hr : Refl n t) : Refl m t := by
  unfold Refl at *
  cases t <;> exact NPat.peqF_mono h _ _ _ hr

/-- `assert b`, for a comparison `b` that may run out of fuel, returns iff `b` is `True` and the rest returns -/
theorem pmap_fuel_assert {α β} {f : α → β} {ob : Option Bool} {k : Py α} {y : β} :
    pmap f (fuel ob fun b => assert_ b k) = some (some y) ↔ ob = some true ∧ pmap f k = some (some y) := by
  rcases ob with _ | _ | _
  · exact ⟨nofun, fun h => nomatch h.1⟩
  · exact ⟨nofun, fun h => nomatch h.1⟩
  · exact ⟨fun h => ⟨rfl, h⟩, fun h => h.2⟩

/-- a method that begins with `assert expected == t` returns iff the comparison is `True` and the rest returns -/
theorem pmap_chkA_some {α β} {f : α → β} {M : Nat} {t : TTerm} {k : Py α} {y : β} :
    pmap f (chkA M t k) = some (some y) ↔ Refl M t ∧ pmap f k = some (some y) :=
  pmap_fuel_assert

theorem go_true_iff (M : Nat) : ∀ l : List TTerm, listEqF.go M l l = some true ↔ ∀ t ∈ l, Refl M t := by
  intro l
  induction l with
  | nil => exact ⟨fun _ _ h => (nomatch h), fun _ => rfl⟩
  | cons x xs ih =>
    simp only [listEqF.go, Option.bind_eq_bind, List.mem_cons, forall_eq_or_imp, Refl]
    rcases teqF M x x with _ | _ | _
    · exact ⟨nofun, fun h => nomatch h.1⟩
    · exact ⟨nofun, fun h => nomatch h.1⟩
    · exact ih.trans ⟨fun h => ⟨rfl, h⟩, fun h => h.2⟩

theorem pmap_chkLA_some {α β} {f : α → β} {M : Nat} {l : List NPat} {k : Py α} {y : β} :
    pmap f (chkLA M (l.map .pat) k) = some (some y) ↔ (∀ p ∈ l, Refl M (.pat p)) ∧ pmap f k = some (some y) := by
  have hl : (∀ p ∈ l, Refl M (.pat p)) ↔ ∀ t ∈ l.map TTerm.pat, Refl M t := by simp [List.mem_map]
  have hg : listEqF M (l.map .pat) (l.map .pat) = listEqF.go M (l.map .pat) (l.map .pat) := by
    simp only [listEqF, bne_self_eq_false, Bool.false_eq_true, if_false]
  rw [hl, ← go_true_iff, ← hg]
  exact pmap_fuel_assert

/-- the same when the assertion comes last (`publish_*`) -/
theorem pmap_call_chkA_some {α β} {f : α → β} {M : Nat} {t : TTerm} {x : Py α} {y : β} :
    pmap f (call x fun a => chkA M t (ret a)) = some (some y) ↔ Refl M t ∧ pmap f x = some (some y) := by
  rcases x with _ | _ | a
  · simp [call, pmap]
  · simp [call, pmap]
  · exact pmap_chkA_some

/-! ## the generated `StatefulInterpreter` as an interpreter object -/

/-- the state of the object: the tracker's state and (ghost) the calls made so far — as `ProofTie.St` -/
abbrev St := ProofTie.St

/-- ghost bookkeeping: the call is recorded -/
def recP (σ : St) (c : Call) (r : Py (PySt × NPat)) : Py (St × NPat) :=
  pmap (fun x => ((x.1, σ.2 ++ [c]), x.2)) r
def recT (σ : St) (c : Call) (r : Py (PySt × Proved)) : Py (St × Proved) :=
  pmap (fun x => ((x.1, σ.2 ++ [c]), x.2)) r
def recU (σ : St) (c : Call) (r : Py PySt) : Py St := pmap (fun s' => (s', σ.2 ++ [c])) r

/-- **the generated `StatefulInterpreter` as an object**: every method is the translated method of
`Pi2/Gen/PyInterp.lean` applied to the arguments it is given.  Ghost state of the model that Python does not
have is maintained as in `InterpTie.pyCall`: the call is recorded (`rec*`), `symbol` maintains the
serializer's symbol table, `publish_*` mark the top entry as residue. -/
def statefulI (n : Nat) : Interp St where
  phase σ := σ.1.phase
  isStateful := true
  memory σ := σ.1.memory
  pattern _ _ := none
  evar σ x := recP σ (.evar x) (Stateful.evar σ.1 x)
  svar σ x := recP σ (.svar x) (Stateful.svar σ.1 x)
  symbol σ x := recP σ (.symbol x) (pmap (fun y => ({ y.1 with
      symtab := if σ.1.symtab.contains x then σ.1.symtab else σ.1.symtab ++ [x] }, y.2)) (Stateful.symbol σ.1 x))
  metavar σ id ef sf ps ns hs := recP σ (.metavar id ef sf ps ns hs) (Stateful.metavar σ.1 id ef sf ps ns hs)
  implies σ l r := recP σ .implies (Stateful.implies n σ.1 l r)
  app σ l r := recP σ .app (Stateful.app n σ.1 l r)
  «exists» σ x p := recP σ (.ex x) (Stateful.«exists» n σ.1 x p)
  esubst σ x p q := recP σ (.esubst x) (Stateful.esubst n σ.1 x p q)
  ssubst σ x p q := recP σ (.ssubst x) (Stateful.ssubst n σ.1 x p q)
  mu σ x p := recP σ (.mu x) (Stateful.mu n σ.1 x p)
  prop1 σ := recT σ .prop1 (Stateful.prop1 σ.1)
  prop2 σ := recT σ .prop2 (Stateful.prop2 σ.1)
  prop3 σ := recT σ .prop3 (Stateful.prop3 σ.1)
  modus_ponens σ l r := recT σ .mp (Stateful.modus_ponens n σ.1 l r)
  exists_quantifier σ := recT σ .quantifier (Stateful.exists_quantifier σ.1)
  exists_generalization σ p x := recT σ (.gen x) (Stateful.exists_generalization n σ.1 p x)
  instantiate σ p δ := recT σ (.instantiate (δ.map (·.1))) (Stateful.instantiate n σ.1 p δ)
  instantiate_pattern σ p δ := recP σ (.instantiatePattern (δ.map (·.1))) (Stateful.instantiate_pattern n σ.1 p δ)
  pop σ t := recU σ .pop (Stateful.pop n σ.1 t)
  save σ i t := recU σ .save (Stateful.save n σ.1 i t)
  load σ i t := recU σ (.load t) (Stateful.load n σ.1 i t)
  publish_proof σ p := recU σ .publishProof (pmap InterpTie.markTop (Stateful.publish_proof n σ.1 p))
  publish_axiom σ a := recU σ .publishAxiom (pmap InterpTie.markTop (Stateful.publish_axiom n σ.1 a))
  publish_claim σ a := recU σ .publishClaim (pmap (fun _ => InterpTie.markTop σ.1) (Stateful.publish_claim n σ.1 a))
  into_claim_phase σ := recU σ .intoClaim (Stateful.into_claim_phase σ.1)
  into_proof_phase σ := recU σ .intoProof (Stateful.into_proof_phase σ.1)

/-- the generated `StatefulInterpreter` with the inherited (generated) `Interpreter.pattern` -/
def statefulK (N k : Nat) : Interp St := Interp.close Interpreter.pattern (statefulI N) k
/-- the generated `MemoizingInterpreter(StatefulInterpreter, S)` -/
def statefulMemoK (N k : Nat) (S : List NPat) : Interp (TrSt St) :=
  Interp.close (MemoizingInterpreter.pattern N (statefulI N) S) (InterpreterTransformer.obj (statefulI N)) k

theorem recU_top (n : Nat) (σ : St) (c : Call) :
    pmap (fun s' => (s', σ.2 ++ [c])) (track1 n σ.1 c) = gU (fun σ => σ) n σ c := by
  unfold gU emit
  rcases h : track1 n σ.1 c with _ | _ | s' <;> simp [doCalls, h, pmap]

theorem recP_top (n : Nat) (σ : St) (c : Call) :
    pmap (fun x => ((x.1, σ.2 ++ [c]), x.2)) (InterpTie.withTopPat (track1 n σ.1 c)) = gP (fun σ => σ) n σ c := by
  unfold gP
  rw [← pmap_id (emit n σ c), ← gU, ← recU_top]
  rcases track1 n σ.1 c with _ | _ | s' <;> rfl

theorem recT_top (n : Nat) (σ : St) (c : Call) :
    pmap (fun x => ((x.1, σ.2 ++ [c]), x.2)) (InterpTie.withTopProved (track1 n σ.1 c)) = gT (fun σ => σ) n σ c := by
  unfold gT
  rw [← pmap_id (emit n σ c), ← gU, ← recU_top]
  rcases track1 n σ.1 c with _ | _ | s' <;> rfl

/-! ## an interpreter object that is the *checking* tracker seen through an embedding of its state -/

section checks
variable {τ : Type} (emb : St → τ)

/-- every method of `O`, **called with the terms that are on the stack**, returns what the tracker's method
(`callI M`, on the embedded state) returns, provided the reflexive comparisons of the consumed entries
evaluate to `True` — and returns nothing otherwise.  (Methods without pattern / proof arguments are the
tracker's.) -/
structure Checks (M : Nat) (O : Interp τ) : Prop where
  phase : ∀ σ, O.phase (emb σ) = σ.1.phase
  evar : ∀ σ x, O.evar (emb σ) x = gP emb M σ (.evar x)
  svar : ∀ σ x, O.svar (emb σ) x = gP emb M σ (.svar x)
  symbol : ∀ σ x, O.symbol (emb σ) x = gP emb M σ (.symbol x)
  metavar : ∀ σ id ef sf ps ns hs, O.metavar (emb σ) id ef sf ps ns hs = gP emb M σ (.metavar id ef sf ps ns hs)
  implies : ∀ (σ : St) l r fl fr st x, σ.1.stack = (.pat r, fr) :: (.pat l, fl) :: st →
    (O.implies (emb σ) l r = some (some x) ↔
      Refl M (.pat l) ∧ Refl M (.pat r) ∧ gP emb M σ .implies = some (some x))
  app : ∀ (σ : St) l r fl fr st x, σ.1.stack = (.pat r, fr) :: (.pat l, fl) :: st →
    (O.app (emb σ) l r = some (some x) ↔
      Refl M (.pat l) ∧ Refl M (.pat r) ∧ gP emb M σ .app = some (some x))
  «exists» : ∀ (σ : St) v p f st x, σ.1.stack = (.pat p, f) :: st →
    (O.«exists» (emb σ) v p = some (some x) ↔ Refl M (.pat p) ∧ gP emb M σ (.ex v) = some (some x))
  mu : ∀ (σ : St) v p f st x, σ.1.stack = (.pat p, f) :: st →
    (O.mu (emb σ) v p = some (some x) ↔ Refl M (.pat p) ∧ gP emb M σ (.mu v) = some (some x))
  esubst : ∀ (σ : St) v p plug f1 f2 st x, σ.1.stack = (.pat p, f1) :: (.pat plug, f2) :: st →
    p.isMetaHead = true →
    (O.esubst (emb σ) v p plug = some (some x) ↔
      Refl M (.pat p) ∧ Refl M (.pat plug) ∧ gP emb M σ (.esubst v) = some (some x))
  ssubst : ∀ (σ : St) v p plug f1 f2 st x, σ.1.stack = (.pat p, f1) :: (.pat plug, f2) :: st →
    p.isMetaHead = true →
    (O.ssubst (emb σ) v p plug = some (some x) ↔
      Refl M (.pat p) ∧ Refl M (.pat plug) ∧ gP emb M σ (.ssubst v) = some (some x))
  prop1 : ∀ σ, O.prop1 (emb σ) = gT emb M σ .prop1
  prop2 : ∀ σ, O.prop2 (emb σ) = gT emb M σ .prop2
  prop3 : ∀ σ, O.prop3 (emb σ) = gT emb M σ .prop3
  exists_quantifier : ∀ σ, O.exists_quantifier (emb σ) = gT emb M σ .quantifier
  modus_ponens : ∀ (σ : St) l r fl fr st x, σ.1.stack = (.proved r, fr) :: (.proved l, fl) :: st →
    (O.modus_ponens (emb σ) ⟨l⟩ ⟨r⟩ = some (some x) ↔
      Refl M (.proved l) ∧ Refl M (.proved r) ∧ gT emb M σ .mp = some (some x))
  exists_generalization : ∀ (σ : St) a v f st x, σ.1.stack = (.proved a, f) :: st →
    (O.exists_generalization (emb σ) ⟨a⟩ v = some (some x) ↔
      Refl M (.proved a) ∧ gT emb M σ (.gen v) = some (some x))
  instantiate : ∀ (σ : St) a (δ : List (Nat × NPat)) f st st' x, σ.1.stack = (.proved a, f) :: st →
    takePlugs δ.length st = some (δ.map (·.2), st') →
    (O.instantiate (emb σ) ⟨a⟩ δ = some (some x) ↔
      Refl M (.proved a) ∧ (∀ p ∈ δ.map (·.2), Refl M (.pat p)) ∧
        gT emb M σ (.instantiate (δ.map (·.1))) = some (some x))
  instantiate_pattern : ∀ (σ : St) a (δ : List (Nat × NPat)) f st st' x, σ.1.stack = (.pat a, f) :: st →
    takePlugs δ.length st = some (δ.map (·.2), st') →
    (O.instantiate_pattern (emb σ) a δ = some (some x) ↔
      Refl M (.pat a) ∧ (∀ p ∈ δ.map (·.2), Refl M (.pat p)) ∧
        gP emb M σ (.instantiatePattern (δ.map (·.1))) = some (some x))
  save : ∀ (σ : St) i t f st x, σ.1.stack = (t, f) :: st →
    (O.save (emb σ) i t = some (some x) ↔ Refl M t ∧ gU emb M σ .save = some (some x))
  load : ∀ σ i t, O.load (emb σ) i t = gU emb M σ (.load t)
  publish_proof : ∀ (σ : St) t f st x, σ.1.stack = (.proved t, f) :: st →
    (O.publish_proof (emb σ) ⟨t⟩ = some (some x) ↔
      Refl M (.proved t) ∧ gU emb M σ .publishProof = some (some x))
  publish_axiom : ∀ (σ : St) a f st x, σ.1.stack = (.pat a, f) :: st →
    (O.publish_axiom (emb σ) a = some (some x) ↔ Refl M (.pat a) ∧ gU emb M σ .publishAxiom = some (some x))
  publish_claim : ∀ (σ : St) a f st x, σ.1.stack = (.pat a, f) :: st →
    (O.publish_claim (emb σ) a = some (some x) ↔ Refl M (.pat a) ∧ gU emb M σ .publishClaim = some (some x))
  into_claim_phase : ∀ σ, O.into_claim_phase (emb σ) = gU emb M σ .intoClaim
  into_proof_phase : ∀ σ, O.into_proof_phase (emb σ) = gU emb M σ .intoProof

theorem Checks.close {M : Nat} {I : Interp τ} (h : Checks emb M I)
    (pat : Interp τ → τ → NPat → Py (τ × NPat)) (k : Nat) : Checks emb M (Interp.close pat I k) := by
  cases k <;> exact { h with }

end checks

/-! ## `statefulI` checks -/

theorem checks_stateful (M : Nat) : Checks (fun σ => σ) M (statefulI M) where
  phase σ := rfl
  evar σ x := rfl
  svar σ x := rfl
  symbol σ x := rfl
  metavar σ id ef sf ps ns hs := rfl
  prop1 σ := rfl
  prop2 σ := rfl
  prop3 σ := rfl
  exists_quantifier σ := rfl
  implies σ l r fl fr st x hs := by
    show pmap _ (Stateful.implies M σ.1 l r) = _ ↔ _
    rw [InterpTie.implies_tieA M σ.1 l r fl fr st hs, pmap_chkA_some, pmap_chkA_some, recP_top]
  app σ l r fl fr st x hs := by
    show pmap _ (Stateful.app M σ.1 l r) = _ ↔ _
    rw [InterpTie.app_tieA M σ.1 l r fl fr st hs, pmap_chkA_some, pmap_chkA_some, recP_top]
  «exists» σ v p f st x hs := by
    show pmap _ (Stateful.«exists» M σ.1 v p) = _ ↔ _
    rw [InterpTie.exists_tieA M σ.1 v p f st hs, pmap_chkA_some, recP_top]
  mu σ v p f st x hs := by
    show pmap _ (Stateful.mu M σ.1 v p) = _ ↔ _
    rw [InterpTie.mu_tieA M σ.1 v p f st hs, pmap_chkA_some, recP_top]
  esubst σ v p plug f1 f2 st x hs hm := by
    show pmap _ (Stateful.esubst M σ.1 v p plug) = _ ↔ _
    rw [InterpTie.esubst_tieA M σ.1 v p plug f1 f2 st hs hm, pmap_chkA_some, pmap_chkA_some, recP_top]
  ssubst σ v p plug f1 f2 st x hs hm := by
    show pmap _ (Stateful.ssubst M σ.1 v p plug) = _ ↔ _
    rw [InterpTie.ssubst_tieA M σ.1 v p plug f1 f2 st hs hm, pmap_chkA_some, pmap_chkA_some, recP_top]
  modus_ponens σ l r fl fr st x hs := by
    show pmap _ (Stateful.modus_ponens M σ.1 ⟨l⟩ ⟨r⟩) = _ ↔ _
    rw [InterpTie.modus_ponens_tieA M σ.1 l r fl fr st hs, pmap_chkA_some, pmap_chkA_some, recT_top]
  exists_generalization σ a v f st x hs := by
    show pmap _ (Stateful.exists_generalization M σ.1 ⟨a⟩ v) = _ ↔ _
    rw [InterpTie.exists_generalization_tieA M σ.1 a v f st hs, pmap_chkA_some, recT_top]
  instantiate σ a δ f st st' x hs htp := by
    show pmap _ (Stateful.instantiate M σ.1 ⟨a⟩ δ) = _ ↔ _
    have := InterpTie.instantiate_tieA M σ.1 a f st st' (δ.map (·.1)) (δ.map (·.2)) hs (by simpa using htp)
    rw [zip_keys_vals] at this
    rw [this, pmap_chkA_some, pmap_chkLA_some, recT_top]
  instantiate_pattern σ a δ f st st' x hs htp := by
    show pmap _ (Stateful.instantiate_pattern M σ.1 a δ) = _ ↔ _
    have := InterpTie.instantiate_pattern_tieA M σ.1 a f st st' (δ.map (·.1)) (δ.map (·.2)) hs (by simpa using htp)
    rw [zip_keys_vals] at this
    rw [this, pmap_chkA_some, pmap_chkLA_some, recP_top]
  save σ i t f st x hs := by
    show pmap _ (Stateful.save M σ.1 i t) = _ ↔ _
    rw [InterpTie.save_tieA M σ.1 i t f st hs, pmap_chkA_some, recU_top]
  load σ i t := by
    show pmap _ (Stateful.load M σ.1 i t) = _
    rw [InterpTie.load_tie, recU_top]
  publish_proof σ t f st x hs := by
    show pmap _ ((Stateful.publish_proof M σ.1 ⟨t⟩).map (Option.map InterpTie.markTop)) = _ ↔ _
    rw [InterpTie.publish_proof_tieA M σ.1 t f st hs, pmap_call_chkA_some, recU_top]
  publish_axiom σ a f st x hs := by
    show pmap _ ((Stateful.publish_axiom M σ.1 a).map (Option.map InterpTie.markTop)) = _ ↔ _
    rw [InterpTie.publish_axiom_tieA M σ.1 a f st hs, pmap_call_chkA_some, recU_top]
  publish_claim σ a f st x hs := by
    show pmap _ ((Stateful.publish_claim M σ.1 a).map (Option.map fun _ => InterpTie.markTop σ.1)) = _ ↔ _
    rw [InterpTie.publish_claim_tieA M σ.1 a f st hs, pmap_call_chkA_some, recU_top]
  into_claim_phase σ := by
    show pmap _ (Stateful.into_claim_phase σ.1) = _
    rw [InterpTie.into_claim_phase_tie M, recU_top]
  into_proof_phase σ := by
    show pmap _ (Stateful.into_proof_phase σ.1) = _
    rw [InterpTie.into_proof_phase_tie M, recU_top]

theorem checks_statefulK (M k : Nat) : Checks (fun σ => σ) M (statefulK M k) :=
  (checks_stateful M).close _ _ k

/-! ## the transformer over `statefulI` checks -/

theorem call_iff {α β} {x x' : Py α} {R : Prop} (h : ∀ a, x = some (some a) ↔ R ∧ x' = some (some a))
    (k : α → Py β) (y : β) : call x k = some (some y) ↔ R ∧ call x' k = some (some y) := by
  constructor
  · intro hc
    obtain ⟨a, ha, hk⟩ := call_eq_some hc
    obtain ⟨hR, hx'⟩ := (h a).mp ha
    exact ⟨hR, by rw [hx']; exact hk⟩
  · rintro ⟨hR, hc⟩
    obtain ⟨a, ha, hk⟩ := call_eq_some hc
    rw [(h a).mpr ⟨hR, ha⟩]
    exact hk

/-- a method of the transformer (`self.sub_interpreter.m(…)`, then the transformer's own state) over a method that
checks -/
theorem tr_iff_P {M : Nat} {σ : St} {c : Call} {R : Prop} {m : Py (St × NPat)}
    (h2 : c ≠ .intoClaim) (h3 : c ≠ .intoProof)
    (h : ∀ a, m = some (some a) ↔ R ∧ gP (fun σ => σ) M σ c = some (some a)) (y : TrSt St × NPat) :
    (call m fun x => ret (({ phase := σ.1.phase, sub := x.1 } : TrSt St), x.2)) = some (some y) ↔
      R ∧ gP embM M σ c = some (some y) := by
  rw [call_iff h, ← ProofTie.tr_P2 M σ c h2 h3]; rfl

theorem tr_iff_T {M : Nat} {σ : St} {c : Call} {R : Prop} {m : Py (St × Proved)}
    (h2 : c ≠ .intoClaim) (h3 : c ≠ .intoProof)
    (h : ∀ a, m = some (some a) ↔ R ∧ gT (fun σ => σ) M σ c = some (some a)) (y : TrSt St × Proved) :
    (call m fun x => ret (({ phase := σ.1.phase, sub := x.1 } : TrSt St), x.2)) = some (some y) ↔
      R ∧ gT embM M σ c = some (some y) := by
  rw [call_iff h, ← ProofTie.tr_T2 M σ c h2 h3]; rfl

theorem tr_iff_U {M : Nat} {σ : St} {c : Call} {R : Prop} {m : Py St}
    (h2 : c ≠ .intoClaim) (h3 : c ≠ .intoProof)
    (h : ∀ a, m = some (some a) ↔ R ∧ gU (fun σ => σ) M σ c = some (some a)) (y : TrSt St) :
    (call m fun x => ret ({ phase := σ.1.phase, sub := x } : TrSt St)) = some (some y) ↔
      R ∧ gU embM M σ c = some (some y) := by
  rw [call_iff h, ← ProofTie.tr_U2 M σ c h2 h3, gU, pmap_id]

theorem tr_eq_P {M : Nat} {σ : St} {c : Call} {m : Py (St × NPat)} (h2 : c ≠ .intoClaim) (h3 : c ≠ .intoProof)
    (h : m = emitP M σ c) (k : St × NPat → Py (TrSt St × NPat))
    (hk : ∀ t1 t2, k (t1, t2) = ret (({ phase := σ.1.phase, sub := t1 } : TrSt St), t2)) :
    call m k = gP embM M σ c := by rw [h, ProofTie.tr_P M σ c h2 h3 k hk]
theorem tr_eq_T {M : Nat} {σ : St} {c : Call} {m : Py (St × Proved)} (h2 : c ≠ .intoClaim) (h3 : c ≠ .intoProof)
    (h : m = emitT M σ c) (k : St × Proved → Py (TrSt St × Proved))
    (hk : ∀ t1 t2, k (t1, t2) = ret (({ phase := σ.1.phase, sub := t1 } : TrSt St), t2)) :
    call m k = gT embM M σ c := by rw [h, ProofTie.tr_T M σ c h2 h3 k hk]

theorem stateful_into (M : Nat) (σ : St) :
    (statefulI M).into_claim_phase σ = (callI M).into_claim_phase σ ∧
      (statefulI M).into_proof_phase σ = (callI M).into_proof_phase σ :=
  ⟨((checks_stateful M).into_claim_phase σ).trans (pmap_id _), ((checks_stateful M).into_proof_phase σ).trans (pmap_id _)⟩

theorem trS_intoClaim (M : Nat) (σ : St) :
    InterpreterTransformer.into_claim_phase (statefulI M) (embM σ) = gU embM M σ .intoClaim := by
  rw [← ProofTie.tr_intoClaim]
  simp only [InterpreterTransformer.into_claim_phase, fun σ => (stateful_into M σ).1]

theorem trS_intoProof (M : Nat) (σ : St) :
    InterpreterTransformer.into_proof_phase (statefulI M) (embM σ) = gU embM M σ .intoProof := by
  rw [← ProofTie.tr_intoProof]
  simp only [InterpreterTransformer.into_proof_phase, fun σ => (stateful_into M σ).2]

theorem checks_transformer (M : Nat) : Checks embM M (InterpreterTransformer.obj (statefulI M)) where
  phase σ := rfl
  into_claim_phase := trS_intoClaim M
  into_proof_phase := trS_intoProof M
  evar σ x := ProofTie.tr_P2 M σ (.evar x) nofun nofun
  svar σ x := ProofTie.tr_P2 M σ (.svar x) nofun nofun
  symbol σ x := ProofTie.tr_P2 M σ (.symbol x) nofun nofun
  metavar σ id ef sf ps ns hs := ProofTie.tr_P2 M σ (.metavar id ef sf ps ns hs) nofun nofun
  prop1 σ := ProofTie.tr_T2 M σ .prop1 nofun nofun
  prop2 σ := ProofTie.tr_T2 M σ .prop2 nofun nofun
  prop3 σ := ProofTie.tr_T2 M σ .prop3 nofun nofun
  exists_quantifier σ := ProofTie.tr_T2 M σ .quantifier nofun nofun
  load σ i t := by
    have h := (checks_stateful M).load σ i t
    rw [gU, pmap_id] at h
    exact (congrArg (call · _) h).trans (ProofTie.tr_U2 M σ (.load t) nofun nofun)
  implies σ l r fl fr st x hs :=
    (tr_iff_P (c := .implies) nofun nofun (fun a => ((checks_stateful M).implies σ l r fl fr st a hs).trans and_assoc.symm) x).trans
      and_assoc
  app σ l r fl fr st x hs :=
    (tr_iff_P (c := .app) nofun nofun (fun a => ((checks_stateful M).app σ l r fl fr st a hs).trans and_assoc.symm) x).trans
      and_assoc
  «exists» σ v p f st x hs := tr_iff_P (c := (.ex v)) nofun nofun (fun a => (checks_stateful M).«exists» σ v p f st a hs) x
  mu σ v p f st x hs := tr_iff_P (c := (.mu v)) nofun nofun (fun a => (checks_stateful M).mu σ v p f st a hs) x
  esubst σ v p plug f1 f2 st x hs hm :=
    (tr_iff_P (c := (.esubst v)) nofun nofun
      (fun a => ((checks_stateful M).esubst σ v p plug f1 f2 st a hs hm).trans and_assoc.symm) x).trans and_assoc
  ssubst σ v p plug f1 f2 st x hs hm :=
    (tr_iff_P (c := (.ssubst v)) nofun nofun
      (fun a => ((checks_stateful M).ssubst σ v p plug f1 f2 st a hs hm).trans and_assoc.symm) x).trans and_assoc
  modus_ponens σ l r fl fr st x hs :=
    (tr_iff_T (c := .mp) nofun nofun
      (fun a => ((checks_stateful M).modus_ponens σ l r fl fr st a hs).trans and_assoc.symm) x).trans and_assoc
  exists_generalization σ a v f st x hs :=
    tr_iff_T (c := (.gen v)) nofun nofun (fun y => (checks_stateful M).exists_generalization σ a v f st y hs) x
  instantiate σ a δ f st st' x hs htp :=
    (tr_iff_T (c := (.instantiate (δ.map (·.1)))) nofun nofun
      (fun y => ((checks_stateful M).instantiate σ a δ f st st' y hs htp).trans and_assoc.symm) x).trans and_assoc
  instantiate_pattern σ a δ f st st' x hs htp :=
    (tr_iff_P (c := (.instantiatePattern (δ.map (·.1)))) nofun nofun
      (fun y => ((checks_stateful M).instantiate_pattern σ a δ f st st' y hs htp).trans and_assoc.symm) x).trans
      and_assoc
  save σ i t f st x hs := tr_iff_U (c := .save) nofun nofun (fun y => (checks_stateful M).save σ i t f st y hs) x
  publish_proof σ t f st x hs := tr_iff_U (c := .publishProof) nofun nofun (fun y => (checks_stateful M).publish_proof σ t f st y hs) x
  publish_axiom σ a f st x hs := tr_iff_U (c := .publishAxiom) nofun nofun (fun y => (checks_stateful M).publish_axiom σ a f st y hs) x
  publish_claim σ a f st x hs := tr_iff_U (c := .publishClaim) nofun nofun (fun y => (checks_stateful M).publish_claim σ a f st y hs) x

theorem checks_statefulMemoK (M k : Nat) (S : List NPat) : Checks embM M (statefulMemoK M k S) :=
  (checks_transformer M).close _ _ k

/-! ## single steps of the tracker: what is on the stack afterwards -/

theorem tr_evar {n : Nat} {s s' : PySt} {x : VId} (h : track1 n s (.evar x) = some (some s')) :
    s'.stack = (.pat (.evar x), false) :: s.stack := by
  cases h; rfl
theorem tr_svar {n : Nat} {s s' : PySt} {x : VId} (h : track1 n s (.svar x) = some (some s')) :
    s'.stack = (.pat (.svar x), false) :: s.stack := by
  cases h; rfl
theorem tr_symbol {n : Nat} {s s' : PySt} {x : Nat} (h : track1 n s (.symbol x) = some (some s')) :
    s'.stack = (.pat (.sym x), false) :: s.stack := by
  cases h; rfl
theorem tr_metavar {n : Nat} {s s' : PySt} {id : VId} {ef sf ps ns hs : List VId}
    (h : track1 n s (.metavar id ef sf ps ns hs) = some (some s')) :
    s'.stack = (.pat (.mv id ef sf ps ns hs), false) :: s.stack := by
  cases h; rfl
theorem tr_implies {n : Nat} {s s' : PySt} {l r : NPat} {fl fr : Bool} {st : Stack}
    (hs : s.stack = (.pat r, fr) :: (.pat l, fl) :: st) (h : track1 n s .implies = some (some s')) :
    s'.stack = (.pat (.imp l r), false) :: st := by
  dsimp only [track1] at h; rw [hs] at h; cases h; rfl
theorem tr_app {n : Nat} {s s' : PySt} {l r : NPat} {fl fr : Bool} {st : Stack}
    (hs : s.stack = (.pat r, fr) :: (.pat l, fl) :: st) (h : track1 n s .app = some (some s')) :
    s'.stack = (.pat (.app l r), false) :: st := by
  dsimp only [track1] at h; rw [hs] at h; cases h; rfl
theorem tr_ex {n : Nat} {s s' : PySt} {x : VId} {p : NPat} {f : Bool} {st : Stack}
    (hs : s.stack = (.pat p, f) :: st) (h : track1 n s (.ex x) = some (some s')) :
    s'.stack = (.pat (.ex x p), false) :: st := by
  dsimp only [track1] at h; rw [hs] at h; cases h; rfl
theorem tr_mu {n : Nat} {s s' : PySt} {x : VId} {p : NPat} {f : Bool} {st : Stack}
    (hs : s.stack = (.pat p, f) :: st) (h : track1 n s (.mu x) = some (some s')) :
    s'.stack = (.pat (.mu x p), false) :: st := by
  dsimp only [track1] at h; rw [hs] at h; cases h; rfl
theorem tr_esubst {n : Nat} {s s' : PySt} {x : VId} {p plug : NPat} {f1 f2 : Bool} {st : Stack}
    (hs : s.stack = (.pat p, f1) :: (.pat plug, f2) :: st) (h : track1 n s (.esubst x) = some (some s')) :
    s'.stack = (.pat (.esub p x plug), false) :: st := by
  dsimp only [track1] at h; rw [hs] at h; dsimp only at h
  split at h
  · simp only [Option.some.injEq] at h; subst h; rfl
  · simp at h
theorem tr_ssubst {n : Nat} {s s' : PySt} {x : VId} {p plug : NPat} {f1 f2 : Bool} {st : Stack}
    (hs : s.stack = (.pat p, f1) :: (.pat plug, f2) :: st) (h : track1 n s (.ssubst x) = some (some s')) :
    s'.stack = (.pat (.ssub p x plug), false) :: st := by
  dsimp only [track1] at h; rw [hs] at h; dsimp only at h
  split at h
  · simp only [Option.some.injEq] at h; subst h; rfl
  · simp at h
theorem tr_instPat {n : Nat} {s s' : PySt} {keys : List Nat} {a : NPat} {f : Bool} {st st' : Stack}
    {plugs : List NPat} (hs : s.stack = (.pat a, f) :: st) (htp : takePlugs keys.length st = some (plugs, st'))
    (h : track1 n s (.instantiatePattern keys) = some (some s')) :
    s'.stack = (.pat (.inst a (keys.zip plugs)), false) :: st' := by
  dsimp only [track1] at h; rw [hs] at h; dsimp only at h; rw [htp] at h; cases h; rfl
theorem tr_axiom {n : Nat} {s s' : PySt} {c : Call}
    (hc : c = .prop1 ∨ c = .prop2 ∨ c = .prop3 ∨ c = .quantifier) (h : track1 n s c = some (some s')) :
    ∃ a, s'.stack = (.proved a, false) :: s.stack := by
  rcases hc with rfl | rfl | rfl | rfl <;>
    (cases h; exact ⟨_, rfl⟩)
theorem tr_mp {n : Nat} {s s' : PySt} {l r : NPat} {fl fr : Bool} {st : Stack}
    (hs : s.stack = (.proved r, fr) :: (.proved l, fl) :: st) (h : track1 n s .mp = some (some s')) :
    ∃ c, s'.stack = (.proved c, false) :: st := by
  dsimp only [track1] at h; rw [hs] at h
  simp only [Option.bind_eq_bind, Option.bind_eq_some_iff] at h
  obtain ⟨oc, _, h⟩ := h
  cases oc with
  | none => simp at h
  | some c => simp only [Option.pure_def, Option.some.injEq] at h; subst h; exact ⟨_, rfl⟩
theorem tr_gen {n : Nat} {s s' : PySt} {x : VId} {a : NPat} {f : Bool} {st : Stack}
    (hs : s.stack = (.proved a, f) :: st) (h : track1 n s (.gen x) = some (some s')) :
    ∃ c, s'.stack = (.proved c, false) :: st := by
  dsimp only [track1] at h; rw [hs] at h
  simp only [Option.bind_eq_bind, Option.bind_eq_some_iff] at h
  obtain ⟨oc, _, h⟩ := h
  cases oc with
  | none => simp at h
  | some c => simp only [Option.pure_def, Option.some.injEq] at h; subst h; exact ⟨_, rfl⟩
theorem tr_inst {n : Nat} {s s' : PySt} {keys : List Nat} {a : NPat} {f : Bool} {st st' : Stack}
    {plugs : List NPat} (hk : keys.isEmpty = false) (hs : s.stack = (.proved a, f) :: st)
    (htp : takePlugs keys.length st = some (plugs, st'))
    (h : track1 n s (.instantiate keys) = some (some s')) :
    ∃ c, s'.stack = (.proved c, false) :: st' := by
  dsimp only [track1] at h
  simp only [hs, hk, htp, Bool.false_eq_true, if_false, Option.bind_eq_bind, Option.bind_eq_some_iff,
    Option.pure_def, Option.some.injEq] at h
  obtain ⟨c, _, h⟩ := h
  subst h; exact ⟨_, rfl⟩
theorem tr_load {n : Nat} {s s' : PySt} {t : TTerm} (h : track1 n s (.load t) = some (some s')) :
    s'.stack = (t, false) :: s.stack := by
  rw [track1_load_push n s s' t h]; rfl
theorem tr_publishProof {n : Nat} {s s' : PySt} (h : track1 n s .publishProof = some (some s')) :
    ∃ t f st, s.stack = (.proved t, f) :: st := by
  dsimp only [track1] at h
  split at h
  · exact ⟨_, _, _, by assumption⟩
  · simp at h
theorem tr_publishAxiom {n : Nat} {s s' : PySt} (h : track1 n s .publishAxiom = some (some s')) :
    ∃ t f st, s.stack = (.pat t, f) :: st := by
  dsimp only [track1] at h
  split at h
  · exact ⟨_, _, _, by assumption⟩
  · simp at h
theorem tr_publishClaim {n : Nat} {s s' : PySt} (h : track1 n s .publishClaim = some (some s')) :
    ∃ t f st, s.stack = (.pat t, f) :: st := by
  dsimp only [track1] at h
  split at h
  · exact ⟨_, _, _, by assumption⟩
  · simp at h

theorem topPat_cons {s : PySt} {t : TTerm} {f : Bool} {st : Stack} (h : s.stack = (t, f) :: st) :
    InterpTie.topPat s = t.body := by
  simp [InterpTie.topPat, h]


/-! ## the calling convention on the tracker: the value returned is the one new entry on top of the stack -/

section generic
variable {τ : Type} (emb : St → τ)

/-- a method that emits like the tracker, when it returns: the tracker's step, seen through `w` -/
theorem g_some {γ : Type} {w : St → γ} {N : Nat} {σ : St} {c : Call} {y : γ}
    (h : pmap w (emit N σ c) = some (some y)) :
    ∃ s', track1 N σ.1 c = some (some s') ∧ y = w (s', σ.2 ++ [c]) := by
  obtain ⟨o, ho, ho'⟩ := (pmap_some _ _ _).mp h
  cases o with
  | none => cases ho'
  | some σ' =>
    obtain ⟨h1, h2⟩ := emit_some N σ σ' c ho
    obtain ⟨s', a'⟩ := σ'
    simp only at h2; subst h2
    exact ⟨s', h1, Option.some.inj ho'⟩

/-- a pattern-building method: the value returned is the entry `t` which the tracker's step pushes -/
theorem gP_top {N : Nat} {σ : St} {c : Call} {τ' : τ} {v t : NPat} {st : Stack}
    (ht : ∀ {s'}, track1 N σ.1 c = some (some s') → s'.stack = (.pat t, false) :: st)
    (h : gP emb N σ c = some (some (τ', v))) :
    ∃ σ' : St, τ' = emb σ' ∧ v = t ∧ σ'.1.stack = (.pat t, false) :: st := by
  obtain ⟨s', hs', e⟩ := g_some h
  obtain ⟨rfl, rfl⟩ := Prod.mk.inj e
  exact ⟨_, rfl, by rw [topPat_cons (ht hs')]; rfl, ht hs'⟩

/-- a rule: the `Proved` returned is the entry which the tracker's step pushes -/
theorem gT_top {N : Nat} {σ : St} {c : Call} {τ' : τ} {pr : Proved} {st : Stack}
    (ht : ∀ {s'}, track1 N σ.1 c = some (some s') → ∃ a, s'.stack = (.proved a, false) :: st)
    (h : gT emb N σ c = some (some (τ', pr))) :
    ∃ σ' : St, τ' = emb σ' ∧ σ'.1.stack = (.proved pr.conclusion, false) :: st := by
  obtain ⟨s', hs', e⟩ := g_some h
  obtain ⟨rfl, rfl⟩ := Prod.mk.inj e
  obtain ⟨a, ha⟩ := ht hs'
  exact ⟨_, rfl, by rw [ha, topPat_cons ha]; rfl⟩

/-- **the walk is the identity**: the value `O.pattern` returns for `p` is `p` itself, and it is the one new
entry on the stack -/
def PatId (O : Interp τ) : Prop :=
  ∀ σ p τ' v, O.pattern (emb σ) p = some (some (τ', v)) →
    ∃ σ' : St, τ' = emb σ' ∧ v = p ∧ σ'.1.stack = (.pat p, false) :: σ.1.stack

/-- one sub-walk: the value is the pattern, pushed -/
theorem step_id {O : Interp τ} (ih : PatId emb O) {β} {σ : St} {p : NPat} {K : τ × NPat → Py β} {x : β}
    (h : call (O.pattern (emb σ) p) K = some (some x)) :
    ∃ σ1 : St, σ1.1.stack = (.pat p, false) :: σ.1.stack ∧ O.pattern (emb σ) p = some (some (emb σ1, p)) ∧
      K (emb σ1, p) = some (some x) := by
  obtain ⟨⟨τ1, t⟩, h1, hK⟩ := call_eq_some h
  obtain ⟨σ1, e1, e2, hs1⟩ := ih _ _ _ _ h1
  subst e1; subst e2
  exact ⟨σ1, hs1, h1, hK⟩

/-- two sub-walks, then a method on the two values: it is called with the two entries on top of the stack -/
theorem two_id {O : Interp τ} (ih : PatId emb O) {β} {σ : St} {a b : NPat} {m : τ → NPat → NPat → Py β} {x : β}
    (h : (call (O.pattern (emb σ) a) fun y => call (O.pattern y.1 b) fun z => m z.1 y.2 z.2) = some (some x)) :
    ∃ σ2 : St, σ2.1.stack = (.pat b, false) :: (.pat a, false) :: σ.1.stack ∧ m (emb σ2) a b = some (some x) := by
  obtain ⟨σ1, hs1, -, hA⟩ := step_id emb ih h
  obtain ⟨σ2, hs2, -, hB⟩ := step_id emb ih hA
  exact ⟨σ2, hs2.trans (by rw [hs1]), hB⟩

/-- a loop whose body walks one pattern (`π a`) per element, the loop state being `e σ` -/
theorem loop_id {α S β : Type} (e : St → S) (π : α → NPat) (b : α → S → Py S) (l : List α)
    (hb : ∀ a ∈ l, ∀ (σ : St) (K : S → Py β) (x : β), call (b a (e σ)) K = some (some x) →
      ∃ σ1 : St, σ1.1.stack = entry (π a) :: σ.1.stack ∧ K (e σ1) = some (some x)) :
    ∀ (σ : St) (x : β) (K : S → Py β), forEach l (e σ) b K = some (some x) →
      ∃ σ' : St, σ'.1.stack = (l.map π).reverse.map entry ++ σ.1.stack ∧ K (e σ') = some (some x) := by
  induction l with
  | nil => intro σ x K h; exact ⟨σ, by simp, h⟩
  | cons a r ih =>
    intro σ x K h
    obtain ⟨σ1, hs1, hA⟩ := hb a (by simp) σ _ x h
    obtain ⟨σ', hs', hK⟩ := ih (fun a' ha' => hb a' (List.mem_cons_of_mem _ ha')) σ1 x K hA
    exact ⟨σ', by rw [hs', hs1]; simp, hK⟩

theorem walk_id {O : Interp τ} (ih : PatId emb O) {β} (l : List NPat) (σ : St) (x : β) (K : τ → Py β)
    (h : walkList O l (emb σ) K = some (some x)) :
    ∃ σ' : St, σ'.1.stack = l.reverse.map entry ++ σ.1.stack ∧ K (emb σ') = some (some x) := by
  have := loop_id emb (fun v => v) _ l (fun a _ σ K x h => ?_) σ x K h
  · rwa [List.map_id'] at this
  · rw [call_assoc] at h
    obtain ⟨σ1, hs1, -, hA⟩ := step_id emb ih h
    exact ⟨σ1, hs1, hA⟩

theorem takePlugs_vals (m : List (Nat × NPat)) (rest : Stack) :
    takePlugs m.length ((m.map (·.2)).reverse.map entry ++ rest) = some (m.map (·.2), rest) := by
  have := takePlugs_rev (m.map (·.2)).reverse rest
  simpa using this

/-! ### the text of `Interpreter.pattern`, case by case (`y`, `z`: the state and value a sub-walk returns) -/

theorem pattern_evar (O : Interp τ) (s : τ) (x : VId) : Interpreter.pattern O s (.evar x) = O.evar s x :=
  call_eta2 _ _ (fun _ _ => rfl)
theorem pattern_svar (O : Interp τ) (s : τ) (x : VId) : Interpreter.pattern O s (.svar x) = O.svar s x :=
  call_eta2 _ _ (fun _ _ => rfl)
theorem pattern_sym (O : Interp τ) (s : τ) (x : Nat) : Interpreter.pattern O s (.sym x) = O.symbol s x :=
  call_eta2 _ _ (fun _ _ => rfl)
theorem pattern_mv (O : Interp τ) (s : τ) (id : VId) (ef sf ps ns hs : List VId) :
    Interpreter.pattern O s (.mv id ef sf ps ns hs) = O.metavar s id ef sf ps ns hs :=
  call_eta2 _ _ (fun _ _ => rfl)
theorem pattern_imp (O : Interp τ) (s : τ) (l r : NPat) :
    Interpreter.pattern O s (.imp l r) =
      call (O.pattern s l) fun y => call (O.pattern y.1 r) fun z => O.implies z.1 y.2 z.2 :=
  congrArg _ (funext fun _ => congrArg _ (funext fun _ => call_eta2 _ _ (fun _ _ => rfl)))
theorem pattern_app (O : Interp τ) (s : τ) (l r : NPat) :
    Interpreter.pattern O s (.app l r) =
      call (O.pattern s l) fun y => call (O.pattern y.1 r) fun z => O.app z.1 y.2 z.2 :=
  congrArg _ (funext fun _ => congrArg _ (funext fun _ => call_eta2 _ _ (fun _ _ => rfl)))
theorem pattern_ex (O : Interp τ) (s : τ) (x : VId) (q : NPat) :
    Interpreter.pattern O s (.ex x q) = call (O.pattern s q) fun y => O.«exists» y.1 x y.2 :=
  congrArg _ (funext fun _ => call_eta2 _ _ (fun _ _ => rfl))
theorem pattern_mu (O : Interp τ) (s : τ) (x : VId) (q : NPat) :
    Interpreter.pattern O s (.mu x q) = call (O.pattern s q) fun y => O.mu y.1 x y.2 :=
  congrArg _ (funext fun _ => call_eta2 _ _ (fun _ _ => rfl))
/-- `plug` is walked first; `isinstance(subpattern, MetaVar | ESubst | SSubst)` is asserted on the value returned -/
theorem pattern_esub (O : Interp τ) (s : τ) (q : NPat) (x : VId) (plug : NPat) :
    Interpreter.pattern O s (.esub q x plug) =
      call (O.pattern s plug) fun y => call (O.pattern y.1 q) fun z =>
        assert_ z.2.isMetaHead (O.esubst z.1 x z.2 y.2) :=
  by
  show assert_ true _ = _
  rw [assert_, if_pos rfl]
  refine congrArg _ (funext fun y => ?_)
  obtain ⟨s1, t1⟩ := y
  dsimp only
  refine congrArg _ (funext fun z => ?_)
  obtain ⟨s2, t2⟩ := z
  dsimp only
  exact congrArg _ (call_eta2 _ _ (fun _ _ => rfl))
theorem pattern_ssub (O : Interp τ) (s : τ) (q : NPat) (x : VId) (plug : NPat) :
    Interpreter.pattern O s (.ssub q x plug) =
      call (O.pattern s plug) fun y => call (O.pattern y.1 q) fun z =>
        assert_ z.2.isMetaHead (O.ssubst z.1 x z.2 y.2) :=
  by
  show assert_ true _ = _
  rw [assert_, if_pos rfl]
  refine congrArg _ (funext fun y => ?_)
  obtain ⟨s1, t1⟩ := y
  dsimp only
  refine congrArg _ (funext fun z => ?_)
  obtain ⟨s2, t2⟩ := z
  dsimp only
  exact congrArg _ (call_eta2 _ _ (fun _ _ => rfl))
/-- the plugs are walked in the order of `subst.values()`, then the sub-pattern; `instantiate_pattern` gets the
original dict -/
theorem pattern_inst (O : Interp τ) (s : τ) (q : NPat) (m : List (Nat × NPat)) :
    Interpreter.pattern O s (.inst q m) =
      walkList O (m.map (·.2)) s fun s => call (O.pattern s q) fun y => O.instantiate_pattern y.1 y.2 m :=
  congrArg _ (funext fun _ => congrArg _ (funext fun _ => call_eta2 _ _ (fun _ _ => rfl)))

theorem assert_some {β : Type} {c : Bool} {k : Py β} {x : β} :
    assert_ c k = some (some x) ↔ c = true ∧ k = some (some x) := by
  cases c <;> simp [assert_, raise]

/-- one level of `Interpreter.pattern` on an object that emits like the tracker -/
theorem body_id {O : Interp τ} {N : Nat} (hE : Emits emb N O) (ih : PatId emb O)
    (σ : St) (p : NPat) (τ' : τ) (v : NPat) (h : Interpreter.pattern O (emb σ) p = some (some (τ', v))) :
    ∃ σ' : St, τ' = emb σ' ∧ v = p ∧ σ'.1.stack = (.pat p, false) :: σ.1.stack := by
  cases p with
  | evar x => rw [pattern_evar, hE.evar] at h; exact gP_top emb tr_evar h
  | svar x => rw [pattern_svar, hE.svar] at h; exact gP_top emb tr_svar h
  | sym x => rw [pattern_sym, hE.symbol] at h; exact gP_top emb tr_symbol h
  | mv id ef sf ps ns hs => rw [pattern_mv, hE.metavar] at h; exact gP_top emb tr_metavar h
  | imp l r =>
    rw [pattern_imp] at h
    obtain ⟨σ2, hs2, hB⟩ := two_id emb ih h
    rw [hE.implies] at hB
    exact gP_top emb (tr_implies hs2) hB
  | app l r =>
    rw [pattern_app] at h
    obtain ⟨σ2, hs2, hB⟩ := two_id emb ih h
    rw [hE.app] at hB
    exact gP_top emb (tr_app hs2) hB
  | ex x q =>
    rw [pattern_ex] at h
    obtain ⟨σ1, hs1, -, hA⟩ := step_id emb ih h
    rw [hE.«exists»] at hA
    exact gP_top emb (tr_ex hs1) hA
  | mu x q =>
    rw [pattern_mu] at h
    obtain ⟨σ1, hs1, -, hA⟩ := step_id emb ih h
    rw [hE.mu] at hA
    exact gP_top emb (tr_mu hs1) hA
  | esub q x plug =>
    rw [pattern_esub] at h
    obtain ⟨σ2, hs2, hB⟩ := two_id emb ih (m := fun s vplug vq => assert_ vq.isMetaHead (O.esubst s x vq vplug)) h
    obtain ⟨-, hB⟩ := assert_some.mp hB
    rw [hE.esubst] at hB
    exact gP_top emb (tr_esubst hs2) hB
  | ssub q x plug =>
    rw [pattern_ssub] at h
    obtain ⟨σ2, hs2, hB⟩ := two_id emb ih (m := fun s vplug vq => assert_ vq.isMetaHead (O.ssubst s x vq vplug)) h
    obtain ⟨-, hB⟩ := assert_some.mp hB
    rw [hE.ssubst] at hB
    exact gP_top emb (tr_ssubst hs2) hB
  | inst q m =>
    rw [pattern_inst] at h
    obtain ⟨σ1, hs1, hA⟩ := walk_id emb ih (m.map (·.2)) σ _ _ h
    obtain ⟨σ2, hs2, -, hB⟩ := step_id emb ih hA
    rw [hE.instantiate_pattern] at hB
    have htp : takePlugs (m.map (·.1)).length σ1.1.stack = some (m.map (·.2), σ.1.stack) := by
      rw [hs1, List.length_map]; exact takePlugs_vals m _
    have := gP_top emb (fun ht => tr_instPat hs2 htp ht) hB
    rwa [zip_keys_vals] at this

end generic

theorem pattern_id (N : Nat) : ∀ k, PatId (fun σ => σ) (trackerK N k) := by
  intro k
  induction k with
  | zero => intro σ p τ' v h; rw [trackerK_zero] at h; cases h
  | succ k ih =>
    intro σ p τ' v h
    rw [trackerK_succ] at h
    exact body_id (fun σ => σ) (emits_tracker N k) ih σ p τ' v h

/-! ## fuel for the reflexive comparisons of a pattern walk -/

mutual
/-- the fuel `M` suffices to compare every sub-pattern of `p` (and `p`) with itself -/
def SubRefl (M : Nat) : NPat → Prop
  | .evar x => Refl M (.pat (.evar x))
  | .svar x => Refl M (.pat (.svar x))
  | .sym x => Refl M (.pat (.sym x))
  | .mv a b c d e f => Refl M (.pat (.mv a b c d e f))
  | .imp l r => Refl M (.pat (.imp l r)) ∧ SubRefl M l ∧ SubRefl M r
  | .app l r => Refl M (.pat (.app l r)) ∧ SubRefl M l ∧ SubRefl M r
  | .ex x p => Refl M (.pat (.ex x p)) ∧ SubRefl M p
  | .mu x p => Refl M (.pat (.mu x p)) ∧ SubRefl M p
  | .esub p x q => Refl M (.pat (.esub p x q)) ∧ SubRefl M p ∧ SubRefl M q
  | .ssub p x q => Refl M (.pat (.ssub p x q)) ∧ SubRefl M p ∧ SubRefl M q
  | .inst p m => Refl M (.pat (.inst p m)) ∧ SubRefl M p ∧ SubReflMap M m
def SubReflMap (M : Nat) : List (Nat × NPat) → Prop
  | [] => True
  | (_, v) :: r => SubRefl M v ∧ SubReflMap M r
end

theorem SubRefl.self {M : Nat} {p : NPat} (h : SubRefl M p) : Refl M (.pat p) := by
  cases p <;> simp only [SubRefl] at h <;> first | exact h | exact h.1

theorem subReflMap_iff {M : Nat} {m : List (Nat × NPat)} :
    SubReflMap M m ↔ ∀ v ∈ m.map (·.2), SubRefl M v := by
  induction m with
  | nil => exact ⟨fun _ _ h => (nomatch h), fun _ => trivial⟩
  | cons kv r ih => simp only [SubReflMap, List.map_cons, List.mem_cons, forall_eq_or_imp, ih]

section follows
variable {τ : Type} (emb : St → τ)

/-- the states of a run: embedded tracker states -/
def IsEmb (s : τ) : Prop := ∃ σ : St, s = emb σ

/-- **`B` answers as `A` does**: whatever a method of `A` returns when it is called with the terms that are on the
stack, the same method of `B` returns — provided, if `c` holds, that the consumed entries compare equal to
themselves within fuel `M`.  For `O₁` that checks and `O₂` that emits like the tracker, `O₂` answers as `O₁` does
with `c := False` (`Checks.sound`), and `O₁` as `O₂` with `c := True` (`Checks.complete`). -/
structure Follows (M : Nat) (c : Prop) (A B : Interp τ) : Prop where
  evar : ∀ σ x, A.evar (emb σ) x = B.evar (emb σ) x
  svar : ∀ σ x, A.svar (emb σ) x = B.svar (emb σ) x
  symbol : ∀ σ x, A.symbol (emb σ) x = B.symbol (emb σ) x
  metavar : ∀ σ id ef sf ps ns hs, A.metavar (emb σ) id ef sf ps ns hs = B.metavar (emb σ) id ef sf ps ns hs
  implies : ∀ (σ : St) l r fl fr st x, σ.1.stack = (.pat r, fr) :: (.pat l, fl) :: st →
    (c → Refl M (.pat l) ∧ Refl M (.pat r)) →
    A.implies (emb σ) l r = some (some x) → B.implies (emb σ) l r = some (some x)
  app : ∀ (σ : St) l r fl fr st x, σ.1.stack = (.pat r, fr) :: (.pat l, fl) :: st →
    (c → Refl M (.pat l) ∧ Refl M (.pat r)) →
    A.app (emb σ) l r = some (some x) → B.app (emb σ) l r = some (some x)
  «exists» : ∀ (σ : St) v p f st x, σ.1.stack = (.pat p, f) :: st → (c → Refl M (.pat p)) →
    A.«exists» (emb σ) v p = some (some x) → B.«exists» (emb σ) v p = some (some x)
  mu : ∀ (σ : St) v p f st x, σ.1.stack = (.pat p, f) :: st → (c → Refl M (.pat p)) →
    A.mu (emb σ) v p = some (some x) → B.mu (emb σ) v p = some (some x)
  esubst : ∀ (σ : St) v p plug f1 f2 st x, σ.1.stack = (.pat p, f1) :: (.pat plug, f2) :: st →
    p.isMetaHead = true → (c → Refl M (.pat p) ∧ Refl M (.pat plug)) →
    A.esubst (emb σ) v p plug = some (some x) → B.esubst (emb σ) v p plug = some (some x)
  ssubst : ∀ (σ : St) v p plug f1 f2 st x, σ.1.stack = (.pat p, f1) :: (.pat plug, f2) :: st →
    p.isMetaHead = true → (c → Refl M (.pat p) ∧ Refl M (.pat plug)) →
    A.ssubst (emb σ) v p plug = some (some x) → B.ssubst (emb σ) v p plug = some (some x)
  prop1 : ∀ σ, A.prop1 (emb σ) = B.prop1 (emb σ)
  prop2 : ∀ σ, A.prop2 (emb σ) = B.prop2 (emb σ)
  prop3 : ∀ σ, A.prop3 (emb σ) = B.prop3 (emb σ)
  exists_quantifier : ∀ σ, A.exists_quantifier (emb σ) = B.exists_quantifier (emb σ)
  modus_ponens : ∀ (σ : St) l r fl fr st x, σ.1.stack = (.proved r, fr) :: (.proved l, fl) :: st →
    (c → Refl M (.proved l) ∧ Refl M (.proved r)) →
    A.modus_ponens (emb σ) ⟨l⟩ ⟨r⟩ = some (some x) → B.modus_ponens (emb σ) ⟨l⟩ ⟨r⟩ = some (some x)
  exists_generalization : ∀ (σ : St) a v f st x, σ.1.stack = (.proved a, f) :: st → (c → Refl M (.proved a)) →
    A.exists_generalization (emb σ) ⟨a⟩ v = some (some x) → B.exists_generalization (emb σ) ⟨a⟩ v = some (some x)
  instantiate : ∀ (σ : St) a (δ : List (Nat × NPat)) f st st' x, σ.1.stack = (.proved a, f) :: st →
    takePlugs δ.length st = some (δ.map (·.2), st') →
    (c → Refl M (.proved a) ∧ ∀ p ∈ δ.map (·.2), Refl M (.pat p)) →
    A.instantiate (emb σ) ⟨a⟩ δ = some (some x) → B.instantiate (emb σ) ⟨a⟩ δ = some (some x)
  instantiate_pattern : ∀ (σ : St) a (δ : List (Nat × NPat)) f st st' x, σ.1.stack = (.pat a, f) :: st →
    takePlugs δ.length st = some (δ.map (·.2), st') →
    (c → Refl M (.pat a) ∧ ∀ p ∈ δ.map (·.2), Refl M (.pat p)) →
    A.instantiate_pattern (emb σ) a δ = some (some x) → B.instantiate_pattern (emb σ) a δ = some (some x)
  save : ∀ (σ : St) i t f st x, σ.1.stack = (t, f) :: st → (c → Refl M t) →
    A.save (emb σ) i t = some (some x) → B.save (emb σ) i t = some (some x)
  load : ∀ σ i t, A.load (emb σ) i t = B.load (emb σ) i t
  publish_proof : ∀ (σ : St) t f st x, σ.1.stack = (.proved t, f) :: st → (c → Refl M (.proved t)) →
    A.publish_proof (emb σ) ⟨t⟩ = some (some x) → B.publish_proof (emb σ) ⟨t⟩ = some (some x) ∧ IsEmb emb x
  publish_axiom : ∀ (σ : St) a f st x, σ.1.stack = (.pat a, f) :: st → (c → Refl M (.pat a)) →
    A.publish_axiom (emb σ) a = some (some x) → B.publish_axiom (emb σ) a = some (some x) ∧ IsEmb emb x
  publish_claim : ∀ (σ : St) a f st x, σ.1.stack = (.pat a, f) :: st → (c → Refl M (.pat a)) →
    A.publish_claim (emb σ) a = some (some x) → B.publish_claim (emb σ) a = some (some x) ∧ IsEmb emb x

variable {emb}

theorem isEmb_gU {N : Nat} {σ : St} {c : Call} {y : τ} (h : gU emb N σ c = some (some y)) : IsEmb emb y := by
  obtain ⟨s', _, rfl⟩ := g_some h
  exact ⟨_, rfl⟩

/-- what the checking object returns, the tracker returns -/
theorem Checks.sound {M : Nat} {O₁ O₂ : Interp τ} (hC : Checks emb M O₁) (hE : Emits emb M O₂) :
    Follows emb M False O₁ O₂ where
  evar σ x := (hC.evar σ x).trans (hE.evar σ x).symm
  svar σ x := (hC.svar σ x).trans (hE.svar σ x).symm
  symbol σ x := (hC.symbol σ x).trans (hE.symbol σ x).symm
  metavar σ id ef sf ps ns hs := (hC.metavar σ id ef sf ps ns hs).trans (hE.metavar σ id ef sf ps ns hs).symm
  implies σ l r fl fr st x hs _ h := hE.implies σ l r ▸ ((hC.implies σ l r fl fr st x hs).mp h).2.2
  app σ l r fl fr st x hs _ h := hE.app σ l r ▸ ((hC.app σ l r fl fr st x hs).mp h).2.2
  «exists» σ v p f st x hs _ h := hE.«exists» σ v p ▸ ((hC.«exists» σ v p f st x hs).mp h).2
  mu σ v p f st x hs _ h := hE.mu σ v p ▸ ((hC.mu σ v p f st x hs).mp h).2
  esubst σ v p plug f1 f2 st x hs hm _ h := hE.esubst σ v p plug ▸ ((hC.esubst σ v p plug f1 f2 st x hs hm).mp h).2.2
  ssubst σ v p plug f1 f2 st x hs hm _ h := hE.ssubst σ v p plug ▸ ((hC.ssubst σ v p plug f1 f2 st x hs hm).mp h).2.2
  prop1 σ := (hC.prop1 σ).trans (hE.prop1 σ).symm
  prop2 σ := (hC.prop2 σ).trans (hE.prop2 σ).symm
  prop3 σ := (hC.prop3 σ).trans (hE.prop3 σ).symm
  exists_quantifier σ := (hC.exists_quantifier σ).trans (hE.exists_quantifier σ).symm
  modus_ponens σ l r fl fr st x hs _ h := hE.modus_ponens σ ⟨l⟩ ⟨r⟩ ▸ ((hC.modus_ponens σ l r fl fr st x hs).mp h).2.2
  exists_generalization σ a v f st x hs _ h :=
    hE.exists_generalization σ ⟨a⟩ v ▸ ((hC.exists_generalization σ a v f st x hs).mp h).2
  instantiate σ a δ f st st' x hs htp _ h := hE.instantiate σ ⟨a⟩ δ ▸ ((hC.instantiate σ a δ f st st' x hs htp).mp h).2.2
  instantiate_pattern σ a δ f st st' x hs htp _ h :=
    hE.instantiate_pattern σ a δ ▸ ((hC.instantiate_pattern σ a δ f st st' x hs htp).mp h).2.2
  save σ i t f st x hs _ h := hE.save σ i t ▸ ((hC.save σ i t f st x hs).mp h).2
  load σ i t := (hC.load σ i t).trans (hE.load σ i t).symm
  publish_proof σ t f st x hs _ h :=
    have hg := ((hC.publish_proof σ t f st x hs).mp h).2
    ⟨hE.publish_proof σ ⟨t⟩ ▸ hg, isEmb_gU hg⟩
  publish_axiom σ a f st x hs _ h :=
    have hg := ((hC.publish_axiom σ a f st x hs).mp h).2
    ⟨hE.publish_axiom σ a ▸ hg, isEmb_gU hg⟩
  publish_claim σ a f st x hs _ h :=
    have hg := ((hC.publish_claim σ a f st x hs).mp h).2
    ⟨hE.publish_claim σ a ▸ hg, isEmb_gU hg⟩

/-- what the tracker returns, the checking object returns, given the fuel for its comparisons -/
theorem Checks.complete {M : Nat} {O₁ O₂ : Interp τ} (hC : Checks emb M O₁) (hE : Emits emb M O₂) :
    Follows emb M True O₂ O₁ where
  evar σ x := (hE.evar σ x).trans (hC.evar σ x).symm
  svar σ x := (hE.svar σ x).trans (hC.svar σ x).symm
  symbol σ x := (hE.symbol σ x).trans (hC.symbol σ x).symm
  metavar σ id ef sf ps ns hs := (hE.metavar σ id ef sf ps ns hs).trans (hC.metavar σ id ef sf ps ns hs).symm
  implies σ l r fl fr st x hs hr h :=
    (hC.implies σ l r fl fr st x hs).mpr ⟨(hr trivial).1, (hr trivial).2, hE.implies σ l r ▸ h⟩
  app σ l r fl fr st x hs hr h := (hC.app σ l r fl fr st x hs).mpr ⟨(hr trivial).1, (hr trivial).2, hE.app σ l r ▸ h⟩
  «exists» σ v p f st x hs hr h := (hC.«exists» σ v p f st x hs).mpr ⟨hr trivial, hE.«exists» σ v p ▸ h⟩
  mu σ v p f st x hs hr h := (hC.mu σ v p f st x hs).mpr ⟨hr trivial, hE.mu σ v p ▸ h⟩
  esubst σ v p plug f1 f2 st x hs hm hr h :=
    (hC.esubst σ v p plug f1 f2 st x hs hm).mpr ⟨(hr trivial).1, (hr trivial).2, hE.esubst σ v p plug ▸ h⟩
  ssubst σ v p plug f1 f2 st x hs hm hr h :=
    (hC.ssubst σ v p plug f1 f2 st x hs hm).mpr ⟨(hr trivial).1, (hr trivial).2, hE.ssubst σ v p plug ▸ h⟩
  prop1 σ := (hE.prop1 σ).trans (hC.prop1 σ).symm
  prop2 σ := (hE.prop2 σ).trans (hC.prop2 σ).symm
  prop3 σ := (hE.prop3 σ).trans (hC.prop3 σ).symm
  exists_quantifier σ := (hE.exists_quantifier σ).trans (hC.exists_quantifier σ).symm
  modus_ponens σ l r fl fr st x hs hr h :=
    (hC.modus_ponens σ l r fl fr st x hs).mpr ⟨(hr trivial).1, (hr trivial).2, hE.modus_ponens σ ⟨l⟩ ⟨r⟩ ▸ h⟩
  exists_generalization σ a v f st x hs hr h :=
    (hC.exists_generalization σ a v f st x hs).mpr ⟨hr trivial, hE.exists_generalization σ ⟨a⟩ v ▸ h⟩
  instantiate σ a δ f st st' x hs htp hr h :=
    (hC.instantiate σ a δ f st st' x hs htp).mpr ⟨(hr trivial).1, (hr trivial).2, hE.instantiate σ ⟨a⟩ δ ▸ h⟩
  instantiate_pattern σ a δ f st st' x hs htp hr h :=
    (hC.instantiate_pattern σ a δ f st st' x hs htp).mpr
      ⟨(hr trivial).1, (hr trivial).2, hE.instantiate_pattern σ a δ ▸ h⟩
  save σ i t f st x hs hr h := (hC.save σ i t f st x hs).mpr ⟨hr trivial, hE.save σ i t ▸ h⟩
  load σ i t := (hE.load σ i t).trans (hC.load σ i t).symm
  publish_proof σ t f st x hs hr h :=
    have hg := hE.publish_proof σ ⟨t⟩ ▸ h
    ⟨(hC.publish_proof σ t f st x hs).mpr ⟨hr trivial, hg⟩, isEmb_gU hg⟩
  publish_axiom σ a f st x hs hr h :=
    have hg := hE.publish_axiom σ a ▸ h
    ⟨(hC.publish_axiom σ a f st x hs).mpr ⟨hr trivial, hg⟩, isEmb_gU hg⟩
  publish_claim σ a f st x hs hr h :=
    have hg := hE.publish_claim σ a ▸ h
    ⟨(hC.publish_claim σ a f st x hs).mpr ⟨hr trivial, hg⟩, isEmb_gU hg⟩

end follows

section transfer
variable {τ : Type} (emb : St → τ)

/-- `X₁` followed by anything returns only what `X₂` followed by the same returns — for continuations that are
compared only on the values `P` which `X₁` can return -/
def Trans {α : Type} (X₁ X₂ : Py α) (P : α → Prop) : Prop :=
  ∀ {β : Type} (x : β) (K₁ K₂ : α → Py β), (∀ a, P a → K₁ a = some (some x) → K₂ a = some (some x)) →
    call X₁ K₁ = some (some x) → call X₂ K₂ = some (some x)

theorem trans_of {α : Type} {X₁ X₂ : Py α} {P : α → Prop}
    (h : ∀ a, X₁ = some (some a) → X₂ = some (some a) ∧ P a) : Trans X₁ X₂ P := by
  intro β x K₁ K₂ hK hc
  obtain ⟨a, ha, hk⟩ := call_eq_some hc
  obtain ⟨h2, hP⟩ := h a ha
  rw [h2]
  exact hK a hP hk

theorem Trans.run {α : Type} {X₁ X₂ : Py α} {P : α → Prop} (h : Trans X₁ X₂ P) (a : α)
    (ha : X₁ = some (some a)) : X₂ = some (some a) := by
  have := h (β := α) a (fun y => ret y) (fun y => ret y) (fun _ _ hk => hk) (by rw [ha]; rfl)
  rwa [call_ret] at this

/-- what follows the first call is transferred where the first call can return -/
theorem Trans.bind {α γ : Type} {X₁ X₂ : Py α} {P : α → Prop} (h : Trans X₁ X₂ P) {F₁ F₂ : α → Py γ}
    {Q : γ → Prop} (hF : ∀ a, P a → Trans (F₁ a) (F₂ a) Q) : Trans (call X₁ F₁) (call X₂ F₂) Q := by
  intro β x K₁ K₂ hK hc
  rw [call_assoc] at hc ⊢
  exact h x _ _ (fun a ha => hF a ha x K₁ K₂ hK) hc

variable {M : Nat} {c : Prop} {A B : Interp τ}

/-- whatever `A.pattern` returns, `B.pattern` returns (if `c`: given the fuel for the reflexive comparisons) -/
def PatF (M : Nat) (c : Prop) (A B : Interp τ) : Prop :=
  ∀ σ p x, (c → SubRefl M p) → A.pattern (emb σ) p = some (some x) → B.pattern (emb σ) p = some (some x)

/-- one sub-walk: the value is the pattern, pushed -/
theorem PatF.step (hP : PatF emb M c A B) (hId : PatId emb A) (σ : St) {p : NPat} (hp : c → SubRefl M p) :
    Trans (A.pattern (emb σ) p) (B.pattern (emb σ) p)
      fun y => ∃ σ1 : St, y = (emb σ1, p) ∧ σ1.1.stack = entry p :: σ.1.stack :=
  trans_of fun y hy => by
    obtain ⟨σ1, e1, e2, hs1⟩ := hId σ p y.1 y.2 hy
    exact ⟨hP σ p y hp hy, σ1, Prod.ext e1 e2, hs1⟩

theorem loop_F {α S : Type} (e : St → S) (π : α → NPat) (b₁ b₂ : α → S → Py S) (l : List α)
    (hb : ∀ a ∈ l, ∀ σ : St, Trans (b₁ a (e σ)) (b₂ a (e σ))
      fun s' => ∃ σ1 : St, s' = e σ1 ∧ σ1.1.stack = entry (π a) :: σ.1.stack) :
    ∀ (σ : St) {β : Type} (x : β) (K₁ K₂ : S → Py β),
      (∀ σ' : St, σ'.1.stack = (l.map π).reverse.map entry ++ σ.1.stack → K₁ (e σ') = some (some x) →
        K₂ (e σ') = some (some x)) →
      forEach l (e σ) b₁ K₁ = some (some x) → forEach l (e σ) b₂ K₂ = some (some x) := by
  induction l with
  | nil => intro σ β x K₁ K₂ hK h; exact hK σ (by simp) h
  | cons a r ih =>
    intro σ β x K₁ K₂ hK h
    refine hb a (by simp) σ x (fun s => forEach r s b₁ K₁) (fun s => forEach r s b₂ K₂) ?_ h
    rintro _ ⟨σ1, rfl, hs1⟩ h1
    exact ih (fun a' ha' => hb a' (List.mem_cons_of_mem _ ha')) σ1 x K₁ K₂
      (fun σ' hs' => hK σ' (by rw [hs', hs1]; simp)) h1

theorem walk_F (hP : PatF emb M c A B) (hId : PatId emb A) {β : Type} (l : List NPat) (hl : c → ∀ v ∈ l, SubRefl M v)
    (σ : St) (x : β) (K₁ K₂ : τ → Py β)
    (hK : ∀ σ' : St, σ'.1.stack = l.reverse.map entry ++ σ.1.stack → K₁ (emb σ') = some (some x) →
      K₂ (emb σ') = some (some x)) (h : walkList A l (emb σ) K₁ = some (some x)) :
    walkList B l (emb σ) K₂ = some (some x) := by
  refine loop_F emb (fun v => v) _ _ l (fun a ha σ => ?_) σ x K₁ K₂ (by rwa [List.map_id']) h
  refine Trans.bind (hP.step emb hId σ fun hc => hl hc a ha) fun y hy => trans_of fun s hs => ?_
  obtain ⟨σ1, rfl, hs1⟩ := hy
  exact ⟨hs, σ1, (Option.some.inj (Option.some.inj hs)).symm, hs1⟩

theorem two_F (hP : PatF emb M c A B) (hId : PatId emb A) {β : Type} {σ : St} {a b : NPat} (ha : c → SubRefl M a)
    (hb : c → SubRefl M b) {m₁ m₂ : τ → NPat → NPat → Py β} {x : β}
    (hm : ∀ σ2 : St, σ2.1.stack = (.pat b, false) :: (.pat a, false) :: σ.1.stack →
      m₁ (emb σ2) a b = some (some x) → m₂ (emb σ2) a b = some (some x))
    (h : (call (A.pattern (emb σ) a) fun y => call (A.pattern y.1 b) fun z => m₁ z.1 y.2 z.2) = some (some x)) :
    (call (B.pattern (emb σ) a) fun y => call (B.pattern y.1 b) fun z => m₂ z.1 y.2 z.2) = some (some x) := by
  refine hP.step emb hId σ ha x _ _ ?_ h
  rintro _ ⟨σ1, rfl, hs1⟩ hA
  refine hP.step emb hId σ1 hb x _ _ ?_ hA
  rintro _ ⟨σ2, rfl, hs2⟩ hB
  exact hm σ2 (hs2.trans (by rw [hs1]; rfl)) hB

/-- **one level of `Interpreter.pattern`**: every method is called with the terms that are on the stack -/
theorem body_F (hF : Follows emb M c A B) (hP : PatF emb M c A B) (hId : PatId emb A)
    (σ : St) (p : NPat) (x : τ × NPat) (hp : c → SubRefl M p)
    (h : Interpreter.pattern A (emb σ) p = some (some x)) : Interpreter.pattern B (emb σ) p = some (some x) := by
  cases p with
  | evar v => rwa [pattern_evar, ← hF.evar, ← pattern_evar]
  | svar v => rwa [pattern_svar, ← hF.svar, ← pattern_svar]
  | sym v => rwa [pattern_sym, ← hF.symbol, ← pattern_sym]
  | mv id ef sf ps ns hs => rwa [pattern_mv, ← hF.metavar, ← pattern_mv]
  | imp l r =>
    simp only [SubRefl] at hp
    rw [pattern_imp] at h ⊢
    exact two_F emb hP hId (fun hc => (hp hc).2.1) (fun hc => (hp hc).2.2)
      (fun σ2 hs => hF.implies σ2 l r _ _ _ x hs fun hc => ⟨(hp hc).2.1.self, (hp hc).2.2.self⟩) h
  | app l r =>
    simp only [SubRefl] at hp
    rw [pattern_app] at h ⊢
    exact two_F emb hP hId (fun hc => (hp hc).2.1) (fun hc => (hp hc).2.2)
      (fun σ2 hs => hF.app σ2 l r _ _ _ x hs fun hc => ⟨(hp hc).2.1.self, (hp hc).2.2.self⟩) h
  | ex v q =>
    simp only [SubRefl] at hp
    rw [pattern_ex] at h ⊢
    refine hP.step emb hId σ (fun hc => (hp hc).2) x _ _ ?_ h
    rintro _ ⟨σ1, rfl, hs1⟩ hA
    exact hF.«exists» σ1 v q _ _ x hs1 (fun hc => (hp hc).2.self) hA
  | mu v q =>
    simp only [SubRefl] at hp
    rw [pattern_mu] at h ⊢
    refine hP.step emb hId σ (fun hc => (hp hc).2) x _ _ ?_ h
    rintro _ ⟨σ1, rfl, hs1⟩ hA
    exact hF.mu σ1 v q _ _ x hs1 (fun hc => (hp hc).2.self) hA
  | esub q v plug =>
    simp only [SubRefl] at hp
    rw [pattern_esub] at h ⊢
    refine two_F emb hP hId (fun hc => (hp hc).2.2) (fun hc => (hp hc).2.1)
      (m₁ := fun s vplug vq => assert_ vq.isMetaHead (A.esubst s v vq vplug))
      (m₂ := fun s vplug vq => assert_ vq.isMetaHead (B.esubst s v vq vplug)) (fun σ2 hs hB => ?_) h
    obtain ⟨hm, hB⟩ := assert_some.mp hB
    exact assert_some.mpr ⟨hm, hF.esubst σ2 v q plug _ _ _ x hs hm (fun hc => ⟨(hp hc).2.1.self, (hp hc).2.2.self⟩) hB⟩
  | ssub q v plug =>
    simp only [SubRefl] at hp
    rw [pattern_ssub] at h ⊢
    refine two_F emb hP hId (fun hc => (hp hc).2.2) (fun hc => (hp hc).2.1)
      (m₁ := fun s vplug vq => assert_ vq.isMetaHead (A.ssubst s v vq vplug))
      (m₂ := fun s vplug vq => assert_ vq.isMetaHead (B.ssubst s v vq vplug)) (fun σ2 hs hB => ?_) h
    obtain ⟨hm, hB⟩ := assert_some.mp hB
    exact assert_some.mpr ⟨hm, hF.ssubst σ2 v q plug _ _ _ x hs hm (fun hc => ⟨(hp hc).2.1.self, (hp hc).2.2.self⟩) hB⟩
  | inst q m =>
    simp only [SubRefl] at hp
    have hm := fun hc => subReflMap_iff.mp (hp hc).2.2
    rw [pattern_inst] at h ⊢
    refine walk_F emb hP hId (m.map (·.2)) hm σ x _ _ (fun σ1 hs1 hA => ?_) h
    refine hP.step emb hId σ1 (fun hc => (hp hc).2.1) x _ _ ?_ hA
    rintro _ ⟨σ2, rfl, hs2⟩ hB
    have htp : takePlugs m.length σ1.1.stack = some (m.map (·.2), σ.1.stack) := by
      rw [hs1]; exact takePlugs_vals m _
    exact hF.instantiate_pattern σ2 q m _ _ _ x hs2 htp
      (fun hc => ⟨(hp hc).2.1.self, fun v hv => (hm hc v hv).self⟩) hB

/-- the walk is the identity on `A` as soon as it is on an object that answers as `A` does -/
theorem PatId.of_F (hP : PatF emb M False A B) (hId : PatId emb B) : PatId emb A :=
  fun σ p τ' v h => hId σ p τ' v (hP σ p _ nofun h)

/-- whatever `O₁.pattern` returns, `O₂.pattern` returns -/
def PatS12 (O₁ O₂ : Interp τ) : Prop :=
  ∀ σ p x, O₁.pattern (emb σ) p = some (some x) → O₂.pattern (emb σ) p = some (some x)

/-- whatever `O₂.pattern` returns, `O₁.pattern` returns, given the fuel for the reflexive comparisons -/
def PatC12 (M : Nat) (O₁ O₂ : Interp τ) : Prop :=
  ∀ σ p x, SubRefl M p → O₂.pattern (emb σ) p = some (some x) → O₁.pattern (emb σ) p = some (some x)

theorem PatS12.toF {O₁ O₂ : Interp τ} (h : PatS12 emb O₁ O₂) : PatF emb M False O₁ O₂ :=
  fun σ p x _ hx => h σ p x hx
theorem PatC12.toF {O₁ O₂ : Interp τ} (h : PatC12 emb M O₁ O₂) : PatF emb M True O₂ O₁ :=
  fun σ p x hp hx => h σ p x (hp trivial) hx

end transfer

/-! ## (a) `Interpreter.pattern`: `statefulK` against `trackerK` -/

theorem statefulK_succ (N k : Nat) : (statefulK N (k + 1)).pattern = Interpreter.pattern (statefulK N k) := rfl
theorem statefulK_zero (N : Nat) (σ : St) (p : NPat) : (statefulK N 0).pattern σ p = none := rfl

/-- **sound**: whatever the generated `Interpreter.pattern` returns on the generated `StatefulInterpreter`, it
returns on the tracker object — same fuel, same recursion depth, no hypothesis -/
theorem pattern_S (N : Nat) : ∀ k, PatS12 (fun σ => σ) (statefulK N k) (trackerK N k) := by
  intro k
  induction k with
  | zero => intro σ p x h; rw [statefulK_zero] at h; cases h
  | succ k ih =>
    intro σ p x h
    rw [statefulK_succ] at h
    rw [trackerK_succ]
    exact body_F _ ((checks_statefulK N k).sound (emits_tracker N k)) ih.toF (.of_F _ (M := N) ih.toF (pattern_id N k))
      σ p x nofun h

/-- **complete**: whatever it returns on the tracker object it returns on the generated `StatefulInterpreter`,
given fuel for the reflexive comparisons of the sub-patterns -/
theorem pattern_C (N : Nat) : ∀ k, PatC12 (fun σ => σ) N (statefulK N k) (trackerK N k) := by
  intro k
  induction k with
  | zero => intro σ p x _ h; rw [trackerK_zero] at h; cases h
  | succ k ih =>
    intro σ p x hp h
    rw [trackerK_succ] at h
    rw [statefulK_succ]
    exact body_F _ ((checks_statefulK N k).complete (emits_tracker N k)) ih.toF (pattern_id N k) σ p x (fun _ => hp) h

/-! ## (a') `MemoizingInterpreter.pattern`: `statefulMemoK` against `memoK` -/

theorem statefulMemoK_succ (N k : Nat) (S : List NPat) :
    (statefulMemoK N (k + 1) S).pattern = MemoizingInterpreter.pattern N (statefulI N) S (statefulMemoK N k S) := rfl
theorem statefulMemoK_zero (N : Nat) (S : List NPat) (σ : TrSt St) (p : NPat) :
    (statefulMemoK N 0 S).pattern σ p = none := rfl

/-- the text of `MemoizingInterpreter.pattern` over a stateful sub-interpreter whose `memory` is the tracker's:
a pattern in memory is loaded; otherwise it is walked by the inherited `Interpreter.pattern`, and saved if it is
one of the patterns to memoise -/
def memoText (M : Nat) (S : List NPat) (O : Interp (TrSt St)) (σ : St) (p : NPat) : Py (TrSt St × NPat) :=
  fuel (inMemoryF M p σ.1.memory) fun hit =>
    if hit then call (O.load (embM σ) noStr (.pat p)) fun s => ret (s, p)
    else if inSet p S then
      call (Interpreter.pattern O (embM σ) p) fun y => call (O.save y.1 noStr (.pat p)) fun s => ret (s, y.2)
    else Interpreter.pattern O (embM σ) p

theorem memo_callI (M : Nat) (S : List NPat) (O : Interp (TrSt St)) (σ : St) (p : NPat) :
    MemoizingInterpreter.pattern M (callI M) S O (embM σ) p = memoText M S O σ p := by
  rw [memo_gen, call_eta2 _ _ (fun _ _ => rfl)]; rfl

/-- `isinstance(…, StatefulInterpreter)` holds of the generated `StatefulInterpreter` too -/
theorem memo_statefulI (M : Nat) (S : List NPat) (O : Interp (TrSt St)) (σ : St) (p : NPat) :
    MemoizingInterpreter.pattern M (statefulI M) S O (embM σ) p = memoText M S O σ p :=
  memo_callI M S O σ p

/-- the body-level statement of `PatId` -/
def BodyId (O : Interp (TrSt St)) : Prop :=
  ∀ σ p τ' v, Interpreter.pattern O (embM σ) p = some (some (τ', v)) →
    ∃ σ' : St, τ' = embM σ' ∧ v = p ∧ σ'.1.stack = (.pat p, false) :: σ.1.stack

theorem memo_step_id (S : List NPat) {O : Interp (TrSt St)} {N : Nat} (hE : Emits embM N O) (hb : BodyId O)
    (σ : St) (p : NPat) (τ' : TrSt St) (v : NPat) (h : memoText N S O σ p = some (some (τ', v))) :
    ∃ σ' : St, τ' = embM σ' ∧ v = p ∧ σ'.1.stack = (.pat p, false) :: σ.1.stack := by
  obtain ⟨hit, -, h⟩ := fuel_eq_some h
  cases hit with
  | true =>
    simp only [if_true, hE.load] at h
    obtain ⟨τ1, hu, h⟩ := call_eq_some h
    obtain ⟨rfl, rfl⟩ := Prod.mk.inj (Option.some.inj (Option.some.inj h))
    obtain ⟨s', ht, rfl⟩ := g_some hu
    exact ⟨_, rfl, rfl, tr_load ht⟩
  | false =>
    simp only [Bool.false_eq_true, if_false] at h
    cases hS : inSet p S with
    | true =>
      simp only [hS, if_true] at h
      obtain ⟨⟨τ1, t3⟩, h1, h⟩ := call_eq_some h
      obtain ⟨σ1, rfl, rfl, hs1⟩ := hb _ _ _ _ h1
      rw [hE.save] at h
      obtain ⟨τ2, hu, h⟩ := call_eq_some h
      obtain ⟨rfl, rfl⟩ := Prod.mk.inj (Option.some.inj (Option.some.inj h))
      obtain ⟨s', ht, rfl⟩ := g_some hu
      exact ⟨_, rfl, rfl, (track1_save_stack N _ _ ht).trans hs1⟩
    | false =>
      simp only [hS, Bool.false_eq_true, if_false] at h
      exact hb _ _ _ _ h

theorem memo_pattern_id (N : Nat) (S : List NPat) : ∀ k, PatId embM (memoK N k S) := by
  intro k
  induction k with
  | zero => intro σ p τ' v h; rw [memoK_zero] at h; cases h
  | succ k ih =>
    intro σ p τ' v h
    rw [memoK_succ, memo_callI] at h
    exact memo_step_id S (emits_memo N k S) (body_id embM (emits_memo N k S) ih) σ p τ' v h

/-- one level of `MemoizingInterpreter.pattern` -/
theorem memo_step_F (S : List NPat) {A B : Interp (TrSt St)} {M : Nat} {c : Prop} (hF : Follows embM M c A B)
    (hb : BodyId A)
    (hbF : ∀ σ p x, (c → SubRefl M p) → Interpreter.pattern A (embM σ) p = some (some x) →
      Interpreter.pattern B (embM σ) p = some (some x))
    (σ : St) (p : NPat) (x : TrSt St × NPat) (hp : c → SubRefl M p)
    (h : memoText M S A σ p = some (some x)) : memoText M S B σ p = some (some x) := by
  obtain ⟨hit, hmem, h⟩ := fuel_eq_some h
  simp only [memoText, hmem, fuel]
  cases hit with
  | true => simpa only [if_true, hF.load] using h
  | false =>
    simp only [Bool.false_eq_true, if_false] at h ⊢
    cases hS : inSet p S with
    | true =>
      simp only [hS, if_true] at h ⊢
      obtain ⟨⟨τ1, t3⟩, h1, h⟩ := call_eq_some h
      obtain ⟨σ1, rfl, rfl, hs1⟩ := hb _ _ _ _ h1
      rw [hbF _ _ _ hp h1]
      obtain ⟨y, hy, h⟩ := call_eq_some h
      rw [call_some_some, hF.save σ1 noStr _ _ _ y hs1 (fun hc => (hp hc).self) hy]
      exact h
    | false =>
      simp only [hS, Bool.false_eq_true, if_false] at h ⊢
      exact hbF _ _ _ hp h

/-- **sound**, through the generated `MemoizingInterpreter` -/
theorem memo_pattern_S (N : Nat) (S : List NPat) : ∀ k, PatS12 embM (statefulMemoK N k S) (memoK N k S) := by
  intro k
  induction k with
  | zero => intro σ p x h; rw [statefulMemoK_zero] at h; cases h
  | succ k ih =>
    intro σ p x h
    rw [statefulMemoK_succ, memo_statefulI] at h
    rw [memoK_succ, memo_callI]
    have hF := (checks_statefulMemoK N k S).sound (emits_memo N k S)
    have hId : PatId embM (statefulMemoK N k S) := .of_F _ (M := N) ih.toF (memo_pattern_id N S k)
    have hbF := fun σ p x hp => body_F embM hF ih.toF hId σ p x hp
    exact memo_step_F S hF
      (fun σ p τ' v h => body_id embM (emits_memo N k S) (memo_pattern_id N S k) σ p τ' v (hbF σ p _ nofun h))
      hbF σ p x nofun h

/-- **complete**, through the generated `MemoizingInterpreter` -/
theorem memo_pattern_C (N : Nat) (S : List NPat) : ∀ k, PatC12 embM N (statefulMemoK N k S) (memoK N k S) := by
  intro k
  induction k with
  | zero => intro σ p x _ h; rw [memoK_zero] at h; cases h
  | succ k ih =>
    intro σ p x hp h
    rw [memoK_succ, memo_callI] at h
    rw [statefulMemoK_succ, memo_statefulI]
    have hF := (checks_statefulMemoK N k S).complete (emits_memo N k S)
    exact memo_step_F S hF (body_id embM (emits_memo N k S) (memo_pattern_id N S k))
      (body_F embM hF ih.toF (memo_pattern_id N S k)) σ p x (fun _ => hp) h

/-! ## (c) proof expressions: the thunks of the generated rule constructors -/

section runs
variable {τ : Type} (emb : St → τ)

/-- the loop of `dynamic_inst` on the tracker: the plugs are pushed in the order of `delta.items()`, and every
value of the dict is replaced by itself (the keys are distinct) -/
theorem items_id {O : Interp τ} (ih : PatId emb O) (δ : List (Nat × NPat)) (hnd : (δ.map (·.1)).Nodup) {β}
    (σ : St) (x : β) (K : τ × List (Nat × NPat) → Py β)
    (h : forEach δ (emb σ, δ) (itemsBody O) K = some (some x)) :
    ∃ σ' : St, σ'.1.stack = (δ.map (·.2)).reverse.map entry ++ σ.1.stack ∧ K (emb σ', δ) = some (some x) := by
  refine loop_id (fun σ => (emb σ, δ)) (·.2) _ δ (fun kp hkp σ K x h => ?_) σ x K h
  obtain ⟨k0, p⟩ := kp
  have h : call (O.pattern (emb σ) p) (fun y => K (y.1, dictSet δ k0 y.2)) = some (some x) := by
    rw [← h]; show _ = call (call _ _) K; rw [call_assoc]; rfl
  obtain ⟨σ1, hs1, -, hA⟩ := step_id emb ih h
  rw [dictSet_self δ hnd k0 p hkp] at hA
  exact ⟨σ1, hs1, hA⟩

/-- the `Proved` a thunk returns is the one new entry on the stack -/
def RunTop (N : Nat) (O : Interp τ) (t : ProofThunk τ) : Prop :=
  ∀ (σ : St) (τ' : τ) (pr : Proved), ProofThunk.__call__ N t O (emb σ) = some (some (τ', pr)) →
    ∃ σ' : St, τ' = emb σ' ∧ σ'.1.stack = (.proved pr.conclusion, false) :: σ.1.stack

theorem step_top {N : Nat} {O : Interp τ} {t : ProofThunk τ} (ht : RunTop emb N O t) {β} {σ : St}
    {K : τ × Proved → Py β} {x : β} (h : call (ProofThunk.__call__ N t O (emb σ)) K = some (some x)) :
    ∃ (σ1 : St) (pr : Proved), σ1.1.stack = (.proved pr.conclusion, false) :: σ.1.stack ∧
      K (emb σ1, pr) = some (some x) := by
  obtain ⟨⟨τ1, pr⟩, h1, hK⟩ := call_eq_some h
  obtain ⟨σ1, rfl, hs1⟩ := ht _ _ _ h1
  exact ⟨σ1, pr, hs1, hK⟩

/-- an axiom rule: the method emits a call that pushes a `Proved` -/
theorem ax_top {N M : Nat} {O : Interp τ} {m : Interp τ → τ → Py (τ × Proved)} {cl : Call}
    (hm : ∀ σ, m O (emb σ) = gT emb M σ cl)
    (hcl : cl = .prop1 ∨ cl = .prop2 ∨ cl = .prop3 ∨ cl = .quantifier) (c : NPat) : RunTop emb N O ⟨axExpr m, c⟩ := by
  intro σ τ' pr h
  obtain ⟨hexpr, -⟩ := (thunk_call_some N _ O _ _).mp h
  simp only [axExpr] at hexpr
  rw [call_eta2 _ _ (fun _ _ => rfl), hm] at hexpr
  exact gT_top emb (tr_axiom hcl) hexpr

theorem _root_.ProofTie.Built.top {O : Interp τ} {N M : Nat} {ax : List NPat} (hE : Emits emb M O) (hId : PatId emb O)
    {pf : Pf} {t : ProofThunk τ} (hb : Built N ax pf t) : KeysNodup pf → RunTop emb N O t := by
  induction hb with
  | prop1 => exact fun _ => ax_top emb hE.prop1 (.inl rfl) _
  | prop2 => exact fun _ => ax_top emb hE.prop2 (.inr (.inl rfl)) _
  | prop3 => exact fun _ => ax_top emb hE.prop3 (.inr (.inr (.inl rfl))) _
  | quantifier => exact fun _ => ax_top emb hE.exists_quantifier (.inr (.inr (.inr rfl))) _
  | load _ =>
    intro _ σ τ' pr h
    obtain ⟨hexpr, -⟩ := (thunk_call_some N _ O _ _).mp h
    simp only [loadExpr, hE.load] at hexpr
    obtain ⟨τ1, hu, hexpr⟩ := call_eq_some hexpr
    obtain ⟨rfl, rfl⟩ := Prod.mk.inj (Option.some.inj (Option.some.inj hexpr))
    obtain ⟨s', htr, rfl⟩ := g_some hu
    exact ⟨_, rfl, tr_load htr⟩
  | mp _ _ _ ihl ihr =>
    intro hk σ τ' pr h
    obtain ⟨hexpr, -⟩ := (thunk_call_some N _ O _ _).mp h
    obtain ⟨σ1, p1, hs1, hA⟩ := step_top emb (ihl hk.1) hexpr
    obtain ⟨σ2, p2, hs2, hB⟩ := step_top emb (ihr hk.2) hA
    dsimp only at hB
    rw [call_eta2 _ _ (fun _ _ => rfl), hE.modus_ponens] at hB
    exact gT_top emb (tr_mp (hs2.trans (by rw [hs1]))) hB
  | gen _ _ ih =>
    intro hk σ τ' pr h
    obtain ⟨hexpr, -⟩ := (thunk_call_some N _ O _ _).mp h
    obtain ⟨σ1, p1, hs1, hA⟩ := step_top emb (ih hk) hexpr
    dsimp only at hA
    rw [call_eta2 _ _ (fun _ _ => rfl), hE.exists_generalization] at hA
    exact gT_top emb (tr_gen hs1) hA
  | dynEmpty _ _ ih => exact fun hk => ih hk.1
  | @dyn p tp δ q _ hδ _ ih =>
    intro hk σ τ' pr h
    obtain ⟨hexpr, -⟩ := (thunk_call_some N _ O _ _).mp h
    obtain ⟨σ1, hs1, hK⟩ := items_id emb hId δ hk.2 σ _ _ hexpr
    obtain ⟨σ2, p2, hs2, hB⟩ := step_top emb (ih hk.1) hK
    dsimp only at hB
    rw [call_eta2 _ _ (fun _ _ => rfl), hE.instantiate] at hB
    have htp : takePlugs (δ.map (·.1)).length σ1.1.stack = some (δ.map (·.2), σ.1.stack) := by
      rw [hs1, List.length_map]; exact takePlugs_vals δ _
    have hke : (δ.map (·.1)).isEmpty = false := by cases δ <;> simp_all
    exact gT_top emb (tr_inst hke hs2 htp) hB

/-- **the calling convention for proofs**: the `Proved` a thunk of the generated rule constructors returns on the
tracker is the one new entry on top of the stack -/
theorem run_top {O : Interp τ} {N M : Nat} (ax : List NPat) (hE : Emits emb M O) (hId : PatId emb O) :
    ∀ (pf : Pf), KeysNodup pf → ∀ (t : ProofThunk τ), build N ax pf = some (some t) → RunTop emb N O t :=
  fun pf hk t ht => (built_of_build ht).top emb hE hId hk

/-- whatever the thunk returns on `O₁` it returns on `O₂` -/
def RunS (N : Nat) (O₁ O₂ : Interp τ) (t : ProofThunk τ) : Prop :=
  ∀ (σ : St) (x : τ × Proved), ProofThunk.__call__ N t O₁ (emb σ) = some (some x) →
    ProofThunk.__call__ N t O₂ (emb σ) = some (some x)

theorem RunS.of_expr {N : Nat} {O₁ O₂ : Interp τ} {t : ProofThunk τ}
    (h : ∀ (σ : St) x, t._expr N O₁ (emb σ) = some (some x) → t._expr N O₂ (emb σ) = some (some x)) :
    RunS emb N O₁ O₂ t := by
  intro σ x hx
  obtain ⟨hexpr, hpeq⟩ := (thunk_call_some N t O₁ _ _).mp hx
  exact (thunk_call_some N t O₂ _ _).mpr ⟨h σ x hexpr, hpeq⟩

/-- a sub-proof: its `Proved` is pushed -/
theorem RunS.step {N : Nat} {A B : Interp τ} {t : ProofThunk τ} (hS : RunS emb N A B t) (ht : RunTop emb N A t)
    (σ : St) : Trans (ProofThunk.__call__ N t A (emb σ)) (ProofThunk.__call__ N t B (emb σ))
      fun y => ∃ σ1 : St, y.1 = emb σ1 ∧ σ1.1.stack = (.proved y.2.conclusion, false) :: σ.1.stack ∧
        ProofThunk.__call__ N t A (emb σ) = some (some y) :=
  trans_of fun y hy => by
    obtain ⟨σ1, e1, hs1⟩ := ht σ y.1 y.2 hy
    exact ⟨hS σ y hy, σ1, e1, hs1, hy⟩

theorem RunTop.of_S {N : Nat} {A B : Interp τ} {t : ProofThunk τ} (hS : RunS emb N A B t) (ht : RunTop emb N B t) :
    RunTop emb N A t := fun σ τ' pr h => ht σ τ' pr (hS σ _ h)

/-- every conclusion the thunk of `pf` returns on `O` (from any state) self-compares within fuel `M` -/
def OwnRefl (M N : Nat) (ax : List NPat) (O : Interp τ) (pf : Pf) : Prop :=
  ∀ (t : ProofThunk τ) (σ : St) (τ' : τ) (pr : Proved), build N ax pf = some (some t) →
    ProofThunk.__call__ N t O (emb σ) = some (some (τ', pr)) → Refl M (.proved pr.conclusion)

/-- fuel for the reflexive comparisons of a run of `pf`: the conclusions of the sub-proofs a rule consumes, and
the sub-patterns of the plugs -/
def ConcsRefl (M N : Nat) (ax : List NPat) (O : Interp τ) : Pf → Prop
  | .mp l r => ConcsRefl M N ax O l ∧ ConcsRefl M N ax O r ∧ OwnRefl emb M N ax O l ∧ OwnRefl emb M N ax O r
  | .gen p _ => ConcsRefl M N ax O p ∧ OwnRefl emb M N ax O p
  | .dynInst p δ => ConcsRefl M N ax O p ∧ (δ.isEmpty = false → OwnRefl emb M N ax O p ∧ SubReflMap M δ)
  | _ => True

/-- **proof expressions**: whatever a thunk built by the generated rule constructors returns on `A`, it returns on
`B` — every rule method is called with the `Proved` terms (and the plugs) that are on the stack.  `hTop`: the
calling convention on `A` for a thunk whose run is already transferred. -/
theorem run_F {A B : Interp τ} {N M : Nat} {c : Prop} (ax : List NPat) (hF : Follows emb M c A B)
    (hId : PatId emb A) (hP : PatF emb M c A B)
    (hTop : ∀ pf (t : ProofThunk τ), KeysNodup pf → build N ax pf = some (some t) → RunS emb N A B t →
      RunTop emb N A t) :
    ∀ (pf : Pf), KeysNodup pf → (c → ConcsRefl emb M N ax A pf) → ∀ (t : ProofThunk τ),
      build N ax pf = some (some t) → RunS emb N A B t := by
  intro pf
  induction pf with
  | mp l r ihl ihr =>
    intro hk hr' t ht
    simp only [ConcsRefl] at hr'
    obtain ⟨tl, hl, ht⟩ := call_eq_some ht
    obtain ⟨tr, hr, ht⟩ := call_eq_some ht
    rw [mp_eq] at ht
    obtain ⟨q, -, rfl⟩ := pmap_some_some ht
    have hSl := ihl hk.1 (fun hc => (hr' hc).1) tl hl
    have hSr := ihr hk.2 (fun hc => (hr' hc).2.1) tr hr
    refine .of_expr emb fun σ x h => ?_
    refine hSl.step emb (hTop l tl hk.1 hl hSl) σ x _ _ ?_ h
    rintro ⟨_, p1⟩ ⟨σ1, rfl, hs1, h1⟩ hA
    refine hSr.step emb (hTop r tr hk.2 hr hSr) σ1 x _ _ ?_ hA
    rintro ⟨_, p2⟩ ⟨σ2, rfl, hs2, h2⟩ hB
    dsimp only at hB ⊢
    rw [call_eta2 _ _ (fun _ _ => rfl)] at hB ⊢
    exact hF.modus_ponens σ2 p1.conclusion p2.conclusion _ _ _ x (hs2.trans (by rw [hs1]))
      (fun hc => ⟨(hr' hc).2.2.1 tl σ _ p1 hl h1, (hr' hc).2.2.2 tr σ1 _ p2 hr h2⟩) hB
  | gen p v ih =>
    intro hk hr' t ht
    simp only [ConcsRefl] at hr'
    obtain ⟨tp, hp, ht⟩ := call_eq_some ht
    rw [gen_eq] at ht
    obtain ⟨q, -, rfl⟩ := pmap_some_some ht
    have hSp := ih hk (fun hc => (hr' hc).1) tp hp
    refine .of_expr emb fun σ x h => ?_
    refine hSp.step emb (hTop p tp hk hp hSp) σ x _ _ ?_ h
    rintro ⟨_, p1⟩ ⟨σ1, rfl, hs1, h1⟩ hA
    dsimp only at hA ⊢
    rw [call_eta2 _ _ (fun _ _ => rfl)] at hA ⊢
    exact hF.exists_generalization σ1 p1.conclusion v _ _ x hs1 (fun hc => (hr' hc).2 tp σ _ p1 hp h1) hA
  | dynInst p δ ih =>
    intro hk hr' t ht
    simp only [ConcsRefl] at hr'
    obtain ⟨tp, hp, ht⟩ := call_eq_some ht
    rw [dyn_eq] at ht
    have hSp := ih hk.1 (fun hc => (hr' hc).1) tp hp
    cases hδ : δ.isEmpty with
    | true =>
      simp only [hδ, if_true, Option.some.injEq] at ht; subst ht
      exact hSp
    | false =>
      simp only [hδ, Bool.false_eq_true, if_false] at ht
      obtain ⟨q, -, rfl⟩ := pmap_some_some ht
      have hplugs := fun hc => subReflMap_iff.mp ((hr' hc).2 hδ).2
      refine .of_expr emb fun σ x h => ?_
      refine loop_F (fun σ => (emb σ, δ)) (·.2) _ _ δ (fun kp hkp σ => ?_) σ x _ _ (fun σ1 hs1 hK => ?_) h
      · -- one plug: walked, and put back into the dict unchanged
        obtain ⟨k0, p0⟩ := kp
        refine Trans.bind (hP.step emb hId σ fun hc => hplugs hc p0 (List.mem_map.mpr ⟨_, hkp, rfl⟩))
          fun y hy => trans_of fun s hs => ?_
        obtain ⟨σ1, rfl, hs1⟩ := hy
        cases hs
        exact ⟨rfl, σ1, by rw [dictSet_self δ hk.2 k0 p0 hkp], hs1⟩
      · refine hSp.step emb (hTop p tp hk.1 hp hSp) σ1 x _ _ ?_ hK
        rintro ⟨_, p2⟩ ⟨σ2, rfl, hs2, h2⟩ hB
        dsimp only at hB ⊢
        rw [call_eta2 _ _ (fun _ _ => rfl)] at hB ⊢
        have htp : takePlugs δ.length σ1.1.stack = some (δ.map (·.2), σ.1.stack) := by
          rw [hs1]; exact takePlugs_vals δ _
        exact hF.instantiate σ2 p2.conclusion δ _ _ _ x hs2 htp
          (fun hc => ⟨((hr' hc).2 hδ).1 tp σ1 _ p2 hp h2, fun v hv => (hplugs hc v hv).self⟩) hB
  | loadAxiom a =>
    intro _ _ t ht
    cases built_of_build ht
    exact .of_expr emb fun σ x h => by simpa only [loadExpr, hF.load] using h
  | prop1 => intro _ _ t ht; cases ht; exact .of_expr emb fun σ x h => by simpa only [prop1_eq, axExpr, hF.prop1] using h
  | prop2 => intro _ _ t ht; cases ht; exact .of_expr emb fun σ x h => by simpa only [prop2_eq, axExpr, hF.prop2] using h
  | prop3 => intro _ _ t ht; cases ht; exact .of_expr emb fun σ x h => by simpa only [prop3_eq, axExpr, hF.prop3] using h
  | quantifier =>
    intro _ _ t ht; cases ht
    exact .of_expr emb fun σ x h => by simpa only [quant_eq, axExpr, hF.exists_quantifier] using h

/-- **sound, proof expressions**: whatever a thunk built by the generated rule constructors returns on the
checking object, it returns on the tracker -/
theorem run_S {O₁ O₂ : Interp τ} {N M : Nat} (ax : List NPat) (hC : Checks emb M O₁) (hE : Emits emb M O₂)
    (hId : PatId emb O₂) (hS : PatS12 emb O₁ O₂) :
    ∀ (pf : Pf), KeysNodup pf → ∀ (t : ProofThunk τ), build N ax pf = some (some t) → RunS emb N O₁ O₂ t :=
  fun pf hk => run_F emb ax (hC.sound hE) (.of_F emb (M := M) hS.toF hId) hS.toF
    (fun pf t hk ht hS' => .of_S emb hS' (run_top emb ax hE hId pf hk t ht)) pf hk nofun

/-- whatever the thunk returns on `O₂` it returns on `O₁` -/
def RunC (N : Nat) (O₁ O₂ : Interp τ) (t : ProofThunk τ) : Prop := RunS emb N O₂ O₁ t

/-- **complete, proof expressions**: whatever a thunk built by the generated rule constructors returns on the
tracker it returns on the checking object, given the fuel for the reflexive comparisons -/
theorem run_C {O₁ O₂ : Interp τ} {N M : Nat} (ax : List NPat) (hC : Checks emb M O₁) (hE : Emits emb M O₂)
    (hId : PatId emb O₂) (hCp : PatC12 emb M O₁ O₂) :
    ∀ (pf : Pf), KeysNodup pf → ConcsRefl emb M N ax O₂ pf → ∀ (t : ProofThunk τ),
      build N ax pf = some (some t) → RunC emb N O₁ O₂ t :=
  fun pf hk hr => run_F emb ax (hC.complete hE) hId hCp.toF
    (fun pf t hk ht _ => run_top emb ax hE hId pf hk t ht) pf hk (fun _ => hr)

end runs

/-! ## (b) the phases of `ProofExp` -/

section phases
variable {τ : Type} (emb : St → τ)

theorem forEach_call {α σ' β γ : Type} (l : List α) (s : σ') (b : α → σ' → Py σ') (K : σ' → Py β) (K' : β → Py γ) :
    call (forEach l s b K) K' = forEach l s b (fun s => call (K s) K') := by
  induction l generalizing s with
  | nil => rfl
  | cons a r ih =>
    simp only [forEach, call_assoc]
    congr 1
    funext s1
    exact ih s1

/-- a loop, body by body -/
theorem forEach_trans {α : Type} (l : List α) (b₁ b₂ : α → τ → Py τ)
    (hb : ∀ a ∈ l, ∀ σ : St, Trans (b₁ a (emb σ)) (b₂ a (emb σ)) (IsEmb emb)) :
    ∀ (σ : St) {β : Type} (x : β) (K₁ K₂ : τ → Py β),
      (∀ σ' : St, K₁ (emb σ') = some (some x) → K₂ (emb σ') = some (some x)) →
      forEach l (emb σ) b₁ K₁ = some (some x) → forEach l (emb σ) b₂ K₂ = some (some x) := by
  induction l with
  | nil => intro σ β x K₁ K₂ hK h; exact hK σ h
  | cons a r ih =>
    intro σ β x K₁ K₂ hK h
    have ihr := ih (fun a' ha' => hb a' (List.mem_cons_of_mem _ ha'))
    refine hb a (by simp) σ x (fun s => forEach r s b₁ K₁) (fun s => forEach r s b₂ K₂) ?_ h
    rintro _ ⟨σ1, rfl⟩ h1
    exact ihr σ1 x K₁ K₂ hK h1

theorem trans_gU {M : Nat} (σ : St) (c : Call) : Trans (gU emb M σ c) (gU emb M σ c) (IsEmb emb) :=
  trans_of (fun a ha => ⟨ha, isEmb_gU ha⟩)

/-- `interpreter.publish_*(interpreter.pattern(a))`: `publish_*` is called with the pattern on top of the stack -/
theorem pubBody_F {M : Nat} {c : Prop} {A B : Interp τ} (hP : PatF emb M c A B) (hId : PatId emb A)
    (pub₁ pub₂ : τ → NPat → Py τ)
    (hp : ∀ (σ : St) a f st y, σ.1.stack = (.pat a, f) :: st → (c → Refl M (.pat a)) →
      pub₁ (emb σ) a = some (some y) → pub₂ (emb σ) a = some (some y) ∧ IsEmb emb y)
    (a : NPat) (ha : c → SubRefl M a) (σ : St) :
    Trans (pubBody A pub₁ a (emb σ)) (pubBody B pub₂ a (emb σ)) (IsEmb emb) := by
  refine Trans.bind (hP.step emb hId σ ha) fun y hy => trans_of fun s hs => ?_
  obtain ⟨σ1, rfl, hs1⟩ := hy
  dsimp only at hs ⊢
  rw [call_ret] at hs ⊢
  exact hp σ1 a _ _ s hs1 (fun hc => (ha hc).self) hs

theorem assert_call {α β : Type} (c : Bool) (k : Py α) (K : α → Py β) :
    call (assert_ c k) K = assert_ c (call k K) := by
  cases c <;> rfl


/-- an object whose phase changes and `phase` attribute are the tracker's -/
structure PhaseLike (M : Nat) (O : Interp τ) : Prop where
  phase : ∀ σ, O.phase (emb σ) = σ.1.phase
  into_claim_phase : ∀ σ, O.into_claim_phase (emb σ) = gU emb M σ .intoClaim
  into_proof_phase : ∀ σ, O.into_proof_phase (emb σ) = gU emb M σ .intoProof

theorem Checks.phaseLike {M : Nat} {O : Interp τ} (h : Checks emb M O) : PhaseLike emb M O :=
  ⟨h.phase, h.into_claim_phase, h.into_proof_phase⟩
theorem _root_.ProofTie.Emits.phaseLike {M : Nat} {O : Interp τ} (h : Emits emb M O) : PhaseLike emb M O :=
  ⟨h.phase, h.into_claim_phase, h.into_proof_phase⟩

/-- the phase change at the end of a phase, for two methods that both emit the call `c` -/
theorem moveTail_trans {M : Nat} {c : Call} {into₁ into₂ : τ → Py τ} (h₁ : ∀ σ, into₁ (emb σ) = gU emb M σ c)
    (h₂ : ∀ σ, into₂ (emb σ) = gU emb M σ c) (mv : Bool) (σ : St) :
    Trans (moveTail into₁ mv (emb σ)) (moveTail into₂ mv (emb σ)) (IsEmb emb) := by
  refine trans_of (fun y hy => ?_)
  cases mv with
  | false =>
    simp only [moveTail, Bool.false_eq_true, if_false, ret, call_some_some, Option.some.injEq] at hy ⊢
    exact ⟨hy, σ, hy.symm⟩
  | true =>
    simp only [moveTail, if_true, call_ret, h₁, h₂] at hy ⊢
    exact ⟨hy, isEmb_gU hy⟩

/-- **`execute_gamma_phase`, from `Oa` to `Ob`**, given the transfer of the publishing loop body for every axiom
of the module tree (`hpub`, up to depth `D`) -/
theorem gamma_trans {M : Nat} {Oa Ob : Interp τ} (ha : PhaseLike emb M Oa) (hb : PhaseLike emb M Ob)
    (Good : NPat → Prop)
    (hpub : ∀ a, Good a → ∀ σ : St, Trans (pubBody Oa Oa.publish_axiom a (emb σ)) (pubBody Ob Ob.publish_axiom a (emb σ))
      (IsEmb emb))
    (GoodE : Nat → ProofExp τ → Prop)
    (hG : ∀ D ax cl th subs, GoodE (D + 1) (.mk ax cl th subs) → (∀ a ∈ ax, Good a) ∧ ∀ e ∈ subs, GoodE D e) :
    ∀ (D : Nat) (E : ProofExp τ), GoodE D E → ∀ (σ : St) (mv : Bool),
      Trans (ProofExp.execute_gamma_phase D E Oa (emb σ) mv) (ProofExp.execute_gamma_phase D E Ob (emb σ) mv)
        (IsEmb emb) := by
  intro D
  induction D with
  | zero =>
    intro E _ σ mv β x K₁ K₂ _ h
    simp [ProofExp.execute_gamma_phase, call] at h
  | succ D ih =>
    intro E hE σ mv β x K₁ K₂ hK h
    obtain ⟨ax, cl, th, subs⟩ := E
    obtain ⟨hax, hsubs⟩ := hG D ax cl th subs hE
    rw [gamma_unfold, assert_call, ha.phase] at h
    rw [gamma_unfold, assert_call, hb.phase]
    obtain ⟨hph, h⟩ := assert_some.mp h
    refine assert_some.mpr ⟨hph, ?_⟩
    rw [forEach_call] at h ⊢
    refine forEach_trans emb subs _ _ (fun e he σ1 => ?_) σ x _ _ (fun σ1 h1 => ?_) h
    · -- a submodule
      intro β' x' K₁' K₂' hK' h'
      rw [call_assoc] at h' ⊢
      exact ih e (hsubs e he) σ1 false x' _ _ (fun a hP hk => hK' a hP hk) h'
    · -- the module's own axioms, then the phase change
      rw [forEach_call] at h1 ⊢
      refine forEach_trans emb ax _ _ (fun a hmem σ2 => hpub a (hax a hmem) σ2) σ1 x _ _ (fun σ2 h2 => ?_) h1
      exact moveTail_trans emb ha.into_claim_phase hb.into_claim_phase mv σ2 x K₁ K₂ hK h2

/-- `execute_claims_phase`, from `Oa` to `Ob` -/
theorem claims_trans {M : Nat} {Oa Ob : Interp τ} (ha : PhaseLike emb M Oa) (hb : PhaseLike emb M Ob)
    (E : ProofExp τ)
    (hpub : ∀ a ∈ E._claims, ∀ σ : St, Trans (pubBody Oa Oa.publish_claim a (emb σ))
      (pubBody Ob Ob.publish_claim a (emb σ)) (IsEmb emb)) (σ : St) (mv : Bool) :
    Trans (ProofExp.execute_claims_phase E Oa (emb σ) mv) (ProofExp.execute_claims_phase E Ob (emb σ) mv)
      (IsEmb emb) := by
  intro β x K₁ K₂ hK h
  obtain ⟨ax, cl, th, subs⟩ := E
  rw [claims_unfold, assert_call, ha.phase] at h
  rw [claims_unfold, assert_call, hb.phase]
  obtain ⟨hph, h⟩ := assert_some.mp h
  refine assert_some.mpr ⟨hph, ?_⟩
  rw [forEach_call] at h ⊢
  refine forEach_trans emb cl.reverse _ _ (fun a hmem σ2 => hpub a (by simpa [ProofExp._claims] using hmem) σ2)
    σ x _ _ (fun σ2 h2 => ?_) h
  exact moveTail_trans emb ha.into_proof_phase hb.into_proof_phase mv σ2 x K₁ K₂ hK h2

theorem proofBody_iff (N : Nat) (O : Interp τ) (t : ProofThunk τ) (s s2 : τ) :
    proofBody N O t s = some (some s2) ↔
      ∃ s1 pr, ProofThunk.__call__ N t O s = some (some (s1, pr)) ∧ O.publish_proof s1 pr = some (some s2) ∧
        NPat.peqF N t.conc t.conc = some true := by
  constructor
  · intro h
    simp only [proofBody] at h
    obtain ⟨⟨s2', pr2⟩, hc, h⟩ := call_eq_some h
    simp only [ret, Option.some.injEq] at h
    subst h
    obtain ⟨hexpr, hself⟩ := (thunk_call_some N _ O s _).mp hc
    simp only [ProofExp.publish_proof] at hexpr
    obtain ⟨⟨s1, pr⟩, h1, hexpr⟩ := call_eq_some hexpr
    obtain ⟨s2'', h2, hexpr⟩ := call_eq_some hexpr
    simp only [ret, Option.some.injEq, Prod.mk.injEq] at hexpr
    obtain ⟨rfl, rfl⟩ := hexpr
    exact ⟨s1, pr, h1, h2, hself⟩
  · rintro ⟨s1, pr, h1, h2, hself⟩
    exact proofBody_eq N O t s s1 s2 pr h1 h2 hself

/-- `execute_proofs_phase`, from `Oa` to `Ob`, given the transfer of one round of the loop for every thunk -/
theorem proofs_trans {M : Nat} {Oa Ob : Interp τ} (ha : PhaseLike emb M Oa) (hb : PhaseLike emb M Ob) (N : Nat)
    (E : ProofExp τ)
    (hbody : ∀ t ∈ E._proof_expressions, ∀ σ : St, Trans (proofBody N Oa t (emb σ)) (proofBody N Ob t (emb σ))
      (IsEmb emb)) (σ : St) :
    Trans (ProofExp.execute_proofs_phase N E Oa (emb σ)) (ProofExp.execute_proofs_phase N E Ob (emb σ))
      (IsEmb emb) := by
  intro β x K₁ K₂ hK h
  obtain ⟨ax, cl, th, subs⟩ := E
  rw [proofs_unfold, assert_call, ha.phase] at h
  rw [proofs_unfold, assert_call, hb.phase]
  obtain ⟨hph, h⟩ := assert_some.mp h
  refine assert_some.mpr ⟨hph, ?_⟩
  rw [forEach_call] at h ⊢
  refine forEach_trans emb th _ _ (fun t hmem σ2 => hbody t (by simpa [ProofExp._proof_expressions] using hmem) σ2)
    σ x _ _ (fun σ2 h2 => ?_) h
  exact hK _ ⟨σ2, rfl⟩ h2

/-- **`execute_full`, from `Oa` to `Ob`** -/
theorem full_trans {M : Nat} {Oa Ob : Interp τ} (ha : PhaseLike emb M Oa) (hb : PhaseLike emb M Ob) (N : Nat)
    (E : ProofExp τ)
    (hg : ∀ σ : St, Trans (ProofExp.execute_gamma_phase N E Oa (emb σ) true)
      (ProofExp.execute_gamma_phase N E Ob (emb σ) true) (IsEmb emb))
    (hc : ∀ a ∈ E._claims, ∀ σ : St, Trans (pubBody Oa Oa.publish_claim a (emb σ))
      (pubBody Ob Ob.publish_claim a (emb σ)) (IsEmb emb))
    (hbody : ∀ t ∈ E._proof_expressions, ∀ σ : St, Trans (proofBody N Oa t (emb σ)) (proofBody N Ob t (emb σ))
      (IsEmb emb)) (σ : St) (y : τ)
    (h : ProofExp.execute_full N E Oa (emb σ) = some (some y)) :
    ProofExp.execute_full N E Ob (emb σ) = some (some y) := by
  rw [full_unfold, ha.phase] at h
  rw [full_unfold, hb.phase]
  obtain ⟨hph, h⟩ := assert_some.mp h
  refine assert_some.mpr ⟨hph, ?_⟩
  refine hg σ y _ _ ?_ h
  rintro _ ⟨σ1, rfl⟩ h1
  refine claims_trans emb ha hb E hc σ1 true y _ _ ?_ h1
  rintro _ ⟨σ2, rfl⟩ h2
  refine proofs_trans emb ha hb N E hbody σ2 y _ _ ?_ h2
  rintro _ _ h3
  exact h3

/-- one round of the proof loop (`self.publish_proof(proof_expr)(interpreter)`): `publish_proof` is called with
the `Proved` on top of the stack -/
theorem proofBody_F {M N : Nat} {c : Prop} {A B : Interp τ} (hF : Follows emb M c A B) (t : ProofThunk τ)
    (hS : RunS emb N A B t) (ht : RunTop emb N A t)
    (hown : c → ∀ (σ : St) τ' pr, ProofThunk.__call__ N t A (emb σ) = some (some (τ', pr)) →
      Refl M (.proved pr.conclusion)) (σ : St) :
    Trans (proofBody N A t (emb σ)) (proofBody N B t (emb σ)) (IsEmb emb) := by
  refine trans_of (fun y hy => ?_)
  obtain ⟨s1, pr, hcall, hpub, hself⟩ := (proofBody_iff N A t _ _).mp hy
  obtain ⟨σ1, rfl, hs1⟩ := ht _ _ _ hcall
  obtain ⟨hpub', hy'⟩ := hF.publish_proof σ1 pr.conclusion _ _ y hs1 (fun hc => hown hc σ _ pr hcall) hpub
  exact ⟨(proofBody_iff N B t _ _).mpr ⟨_, pr, hS _ _ hcall, hpub', hself⟩, hy'⟩

/-- **sound, `execute_full`**: whatever the three phases return on the checking object they return on the
tracker -/
theorem full_S {M N : Nat} {O₁ O₂ : Interp τ} (hC : Checks emb M O₁) (hE : Emits emb M O₂) (hId : PatId emb O₂)
    (hS : PatS12 emb O₁ O₂) (E : ProofExp τ)
    (hT : ∀ t ∈ E._proof_expressions, RunS emb N O₁ O₂ t ∧ RunTop emb N O₂ t) (σ : St) (y : τ)
    (h : ProofExp.execute_full N E O₁ (emb σ) = some (some y)) :
    ProofExp.execute_full N E O₂ (emb σ) = some (some y) := by
  have hF := hC.sound hE
  have hId' : PatId emb O₁ := .of_F emb (M := M) hS.toF hId
  refine full_trans emb (hC.phaseLike emb) (hE.phaseLike emb) N E (fun σ => ?_) (fun a _ σ => ?_) (fun t ht σ => ?_) σ y h
  · exact gamma_trans emb (hC.phaseLike emb) (hE.phaseLike emb) (fun _ => True)
      (fun a _ σ => pubBody_F emb hS.toF hId' _ _ hF.publish_axiom a nofun σ)
      (fun _ _ => True) (fun _ _ _ _ _ _ => ⟨fun _ _ => trivial, fun _ _ => trivial⟩) N E trivial σ true
  · exact pubBody_F emb hS.toF hId' _ _ hF.publish_claim a nofun σ
  · exact proofBody_F emb hF t (hT t ht).1 (.of_S emb (hT t ht).1 (hT t ht).2) nofun σ

/-- the axioms of a `ProofExp` tree (to depth `D`) have fuel for their reflexive comparisons -/
def AxRefl (M : Nat) : Nat → ProofExp τ → Prop
  | 0, _ => True
  | D + 1, .mk ax _ _ subs => (∀ a ∈ ax, SubRefl M a) ∧ ∀ e ∈ subs, AxRefl M D e

/-- **complete, `execute_full`** -/
theorem full_C {M N : Nat} {O₁ O₂ : Interp τ} (hC : Checks emb M O₁) (hE : Emits emb M O₂) (hId : PatId emb O₂)
    (hCp : PatC12 emb M O₁ O₂) (E : ProofExp τ) (hAx : AxRefl M N E) (hCl : ∀ c ∈ E._claims, SubRefl M c)
    (hT : ∀ t ∈ E._proof_expressions, RunC emb N O₁ O₂ t ∧ RunTop emb N O₂ t ∧
      ∀ (σ : St) τ' pr, ProofThunk.__call__ N t O₂ (emb σ) = some (some (τ', pr)) → Refl M (.proved pr.conclusion))
    (σ : St) (y : τ) (h : ProofExp.execute_full N E O₂ (emb σ) = some (some y)) :
    ProofExp.execute_full N E O₁ (emb σ) = some (some y) := by
  have hF := hC.complete hE
  refine full_trans emb (hE.phaseLike emb) (hC.phaseLike emb) N E (fun σ => ?_) (fun a ha σ => ?_) (fun t ht σ => ?_) σ y h
  · exact gamma_trans emb (hE.phaseLike emb) (hC.phaseLike emb) (SubRefl M)
      (fun a ha σ => pubBody_F emb hCp.toF hId _ _ hF.publish_axiom a (fun _ => ha) σ)
      (AxRefl M) (fun _ _ _ _ _ h => h) N E hAx σ true
  · exact pubBody_F emb hCp.toF hId _ _ hF.publish_claim a (fun _ => hCl a ha) σ
  · exact proofBody_F emb hF t (hT t ht).1 (hT t ht).2.1 (fun _ => (hT t ht).2.2) σ

/-! ### the `ProofExp` of a module -/

theorem buildAll_mem {N : Nat} {ax : List NPat} : ∀ {pfs : List Pf} {ts : List (ProofThunk τ)},
    buildAll N ax pfs = some (some ts) → ∀ t ∈ ts, ∃ pf ∈ pfs, build N ax pf = some (some t) := by
  intro pfs
  induction pfs with
  | nil =>
    intro ts h t ht
    simp only [buildAll, ret, Option.some.injEq] at h
    subst h; cases ht
  | cons pf r ih =>
    intro ts h t ht
    obtain ⟨t0, ts', rfl, h0, hr⟩ := buildAll_cons h
    rcases List.mem_cons.mp ht with rfl | ht'
    · exact ⟨pf, by simp, h0⟩
    · obtain ⟨pf', hm, hb⟩ := ih hr t ht'
      exact ⟨pf', List.mem_cons_of_mem _ hm, hb⟩

theorem expOf_claims (thunks : List (ProofThunk τ)) (f : PModule → List (ProofThunk τ)) (m : PModule) :
    (expOf thunks f m)._claims = m.claimsOf := by cases m; rfl
theorem expOf_proofs (thunks : List (ProofThunk τ)) (f : PModule → List (ProofThunk τ)) (m : PModule) :
    (expOf thunks f m)._proof_expressions = thunks := by cases m; rfl

theorem mem_subExps (f : PModule → List (ProofThunk τ)) : ∀ (subs : List PModule) (e : ProofExp τ),
    e ∈ subExp.subExps f subs → ∃ m' ∈ subs, e = subExp f m' := by
  intro subs
  induction subs with
  | nil => intro e he; simp [subExp.subExps] at he
  | cons m r ih =>
    intro e he
    rw [subExps_cons] at he
    rcases List.mem_cons.mp he with rfl | he'
    · exact ⟨m, by simp, rfl⟩
    · obtain ⟨m', hm, rfl⟩ := ih e he'
      exact ⟨m', List.mem_cons_of_mem _ hm, rfl⟩

theorem gammaList_mem : ∀ (subs : List PModule) (m' : PModule), m' ∈ subs →
    ∀ a ∈ m'.gammaAxioms, a ∈ PModule.gammaAxioms.gammaList subs := by
  intro subs
  induction subs with
  | nil => intro m' hm; cases hm
  | cons m r ih =>
    intro m' hm a ha
    rw [gammaList_cons]
    rcases List.mem_cons.mp hm with rfl | hm'
    · exact List.mem_append_left _ ha
    · exact List.mem_append_right _ (ih m' hm' a ha)

theorem axRefl_of_gamma (M : Nat) (f : PModule → List (ProofThunk τ)) : ∀ (D : Nat) (m : PModule)
    (th : List (ProofThunk τ)), (∀ a ∈ m.gammaAxioms, SubRefl M a) →
    AxRefl M D (ProofExp.mk m.axiomsOf m.claimsOf th (subExp.subExps f m.subsOf)) := by
  intro D
  induction D with
  | zero => intro m th _; trivial
  | succ D ih =>
    intro m th h
    obtain ⟨ax, cl, pfs, subs⟩ := m
    rw [gammaAxioms_mk] at h
    refine ⟨fun a ha => h a (List.mem_append_right _ ha), fun e he => ?_⟩
    obtain ⟨m', hm', rfl⟩ := mem_subExps f subs e he
    obtain ⟨ax', cl', pfs', subs'⟩ := m'
    rw [subExp_mk]
    exact ih (.mk ax' cl' pfs' subs') _
      (fun a ha => h a (List.mem_append_left _ (gammaList_mem subs _ hm' a ha)))

end phases

/-! ## fuel hypotheses in terms of the model -/

/-- every conclusion a run of `pf` (from any state, at any fuel) returns in the model self-compares within
fuel `M` -/
def OwnReflM (M : Nat) (cfg : Cfg) (ax : List NPat) (pf : Pf) : Prop :=
  ∀ m s acc s' a' c, Pf.runF cfg ax m s pf acc = some (some (s', a', c)) → NPat.peqF M c c = some true

/-- fuel for the reflexive comparisons of a run of `pf`, in terms of the model: the conclusions of the
sub-proofs a rule consumes, the sub-patterns of the plugs -/
def ConcsReflM (M : Nat) (cfg : Cfg) (ax : List NPat) : Pf → Prop
  | .mp l r => ConcsReflM M cfg ax l ∧ ConcsReflM M cfg ax r ∧ OwnReflM M cfg ax l ∧ OwnReflM M cfg ax r
  | .gen p _ => ConcsReflM M cfg ax p ∧ OwnReflM M cfg ax p
  | .dynInst p δ => ConcsReflM M cfg ax p ∧ (δ.isEmpty = false → OwnReflM M cfg ax p ∧ SubReflMap M δ)
  | _ => True

/-- the fuel hypotheses of the phases, in terms of the model: axioms, claims, the conclusions of the proofs -/
def ModuleRefl (M : Nat) (cfg : Cfg) (m : PModule) : Prop :=
  (∀ a ∈ m.gammaAxioms, SubRefl M a) ∧ (∀ c ∈ m.claimsOf, SubRefl M c) ∧
    ∀ pf ∈ m.proofsOf, ConcsReflM M cfg m.axiomsOf pf ∧ OwnReflM M cfg m.axiomsOf pf

section bridge
variable {τ : Type} (emb : St → τ)

theorem ownRefl_of_model {M N : Nat} {cfg : Cfg} {ax : List NPat} {O : Interp τ}
    (hRS : ∀ (pf : Pf) (t : ProofThunk τ), build N ax pf = some (some t) → ∀ (s : PySt) (acc : List Call) (τ' : τ)
      (pr : Proved), ProofThunk.__call__ N t O (emb (s, acc)) = some (some (τ', pr)) →
      ∃ m s' a', Pf.runF cfg ax m s pf acc = some (some (s', a', pr.conclusion)) ∧ τ' = emb (s', a'))
    (pf : Pf) (h : OwnReflM M cfg ax pf) : OwnRefl emb M N ax O pf := by
  intro t σ τ' pr ht hc
  obtain ⟨m, s', a', hm, _⟩ := hRS pf t ht σ.1 σ.2 τ' pr hc
  exact h m _ _ _ _ _ hm

theorem concsRefl_of_model {M N : Nat} {cfg : Cfg} {ax : List NPat} {O : Interp τ}
    (hRS : ∀ (pf : Pf) (t : ProofThunk τ), build N ax pf = some (some t) → ∀ (s : PySt) (acc : List Call) (τ' : τ)
      (pr : Proved), ProofThunk.__call__ N t O (emb (s, acc)) = some (some (τ', pr)) →
      ∃ m s' a', Pf.runF cfg ax m s pf acc = some (some (s', a', pr.conclusion)) ∧ τ' = emb (s', a')) :
    ∀ (pf : Pf), ConcsReflM M cfg ax pf → ConcsRefl emb M N ax O pf := by
  intro pf
  induction pf with
  | mp l r ihl ihr =>
    intro h
    simp only [ConcsReflM] at h
    exact ⟨ihl h.1, ihr h.2.1, ownRefl_of_model emb hRS l h.2.2.1, ownRefl_of_model emb hRS r h.2.2.2⟩
  | gen p x ih =>
    intro h
    simp only [ConcsReflM] at h
    exact ⟨ih h.1, ownRefl_of_model emb hRS p h.2⟩
  | dynInst p δ ih =>
    intro h
    simp only [ConcsReflM] at h
    exact ⟨ih h.1, fun hδ => ⟨ownRefl_of_model emb hRS p (h.2 hδ).1, (h.2 hδ).2⟩⟩
  | _ => intro _; trivial

end bridge

/-! ## a checking object beside the tracker, against the model -/

section config
variable {τ : Type} {emb : St → τ} {N : Nat} {cfg : Cfg} {O₁ O₂ : Interp τ}

/-- a checking object `O₁` and an object `O₂` that emits like the tracker, whose walks agree (given the fuel for the
reflexive comparisons) and on `O₂` are runs of the model's `patternF cfg` -/
structure Config (emb : St → τ) (N : Nat) (cfg : Cfg) (O₁ O₂ : Interp τ) : Prop where
  inj : ∀ σ σ' : St, emb σ = emb σ' → σ = σ'
  checks : Checks emb N O₁
  emits : Emits emb N O₂
  patId : PatId emb O₂
  patS : PatS12 emb O₁ O₂
  patC : PatC12 emb N O₁ O₂
  model : PatS emb cfg O₂

/-- a walk that returns on `O₂` returns the pattern, and returns on `O₁` -/
theorem Config.pattern_complete (h : Config emb N cfg O₁ O₂) {σ : St} {p v : NPat} {τ' : τ} (hp : SubRefl N p)
    (ht : O₂.pattern (emb σ) p = some (some (τ', v))) : O₁.pattern (emb σ) p = some (some (τ', p)) := by
  obtain ⟨_, _, e, _⟩ := h.patId σ p _ _ ht
  rw [e] at ht
  exact h.patC σ p _ hp ht

/-- a walk that returns on `O₁` is a run of the model -/
theorem Config.pattern_sound (h : Config emb N cfg O₁ O₂) {s : PySt} {acc : List Call} {p v : NPat} {τ' : τ}
    (hc : O₁.pattern (emb (s, acc)) p = some (some (τ', v))) :
    v = p ∧ ∃ σ' : St, τ' = emb σ' ∧ σ'.1.stack = (.pat p, false) :: s.stack ∧
      ∃ m, patternF cfg m s p acc = some (some σ') := by
  have ht := h.patS (s, acc) p _ hc
  obtain ⟨σ1, e1, e2, hs⟩ := h.patId (s, acc) p _ _ ht
  obtain ⟨m, hm⟩ := h.model s p acc _ ht
  obtain ⟨σ2, hm, e⟩ := pmap_some_some hm
  cases h.inj σ1 σ2 (e1.symm.trans (congrArg Prod.fst e))
  exact ⟨e2, σ1, e1, hs, m, hm⟩

section
variable (h : Config emb N cfg O₁ O₂) (ax : List NPat) {pf : Pf} (hk : KeysNodup pf) {t : ProofThunk τ}
  (ht : build N ax pf = some (some t))
include h hk ht

theorem Config.run_top : RunTop emb N O₂ t := ComposeTie.run_top emb ax h.emits h.patId pf hk t ht

theorem Config.run_S : RunS emb N O₁ O₂ t := ComposeTie.run_S emb ax h.checks h.emits h.patId h.patS pf hk t ht

theorem Config.run_C (hr : ConcsReflM N cfg ax pf) : RunC emb N O₁ O₂ t :=
  ComposeTie.run_C emb ax h.checks h.emits h.patId h.patC pf hk
    (concsRefl_of_model emb (run_sound emb ax h.emits h.model) pf hr) t ht

/-- a run of the thunk that returns on `O₁` is a run of the model, and leaves its conclusion on the stack -/
theorem Config.run_sound (s : PySt) (acc : List Call) (τ' : τ) (pr : Proved)
    (hc : ProofThunk.__call__ N t O₁ (emb (s, acc)) = some (some (τ', pr))) :
    ∃ m s' a', Pf.runF cfg ax m s pf acc = some (some (s', a', pr.conclusion)) ∧ τ' = emb (s', a') ∧
      s'.stack = (.proved pr.conclusion, false) :: s.stack := by
  have hc := h.run_S ax hk ht (s, acc) _ hc
  obtain ⟨σ1, e1, hs⟩ := h.run_top ax hk ht (s, acc) _ _ hc
  obtain ⟨m, s', a', hm, e2⟩ := ProofTie.run_sound emb ax h.emits h.model pf t ht s acc τ' pr hc
  cases h.inj σ1 (s', a') (e1.symm.trans e2)
  exact ⟨m, _, _, hm, e2, hs⟩

end

variable (h : Config emb N cfg O₁ O₂) (m : PModule) (hk : ∀ pf ∈ m.proofsOf, KeysNodup pf)
  {thunks : List (ProofThunk τ)} (hb : buildAll N m.axiomsOf m.proofsOf = some (some thunks))
  (f : PModule → List (ProofThunk τ)) (σ : St) (y : τ)
include h hk hb

/-- the three phases of the module's `ProofExp`: what they return on `O₁` they return on `O₂` -/
theorem Config.full_S (hf : ProofExp.execute_full N (expOf thunks f m) O₁ (emb σ) = some (some y)) :
    ProofExp.execute_full N (expOf thunks f m) O₂ (emb σ) = some (some y) := by
  refine ComposeTie.full_S emb h.checks h.emits h.patId h.patS (expOf thunks f m) ?_ σ y hf
  rw [expOf_proofs]
  intro t ht
  obtain ⟨pf, hpf, hbt⟩ := buildAll_mem hb t ht
  exact ⟨h.run_S _ (hk pf hpf) hbt, h.run_top _ (hk pf hpf) hbt⟩

/-- and what they return on `O₂` they return on `O₁`, given the fuel for the reflexive comparisons -/
theorem Config.full_C (hR : ModuleRefl N cfg m)
    (hf : ProofExp.execute_full N (expOf thunks f m) O₂ (emb σ) = some (some y)) :
    ProofExp.execute_full N (expOf thunks f m) O₁ (emb σ) = some (some y) := by
  refine ComposeTie.full_C emb h.checks h.emits h.patId h.patC (expOf thunks f m) ?_ ?_ ?_ σ y hf
  · rw [expOf_mk]; exact axRefl_of_gamma N f N m thunks hR.1
  · rw [expOf_claims]; exact hR.2.1
  · rw [expOf_proofs]
    intro t ht
    obtain ⟨pf, hpf, hbt⟩ := buildAll_mem hb t ht
    exact ⟨h.run_C _ (hk pf hpf) hbt (hR.2.2 pf hpf).1, h.run_top _ (hk pf hpf) hbt,
      fun σ τ' pr hc => ownRefl_of_model emb (ProofTie.run_sound emb _ h.emits h.model) pf (hR.2.2 pf hpf).2 t σ τ' pr hbt hc⟩

end config

/-! ## the two configurations: the generated `StatefulInterpreter`, plain and under the generated
`MemoizingInterpreter`, against the model (`ProofTie` composed with the above) -/

section configs
variable (N : Nat)

theorem config_plain : Config (fun σ => σ) N {} (statefulK N N) (trackerK N N) :=
  ⟨fun _ _ e => e, checks_statefulK N N, emits_tracker N N, pattern_id N N, pattern_S N N, pattern_C N N,
    pattern_sound N N⟩

theorem config_memo (S : List NPat) :
    Config embM N { memo := some S } (statefulMemoK N N S) (memoK N N S) :=
  ⟨fun _ _ e => congrArg TrSt.sub e, checks_statefulMemoK N N S, emits_memo N N S, memo_pattern_id N S N,
    memo_pattern_S N S N, memo_pattern_C N S N, memo_pattern_sound S N N⟩

/-- `Interpreter.pattern` as written on `StatefulInterpreter` as written is `patternF` -/
theorem pattern_stateful_model (s : PySt) (p : NPat) (acc : List Call) :
    (∀ n s' a', n ≤ N → SubRefl N p → patternF {} n s p acc = some (some (s', a')) →
      (statefulK N N).pattern (s, acc) p = some (some ((s', a'), p))) ∧
    (∀ σ' v, (statefulK N N).pattern (s, acc) p = some (some (σ', v)) →
      v = p ∧ σ'.1.stack = (.pat p, false) :: s.stack ∧ ∃ m, patternF {} m s p acc = some (some σ')) := by
  constructor
  · intro n s' a' hn hp h
    exact (config_plain N).pattern_complete (σ := (s, acc)) hp ((pattern_plain N s p acc).1 n _ hn h)
  · intro σ' v h
    obtain ⟨e, _, rfl, hs, hm⟩ := (config_plain N).pattern_sound h
    exact ⟨e, hs, hm⟩

/-- the same through `MemoizingInterpreter` as written -/
theorem memo_pattern_stateful_model (S : List NPat) (s : PySt) (p : NPat) (acc : List Call) :
    (∀ n s' a', n ≤ N → SubRefl N p → patternF { memo := some S } n s p acc = some (some (s', a')) →
      (statefulMemoK N N S).pattern (embM (s, acc)) p = some (some (embM (s', a'), p))) ∧
    (∀ τ' v, (statefulMemoK N N S).pattern (embM (s, acc)) p = some (some (τ', v)) →
      v = p ∧ ∃ σ' : St, τ' = embM σ' ∧ σ'.1.stack = (.pat p, false) :: s.stack ∧
        ∃ m, patternF { memo := some S } m s p acc = some (some σ')) :=
  ⟨fun n s' a' hn hp h => (config_memo N S).pattern_complete hp ((pattern_memo N S s p acc).1 n _ hn h),
    fun τ' v h => (config_memo N S).pattern_sound h⟩

/-- a proof expression as written, running on `StatefulInterpreter` as written, is `runF {}` -/
theorem run_stateful_model (ax : List NPat) (s : PySt) (pf : Pf) (acc : List Call) (hk : KeysNodup pf) :
    (∀ n s' a' c, n ≤ N → ConcsReflM N {} ax pf → Pf.runF {} ax n s pf acc = some (some (s', a', c)) →
      ∃ t : ProofThunk St, build N ax pf = some (some t) ∧
        ProofThunk.__call__ N t (statefulK N N) (s, acc) = some (some ((s', a'), ⟨c⟩))) ∧
    (∀ (t : ProofThunk St) σ' pr, build N ax pf = some (some t) →
      ProofThunk.__call__ N t (statefulK N N) (s, acc) = some (some (σ', pr)) →
      σ'.1.stack = (.proved pr.conclusion, false) :: s.stack ∧
        ∃ m, Pf.runF {} ax m s pf acc = some (some (σ'.1, σ'.2, pr.conclusion))) := by
  constructor
  · intro n s' a' c hn hr h
    obtain ⟨t, ht, hc⟩ := (run_plain N ax s pf acc).1 n s' a' c hn h
    exact ⟨t, ht, (config_plain N).run_C ax hk ht hr (s, acc) _ hc⟩
  · intro t σ' pr ht h
    obtain ⟨m, s', a', hm, rfl, hs⟩ := (config_plain N).run_sound ax hk ht s acc σ' pr h
    exact ⟨hs, m, hm⟩

/-- the same through `MemoizingInterpreter` as written: `runF {memo := some S}` -/
theorem run_memo_stateful_model (S : List NPat) (ax : List NPat) (s : PySt) (pf : Pf) (acc : List Call)
    (hk : KeysNodup pf) :
    (∀ n s' a' c, n ≤ N → ConcsReflM N { memo := some S } ax pf →
      Pf.runF { memo := some S } ax n s pf acc = some (some (s', a', c)) →
      ∃ t : ProofThunk (TrSt St), build N ax pf = some (some t) ∧
        ProofThunk.__call__ N t (statefulMemoK N N S) (embM (s, acc)) = some (some (embM (s', a'), ⟨c⟩))) ∧
    (∀ (t : ProofThunk (TrSt St)) τ' pr, build N ax pf = some (some t) →
      ProofThunk.__call__ N t (statefulMemoK N N S) (embM (s, acc)) = some (some (τ', pr)) →
      ∃ m s' a', Pf.runF { memo := some S } ax m s pf acc = some (some (s', a', pr.conclusion)) ∧
        τ' = embM (s', a') ∧ s'.stack = (.proved pr.conclusion, false) :: s.stack) := by
  constructor
  · intro n s' a' c hn hr h
    obtain ⟨t, ht, hc⟩ := (run_memo N S ax s pf acc).1 n s' a' c hn h
    exact ⟨t, ht, (config_memo N S).run_C ax hk ht hr (s, acc) _ hc⟩
  · intro t τ' pr ht h
    exact (config_memo N S).run_sound ax hk ht s acc τ' pr h

/-- `execute_full` as written on `StatefulInterpreter` as written is `executeFull {}` -/
theorem execute_stateful_model (m : PModule) (hk : ∀ pf ∈ m.proofsOf, KeysNodup pf) :
    (∀ n s' a', n ≤ N → PModule.depth m ≤ N →
      (∀ pf ∈ m.proofsOf, ∀ k adv, Pf.concF m.axiomsOf k pf = some (some adv) → NPat.peqF N adv adv = some true) →
      ModuleRefl N {} m →
      PModule.executeFull {} n m = some (some (s', a')) →
      ∃ thunks : List (ProofThunk St), buildAll N m.axiomsOf m.proofsOf = some (some thunks) ∧
        ∀ f, ProofExp.execute_full N (expOf thunks f m) (statefulK N N) (PySt.init m.claimsOf, [])
          = some (some (s', a'))) ∧
    (∀ (thunks : List (ProofThunk St)) f σ', buildAll N m.axiomsOf m.proofsOf = some (some thunks) →
      ProofExp.execute_full N (expOf thunks f m) (statefulK N N) (PySt.init m.claimsOf, []) = some (some σ') →
      ∃ n, PModule.executeFull {} n m = some (some σ')) := by
  constructor
  · intro n s' a' hn hD hself hR h
    obtain ⟨thunks, hb, hf⟩ := (execute_plain N m).1 n s' a' hn hD hself h
    exact ⟨thunks, hb, fun f => (config_plain N).full_C m hk hb f _ _ hR (hf f)⟩
  · intro thunks f σ' hb h
    exact (execute_plain N m).2 thunks f σ' hb ((config_plain N).full_S m hk hb f _ _ h)

/-- the same through `MemoizingInterpreter(StatefulInterpreter, S)` as written: `executeFull {memo := some S}` -/
theorem execute_memo_stateful_model (S : List NPat) (m : PModule) (hk : ∀ pf ∈ m.proofsOf, KeysNodup pf) :
    (∀ n s' a', n ≤ N → PModule.depth m ≤ N →
      (∀ pf ∈ m.proofsOf, ∀ k adv, Pf.concF m.axiomsOf k pf = some (some adv) → NPat.peqF N adv adv = some true) →
      ModuleRefl N { memo := some S } m →
      PModule.executeFull { memo := some S } n m = some (some (s', a')) →
      ∃ thunks : List (ProofThunk (TrSt St)), buildAll N m.axiomsOf m.proofsOf = some (some thunks) ∧
        ∀ f, ProofExp.execute_full N (expOf thunks f m) (statefulMemoK N N S) (embM (PySt.init m.claimsOf, []))
          = some (some (embM (s', a')))) ∧
    (∀ (thunks : List (ProofThunk (TrSt St))) f τ', buildAll N m.axiomsOf m.proofsOf = some (some thunks) →
      ProofExp.execute_full N (expOf thunks f m) (statefulMemoK N N S) (embM (PySt.init m.claimsOf, []))
        = some (some τ') →
      ∃ n s' a', PModule.executeFull { memo := some S } n m = some (some (s', a')) ∧ τ' = embM (s', a')) := by
  constructor
  · intro n s' a' hn hD hself hR h
    obtain ⟨thunks, hb, hf⟩ := (execute_memo N S m).1 n s' a' hn hD hself h
    exact ⟨thunks, hb, fun f => (config_memo N S).full_C m hk hb f _ _ hR (hf f)⟩
  · intro thunks f τ' hb h
    exact (execute_memo N S m).2 thunks f τ' hb ((config_memo N S).full_S m hk hb f _ _ h)

/-- the object `MemoizingInterpreter(stateful_interpreter, S)` that `serialize` builds, with its initial state, is
`statefulMemoK` in the state `embM` -/
theorem memo_new_stateful (j : Nat) (S : List NPat) (σ : St) :
    MemoizingInterpreter.new N (statefulK N j) σ (some S) = (statefulMemoK N N S, embM σ) := by
  cases j <;> rfl

end configs

/-! ## the statements are not vacuous, and `statefulI` is not `callI` -/

/-- `φ2 → (φ0 → (φ1 → φ0))` by `modus_ponens(dynamic_inst(prop1, {0: prop1's conclusion, 1: φ2}), prop1)` -/
def witnessPf : Pf := .mp (.dynInst .prop1 [(0, prop1N), (1, phiN 2)]) .prop1

/-- the generated proof generator does run on the generated `StatefulInterpreter`: the thunk of `witnessPf`
returns after 10 calls, leaving one entry on the stack; under the generated `MemoizingInterpreter`, with `φ2` in
memory, after 10 calls one of which is a `load` -/
theorem stateful_nonvacuous :
    ((build (τ := St) 40 [] witnessPf).bind fun o => o.bind fun t =>
      (ProofThunk.__call__ 40 t (statefulK 40 40) (PySt.init [], [])).map
        (Option.map fun x => (x.1.2.length, x.1.1.stack.length))) = some (some (10, 1)) ∧
    ((build (τ := TrSt St) 40 [] witnessPf).bind fun o => o.bind fun t =>
      (ProofThunk.__call__ 40 t (statefulMemoK 40 40 [])
          (embM ({ PySt.init [] with memory := [.pat (phiN 2)] }, []))).map
        (Option.map fun x => (x.1.sub.2.length, x.1.sub.1.stack.length,
          x.1.sub.2.any fun c => match c with | .load _ => true | _ => false))) = some (some (10, 1, true)) := by
  decide

/-- `statefulI` does look at its arguments: with `EVar(1)` on top of `EVar(0)`, `implies(EVar(7), EVar(1))` raises
on the generated `StatefulInterpreter` and is accepted by `callI` (which ignores the arguments);
`implies(EVar(0), EVar(1))` — the terms on the stack — is accepted by both -/
theorem stateful_object_checks_its_arguments :
    let σ0 : St := ({ PySt.init [] with stack := [(.pat (.evar 1), false), (.pat (.evar 0), false)] }, [])
    ((statefulI 5).implies σ0 (.evar 7) (.evar 1)).map Option.isSome = some false ∧
    ((callI 5).implies σ0 (.evar 7) (.evar 1)).map Option.isSome = some true ∧
    ((statefulI 5).implies σ0 (.evar 0) (.evar 1)).map Option.isSome = some true := by
  decide

end ComposeTie

#print axioms ComposeTie.checks_stateful
#print axioms ComposeTie.checks_transformer
#print axioms ComposeTie.pattern_id
#print axioms ComposeTie.memo_pattern_id
#print axioms ComposeTie.pattern_S
#print axioms ComposeTie.pattern_C
#print axioms ComposeTie.memo_pattern_S
#print axioms ComposeTie.memo_pattern_C
#print axioms ComposeTie.run_top
#print axioms ComposeTie.run_S
#print axioms ComposeTie.run_C
#print axioms ComposeTie.full_S
#print axioms ComposeTie.full_C
#print axioms ComposeTie.pattern_stateful_model
#print axioms ComposeTie.memo_pattern_stateful_model
#print axioms ComposeTie.run_stateful_model
#print axioms ComposeTie.run_memo_stateful_model
#print axioms ComposeTie.execute_stateful_model
#print axioms ComposeTie.execute_memo_stateful_model
#print axioms ComposeTie.stateful_nonvacuous
#print axioms ComposeTie.stateful_object_checks_its_arguments

