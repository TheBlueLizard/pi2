import Pi2.Notation
/-!
# Notation is transparent

Every fuel-indexed operation of `Pi2.Notation` commutes with `NPat.expand` whenever it returns
`some`, on well-shaped patterns.
-/
open Pat

/-! ## well-shaped patterns -/

/-- every `mv` has empty `ef`/`sf`; every substitution node has a meta head -/
def Pat.Shape : Pat → Bool
  | .evar _ => true | .svar _ => true | .sym _ => true
  | .imp l r => l.Shape && r.Shape
  | .app l r => l.Shape && r.Shape
  | .ex _ p => p.Shape | .mu _ p => p.Shape
  | .mv _ ef sf _ _ _ => ef.isEmpty && sf.isEmpty
  | .esub p _ q => p.isMeta && p.Shape && q.Shape
  | .ssub p _ q => p.isMeta && p.Shape && q.Shape

/-- the head constructor is literally `mv` / `esub` / `ssub` -/
def NPat.isMetaN : NPat → Bool
  | .mv .. => true | .esub .. => true | .ssub .. => true | _ => false

mutual
def NPat.Shape : NPat → Bool
  | .evar _ => true | .svar _ => true | .sym _ => true
  | .imp l r => l.Shape && r.Shape
  | .app l r => l.Shape && r.Shape
  | .ex _ p => p.Shape | .mu _ p => p.Shape
  | .mv _ ef sf _ _ _ => ef.isEmpty && sf.isEmpty
  | .esub p _ q => p.isMetaN && p.Shape && q.Shape
  | .ssub p _ q => p.isMetaN && p.Shape && q.Shape
  | .inst p m => p.Shape && NPat.ShapeMap m
def NPat.ShapeMap : List (Nat × NPat) → Bool
  | [] => true
  | (_, v) :: r => v.Shape && NPat.ShapeMap r
end

/-! ## `Pat`-level algebra -/
namespace Py

theorem esub_meta (x : VId) (plug : Pat) (p : Pat) (hm : p.isMeta = true) (hs : p.Shape = true) :
    Py.esub x plug p = .esub p x plug := by
  cases p with
  | mv id ef sf ps ns hs' =>
    simp only [Pat.Shape, Bool.and_eq_true, List.isEmpty_iff] at hs
    simp [Py.esub, hs.1]
  | esub | ssub => rfl
  | _ => cases hm

theorem ssub_meta (x : VId) (plug : Pat) (p : Pat) (hm : p.isMeta = true) (hs : p.Shape = true) :
    Py.ssub x plug p = .ssub p x plug := by
  cases p with
  | mv id ef sf ps ns hs' =>
    simp only [Pat.Shape, Bool.and_eq_true, List.isEmpty_iff] at hs
    simp [Py.ssub, hs.2]
  | esub | ssub => rfl
  | _ => cases hm

theorem shape_esub (x : VId) (plug : Pat) (hp : plug.Shape = true) (p : Pat) (hs : p.Shape = true) :
    (Py.esub x plug p).Shape = true := by
  induction p with
  | evar y => simp only [Py.esub]; split <;> first | exact hp | rfl
  | ex y p ih => simp only [Py.esub]; split <;> first | exact hs | exact ih hs
  | imp l r ihl ihr | app l r ihl ihr =>
    simp only [Pat.Shape, Bool.and_eq_true] at hs
    simp only [Py.esub, Pat.Shape, ihl hs.1, ihr hs.2, Bool.and_self]
  | mu y p ih => exact ih hs
  | svar | sym => rfl
  | _ => rw [esub_meta x plug _ rfl hs, Pat.Shape, hs, hp]; rfl

theorem shape_ssub (x : VId) (plug : Pat) (hp : plug.Shape = true) (p : Pat) (hs : p.Shape = true) :
    (Py.ssub x plug p).Shape = true := by
  induction p with
  | svar y => simp only [Py.ssub]; split <;> first | exact hp | rfl
  | mu y p ih => simp only [Py.ssub]; split <;> first | exact hs | exact ih hs
  | imp l r ihl ihr | app l r ihl ihr =>
    simp only [Pat.Shape, Bool.and_eq_true] at hs
    simp only [Py.ssub, Pat.Shape, ihl hs.1, ihr hs.2, Bool.and_self]
  | ex y p ih => exact ih hs
  | evar | sym => rfl
  | _ => rw [ssub_meta x plug _ rfl hs, Pat.Shape, hs, hp]; rfl

theorem shape_inst (δ : VId → Option Pat) (hδ : ∀ k v, δ k = some v → v.Shape = true)
    (q : Pat) (hs : q.Shape = true) : (Py.inst δ q).Shape = true := by
  induction q with
  | mv id ef sf ps ns hs =>
    simp only [Py.inst]
    cases h : δ id with
    | none => simpa using hs
    | some v => simpa using hδ _ _ h
  | esub p x q ihp ihq =>
    simp only [Pat.Shape, Bool.and_eq_true] at hs
    exact shape_esub _ _ (ihq hs.2) _ (ihp hs.1.2)
  | ssub p x q ihp ihq =>
    simp only [Pat.Shape, Bool.and_eq_true] at hs
    exact shape_ssub _ _ (ihq hs.2) _ (ihp hs.1.2)
  | imp l r ihl ihr | app l r ihl ihr =>
    simp only [Pat.Shape, Bool.and_eq_true] at hs
    simp only [Py.inst, Pat.Shape, ihl hs.1, ihr hs.2, Bool.and_self]
  | ex x p ih | mu x p ih => exact ih hs
  | _ => rfl

theorem inst_esub_comm (δ : VId → Option Pat) (x : VId) (plug : Pat) (q : Pat)
    (hs : q.Shape = true) :
    Py.inst δ (Py.esub x plug q) = Py.esub x (Py.inst δ plug) (Py.inst δ q) := by
  induction q with
  | evar y => simp only [Py.esub, Py.inst]; split <;> rfl
  | ex y p ih => simp only [Py.esub, Py.inst]; split <;> simp only [Py.inst, ih hs]
  | imp l r ihl ihr | app l r ihl ihr =>
    simp only [Pat.Shape, Bool.and_eq_true] at hs
    simp only [Py.esub, Py.inst, ihl hs.1, ihr hs.2]
  | mu y p ih => simp only [Py.esub, Py.inst, ih hs]
  | svar | sym => rfl
  | _ => rw [esub_meta x plug _ rfl hs]; rfl

theorem inst_ssub_comm (δ : VId → Option Pat) (x : VId) (plug : Pat) (q : Pat)
    (hs : q.Shape = true) :
    Py.inst δ (Py.ssub x plug q) = Py.ssub x (Py.inst δ plug) (Py.inst δ q) := by
  induction q with
  | svar y => simp only [Py.ssub, Py.inst]; split <;> rfl
  | mu y p ih => simp only [Py.ssub, Py.inst]; split <;> simp only [Py.inst, ih hs]
  | imp l r ihl ihr | app l r ihl ihr =>
    simp only [Pat.Shape, Bool.and_eq_true] at hs
    simp only [Py.ssub, Py.inst, ihl hs.1, ihr hs.2]
  | ex y p ih => simp only [Py.ssub, Py.inst, ih hs]
  | evar | sym => rfl
  | _ => rw [ssub_meta x plug _ rfl hs]; rfl

theorem inst_comp (δ₁ δ₂ : VId → Option Pat) (hδ : ∀ k v, δ₁ k = some v → v.Shape = true)
    (q : Pat) (hs : q.Shape = true) :
    Py.inst δ₂ (Py.inst δ₁ q) =
      Py.inst (fun k => match δ₁ k with | some v => some (Py.inst δ₂ v) | none => δ₂ k) q := by
  induction q with
  | mv id ef sf ps ns hs =>
    simp only [Py.inst]
    cases h : δ₁ id <;> simp [Py.inst]
  | esub p x q ihp ihq =>
    simp only [Pat.Shape, Bool.and_eq_true] at hs
    simp only [Py.inst]
    rw [inst_esub_comm _ _ _ _ (shape_inst _ hδ _ hs.1.2), ihp hs.1.2, ihq hs.2]
  | ssub p x q ihp ihq =>
    simp only [Pat.Shape, Bool.and_eq_true] at hs
    simp only [Py.inst]
    rw [inst_ssub_comm _ _ _ _ (shape_inst _ hδ _ hs.1.2), ihp hs.1.2, ihq hs.2]
  | imp l r ihl ihr | app l r ihl ihr =>
    simp only [Pat.Shape, Bool.and_eq_true] at hs
    simp only [Py.inst, ihl hs.1, ihr hs.2]
  | ex x p ih | mu x p ih => simp only [Py.inst, ih hs]
  | _ => rfl

theorem inst_congr (δ δ' : VId → Option Pat) (q : Pat)
    (h : ∀ k ∈ Py.metavars q, δ k = δ' k) : Py.inst δ q = Py.inst δ' q := by
  induction q with
  | mv id ef sf ps ns hs => simp only [Py.inst, h id (List.mem_singleton.2 rfl)]
  | imp l r ihl ihr | app l r ihl ihr | esub l x r ihl ihr | ssub l x r ihl ihr =>
    simp only [Py.metavars, List.mem_append] at h
    simp only [Py.inst, ihl fun k hk => h k (Or.inl hk), ihr fun k hk => h k (Or.inr hk)]
  | ex x p ih | mu x p ih => simp only [Py.inst, ih h]
  | _ => rfl

theorem inst_empty (q : Pat) (hs : q.Shape = true) : Py.inst (fun _ => none) q = q := by
  induction q with
  | esub p x q ihp ihq =>
    simp only [Pat.Shape, Bool.and_eq_true] at hs
    simp only [Py.inst, ihp hs.1.2, ihq hs.2]
    exact esub_meta _ _ _ hs.1.1 hs.1.2
  | ssub p x q ihp ihq =>
    simp only [Pat.Shape, Bool.and_eq_true] at hs
    simp only [Py.inst, ihp hs.1.2, ihq hs.2]
    exact ssub_meta _ _ _ hs.1.1 hs.1.2
  | imp l r ihl ihr | app l r ihl ihr =>
    simp only [Pat.Shape, Bool.and_eq_true] at hs
    simp only [Py.inst, ihl hs.1, ihr hs.2]
  | ex x p ih | mu x p ih => simp only [Py.inst, ih hs]
  | _ => rfl

/-- `esub` does not invent metavariables -/
theorem metavars_esub (x : VId) (plug : Pat) (q : Pat) (j : VId)
    (h : j ∈ Py.metavars (Py.esub x plug q)) : j ∈ Py.metavars q ∨ j ∈ Py.metavars plug := by
  induction q with
  | evar y => simp only [Py.esub] at h; split at h <;> first | exact Or.inr h | exact Or.inl h
  | ex y p ih => simp only [Py.esub] at h; split at h <;> first | exact Or.inl h | exact ih h
  | mv id ef sf ps ns hs => simp only [Py.esub] at h; split at h <;> first | exact Or.inl h | exact List.mem_append.1 h
  | imp l r ihl ihr | app l r ihl ihr =>
    rcases List.mem_append.1 h with h | h
    · exact (ihl h).imp_left (List.mem_append_left _)
    · exact (ihr h).imp_left (List.mem_append_right _)
  | mu y p ih => exact ih h
  | svar | sym => exact Or.inl h
  | esub | ssub => exact List.mem_append.1 h

theorem metavars_ssub (x : VId) (plug : Pat) (q : Pat) (j : VId)
    (h : j ∈ Py.metavars (Py.ssub x plug q)) : j ∈ Py.metavars q ∨ j ∈ Py.metavars plug := by
  induction q with
  | svar y => simp only [Py.ssub] at h; split at h <;> first | exact Or.inr h | exact Or.inl h
  | mu y p ih => simp only [Py.ssub] at h; split at h <;> first | exact Or.inl h | exact ih h
  | mv id ef sf ps ns hs => simp only [Py.ssub] at h; split at h <;> first | exact Or.inl h | exact List.mem_append.1 h
  | imp l r ihl ihr | app l r ihl ihr =>
    rcases List.mem_append.1 h with h | h
    · exact (ihl h).imp_left (List.mem_append_left _)
    · exact (ihr h).imp_left (List.mem_append_right _)
  | ex y p ih => exact ih h
  | evar | sym => exact Or.inl h
  | esub | ssub => exact List.mem_append.1 h

/-- the metavariables of an instance: those of the values, or the uninstantiated ones -/
def mvOf (δ : VId → Option Pat) (k : VId) : List VId :=
  match δ k with | some v => Py.metavars v | none => [k]

theorem metavars_inst (δ : VId → Option Pat) (q : Pat) (j : VId)
    (h : j ∈ Py.metavars (Py.inst δ q)) : ∃ k ∈ Py.metavars q, j ∈ mvOf δ k := by
  induction q with
  | mv id ef sf ps ns hs =>
    refine ⟨id, by simp [Py.metavars], ?_⟩
    simp only [Py.inst] at h
    unfold mvOf
    cases hd : δ id <;> simp_all [Py.metavars]
  | esub p x q ihp ihq =>
    simp only [Py.inst] at h
    simp only [Py.metavars, List.mem_append]
    rcases metavars_esub _ _ _ _ h with h | h
    · obtain ⟨k, hk, hj⟩ := ihp h; exact ⟨k, Or.inl hk, hj⟩
    · obtain ⟨k, hk, hj⟩ := ihq h; exact ⟨k, Or.inr hk, hj⟩
  | ssub p x q ihp ihq =>
    simp only [Py.inst] at h
    simp only [Py.metavars, List.mem_append]
    rcases metavars_ssub _ _ _ _ h with h | h
    · obtain ⟨k, hk, hj⟩ := ihp h; exact ⟨k, Or.inl hk, hj⟩
    · obtain ⟨k, hk, hj⟩ := ihq h; exact ⟨k, Or.inr hk, hj⟩
  | imp l r ihl ihr | app l r ihl ihr =>
    simp only [Py.inst, Py.metavars, List.mem_append] at h ⊢
    rcases h with h | h
    · obtain ⟨k, hk, hj⟩ := ihl h; exact ⟨k, Or.inl hk, hj⟩
    · obtain ⟨k, hk, hj⟩ := ihr h; exact ⟨k, Or.inr hk, hj⟩
  | _ => simp_all [Py.inst, Py.metavars]

end Py

/-! ## list / map lemmas -/
namespace Py

theorem lookup_append {α} (a b : List (Nat × α)) (i : Nat) :
    Py.lookup (a ++ b) i = (Py.lookup a i).or (Py.lookup b i) := by
  induction a with
  | nil => simp [Py.lookup]
  | cons kv r ih =>
    obtain ⟨k, v⟩ := kv
    simp only [List.cons_append, Py.lookup]
    split <;> simp [ih]

theorem lookup_filter {α} (f : Nat × α → Bool) (P : Nat → Bool) (hf : ∀ k v, f (k, v) = P k)
    (l : List (Nat × α)) (i : Nat) :
    Py.lookup (l.filter f) i = if P i then Py.lookup l i else none := by
  induction l with
  | nil => simp [Py.lookup]
  | cons kv r ih =>
    obtain ⟨k, v⟩ := kv
    simp only [List.filter_cons, hf]
    by_cases hk : k = i
    · subst hk
      cases hP : P k <;> simp_all [Py.lookup]
    · cases hP : P k <;> simp_all [Py.lookup]

theorem lookup_mem {α} (l : List (Nat × α)) (i : Nat) (v : α) (h : Py.lookup l i = some v) :
    (i, v) ∈ l := by
  induction l with
  | nil => simp [Py.lookup] at h
  | cons kv r ih =>
    obtain ⟨k, w⟩ := kv
    simp only [Py.lookup] at h
    split at h
    · simp_all
    · simp [ih h]

end Py

namespace NPat

theorem expandMap_append (a b : List (Nat × NPat)) :
    expand.expandMap (a ++ b) = expand.expandMap a ++ expand.expandMap b := by
  induction a with
  | nil => simp [expand.expandMap]
  | cons kv r ih => obtain ⟨k, v⟩ := kv; simp [expand.expandMap, ih]

theorem lookup_expandMap (m : List (Nat × NPat)) (i : Nat) :
    Py.lookup (expand.expandMap m) i = (Py.lookup m i).map expand := by
  induction m with
  | nil => simp [expand.expandMap, Py.lookup]
  | cons kv r ih =>
    obtain ⟨k, v⟩ := kv
    simp only [expand.expandMap, Py.lookup]
    split <;> simp [ih]

theorem look_eq (m : List (Nat × NPat)) (i : Nat) :
    metavars.look m i = (Py.lookup m i).map metavars := by
  induction m with
  | nil => simp [metavars.look, Py.lookup]
  | cons kv r ih =>
    obtain ⟨k, v⟩ := kv
    simp only [metavars.look, Py.lookup]
    split <;> simp [ih]

theorem mem_go (vs : List VId) (m : List (Nat × NPat)) (j : VId) :
    j ∈ metavars.go vs m ↔ ∃ v ∈ vs, j ∈ (metavars.look m v).getD [v] := by
  induction vs with
  | nil => simp [metavars.go]
  | cons v vs ih =>
    simp only [metavars.go, List.mem_append, ih, List.mem_cons, exists_eq_or_imp]
    cases metavars.look m v <;> simp

theorem lookup_dedupKeys (l : List (Nat × NPat)) (seen : List Nat) (i : Nat)
    (hi : i ∉ seen) : Py.lookup (dedupKeys l seen) i = Py.lookup l i := by
  induction l generalizing seen with
  | nil => simp [dedupKeys]
  | cons kv r ih =>
    obtain ⟨k, v⟩ := kv
    simp only [dedupKeys]
    split
    · next hk =>
      have : k ≠ i := by
        intro e; subst e; simp_all
      simp [Py.lookup, this, ih _ hi]
    · next hk =>
      by_cases e : k = i
      · simp [Py.lookup, e]
      · simp only [Py.lookup, e, if_false]
        apply ih
        simp; exact ⟨fun h => e h.symm, hi⟩

theorem shapeMap_append (a b : List (Nat × NPat)) :
    ShapeMap (a ++ b) = (ShapeMap a && ShapeMap b) := by
  induction a with
  | nil => simp [ShapeMap]
  | cons kv r ih => obtain ⟨k, v⟩ := kv; simp [ShapeMap, ih, Bool.and_assoc]

theorem shapeMap_iff (m : List (Nat × NPat)) :
    ShapeMap m = true ↔ ∀ kv ∈ m, kv.2.Shape = true := by
  induction m with
  | nil => simp [ShapeMap]
  | cons kv r ih => obtain ⟨k, v⟩ := kv; simp [ShapeMap, ih]

theorem shapeMap_filter (f : Nat × NPat → Bool) (m : List (Nat × NPat)) (h : ShapeMap m = true) :
    ShapeMap (m.filter f) = true := by
  rw [shapeMap_iff] at h ⊢
  intro kv hkv
  exact h kv (List.mem_filter.mp hkv).1

theorem mem_dedupKeys (l : List (Nat × NPat)) (seen : List Nat) (kv : Nat × NPat)
    (h : kv ∈ dedupKeys l seen) : kv ∈ l := by
  induction l generalizing seen with
  | nil => simp [dedupKeys] at h
  | cons a r ih =>
    obtain ⟨k, v⟩ := a
    simp only [dedupKeys] at h
    split at h
    · exact List.mem_cons_of_mem _ (ih _ h)
    · rcases List.mem_cons.mp h with h | h
      · simp [h]
      · exact List.mem_cons_of_mem _ (ih _ h)

theorem shapeMap_dedupKeys (l : List (Nat × NPat)) (seen : List Nat) (h : ShapeMap l = true) :
    ShapeMap (dedupKeys l seen) = true := by
  rw [shapeMap_iff] at h ⊢
  intro kv hkv
  exact h kv (mem_dedupKeys _ _ _ hkv)

theorem shape_of_lookup (m : List (Nat × NPat)) (h : ShapeMap m = true) (i : Nat) (v : NPat)
    (hl : Py.lookup m i = some v) : v.Shape = true :=
  (shapeMap_iff m).mp h _ (Py.lookup_mem _ _ _ hl)

theorem isMeta_expand (p : NPat) (h : p.isMetaN = true) : p.expand.isMeta = true := by
  cases p <;> simp_all [isMetaN, expand, Pat.isMeta]

/-! ## Theorem 1 and the metavariable inclusion (structural, mutual with maps) -/

mutual
theorem shape_expand : (p : NPat) → p.Shape = true → (p.expand).Shape = true
  | .evar _, _ | .svar _, _ | .sym _, _ => rfl
  | .imp l r, h | .app l r, h => by
    simp only [Shape, Bool.and_eq_true] at h
    simp only [expand, Pat.Shape, shape_expand l h.1, shape_expand r h.2, Bool.and_self]
  | .ex _ p, h | .mu _ p, h => shape_expand p h
  | .mv _ ef sf _ _ _, h => h
  | .esub p _ q, h | .ssub p _ q, h => by
    simp only [Shape, Bool.and_eq_true] at h
    simp only [expand, Pat.Shape, shape_expand p h.1.2, shape_expand q h.2, isMeta_expand p h.1.1, Bool.and_self]
  | .inst p m, h => by
    simp only [Shape, Bool.and_eq_true] at h
    exact Py.shape_inst _ (shape_expandMap m h.2) _ (shape_expand p h.1)
theorem shape_expandMap : (m : List (Nat × NPat)) → ShapeMap m = true →
    ∀ k v, Py.lookup (expand.expandMap m) k = some v → v.Shape = true
  | [], _ => by simp [expand.expandMap, Py.lookup]
  | (k, v) :: r, h => by
    simp only [ShapeMap, Bool.and_eq_true] at h
    intro i w hw
    simp only [expand.expandMap, Py.lookup] at hw
    split at hw
    · cases hw; exact shape_expand v h.1
    · exact shape_expandMap r h.2 i w hw
end

mutual
theorem metavars_expand : (p : NPat) → ∀ j ∈ Py.metavars p.expand, j ∈ metavars p
  | .evar _ | .svar _ | .sym _ => by simp [expand, Py.metavars]
  | .mv _ _ _ _ _ _ => by simp [expand, Py.metavars, metavars]
  | .imp l r | .app l r | .esub l _ r | .ssub l _ r => by
    intro j hj
    simp only [expand, Py.metavars, metavars, List.mem_append] at hj ⊢
    exact hj.imp (metavars_expand l j) (metavars_expand r j)
  | .ex _ p | .mu _ p => by
    have := metavars_expand p
    simpa only [expand, Py.metavars, metavars] using this
  | .inst p m => by
    intro j hj
    simp only [expand] at hj
    obtain ⟨k, hk, hjk⟩ := Py.metavars_inst _ _ _ hj
    simp only [metavars, mem_go]
    refine ⟨k, metavars_expand p k hk, ?_⟩
    simp only [Py.mvOf, lookup_expandMap] at hjk
    rw [look_eq]
    cases hl : Py.lookup m k with
    | none => simpa [hl] using hjk
    | some v =>
      simp only [hl, Option.map_some, Option.getD_some] at hjk ⊢
      exact metavars_expandMap m k v hl j hjk
theorem metavars_expandMap : (m : List (Nat × NPat)) → ∀ k v, Py.lookup m k = some v →
    ∀ j ∈ Py.metavars v.expand, j ∈ metavars v
  | [] => by simp [Py.lookup]
  | (k, v) :: r => by
    intro i w hw
    simp only [Py.lookup] at hw
    split at hw
    · cases hw; exact metavars_expand v
    · exact metavars_expandMap r i w hw
end

end NPat

/-! ## Theorems 2–4: simultaneous induction on the fuel -/
namespace NPat
set_option linter.unusedSimpArgs false

theorem lookup_none_keys (m : List (Nat × NPat)) (k : Nat) (h : Py.lookup m k = none) :
    (keys m).contains k = false := by
  induction m with
  | nil => simp [keys]
  | cons kv r ih =>
    obtain ⟨k', v⟩ := kv
    simp only [Py.lookup] at h
    split at h
    · simp at h
    · have := ih h
      simp_all [keys]
      omega

theorem inst_isEmpty (δ : List (Nat × NPat)) (hδ : δ.isEmpty = true) (p : NPat)
    (hp : p.Shape = true) : p.expand = Py.inst (Py.lookup (expand.expandMap δ)) p.expand := by
  have hnil : δ = [] := by simpa using hδ
  subst hnil
  have : Py.lookup (expand.expandMap []) = fun _ => none := funext fun _ => rfl
  rw [this, Py.inst_empty _ (shape_expand p hp)]

def InstOK (n : Nat) : Prop :=
  ∀ (δ : List (Nat × NPat)) (p r : NPat), p.Shape = true → ShapeMap δ = true →
    instF n δ p = some r →
    r.expand = Py.inst (Py.lookup (expand.expandMap δ)) p.expand ∧ r.Shape = true

def MapOK (n : Nat) : Prop :=
  ∀ (δ m m' : List (Nat × NPat)), ShapeMap m = true → ShapeMap δ = true →
    mapF n δ m = some m' →
    (∀ i, Py.lookup (expand.expandMap m') i =
        (Py.lookup (expand.expandMap m) i).map (Py.inst (Py.lookup (expand.expandMap δ)))) ∧
      ShapeMap m' = true

def EsubOK (n : Nat) : Prop :=
  ∀ (x : VId) (plug p r : NPat), p.Shape = true → plug.Shape = true →
    esubF n x plug p = some r →
    r.expand = Py.esub x plug.expand p.expand ∧ r.Shape = true

def SsubOK (n : Nat) : Prop :=
  ∀ (x : VId) (plug p r : NPat), p.Shape = true → plug.Shape = true →
    ssubF n x plug p = some r →
    r.expand = Py.ssub x plug.expand p.expand ∧ r.Shape = true

theorem esub_step (n : Nat) (hi : InstOK n) (he : EsubOK n) : EsubOK (n + 1) := by
  intro x plug p r hp hplug h
  cases p with
  | evar y =>
    cases h
    simp only [expand, Py.esub]
    split <;> first | exact ⟨rfl, hplug⟩ | exact ⟨rfl, rfl⟩
  | svar y | sym y => cases h; exact ⟨rfl, rfl⟩
  | imp l r' | app l r' =>
    simp only [Shape, Bool.and_eq_true] at hp
    simp only [esubF, Option.bind_eq_bind, Option.pure_def, Option.bind_eq_some_iff,
      Option.some.injEq] at h
    obtain ⟨a, ha, b, hb, rfl⟩ := h
    obtain ⟨ea, sa⟩ := he _ _ _ _ hp.1 hplug ha
    obtain ⟨eb, sb⟩ := he _ _ _ _ hp.2 hplug hb
    exact ⟨by simp only [expand, Py.esub, ea, eb], by simp only [Shape, sa, sb, Bool.and_self]⟩
  | ex y q =>
    simp only [esubF] at h
    split at h
    · next hy =>
      cases h
      exact ⟨by simp only [expand, Py.esub, hy, if_true], hp⟩
    · next hy =>
      simp only [Option.bind_eq_bind, Option.pure_def, Option.bind_eq_some_iff,
        Option.some.injEq] at h
      obtain ⟨a, ha, rfl⟩ := h
      obtain ⟨ea, sa⟩ := he _ _ q _ hp hplug ha
      exact ⟨by simp only [expand, Py.esub, hy, if_false, ea], sa⟩
  | mu y q =>
    simp only [esubF, Option.bind_eq_bind, Option.pure_def, Option.bind_eq_some_iff,
      Option.some.injEq] at h
    obtain ⟨a, ha, rfl⟩ := h
    obtain ⟨ea, sa⟩ := he _ _ q _ hp hplug ha
    exact ⟨by simp only [expand, Py.esub, ea], sa⟩
  | mv id ef sf ps ns hs =>
    simp only [Shape, Bool.and_eq_true, List.isEmpty_iff] at hp
    obtain ⟨rfl, rfl⟩ := hp
    cases h
    exact ⟨rfl, by show (_ && plug.Shape) = true; rw [hplug]; rfl⟩
  | esub p' y q | ssub p' y q =>
    cases h
    exact ⟨rfl, by rw [Shape, hp, hplug]; rfl⟩
  | inst p' m =>
    simp only [Shape, Bool.and_eq_true] at hp
    simp only [esubF, Option.bind_eq_bind, Option.bind_eq_some_iff] at h
    obtain ⟨s, hs, hr⟩ := h
    obtain ⟨es, ss⟩ := hi _ _ _ hp.1 hp.2 hs
    obtain ⟨er, sr⟩ := he _ _ _ _ ss hplug hr
    exact ⟨by rw [er, es]; simp only [expand], sr⟩

theorem ssub_step (n : Nat) (hi : InstOK n) (he : SsubOK n) : SsubOK (n + 1) := by
  intro x plug p r hp hplug h
  cases p with
  | svar y =>
    cases h
    simp only [expand, Py.ssub]
    split <;> first | exact ⟨rfl, hplug⟩ | exact ⟨rfl, rfl⟩
  | evar y | sym y => cases h; exact ⟨rfl, rfl⟩
  | imp l r' | app l r' =>
    simp only [Shape, Bool.and_eq_true] at hp
    simp only [ssubF, Option.bind_eq_bind, Option.pure_def, Option.bind_eq_some_iff,
      Option.some.injEq] at h
    obtain ⟨a, ha, b, hb, rfl⟩ := h
    obtain ⟨ea, sa⟩ := he _ _ _ _ hp.1 hplug ha
    obtain ⟨eb, sb⟩ := he _ _ _ _ hp.2 hplug hb
    exact ⟨by simp only [expand, Py.ssub, ea, eb], by simp only [Shape, sa, sb, Bool.and_self]⟩
  | mu y q =>
    simp only [ssubF] at h
    split at h
    · next hy =>
      cases h
      exact ⟨by simp only [expand, Py.ssub, hy, if_true], hp⟩
    · next hy =>
      simp only [Option.bind_eq_bind, Option.pure_def, Option.bind_eq_some_iff,
        Option.some.injEq] at h
      obtain ⟨a, ha, rfl⟩ := h
      obtain ⟨ea, sa⟩ := he _ _ q _ hp hplug ha
      exact ⟨by simp only [expand, Py.ssub, hy, if_false, ea], sa⟩
  | ex y q =>
    simp only [ssubF, Option.bind_eq_bind, Option.pure_def, Option.bind_eq_some_iff,
      Option.some.injEq] at h
    obtain ⟨a, ha, rfl⟩ := h
    obtain ⟨ea, sa⟩ := he _ _ q _ hp hplug ha
    exact ⟨by simp only [expand, Py.ssub, ea], sa⟩
  | mv id ef sf ps ns hs =>
    simp only [Shape, Bool.and_eq_true, List.isEmpty_iff] at hp
    obtain ⟨rfl, rfl⟩ := hp
    cases h
    exact ⟨rfl, by show (_ && plug.Shape) = true; rw [hplug]; rfl⟩
  | esub p' y q | ssub p' y q =>
    cases h
    exact ⟨rfl, by rw [Shape, hp, hplug]; rfl⟩
  | inst p' m =>
    simp only [Shape, Bool.and_eq_true] at hp
    simp only [ssubF, Option.bind_eq_bind, Option.bind_eq_some_iff] at h
    obtain ⟨s, hs, hr⟩ := h
    obtain ⟨es, ss⟩ := hi _ _ _ hp.1 hp.2 hs
    obtain ⟨er, sr⟩ := he _ _ _ _ ss hplug hr
    exact ⟨by rw [er, es]; simp only [expand], sr⟩

theorem map_step (n : Nat) (hi : InstOK n) (hm : MapOK n) : MapOK (n + 1) := by
  intro δ m m' hsm hδ h
  cases m with
  | nil =>
    simp only [mapF, Option.some.injEq] at h; subst h
    simp [expand.expandMap, Py.lookup, ShapeMap]
  | cons kv r =>
    obtain ⟨k, v⟩ := kv
    simp only [ShapeMap, Bool.and_eq_true] at hsm
    simp only [mapF, Option.bind_eq_bind, Option.pure_def, Option.bind_eq_some_iff,
      Option.some.injEq] at h
    obtain ⟨a, ha, b, hb, rfl⟩ := h
    obtain ⟨ea, sa⟩ := hi _ _ _ hsm.1 hδ ha
    obtain ⟨eb, sb⟩ := hm _ _ _ hsm.2 hδ hb
    refine ⟨?_, by simp [ShapeMap, sa, sb]⟩
    intro i
    simp only [expand.expandMap, Py.lookup]
    split
    · simp [ea]
    · exact eb i

def MvOK (n : Nat) : Prop :=
  ∀ (p : NPat) (L : List VId), p.Shape = true → metavarsF n p = some L →
    ∀ j, j ∈ L ↔ j ∈ Py.metavars p.expand

theorem mv_step (n : Nat) (hi : InstOK n) (hv : MvOK n) : MvOK (n + 1) := by
  intro p L hp h
  cases p with
  | evar y | svar y | sym y => simp only [metavarsF, Option.some.injEq] at h; subst h; simp [expand, Py.metavars]
  | mv id ef sf ps ns hs =>
    simp only [metavarsF, Option.some.injEq] at h; subst h; simp [expand, Py.metavars]
  | imp l r' | app l r' =>
    simp only [Shape, Bool.and_eq_true] at hp
    simp only [metavarsF, Option.bind_eq_bind, Option.pure_def, Option.bind_eq_some_iff,
      Option.some.injEq] at h
    obtain ⟨a, ha, b, hb, rfl⟩ := h
    intro j
    simp only [expand, Py.metavars, List.mem_append, hv _ _ hp.1 ha j, hv _ _ hp.2 hb j]
  | ex y q | mu y q =>
    simp only [Shape] at hp
    simp only [metavarsF] at h
    intro j
    simp only [expand, Py.metavars, hv _ _ hp h j]
  | esub p' y q | ssub p' y q =>
    simp only [Shape, Bool.and_eq_true] at hp
    simp only [metavarsF, Option.bind_eq_bind, Option.pure_def, Option.bind_eq_some_iff,
      Option.some.injEq] at h
    obtain ⟨a, ha, b, hb, rfl⟩ := h
    intro j
    simp only [expand, Py.metavars, List.mem_append, hv _ _ hp.1.2 ha j, hv _ _ hp.2 hb j]
  | inst p' m =>
    simp only [Shape, Bool.and_eq_true] at hp
    simp only [metavarsF, Option.bind_eq_bind, Option.bind_eq_some_iff] at h
    obtain ⟨s, hs, hL⟩ := h
    obtain ⟨es, ss⟩ := hi _ _ _ hp.1 hp.2 hs
    intro j
    rw [hv _ _ ss hL j, es]; simp only [expand]

theorem inst_step (n : Nat) (hi : InstOK n) (hm : MapOK n) (he : EsubOK n) (hs : SsubOK n)
    (hv : MvOK n) :
    InstOK (n + 1) := by
  intro δ p r hp hδ h
  cases p with
  | evar y | svar y | sym y => simp only [instF, Option.some.injEq] at h; subst h; simp [expand, Py.inst, Shape]
  | mv id ef sf ps ns hs =>
    simp only [instF, Option.some.injEq] at h; subst h
    simp only [expand, Py.inst, lookup_expandMap]
    cases hl : Py.lookup δ id with
    | none => simp [expand, hp]
    | some v => simp [shape_of_lookup δ hδ id v hl]
  | imp l r' | app l r' =>
    simp only [instF] at h
    split at h
    · next hemp =>
      simp only [Option.some.injEq] at h; subst h
      exact ⟨inst_isEmpty δ hemp _ hp, hp⟩
    · simp only [Shape, Bool.and_eq_true] at hp
      simp only [Option.bind_eq_bind, Option.pure_def, Option.bind_eq_some_iff,
        Option.some.injEq] at h
      obtain ⟨a, ha, b, hb, rfl⟩ := h
      obtain ⟨ea, sa⟩ := hi _ _ _ hp.1 hδ ha
      obtain ⟨eb, sb⟩ := hi _ _ _ hp.2 hδ hb
      simp [expand, Py.inst, Shape, ea, eb, sa, sb]
  | ex y q | mu y q =>
    simp only [instF] at h
    split at h
    · next hemp =>
      simp only [Option.some.injEq] at h; subst h
      exact ⟨inst_isEmpty δ hemp _ hp, hp⟩
    · simp only [Shape] at hp
      simp only [Option.bind_eq_bind, Option.pure_def, Option.bind_eq_some_iff,
        Option.some.injEq] at h
      obtain ⟨a, ha, rfl⟩ := h
      obtain ⟨ea, sa⟩ := hi _ _ _ hp hδ ha
      simp [expand, Py.inst, Shape, ea, sa]
  | esub p' y q =>
    simp only [instF] at h
    split at h
    · next hemp =>
      simp only [Option.some.injEq] at h; subst h
      exact ⟨inst_isEmpty δ hemp _ hp, hp⟩
    · simp only [Shape, Bool.and_eq_true] at hp
      simp only [Option.bind_eq_bind, Option.bind_eq_some_iff] at h
      obtain ⟨a, ha, b, hb, hr⟩ := h
      obtain ⟨ea, sa⟩ := hi _ _ _ hp.1.2 hδ ha
      obtain ⟨eb, sb⟩ := hi _ _ _ hp.2 hδ hb
      obtain ⟨er, sr⟩ := he _ _ _ _ sa sb hr
      exact ⟨by rw [er, ea, eb]; simp only [expand, Py.inst], sr⟩
  | ssub p' y q =>
    simp only [instF] at h
    split at h
    · next hemp =>
      simp only [Option.some.injEq] at h; subst h
      exact ⟨inst_isEmpty δ hemp _ hp, hp⟩
    · simp only [Shape, Bool.and_eq_true] at hp
      simp only [Option.bind_eq_bind, Option.bind_eq_some_iff] at h
      obtain ⟨a, ha, b, hb, hr⟩ := h
      obtain ⟨ea, sa⟩ := hi _ _ _ hp.1.2 hδ ha
      obtain ⟨eb, sb⟩ := hi _ _ _ hp.2 hδ hb
      obtain ⟨er, sr⟩ := hs _ _ _ _ sa sb hr
      exact ⟨by rw [er, ea, eb]; simp only [expand, Py.inst], sr⟩
  | inst p' m =>
    simp only [Shape, Bool.and_eq_true] at hp
    simp only [instF, Option.bind_eq_bind, Option.pure_def, Option.bind_eq_some_iff,
      Option.some.injEq] at h
    obtain ⟨m', hm', mvs, hmvs, rfl⟩ := h
    obtain ⟨hmap, sm'⟩ := hm _ _ _ hp.2 hδ hm'
    constructor
    · simp only [expand]
      rw [Py.inst_comp _ _ (shape_expandMap m hp.2) _ (shape_expand p' hp.1)]
      apply Py.inst_congr
      intro k hk
      have hk' : k ∈ mvs := (hv _ _ hp.1 hmvs k).mpr hk
      rw [expandMap_append, Py.lookup_append, hmap k]
      cases hl : Py.lookup (expand.expandMap m) k with
      | some v => simp
      | none =>
        simp only [Option.map_none, Option.none_or]
        rw [lookup_expandMap] at hl
        have hl' : Py.lookup m k = none := by simpa using hl
        have hkeys := lookup_none_keys m k hl'
        rw [lookup_expandMap, lookup_expandMap, lookup_dedupKeys _ _ _ (by simp),
          Py.lookup_filter _ (fun k => !(keys m).contains k && mvs.contains k)
            (by intros; rfl)]
        have hkeys' : k ∉ keys m := by simpa using hkeys
        simp [hkeys', hk']
    · simp [Shape, hp.1, shapeMap_append, sm',
        shapeMap_dedupKeys _ _ (shapeMap_filter _ _ hδ)]

theorem all_ok (n : Nat) : InstOK n ∧ MapOK n ∧ EsubOK n ∧ SsubOK n ∧ MvOK n := by
  induction n with
  | zero =>
    refine ⟨?_, ?_, ?_, ?_, ?_⟩
    · intro δ p r _ _ h; simp [instF] at h
    · intro δ m m' _ _ h; simp [mapF] at h
    · intro x plug p r _ _ h; simp [esubF] at h
    · intro x plug p r _ _ h; simp [ssubF] at h
    · intro p L _ h; simp [metavarsF] at h
  | succ n ih =>
    obtain ⟨hi, hm, he, hs, hv⟩ := ih
    exact ⟨inst_step n hi hm he hs hv, map_step n hi hm, esub_step n hi he, ssub_step n hi hs,
      mv_step n hi hv⟩

theorem instF_expand (n : Nat) (δ : List (Nat × NPat)) (p r : NPat) :
    p.Shape = true → NPat.ShapeMap δ = true → NPat.instF n δ p = some r →
    r.expand = Py.inst (Py.lookup (NPat.expand.expandMap δ)) p.expand ∧ r.Shape = true :=
  (all_ok n).1 δ p r

theorem mapF_expand (n : Nat) (δ m m' : List (Nat × NPat)) :
    ShapeMap m = true → ShapeMap δ = true → mapF n δ m = some m' →
    (∀ i, Py.lookup (expand.expandMap m') i =
        (Py.lookup (expand.expandMap m) i).map (Py.inst (Py.lookup (expand.expandMap δ)))) ∧
      ShapeMap m' = true :=
  (all_ok n).2.1 δ m m'

theorem esubF_expand (n : Nat) (x : VId) (plug p r : NPat) :
    p.Shape = true → plug.Shape = true → NPat.esubF n x plug p = some r →
    r.expand = Py.esub x plug.expand p.expand ∧ r.Shape = true :=
  (all_ok n).2.2.1 x plug p r

theorem ssubF_expand (n : Nat) (x : VId) (plug p r : NPat) :
    p.Shape = true → plug.Shape = true → NPat.ssubF n x plug p = some r →
    r.expand = Py.ssub x plug.expand p.expand ∧ r.Shape = true :=
  (all_ok n).2.2.2.1 x plug p r

theorem metavarsF_expand (n : Nat) (p : NPat) (L : List VId) :
    p.Shape = true → NPat.metavarsF n p = some L → ∀ j, j ∈ L ↔ j ∈ Py.metavars p.expand :=
  (all_ok n).2.2.2.2 p L

/-! ## Theorem 5: `evar_is_free` -/

theorem evarIsFreeF_expand (n : Nat) (e : VId) (p : NPat) (b : Bool) :
    p.Shape = true → NPat.evarIsFreeF n e p = some b → b = p.expand.eFresh e := by
  induction n generalizing p b with
  | zero => intro _ h; simp [evarIsFreeF] at h
  | succ n ih =>
    intro hp h
    cases p with
    | evar x | svar x | sym x => simp only [evarIsFreeF, Option.some.injEq] at h; subst h; simp [expand, Pat.eFresh]
    | mv id ef sf ps ns hs =>
      simp only [evarIsFreeF, Option.some.injEq] at h; subst h; simp [expand, Pat.eFresh]
    | imp l r | app l r =>
      simp only [Shape, Bool.and_eq_true] at hp
      simp only [evarIsFreeF, Option.bind_eq_bind, Option.pure_def, Option.bind_eq_some_iff,
        Option.some.injEq] at h
      obtain ⟨a, ha, c, hc, rfl⟩ := h
      rw [ih _ _ hp.1 ha, ih _ _ hp.2 hc]; simp [expand, Pat.eFresh]
    | ex x q =>
      simp only [Shape] at hp
      simp only [evarIsFreeF] at h
      split at h
      · next hx =>
        simp only [Option.some.injEq] at h; subst h
        simp [expand, Pat.eFresh, hx]
      · next hx =>
        rw [ih _ _ hp h]; simp [expand, Pat.eFresh, hx]
    | mu x q =>
      simp only [Shape] at hp
      simp only [evarIsFreeF] at h
      rw [ih _ _ hp h]; simp [expand, Pat.eFresh]
    | esub q x plug =>
      simp only [Shape, Bool.and_eq_true] at hp
      simp only [evarIsFreeF] at h
      split at h
      · next hx =>
        have hx' : e = x := by simpa using Eq.symm (beq_iff_eq.mp hx)
        rw [ih _ _ hp.2 h]; simp [expand, Pat.eFresh, hx']
      · next hx =>
        have hx' : ¬ e = x := by intro he; apply hx; simp [he]
        simp only [Option.bind_eq_bind, Option.pure_def, Option.bind_eq_some_iff] at h
        obtain ⟨a, ha, hb⟩ := h
        have ea := ih _ _ hp.1.2 ha
        cases a with
        | true =>
          simp only [if_true] at hb
          have eb := ih _ _ hp.2 hb
          simp [expand, Pat.eFresh, hx', ← ea, ← eb]
        | false =>
          simp at hb; subst hb
          simp [expand, Pat.eFresh, hx', ← ea]
    | ssub q x plug =>
      simp only [Shape, Bool.and_eq_true] at hp
      simp only [evarIsFreeF, Option.bind_eq_bind, Option.pure_def, Option.bind_eq_some_iff] at h
      obtain ⟨a, ha, hb⟩ := h
      have ea := ih _ _ hp.1.2 ha
      cases a with
      | true =>
        simp only [if_true] at hb
        have eb := ih _ _ hp.2 hb
        simp [expand, Pat.eFresh, ← ea, ← eb]
      | false =>
        simp at hb; subst hb
        simp [expand, Pat.eFresh, ← ea]
    | inst q m =>
      simp only [Shape, Bool.and_eq_true] at hp
      simp only [evarIsFreeF, Option.bind_eq_bind, Option.bind_eq_some_iff] at h
      obtain ⟨s, hs, hb⟩ := h
      obtain ⟨es, ss⟩ := instF_expand _ _ _ _ hp.1 hp.2 hs
      rw [ih _ _ ss hb, es]; simp only [expand]

/-! ## Theorem 6: Python `==` -/

theorem beq_dec {α} [BEq α] [LawfulBEq α] [DecidableEq α] (a b : α) :
    (a == b) = decide (a = b) := by
  rw [Bool.eq_iff_iff]; simp

/-- the induction hypothesis of `peqF_expand` at fuel `n` -/
def PeqOK (n : Nat) : Prop :=
  ∀ (a b : NPat) (r : Bool), a.Shape = true → b.Shape = true → peqF n a b = some r →
    r = decide (a.expand = b.expand)

theorem peq_instL (n : Nat) (ih : PeqOK n) (p : NPat) (m : List (Nat × NPat)) (b : NPat)
    (r : Bool) (ha : (inst p m).Shape = true) (hb : b.Shape = true)
    (h : ∃ s, instF n m p = some s ∧ peqF n s b = some r) :
    r = decide ((inst p m).expand = b.expand) := by
  simp only [Shape, Bool.and_eq_true] at ha
  obtain ⟨s, hs, hr⟩ := h
  obtain ⟨es, ss⟩ := instF_expand _ _ _ _ ha.1 ha.2 hs
  have e : (inst p m).expand = s.expand := by rw [es]; simp only [expand]
  rw [e]; exact ih _ _ _ ss hb hr

theorem peq_instR (n : Nat) (ih : PeqOK n) (a p : NPat) (m : List (Nat × NPat))
    (r : Bool) (ha : a.Shape = true) (hb : (inst p m).Shape = true)
    (h : ∃ s, instF n m p = some s ∧ peqF n s a = some r) :
    r = decide (a.expand = (inst p m).expand) := by
  rw [peq_instL n ih p m a r hb ha h]
  exact decide_eq_decide.mpr ⟨Eq.symm, Eq.symm⟩

/-- the two-field, short-circuiting comparison (`imp`, `app`) -/
theorem peq_two (n : Nat) (ih : PeqOK n) (l r l' r' : NPat) (res : Bool)
    (hl : l.Shape = true) (hr : r.Shape = true) (hl' : l'.Shape = true) (hr' : r'.Shape = true)
    (h : ∃ a, peqF n l l' = some a ∧ (if a = true then peqF n r r' else some false) = some res) :
    res = decide (l.expand = l'.expand ∧ r.expand = r'.expand) := by
  obtain ⟨a, ha, hres⟩ := h
  have ea := ih _ _ _ hl hl' ha
  cases a with
  | true =>
    simp only [if_true] at hres
    have er := ih _ _ _ hr hr' hres
    have : l.expand = l'.expand := by simpa using ea.symm
    simp [er, this]
  | false =>
    simp at hres; subst hres
    have : ¬ l.expand = l'.expand := by simpa using ea.symm
    simp [this]

/-- the three-field, short-circuiting comparison (`esub`, `ssub`) -/
theorem peq_three (n : Nat) (ih : PeqOK n) (p q p' q' : NPat) (x x' : VId) (res : Bool)
    (hp : p.Shape = true) (hq : q.Shape = true) (hp' : p'.Shape = true) (hq' : q'.Shape = true)
    (h : ∃ a, peqF n p p' = some a ∧
      (if (!a) = true then some false else if (x != x') = true then some false else peqF n q q')
        = some res) :
    res = decide (p.expand = p'.expand ∧ x = x' ∧ q.expand = q'.expand) := by
  obtain ⟨a, ha, hres⟩ := h
  have ea := ih _ _ _ hp hp' ha
  cases a with
  | true =>
    have hpe : p.expand = p'.expand := by simpa using ea.symm
    simp only [Bool.not_true, Bool.false_eq_true, if_false] at hres
    split at hres
    · next hx =>
      simp at hres; subst hres
      have : ¬ x = x' := by simpa using hx
      simp [this]
    · next hx =>
      have hx' : x = x' := by simpa using hx
      have er := ih _ _ _ hq hq' hres
      simp [er, hpe, hx']
  | false =>
    simp at hres; subst hres
    have : ¬ p.expand = p'.expand := by simpa using ea.symm
    simp [this]

/-- the one-field comparison under a binder (`ex`, `mu`) -/
theorem peq_bind (n : Nat) (ih : PeqOK n) (p q : NPat) (x y : VId) (res : Bool)
    (hp : p.Shape = true) (hq : q.Shape = true)
    (h : (if (x == y) = true then peqF n p q else some false) = some res) :
    res = decide (x = y ∧ p.expand = q.expand) := by
  split at h
  · next hx =>
    have hx' : x = y := by simpa using hx
    have er := ih _ _ _ hp hq h
    simp [er, hx']
  · next hx =>
    simp at h; subst h
    have : ¬ x = y := by simpa using hx
    simp [this]

theorem peq_step (n : Nat) (ih : PeqOK n) : PeqOK (n + 1) := by
  intro a b r ha hb h
  cases a with
  | inst p m =>
    simp only [peqF, Option.bind_eq_bind, Option.bind_eq_some_iff] at h
    exact peq_instL n ih _ _ _ _ ha hb h
  | evar x =>
    cases b with
    | inst p m =>
      simp only [peqF, Option.bind_eq_bind, Option.bind_eq_some_iff] at h
      exact peq_instR n ih _ _ _ _ ha hb h
    | evar y => simp only [peqF, Option.some.injEq] at h; subst h; simp [expand, beq_dec]
    | _ => cases h; exact (decide_eq_false fun e => by cases e).symm
  | svar x =>
    cases b with
    | inst p m =>
      simp only [peqF, Option.bind_eq_bind, Option.bind_eq_some_iff] at h
      exact peq_instR n ih _ _ _ _ ha hb h
    | svar y => simp only [peqF, Option.some.injEq] at h; subst h; simp [expand, beq_dec]
    | _ => cases h; exact (decide_eq_false fun e => by cases e).symm
  | sym x =>
    cases b with
    | inst p m =>
      simp only [peqF, Option.bind_eq_bind, Option.bind_eq_some_iff] at h
      exact peq_instR n ih _ _ _ _ ha hb h
    | sym y => simp only [peqF, Option.some.injEq] at h; subst h; simp [expand, beq_dec]
    | _ => cases h; exact (decide_eq_false fun e => by cases e).symm
  | mv i ef sf ps ns hs =>
    cases b with
    | inst p m =>
      simp only [peqF, Option.bind_eq_bind, Option.bind_eq_some_iff] at h
      exact peq_instR n ih _ _ _ _ ha hb h
    | mv i' ef' sf' ps' ns' hs' =>
      simp only [peqF, Option.some.injEq] at h; subst h
      simp [expand, Bool.decide_and, beq_dec, Bool.and_assoc]
    | _ => cases h; exact (decide_eq_false fun e => by cases e).symm
  | imp l r' =>
    cases b with
    | inst p m =>
      simp only [peqF, Option.bind_eq_bind, Option.bind_eq_some_iff] at h
      exact peq_instR n ih _ _ _ _ ha hb h
    | imp l' r'' =>
      simp only [Shape, Bool.and_eq_true] at ha hb
      simp only [peqF, Option.bind_eq_bind, Option.pure_def, Option.bind_eq_some_iff] at h
      rw [peq_two n ih _ _ _ _ _ ha.1 ha.2 hb.1 hb.2 h]; simp [expand]
    | _ => cases h; exact (decide_eq_false fun e => by cases e).symm
  | app l r' =>
    cases b with
    | inst p m =>
      simp only [peqF, Option.bind_eq_bind, Option.bind_eq_some_iff] at h
      exact peq_instR n ih _ _ _ _ ha hb h
    | app l' r'' =>
      simp only [Shape, Bool.and_eq_true] at ha hb
      simp only [peqF, Option.bind_eq_bind, Option.pure_def, Option.bind_eq_some_iff] at h
      rw [peq_two n ih _ _ _ _ _ ha.1 ha.2 hb.1 hb.2 h]; simp [expand]
    | _ => cases h; exact (decide_eq_false fun e => by cases e).symm
  | ex x p =>
    cases b with
    | inst p m =>
      simp only [peqF, Option.bind_eq_bind, Option.bind_eq_some_iff] at h
      exact peq_instR n ih _ _ _ _ ha hb h
    | ex y q =>
      simp only [Shape] at ha hb
      simp only [peqF] at h
      rw [peq_bind n ih _ _ _ _ _ ha hb h]; simp [expand]
    | _ => cases h; exact (decide_eq_false fun e => by cases e).symm
  | mu x p =>
    cases b with
    | inst p m =>
      simp only [peqF, Option.bind_eq_bind, Option.bind_eq_some_iff] at h
      exact peq_instR n ih _ _ _ _ ha hb h
    | mu y q =>
      simp only [Shape] at ha hb
      simp only [peqF] at h
      rw [peq_bind n ih _ _ _ _ _ ha hb h]; simp [expand]
    | _ => cases h; exact (decide_eq_false fun e => by cases e).symm
  | esub p x q =>
    cases b with
    | inst p m =>
      simp only [peqF, Option.bind_eq_bind, Option.bind_eq_some_iff] at h
      exact peq_instR n ih _ _ _ _ ha hb h
    | esub p' x' q' =>
      simp only [Shape, Bool.and_eq_true] at ha hb
      simp only [peqF, Option.bind_eq_bind, Option.pure_def, Option.bind_eq_some_iff] at h
      rw [peq_three n ih _ _ _ _ _ _ _ ha.1.2 ha.2 hb.1.2 hb.2 h]; simp [expand]
    | _ => cases h; exact (decide_eq_false fun e => by cases e).symm
  | ssub p x q =>
    cases b with
    | inst p m =>
      simp only [peqF, Option.bind_eq_bind, Option.bind_eq_some_iff] at h
      exact peq_instR n ih _ _ _ _ ha hb h
    | ssub p' x' q' =>
      simp only [Shape, Bool.and_eq_true] at ha hb
      simp only [peqF, Option.bind_eq_bind, Option.pure_def, Option.bind_eq_some_iff] at h
      rw [peq_three n ih _ _ _ _ _ _ _ ha.1.2 ha.2 hb.1.2 hb.2 h]; simp [expand]
    | _ => cases h; exact (decide_eq_false fun e => by cases e).symm

theorem peqF_expand (n : Nat) (a b : NPat) (r : Bool) :
    a.Shape = true → b.Shape = true → NPat.peqF n a b = some r →
    r = decide (a.expand = b.expand) := by
  induction n generalizing a b r with
  | zero => intro _ _ h; simp [peqF] at h
  | succ n ih => exact peq_step n (fun a b r => ih a b r) a b r

end NPat

#print axioms NPat.shape_expand
#print axioms NPat.instF_expand
#print axioms NPat.esubF_expand
#print axioms NPat.ssubF_expand
#print axioms NPat.evarIsFreeF_expand
#print axioms NPat.peqF_expand
#print axioms NPat.metavarsF_expand
#print axioms Py.inst_esub_comm
#print axioms Py.inst_ssub_comm
#print axioms Py.inst_comp
#print axioms Py.inst_congr
#print axioms Py.inst_empty
