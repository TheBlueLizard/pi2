import Pi2.KModRun
/-!
# Acceptance of a module whose patterns are shaped and machine-OK and whose instantiations the machine accepts

`module_acceptedM` is the analogue of `KMod.module_acceptedK` for ARBITRARY proof expressions (`prop1-3`, `quantifier`,
`mp`, `gen`, `dynInst`, `loadAxiom`, nested at will), for any configuration `cfg` (plain or memoising, no hypothesis on
the suggestion list), stated up to a naming `ρ` of the symbols that agrees with the final symbol table.  It is
`module_acceptedG` on the class of shaped patterns, on which `==` is truthful (`NPat.peqF_expand`).
-/
set_option linter.unusedSimpArgs false
set_option linter.unusedVariables false
open Pat PySt

namespace KMod
open NPat

/-- tracker and machine in the proof phase -/
structure PRelMk (ρ : Nat → Nat) (s : PySt) (m : St) : Prop where
  phase : s.phase = .proof
  memory : m.memory = s.memory.map (convR ρ)
  claims : m.claims = s.claims.map fun c => ren ρ c.expand
  memS : MemS s.memory
  clShape : ∀ c ∈ s.claims, c.Shape = true

/-- the side conditions of a proof expression -/
def PfOK (pf : Pf) : Prop := pf.patsOK = true ∧ pf.InstOK

theorem peq_shape (n : Nat) (a r : NPat) (ha : a.Shape = true) (hr : r.Shape = true)
    (h : peqF n a r = some true) : a.expand = r.expand := by
  have := NPat.peqF_expand n a r true ha hr h
  simpa using this.symm

theorem Memoable.shape (cfg : Cfg) : Memoable cfg fun p => p.Shape = true where
  imp h := by simpa [NPat.Shape] using h
  app h := by simpa [NPat.Shape] using h
  ex h := by simpa [NPat.Shape] using h
  mu h := by simpa [NPat.Shape] using h
  esub h := by simp only [NPat.Shape, Bool.and_eq_true] at h; exact ⟨h.1.2, h.2⟩
  ssub h := by simp only [NPat.Shape, Bool.and_eq_true] at h; exact ⟨h.1.2, h.2⟩
  inst h := by
    simp only [NPat.Shape, Bool.and_eq_true] at h
    exact ⟨h.1, shapeMap_vals _ h.2⟩
  hit _ := peq_shape

/-- a proof expression with its patterns in order substitutes and loads shaped patterns only -/
theorem within_of_patsOK : ∀ (pf : Pf), pf.patsOK = true →
    pf.Within (fun p => p.Shape = true) fun p => p.Shape = true := by
  intro pf
  induction pf with
  | prop1 => intro _; trivial
  | prop2 => intro _; trivial
  | prop3 => intro _; trivial
  | quantifier => intro _; trivial
  | loadAxiom a => intro h; exact h
  | mp l r ihl ihr =>
    intro h
    simp only [Pf.patsOK, Bool.and_eq_true] at h
    exact ⟨ihl h.1, ihr h.2⟩
  | gen p x ih => intro h; exact ih h
  | dynInst p δ ih =>
    intro h
    simp only [Pf.patsOK, Bool.and_eq_true, decide_eq_true_eq] at h
    exact ⟨ih h.1.1.1, shapeMap_vals _ h.1.2⟩

theorem PfOK.pfG {pf : Pf} (h : PfOK pf) : PfG (fun p => p.Shape = true) (fun p => p.Shape = true) pf :=
  ⟨h.1, h.2, within_of_patsOK pf h.1⟩

theorem SM.spec {a : NPat} (h : a.SM = true) : a.MOK = true ∧ a.Shape = true ∧ a.Shape = true := by
  simp only [NPat.SM, Bool.and_eq_true] at h
  exact ⟨h.2, h.1, h.1⟩

/-- **acceptance of a module, plain or memoising**: axioms and claims shaped and machine-OK, one proof per claim,
every proof with patterns in order and instantiations the machine accepts.  `ρ` is any naming of the symbols that names
the symbols of the final table by their position (the number the serializer writes). -/
theorem module_acceptedM {cfg : Cfg} {n : Nat} (M : PModule) (s : PySt) (calls : List Call)
    (hgam : ∀ a ∈ M.gammaAxioms, a.SM = true) (hclm : ∀ a ∈ M.claimsOf, a.SM = true)
    (hpfs : ∀ pf ∈ M.proofsOf, PfOK pf) (hlen : M.claimsOf.length = M.proofsOf.length)
    (hex : PModule.executeFull cfg n M = some (some (s, calls)))
    (ρ : Nat → Nat) (hag : Agree ρ s.symtab) :
    s.claims = [] ∧ AllSideK n (PySt.init M.claimsOf) calls ∧
    ∃ g c p, PySt.trackAll n (PySt.init M.claimsOf) calls ([], [], []) = some (some (s, (g, c, p))) ∧
      verify g c p = some (M.gammaAxioms.map (fun a => ren ρ a.expand),
        M.claimsOf.reverse.map (fun a => ren ρ a.expand)) :=
  module_acceptedG (Memoable.shape cfg) peq_shape M s calls (fun a ha => SM.spec (hgam a ha))
    (fun a ha => SM.spec (hclm a ha)) (fun pf hpf => (hpfs pf hpf).pfG) hlen hex ρ hag

/-- the result of running a proof expression under the plain configuration, as a proposition -/
def RunOKM (n : Nat) (s : PySt) (acc : List Call) (s1 : PySt) (a1 : List Call) (c : NPat) (pf : Pf) : Prop :=
  Pushed s s1 [(.proved c, false)] ∧ c.Shape = true ∧ Pf.Sem pf c.expand ∧
  ∃ cs, a1 = acc ++ cs ∧ ∀ (ρ : Nat → Nat) (m : St), Agree ρ s1.symtab → MemS s.memory →
    m.memory = s.memory.map (convR ρ) → ∃ is, Sg n s m cs s1 (mprov m (ren ρ c.expand)) is []

/-- **one proof expression against the machine** (plain serialisation) -/
theorem runC {n k : Nat} (hk : k ≤ n) (ax : List NPat) {pf : Pf} {s s1 : PySt} {acc a1 : List Call} {c : NPat}
    (h : Pf.runF {} ax k s pf acc = some (some (s1, a1, c))) (hp : pf.patsOK = true) (hi : pf.InstOK) :
    RunOKM n s acc s1 a1 c pf := by
  obtain ⟨e, P, hc, hS, cs, rfl, S⟩ := runG (A := fun p => p.Shape = true) (Memoable.shape {}) peq_shape hk ax h hp hi
    (within_of_patsOK pf hp)
  have he : e = [] := List.eq_nil_iff_forall_not_mem.mpr fun q hq => (P.saved q hq).2 rfl
  subst he
  refine ⟨⟨P.stack, by simpa using P.memory, P.claims, P.phase, P.symtab⟩, hc, hS, cs, rfl, ?_⟩
  intro ρ m hag hM hm
  have hK : MemG (fun p => p.Shape = true) (fun p => p.Shape = true) s.memory := by
    refine ⟨fun q hq => ?_, fun a ha => ?_⟩
    · obtain ⟨b, e, _⟩ := hM _ hq; cases e
    · obtain ⟨b, e, hb⟩ := hM _ ha; cases e; exact hb
  simpa [msave_nil] using S ρ m hag hK hm

/-- a machine-OK module satisfies the hypotheses of `module_acceptedM` -/
theorem PModule.MOK.spec {M : PModule} (h : M.MOK = true) :
    (∀ a ∈ M.gammaAxioms, a.SM = true) ∧ (∀ a ∈ M.claimsOf, a.SM = true) ∧
    (∀ pf ∈ M.proofsOf, Pf.MOK M.axiomsOf pf = true) ∧ M.claimsOf.length = M.proofsOf.length := by
  simp only [PModule.MOK, Bool.and_eq_true, List.all_eq_true, beq_iff_eq] at h
  exact ⟨h.1.1.1, h.1.1.2, h.1.2, h.2⟩

theorem Pf.MOK.pfOK {ax : List NPat} {pf : Pf} (h : Pf.MOK ax pf = true) : PfOK pf :=
  ⟨Pf.MOK.patsOK h, Pf.MOK.instOK h⟩

/-- the propositional proof expressions satisfy the side conditions -/
theorem Pf.PF.pfOK : ∀ (pf : Pf), pf.PF = true → PfOK pf ∧ ∀ A, Pf.Sem pf A → A.PFS = true := by
  intro pf
  induction pf with
  | prop1 => intro _; exact ⟨⟨rfl, trivial⟩, fun A h => by cases h; decide⟩
  | prop2 => intro _; exact ⟨⟨rfl, trivial⟩, fun A h => by cases h; decide⟩
  | prop3 => intro _; exact ⟨⟨rfl, trivial⟩, fun A h => by cases h; decide⟩
  | quantifier => intro h; simp [Pf.PF] at h
  | gen p x _ => intro h; simp [Pf.PF] at h
  | loadAxiom a =>
    intro h
    simp only [Pf.PF] at h
    exact ⟨⟨PF.shape a h, trivial⟩, fun A hA => by cases hA; exact PF.pfs a h⟩
  | mp l r ihl ihr =>
    intro h
    simp only [Pf.PF, Bool.and_eq_true] at h
    obtain ⟨⟨hpl, hil⟩, hsl⟩ := ihl h.1
    obtain ⟨⟨hpr, hir⟩, _⟩ := ihr h.2
    refine ⟨⟨by simp [Pf.patsOK, hpl, hpr], hil, hir⟩, ?_⟩
    intro A hA
    cases hA with
    | mp hl' hr' =>
      have := hsl _ hl'
      simp only [Pat.PFS, Bool.and_eq_true] at this
      exact this.2
  | dynInst p δ ih =>
    intro h
    simp only [Pf.PF, Bool.and_eq_true, decide_eq_true_eq] at h
    obtain ⟨⟨hpp, hip⟩, hsp⟩ := ih h.1.1
    refine ⟨⟨by simp [Pf.patsOK, hpp, PFMap.mok δ h.1.2, PFMap.shape δ h.1.2, h.2], hip, ?_⟩, ?_⟩
    · intro _ A hA
      exact Pat.inst_PFS _ _ (hsp A hA)
    · intro A hA
      cases hA with
      | dynInst hp' =>
        exact Py.inst_PFS _ (lookup_PFS δ (fun kv hkv => PF.pfs _ ((PFMap_iff δ).mp h.1.2 kv hkv))) _ (hsp _ hp')

end KMod
