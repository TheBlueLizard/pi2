import Pi2.Gen.PyKore
import Pi2.KoreThm
import Pi2.MatchTie
/-!
# The Kore conversion and the execution-proof generator as written in Python are the model's

`Pi2/Gen/PyKore.lean` is regenerated from `k/kore_convertion/language_semantics.py` and
`k/execution_proof_generation.py` on every run (`vlib/transkore.py`), statement by statement, in the
combinators of `Pi2/InterpSupport.lean` / `Pi2/MatchSupport.lean` / `Pi2/KoreSupport.lean`
(`Py α = Option (Option α)`: outer `none` = out of fuel, inner `none` = an exception).  Here the generated
functions are proved equal to the hand-written model `Pi2/Kore.lean` that C20 is stated about.

* **scopes** — a Python `ConvertionScope` whose dictionaries were filled by the conversion is `withScope ps sc`
  for the model's `sc : Scope`: `_metavars = {x₀: MetaVar(0), x₁: MetaVar(1), …}` for `sc.mvs = [x₀, x₁, …]`
  (`enumFrom`), `_sort_param_metavars = {s₀: MetaVar(100), …}`; a dictionary lookup is `List.idxOf?`
  (`enumFrom_lookup`), `d[k] = v` on a new key appends (`kSet_new`).  `resolve_metavar_eq`,
  `resolve_sort_param_metavar_eq`, `lookup_*_eq`, `resolve_evar_eq`: plain equations, for every scope, no
  side condition (a scope with a repeated name included).
* **conversion** — `convert_sort_eq`, `convert_pattern_both` (`_convert_pattern = conv`, the comprehension over the
  arguments `= convList`), `convert_pattern_eq`, `convert_substitutions_eq` (`= convertSubst` on the cached scope
  of the axiom, which is written back into the cache): plain equations for every term of `KTerm` (the modelled
  fragment: no quantifiers, fixpoints, set variables; binary `\and` / `\or`), every signature, every scope.
  The conversion needs no fuel: the generated function is structurally recursive, like the model.
* **`rewrite_event`, `from_proof_hints`** — `rewrite_event_eq`, `from_proof_hints_eq`: the generated function
  equals `rewriteEventF` / `traceF` (fuel `n` passed on unchanged), with ONE exception that is an artefact of
  fuel: Python collects (and checks) the functional assumptions of all entries of the substitution first and
  adds them afterwards (`collectF`, `addAllF`), the model checks and adds entry by entry
  (`addFunctionalF_phases`); so when an `add_axiom` of an earlier entry runs out of fuel and a later entry
  fails its check, the model says "out of fuel" and the text "raises".  Whenever the model answers, the text
  answers the same (`rewrite_event_of_model`); whenever the text succeeds, so does the model, with the same
  state (`rewrite_event_success`).
-/
set_option linter.unusedVariables false
set_option linter.unusedSimpArgs false
namespace KoreTie
open PyI PyM PyK Kore Gen.PyKore

theorem translated : Gen.PyKore.translated = true := by decide

/-! ## dictionaries keyed by name vs the model's lists of names -/

/-- the dictionary `{x₀: f i, x₁: f (i+1), …}` of a scope whose names were met in the order `x₀, x₁, …` -/
def enumFrom (f : Nat → NPat) : Nat → List Nat → KDict NPat
  | _, [] => []
  | i, x :: xs => (x, f i) :: enumFrom f (i + 1) xs

theorem enumFrom_length (f : Nat → NPat) (i : Nat) (l : List Nat) : (enumFrom f i l).length = l.length := by
  induction l generalizing i with
  | nil => rfl
  | cons x xs ih => simp [enumFrom, ih]

theorem enumFrom_append (f : Nat → NPat) (i : Nat) (l : List Nat) (x : Nat) :
    enumFrom f i (l ++ [x]) = enumFrom f i l ++ [(x, f (i + l.length))] := by
  induction l generalizing i with
  | nil => simp [enumFrom]
  | cons y ys ih => simp [enumFrom, ih, Nat.add_assoc, Nat.add_comm 1]

theorem enumFrom_lookup (f : Nat → NPat) (i : Nat) (l : List Nat) (x : Nat) :
    (enumFrom f i l).lookup x = (l.idxOf? x).map fun j => f (i + j) := by
  induction l generalizing i with
  | nil => simp [enumFrom, List.lookup]
  | cons y ys ih =>
    rw [List.idxOf?_cons]
    simp only [enumFrom, List.lookup]
    by_cases hxy : y = x
    · subst hxy; simp
    · have h1 : (x == y) = false := by simpa using fun h : x = y => hxy h.symm
      have h2 : (y == x) = false := by simpa using hxy
      simp only [h1, h2, ih, Option.map_map]
      cases List.idxOf? x ys <;> simp [Function.comp, Nat.add_assoc, Nat.add_comm 1]

theorem kSet_new {α} (d : KDict α) (k : Nat) (v : α) (h : d.lookup k = none) : kSet d k v = d ++ [(k, v)] := by
  induction d with
  | nil => rfl
  | cons e r ih =>
    rw [List.lookup_cons] at h
    split at h
    · cases h
    · next hk => simp [kSet, BEq.comm (a := e.1), hk, ih h]

theorem kSet_same {α} (d : KDict α) (k : Nat) (v : α) (h : d.lookup k = some v) : kSet d k v = d := by
  induction d with
  | nil => cases h
  | cons e r ih =>
    rw [List.lookup_cons] at h
    split at h
    · next hk => cases h; simp [kSet, BEq.comm (a := e.1), hk]
    · next hk => simp [kSet, BEq.comm (a := e.1), hk, ih h]

theorem kSet_kSet {α} (d : KDict α) (k : Nat) (v v' : α) : kSet (kSet d k v) k v' = kSet d k v' := by
  induction d with
  | nil => simp [kSet]
  | cons e r ih =>
    obtain ⟨k', w⟩ := e
    by_cases hk : (k' == k) = true
    · simp [kSet, hk]
    · simp [kSet, hk, ih]

theorem lookup_kSet {α} (d : KDict α) (k : Nat) (v : α) : (kSet d k v).lookup k = some v := by
  induction d with
  | nil => simp [kSet, List.lookup]
  | cons e r ih =>
    obtain ⟨k', w⟩ := e
    by_cases hk : k = k'
    · subst hk; simp [kSet, List.lookup]
    · have h1 : (k == k') = false := by simpa using hk
      have h2 : (k' == k) = false := by simpa using fun h : k' = k => hk h.symm
      simp [kSet, h2, List.lookup, h1, ih]

theorem lookup_append_new {α} (d : KDict α) (k : Nat) (v : α) (h : d.lookup k = none) :
    (d ++ [(k, v)]).lookup k = some v := by
  rw [← kSet_new d k v h]; exact lookup_kSet d k v

/-! ## `ConvertionScope` -/

/-- the Python scope object that the model's scope `sc` stands for: `_metavars` maps the i-th name to
`MetaVar(i)`, `_sort_param_metavars` the i-th name to `MetaVar(100 + i)`; `_evars` / `_svars` (never
touched by the conversion) are those of `ps` -/
def withScope (ps : PyScope) (sc : Scope) : PyScope :=
  { ps with _metavars := enumFrom mvN 0 sc.mvs,
            _sort_param_metavars := enumFrom (fun i => mvN (sortParamBase + i)) 0 sc.sortParams }

theorem init_scope : ConvertionScope.__init__ = withScope ConvertionScope.__init__ {} := rfl

theorem sort_param_const : ConvertionScope.SORT_PARAM_METAVAR = sortParamBase := rfl

/-- `resolve_metavar` is `Scope.resolveMv` -/
theorem resolve_metavar_eq (ps : PyScope) (sc : Scope) (x : Nat) :
    ConvertionScope.resolve_metavar (withScope ps sc) x
      = ret (withScope ps (sc.resolveMv x).1, mvN (sc.resolveMv x).2) := by
  unfold ConvertionScope.resolve_metavar Scope.resolveMv
  cases h : sc.mvs.idxOf? x with
  | none =>
    have hl : (enumFrom mvN 0 sc.mvs).lookup x = none := by rw [enumFrom_lookup, h]; rfl
    simp only [withScope, kHas, hl, Option.isSome_none, Bool.not_false, if_true, kSet_new _ _ _ hl, kGet,
      lookup_append_new _ _ _ hl, kLen, enumFrom_length, enumFrom_append, Nat.zero_add, mvN]
  | some i =>
    have hl : (enumFrom mvN 0 sc.mvs).lookup x = some (mvN i) := by rw [enumFrom_lookup, h]; simp
    simp only [withScope, kHas, hl, Option.isSome_some, Bool.not_true, kGet]
    rfl

/-- `resolve_sort_param_metavar` is `Scope.resolveSortParam` -/
theorem resolve_sort_param_metavar_eq (ps : PyScope) (sc : Scope) (x : Nat) :
    ConvertionScope.resolve_sort_param_metavar (withScope ps sc) x
      = ret (withScope ps (sc.resolveSortParam x).1, mvN (sc.resolveSortParam x).2) := by
  unfold ConvertionScope.resolve_sort_param_metavar Scope.resolveSortParam
  cases h : sc.sortParams.idxOf? x with
  | none =>
    have hl : (enumFrom (fun i => mvN (sortParamBase + i)) 0 sc.sortParams).lookup x = none := by
      rw [enumFrom_lookup, h]; rfl
    simp only [withScope, kHas, hl, Option.isSome_none, Bool.not_false, if_true, kSet_new _ _ _ hl, kGet,
      lookup_append_new _ _ _ hl, kLen, enumFrom_length, enumFrom_append, Nat.zero_add, sort_param_const]
    rfl
  | some i =>
    have hl : (enumFrom (fun i => mvN (sortParamBase + i)) 0 sc.sortParams).lookup x = some (mvN (sortParamBase + i)) := by
      rw [enumFrom_lookup, h]; simp
    simp only [withScope, kHas, hl, Option.isSome_some, Bool.not_true, kGet]
    rfl

/-- `lookup_metavar`: the id of a known name, `KeyError` for an unknown one -/
theorem lookup_metavar_eq (ps : PyScope) (sc : Scope) (x : Nat) :
    ConvertionScope.lookup_metavar (withScope ps sc) x = some ((sc.mvs.idxOf? x).map mvN) := by
  unfold ConvertionScope.lookup_metavar
  have hl := enumFrom_lookup mvN 0 sc.mvs x
  cases h : sc.mvs.idxOf? x with
  | none => rw [h] at hl; simp [withScope, kHas, hl, raise]
  | some i => rw [h] at hl; simp [withScope, kHas, hl, kGet, ret]

theorem lookup_sort_param_metavar_eq (ps : PyScope) (sc : Scope) (x : Nat) :
    ConvertionScope.lookup_sort_param_metavar (withScope ps sc) x
      = some ((sc.sortParams.idxOf? x).map fun i => mvN (sortParamBase + i)) := by
  unfold ConvertionScope.lookup_sort_param_metavar
  have hl := enumFrom_lookup (fun i => mvN (sortParamBase + i)) 0 sc.sortParams x
  cases h : sc.sortParams.idxOf? x with
  | none => rw [h] at hl; simp [withScope, kHas, hl, raise]
  | some i => rw [h] at hl; simp [withScope, kHas, hl, kGet, ret]

/-- `resolve_evar` (not used by the conversion: `kore.EVar` becomes a metavariable): on a scope whose
`_evars` are the names `evs` in order of first occurrence, the i-th name is `EVar(i)` -/
theorem resolve_evar_eq (ps : PyScope) (evs : List Nat) (x : Nat) (h : ps._evars = enumFrom NPat.evar 0 evs) :
    ConvertionScope.resolve_evar ps x
      = match evs.idxOf? x with
        | some i => ret (ps, .evar i)
        | none => ret ({ ps with _evars := enumFrom NPat.evar 0 (evs ++ [x]) }, .evar evs.length) := by
  unfold ConvertionScope.resolve_evar
  have hl := enumFrom_lookup NPat.evar 0 evs x
  cases hi : evs.idxOf? x with
  | none =>
    rw [hi] at hl
    simp only [h, kHas, hl, Option.isSome_none, Bool.not_false, if_true, kSet_new _ _ _ hl, kGet, Option.map_none,
      lookup_append_new _ _ _ hl, kLen, enumFrom_length, enumFrom_append, Nat.zero_add]
  | some i =>
    rw [hi] at hl
    simp only [h, kHas, hl, Option.map_some, Option.isSome_some, Bool.not_true, kGet, Nat.zero_add]
    rfl

/-! ## `_convert_sort`, `_convert_pattern` -/

/-- a result of the model (scope, value) as the result of the translated text on the scope object `ps` -/
def lift {α} (ps : PyScope) (o : Option (Scope × α)) : Py (PyScope × α) :=
  some (o.map fun r => (withScope ps r.1, r.2))

theorem call_lift {α β} (ps : PyScope) (o : Option (Scope × α)) (k : PyScope × α → Py β) :
    call (lift ps o) k = match o with
      | none => some none
      | some r => k (withScope ps r.1, r.2) := by
  cases o <;> rfl

theorem call_ret_val {α β} (a : α) (k : α → Py β) : call (ret a) k = k a := rfl

theorem symbolName_ksort (n : Nat) : NPat.sym (symbolName "ksort_" n) = sortSym n := by
  unfold symbolName sortSym; rfl
theorem symbolName_ksym (n : Nat) : NPat.sym (symbolName "ksym_" n) = symSym n := by
  unfold symbolName symSym; rfl
theorem valueName_eq (v : Nat) : NPat.sym (valueName v) = dvSym v := rfl

/-- `_convert_sort` is `convSort` -/
theorem convert_sort_eq (sem : PySem) (ps : PyScope) (sc : Scope) (s : KSort) :
    LanguageSemantics._convert_sort sem (withScope ps sc) s = lift ps (convSort sem.sg sc s) := by
  cases s with
  | var x =>
    simp only [LanguageSemantics._convert_sort, sortName, resolve_sort_param_metavar_eq, convSort, lift]
    rfl
  | app n =>
    simp only [LanguageSemantics._convert_sort, sortName, get_sort, convSort, lift, KSort.aml_symbol]
    by_cases h : sem.sg.sorts.contains n = true
    · simp only [h, if_true, call, ret, symbolName_ksort, Option.map_some]
    · simp only [h, call, raise, Option.map_none]; rfl

/-- the comprehension `[self._convert_sort(scope, sort) for sort in ksorts]` is `convSorts` -/
theorem convert_sorts_eq {β} (sem : PySem) (ps : PyScope) (ss : List KSort) (sc : Scope) (k : PyScope → List NPat → Py β) :
    mapS ss (withScope ps sc)
        (fun a_scope v_sort => call (LanguageSemantics._convert_sort sem a_scope v_sort) fun (a_scope, t) => ret (a_scope, t)) k
      = match convSorts sem.sg sc ss with
        | none => some none
        | some r => k (withScope ps r.1) r.2 := by
  induction ss generalizing sc k with
  | nil => rfl
  | cons s ss ih =>
    simp only [mapS, convSorts, convert_sort_eq, call_lift, Option.bind_eq_bind]
    cases convSort sem.sg sc s with
    | none => rfl
    | some r =>
      obtain ⟨sc1, p⟩ := r
      show mapS ss (withScope ps sc1) _ _ = _
      rw [ih]
      simp only [Option.bind_some, Option.pure_def]
      cases convSorts sem.sg sc1 ss <;> rfl

/-- `kl.<notation>(args…)` is `applyN "<label>" [args…]` -/
theorem kl_call {β} (lbl : String) (args : List NPat) (k : NPat → Py β) :
    (call (kl lbl) fun t => call (notationCall t args) k)
      = match applyN lbl args with
        | none => some none
        | some p => k p := by
  unfold kl applyN notationCall
  cases koreNotation lbl with
  | none => rfl
  | some r =>
    obtain ⟨d, a⟩ := r
    simp only [call, ret, Option.bind_eq_bind, Option.bind_some]
    cases applyDef d a args <;> rfl

theorem call_id {α} (x : Py α) : (call x fun t => ret t) = x := by
  rcases x with _ | _ | _ <;> rfl

/-- `ksymbol.app(*args)` -/
theorem symbol_app_call {β} (d : SymDecl) (args : List NPat) (k : NPat → Py β) :
    (call (KSymbol.app d) fun t => call (notationCall t args) k)
      = match (if d.isKseq then applyN "kore-kseq" args
               else applyDef (naryDef (symSym d.name) (d.nSortParams + d.nInputs)) (d.nSortParams + d.nInputs) args) with
        | none => some none
        | some p => k p := by
  unfold KSymbol.app nameIs
  cases hk : d.isKseq with
  | true =>
    simp only [beq_self_eq_true, Bool.and_self, if_true, call_id]
    exact kl_call "kore-kseq" args k
  | false =>
    simp only [Bool.and_false, Bool.false_eq_true, if_false, KSymbol.aml_symbol, call, ret, symbolName_ksym, nary_app,
      notationCall]
    cases applyDef _ _ args <;> rfl

theorem find_name {l : List SymDecl} {f : Nat} {d : SymDecl} (h : l.find? (·.name == f) = some d) : d.name = f := by
  have := List.find?_some h
  simpa using this

/-- `_convert_pattern` is `conv`, the comprehension over the arguments is `convList` -/
theorem convert_pattern_both (sem : PySem) (ps : PyScope) :
    (∀ t sc, LanguageSemantics._convert_pattern sem (withScope ps sc) t = lift ps (conv sem.sg sc t)) ∧
    (∀ ts sc, LanguageSemantics._convert_pattern.comp1 sem (withScope ps sc) ts = lift ps (convList sem.sg sc ts)) := by
  have step : ∀ {α β : Type} (o : Option (Scope × α)) (f : Scope × α → Option (Scope × β)) (g : Scope × α → Py (PyScope × β)),
      (∀ r, g r = lift ps (f r)) →
      (match o with | none => some none | some r => g r) = lift ps (o.bind f) := by
    intro α β o f g h
    cases o with
    | none => rfl
    | some r => simp only [Option.bind_some, h]
  have hcons : ∀ t ts, (∀ sc, LanguageSemantics._convert_pattern sem (withScope ps sc) t = lift ps (conv sem.sg sc t)) →
      (∀ sc, LanguageSemantics._convert_pattern.comp1 sem (withScope ps sc) ts = lift ps (convList sem.sg sc ts)) →
      ∀ sc, LanguageSemantics._convert_pattern.comp1 sem (withScope ps sc) (t :: ts) = lift ps (convList sem.sg sc (t :: ts)) := by
    intro t ts iht ihts sc
    simp only [LanguageSemantics._convert_pattern.comp1, convList, iht, call_lift, Option.bind_eq_bind]
    apply step; intro r
    simp only [ihts, call_lift]
    cases convList sem.sg r.1 ts <;> rfl
  have main : ∀ t : KTerm, ∀ sc, LanguageSemantics._convert_pattern sem (withScope ps sc) t = lift ps (conv sem.sg sc t) := by
    intro t
    induction t using KTerm.rec
      (motive_2 := fun ts => ∀ sc, LanguageSemantics._convert_pattern.comp1 sem (withScope ps sc) ts = lift ps (convList sem.sg sc ts)) with
    | evar x =>
      intro sc
      simp only [LanguageSemantics._convert_pattern, conv, resolve_metavar_eq, lift]; rfl
    | nil => rfl
    | cons t ts iht ihts => exact hcons t ts iht ihts _
    | app f ss as ih =>
      intro sc
      simp only [LanguageSemantics._convert_pattern, conv, get_symbol, Option.bind_eq_bind]
      cases hd : sem.sg.symbols.find? (·.name == f) with
      | none => rfl
      | some d =>
        simp only [call_ret_val, Option.bind_some, convert_sorts_eq]
        cases convSorts sem.sg sc ss with
        | none => rfl
        | some r =>
          simp only [Option.bind_some, ih, call_lift]
          cases convList sem.sg r.1 as with
          | none => rfl
          | some r2 =>
            simp only [Option.bind_some]
            rw [symbol_app_call, find_name hd]
            simp only [Option.pure_def]
            cases hk : d.isKseq with
            | true => simp only [if_true]; cases applyN "kore-kseq" (r.2 ++ r2.2) <;> rfl
            | false =>
              simp only [Bool.false_eq_true, if_false]
              cases applyDef (naryDef (symSym f) (d.nSortParams + d.nInputs)) (d.nSortParams + d.nInputs) (r.2 ++ r2.2) <;> rfl
    | dv s v | top s | bottom s =>
      intro sc
      simp only [LanguageSemantics._convert_pattern, conv, convert_sort_eq, call_lift, Option.bind_eq_bind, valueName_eq, kl_call]
      apply step; intro r
      generalize applyN _ _ = o; cases o <;> rfl
    | not s p ih | next s p ih =>
      intro sc
      simp only [LanguageSemantics._convert_pattern, conv, convert_sort_eq, call_lift, Option.bind_eq_bind, kl_call]
      apply step; intro r
      simp only [ih, call_lift]
      apply step; intro r2
      generalize applyN _ _ = o; cases o <;> rfl
    | and s l r ihl ihr | or s l r ihl ihr | implies s l r ihl ihr | iff s l r ihl ihr | rewrites s l r ihl ihr =>
      intro sc
      simp only [LanguageSemantics._convert_pattern, conv, convert_sort_eq, call_lift, Option.bind_eq_bind, kl_call, assert_,
        beq_self_eq_true, if_true]
      apply step; intro r1
      simp only [ihl, call_lift]
      apply step; intro r2
      simp only [ihr, call_lift]
      apply step; intro r3
      generalize applyN _ _ = o; cases o <;> rfl
    | ceil a b p ih | floor a b p ih =>
      intro sc
      simp only [LanguageSemantics._convert_pattern, conv, convert_sort_eq, call_lift, Option.bind_eq_bind, kl_call]
      apply step; intro r1
      apply step; intro r2
      simp only [ih, call_lift]
      apply step; intro r3
      generalize applyN _ _ = o; cases o <;> rfl
    | equals a b l r ihl ihr | kin a b l r ihl ihr =>
      intro sc
      simp only [LanguageSemantics._convert_pattern, conv, convert_sort_eq, call_lift, Option.bind_eq_bind, kl_call]
      apply step; intro r1
      apply step; intro r2
      simp only [ihl, call_lift]
      apply step; intro r3
      simp only [ihr, call_lift]
      apply step; intro r4
      generalize applyN _ _ = o; cases o <;> rfl
  refine ⟨main, ?_⟩
  intro ts
  induction ts with
  | nil => intro sc; rfl
  | cons t ts ih => exact hcons t ts (main t) ih

theorem convert_pattern_rec_eq (sem : PySem) (ps : PyScope) (sc : Scope) (t : KTerm) :
    LanguageSemantics._convert_pattern sem (withScope ps sc) t = lift ps (conv sem.sg sc t) :=
  (convert_pattern_both sem ps).1 t sc

theorem convert_pattern_list_eq (sem : PySem) (ps : PyScope) (sc : Scope) (ts : List KTerm) :
    LanguageSemantics._convert_pattern.comp1 sem (withScope ps sc) ts = lift ps (convList sem.sg sc ts) :=
  (convert_pattern_both sem ps).2 ts sc

/-- `convert_pattern` (a fresh scope per call) is `convertPattern` -/
theorem convert_pattern_eq (sem : PySem) (t : KTerm) :
    LanguageSemantics.convert_pattern sem t = some (convertPattern sem.sg t) := by
  unfold LanguageSemantics.convert_pattern convertPattern
  show call (LanguageSemantics._convert_pattern sem ConvertionScope.__init__ t) _ = _
  rw [init_scope, convert_pattern_rec_eq, call_lift]
  cases conv sem.sg {} t <;> rfl

/-! ## `convert_substitutions` -/

theorem dictSet_keys (acc : List (Nat × NPat)) (i : Nat) (p : NPat) :
    (dictSet acc i p).map (·.1) = if acc.any (·.1 == i) then acc.map (·.1) else acc.map (·.1) ++ [i] := by
  induction acc with
  | nil => rfl
  | cons e r ih =>
    by_cases hk : e.1 = i
    · simp [dictSet, hk]
    · simp only [dictSet, hk, if_false, List.map_cons, ih, List.any_cons, beq_eq_false_iff_ne.2 hk, Bool.false_or]
      split <;> rfl

theorem dictSet_model (acc : List (Nat × NPat)) (i : Nat) (p : NPat) (h : (acc.map (·.1)).Nodup) :
    dictSet acc i p
        = (if acc.any (·.1 == i) then acc.map (fun (k, v) => if k == i then (k, p) else (k, v)) else acc ++ [(i, p)])
      ∧ ((dictSet acc i p).map (·.1)).Nodup := by
  constructor
  · induction acc with
    | nil => rfl
    | cons e r ih =>
      simp only [List.map_cons, List.nodup_cons] at h
      by_cases hk : e.1 = i
      · have hmap : r.map (fun (x : Nat × NPat) => if x.1 == i then (x.1, p) else (x.1, x.2)) = r := by
          conv => rhs; rw [← List.map_id r]
          apply List.map_congr_left
          intro x hx
          have : (x.1 == i) = false := by
            rw [beq_eq_false_iff_ne]; intro hx'
            exact h.1 (hk ▸ hx' ▸ List.mem_map_of_mem hx)
          simp [this]
        simp only [dictSet, hk, if_true, List.any_cons, beq_self_eq_true, Bool.true_or, List.map_cons, hmap]
      · simp only [dictSet, hk, if_false, List.any_cons, beq_eq_false_iff_ne.2 hk, Bool.false_or, List.map_cons, ih h.2]
        split <;> rfl
  · rw [dictSet_keys]
    split
    · exact h
    · next hn =>
      rw [List.nodup_append]
      refine ⟨h, by simp, ?_⟩
      intro a ha b hb
      simp only [List.mem_singleton] at hb
      subst hb
      rintro rfl
      apply hn
      obtain ⟨x, hx, rfl⟩ := List.mem_map.1 ha
      exact List.any_eq_true.2 ⟨x, hx, by simp⟩

/-- the `for var_name, kore_pattern in subst.items()` loop, for any body that does what one round of
`convertSubst` does (the generated body does: `convert_substitutions_eq`) -/
theorem subst_loop {β} (sem : PySem) (ps : PyScope) (ord : Nat)
    (body : Nat × KTerm → PyScope × PySem × Dict → (PyScope × PySem × Dict → Py β) → Py β)
    (hb : ∀ x t sc cache acc cont,
      body (x, t) (withScope ps sc, { sem with _cached_axiom_scopes := cache }, acc) cont
        = match sc.mvs.idxOf? x with
          | none => some none
          | some i => match conv sem.sg sc t with
            | none => some none
            | some r => cont (withScope ps r.1, { sem with _cached_axiom_scopes := kSet cache ord (withScope ps r.1) },
                dictSet acc i r.2)) :
    ∀ (σ : List (Nat × KTerm)) (sc : Scope) (cache : KDict PyScope) (acc : Dict) (k : PyScope × PySem × Dict → Py β),
      (acc.map (·.1)).Nodup → cache.lookup ord = some (withScope ps sc) →
      forEach σ (withScope ps sc, { sem with _cached_axiom_scopes := cache }, acc) body k
        = match convertSubst sem.sg sc σ acc with
          | none => some none
          | some r => k (withScope ps r.1, { sem with _cached_axiom_scopes := kSet cache ord (withScope ps r.1) }, r.2) := by
  intro σ
  induction σ with
  | nil =>
    intro sc cache acc k hacc hc
    simp only [forEach, convertSubst, kSet_same _ _ _ hc]
  | cons e σ ih =>
    intro sc cache acc k hacc hc
    obtain ⟨x, t⟩ := e
    simp only [forEach, convertSubst, hb, Option.bind_eq_bind]
    cases sc.mvs.idxOf? x with
    | none => rfl
    | some i =>
      simp only [Option.bind_some]
      cases conv sem.sg sc t with
      | none => rfl
      | some r =>
        obtain ⟨sc1, p⟩ := r
        obtain ⟨hm, hn⟩ := dictSet_model acc i p hacc
        simp only [Option.bind_some]
        rw [ih sc1 _ _ k hn (lookup_kSet _ _ _), ← hm]
        simp only [kSet_kSet]

/-- `convert_substitutions(subst, ordinal)` is `convertSubst` on the cached scope of the axiom; the scope
object in the cache is the one the conversion has extended (`KeyError` if the ordinal has no scope) -/
theorem convert_substitutions_eq (sem : PySem) (ps : PyScope) (sc : Scope) (σ : List (Nat × KTerm)) (ord : Nat)
    (hc : sem._cached_axiom_scopes.lookup ord = some (withScope ps sc)) :
    LanguageSemantics.convert_substitutions sem σ ord
      = match convertSubst sem.sg sc σ [] with
        | none => some none
        | some r => ret ({ sem with _cached_axiom_scopes := kSet sem._cached_axiom_scopes ord (withScope ps r.1) }, r.2) := by
  unfold LanguageSemantics.convert_substitutions
  simp only [kGet, hc, kItems]
  have key := fun body hb k => subst_loop (β := PySem × Dict) sem ps ord body hb σ sc sem._cached_axiom_scopes [] k (by simp) hc
  apply key
  · intro x t sc cache acc cont
    simp only [lookup_metavar_eq, convert_pattern_rec_eq, call_lift]
    cases sc.mvs.idxOf? x with
    | none => rfl
    | some i =>
      simp only [Option.map_some, call, mvName, mvN]
      cases conv sem.sg sc t <;> rfl

theorem convert_substitutions_no_scope (sem : PySem) (σ : List (Nat × KTerm)) (ord : Nat)
    (hc : sem._cached_axiom_scopes.lookup ord = none) :
    LanguageSemantics.convert_substitutions sem σ ord = some none := by
  unfold LanguageSemantics.convert_substitutions
  simp only [kGet, hc]; rfl

/-! ## `ExecutionProofExp`: `collect_functional_axioms`, `add_assumptions_for_rewrite_step`, `rewrite_event` -/

/-- the model's view of the Python object: what changes -/
def toSt (e : PyExec) : ExecSt :=
  { curr := e._curr_config, axioms := e._axioms, claims := e._claims, proofs := e._proof_expressions }
/-- the Python object after the model's state `st` (initial configuration and semantics stay) -/
def withSt (e : PyExec) (st : ExecSt) : PyExec :=
  { e with _curr_config := st.curr, _axioms := st.axioms, _claims := st.claims, _proof_expressions := st.proofs }

theorem toSt_withSt (e : PyExec) (st : ExecSt) : toSt (withSt e st) = st := rfl
theorem withSt_withSt (e : PyExec) (st st' : ExecSt) : withSt (withSt e st) st' = withSt e st' := rfl
theorem withSt_toSt (e : PyExec) : withSt e (toSt e) = e := rfl
theorem init_exec (sem : PySem) (init : NPat) : toSt (ExecutionProofExp.__init__ sem init) = initSt init := rfl

/-- what `collect_functional_axioms` does with one value of the substitution: the head of the application
spine must be the symbol of a declared functional Kore symbol; the result is `functional(p)` -/
def functionalAxiomF (sem : PySem) (n : Nat) (p : NPat) : Option (Option NPat) :=
  match spineF n p with
  | none => none
  | some (.sym s, _) =>
    (match resolve_to_ksymbol sem s with
     | some d => if d.isFunctional then some (functionalOf p) else some none
     | none => some none)
  | some _ => some none

/-- `collect_functional_axioms`: all checks first -/
def collectF (sem : PySem) (n : Nat) : List NPat → Option (Option (List NPat))
  | [] => some (some [])
  | p :: r =>
    match functionalAxiomF sem n p with
    | none => none
    | some none => some none
    | some (some f) =>
      match collectF sem n r with
      | none => none
      | some none => some none
      | some (some fs) => some (some (f :: fs))

/-- `add_assumptions`: then the axioms are added one by one -/
def addAllF (n : Nat) : List NPat → List NPat → Option (List NPat)
  | axs, [] => some axs
  | axs, f :: fs => (addAxiomF n axs f).bind fun a => addAllF n a fs

theorem addFunctionalF_cons (sem : PySem) (n : Nat) (axs : List NPat) (i : Nat) (p : NPat) (r : List (Nat × NPat)) :
    addFunctionalF sem.sg n axs ((i, p) :: r)
      = match functionalAxiomF sem n p with
        | none => none
        | some none => some none
        | some (some f) => (addAxiomF n axs f).bind fun a => addFunctionalF sem.sg n a r := by
  unfold functionalAxiomF resolve_to_ksymbol
  simp only [addFunctionalF, Option.bind_eq_bind]
  cases hs : spineF n p with
  | none => rfl
  | some ha =>
    obtain ⟨h, args⟩ := ha
    simp only [Option.bind_some]
    cases h <;> try rfl
    rename_i s
    simp only []
    split
    · cases hd : sem.sg.symbols.find? (·.name == (s - 2001) / 2) with
      | none => rfl
      | some d =>
        simp only []
        cases d.isFunctional with
        | false => rfl
        | true =>
          simp only [if_true]
          cases functionalOf p <;> rfl
    · rfl

/-- the model (check and add, entry by entry) against the Python order (all checks, then all additions):
they agree except that the model may already be out of fuel where the text raises -/
theorem addFunctionalF_phases (sem : PySem) (n : Nat) (σ : List (Nat × NPat)) (axs : List NPat) :
    match collectF sem n (σ.map (·.2)) with
    | none => addFunctionalF sem.sg n axs σ = none
    | some none => addFunctionalF sem.sg n axs σ = none ∨ addFunctionalF sem.sg n axs σ = some none
    | some (some fs) => addFunctionalF sem.sg n axs σ = (addAllF n axs fs).map some := by
  induction σ generalizing axs with
  | nil => simp [collectF, addFunctionalF, addAllF]
  | cons e r ih =>
    obtain ⟨i, p⟩ := e
    simp only [List.map_cons, collectF, addFunctionalF_cons]
    cases functionalAxiomF sem n p with
    | none => rfl
    | some o =>
      cases o with
      | none => exact Or.inr rfl
      | some f =>
        simp only []
        cases hc : collectF sem n (r.map (·.2)) with
        | none =>
          simp only []
          cases addAxiomF n axs f with
          | none => rfl
          | some a => have := ih a; rw [hc] at this; simpa using this
        | some o2 =>
          cases o2 with
          | none =>
            simp only []
            cases addAxiomF n axs f with
            | none => exact Or.inl rfl
            | some a => have := ih a; rw [hc] at this; simpa using this
          | some fs =>
            simp only [addAllF]
            cases addAxiomF n axs f with
            | none => rfl
            | some a => have := ih a; rw [hc] at this; simpa using this

theorem collect_loop {β} (sem : PySem) (n : Nat)
    (body : NPat → List ConvertedAxiom → (List ConvertedAxiom → Py β) → Py β)
    (hb : ∀ p acc cont, body p acc cont
      = match functionalAxiomF sem n p with
        | none => none
        | some none => some none
        | some (some f) => cont (acc ++ [ConvertedAxiom.mk .FunctionalSymbol f])) :
    ∀ (ps : List NPat) (acc : List ConvertedAxiom) (k : List ConvertedAxiom → Py β),
      forEach ps acc body k
        = match collectF sem n ps with
          | none => none
          | some none => some none
          | some (some fs) => k (acc ++ fs.map (ConvertedAxiom.mk .FunctionalSymbol)) := by
  intro ps
  induction ps with
  | nil => intro acc k; simp [forEach, collectF]
  | cons p r ih =>
    intro acc k
    simp only [forEach, collectF, hb]
    cases functionalAxiomF sem n p with
    | none => rfl
    | some o => cases o with
      | none => rfl
      | some f =>
        simp only [ih]
        cases collectF sem n r with
        | none => rfl
        | some o => cases o with
          | none => rfl
          | some fs => simp [List.append_assoc]

/-- the exception in `addFunctionalF_phases` (and so in `rewrite_event_eq`) is real: with fuel 2, an axiom list
`[q]` whose comparison with `functional(ksym_0)` needs more fuel, and a substitution whose second value is a
non-functional symbol, the model is out of fuel and the Python order raises (with fuel 40 both raise) -/
theorem phases_exception_is_real :
    ∃ (sem : PySem) (n : Nat) (σ : List (Nat × NPat)) (axs : List NPat),
      addFunctionalF sem.sg n axs σ = none ∧ collectF sem n (σ.map (·.2)) = some none ∧
      addFunctionalF sem.sg 40 axs σ = some none :=
  ⟨{ sg := { sorts := [0], symbols := [{ name := 0, nSortParams := 0, nInputs := 0, isFunctional := true },
                                        { name := 1, nSortParams := 0, nInputs := 0 }] }, _cached_axiom_scopes := [] },
   2, [(0, symSym 0), (1, symSym 1)], [.inst (.inst (.inst (.inst (.inst (.sym 7) []) []) []) []) []],
   by rfl, by rfl, by rfl⟩

/-- `collect_functional_axioms` is `collectF` -/
theorem collect_functional_axioms_eq (n : Nat) (sem : PySem) (σ : Dict) :
    ExecutionProofExp.collect_functional_axioms n sem σ
      = (collectF sem n (σ.map (·.2))).map (Option.map fun fs => fs.map (ConvertedAxiom.mk .FunctionalSymbol)) := by
  unfold ExecutionProofExp.collect_functional_axioms deltaValues
  rw [collect_loop sem n]
  · cases collectF sem n (σ.map (·.2)) with
    | none => rfl
    | some o => cases o with
      | none => rfl
      | some fs => simp [ret]
  · intro p acc cont
    simp only [functionalAxiomF, deconstruct_nary_application, fuel]
    cases spineF n p with
    | none => rfl
    | some ha =>
      obtain ⟨h, args⟩ := ha
      cases h <;> try rfl
      rename_i s
      simp only []
      cases resolve_to_ksymbol sem s with
      | none => rfl
      | some d =>
        simp only [assert_]
        cases d.isFunctional with
        | false => rfl
        | true =>
          simp only [if_true, functional]
          cases functionalOf p <;> rfl

theorem map_pattern_mk (fs : List NPat) :
    List.map ((fun v : ConvertedAxiom => v.pattern) ∘ ConvertedAxiom.mk AxiomType.FunctionalSymbol) fs = fs := by
  induction fs with
  | nil => rfl
  | cons f fs ih => simp only [List.map_cons, Function.comp_apply, ih]

theorem add_assumptions_eq (n : Nat) (e : PyExec) (fs : List NPat) :
    add_assumptions n e fs = (addAllF n e._axioms fs).map fun a => some { e with _axioms := a } := by
  induction fs generalizing e with
  | nil => rfl
  | cons f fs ih =>
    simp only [add_assumptions, add_axiom, addAllF, fuel]
    cases addAxiomF n e._axioms f with
    | none => rfl
    | some a => simp only [call_ret_val, ih, Option.bind_some]

theorem kore_rewrites_arity : (koreNotation "kore-rewrites").map (·.2) = some 3 := by decide +kernel

theorem notationMatchesF_length {n : Nat} {d : NPat} {ar : Nat} {p : NPat} {l : List NPat}
    (h : NPat.notationMatchesF n d ar p = some (some l)) : l.length = ar := by
  unfold NPat.notationMatchesF at h
  simp only [Option.bind_eq_bind, Option.bind_eq_some_iff] at h
  obtain ⟨o, _, ho⟩ := h
  cases o with
  | none => simp at ho
  | some s => simp at ho; subst ho; simp

/-- the proof expression of a step: the loaded axiom, instantiated unless the substitution is empty -/
def stepPf (rule : NPat) (σ : Dict) : Pf := if σ.isEmpty then .loadAxiom rule else .dynInst (.loadAxiom rule) σ

/-- a result of the model as the result of `rewrite_event` on the object `e` -/
def liftE (e : PyExec) (pf : Pf) (m : Option (Option ExecSt)) : Py (PyExec × Pf) :=
  m.map (Option.map fun st => (withSt e st, pf))

/-- `rewrite_event` is `rewriteEventF`: equal results, except that the model (which adds each functional
assumption right after checking it) may be out of fuel where the text (which checks all of them first) raises -/
theorem rewrite_event_eq (n : Nat) (e : PyExec) (rule : PyRule) (σ : Dict) :
    ExecutionProofExp.rewrite_event n e rule σ
        = liftE e (stepPf rule.pattern σ) (rewriteEventF e.language_semantics.sg n (toSt e) rule.pattern σ)
      ∨ (rewriteEventF e.language_semantics.sg n (toSt e) rule.pattern σ = none
          ∧ ExecutionProofExp.rewrite_event n e rule σ = some none) := by
  unfold ExecutionProofExp.rewrite_event rewriteEventF
  simp only [fuel, Option.bind_eq_bind]
  cases instF_h : NPat.instF n σ rule.pattern with
  | none => exact Or.inl rfl
  | some inst =>
    simp only [Option.bind_some, kl]
    have har := kore_rewrites_arity
    cases hk : koreNotation "kore-rewrites" with
    | none => exact Or.inl rfl
    | some da =>
      obtain ⟨d, ar⟩ := da
      rw [hk] at har
      simp only [Option.map_some, Option.some.injEq] at har
      subst har
      simp only [call_ret_val, MatchTie.assert_matches_eq]
      cases hm : NPat.notationMatchesF n d 3 inst with
      | none => exact Or.inl rfl
      | some o =>
        cases o with
        | none => exact Or.inl rfl
        | some l =>
          have hl := notationMatchesF_length hm
          match l, hl with
          | [a0, lhs, rhs], _ =>
            simp only [call, tupleIndex, List.getElem?_cons_succ, List.getElem?_cons_zero, ExecutionProofExp.current_configuration,
              ret, Option.bind_some, toSt]
            cases NPat.peqF n lhs e._curr_config with
            | none => exact Or.inl rfl
            | some b =>
              cases b with
              | false => exact Or.inl rfl
              | true =>
                simp only [assert_, if_true, Bool.not_true, Bool.false_eq_true, if_false,
                  ExecutionProofExp.add_assumptions_for_rewrite_step, collect_functional_axioms_eq]
                have hph := addFunctionalF_phases e.language_semantics n σ e._axioms
                cases hc : collectF e.language_semantics n (σ.map (·.2)) with
                | none =>
                  rw [hc] at hph
                  simp only [hph]
                  exact Or.inl rfl
                | some o2 =>
                  cases o2 with
                  | none =>
                    rw [hc] at hph
                    rcases hph with h | h
                    · simp only [h]; exact Or.inr ⟨rfl, rfl⟩
                    · simp only [h]; exact Or.inl rfl
                  | some fs =>
                    rw [hc] at hph
                    have hmap := map_pattern_mk fs
                    simp only [hph, Option.map_some, call, List.map_map, hmap, add_assumptions_eq]
                    cases addAllF n e._axioms fs with
                    | none => exact Or.inl rfl
                    | some axs1 =>
                      simp only [Option.map_some, Option.bind_some, add_axiom, fuel]
                      cases addAxiomF n axs1 rule.pattern with
                      | none => exact Or.inl rfl
                      | some axs2 => exact Or.inl rfl

/-- whenever the model answers (is not out of fuel), `rewrite_event` answers the same -/
theorem rewrite_event_of_model (n : Nat) (e : PyExec) (rule : PyRule) (σ : Dict) (r : Option ExecSt)
    (h : rewriteEventF e.language_semantics.sg n (toSt e) rule.pattern σ = some r) :
    ExecutionProofExp.rewrite_event n e rule σ = some (r.map fun st => (withSt e st, stepPf rule.pattern σ)) := by
  rcases rewrite_event_eq n e rule σ with h1 | ⟨h1, _⟩
  · rw [h1, h]; rfl
  · rw [h] at h1; cases h1

/-- whenever `rewrite_event` succeeds, the model succeeds with the same state -/
theorem rewrite_event_success (n : Nat) (e e' : PyExec) (rule : PyRule) (σ : Dict) (pf : Pf)
    (h : ExecutionProofExp.rewrite_event n e rule σ = some (some (e', pf))) :
    ∃ st, rewriteEventF e.language_semantics.sg n (toSt e) rule.pattern σ = some (some st) ∧
      e' = withSt e st ∧ pf = stepPf rule.pattern σ := by
  rcases rewrite_event_eq n e rule σ with h1 | ⟨_, h1⟩
  · rw [h] at h1
    cases hm : rewriteEventF e.language_semantics.sg n (toSt e) rule.pattern σ with
    | none => rw [hm] at h1; cases h1
    | some o => cases o with
      | none => rw [hm] at h1; cases h1
      | some st =>
        rw [hm] at h1
        simp only [liftE, Option.map_some, Option.some.injEq, Prod.mk.injEq] at h1
        exact ⟨st, rfl, h1.1, h1.2⟩
  · rw [h] at h1; cases h1

/-! ## `from_proof_hints` -/

/-- the step of the model that a hint stands for: the rule's pattern and the converted substitution -/
def stepOf (h : PyHint) : NPat × Dict :=
  (match h.«axiom» with | .rewriting r => r.pattern | .equational r => r.pattern, h.substitutions)

def AllRewriting (hints : List PyHint) : Prop := ∀ h ∈ hints, ∃ r, h.«axiom» = .rewriting r

/-- the `for hint in hints` loop once the proof expression exists, for any body that does what the generated one does -/
theorem trace_loop {β} (n : Nat) (sem : PySem)
    (body : PyHint → Option PyExec → (Option PyExec → Py β) → Py β)
    (hb : ∀ h o cont, body h o cont
      = match h.«axiom» with
        | .rewriting r =>
          call (ExecutionProofExp.rewrite_event n (o.getD (ExecutionProofExp.__init__ sem h.configuration_before)) r h.substitutions)
            fun x => cont (some x.1)
        | .equational _ => some none) :
    ∀ (hints : List PyHint) (e : PyExec) (k : Option PyExec → Py β), AllRewriting hints →
      forEach hints (some e) body k
          = (match traceF e.language_semantics.sg n (toSt e) (hints.map stepOf) with
             | none => none
             | some none => some none
             | some (some st) => k (some (withSt e st)))
        ∨ (traceF e.language_semantics.sg n (toSt e) (hints.map stepOf) = none ∧ forEach hints (some e) body k = some none) := by
  intro hints
  induction hints with
  | nil => intro e k _; exact Or.inl rfl
  | cons h hs ih =>
    intro e k hall
    obtain ⟨r, hr⟩ := hall h (List.mem_cons_self ..)
    have hall' : AllRewriting hs := fun x hx => hall x (List.mem_cons_of_mem _ hx)
    simp only [forEach, hb, hr, Option.getD_some, List.map_cons, stepOf, traceF, Option.bind_eq_bind]
    rcases rewrite_event_eq n e r h.substitutions with h1 | ⟨h1, h2⟩
    · rw [h1]
      cases rewriteEventF e.language_semantics.sg n (toSt e) r.pattern h.substitutions with
      | none => exact Or.inl rfl
      | some o =>
        cases o with
        | none => exact Or.inl rfl
        | some st' =>
          simp only [liftE, Option.map_some, call, Option.bind_some]
          rcases ih (withSt e st') k hall' with h3 | ⟨h3, h4⟩
          · exact Or.inl h3
          · exact Or.inr ⟨h3, h4⟩
    · rw [h1, h2]; exact Or.inr ⟨rfl, rfl⟩

theorem from_proof_hints_nil (n : Nat) (sem : PySem) : ExecutionProofExp.from_proof_hints n [] sem = ret none := rfl

/-- the whole loop, starting without a proof expression: the first hint creates it from its `configuration_before` -/
theorem trace_from_none (n : Nat) (sem : PySem) (h0 : PyHint) (hs : List PyHint) (hall : AllRewriting (h0 :: hs))
    (body : PyHint → Option PyExec → (Option PyExec → Py (Option PyExec)) → Py (Option PyExec))
    (k : Option PyExec → Py (Option PyExec))
    (hb : ∀ h o cont, body h o cont
      = match h.«axiom» with
        | .rewriting r =>
          call (ExecutionProofExp.rewrite_event n (o.getD (ExecutionProofExp.__init__ sem h.configuration_before)) r h.substitutions)
            fun x => cont (some x.1)
        | .equational _ => some none)
    (hk : ∀ x, k (some x) = ret (some x)) :
    forEach (h0 :: hs) none body k
        = (match traceF sem.sg n (initSt h0.configuration_before) ((h0 :: hs).map stepOf) with
           | none => none
           | some none => some none
           | some (some st) => ret (some (withSt (ExecutionProofExp.__init__ sem h0.configuration_before) st)))
      ∨ (traceF sem.sg n (initSt h0.configuration_before) ((h0 :: hs).map stepOf) = none
          ∧ forEach (h0 :: hs) none body k = some none) := by
  have hfirst : forEach (h0 :: hs) none body k
      = forEach (h0 :: hs) (some (ExecutionProofExp.__init__ sem h0.configuration_before)) body k := by
    simp only [forEach, hb]; rfl
  rw [hfirst]
  have := trace_loop n sem body hb (h0 :: hs) (ExecutionProofExp.__init__ sem h0.configuration_before) k hall
  simp only [init_exec, hk] at this
  exact this

/-- `from_proof_hints` is `traceF` from the configuration before the first hint (same caveat about fuel as
`rewrite_event_eq`); the result is the proof expression created by the first hint, in the model's final state -/
theorem from_proof_hints_eq (n : Nat) (sem : PySem) (h0 : PyHint) (hs : List PyHint) (hall : AllRewriting (h0 :: hs)) :
    ExecutionProofExp.from_proof_hints n (h0 :: hs) sem
        = (match traceF sem.sg n (initSt h0.configuration_before) ((h0 :: hs).map stepOf) with
           | none => none
           | some none => some none
           | some (some st) => ret (some (withSt (ExecutionProofExp.__init__ sem h0.configuration_before) st)))
      ∨ (traceF sem.sg n (initSt h0.configuration_before) ((h0 :: hs).map stepOf) = none
          ∧ ExecutionProofExp.from_proof_hints n (h0 :: hs) sem = some none) := by
  unfold ExecutionProofExp.from_proof_hints
  apply trace_from_none n sem h0 hs hall
  · intro h o cont
    cases o <;> (dsimp only; cases h.«axiom» <;> rfl)
  · intro x; rfl

/-- an equational rule in a hint is refused (`NotImplementedError`) -/
theorem from_proof_hints_equational (n : Nat) (sem : PySem) (h0 : PyHint) (hs : List PyHint) (r : PyRule)
    (h : h0.«axiom» = .equational r) : ExecutionProofExp.from_proof_hints n (h0 :: hs) sem = some none := by
  unfold ExecutionProofExp.from_proof_hints
  simp only [forEach, h]
  rfl

/-! ## the assertion of `load_axiom` that the primitive of `Pi2/KoreSupport.lean` leaves out -/

theorem memF_append_false (n : Nat) (p : NPat) (axs : List NPat) (q : NPat) (h : Kore.memF n p axs = some false) :
    Kore.memF n p (axs ++ [q]) = (NPat.peqF n q p).bind fun b => some b := by
  induction axs with
  | nil =>
    simp only [List.nil_append, Kore.memF, Option.bind_eq_bind]
    cases NPat.peqF n q p with
    | none => rfl
    | some b => cases b <;> rfl
  | cons a r ih =>
    simp only [Kore.memF, List.cons_append, Option.bind_eq_bind] at h ⊢
    cases hp : NPat.peqF n a p with
    | none => simp [hp] at h
    | some b =>
      cases b with
      | true => simp [hp] at h
      | false =>
        simp only [hp, Option.bind_some, Bool.false_eq_true, if_false] at h ⊢
        exact ih h

/-- `assert axiom_term in self._axioms` in `load_axiom(rule.pattern)` cannot fail right after
`add_axiom(rule.pattern)`: the membership test answers `True` (or runs out of fuel) -/
theorem load_axiom_guard (n : Nat) (axs axs' : List NPat) (p : NPat) (hp : p.Shape = true)
    (h : addAxiomF n axs p = some axs') : Kore.memF n p axs' ≠ some false := by
  unfold addAxiomF at h
  simp only [Option.bind_eq_bind] at h
  cases hm : Kore.memF n p axs with
  | none => simp [hm] at h
  | some b =>
    cases b with
    | true =>
      simp only [hm, Option.bind_some, if_true, Option.pure_def, Option.some.injEq] at h
      subst h; simp [hm]
    | false =>
      simp only [hm, Option.bind_some, Bool.false_eq_true, if_false, Option.pure_def, Option.some.injEq] at h
      subst h
      rw [memF_append_false n p axs p hm]
      cases hq : NPat.peqF n p p with
      | none => simp
      | some r => have := NPat.peqF_refl n p r hp hq; subst this; simp

#print axioms translated
#print axioms resolve_metavar_eq
#print axioms resolve_sort_param_metavar_eq
#print axioms lookup_metavar_eq
#print axioms lookup_sort_param_metavar_eq
#print axioms resolve_evar_eq
#print axioms convert_sort_eq
#print axioms convert_pattern_both
#print axioms convert_pattern_eq
#print axioms convert_substitutions_eq
#print axioms convert_substitutions_no_scope
#print axioms collect_functional_axioms_eq
#print axioms addFunctionalF_phases
#print axioms phases_exception_is_real
#print axioms rewrite_event_eq
#print axioms rewrite_event_of_model
#print axioms rewrite_event_success
#print axioms from_proof_hints_nil
#print axioms from_proof_hints_eq
#print axioms from_proof_hints_equational
#print axioms load_axiom_guard
end KoreTie
