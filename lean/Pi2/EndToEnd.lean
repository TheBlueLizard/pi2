import Pi2.ModulePF
import Pi2.SerTie
import Pi2.CodecThm
import Pi2.ComposeTie
import Pi2.RustExecTie
import Pi2.MM.Mono
/-!
# Helper lemmas for the end-to-end theorem of C02 (`Pi2/Props/C02c.lean`)

generated text (`ProofExp.execute_full` on `StatefulInterpreter`) → calls → instructions (`trackAll`) → bytes (the
translated serializer methods `Gen.Ser.w_*`) → the checker (`verifyBytes`, and `verify` of `rust/src/lib.rs` as
translated, `Gen.Rust.verify`).

* `writeAll`: the three byte streams written along a history, the bytes of each call being those of the
  *translated* serializer method (`SerTie.bytesOfCall`); `writeAll_of_trackAll`: they are `encode` of the three
  instruction lists of `trackAll`.
* `verifyBytes_encode`, `rust_accepts_encode`: the codec round trip under the model checker and under the
  translated Rust `verify`.
* `Wire`: decidable; a wire byte string is the image of a `List UInt8` (`wire_is_u8`).
* `Pf.PF.keysNodup`: the dicts of a proof expression of the propositional fragment have distinct keys.
-/
set_option linter.unusedVariables false
open PySt

namespace EndToEnd

/-! ## the codec under the two checkers -/

theorem encode_append (a b : List Instr) : encode (a ++ b) = encode a ++ encode b := by
  simp [encode]

theorem encode_nil : encode [] = [] := rfl

/-- the model checker on the encodings is the reference machine on the instruction lists -/
theorem verifyBytes_encode (g c p : List Instr) :
    verifyBytes (encode g) (encode c) (encode p) = verify g c p := by
  simp only [verifyBytes, decode_encode]
  rfl

/-- what the reference machine accepts, the translated Rust `verify` accepts on the encodings, from every initial
state of the checker's registers -/
theorem rust_accepts_encode (g c p : List Instr) (r : List Pat × List Pat) (h : verify g c p = some r)
    (r0 : RustExec.RSt) : (Gen.Rust.verify (encode g) (encode c) (encode p) r0).isSome = true := by
  rw [RustExecTie.verify_eq, verifyBytes_encode, h]
  rfl

/-! ## wire bytes -/

instance (bs : List Nat) : Decidable (Wire bs) := by unfold Wire; infer_instance

theorem wire_of_le (bs : List Nat) (h : ∀ b ∈ bs, b ≤ 255) : Wire bs := by
  intro b hb; have := h b hb; omega

/-- a wire byte string is a string of bytes: the image of a `List UInt8` -/
theorem wire_is_u8 (bs : List Nat) (h : Wire bs) : ∃ us : List UInt8, us.map UInt8.toNat = bs := by
  induction bs with
  | nil => exact ⟨[], rfl⟩
  | cons b bs ih =>
    obtain ⟨us, hus⟩ := ih (fun x hx => h x (List.mem_cons_of_mem _ hx))
    have hb : b < 256 := h b (List.mem_cons_self ..)
    refine ⟨UInt8.ofNat b :: us, ?_⟩
    simp only [List.map_cons, hus, List.cons.injEq, and_true]
    simp only [UInt8.toNat_ofNat']
    exact Nat.mod_eq_of_lt hb

/-- and conversely -/
theorem u8_is_wire (us : List UInt8) : Wire (us.map UInt8.toNat) := by
  intro b hb
  simp only [List.mem_map] at hb
  obtain ⟨u, _, rfl⟩ := hb
  exact u.toNat_lt

/-! ## the bytes the translated serializer writes along a history -/

/-- the bytes the translated serializer method writes for one call in state `s` (`none` = the call raises:
`memory.index(term)` of `load` finds nothing) -/
def serBytes1 (n : Nat) (s : PySt) : Call → Option (Option (List Nat))
  | .load t => (indexF n t s.memory 0).map (Option.map fun i => SerTie.bytesOfCall s i (.load t))
  | c => some (some (SerTie.bytesOfCall s 0 c))

theorem bytes_nonload (n : Nat) (s : PySt) (c : Call) (hc : ∀ t, c ≠ .load t) (is : List Instr)
    (h : emit1 n s c = some (some is)) : SerTie.bytesOfCall s 0 c = encode is := by
  obtain ⟨i, hi⟩ := SerTie.emit_is_serializer n s c is h
  rw [hi]
  cases c <;> first | rfl | exact absurd rfl (hc _)

/-- `SerTie.emit_is_serializer` with the memory index of `load` made explicit -/
theorem serBytes1_eq (n : Nat) (s : PySt) (c : Call) :
    serBytes1 n s c = (emit1 n s c).map (Option.map encode) := by
  cases c with
  | load t =>
    simp only [serBytes1, emit1, Option.bind_eq_bind]
    cases indexF n t s.memory 0 with
    | none => rfl
    | some r =>
      cases r with
      | none => rfl
      | some i =>
        have h29 : Gen.Ser.opc "Load" = 29 := by decide
        simp [SerTie.bytesOfCall, Gen.Ser.w_load, encode, encode1, h29]
  | metavar id ef sf ps ns hs =>
    simp only [serBytes1, SerTie.bytesOfCall, SerTie.metavar_bytes, emit1]
    split <;> simp [encode]
  | _ =>
    simp only [serBytes1, emit1, Option.map_some]
    exact congrArg (fun x => some (some x)) (bytes_nonload n s _ (by intro t h; cases h) _ rfl)

/-- the three byte streams (gamma, claims, proof file) written along a history: as `trackAll`, with the bytes of
the translated serializer methods in place of the instructions of `emit1` -/
def writeAll (n : Nat) : PySt → List Call → (List Nat × List Nat × List Nat) →
    Option (Option (PySt × (List Nat × List Nat × List Nat)))
  | s, [], out => some (some (s, out))
  | s, c :: cs, (g, cl, pf) => do
      match ← serBytes1 n s c with
      | none => pure none
      | some bs =>
        match ← track1 n s c with
        | none => pure none
        | some s' =>
          let out' := match s.phase with
            | .gamma => (g ++ bs, cl, pf)
            | .claim => (g, cl ++ bs, pf)
            | .proof => (g, cl, pf ++ bs)
          writeAll n s' cs out'

/-- **the bytes written are the encodings of the instructions tracked**: the byte streams the translated
serializer methods write along a history that `trackAll` accepts are `encode` of its three instruction lists -/
theorem writeAll_of_trackAll (n : Nat) : ∀ (cs : List Call) (s s' : PySt) (g c p g' c' p' : List Instr),
    trackAll n s cs (g, c, p) = some (some (s', (g', c', p'))) →
    writeAll n s cs (encode g, encode c, encode p) = some (some (s', (encode g', encode c', encode p'))) := by
  intro cs
  induction cs with
  | nil =>
    intro s s' g c p g' c' p' h
    cases h; rfl
  | cons k cs ih =>
    intro s s' g c p g' c' p' h
    obtain ⟨is, s1, he, ht, h⟩ := trackAll_cons n s s' k cs _ _ h
    simp only [writeAll, serBytes1_eq, he, ht, Option.map_some, Option.bind_eq_bind, Option.bind_some]
    cases hph : s.phase <;> simp only [hph, addOut] at h ⊢ <;> rw [← encode_append] <;> exact ih _ _ _ _ _ _ _ _ h

/-- from the empty files -/
theorem writeAll_of_trackAll_init (n : Nat) (cs : List Call) (s s' : PySt) (g c p : List Instr)
    (h : trackAll n s cs ([], [], []) = some (some (s', (g, c, p)))) :
    writeAll n s cs ([], [], []) = some (some (s', (encode g, encode c, encode p))) :=
  writeAll_of_trackAll n cs s s' [] [] [] g c p h

/-! ## the fuel of `trackAll` does not matter -/

theorem trackAll_step (n : Nat) : ∀ (cs : List Call) (s : PySt) (out : List Instr × List Instr × List Instr),
    OLe (trackAll n s cs out) (trackAll (n + 1) s cs out) := by
  intro cs
  induction cs with
  | nil => intro s out; exact OLe.refl _
  | cons k cs ih =>
    intro s out
    obtain ⟨g, c, p⟩ := out
    simp only [trackAll, Option.bind_eq_bind, Option.pure_def]
    apply OLe.bind (emit1_step n s k)
    intro o
    cases o with
    | none => exact OLe.refl _
    | some is =>
      apply OLe.bind (track1_step n s k)
      intro o2
      cases o2 with
      | none => exact OLe.refl _
      | some s1 => exact ih _ _

theorem trackAll_mono {n m : Nat} (h : n ≤ m) (cs : List Call) (s : PySt)
    (out : List Instr × List Instr × List Instr) : OLe (trackAll n s cs out) (trackAll m s cs out) :=
  OLe.of_step (fun n => trackAll n s cs out) (fun n => trackAll_step n cs s out) h

/-- two replays of the same history with different fuel that both return, return the same -/
theorem trackAll_fuel_irrelevant {n m : Nat} {cs : List Call} {s : PySt} {out : List Instr × List Instr × List Instr}
    {r r' : Option (PySt × (List Instr × List Instr × List Instr))}
    (h : trackAll n s cs out = some r) (h' : trackAll m s cs out = some r') : r = r' := by
  have h1 := trackAll_mono (Nat.le_max_left n m) cs s out _ h
  have h2 := trackAll_mono (Nat.le_max_right n m) cs s out _ h'
  rw [h1] at h2
  exact Option.some.inj h2

/-! ## distinct keys -/

open ProofTie in
/-- the dicts of a proof expression of the propositional fragment have distinct keys -/
theorem _root_.Pf.PF.keysNodup : (pf : Pf) → pf.PF = true → KeysNodup pf
  | .prop1, _ => trivial
  | .prop2, _ => trivial
  | .prop3, _ => trivial
  | .quantifier, _ => trivial
  | .loadAxiom _, _ => trivial
  | .gen _ _, h => by simp [Pf.PF] at h
  | .mp l r, h => by
    simp only [Pf.PF, Bool.and_eq_true] at h
    exact ⟨Pf.PF.keysNodup l h.1, Pf.PF.keysNodup r h.2⟩
  | .dynInst p δ, h => by
    simp only [Pf.PF, Bool.and_eq_true, decide_eq_true_eq] at h
    exact ⟨Pf.PF.keysNodup p h.1.1, h.2⟩

/-! ## decidable forms of the hypotheses, for concrete modules -/

open PyI ProofTie Gen.PyProof ComposeTie PFExample

/-- the three streams a history writes are wire byte strings (every id, list length, memory index and symbol
number fits in a byte) -/
def wireCheck (n : Nat) (claims : List NPat) (calls : List Call) : Bool :=
  match trackAll n (PySt.init claims) calls ([], [], []) with
  | some (some (_, (g, c, p))) => decide (Wire (encode g)) && decide (Wire (encode c)) && decide (Wire (encode p))
  | _ => false

theorem wireCheck_sound {n : Nat} {claims : List NPat} {calls : List Call} (h : wireCheck n claims calls = true)
    {n' : Nat} {s : PySt} {g c p : List Instr}
    (hT : trackAll n' (PySt.init claims) calls ([], [], []) = some (some (s, (g, c, p)))) :
    Wire (encode g) ∧ Wire (encode c) ∧ Wire (encode p) := by
  unfold wireCheck at h
  split at h
  · rename_i s0 g0 c0 p0 h0
    have := trackAll_fuel_irrelevant h0 hT
    simp only [Option.some.injEq, Prod.mk.injEq] at this
    obtain ⟨_, rfl, rfl, rfl⟩ := this
    simp only [Bool.and_eq_true, decide_eq_true_eq] at h
    exact ⟨h.1.1, h.1.2, h.2⟩
  · exact absurd h (by simp)

/-- the translated `execute_full` on the translated `StatefulInterpreter` returns for the module `m`, every claim
is discharged, the symbols are named canonically, and the streams are wire byte strings -/
def textCheck (N : Nat) (m : PModule) : Bool :=
  match buildAll (τ := ProofTie.St) N m.axiomsOf m.proofsOf with
  | some (some thunks) =>
    (match ProofExp.execute_full N (expOf thunks (fun _ => []) m) (statefulK N N) (PySt.init m.claimsOf, []) with
     | some (some (s, calls)) => s.claims.isEmpty && canonB [] calls && wireCheck N m.claimsOf calls
     | _ => false)
  | _ => false

theorem textCheck_sound {N : Nat} {m : PModule} (h : textCheck N m = true) :
    ∃ (thunks : List (ProofThunk ProofTie.St)) (s : PySt) (calls : List Call),
      buildAll N m.axiomsOf m.proofsOf = some (some thunks) ∧
      ProofExp.execute_full N (expOf thunks (fun _ => []) m) (statefulK N N) (PySt.init m.claimsOf, [])
        = some (some (s, calls)) ∧
      MM.CanonCalls [] calls ∧ s.claims = [] ∧ wireCheck N m.claimsOf calls = true := by
  unfold textCheck at h
  split at h
  · rename_i thunks hb
    split at h
    · rename_i s calls hx
      simp only [Bool.and_eq_true, List.isEmpty_iff] at h
      exact ⟨thunks, s, calls, hb, hx, canonB_sound calls [] h.1.2, h.1.1, h.2⟩
    · exact absurd h (by simp)
  · exact absurd h (by simp)

/-- the same through the translated `MemoizingInterpreter` with suggestion set `S` -/
def textCheckM (N : Nat) (S : List NPat) (m : PModule) : Bool :=
  match buildAll (τ := TrSt ProofTie.St) N m.axiomsOf m.proofsOf with
  | some (some thunks) =>
    (match ProofExp.execute_full N (expOf thunks (fun _ => []) m) (statefulMemoK N N S)
        (embM (PySt.init m.claimsOf, [])) with
     | some (some τ) => τ.sub.1.claims.isEmpty && canonB [] τ.sub.2 && wireCheck N m.claimsOf τ.sub.2
     | _ => false)
  | _ => false

theorem textCheckM_sound {N : Nat} {S : List NPat} {m : PModule} (h : textCheckM N S m = true) :
    ∃ (thunks : List (ProofThunk (TrSt ProofTie.St))) (τ : TrSt ProofTie.St),
      buildAll N m.axiomsOf m.proofsOf = some (some thunks) ∧
      ProofExp.execute_full N (expOf thunks (fun _ => []) m) (statefulMemoK N N S) (embM (PySt.init m.claimsOf, []))
        = some (some τ) ∧
      MM.CanonCalls [] τ.sub.2 ∧ τ.sub.1.claims = [] ∧ wireCheck N m.claimsOf τ.sub.2 = true := by
  unfold textCheckM at h
  split at h
  · rename_i thunks hb
    split at h
    · rename_i τ hx
      simp only [Bool.and_eq_true, List.isEmpty_iff] at h
      exact ⟨thunks, τ, hb, hx, canonB_sound _ [] h.1.2, h.1.1, h.2⟩
    · exact absurd h (by simp)
  · exact absurd h (by simp)

end EndToEnd
