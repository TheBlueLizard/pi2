import Pi2.EndToEnd2
/-!
# Helper lemmas for C14 "the same sequence of machine steps" (`Pi2/Props/C14c.lean`)

`EndToEnd2` / `DeserializeThm` compare only the FINAL states of a history and of its replay.  Here the step correspondence:

* `PySt.replayCalls`: `PySt.replay` that also returns the calls it made (`replay_eq_replayCalls`);
* `Lock n k s t cs cs' s' t'`: the two call lists run in lock step from `s` / `t` to `s'` / `t'` — corresponding calls
  (`CallEqX`), the same instructions emitted (`emit1`) call by call, the replayed call being the deserialiser's dispatch
  (`callOfInstr`) of that instruction, and the states before every step equal up to notation (`StEqG true`);
* `replayCalls_lock`: the replay of the instructions a well-formed history emitted runs in lock step with the history;
* `Lock.sameSteps`: lock step in indexed form (`SameSteps`): after every prefix the two `trackAll` runs (= what a
  `SerializingInterpreter` does) have written the same three streams and are in `StEqX`-related states;
* `runWithTr`, `deserModWithTr`: the loop of the translated deserialiser that also returns the calls it made
  (`toCall` of the `DCall` of every iteration); `step_call`: that call is `callOfInstr` of the decoded instruction;
  `runWithTr_replayCalls`; `roundtrip_phaseL`, `roundtrip_modL`: lock step for one phase / a module, through the texts.
-/
set_option linter.unusedVariables false
set_option linter.unusedSimpArgs false
open PySt PyDeser

namespace PySt

/-- `replay`, also returning the interpreter calls it made, in order -/
def replayCalls (n : Nat) : PySt → List Instr → Option (Option (List Call × PySt))
  | s, [] => some (some ([], s))
  | s, i :: is =>
      match callOfInstr s i with
      | none => some none
      | some c =>
          match track1 n s c with
          | none => none
          | some none => some none
          | some (some s') =>
              match replayCalls n s' is with
              | none => none
              | some none => some none
              | some (some (cs, s'')) => some (some (c :: cs, s''))

/-- `deserialize`, also returning the interpreter calls it made -/
def deserializeCalls (n : Nat) (s : PySt) (bs : List Nat) : Option (Option (List Call × PySt)) :=
  match decode bs with
  | none => some none
  | some is => replayCalls n s is

theorem replay_eq_replayCalls (n : Nat) : ∀ (is : List Instr) (s : PySt),
    replay n s is = (replayCalls n s is).map (Option.map (·.2)) := by
  intro is
  induction is with
  | nil => intro s; rfl
  | cons i is ih =>
    intro s
    simp only [replay, replayCalls]
    rcases callOfInstr s i with _ | c
    · rfl
    dsimp only
    rcases track1 n s c with _ | _ | s'
    · rfl
    · rfl
    simp only [Option.bind_eq_bind, Option.bind_some, ih s']
    rcases replayCalls n s' is with _ | _ | p <;> rfl

theorem deserialize_eq_deserializeCalls (n : Nat) (s : PySt) (bs : List Nat) :
    deserialize n s bs = (deserializeCalls n s bs).map (Option.map (·.2)) := by
  simp only [deserialize, deserializeCalls]
  cases decode bs with
  | none => rfl
  | some is => exact replay_eq_replayCalls n is s

theorem replayCalls_cons_some (n : Nat) (s : PySt) (i : Instr) (is : List Instr) (cs : List Call) (s'' : PySt)
    (h : replayCalls n s (i :: is) = some (some (cs, s''))) :
    ∃ c s' cs1, callOfInstr s i = some c ∧ track1 n s c = some (some s') ∧
      replayCalls n s' is = some (some (cs1, s'')) ∧ cs = c :: cs1 := by
  unfold replayCalls at h
  split at h
  · cases h
  · next c hc =>
    split at h <;> try cases h
    next s' ht =>
    split at h <;> cases h
    next cs1 hr => exact ⟨c, s', cs1, hc, ht, hr, rfl⟩

/-- one interpreter call per instruction -/
theorem replayCalls_length (n : Nat) : ∀ (is : List Instr) (s s' : PySt) (cs : List Call),
    replayCalls n s is = some (some (cs, s')) → cs.length = is.length := by
  intro is
  induction is with
  | nil =>
    intro s s' cs h
    cases h; rfl
  | cons i is ih =>
    intro s s' cs h
    obtain ⟨c, s1, cs1, _, _, hr, rfl⟩ := replayCalls_cons_some n s i is cs s' h
    simp [ih s1 s' cs1 hr]

end PySt

namespace EndToEnd

/-! ## `memory.index` on the two sides -/

/-- `indexF` answers the first position whose entry is `==`; all earlier comparisons answered `False` -/
theorem indexF_first (n : Nat) (t : TTerm) (mem : List TTerm) (k i : Nat)
    (h : PySt.indexF n t mem k = some (some i)) :
    ∃ j u, i = k + j ∧ mem[j]? = some u ∧ PySt.teqF n u t = some true ∧
      ∀ j', j' < j → ∃ u', mem[j']? = some u' ∧ PySt.teqF n u' t = some false := by
  induction mem generalizing k with
  | nil => simp [PySt.indexF] at h
  | cons u r ih =>
    simp only [PySt.indexF, Option.bind_eq_bind, Option.bind_eq_some_iff] at h
    obtain ⟨b, hb, h⟩ := h
    cases b with
    | true =>
      simp only [if_true, Option.pure_def, Option.some.injEq] at h
      subst h
      exact ⟨0, u, rfl, by simp, hb, fun j' hj' => absurd hj' (Nat.not_lt_zero _)⟩
    | false =>
      simp only [Bool.false_eq_true, if_false] at h
      obtain ⟨j, u', hj, hg, ht, hbefore⟩ := ih (k + 1) h
      refine ⟨j + 1, u', by omega, by simpa using hg, ht, ?_⟩
      intro j' hj'
      cases j' with
      | zero => exact ⟨u, by simp, hb⟩
      | succ j'' =>
        obtain ⟨u'', hu'', ht''⟩ := hbefore j'' (by omega)
        exact ⟨u'', by simpa using hu'', ht''⟩

/-- the index the replayed `load` would be serialised with is the index it was deserialised from -/
theorem indexF_transport (n k : Nat) (ms mt : List TTerm) (a b : TTerm) (idx j : Nat)
    (hms : ∀ u ∈ ms, u.body.Shape = true) (hmt : ∀ u ∈ mt, u.body.Shape = true)
    (ha : a.body.Shape = true) (hb : b.body.Shape = true)
    (hmem : ms.map convT = mt.map convT) (hab : convT a = convT b)
    (hs : PySt.indexF n a ms 0 = some (some idx)) (hbi : mt[idx]? = some b)
    (ht : PySt.indexF k b mt 0 = some (some j)) : j = idx := by
  obtain ⟨js, us, hjs, hus, _, hsbefore⟩ := indexF_first n a ms 0 idx hs
  obtain ⟨jt, ut, hjt, hut, htrue, htbefore⟩ := indexF_first k b mt 0 j ht
  have hjs' : idx = js := by omega
  have hjt' : j = jt := by omega
  subst hjs' hjt'
  rcases Nat.lt_trichotomy j idx with hlt | heq | hgt
  · exfalso
    obtain ⟨u', hu', hf⟩ := hsbefore j hlt
    have h1 : convT ut = convT b := teqF_conv k ut b (hmt ut (List.mem_of_getElem? hut)) hb htrue
    have h2 : convT u' ≠ convT a := teqF_conv_false n u' a (hms u' (List.mem_of_getElem? hu')) ha hf
    have h3 : (ms.map convT)[j]? = some (convT u') := by simp [hu']
    rw [hmem] at h3
    simp only [List.getElem?_map, hut, Option.map_some, Option.some.injEq] at h3
    exact h2 (by rw [← h3, h1, hab])
  · exact heq
  · exfalso
    obtain ⟨u', hu', hf⟩ := htbefore idx hgt
    rw [hbi] at hu'
    cases hu'
    exact teqF_conv_false k b b hb hb hf rfl

/-! ## lock step -/

/-- corresponding calls: the same call, or two `load`s of terms equal up to notation (the replay loads the memory entry the
emitted index points at, which is `==` to the term the history loaded) -/
def CallEqX (c c' : Call) : Prop := c' = c ∨ ∃ a b, c = .load a ∧ c' = .load b ∧ convT a = convT b

/-- the replayed call `c'` is what the deserialiser dispatches, in state `t`, for the one instruction of `is1`; a phase
switch (`into_claim_phase` / `into_proof_phase`: made by the driver between the streams) writes nothing -/
def Dispatched (t : PySt) (is1 : List Instr) (c' : Call) : Prop :=
  (is1 = [] ∧ (c' = .intoClaim ∨ c' = .intoProof)) ∨ ∃ i, is1 = [i] ∧ PySt.callOfInstr t i = some c'

/-- the histories `cs` (fuel `n`, from `s`) and `cs'` (fuel `k`, from `t`) run in lock step and end in `s'`, `t'` -/
inductive Lock (n k : Nat) : PySt → PySt → List Call → List Call → PySt → PySt → Prop
  | nil (s t : PySt) : StEqG true s t → Lock n k s t [] [] s t
  | cons (s t s1 t1 s' t' : PySt) (c c' : Call) (cs cs' : List Call) (is1 : List Instr) :
      StEqG true s t → CallEqX c c' →
      PySt.emit1 n s c = some (some is1) → PySt.emit1 k t c' = some (some is1) → Dispatched t is1 c' →
      PySt.track1 n s c = some (some s1) → PySt.track1 k t c' = some (some t1) →
      Lock n k s1 t1 cs cs' s' t' → Lock n k s t (c :: cs) (c' :: cs') s' t'

theorem Lock.start {n k : Nat} {s t s' t' : PySt} {cs cs' : List Call} (h : Lock n k s t cs cs' s' t') : StEqG true s t := by
  cases h with
  | nil _ _ h => exact h
  | cons _ _ _ _ _ _ _ _ _ _ _ h => exact h

theorem Lock.final {n k : Nat} {s t s' t' : PySt} {cs cs' : List Call} (h : Lock n k s t cs cs' s' t') : StEqG true s' t' := by
  induction h with
  | nil _ _ h => exact h
  | cons _ _ _ _ _ _ _ _ _ _ _ _ _ _ _ _ _ _ _ ih => exact ih

theorem Lock.length {n k : Nat} {s t s' t' : PySt} {cs cs' : List Call} (h : Lock n k s t cs cs' s' t') :
    cs'.length = cs.length := by
  induction h with
  | nil _ _ h => rfl
  | cons _ _ _ _ _ _ _ _ _ _ _ _ _ _ _ _ _ _ _ ih => simp [ih]

theorem Lock.append {n k : Nat} {s t s1 t1 s2 t2 : PySt} {a a' b b' : List Call} (h1 : Lock n k s t a a' s1 t1)
    (h2 : Lock n k s1 t1 b b' s2 t2) : Lock n k s t (a ++ b) (a' ++ b') s2 t2 := by
  induction h1 with
  | nil _ _ h => exact h2
  | cons s t s1 t1 s' t' c c' cs cs' is1 hE hc he he' hd ht ht' _ ih =>
    exact Lock.cons s t s1 t1 _ _ c c' _ _ is1 hE hc he he' hd ht ht' (ih h2)

/-- a phase switch made on both sides -/
theorem Lock.switch {n k : Nat} {s t s1 t1 : PySt} (c : Call) (hc : c = .intoClaim ∨ c = .intoProof) (hE : StEqG true s t)
    (hE1 : StEqG true s1 t1) (ht : PySt.track1 n s c = some (some s1)) (ht' : PySt.track1 k t c = some (some t1)) :
    Lock n k s t [c] [c] s1 t1 := by
  have he : ∀ m u, PySt.emit1 m u c = some (some []) := by rcases hc with rfl | rfl <;> (intro m u; rfl)
  exact Lock.cons s t s1 t1 s1 t1 c c [] [] [] hE (Or.inl rfl) (he n s) (he k t) (Or.inl ⟨rfl, hc⟩) ht ht' (Lock.nil s1 t1 hE1)

/-! ## re-serialising the replayed call gives the instruction it was deserialised from -/

theorem emit1_symtab (n k : Nat) (s t : PySt) (c : Call) (hl : ∀ a, c ≠ .load a) (hsym : s.symtab = t.symtab) :
    PySt.emit1 k t c = PySt.emit1 n s c := by
  cases c with
  | load a => exact absurd rfl (hl a)
  | symbol nm => simp only [PySt.emit1, hsym]
  | _ => rfl

theorem reemit (n k : Nat) (s t t1 : PySt) (c c2 : Call) (i : Instr)
    (hE : StEqG true s t) (hSs : ShapeSt s) (hSt : ShapeSt t) (hok : CallOK n s c)
    (he : PySt.emit1 n s c = some (some [i])) (hc2 : PySt.callOfInstr t i = some c2)
    (hrel : c2 = c ∨ ∃ a b, c = .load a ∧ c2 = .load b ∧ a.body.Shape = true ∧ b.body.Shape = true ∧
        convT a = convT b ∧ (true = true → patMeta a = patMeta b))
    (hx : PySt.track1 k t c2 = some (some t1)) : PySt.emit1 k t c2 = some (some [i]) := by
  by_cases hl : ∃ a, c = .load a
  · obtain ⟨a, rfl⟩ := hl
    have hash : a.body.Shape = true := (hok.2.2.2.1 a rfl).1
    -- the emitted index
    simp only [PySt.emit1, Option.bind_eq_bind, Option.bind_eq_some_iff] at he
    obtain ⟨oi, hidx, he⟩ := he
    cases oi with
    | none => simp at he
    | some idx =>
      simp only [Option.pure_def, Option.some.injEq, List.cons.injEq, and_true] at he
      subst he
      -- the replayed call loads the memory entry at that index
      simp only [PySt.callOfInstr, Option.map_eq_some_iff] at hc2
      obtain ⟨b, hb, rfl⟩ := hc2
      have hbsh : b.body.Shape = true := hSt.2.1 b (List.mem_of_getElem? hb)
      have hab : convT a = convT b := by
        rcases hrel with h | ⟨a', b', h1, h2, _, _, h5, _⟩
        · cases h; rfl
        · cases h1; cases h2; exact h5
      have hmem : s.memory.map convT = t.memory.map convT :=
        map_eq_map_of_iff _ _ (by intro x y h; simp only [keyM, Prod.mk.injEq] at h; exact h.1) _ _ hE.2.2.1
      simp only [PySt.track1, Option.bind_eq_bind, Option.bind_eq_some_iff] at hx
      obtain ⟨oj, hj, hx⟩ := hx
      cases oj with
      | none => simp at hx
      | some j =>
        have := indexF_transport n k s.memory t.memory a b idx j hSs.2.1 hSt.2.1 hash hbsh hmem hab hidx hb hj
        subst this
        simp [PySt.emit1, hj]
  · have hl' : ∀ a, c ≠ .load a := fun a e => hl ⟨a, e⟩
    rcases hrel with rfl | ⟨a, _, rfl, _⟩
    · rw [emit1_symtab n k s t c2 hl' hE.2.2.2.2]; exact he
    · exact absurd rfl (hl' a)

/-! ## the replay of what a history emitted runs in lock step with the history -/

theorem replayCalls_lock (n k : Nat) (cs : List Call) (s t s' : PySt) (is : List Instr)
    (r : Option (List Call × PySt)) (hE : StEqG true s t) (hSs : ShapeSt s) (hSt : ShapeSt t) (hC : CanonTab s.symtab)
    (hok : CallsOK n s cs) (he : PySt.emitAll n s cs = some (some (s', is))) (hr : PySt.replayCalls k t is = some r) :
    ∃ cs' t', r = some (cs', t') ∧ Lock n k s t cs cs' s' t' := by
  refine emitAll_induct n (P := fun s cs s' is => ∀ t r, StEqG true s t → ShapeSt s → ShapeSt t → CanonTab s.symtab →
    PySt.replayCalls k t is = some r → ∃ cs' t', r = some (cs', t') ∧ Lock n k s t cs cs' s' t')
    (fun s t r hE _ _ _ hr => ⟨[], t, (Option.some.inj hr).symm, Lock.nil s t hE⟩) ?_ cs s s' is hok he t r hE hSs hSt hC hr
  intro s c cs s1 i s' js hok1 he1 ht1 ih t r hE hSs hSt hC hr
  obtain ⟨c2, hc2, hrel, hS1, hC1, hstep⟩ := replay_step n k s t s1 c i hE hSs hSt hC hok1 he1 ht1
  simp only [PySt.replayCalls, hc2] at hr
  cases hx : PySt.track1 k t c2 with
  | none => simp [hx] at hr
  | some x =>
    obtain ⟨t1, rfl, hE1, hSt1⟩ := hstep x hx
    simp only [hx] at hr
    have hre := reemit n k s t t1 c c2 i hE hSs hSt hok1 he1 hc2 hrel hx
    have hceq : CallEqX c c2 := by
      rcases hrel with h | ⟨a, b, h1, h2, _, _, h5, _⟩
      · exact Or.inl h
      · exact Or.inr ⟨a, b, h1, h2, h5⟩
    cases hrr : PySt.replayCalls k t1 js with
    | none => simp [hrr] at hr
    | some rr =>
      obtain ⟨cs1', t', rfl, hL⟩ := ih t1 rr hE1 hS1 hSt1 hC1 hrr
      simp only [hrr, Option.some.injEq] at hr
      subst hr
      exact ⟨c2 :: cs1', t', rfl,
        Lock.cons s t s1 t1 s' t' c c2 cs cs1' [i] hE hceq he1 hre (Or.inr ⟨i, rfl, hc2⟩) ht1 hx hL⟩

/-! ## lock step, indexed: what holds after every prefix -/

/-- the `j`-th step of two histories `cs`, `cs'` started in `s`, `t` with the streams `out`: both prefixes of length `j` run,
have written the same three streams, and are in states equal up to notation; if there is a `j`-th call, the two calls
correspond, emit the same instruction(s) in these states, and the replayed one is the deserialiser's dispatch of it -/
def StepAt (n k : Nat) (s t : PySt) (out : List Instr × List Instr × List Instr) (cs cs' : List Call) (j : Nat) : Prop :=
  ∃ sj tj oj, PySt.trackAll n s (cs.take j) out = some (some (sj, oj)) ∧
    PySt.trackAll k t (cs'.take j) out = some (some (tj, oj)) ∧ StEqX sj tj ∧
    (j < cs.length → ∃ c c' is1, cs[j]? = some c ∧ cs'[j]? = some c' ∧ CallEqX c c' ∧
      PySt.emit1 n sj c = some (some is1) ∧ PySt.emit1 k tj c' = some (some is1) ∧ Dispatched tj is1 c')

/-- **the same sequence of machine steps**: equally many calls, and `StepAt` for every `j` -/
def SameSteps (n k : Nat) (s t : PySt) (out : List Instr × List Instr × List Instr) (cs cs' : List Call) : Prop :=
  cs'.length = cs.length ∧ ∀ j, j ≤ cs.length → StepAt n k s t out cs cs' j

theorem Lock.sameSteps {n k : Nat} {s t s' t' : PySt} {cs cs' : List Call} (h : Lock n k s t cs cs' s' t') :
    ∀ out, SameSteps n k s t out cs cs' ∧
      ∃ out', PySt.trackAll n s cs out = some (some (s', out')) ∧ PySt.trackAll k t cs' out = some (some (t', out')) := by
  induction h with
  | nil s t hE =>
    intro out
    refine ⟨⟨rfl, fun j hj => ?_⟩, out, rfl, rfl⟩
    exact ⟨s, t, out, by simp [PySt.trackAll], by simp [PySt.trackAll], hE.toX, fun h => absurd h (by simp)⟩
  | cons s t s1 t1 s' t' c c' cs cs' is1 hE hc he he' hd ht ht' hL ih =>
    intro out
    obtain ⟨⟨hlen, hsteps⟩, out', h1, h2⟩ := ih (addOut s.phase out is1)
    have hph : t.phase = s.phase := hE.1.symm
    refine ⟨⟨by simp [hlen], fun j hj => ?_⟩, out', ?_, ?_⟩
    · cases j with
      | zero =>
        exact ⟨s, t, out, by simp [PySt.trackAll], by simp [PySt.trackAll], hE.toX,
          fun _ => ⟨c, c', is1, by simp, by simp, hc, he, he', hd⟩⟩
      | succ j =>
        obtain ⟨sj, tj, oj, hs, htj, hEq, hnext⟩ := hsteps j (by simpa using hj)
        refine ⟨sj, tj, oj, ?_, ?_, hEq, fun hlt => ?_⟩
        · rw [List.take_succ_cons, trackAll_cons_of n s s1 c _ is1 out he ht]; exact hs
        · rw [List.take_succ_cons, trackAll_cons_of k t t1 c' _ is1 out he' ht', hph]; exact htj
        · obtain ⟨d, d', is2, hd1, hd2, hrest⟩ := hnext (by simpa using hlt)
          exact ⟨d, d', is2, by simpa using hd1, by simpa using hd2, hrest⟩
    · rw [trackAll_cons_of n s s1 c _ is1 out he ht]; exact h1
    · rw [trackAll_cons_of k t t1 c' _ is1 out he' ht', hph]; exact h2

end EndToEnd

/-! ## the calls the translated deserialiser makes -/

namespace EndToEnd

/-- the interpreter call(s) one iteration of the loop as written makes: `toCall` of the method call of its branch (`none`: a
method call with arguments outside the modelled interface) -/
def madeCall (s : PySt) : Res → Option (List Call)
  | .call dc _ => (toCall s dc).map ([·])
  | _ => some []

/-- whenever the iteration on the tracker returns a state, it made exactly one call, and that call is the model's dispatch
`callOfInstr` of the instruction `decode1` reads -/
def StepCall (n : Nat) (s : PySt) (res : Res) (bs : List Nat) : Prop :=
  ∀ x, exec n s res = some (some x) →
    ∃ i rest c, decode1 bs = some (i, rest) ∧ callOfInstr s i = some c ∧ madeCall s res = some [c]

/-- a branch that ends in the method call `dc`, where the decoded instruction dispatches to the tracker call that `dc` is -/
theorem StepCall.call {n : Nat} {s : PySt} {bs r' : List Nat} {i : Instr} {rest : List Nat} {c : Call} {dc : DCall}
    (hd : decode1 bs = some (i, rest)) (hc : callOfInstr s i = some c) (hm : toCall s dc = some c) :
    StepCall n s (.call dc r') bs := fun _ _ => ⟨i, rest, c, hd, hc, by rw [madeCall, hm]; rfl⟩

theorem StepCall.raise {n : Nat} {s : PySt} {bs : List Nat} : StepCall n s .raise bs := fun _ h => by cases h

theorem StepCall.assertThat {n : Nat} {s : PySt} {res : Res} {bs : List Nat} (b : Bool)
    (h : b = true → StepCall n s res bs) : StepCall n s (assertThat b res) bs := by
  cases b
  · exact .raise
  · exact h rfl

theorem StepCall.ifM {n : Nat} {s : PySt} {t e : Res} {bs : List Nat} (c : Option Bool) (ht : StepCall n s t bs)
    (he : StepCall n s e bs) : StepCall n s (ifM c t e) bs := by
  rcases c with _ | _ | _
  · exact fun _ h => by cases h
  · exact he
  · exact ht

theorem StepCall.ite {n : Nat} {s : PySt} {a b : Res} {bs : List Nat} {c : Prop} [Decidable c] (ha : c → StepCall n s a bs)
    (hb : ¬ c → StepCall n s b bs) : StepCall n s (if c then a else b) bs := by
  split
  · exact ha ‹_›
  · exact hb ‹_›

theorem call_metavar (n : Nat) (s : PySt) : (r : List Nat) → StepCall n s (Gen.Deser.br_MetaVar n s r) (9 :: r)
  | [] => .raise
  | id :: r => by
    simp only [Gen.Deser.br_MetaVar, nextByte, DeserTie.readList_eq]
    cases h1 : readVec r with
    | none => exact .raise
    | some p1 =>
    obtain ⟨ef, r1⟩ := p1
    dsimp only
    cases h2 : readVec r1 with
    | none => exact .raise
    | some p2 =>
    obtain ⟨sf, r2⟩ := p2
    dsimp only
    cases h3 : readVec r2 with
    | none => exact .raise
    | some p3 =>
    obtain ⟨ps, r3⟩ := p3
    dsimp only
    cases h4 : readVec r3 with
    | none => exact .raise
    | some p4 =>
    obtain ⟨ns, r4⟩ := p4
    dsimp only
    cases h5 : readVec r4 with
    | none => exact .raise
    | some p5 =>
    exact .call (by simp only [decode1_metavar, h1, h2, h3, h4, h5, Option.bind_some]; rfl) rfl (DeserTie.toCall_metavar ..)

theorem call_load (n : Nat) (s : PySt) : (r : List Nat) → StepCall n s (Gen.Deser.br_Load n s r) (29 :: r)
  | [] => .raise
  | i :: r => .ite (fun _ => .raise) fun h => by
    have hi : i < s.memory.length := by simpa using h
    have hm : s.memory[i]? = some s.memory[i] := List.getElem?_eq_getElem hi
    exact .call (decode1_load i r) (by rw [callOfInstr, hm]; rfl) (by rw [DeserTie.toCall_load, hm]; rfl)

theorem call_publish (n : Nat) (s : PySt) (r : List Nat) : StepCall n s (Gen.Deser.br_Publish n s r) (30 :: r) := by
  unfold Gen.Deser.br_Publish
  cases hph : s.phase
  · exact .assertThat _ fun _ => .call (decode1_publish r) (by simp only [callOfInstr, hph]) (DeserTie.toCall_publishAxiom s)
  · exact .assertThat _ fun _ => .call (decode1_publish r) (by simp only [callOfInstr, hph]) (DeserTie.toCall_publishClaim s)
  · exact .assertThat _ fun _ => .ifM _ .raise <|
      .call (decode1_publish r) (by simp only [callOfInstr, hph]) (DeserTie.toCall_publishProof s)

end EndToEnd

namespace EndToEnd

/-- the `Instantiate` branch: after the key bytes `ids` the passed tests leave the plug positions `1 … ids.length`, the
dictionary built from pairwise different keys is the list of pairs itself, and the kind of the top entry selects the method
as it selects the dispatch -/
theorem call_instantiate (n : Nat) (s : PySt) : (r : List Nat) → DeserTie.NodupKeys1 (26 :: r) →
    StepCall n s (Gen.Deser.br_Instantiate n s r) (26 :: r)
  | [], _ => .raise
  | m :: r, hk => by
    simp only [Gen.Deser.br_Instantiate, nextByte, DeserTie.nextBytes_eq]
    cases htk : takeN m r with
    | none => exact .raise
    | some pr =>
      obtain ⟨ids, r'⟩ := pr
      have hd : decode1 (26 :: m :: r) = some (.instantiate ids, r') := by rw [decode1_instantiate, htk]; rfl
      obtain rfl := (takeN_length htk).2
      refine .assertThat _ fun _ => .ite (fun hlen => ?_) fun _ => .raise
      have hV : (stackSlice s.stack.length (ids.length + 1) 1).reverse = List.range' 1 ids.length := by
        simp only [stackSlice, List.length_reverse, List.length_map, List.length_range'] at hlen ⊢
        simp [← hlen]
      obtain ⟨hZ1, hZ2, hZ3, _⟩ := DeserTie.delta_facts ids
      obtain ⟨hc1, hc2⟩ := DeserTie.toCall_instantiate s _ (hZ2.trans (congrArg plugPositions hZ3.symm))
      rw [hZ1] at hc1 hc2
      simp only [hV, DeserTie.pyDict_nodup _ (hZ1 ▸ (List.reverse_perm ids).nodup_iff.mpr (hk ids r' hd))]
      have top : ∀ {e}, s.stack[0]? = some e → ∃ st, s.stack = e :: st := fun h => by
        cases hst : s.stack with
        | nil => simp [hst] at h
        | cons e' st => exact ⟨st, by simpa [hst] using h⟩
      refine .ite (fun hP => ?_) fun _ => .ite (fun hQ => ?_) fun _ => .raise
      · obtain ⟨a, b, hs⟩ := (DeserTie.isProved_iff s 0).mp hP
        obtain ⟨st, hs⟩ := top hs
        exact .call hd (by simp only [callOfInstr, hs]) hc1
      · obtain ⟨a, b, hs⟩ := (DeserTie.isPattern_iff s 0).mp hQ
        obtain ⟨st, hs⟩ := top hs
        exact .call hd (by simp only [callOfInstr, hs]) hc2

/-- **the call of one loop iteration**: whenever the branch of opcode byte `b` as written, run on the tracker, returns a state,
it made one interpreter call, namely the model's dispatch of the decoded instruction: branch by branch
(`DeserTie.step_cases`), the equation of `decode1` for the opcode, the dispatch (`rfl`) and what `toCall` answers. -/
theorem step_call (n : Nat) (s : PySt) (b : Nat) (r : List Nat) (hk : DeserTie.NodupKeys1 (b :: r)) :
    StepCall n s (Gen.Deser.step n s b r) (b :: r) :=
  DeserTie.step_cases (P := fun b res => DeserTie.NodupKeys1 (b :: r) → StepCall n s res (b :: r)) n s r (by
      simp only [DeserTie.branches, List.forall_mem_cons, List.not_mem_nil, false_implies, implies_true, and_true]
      exact ⟨fun _ => match r with | [] => .raise | x :: r => .call (decode1_evar x r) rfl (DeserTie.toCall_evar s x),
        fun _ => match r with | [] => .raise | x :: r => .call (decode1_svar x r) rfl (DeserTie.toCall_svar s x),
        fun _ => match r with | [] => .raise | x :: r => .call (decode1_sym x r) rfl (DeserTie.toCall_symbol s x),
        fun _ => .call (decode1_implies r) rfl (DeserTie.toCall_implies s),
        fun _ => .call (decode1_app r) rfl (DeserTie.toCall_app s),
        fun _ => match r with | [] => .raise | x :: r => .call (decode1_ex x r) rfl (DeserTie.toCall_ex s x),
        fun _ => match r with | [] => .raise | x :: r => .call (decode1_mu x r) rfl (DeserTie.toCall_mu s x),
        fun _ => match r with | [] => .raise | x :: r => .call (decode1_esubst x r) rfl (DeserTie.toCall_esubst s x),
        fun _ => match r with | [] => .raise | x :: r => .call (decode1_ssubst x r) rfl (DeserTie.toCall_ssubst s x),
        fun _ => call_metavar n s r,
        fun _ => match r with | [] => .raise | x :: r => .call (decode1_cleanmv x r) rfl (DeserTie.toCall_cleanmv s x),
        fun _ => .call (decode1_prop1 r) rfl (DeserTie.toCall_prop1 s),
        fun _ => .call (decode1_prop2 r) rfl (DeserTie.toCall_prop2 s),
        fun _ => .call (decode1_prop3 r) rfl (DeserTie.toCall_prop3 s),
        fun _ => .call (decode1_mp r) rfl (DeserTie.toCall_mp s),
        fun _ => .call (decode1_quantifier r) rfl (DeserTie.toCall_quantifier s),
        fun _ => match r with
      | [] => .raise
      | x :: r => .assertThat _ fun _ => .call (decode1_gen x r) rfl (DeserTie.toCall_gen s x),
        call_instantiate n s r,
        fun _ => .call (decode1_pop r) rfl (DeserTie.toCall_pop s),
        fun _ => .call (decode1_save r) rfl (DeserTie.toCall_save s),
        fun _ => call_load n s r,
        fun _ => call_publish n s r⟩)
    (fun _ _ _ => .raise) b hk

/-! ## the loop as written, returning the calls it made -/

/-- `runWith` (the `while` loop of `deserialize_instructions` as written, executor `E` of one iteration), also returning the
interpreter calls the iterations made, in order -/
def runWithTr (n : Nat) (E : PySt → Res → Option (Option (PySt × List Nat))) :
    Nat → PySt → List Nat → Option (Option (List Call × PySt))
  | _, s, [] => some (some ([], s))
  | 0, _, _ :: _ => none
  | fuel + 1, s, byte :: bs =>
      match E s (Gen.Deser.step n s byte bs) with
      | none => none
      | some none => some none
      | some (some (s', rest)) =>
          match madeCall s (Gen.Deser.step n s byte bs) with
          | none => none
          | some l =>
              match runWithTr n E fuel s' rest with
              | none => none
              | some none => some none
              | some (some (cs, s'')) => some (some (l ++ cs, s''))

/-- an executor that returns a state only for an iteration whose method call is in the modelled interface -/
def ExecCalls (E : PySt → Res → Option (Option (PySt × List Nat))) : Prop :=
  ∀ s res x, E s res = some (some x) → ∃ l, madeCall s res = some l

theorem execCalls_exec (n : Nat) : ExecCalls (exec n) := by
  intro s res x h
  cases res with
  | call dc rest =>
    simp only [exec] at h
    split at h
    · cases hc : toCall s dc with
      | none => simp [hc] at h
      | some c => exact ⟨[c], by simp [madeCall, hc]⟩
    · simp at h
  | _ => exact ⟨[], rfl⟩

theorem execCalls_execI (n : Nat) : ExecCalls (execI n) := by
  intro s res x h
  cases res with
  | call dc rest =>
    simp only [execI] at h
    split at h
    · cases hc : toCall s dc with
      | none => simp [hc] at h
      | some c => exact ⟨[c], by simp [madeCall, hc]⟩
    · simp at h
  | _ => exact ⟨[], rfl⟩

/-- forgetting the calls gives `runWith` -/
theorem runWith_eq_runWithTr (n : Nat) (E : PySt → Res → Option (Option (PySt × List Nat))) (hE : ExecCalls E) :
    ∀ (f : Nat) (s : PySt) (bs : List Nat), runWith n E f s bs = (runWithTr n E f s bs).map (Option.map (·.2)) := by
  intro f
  induction f with
  | zero => intro s bs; cases bs <;> rfl
  | succ f ih =>
    intro s bs
    cases bs with
    | nil => rfl
    | cons b r =>
      simp only [runWith, runWithTr]
      rcases hx : E s (Gen.Deser.step n s b r) with _ | _ | ⟨s', rest⟩
      · rfl
      · rfl
      obtain ⟨l, hl⟩ := hE s _ _ hx
      simp only [hl, ih s' rest]
      rcases runWithTr n E f s' rest with _ | _ | q <;> rfl

/-- **the loop as written makes the model's calls**: `runWith_replay` with the calls — on a decodable stream (distinct
`Instantiate` keys, metavariables without freshness constraints) from a well-shaped state in which every `Publish` of the proof
phase finds a proof of the next claim, a run of the generated `while` loop that returns, returns the calls and the state the
model's `replayCalls` of the decoded instructions returns -/
theorem runWithTr_replayCalls (n : Nat) (E : PySt → Res → Option (Option (PySt × List Nat))) (hE : ExecSound n E) :
    ∀ (f : Nat) (s : PySt) (bs : List Nat) (is : List Instr) (r : Option (List Call × PySt)), bs.length ≤ f →
    decodeF f bs = some is → DeserTie.NodupKeys is → (∀ i ∈ is, i.mvClean = true) → ShapeSt s → PubOKAlong n s is →
    runWithTr n E f s bs = some r → replayCalls n s is = some r := by
  intro f
  induction f with
  | zero =>
    intro s bs is r hlen hd _ _ _ _ hrun
    cases bs with
    | nil => cases hd; exact hrun
    | cons b r => simp at hlen
  | succ f ih =>
    intro s bs is r0 hlen hd hk hmv hS hp hrun
    cases bs with
    | nil => cases hd; exact hrun
    | cons b r =>
      obtain ⟨i, rest, is', h1, hd', rfl, hrest⟩ := decodeF_cons hlen hd
      simp only [runWithTr] at hrun
      cases hx : E s (Gen.Deser.step n s b r) with
      | none => simp [hx] at hrun
      | some x =>
        simp only [hx] at hrun
        obtain ⟨hk1, hex, hcase⟩ := loop_step n E hE h1 hk hS hp hx
        rcases hcase with ⟨hc, rfl⟩ | ⟨c, hc, ⟨ht, rfl⟩ | ⟨s', ht, rfl⟩⟩
        · simpa only [replayCalls, hc] using hrun
        · simpa only [replayCalls, hc, ht] using hrun
        · -- the call the branch as written made is `c`
          obtain ⟨i2, rest2, c2, hd2, hc2, hm2⟩ := step_call n s b r hk1 _ hex
          rw [h1] at hd2
          cases hd2
          rw [hc] at hc2
          cases hc2
          simp only [hm2] at hrun
          simp only [replayCalls, hc, ht]
          cases hrr : runWithTr n E f s' rest with
          | none => simp [hrr] at hrun
          | some rr =>
            rw [ih s' rest is' rr hrest hd' (fun ids hm => hk ids (List.mem_cons_of_mem _ hm))
              (fun j hj => hmv j (List.mem_cons_of_mem _ hj))
              (shape_step n s s' i c hS (hmv i (List.mem_cons_self ..)) hc ht) (hp.2 c s' hc ht) hrr]
            simp only [hrr] at hrun
            cases rr with
            | none => exact hrun
            | some q => obtain ⟨cs, s''⟩ := q; exact hrun

end EndToEnd

namespace EndToEnd

/-! ## lock step for one phase and for a module, through the texts -/

/-- a well-formed history of one phase emits one instruction per call -/
theorem emitAll_length (n : Nat) : ∀ (cs : List Call) (s s' : PySt) (is : List Instr), CallsOK n s cs →
    PySt.emitAll n s cs = some (some (s', is)) → is.length = cs.length :=
  emitAll_induct n (P := fun _ cs _ is => is.length = cs.length) (fun _ => rfl)
    fun _ _ _ _ _ _ _ _ _ _ ih => by simp [ih]

/-- **one phase, through the texts, in lock step** (`roundtrip_phaseE` with the steps): the loop of `deserialize_instructions`
as written on `encode is` — executor: the tracker or the translated `StatefulInterpreter` — from a state `t` equal to the
history's initial state up to notation, if it returns, made the calls `cs'` the model's `replayCalls` makes, and `cs'` runs in
lock step with the history -/
theorem roundtrip_phaseL (n k : Nat) (E : PySt → Res → Option (Option (PySt × List Nat))) (hE : ExecSound k E)
    (cs : List Call) (s t s' : PySt) (is : List Instr)
    (hEq : StEqG true s t) (hSs : ShapeSt s) (hSt : ShapeSt t) (hC : CanonTab s.symtab) (hok : CallsOK n s cs)
    (hkeys : ∀ c ∈ cs, c.keysNodup = true) (hem : PySt.emitAll n s cs = some (some (s', is))) :
    ∀ r, runWithTr k E (encode is).length t (encode is) = some r →
      ∃ cs' t', r = some (cs', t') ∧ replayCalls k t is = some (some (cs', t')) ∧ Lock n k s t cs cs' s' t' ∧ ShapeSt t' := by
  intro r hr
  obtain ⟨hnd, hmv⟩ := emitAll_instrs n cs s s' is hok hkeys hem
  have hpub := pubOKAlong_emit n k cs s t s' is hEq hSs hSt hC hok hem
  have hrep := runWithTr_replayCalls k E hE _ t _ is r (Nat.le_refl _) (decode_encode is) hnd hmv hSt hpub hr
  obtain ⟨cs', t', rfl, hL⟩ := replayCalls_lock n k cs s t s' is r hEq hSs hSt hC hok hem hrep
  refine ⟨cs', t', rfl, hrep, hL, replay_shape k is t t' hmv hSt ?_⟩
  rw [replay_eq_replayCalls, hrep]; rfl

open PyI in
/-- `deserModWith`, also returning the interpreter calls made: those of the three loops and the two phase switches -/
def deserModWithTr (k : Nat) (E : PySt → Res → Option (Option (PySt × List Nat))) (t : PySt) (gb cb pb : List Nat) :
    Option (Option (List Call × PySt)) :=
  call (runWithTr k E gb.length t gb) fun p1 =>
  call (Gen.PyInterp.Stateful.into_claim_phase p1.2) fun t1' =>
  call (runWithTr k E cb.length t1' cb) fun p2 =>
  call (Gen.PyInterp.Stateful.into_proof_phase p2.2) fun t2' =>
  call (runWithTr k E pb.length t2' pb) fun p3 =>
  some (some (p1.1 ++ Call.intoClaim :: (p2.1 ++ Call.intoProof :: p3.1), p3.2))

/-- forgetting the calls gives `deserModWith` -/
theorem deserModWith_eq_tr (k : Nat) (E : PySt → Res → Option (Option (PySt × List Nat))) (hE : ExecCalls E) (t : PySt)
    (gb cb pb : List Nat) :
    deserModWith k E t gb cb pb = (deserModWithTr k E t gb cb pb).map (Option.map (·.2)) := by
  simp only [deserModWith, deserModWithTr, runWith_eq_runWithTr k E hE]
  rcases h1 : runWithTr k E gb.length t gb with _ | _ | p1 <;> simp only [Option.map_none, Option.map_some, PyI.call]
  rcases h2 : Gen.PyInterp.Stateful.into_claim_phase p1.2 with _ | _ | t1' <;> simp only [Option.map_none, Option.map_some]
  rcases h3 : runWithTr k E cb.length t1' cb with _ | _ | p2 <;> simp only [Option.map_none, Option.map_some]
  rcases h4 : Gen.PyInterp.Stateful.into_proof_phase p2.2 with _ | _ | t2' <;> simp only [Option.map_none, Option.map_some]
  rcases h5 : runWithTr k E pb.length t2' pb with _ | _ | p3 <;> simp only [Option.map_none, Option.map_some]

/-- **a module, through the texts, in lock step** (`roundtrip_modG` with the steps) -/
theorem roundtrip_modL (n k : Nat) (E : PySt → Res → Option (Option (PySt × List Nat))) (hE : ExecSound k E)
    (claims : List NPat) (gs cls pfs : List Call) (s' : PySt) (g c p : List Instr)
    (hclaims : ∀ q ∈ claims, q.Shape = true)
    (hok : ModOK n claims gs cls pfs)
    (hkeys : ∀ x ∈ gs ++ cls ++ pfs, x.keysNodup = true)
    (hT : PySt.trackAll n (PySt.init claims) (gs ++ .intoClaim :: (cls ++ .intoProof :: pfs)) ([], [], [])
      = some (some (s', (g, c, p)))) :
    ∀ r, deserModWithTr k E (PySt.init claims) (encode g) (encode c) (encode p) = some r →
      ∃ cs' t', r = some (cs', t') ∧
        Lock n k (PySt.init claims) (PySt.init claims) (gs ++ .intoClaim :: (cls ++ .intoProof :: pfs)) cs' s' t' ∧
        ShapeSt t' := by
  obtain ⟨s1, s1', s2, s2', H⟩ := modPhases n claims gs cls pfs s' g c p hclaims hok hT
  have hS0 := shapeSt_init claims hclaims
  -- one phase: the calls made and the final state, as one value
  have phase : ∀ cs s t s' is, StEqG true s t → ShapeSt s → ShapeSt t → CanonTab s.symtab → CallsOK n s cs →
      (∀ x ∈ cs, x ∈ gs ++ cls ++ pfs) → PySt.emitAll n s cs = some (some (s', is)) →
      Returns (runWithTr k E (encode is).length t (encode is)) fun q => Lock n k s t cs q.1 s' q.2 ∧ ShapeSt q.2 := by
    intro cs s t s' is hEq hSs hSt hC hok hin hem r hr
    obtain ⟨cs', t', rfl, _, hL, hS⟩ :=
      roundtrip_phaseL n k E hE cs s t s' is hEq hSs hSt hC hok (fun x hx => hkeys x (hin x hx)) hem r hr
    exact ⟨(cs', t'), rfl, hL, hS⟩
  have main : Returns (deserModWithTr k E (PySt.init claims) (encode g) (encode c) (encode p)) fun q =>
      Lock n k (PySt.init claims) (PySt.init claims) (gs ++ .intoClaim :: (cls ++ .intoProof :: pfs)) q.1 s' q.2 ∧
        ShapeSt q.2 := by
    refine Returns.call (phase gs _ _ s1 g (StEqG.refl true _) hS0 hS0 (canonTab_init claims) H.okG
      (fun x hx => by simp [hx]) H.emG) fun p1 _ h1 => ?_
    rw [InterpTie.into_claim_phase_tie k p1.2]
    refine Returns.call (into_congr n k .intoClaim (Or.inl rfl) s1 p1.2 s1' h1.1.final H.sh1.1 h1.2 H.toC)
      fun t1' hx1 h1' => ?_
    refine Returns.call (phase cls s1' t1' s2 c h1'.1 H.sh1'.1 h1'.2 H.sh1'.2 H.okC (fun x hx => by simp [hx]) H.emC)
      fun p2 _ h2 => ?_
    rw [InterpTie.into_proof_phase_tie k p2.2]
    refine Returns.call (into_congr n k .intoProof (Or.inr rfl) s2 p2.2 s2' h2.1.final H.sh2.1 h2.2 H.toP)
      fun t2' hx2 h2' => ?_
    refine Returns.call (phase pfs s2' t2' s' p h2'.1 H.sh2'.1 h2'.2 H.sh2'.2 H.okP (fun x hx => by simp [hx]) H.emP)
      fun p3 _ h3 => ?_
    intro r hr
    cases hr
    refine ⟨_, rfl, ?_, h3.2⟩
    exact h1.1.append ((Lock.switch .intoClaim (Or.inl rfl) h1.1.final h1'.1 H.toC hx1).append
      (h2.1.append ((Lock.switch .intoProof (Or.inr rfl) h2.1.final h2'.1 H.toP hx2).append h3.1)))
  intro r hr
  obtain ⟨⟨cs', t'⟩, rfl, hL, hS⟩ := main r hr
  exact ⟨cs', t', rfl, hL, hS⟩

end EndToEnd

#print axioms EndToEnd.replayCalls_lock
#print axioms EndToEnd.Lock.sameSteps
#print axioms EndToEnd.step_call
#print axioms EndToEnd.runWithTr_replayCalls
#print axioms EndToEnd.roundtrip_phaseL
#print axioms EndToEnd.roundtrip_modL
