import Pi2.Machine
import Pi2.Sound.Rules
/-! # Machine-level soundness: every `Proved` term on the stack or in memory is valid -/
set_option linter.unusedVariables false
set_option linter.unusedSimpArgs false
open Pat

theorem mp_soundM {𝔐} (a b : Pat) (h1 : ValidM 𝔐 (imp a b)) (h2 : ValidM 𝔐 a) : ValidM 𝔐 b :=
  fun σ hσ ρ hρ m => (h1 σ hσ ρ hρ m) (h2 σ hσ ρ hρ m)

theorem instantiate_soundM {𝔐} (θ : VId → Option Pat) (p r : Pat) (h : inst θ p = some r)
    (hp : ValidM 𝔐 p) : ValidM 𝔐 r := by
  intro σ hσ ρ hρ m
  obtain ⟨hE, hS, hPN⟩ := hσ
  rw [inst_sem 𝔐 σ hE hS θ p r h ρ]
  exact hp (compInst 𝔐 σ θ)
    ⟨compInst_admissibleE 𝔐 σ hE θ, compInst_admissibleS 𝔐 σ hS θ, compInst_admissiblePN 𝔐 σ hE hS hPN θ⟩ ρ hρ m

theorem substitution_soundM {𝔐} (X : VId) (plug p r : Pat) (h : applySSubst X plug p = some r)
    (hp : ValidM 𝔐 p) : ValidM 𝔐 r := by
  intro σ hσ ρ hρ m
  rw [applySSubst_sem 𝔐 σ hσ.1 hσ.2.1 X plug p r h ρ]
  exact hp σ hσ _ (standard_setS ρ hρ X _) m

theorem generalization_soundM {𝔐} (x : VId) (a b : Pat) (hfresh : b.eFresh x = true)
    (h : ValidM 𝔐 (imp a b)) : ValidM 𝔐 (imp (ex x a) b) := by
  intro σ hσ ρ hρ m
  simp only [eval]
  rintro ⟨c, hc⟩
  have := h σ hσ _ (standard_setE ρ hρ x c) m
  simp only [eval] at this
  have hb := this hc
  rwa [eFresh_sound 𝔐 σ hσ.1 x b hfresh _ _ (agreeOffE_setE ρ x _)] at hb

theorem prop1_validM {𝔐} : ValidM 𝔐 prop1P := by
  intro σ hσ ρ hρ m; simp only [prop1P, phi, eval]; intro h _; exact h
theorem prop2_validM {𝔐} : ValidM 𝔐 prop2P := by
  intro σ hσ ρ hρ m; simp only [prop2P, phi, eval]; intro h1 h2 h3; exact h1 h3 (h2 h3)
theorem prop3_validM {𝔐} : ValidM 𝔐 prop3P := fun σ hσ ρ hρ m => prop3_valid 𝔐 σ hσ ρ hρ m
theorem quant_validM {𝔐} : ValidM 𝔐 quantP := fun σ hσ ρ hρ m => quantifier_valid 𝔐 σ hσ ρ hρ m
theorem exist_validM {𝔐} : ValidM 𝔐 existP := fun σ hσ ρ hρ m => existence_valid 𝔐 σ hσ ρ hρ m

/-! ### the invariant -/
def TermOK (𝔐 : Model) : Term → Prop
  | .pat _ => True
  | .proved p => ValidM 𝔐 p

def MInv (𝔐 : Model) (s : St) : Prop := (∀ t ∈ s.stack, TermOK 𝔐 t) ∧ (∀ t ∈ s.memory, TermOK 𝔐 t)

theorem popPats_sub {n : Nat} {st st' : List Term} {ps : List Pat} (h : popPats n st = some (ps, st')) :
    ∀ t ∈ st', t ∈ st := by
  induction n generalizing st ps with
  | zero => simp [popPats] at h; obtain ⟨_, rfl⟩ := h; exact fun t ht => ht
  | succ n ih =>
    cases st with
    | nil => simp [popPats] at h
    | cons t0 st0 =>
      cases t0 with
      | proved q => simp [popPats] at h
      | pat q =>
        simp only [popPats, Option.map_eq_some_iff] at h
        obtain ⟨⟨ps0, st0'⟩, h0, heq⟩ := h
        simp at heq; obtain ⟨_, rfl⟩ := heq
        intro t ht; exact List.mem_cons_of_mem _ (ih h0 t ht)

theorem MInv.push {𝔐 : Model} {t : Term} {stk mem : List Term} {cl : List Pat} (ht : TermOK 𝔐 t)
    (hst : ∀ t ∈ stk, TermOK 𝔐 t) (hmem : ∀ t ∈ mem, TermOK 𝔐 t) : MInv 𝔐 ⟨t :: stk, mem, cl⟩ :=
  ⟨List.forall_mem_cons.2 ⟨ht, hst⟩, hmem⟩

/-- One step preserves the invariant, provided that an axiom published in the gamma phase is valid in 𝔐. -/
theorem step_inv (𝔐 : Model) (ph : Phase) (s s' : St) (i : Instr) (j : Option Pat)
    (hs : MInv 𝔐 s) (h : step ph s i = some (s', j))
    (hax : ph = .gamma → ∀ a, j = some a → ValidM 𝔐 a) : MInv 𝔐 s' := by
  obtain ⟨stk, mem, cl⟩ := s
  obtain ⟨hst, hmem⟩ := hs
  dsimp only at hst hmem
  cases i <;> dsimp only [step] at h
  case prop1 => cases h; exact .push prop1_validM hst hmem
  case prop2 => cases h; exact .push prop2_validM hst hmem
  case prop3 => cases h; exact .push prop3_validM hst hmem
  case quantifier => cases h; exact .push quant_validM hst hmem
  case existence => cases h; exact .push exist_validM hst hmem
  case mp =>
    split at h <;> try cases h
    split at h <;> cases h
    rename_i hl
    simp only [List.forall_mem_cons] at hst
    exact .push (mp_soundM _ _ hst.2.1 (hl ▸ hst.1)) hst.2.2 hmem
  case gen x =>
    split at h <;> try cases h
    split at h <;> cases h
    rename_i hfr
    simp only [List.forall_mem_cons] at hst
    exact .push (generalization_soundM x _ _ hfr hst.1) hst.2 hmem
  case subst x =>
    split at h <;> try cases h
    rename_i p plug st
    simp only [List.forall_mem_cons] at hst
    cases hr : applySSubst x plug p <;> rw [hr] at h <;> cases h
    exact .push (substitution_soundM x plug p _ hr hst.1) hst.2.2 hmem
  case instantiate ids =>
    split at h
    case h_3 => cases h
    all_goals
      rename_i p st
      simp only [Option.bind_eq_bind, Option.bind_eq_some_iff, Option.pure_def, Option.some.injEq] at h
      obtain ⟨⟨plugs, st'⟩, hpp, r, hin, h⟩ := h
      cases h
      simp only [List.forall_mem_cons] at hst
      have hst' := fun t ht => hst.2 t (popPats_sub hpp t ht)
    · exact .push trivial hst' hmem
    · exact .push (instantiate_soundM _ p r hin hst.1) hst' hmem
  case load n =>
    cases ht : mem[n]? <;> rw [ht] at h <;> cases h
    exact .push (hmem _ (List.mem_of_getElem? ht)) hst hmem
  case save =>
    split at h <;> cases h
    exact ⟨hst, List.forall_mem_append.2 ⟨hmem, List.forall_mem_singleton.2 (hst _ List.mem_cons_self)⟩⟩
  case publish =>
    cases ph <;> dsimp only at h <;> split at h <;> try cases h
    · simp only [List.forall_mem_cons] at hst
      exact ⟨hst.2, List.forall_mem_append.2 ⟨hmem, List.forall_mem_singleton.2 (hax rfl _ rfl)⟩⟩
    · exact ⟨(List.forall_mem_cons.1 hst).2, hmem⟩
    · split at h <;> cases h
      exact ⟨(List.forall_mem_cons.1 hst).2, hmem⟩
  case evar | svar | sym | cleanmv => cases h; exact .push trivial hst hmem
  case metavar => split at h <;> cases h; exact .push trivial hst hmem
  case ex | mu =>
    repeat' split at h
    all_goals cases h
    exact .push trivial (List.forall_mem_cons.1 hst).2 hmem
  case pop => split at h <;> cases h; exact ⟨(List.forall_mem_cons.1 hst).2, hmem⟩
  -- `Implies`, `App`, `ESubst`, `SSubst` pop two patterns and push one
  all_goals
    repeat' split at h
    all_goals cases h
    exact .push trivial (List.forall_mem_cons.1 (List.forall_mem_cons.1 hst).2).2 hmem

/-! ### from steps to runs to `verify` -/

theorem run_cons {ph : Phase} {s s'' : St} {i : Instr} {is : List Instr} {js : List Pat}
    (h : run ph s (i :: is) = some (s'', js)) :
    ∃ s' j js', step ph s i = some (s', j) ∧ run ph s' is = some (s'', js') ∧ js = j.toList ++ js' := by
  simp only [run, Option.bind_eq_bind, Option.bind_eq_some_iff, Option.pure_def, Option.some.injEq,
    Prod.mk.injEq] at h
  obtain ⟨⟨s', j⟩, h1, ⟨_, js'⟩, h2, rfl, rfl⟩ := h
  exact ⟨s', j, js', h1, h2, rfl⟩

theorem run_inv (𝔐 : Model) (ph : Phase) : ∀ (is : List Instr) (s s' : St) (js : List Pat),
    MInv 𝔐 s → run ph s is = some (s', js) → (ph = .gamma → ∀ a ∈ js, ValidM 𝔐 a) → MInv 𝔐 s' := by
  intro is
  induction is with
  | nil => intro s s' js hs h _; cases h; exact hs
  | cons i is ih =>
    intro s s' js hs h hax
    obtain ⟨s1, j, js2, h1, h2, rfl⟩ := run_cons h
    have hs1 := step_inv 𝔐 ph s s1 i j hs h1 fun hph a ha => hax hph a (by simp [ha])
    exact ih s1 s' js2 hs1 h2 fun hph a ha => hax hph a (List.mem_append_right _ ha)

/-- every instruction other than Publish leaves the claim list alone and publishes nothing -/
theorem step_nonpublish (ph : Phase) (s s' : St) (i : Instr) (j : Option Pat)
    (hi : ∀ (_ : i = .publish), False) (h : step ph s i = some (s', j)) : s'.claims = s.claims ∧ j = none := by
  cases i <;> dsimp only [step] at h
  case publish => exact (hi rfl).elim
  case load n =>
    generalize s.memory[n]? = o at h
    cases o <;> cases h
    exact ⟨rfl, rfl⟩
  case subst x =>
    split at h <;> try cases h
    rename_i p plug st _
    generalize applySSubst x plug p = o at h
    cases o <;> cases h
    exact ⟨rfl, rfl⟩
  case instantiate ids =>
    split at h
    case h_3 => cases h
    all_goals
      simp only [Option.bind_eq_bind, Option.bind_eq_some_iff, Option.pure_def, Option.some.injEq] at h
      obtain ⟨_, _, _, _, h⟩ := h
      cases h
      exact ⟨rfl, rfl⟩
  all_goals
    repeat' split at h
    all_goals cases h
    all_goals exact ⟨rfl, rfl⟩

/-- what Publish does to the claim list -/
theorem step_publish (ph : Phase) (s s' : St) (j : Option Pat) (h : step ph s .publish = some (s', j)) :
    (ph = .gamma → s'.claims = s.claims) ∧
    (ph = .claim → s'.claims = j.toList ++ s.claims) ∧
    (ph = .proof → ∃ c, s.claims = c :: s'.claims ∧ Term.proved c ∈ s.stack) := by
  simp only [step] at h
  cases ph with
  | gamma | claim =>
    simp only at h; split at h <;> try simp at h
    obtain ⟨rfl, rfl⟩ := h; simp
  | proof =>
    simp only at h; split at h <;> try simp at h
    rename_i t0 st c cs heq heqc
    obtain ⟨hc, rfl, _⟩ := h
    refine ⟨by simp, by simp, fun _ => ⟨c, ?_, ?_⟩⟩
    · simp [heqc]
    · rw [heq, hc]; simp

/-- the proof phase can only discharge claims against valid theorems -/
theorem run_proof_claims (𝔐 : Model) : ∀ (is : List Instr) (s s' : St) (js : List Pat),
    MInv 𝔐 s → run .proof s is = some (s', js) → ∀ q ∈ s.claims, q ∈ s'.claims ∨ ValidM 𝔐 q := by
  intro is
  induction is with
  | nil => intro s s' js _ h q hq; cases h; exact Or.inl hq
  | cons i is ih =>
    intro s s' js hs h q hq
    obtain ⟨s1, j, js2, h1, h2, rfl⟩ := run_cons h
    have hs1 : MInv 𝔐 s1 := step_inv 𝔐 .proof s s1 i j hs h1 (by intro hph; cases hph)
    by_cases hi : i = .publish
    · subst hi
      obtain ⟨c, hc, hmem⟩ := (step_publish .proof s s1 j h1).2.2 rfl
      rw [hc] at hq
      rcases List.mem_cons.1 hq with rfl | hq
      · exact Or.inr (hs.1 _ hmem)
      · exact ih s1 s' js2 hs1 h2 q hq
    · have := (step_nonpublish .proof s s1 i j (fun e => hi e) h1).1
      exact ih s1 s' js2 hs1 h2 q (this ▸ hq)

/-- in the claim phase the claim list grows by exactly what is published -/
theorem run_claim_claims : ∀ (is : List Instr) (s s' : St) (js : List Pat),
    run .claim s is = some (s', js) → s'.claims = js.reverse ++ s.claims := by
  intro is
  induction is with
  | nil => intro s s' js h; cases h; rfl
  | cons i is ih =>
    intro s s' js h
    obtain ⟨s1, j, js2, h1, h2, rfl⟩ := run_cons h
    rw [ih s1 s' js2 h2]
    by_cases hi : i = .publish
    · subst hi
      rw [(step_publish .claim s s1 j h1).2.1 rfl]
      cases j <;> simp
    · obtain ⟨hc, hj⟩ := step_nonpublish .claim s s1 i j (fun e => hi e) h1
      subst hj; simp [hc]

theorem run_gamma_claims : ∀ (is : List Instr) (s s' : St) (js : List Pat),
    run .gamma s is = some (s', js) → s'.claims = s.claims := by
  intro is
  induction is with
  | nil => intro s s' js h; cases h; rfl
  | cons i is ih =>
    intro s s' js h
    obtain ⟨s1, j, js2, h1, h2, rfl⟩ := run_cons h
    rw [ih s1 s' js2 h2]
    by_cases hi : i = .publish
    · subst hi; exact (step_publish .gamma s s1 j h1).1 rfl
    · exact (step_nonpublish .gamma s s1 i j (fun e => hi e) h1).1

/-- **Checker soundness** (instruction level): if `verify` accepts, every published claim is valid
in every model in which the published axioms are valid (under every admissible instantiation
and every standard valuation). -/
theorem verify_sound (g c p : List Instr) (axs cls : List Pat) (h : verify g c p = some (axs, cls))
    (𝔐 : Model) (hΓ : ∀ a ∈ axs, ValidM 𝔐 a) : ∀ q ∈ cls, ValidM 𝔐 q := by
  simp only [verify] at h
  cases h1 : run .gamma ⟨[], [], []⟩ g with
  | none => simp [h1] at h
  | some r1 =>
    obtain ⟨s1, axs'⟩ := r1
    cases h2 : run .claim { s1 with stack := [] } c with
    | none => simp [h1, h2] at h
    | some r2 =>
      obtain ⟨s2, cls'⟩ := r2
      cases h3 : run .proof { s2 with stack := [] } p with
      | none => simp [h1, h2, h3] at h
      | some r3 =>
        obtain ⟨s3, js3⟩ := r3
        simp [h1, h2, h3] at h
        obtain ⟨hempty, rfl, rfl⟩ := h
        have i0 : MInv 𝔐 ⟨[], [], []⟩ := ⟨by simp, by simp⟩
        have i1 : MInv 𝔐 s1 := run_inv 𝔐 .gamma g _ s1 axs' i0 h1 (fun _ => hΓ)
        have i1' : MInv 𝔐 { s1 with stack := [] } := ⟨by simp, i1.2⟩
        have i2 : MInv 𝔐 s2 := run_inv 𝔐 .claim c _ s2 cls' i1' h2 (by intro hph; cases hph)
        have i2' : MInv 𝔐 { s2 with stack := [] } := ⟨by simp, i2.2⟩
        have hc1 : s1.claims = [] := run_gamma_claims g _ s1 axs' h1
        have hc2 : s2.claims = cls'.reverse := by
          have := run_claim_claims c _ s2 cls' h2; simpa [hc1] using this
        intro q hq
        have := run_proof_claims 𝔐 p _ s3 js3 i2' h3 q (by simp [hc2, hq])
        rcases this with hin | hv
        · rw [hempty] at hin; simp at hin
        · exact hv

