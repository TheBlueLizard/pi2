import Pi2.Sem
/-! # Soundness of the freshness judgements (semantic form of C06) -/
set_option linter.unusedVariables false
set_option linter.unusedSimpArgs false
open Pat

theorem agree_setE_same {M} {e : VId} {ρ ρ' : Val M} (h : Val.agreeOffE e ρ ρ') (A : M → Prop) :
    ρ.setE e A = ρ'.setE e A := by
  obtain ⟨h1, h2⟩ := h
  cases ρ; cases ρ'
  simp only [Val.setE] at *
  congr 1
  · funext y; by_cases hy : y = e <;> simp [hy]; exact h1 y hy
  
theorem agree_setE_other {M} {e x : VId} {ρ ρ' : Val M} (h : Val.agreeOffE e ρ ρ') (A : M → Prop) :
    Val.agreeOffE e (ρ.setE x A) (ρ'.setE x A) := by
  obtain ⟨h1, h2⟩ := h
  refine ⟨?_, ?_⟩
  · intro y hy; simp only [Val.setE]; split <;> simp_all
  · simpa [Val.setE] using h2

theorem agree_setS {M} {e X : VId} {ρ ρ' : Val M} (h : Val.agreeOffE e ρ ρ') (A : M → Prop) :
    Val.agreeOffE e (ρ.setS X A) (ρ'.setS X A) := by
  obtain ⟨h1, h2⟩ := h
  refine ⟨?_, ?_⟩
  · intro y hy; simpa [Val.setS] using h1 y hy
  · simp [Val.setS, h2]

theorem eFresh_sound (𝔐 : Model) (σ : MVKey → Sem 𝔐.M) (hσ : Admissible σ) (e : VId) :
    ∀ (p : Pat), p.eFresh e = true → ∀ ρ ρ', Val.agreeOffE e ρ ρ' → eval 𝔐 σ p ρ = eval 𝔐 σ p ρ' := by
  intro p
  induction p with
  | evar x => intro h ρ ρ' hag; simp [eFresh] at h; simp [eval]; exact hag.1 x h
  | svar X => intro h ρ ρ' hag; simp [eval, hag.2]
  | sym s => intro h ρ ρ' hag; simp [eval]
  | imp l r ihl ihr | app l r ihl ihr =>
    intro h ρ ρ' hag; simp [eFresh] at h
    simp only [eval]; rw [ihl h.1 ρ ρ' hag, ihr h.2 ρ ρ' hag]
  | ex x p ih =>
    intro h ρ ρ' hag; simp [eFresh] at h
    simp only [eval]
    funext m; congr 1; funext a
    rcases h with h | h
    · subst h; rw [agree_setE_same hag]
    · rw [ih h _ _ (agree_setE_other hag _)]
  | mu X p ih =>
    intro h ρ ρ' hag; simp [eFresh] at h
    simp only [eval]
    funext m
    have : ∀ A, eval 𝔐 σ p (ρ.setS X A) = eval 𝔐 σ p (ρ'.setS X A) := fun A => ih h _ _ (agree_setS hag A)
    simp only [this]
  | mv id ef sf pos neg holes =>
    intro h ρ ρ' hag; simp [eFresh] at h
    simp only [eval]; exact hσ.ef ⟨id, ef, sf, pos, neg, holes⟩ e h ρ ρ' hag
  | esub p x plug ihp ihplug =>
    intro h ρ ρ' hag
    simp only [eFresh] at h
    simp only [eval]
    split at h
    · rename_i hex; simp at hex; subst hex
      rw [ihplug h ρ ρ' hag, agree_setE_same hag]
    · simp at h
      rw [ihplug h.2 ρ ρ' hag]
      exact ihp h.1 _ _ (agree_setE_other hag _)
  | ssub p X plug ihp ihplug =>
    intro h ρ ρ' hag
    simp [eFresh] at h
    simp only [eval]
    rw [ihplug h.2 ρ ρ' hag]
    exact ihp h.1 _ _ (agree_setS hag _)

theorem agreeS_setS_same {M} {s : VId} {ρ ρ' : Val M} (h : Val.agreeOffS s ρ ρ') (A : M → Prop) :
    ρ.setS s A = ρ'.setS s A := by
  obtain ⟨h1, h2⟩ := h
  cases ρ; cases ρ'
  simp only [Val.setS] at *
  congr 1
  · funext y; by_cases hy : y = s <;> simp [hy]; exact h1 y hy

theorem agreeS_setS_other {M} {s x : VId} {ρ ρ' : Val M} (h : Val.agreeOffS s ρ ρ') (A : M → Prop) :
    Val.agreeOffS s (ρ.setS x A) (ρ'.setS x A) := by
  obtain ⟨h1, h2⟩ := h
  refine ⟨?_, ?_⟩
  · intro y hy; simp only [Val.setS]; split <;> simp_all
  · simpa [Val.setS] using h2

theorem agreeS_setE {M} {s X : VId} {ρ ρ' : Val M} (h : Val.agreeOffS s ρ ρ') (A : M → Prop) :
    Val.agreeOffS s (ρ.setE X A) (ρ'.setE X A) := by
  obtain ⟨h1, h2⟩ := h
  refine ⟨?_, ?_⟩
  · intro y hy; simpa [Val.setE] using h1 y hy
  · simp [Val.setE, h2]

theorem sFresh_sound (𝔐 : Model) (σ : MVKey → Sem 𝔐.M) (hσ : AdmissibleS σ) (s : VId) :
    ∀ (p : Pat), p.sFresh s = true → ∀ ρ ρ', Val.agreeOffS s ρ ρ' → eval 𝔐 σ p ρ = eval 𝔐 σ p ρ' := by
  intro p
  induction p with
  | evar x => intro h ρ ρ' hag; simp [eval, hag.2]
  | svar X => intro h ρ ρ' hag; simp [sFresh] at h; simp [eval]; exact hag.1 X h
  | sym s => intro h ρ ρ' hag; simp [eval]
  | imp l r ihl ihr | app l r ihl ihr =>
    intro h ρ ρ' hag; simp [sFresh] at h
    simp only [eval]; rw [ihl h.1 ρ ρ' hag, ihr h.2 ρ ρ' hag]
  | ex x p ih =>
    intro h ρ ρ' hag; simp [sFresh] at h
    simp only [eval]
    funext m; congr 1; funext a
    rw [ih h _ _ (agreeS_setE hag _)]
  | mu X p ih =>
    intro h ρ ρ' hag; simp [sFresh] at h
    simp only [eval]
    funext m
    have : ∀ A, eval 𝔐 σ p (ρ.setS X A) = eval 𝔐 σ p (ρ'.setS X A) := by
      intro A
      rcases h with h | h
      · subst h; rw [agreeS_setS_same hag]
      · exact ih h _ _ (agreeS_setS_other hag A)
    simp only [this]
  | mv id ef sf pos neg holes =>
    intro h ρ ρ' hag; simp [sFresh] at h
    simp only [eval]; exact hσ.sf ⟨id, ef, sf, pos, neg, holes⟩ s h ρ ρ' hag
  | esub p x plug ihp ihplug =>
    intro h ρ ρ' hag
    simp [sFresh] at h
    simp only [eval]
    rw [ihplug h.2 ρ ρ' hag]
    exact ihp h.1 _ _ (agreeS_setE hag _)
  | ssub p X plug ihp ihplug =>
    intro h ρ ρ' hag
    simp only [sFresh] at h
    simp only [eval]
    split at h
    · rename_i hex; simp at hex; subst hex
      rw [ihplug h ρ ρ' hag, agreeS_setS_same hag]
    · simp at h
      rw [ihplug h.2 ρ ρ' hag]
      exact ihp h.1 _ _ (agreeS_setS_other hag _)

theorem setS_setS_same {M} (ρ : Val M) (X : VId) (A B : M → Prop) : (ρ.setS X A).setS X B = ρ.setS X B := by
  cases ρ; simp only [Val.setS]; congr 1; funext y; by_cases h : y = X <;> simp [h]

theorem setS_comm {M} (ρ : Val M) (X Y : VId) (h : Y ≠ X) (A B : M → Prop) :
    (ρ.setS Y A).setS X B = (ρ.setS X B).setS Y A := by
  cases ρ; simp only [Val.setS]; congr 1; funext z
  by_cases h1 : z = X <;> by_cases h2 : z = Y <;> simp [h1, h2]
  · subst h1; subst h2; exact absurd rfl h
  · intro hxy; exact absurd hxy.symm h
  · intro hxy; exact absurd hxy h

theorem setS_setE_comm {M} (ρ : Val M) (X y : VId) (A B : M → Prop) :
    (ρ.setE y A).setS X B = (ρ.setS X B).setE y A := by
  cases ρ; simp [Val.setS, Val.setE]

theorem agreeOffE_setE {M} (ρ : Val M) (y : VId) (A : M → Prop) : Val.agreeOffE y (ρ.setE y A) ρ := by
  refine ⟨?_, ?_⟩
  · intro z hz; simp [Val.setE, hz]
  · simp [Val.setE]

theorem agreeOffS_setS {M} (ρ : Val M) (y : VId) (A : M → Prop) : Val.agreeOffS y (ρ.setS y A) ρ := by
  refine ⟨?_, ?_⟩
  · intro z hz; simp [Val.setS, hz]
  · simp [Val.setS]

