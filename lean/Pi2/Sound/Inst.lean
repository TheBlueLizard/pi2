import Pi2.Sound.Subst
/-! # Instantiation: `⟦instantiate θ p⟧σ = ⟦p⟧(σ∘θ)` and admissibility of `σ∘θ` -/
set_option linter.unusedVariables false
set_option linter.unusedSimpArgs false
open Pat

/-- composition: the semantic instantiation induced by plugging θ and then σ -/
def compInst (𝔐 : Model) (σ : MVKey → Sem 𝔐.M) (θ : VId → Option Pat) : MVKey → Sem 𝔐.M :=
  fun k => match θ k.id with
    | none => σ k
    | some q => if okPlug k.ef k.sf k.pos k.neg q then eval 𝔐 σ q else fun _ _ => False

theorem inst_sem (𝔐 : Model) (σ : MVKey → Sem 𝔐.M) (hE : Admissible σ) (hS : AdmissibleS σ)
    (θ : VId → Option Pat) :
    ∀ (p r : Pat), inst θ p = some r → ∀ ρ, eval 𝔐 σ r ρ = eval 𝔐 (compInst 𝔐 σ θ) p ρ := by
  intro p
  induction p with
  | evar x | svar x | sym x => intro r h ρ; simp [inst] at h; subst h; simp [eval]
  | mv id ef sf ps ns holes =>
    intro r h ρ
    simp only [inst] at h
    cases hθ : θ id with
    | none => simp [hθ] at h; subst h; simp [eval, compInst, hθ]
    | some q =>
      simp only [hθ] at h
      split at h <;> try contradiction
      rename_i hok
      simp at h; subst h
      simp [eval, compInst, hθ, hok]
  | imp l r ihl ihr | app l r ihl ihr =>
    intro q h ρ; simp only [inst] at h
    cases hl : inst θ l with
    | none => simp [hl] at h
    | some l' =>
      cases hr : inst θ r with
      | none => simp [hl, hr] at h
      | some r' => simp [hl, hr] at h; subst h; simp only [eval]; rw [ihl l' hl ρ, ihr r' hr ρ]
  | ex x p ih =>
    intro q h ρ; simp only [inst] at h
    cases hp : inst θ p with
    | none => simp [hp] at h
    | some p' =>
      simp [hp] at h; subst h; simp only [eval]
      funext m; congr 1; funext a; rw [ih p' hp]
  | mu X p ih =>
    intro q h ρ; simp only [inst] at h
    cases hp : inst θ p with
    | none => simp [hp] at h
    | some p' =>
      simp [hp] at h; subst h; simp only [eval]
      funext m
      have : ∀ A, eval 𝔐 σ p' (ρ.setS X A) = eval 𝔐 (compInst 𝔐 σ θ) p (ρ.setS X A) := fun A => ih p' hp _
      simp only [this]
  | esub p x plug ihp ihq =>
    intro r h ρ; simp only [inst] at h
    cases hp : inst θ p with
    | none => simp [hp] at h
    | some p' =>
      cases hq : inst θ plug with
      | none => simp [hp, hq] at h
      | some q' =>
        simp [hp, hq] at h
        rw [applyESubst_sem 𝔐 σ hE hS x q' p' r h ρ]
        simp only [eval]; rw [ihq q' hq ρ, ihp p' hp]
  | ssub p X plug ihp ihq =>
    intro r h ρ; simp only [inst] at h
    cases hp : inst θ p with
    | none => simp [hp] at h
    | some p' =>
      cases hq : inst θ plug with
      | none => simp [hp, hq] at h
      | some q' =>
        simp [hp, hq] at h
        rw [applySSubst_sem 𝔐 σ hE hS X q' p' r h ρ]
        simp only [eval]; rw [ihq q' hq ρ, ihp p' hp]

/-- the composed instantiation is admissible (element freshness shown; the other three are identical in shape) -/
theorem compInst_admissibleE (𝔐 : Model) (σ : MVKey → Sem 𝔐.M) (hE : Admissible σ) (θ : VId → Option Pat) :
    Admissible (compInst 𝔐 σ θ) := by
  constructor
  intro k e he ρ ρ' hag
  simp only [compInst]
  cases hθ : θ k.id with
  | none => simpa using hE.ef k e he ρ ρ' hag
  | some q =>
    simp only
    split
    · rename_i hok
      simp only [okPlug, Bool.and_eq_true, List.all_eq_true] at hok
      exact eFresh_sound 𝔐 σ hE e q (hok.1.1.1 e he) ρ ρ' hag
    · rfl


theorem compInst_admissibleS (𝔐 : Model) (σ : MVKey → Sem 𝔐.M) (hS : AdmissibleS σ) (θ : VId → Option Pat) :
    AdmissibleS (compInst 𝔐 σ θ) := by
  constructor
  intro k s hs ρ ρ' hag
  simp only [compInst]
  cases hθ : θ k.id with
  | none => simpa using hS.sf k s hs ρ ρ' hag
  | some q =>
    simp only
    split
    · rename_i hok
      simp only [okPlug, Bool.and_eq_true, List.all_eq_true] at hok
      exact sFresh_sound 𝔐 σ hS s q (hok.1.1.2 s hs) ρ ρ' hag
    · rfl

theorem compInst_admissiblePN (𝔐 : Model) (σ : MVKey → Sem 𝔐.M) (hE : Admissible σ) (hS : AdmissibleS σ)
    (hPN : AdmissiblePN σ) (θ : VId → Option Pat) : AdmissiblePN (compInst 𝔐 σ θ) := by
  constructor
  · intro k X hX ρ ρ' hle m
    simp only [compInst]
    cases hθ : θ k.id with
    | none => simpa using hPN.pos k X hX ρ ρ' hle m
    | some q =>
      simp only
      split
      · rename_i hok
        simp only [okPlug, Bool.and_eq_true, List.all_eq_true] at hok
        exact (pos_neg_sound 𝔐 σ hE hS hPN q X).1 (hok.1.2 X hX) ρ ρ' hle m
      · exact fun h => h
  · intro k X hX ρ ρ' hle m
    simp only [compInst]
    cases hθ : θ k.id with
    | none => simpa using hPN.neg k X hX ρ ρ' hle m
    | some q =>
      simp only
      split
      · rename_i hok
        simp only [okPlug, Bool.and_eq_true, List.all_eq_true] at hok
        exact (pos_neg_sound 𝔐 σ hE hS hPN q X).2 (hok.2 X hX) ρ ρ' hle m
      · exact fun h => h

