import Pi2.Subst
import Pi2.Sound.PosNeg
/-! # The semantic substitution lemmas for `apply_esubst` / `apply_ssubst` -/
set_option linter.unusedVariables false
set_option linter.unusedSimpArgs false
open Pat

/-- The semantic substitution lemma for the checker's `apply_ssubst` (with both capture checks). -/
theorem applySSubst_sem (𝔐 : Model) (σ : MVKey → Sem 𝔐.M) (hE : Admissible σ) (hS : AdmissibleS σ)
    (X : VId) (plug : Pat) :
    ∀ (p r : Pat), applySSubst X plug p = some r →
      ∀ ρ, eval 𝔐 σ r ρ = eval 𝔐 σ p (ρ.setS X (eval 𝔐 σ plug ρ)) := by
  intro p
  induction p with
  | evar x => intro r h ρ; simp [applySSubst] at h; subst h; simp [eval, Val.setS]
  | svar Y =>
    intro r h ρ; simp only [applySSubst] at h
    split at h
    · rename_i hy; subst hy; simp at h; subst h; simp [eval, Val.setS]
    · rename_i hy; simp at h; subst h; simp [eval, Val.setS, hy]
  | sym s | esub p x q _ _ | ssub p Y q _ _ => intro r h ρ; simp [applySSubst] at h; subst h; simp [eval]
  | imp l r ihl ihr | app l r ihl ihr =>
    intro q h ρ
    simp only [applySSubst] at h
    cases hl : applySSubst X plug l with
    | none => simp [hl] at h
    | some l' =>
      cases hr : applySSubst X plug r with
      | none => simp [hl, hr] at h
      | some r' =>
        simp [hl, hr] at h; subst h
        simp only [eval]; rw [ihl l' hl ρ, ihr r' hr ρ]
  | ex y p ih =>
    intro q h ρ
    simp only [applySSubst] at h
    split at h <;> try contradiction
    rename_i hfr
    cases hp : applySSubst X plug p with
    | none => simp [hp] at h
    | some p' =>
    simp [hp] at h; subst h
    simp only [eval]
    funext m; congr 1; funext a
    rw [ih p' hp]
    rw [setS_setE_comm]
    rw [eFresh_sound 𝔐 σ hE y plug hfr _ _ (agreeOffE_setE ρ y _)]
  | mu Y p ih =>
    intro q h ρ
    simp only [applySSubst] at h
    split at h
    · rename_i hy; subst hy; simp at h; subst h
      simp only [eval]; funext m
      simp only [setS_setS_same]
    · rename_i hy
      split at h <;> try contradiction
      rename_i hfr
      cases hp : applySSubst X plug p with
      | none => simp [hp] at h
      | some p' =>
      simp [hp] at h; subst h
      simp only [eval]; funext m
      have : ∀ A, eval 𝔐 σ p' (ρ.setS Y A) = eval 𝔐 σ p ((ρ.setS X (eval 𝔐 σ plug ρ)).setS Y A) := by
        intro A
        rw [ih p' hp, setS_comm _ _ _ hy]
        rw [sFresh_sound 𝔐 σ hS Y plug hfr _ _ (agreeOffS_setS ρ Y _)]
      simp only [this]
  | mv id ef sf pos neg holes =>
    intro r h ρ; simp only [applySSubst] at h
    split at h
    · rename_i hf
      simp at h; subst h
      simp only [eval]
      have hmem : X ∈ sf := by simpa using hf
      exact (hS.sf ⟨id, ef, sf, pos, neg, holes⟩ X hmem _ _ (agreeOffS_setS ρ X _)).symm
    · simp at h; subst h; simp [eval]


theorem setE_setE_same {M} (ρ : Val M) (x : VId) (A B : M → Prop) : (ρ.setE x A).setE x B = ρ.setE x B := by
  cases ρ; simp only [Val.setE]; congr 1; funext y; by_cases h : y = x <;> simp [h]

theorem setE_comm {M} (ρ : Val M) (x y : VId) (h : y ≠ x) (A B : M → Prop) :
    (ρ.setE y A).setE x B = (ρ.setE x B).setE y A := by
  cases ρ; simp only [Val.setE]; congr 1; funext z
  by_cases h1 : z = x <;> by_cases h2 : z = y <;> simp [h1, h2]
  · subst h1; subst h2; exact absurd rfl h
  · intro hxy; exact absurd hxy.symm h
  · intro hxy; exact absurd hxy h

theorem applyESubst_sem (𝔐 : Model) (σ : MVKey → Sem 𝔐.M) (hE : Admissible σ) (hS : AdmissibleS σ)
    (x : VId) (plug : Pat) :
    ∀ (p r : Pat), applyESubst x plug p = some r →
      ∀ ρ, eval 𝔐 σ r ρ = eval 𝔐 σ p (ρ.setE x (eval 𝔐 σ plug ρ)) := by
  intro p
  induction p with
  | svar X => intro r h ρ; simp [applyESubst] at h; subst h; simp [eval, Val.setE]
  | evar y =>
    intro r h ρ; simp only [applyESubst] at h
    split at h
    · rename_i hy; subst hy; simp at h; subst h; simp [eval, Val.setE]
    · rename_i hy; simp at h; subst h; simp [eval, Val.setE, hy]
  | sym s | esub p y q _ _ | ssub p Y q _ _ => intro r h ρ; simp [applyESubst] at h; subst h; simp [eval]
  | imp l r ihl ihr | app l r ihl ihr =>
    intro q h ρ
    simp only [applyESubst] at h
    cases hl : applyESubst x plug l with
    | none => simp [hl] at h
    | some l' =>
      cases hr : applyESubst x plug r with
      | none => simp [hl, hr] at h
      | some r' =>
        simp [hl, hr] at h; subst h
        simp only [eval]; rw [ihl l' hl ρ, ihr r' hr ρ]
  | ex y p ih =>
    intro q h ρ
    simp only [applyESubst] at h
    split at h
    · rename_i hy; subst hy; simp at h; subst h
      simp only [eval]; funext m
      simp only [setE_setE_same]
    · rename_i hy
      split at h <;> try contradiction
      rename_i hfr
      cases hp : applyESubst x plug p with
      | none => simp [hp] at h
      | some p' =>
      simp [hp] at h; subst h
      simp only [eval]
      funext m; congr 1; funext a
      rw [ih p' hp, setE_comm _ _ _ hy]
      rw [eFresh_sound 𝔐 σ hE y plug hfr _ _ (agreeOffE_setE ρ y _)]
  | mu Y p ih =>
    intro q h ρ
    simp only [applyESubst] at h
    split at h <;> try contradiction
    rename_i hfr
    cases hp : applyESubst x plug p with
    | none => simp [hp] at h
    | some p' =>
    simp [hp] at h; subst h
    simp only [eval]; funext m
    have : ∀ A, eval 𝔐 σ p' (ρ.setS Y A) = eval 𝔐 σ p ((ρ.setE x (eval 𝔐 σ plug ρ)).setS Y A) := by
      intro A
      rw [ih p' hp, setS_setE_comm]
      rw [sFresh_sound 𝔐 σ hS Y plug hfr _ _ (agreeOffS_setS ρ Y _)]
    simp only [this]
  | mv id ef sf pos neg holes =>
    intro r h ρ; simp only [applyESubst] at h
    split at h
    · rename_i hf
      simp at h; subst h
      simp only [eval]
      have hmem : x ∈ ef := by simpa using hf
      exact (hE.ef ⟨id, ef, sf, pos, neg, holes⟩ x hmem _ _ (agreeOffE_setE ρ x _)).symm
    · simp at h; subst h; simp [eval]

