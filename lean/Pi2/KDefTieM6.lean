import Pi2.KDefTieM5
/-!
# The loop over the sentences of the module under construction, on a store of k modules: text = `stepsM` = specification

* `sentences_loopM`: the generated loop over the sentences (`sentenceBody`) from the store `heapM st` is `stepsM`;
* `vis_isSome`: what `KModule.get_sort` finds from the module under construction are exactly the specification's `visibleSorts`
  (own sorts and those of the transitively imported modules) — discharges the hypothesis of `stepsM_spec`;
* `sentences_text_is_spec`: the generated loop raises exactly when `addSentencesM` refuses, and otherwise ends in a store `heapM st'` whose
  projection is the specification's state.
-/
set_option linter.unusedVariables false
set_option linter.unusedSimpArgs false
namespace KDefTieM2
open PyI PyM PyK Kore Gen.PyKDef KDefSpec KDefTie KDefTieM

theorem sentences_loopM (so : SetOrder) (hso : so.Valid) (n : Nat) (k : PyLS → Py PyLS) :
    ∀ (ss : List KSentence) (st : RStM) (i : Nat), i = st.done.length → InvM st → st.mods.length + 1 ≤ n →
      (∀ s ∈ ss, NotSelfImport st.cur.name s) →
      forEach ss (heapM st) (sentenceBody so n i) k
        = match stepsM n st ss with
          | none => some none
          | some st' => k (heapM st') := by
  intro ss
  induction ss with
  | nil => intro st i _ _ _ _; rfl
  | cons s ss ih =>
    intro st i hi hinv hn hns
    subst hi
    simp only [forEach, stepsM]
    rw [sentence_stepM so hso hinv hn s (hns s (List.mem_cons_self ..))]
    cases hs : stepM n st s with
    | none => rfl
    | some st' =>
      obtain ⟨hinv', hd, hname⟩ := stepM_inv n hinv hs
      simp only [Option.bind_some]
      apply ih st' _ (by rw [hd]) hinv' (by rw [mods_len, hd, ← mods_len]; exact hn)
      intro s' hs'
      rw [hname]
      exact hns s' (List.mem_cons_of_mem _ hs')

theorem ownSort_isSome (k : Nat) (m : RMod) : (ownSort k m).isSome = (m.sorts.map (·.1)).contains k := kHas_sortsM m k

theorem ownSort_mem {k : Nat} {m : RMod} : (ownSort k m).isSome = true ↔ k ∈ m.sorts.map (·.1) := by
  rw [ownSort_isSome, List.contains_iff_mem]

theorem vis_isSome {st : RStM} (hinv : InvM st) {n : Nat} (hn : st.mods.length + 1 ≤ n) (k : Nat) :
    (visT n st k).isSome = (projM st).visibleSorts.contains k := by
  have hf := vis_found hinv hn k
  obtain ⟨himp, _, _, hreach⟩ := hinv.curOK
  have hC := closed_of_inv hinv
  have hvs : (projM st).visibleSorts = st.cur.sorts.map (·.1) ++ sortsOf (st.done.map projMod) st.cur.reach := rfl
  rw [hvs]
  cases hv : visT n st k with
  | some b =>
    obtain ⟨j, hj, mj, hmj, hown⟩ := hf.1 b hv
    have hk : k ∈ mj.sorts.map (·.1) := ownSort_mem.1 (by rw [hown]; rfl)
    symm
    simp only [Option.isSome_some, List.contains_iff_mem, List.mem_append, decide_eq_true_eq]
    simp only [List.mem_cons] at hj
    rcases hj with rfl | hj
    · rw [mods_cur] at hmj; cases hmj; exact .inl hk
    · right
      have hjl : j < st.done.length := cl_lt hC _ _ j (mods_cur st) hj
      have hmj' : st.done[j]? = some mj := done_of_mods hjl hmj
      simp only [sortsOf, List.mem_flatMap, List.mem_filter, List.mem_map]
      refine ⟨projMod mj, ⟨⟨mj, List.mem_of_getElem? hmj', rfl⟩, ?_⟩, hk⟩
      simp only [List.contains_iff_mem]
      exact (hreach mj.name).2 ⟨j, hj, by simp [nameAt, hmj']⟩
  | none =>
    symm
    simp only [Option.isSome_none]
    rw [Bool.eq_false_iff]
    intro hc
    simp only [List.contains_iff_mem, List.mem_append] at hc
    have hnone := hf.2 hv
    have key : ∀ (j : Nat) (mj : RMod), j ∈ st.done.length :: st.cur.cl → st.mods[j]? = some mj → k ∈ mj.sorts.map (·.1) → False := by
      intro j mj hj hmj hk
      have := ownSort_mem.2 hk
      rw [hnone j hj mj hmj] at this; cases this
    rcases hc with hc | hc
    · exact key _ st.cur (List.mem_cons_self ..) (mods_cur st) hc
    · simp only [sortsOf, List.mem_flatMap, List.mem_filter, List.mem_map, List.contains_iff_mem] at hc
      obtain ⟨pm, ⟨⟨m, hm, rfl⟩, hr⟩, hk⟩ := hc
      obtain ⟨j, hj, hname⟩ := (hreach m.name).1 hr
      have hjl : j < st.done.length := cl_lt hC _ _ j (mods_cur st) hj
      obtain ⟨i, hil, hi⟩ := List.getElem_of_mem hm
      have hname' : st.done[j].name = m.name := by simpa [nameAt, List.getElem?_eq_getElem hjl] using hname
      have hji : j = i := hinv.distinct j i st.done[j] m
        (mods_done (List.getElem?_eq_getElem hjl))
        (mods_done (by rw [List.getElem?_eq_getElem hil, hi])) hname'
      subst hji
      exact key j m (List.mem_cons_of_mem _ hj)
        (mods_done (by rw [List.getElem?_eq_getElem hil, hi])) hk

/-- the loop over the sentences of the module under construction, on a store of k modules: the generated text against the specification -/
theorem sentences_text_is_spec (so : SetOrder) (hso : so.Valid) (n : Nat) (k : PyLS → Py PyLS) (ss : List KSentence) (st : RStM)
    (hinv : InvM st) (hn : st.mods.length + 1 ≤ n) (hns : ∀ s ∈ ss, NotSelfImport st.cur.name s) :
    match addSentencesM (projM st) ss with
    | none => forEach ss (heapM st) (sentenceBody so n st.done.length) k = some none
    | some d' => ∃ st', InvM st' ∧ projM st' = d' ∧ st'.done = st.done ∧ st'.cur.name = st.cur.name ∧
        forEach ss (heapM st) (sentenceBody so n st.done.length) k = k (heapM st') := by
  rw [stepsM_spec n st ss hinv (fun st' hinv' hd k => vis_isSome hinv' (by rw [mods_len, hd, ← mods_len]; exact hn) k),
    sentences_loopM so hso n k ss st _ rfl hinv hn hns]
  cases hs : stepsM n st ss with
  | none => rfl
  | some st' =>
    obtain ⟨hinv', hd, hname⟩ := stepsM_inv n hinv hs
    exact ⟨st', hinv', rfl, hd, hname, rfl⟩

#print axioms sentences_loopM
#print axioms vis_isSome
#print axioms sentences_text_is_spec
end KDefTieM2
