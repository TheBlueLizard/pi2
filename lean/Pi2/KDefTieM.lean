import Pi2.KDefTie
/-!
# Definitions with SEVERAL modules: the specification `KDefSpec.sigOfDefinitionM` and the generated builder

* `InFragmentM d` (decidable, `inFragmentM`): no module imports itself, every sort name and every symbol name is declared at most once
  in the whole definition (the real search order among modules is process-dependent otherwise).  Imports of later / unknown
  modules, duplicate module names, duplicate imports are NOT excluded: the specification refuses them like the real code.
* `sigOfDefinitionM_one`: on EVERY one-module definition the several-module specification is the one-module specification
  `sigOfDefinition` — so all theorems of `Pi2/KDefTie.lean` are theorems about `sigOfDefinitionM` there
  (`from_kore_definition_specM_one`).
* spec-level facts for any number of modules: `addSentenceM_all` with its corollaries `addSentenceM_counter` / `addSentenceM_rules` (one counter: the ordinals never
  restart), `sigOfDefinitionM_sig` (the signature and the axiom count are those of ALL modules; only the rule list is cut down to
  what `get_axiom` finds).
* the store of a several-module semantics against the specification for ALL valid set orders is not proved here but in
  `Pi2/KDefTieM2.lean` … `Pi2/KDefTieM10.lean`; `Pi2/Props/C20d.lean` decides the tie on a concrete diamond of modules for the identity
  set order and for the reversing one, and `vlib/try_kdef.py` compares specification, generated text and real code on generated
  several-module definitions.
-/
set_option linter.unusedVariables false
set_option linter.unusedSimpArgs false
namespace KDefTieM
open PyI PyM PyK Kore Gen.PyKDef KDefSpec KDefTie

/-! ## the fragment -/

def sentSorts : KSentence → List Nat
  | .sortDecl n _ => [n]
  | _ => []
def sentSymbols : KSentence → List Nat
  | .symbolDecl n _ _ _ _ => [n]
  | _ => []
def selfImport (name : Nat) : KSentence → Bool
  | .«import» m => m == name
  | _ => false

/-- all sort names / symbol names a definition declares, in order -/
def declaredSorts (d : KDefinition) : List Nat := d.modules.flatMap fun m => m.sentences.flatMap sentSorts
def declaredSymbols (d : KDefinition) : List Nat := d.modules.flatMap fun m => m.sentences.flatMap sentSymbols

/-- the decidable fragment of the several-module theorems -/
def inFragmentM (d : KDefinition) : Bool :=
  d.modules.all (fun m => m.sentences.all fun s => !selfImport m.name s) &&
  decide (declaredSorts d).Nodup && decide (declaredSymbols d).Nodup

def InFragmentM (d : KDefinition) : Prop := inFragmentM d = true

instance (d : KDefinition) : Decidable (InFragmentM d) := inferInstanceAs (Decidable (_ = true))

/-! ## one module: the several-module specification is the one-module specification -/

/-- the several-module state that a one-module state stands for -/
def lift1 (name : Nat) (d : DefSem) : DefSemM :=
  { all := d, done := [],
    cur := { name := name, imports := [], reach := [], sorts := d.sg.sorts, symbols := d.sg.symbols.map (·.name),
             ordinals := d.rules.map (·.ordinal) } }

theorem sortOk_sorts (sg sg' : Sig) (h : sg.sorts = sg'.sorts) (vars : List KSort) (s : KSort) :
    sortOk sg vars s = sortOk sg' vars s := by
  cases s <;> simp [sortOk, h]

theorem contains_map_name (l : List SymDecl) (nm : Nat) : (l.map (·.name)).contains nm = l.any (·.name == nm) := by
  rw [Bool.eq_iff_iff]; simp

theorem addSentenceM_one (name : Nat) (d : DefSem) (s : KSentence) :
    addSentenceM (lift1 name d) s = (addSentence d s).map (lift1 name) := by
  cases s with
  | «import» m => simp [addSentenceM, addSentence, lift1]
  | other => simp [addSentenceM, addSentence]
  | sortDecl nm hk =>
    simp only [addSentenceM, addSentence, lift1]
    by_cases h : d.sg.sorts.contains nm = true
    · simp only [h, ↓reduceIte]; rfl
    · have h' : d.sg.sorts.contains nm = false := by simpa using h
      simp only [h', Bool.false_eq_true, ↓reduceIte]; simp [lift1]
  | symbolDecl nm vars params srt attrs =>
    have hv : (lift1 name d).visibleSorts = d.sg.sorts := by simp [DefSemM.visibleSorts, lift1, sortsOf]
    have hs : (params ++ [srt]).all (sortOk { sorts := (lift1 name d).visibleSorts, symbols := [] } vars)
        = (params ++ [srt]).all (sortOk d.sg vars) := by
      congr 1; funext s; exact sortOk_sorts _ _ hv vars s
    simp only [addSentenceM, addSentence, hs]
    simp only [lift1, contains_map_name]
    by_cases h1 : d.sg.symbols.any (·.name == nm) = true
    · simp [h1]
    · by_cases h2 : (params ++ [srt]).all (sortOk d.sg vars) = true
      · simp [h1, h2, symDecl, lift1]
      · simp [h1, h2]
  | «axiom» p =>
    simp only [addSentenceM, addSentence]
    cases hr : ruleOf p with
    | none => simp [lift1]
    | some kt =>
      obtain ⟨kind, t⟩ := kt
      simp only [lift1]
      cases conv d.sg {} t with
      | none => rfl
      | some r => simp [lift1]

theorem addSentencesM_one (name : Nat) (d : DefSem) (ss : List KSentence) :
    addSentencesM (lift1 name d) ss = (addSentences d ss).map (lift1 name) := by
  induction ss generalizing d with
  | nil => rfl
  | cons s ss ih =>
    simp only [addSentencesM, addSentences, addSentenceM_one]
    cases addSentence d s with
    | none => rfl
    | some d' => simp [ih]

theorem filter_all_ordinals (rules : List Rule) :
    rules.filter (fun r => ((rules.map (·.ordinal)) ++ ([] : List Nat)).contains r.ordinal) = rules := by
  rw [List.filter_eq_self]
  intro r hr
  simp only [List.append_nil, List.contains_iff_mem, List.mem_map]
  exact ⟨r, hr, rfl⟩

/-- on every one-module definition (also the refused ones) the two specifications agree -/
theorem sigOfDefinitionM_one (m : KModuleDef) : sigOfDefinitionM ⟨[m]⟩ = sigOfDefinition ⟨[m]⟩ := by
  have h0 : ({ all := emptySem, done := [], cur := ModSem.new m.name } : DefSemM) = lift1 m.name emptySem := rfl
  simp only [sigOfDefinitionM, modulesOfDefinition, addModules, addModule, List.any_nil, Bool.false_eq_true, if_false, h0,
    addSentencesM_one, sigOfDefinition]
  show Option.map _ (Option.bind _ _) = addSentences emptySem m.sentences
  cases addSentences emptySem m.sentences with
  | none => rfl
  | some d =>
    simp only [Option.map_some, Option.bind_some, lift1, List.nil_append, mainOrdinals, List.getLast?_singleton, ordinalsOf,
      List.contains_nil, List.filter_cons, Bool.false_eq_true, if_false, List.filter_nil, List.flatMap_nil]
    rw [filter_all_ordinals]

theorem inFragment_one {d : KDefinition} (hf : InFragment d) : ∃ m, d = ⟨[m]⟩ := by
  obtain ⟨m, hm, _⟩ := hf
  exact ⟨m, by cases d; simp at hm; subst hm; rfl⟩

/-- the one-module tie, stated with the several-module specification -/
theorem from_kore_definition_specM_one (so : SetOrder) (hso : so.Valid) (n : Nat) (d : KDefinition) (hf : InFragment d) :
    match sigOfDefinitionM d with
    | none => LanguageSemantics.from_kore_definition so (n + 2) d = raise
    | some ds => ∃ h, LanguageSemantics.from_kore_definition so (n + 2) d = ret h ∧ Represents h ds := by
  obtain ⟨m, rfl⟩ := inFragment_one hf
  rw [sigOfDefinitionM_one]
  exact from_kore_definition_spec so hso n _ hf

/-! ## any number of modules: facts about the specification -/

/-- what one accepted sentence does to the declarations, rules and the counter of ALL modules: only a symbol declaration adds a
symbol name; only an `Axiom` sentence moves the counter, by one; a rule that is added takes the old value of the counter as ordinal -/
theorem addSentenceM_all {d d' : DefSemM} {s : KSentence} (h : addSentenceM d s = some d') :
    d'.all.sg.symbols.map (·.name) = d.all.sg.symbols.map (·.name) ++ sentSymbols s ∧
    d'.all.nAxioms = d.all.nAxioms + (match s with | .«axiom» _ => 1 | _ => 0) ∧
    (d'.all.rules = d.all.rules ∨
      ∃ ru, d'.all.rules = d.all.rules ++ [ru] ∧ ru.ordinal = d.all.nAxioms ∧ d'.all.nAxioms = d.all.nAxioms + 1) := by
  cases s with
  | «import» m =>
    simp only [addSentenceM] at h
    split at h
    · simp at h
    · split at h <;> simp at h; subst h; exact ⟨by simp [sentSymbols], rfl, .inl rfl⟩
  | other => simp [addSentenceM] at h; subst h; exact ⟨by simp [sentSymbols], rfl, .inl rfl⟩
  | sortDecl nm hk =>
    simp only [addSentenceM] at h; split at h <;> simp at h; subst h; exact ⟨by simp [sentSymbols], rfl, .inl rfl⟩
  | symbolDecl nm vars params srt attrs =>
    simp only [addSentenceM] at h
    split at h; · simp at h
    split at h <;> simp at h; subst h; exact ⟨by simp [sentSymbols, symDecl], rfl, .inl rfl⟩
  | «axiom» p =>
    simp only [addSentenceM] at h
    split at h
    · simp at h; subst h; exact ⟨by simp [sentSymbols], rfl, .inl rfl⟩
    · rename_i kind t _
      cases hc : conv d.all.sg {} t with
      | none => simp [hc] at h
      | some r =>
        simp only [hc, Option.map_some, Option.some.injEq] at h; subst h
        exact ⟨by simp [sentSymbols], rfl, .inr ⟨_, rfl, rfl, rfl⟩⟩

/-- ONE counter: no sentence lowers it, an `Axiom` sentence that is accepted raises it by one -/
theorem addSentenceM_counter {d d' : DefSemM} {s : KSentence} (h : addSentenceM d s = some d') :
    d'.all.nAxioms = d.all.nAxioms + (match s with | .«axiom» _ => 1 | _ => 0) := (addSentenceM_all h).2.1

/-- every rule the construction adds takes the current value of the counter as its ordinal, and the rules it had stay -/
theorem addSentenceM_rules {d d' : DefSemM} {s : KSentence} (h : addSentenceM d s = some d') :
    d'.all.rules = d.all.rules ∨ ∃ ru, d'.all.rules = d.all.rules ++ [ru] ∧ ru.ordinal = d.all.nAxioms :=
  (addSentenceM_all h).2.2.imp id fun ⟨ru, h1, h2, _⟩ => ⟨ru, h1, h2⟩

/-- the signature and the number of axioms of `sigOfDefinitionM` are those of ALL modules; only the rules are cut down to what
`get_axiom` finds from the main (= last) module -/
theorem sigOfDefinitionM_sig (d : KDefinition) (ds : DefSem) (h : sigOfDefinitionM d = some ds) :
    ∃ all ms, modulesOfDefinition d = some (all, ms) ∧ ds.sg = all.sg ∧ ds.nAxioms = all.nAxioms ∧
      ds.rules = all.rules.filter fun r => (mainOrdinals ms).contains r.ordinal := by
  simp only [sigOfDefinitionM] at h
  cases hm : modulesOfDefinition d with
  | none => simp [hm] at h
  | some a => simp only [hm, Option.map_some, Option.some.injEq] at h; subst h; exact ⟨a.1, a.2, rfl, rfl, rfl, rfl⟩

#print axioms sigOfDefinitionM_one
#print axioms from_kore_definition_specM_one
#print axioms addSentenceM_counter
#print axioms addSentenceM_rules
#print axioms sigOfDefinitionM_sig
end KDefTieM
