import Pi2.ClauseMove
/-!
# `simplify_clause`, `prove_trivial_clause` on conclusions; fuel monotonicity of the clause utilities; `resolution_step` inverted
(third part of `Pi2/ClauseThm.lean`; same namespace)
-/
set_option linter.unusedSimpArgs false
open Pat

namespace ClauseThm
open Lem StageSup Gen.PyTaut TautSup TautTie StageThm Gen.Clause

/-! ## `simplify_clause` on conclusions -/

/-- the loop of `simplify_clause` over the indices of `cl = pre ++ suf`, from index `pre.length` on -/
theorem simplify_for1_C {τ} (A : SAlg τ) (x : Int) : ∀ (suf pre pos str : List Int),
    simplify_clause_for1 A (pre ++ suf) x ((List.range' pre.length suf.length).map fun (k : Nat) => (k : Int)) pos str =
      some (pos ++ (idxs pre.length (suf.map (· == x))).map (fun (k : Nat) => (k : Int)), str ++ suf.filter (· != x)) := by
  intro suf
  induction suf with
  | nil => intro pre pos str; simp [Gen.Clause.simplify_clause_for1, idxs]
  | cons a suf ih =>
    intro pre pos str
    have hidx : pyIndex (pre ++ a :: suf) (pre.length : Int) = some a := pyIndex_mid pre a suf
    have hcl : pre ++ a :: suf = (pre ++ [a]) ++ suf := by simp
    have hlen : (pre ++ [a]).length = pre.length + 1 := by simp
    simp only [List.length_cons, List.range'_succ, List.map_cons, Gen.Clause.simplify_clause_for1, hidx, Option.pure_def,
      Option.bind_eq_bind, Option.bind_some, idxs]
    by_cases hax : a = x
    · subst hax
      have e := ih (pre ++ [a]) (pos ++ [(pre.length : Int)]) str
      rw [hlen, ← hcl] at e
      simp [e]
    · have hb : (a == x) = false := by simpa using hax
      have e := ih (pre ++ [a]) pos (str ++ [a])
      rw [hlen, ← hcl] at e
      simp [hb, e, hax]

theorem sel_map_filter {α β : Type} (P : α → Bool) (f : α → β) : ∀ (l : List α),
    sel (l.map P) (l.map f) = (l.filter P).map f := by
  intro l
  induction l with
  | nil => rfl
  | cons a l ih =>
    simp only [List.map_cons, sel, List.filter_cons]
    split <;> simp [ih]

theorem idxs_length_filter {α : Type} (P : α → Bool) : ∀ (l : List α) (k : Nat),
    (idxs k (l.map P)).length = (l.filter P).length := by
  intro l
  induction l with
  | nil => intro k; rfl
  | cons a l ih =>
    intro k
    simp only [List.map_cons, idxs, List.filter_cons]
    split <;> simp [ih]

theorem filter_beq_replicate (x : Int) (l : List Int) : l.filter (· == x) = List.replicate (l.filter (· == x)).length x := by
  rw [List.eq_replicate_iff]
  refine ⟨rfl, ?_⟩
  intro y hy
  have := (List.mem_filter.mp hy).2
  simpa using this

theorem filter_split_length (x : Int) : ∀ (l : List Int),
    (l.filter (· == x)).length + (l.filter (· != x)).length = l.length := by
  intro l
  induction l with
  | nil => rfl
  | cons a l ih =>
    by_cases h : a = x
    · subst h; simp; omega
    · have hb : (a == x) = false := by simpa using h
      simp [List.filter_cons, hb, h]; omega

theorem pyRepeat_single (x : Int) (n : Nat) : pyRepeat [x] (n : Int) = List.replicate n x := by
  simp only [pyRepeat, Int.toNat_natCast]
  induction n with
  | zero => rfl
  | succ n ih => simp [List.replicate_succ, ih]

/-- the result clause of `simplify_clause(cl, resolvent)` -/
def simplified (cl : List Int) (x : Int) : List Int := if cl.all (· != x) then cl else x :: cl.filter (· != x)

/-- **`simplify_clause(cl, resolvent)`**: the occurrences of `resolvent` are moved to the front and merged into one; the
proof concludes `clause_to_pattern(cl) <-> clause_to_pattern(result)` -/
theorem simplify_clause_C (cl : List Int) (x : Int) (fuel : Nat) (hz : Res.NoZero cl) (hf : moveFuel cl.length ≤ fuel) :
    simplify_clause algCS fuel cl x =
      some (simplified cl x, equivP (clausePat cl) (clausePat (simplified cl x))) := by
  have e := simplify_for1_C algCS x cl [] [] []
  have hr : pyRange (pyLen cl) = (List.range' 0 cl.length).map fun (k : Nat) => (k : Int) := by
    simp [pyRange, pyLen, List.range_eq_range']
  simp only [List.nil_append, List.length_nil] at e
  have hlenf : cl.length ≤ fuel := by
    unfold moveFuel at hf
    have : cl.length ≤ (cl.length + 1) * cl.length := Nat.le_mul_of_pos_left _ (by omega)
    omega
  simp only [Gen.Clause.simplify_clause, hr, e, Option.pure_def, Option.bind_eq_bind, Option.bind_some, simplified]
  by_cases hall : cl.all (· != x) = true
  · have hcnt : (cl.filter (· == x)).length = 0 := by
      rw [List.length_eq_zero_iff, List.filter_eq_nil_iff]
      intro a ha
      have := List.all_eq_true.mp hall a ha
      simpa using this
    have hpos : idxs 0 (cl.map (· == x)) = [] := by
      rw [← List.length_eq_zero_iff, idxs_length_filter]; exact hcnt
    simp [hpos, hall, clause_to_pattern_C algCS cl fuel hz hlenf, lib_equiv_refl]
  · have hmem : x ∈ cl := by
      by_cases h : x ∈ cl
      · exact h
      · exfalso
        apply hall
        rw [List.all_eq_true]
        intro a ha
        simp only [bne_iff_ne, ne_eq]
        intro e
        exact h (e ▸ ha)
    have hx0 : x ≠ 0 := hz x hmem
    have hne : cl ≠ [] := List.ne_nil_of_mem hmem
    have hcnt : 1 ≤ (cl.filter (· == x)).length := by
      apply List.length_pos_iff.mpr
      exact List.ne_nil_of_mem (List.mem_filter.mpr ⟨hmem, by simp⟩)
    have hposne : (idxs 0 (cl.map (· == x))).map (fun (k : Nat) => (k : Int)) ≠ [] := by
      intro h
      have := congrArg List.length h
      rw [List.length_map, idxs_length_filter] at this
      simp only [List.length_nil] at this; omega
    have hie : ((idxs 0 (cl.map (· == x))).map (fun (k : Nat) => (k : Int))).isEmpty = false := by
      cases h : (idxs 0 (cl.map (· == x))).map (fun (k : Nat) => (k : Int)) with
      | nil => exact absurd h hposne
      | cons _ _ => rfl
    obtain ⟨m, hm⟩ : ∃ m, (cl.filter (· == x)).length = m + 1 := ⟨_, (Nat.sub_add_cancel hcnt).symm⟩
    have hnpos : pyLen ((idxs 0 (cl.map (· == x))).map (fun (k : Nat) => (k : Int))) = ((m + 1 : Nat) : Int) := by
      simp [pyLen, idxs_length_filter, hm]
    have hmove := or_move_to_front_C (cl.map (· == x)) (cl.map idPat) fuel (by simp) (by simpa using hne)
      (by simpa using hf)
    rw [sel_map_filter, List.map_map, show (not ∘ fun a : Int => a == x) = (fun a => a != x) from rfl,
      sel_map_filter, filter_beq_replicate, hm] at hmove
    have hzi : Res.NoZero (List.replicate (m + 1) x ++ cl.filter (· != x)) := by
      intro y hy
      simp only [List.mem_append, List.mem_replicate, List.mem_filter] at hy
      rcases hy with ⟨_, rfl⟩ | ⟨hy, _⟩
      · exact hx0
      · exact hz y hy
    have hred := reduce_n_C (idPat x) ((cl.filter (· != x)).map idPat) m fuel (by
      have h1 := List.length_filter_le (· != x) cl
      have h2 : (cl.filter (· == x)).length + (cl.filter (· != x)).length = cl.length := filter_split_length x cl
      simp; omega)
    have hcast : (((m + 1 : Nat) : Int) - 1) = (m : Int) := by omega
    have hcl : clausePat cl = foldrP orP (cl.map idPat) := clausePat_eq cl hne
    have hcl2 : clausePat (x :: cl.filter (· != x)) = foldrP orP (idPat x :: (cl.filter (· != x)).map idPat) :=
      clausePat_eq _ (by simp)
    simp only [hie, hall, Bool.not_false, Bool.not_true, Bool.false_eq_true, if_false, mapM_id_C algCS cl hz, hmove, hnpos,
      pyRepeat_single, mapM_id_C algCS _ hzi, List.map_append, List.map_replicate, hcast, hred, lib_equiv_transitivity,
      Option.bind_some, List.singleton_append, hcl, hcl2]

/-! ## `prove_trivial_clause` on conclusions -/

/-- the test of the loop of `prove_trivial_clause` -/
def clash (p : (Int × Int) × (Int × Int)) : Bool := p.1.2 + p.2.2 == 0

/-- the loop of `prove_trivial_clause`: the first pair of positions with complementary literals, if any -/
theorem ptc_for1_C {τ} (A : SAlg τ) : ∀ (l : List ((Int × Int) × (Int × Int))) (a : Option Bool) (b : Option Int)
    (c : Option (List Int)),
    Gen.Clause.prove_trivial_clause_for1 A l a b c = some (match l.find? clash with
      | some p => (some (decide (p.1.2 < p.2.2) == decide (p.1.1 < p.2.1)), some (ClauseSup.pyAbs p.1.2), some [p.1.1, p.2.1])
      | none => (a, b, c)) := by
  intro l
  induction l with
  | nil => intro a b c; rfl
  | cons p l ih =>
    intro a b c
    obtain ⟨⟨i1, x1⟩, ⟨i2, x2⟩⟩ := p
    by_cases h : (x1 + x2 == 0) = true
    · simp [Gen.Clause.prove_trivial_clause_for1, h, clash, List.find?_cons]
    · have h' : (x1 + x2 == 0) = false := by simpa using h
      simp only [Gen.Clause.prove_trivial_clause_for1, h', Bool.false_eq_true, if_false, ih, List.find?_cons, clash]

theorem enumFrom_append {α : Type} : ∀ (l1 l2 : List α) (k : Int),
    pyEnumerateFrom k (l1 ++ l2) = pyEnumerateFrom k l1 ++ pyEnumerateFrom (k + l1.length) l2 := by
  intro l1
  induction l1 with
  | nil => intro l2 k; simp [pyEnumerateFrom]
  | cons a l1 ih =>
    intro l2 k
    simp only [List.cons_append, pyEnumerateFrom, ih, List.length_cons]
    rw [show k + ((l1.length + 1 : Nat) : Int) = k + 1 + (l1.length : Int) from by push_cast; omega]

theorem mem_enumFrom {α : Type} : ∀ (l : List α) (k i : Int) (y : α), (i, y) ∈ pyEnumerateFrom k l →
    ∃ B C, l = B ++ y :: C ∧ i = k + B.length := by
  intro l
  induction l with
  | nil => intro k i y h; simp [pyEnumerateFrom] at h
  | cons a l ih =>
    intro k i y h
    simp only [pyEnumerateFrom, List.mem_cons, Prod.mk.injEq] at h
    rcases h with ⟨rfl, rfl⟩ | h
    · exact ⟨[], l, rfl, by simp⟩
    · obtain ⟨B, C, rfl, hi⟩ := ih (k + 1) i y h
      exact ⟨a :: B, C, rfl, by simp; omega⟩

/-- a pair of `combinations(enumerate(cl), 2)`: two positions `i1 < i2` of `cl` with their literals -/
theorem mem_comb_enum : ∀ (cl : List Int) (k i1 x1 i2 x2 : Int),
    ((i1, x1), (i2, x2)) ∈ pyCombinations2 (pyEnumerateFrom k cl) →
    ∃ A B C, cl = A ++ x1 :: (B ++ x2 :: C) ∧ i1 = k + A.length ∧ i2 = k + A.length + 1 + B.length := by
  intro cl
  induction cl with
  | nil => intro k i1 x1 i2 x2 h; simp [pyEnumerateFrom, pyCombinations2] at h
  | cons a cl ih =>
    intro k i1 x1 i2 x2 h
    simp only [pyEnumerateFrom, pyCombinations2, List.mem_append, List.mem_map] at h
    rcases h with ⟨⟨j, y⟩, hm, he⟩ | h
    · simp only [Prod.mk.injEq] at he
      obtain ⟨⟨rfl, rfl⟩, rfl, rfl⟩ := he
      obtain ⟨B, C, rfl, hi⟩ := mem_enumFrom cl (k + 1) j y hm
      exact ⟨[], B, C, rfl, by simp, by simp; omega⟩
    · obtain ⟨A, B, C, rfl, h1, h2⟩ := ih (k + 1) i1 x1 i2 x2 h
      exact ⟨a :: A, B, C, rfl, by simp; omega, by simp; omega⟩

/-- the literals that `rest_cl = [x for (i, x) in enumerate(cl) if i not in pos]` keeps when no index is in `pos` -/
theorem enum_filter_all (pos : List Int) : ∀ (l : List Int) (k : Int), (∀ j : Nat, j < l.length → (k + j) ∉ pos) →
    List.map (fun (p : Int × Int) => p.2) (List.filter (fun (p : Int × Int) => !(List.contains pos p.1)) (pyEnumerateFrom k l)) = l := by
  intro l
  induction l with
  | nil => intro k _; rfl
  | cons a l ih =>
    intro k h
    have h0 := h 0 (by simp)
    simp only [Int.natCast_zero, Int.add_zero] at h0
    have := ih (k + 1) (fun j hj => by
      have := h (j + 1) (by simp; omega)
      rw [show k + 1 + (j : Int) = k + ((j + 1 : Nat) : Int) from by push_cast; omega]
      exact this)
    simp only [List.contains_eq_mem] at this
    simp [pyEnumerateFrom, List.filter_cons, h0, this]

theorem mapM_id_C' {τ} (A : SAlg τ) (cl : List Int) (hz : Res.NoZero cl) :
    List.mapM (fun x => id_to_metavar A x) cl = some (cl.map idPat) := by
  have := mapM_id_C A cl hz
  simpa using this

theorem rest_cl_eq (A B C : List Int) (x1 x2 : Int) :
    List.map (fun (x : Int × Int) => x.snd) (List.filter (fun (x : Int × Int) =>
      !([(A.length : Int), (A.length : Int) + 1 + (B.length : Int)] : List Int).contains x.fst)
        (pyEnumerate (A ++ x1 :: (B ++ x2 :: C)))) = A ++ (B ++ C) := by
  have hA := enum_filter_all [(A.length : Int), (A.length : Int) + 1 + (B.length : Int)] A 0
    (fun j hj => by simp; omega)
  have hB := enum_filter_all [(A.length : Int), (A.length : Int) + 1 + (B.length : Int)] B ((A.length : Int) + 1)
    (fun j hj => by simp; omega)
  have hC := enum_filter_all [(A.length : Int), (A.length : Int) + 1 + (B.length : Int)] C
    ((A.length : Int) + 1 + (B.length : Int) + 1) (fun j hj => by simp; omega)
  simp only [pyEnumerate, enumFrom_append, pyEnumerateFrom, List.filter_append, List.filter_cons, List.map_append,
    Int.zero_add, hA]
  have e1 : ([(A.length : Int), (A.length : Int) + 1 + (B.length : Int)] : List Int).contains (A.length : Int) = true := by simp
  have e2 : ([(A.length : Int), (A.length : Int) + 1 + (B.length : Int)] : List Int).contains
      ((A.length : Int) + 1 + (B.length : Int)) = true := by simp
  simp only [e1, e2, Bool.not_true, Bool.false_eq_true, if_false, List.map_append, hB, hC]

theorem idPat_abs_neg (x1 x2 : Int) (h : x1 < 0) (hs : x1 + x2 = 0) :
    idPat x1 = negP (idPat (ClauseSup.pyAbs x1)) ∧ idPat x2 = idPat (ClauseSup.pyAbs x1) := by
  have h1 : ¬ ((x1.natAbs : Int) < 0) := by omega
  have h2 : ¬ (x2 < 0) := by omega
  have e1 : (-(x1 + 1)).toNat = ((x1.natAbs : Int) - 1).toNat := by omega
  have e2 : (x2 - 1).toNat = ((x1.natAbs : Int) - 1).toNat := by omega
  simp [idPat, ClauseSup.pyAbs, h, h1, h2, e1, e2]

theorem idPat_abs_pos (x1 x2 : Int) (h : 0 < x1) (hs : x1 + x2 = 0) :
    idPat x1 = idPat (ClauseSup.pyAbs x1) ∧ idPat x2 = negP (idPat (ClauseSup.pyAbs x1)) := by
  have h0 : ¬ (x1 < 0) := by omega
  have h1 : ¬ ((x1.natAbs : Int) < 0) := by omega
  have h2 : x2 < 0 := by omega
  have e1 : (x1 - 1).toNat = ((x1.natAbs : Int) - 1).toNat := by omega
  have e2 : (-(x2 + 1)).toNat = ((x1.natAbs : Int) - 1).toNat := by omega
  simp [idPat, ClauseSup.pyAbs, h0, h1, h2, e1, e2]

/-- the mask of two positions -/
def mask2 (a b c : Nat) : List Bool :=
  List.replicate a false ++ true :: (List.replicate b false ++ true :: List.replicate c false)

theorem idxs_mask2 (a b c : Nat) : idxs 0 (mask2 a b c) = [a, a + 1 + b] := by
  have h3 : ∀ k, idxs k (List.replicate c false) = [] := by
    intro k
    have := idxs_replicate_false [] c k
    simpa [idxs] using this
  simp [mask2, idxs_replicate_false, idxs, h3]

theorem sel_mask2 {α : Type} (A B C : List α) (x1 x2 : α) :
    sel (mask2 A.length B.length C.length) (A ++ x1 :: (B ++ x2 :: C)) = [x1, x2] ∧
    sel ((mask2 A.length B.length C.length).map not) (A ++ x1 :: (B ++ x2 :: C)) = A ++ (B ++ C) := by
  have h3 : sel (List.replicate C.length false) C = [] := by
    have := sel_replicate_false (α := α) [] [] C
    simpa [sel] using this
  have h4 : sel (List.replicate C.length true) C = C := by
    have := sel_replicate_true (α := α) [] [] C
    simpa [sel] using this
  constructor
  · simp [mask2, sel_replicate_false, sel, h3]
  · simp only [mask2, List.map_append, List.map_replicate, List.map_cons, Bool.not_false, Bool.not_true]
    rw [sel_replicate_true]
    simp only [sel, Bool.false_eq_true, if_false]
    rw [sel_replicate_true]
    simp [sel, h4]

theorem lib_and_r_equiv (a b : Pat) : lib algCS ix_and_r [] [equivP a b] = some (.imp b a) := lib_and_r _ _
theorem lib_and_l_equiv (a b : Pat) : lib algCS ix_and_l [] [equivP a b] = some (.imp a b) := lib_and_l _ _

theorem or_move_two (A B C : List Int) (x1 x2 : Int) (fuel : Nat)
    (hf : moveFuel (A ++ x1 :: (B ++ x2 :: C)).length ≤ fuel) :
    Gen.Clause.or_move_to_front algCS fuel [(A.length : Int), (A.length : Int) + 1 + (B.length : Int)]
        ((A ++ x1 :: (B ++ x2 :: C)).map idPat) =
      some (equivP (foldrP orP ((A ++ x1 :: (B ++ x2 :: C)).map idPat))
        (foldrP orP (idPat x1 :: idPat x2 :: (A ++ (B ++ C)).map idPat))) := by
  have hm := or_move_to_front_C (mask2 A.length B.length C.length) ((A ++ x1 :: (B ++ x2 :: C)).map idPat) fuel
    (by simp [mask2]) (by simp) (by simpa using hf)
  have hs := sel_mask2 (A.map idPat) (B.map idPat) (C.map idPat) (idPat x1) (idPat x2)
  simp only [List.length_map] at hs
  have e : (A ++ x1 :: (B ++ x2 :: C)).map idPat = A.map idPat ++ idPat x1 :: (B.map idPat ++ idPat x2 :: C.map idPat) := by
    simp
  rw [idxs_mask2] at hm
  rw [e] at hm ⊢
  rw [hs.1, hs.2] at hm
  simp only [List.map_cons, List.map_nil] at hm
  push_cast at hm
  rw [hm]
  simp

/-- **`prove_trivial_clause`**, the computation: `cl = A ++ x1 :: B ++ x2 :: C` where `(x1, x2)` is the first complementary pair -/
theorem ptc_core (A B C : List Int) (x1 x2 : Int) (fuel : Nat)
    (hfind : (pyCombinations2 (pyEnumerate (A ++ x1 :: (B ++ x2 :: C)))).find? clash =
      some (((A.length : Int), x1), ((A.length : Int) + 1 + (B.length : Int), x2)))
    (hsum : x1 + x2 = 0) (hx : x1 ≠ 0) (hz : Res.NoZero (A ++ x1 :: (B ++ x2 :: C)))
    (hf : moveFuel (A ++ x1 :: (B ++ x2 :: C)).length ≤ fuel) :
    Gen.Clause.prove_trivial_clause algCS fuel (A ++ x1 :: (B ++ x2 :: C)) =
      some (clausePat (A ++ x1 :: (B ++ x2 :: C))) := by
  have habs : ClauseSup.pyAbs x1 ≠ 0 := by unfold ClauseSup.pyAbs; omega
  have hid := id_to_metavar_C algCS (ClauseSup.pyAbs x1) habs
  have hi : ((A.length : Int) < (A.length : Int) + 1 + (B.length : Int)) := by omega
  have hmove := or_move_two A B C x1 x2 fuel hf
  have hrest := rest_cl_eq A B C x1 x2
  have hlenf : (A ++ (B ++ C)).length ≤ fuel := by
    unfold moveFuel at hf
    have : (A ++ x1 :: (B ++ x2 :: C)).length ≤ ((A ++ x1 :: (B ++ x2 :: C)).length + 1) * (A ++ x1 :: (B ++ x2 :: C)).length :=
      Nat.le_mul_of_pos_left _ (by omega)
    simp at this hf ⊢
    omega
  have hzr : Res.NoZero (A ++ (B ++ C)) := by
    intro y hy
    apply hz y
    simp only [List.mem_append, List.mem_cons] at hy ⊢
    rcases hy with h | h | h
    · exact Or.inl h
    · exact Or.inr (Or.inr (Or.inl h))
    · exact Or.inr (Or.inr (Or.inr (Or.inr h)))
  have hctp := clause_to_pattern_C algCS (A ++ (B ++ C)) fuel hzr hlenf
  by_cases h2 : (A ++ x1 :: (B ++ x2 :: C)).length = 2
  · have hA : A = [] := by
      apply List.eq_nil_of_length_eq_zero; simp at h2; omega
    have hB : B = [] := by
      apply List.eq_nil_of_length_eq_zero; simp at h2; omega
    have hC : C = [] := by
      apply List.eq_nil_of_length_eq_zero; simp at h2; omega
    subst hA hB hC
    by_cases hlt : x1 < 0
    · obtain ⟨hp1, hp2⟩ := idPat_abs_neg x1 x2 hlt hsum
      have hnf : x1 < x2 := by omega
      simp only [List.nil_append, List.length_nil, Int.natCast_zero, Int.zero_add] at hfind
      simp [Gen.Clause.prove_trivial_clause, ptc_for1_C, hfind, hid, pyLen, hnf, lib_dneg_elim, clausePat, foldrP, hp1, hp2, orP]
    · obtain ⟨hp1, hp2⟩ := idPat_abs_pos x1 x2 (by omega) hsum
      have hnf : ¬ x1 < x2 := by omega
      simp only [List.nil_append, List.length_nil, Int.natCast_zero, Int.zero_add] at hfind
      simp [Gen.Clause.prove_trivial_clause, ptc_for1_C, hfind, hid, pyLen, hnf, lib_imp_refl, clausePat, foldrP, hp1, hp2, orP]
  · have hl2 : ¬ (pyLen (A ++ x1 :: (B ++ x2 :: C)) == (2 : Int)) = true := by
      simp only [pyLen, beq_iff_eq]; omega
    have hne : (A ++ (B ++ C)) ≠ [] := by
      intro h
      have h3 := congrArg List.length h
      simp only [List.length_append, List.length_cons, List.length_nil] at h3 h2
      omega
    have hcl : clausePat (A ++ x1 :: (B ++ x2 :: C)) = foldrP orP ((A ++ x1 :: (B ++ x2 :: C)).map idPat) :=
      clausePat_eq _ (by simp)
    have hrestp : clausePat (A ++ (B ++ C)) = foldrP orP ((A ++ (B ++ C)).map idPat) := clausePat_eq _ hne
    have hne' : (A ++ (B ++ C)).map idPat ≠ [] := by simpa using hne
    by_cases hlt : x1 < 0
    · obtain ⟨hp1, hp2⟩ := idPat_abs_neg x1 x2 hlt hsum
      have hnf : x1 < x2 := by omega
      simp only [Gen.Clause.prove_trivial_clause, ptc_for1_C, hfind, hid, hl2, hnf, hi, mapM_id_C' algCS _ hz, hmove, hrest,
        hctp, Option.pure_def, Option.bind_eq_bind, Option.bind_some, Bool.false_eq_true, if_false, decide_true, beq_self_eq_true,
        if_true, lib_and_r, lib_or_assoc_r, lib_dneg_elim, hcl]
      rw [hp1, hp2, foldrP_cons orP _ _ (by simp), foldrP_cons orP _ _ hne', ← hrestp]
      simp only [lib_and_r_equiv, lib_imp_transitivity, Option.bind_some]
      rw [show (negP (negP (idPat (ClauseSup.pyAbs x1)))).imp (idPat (ClauseSup.pyAbs x1)) =
        orP (negP (idPat (ClauseSup.pyAbs x1))) (idPat (ClauseSup.pyAbs x1)) from rfl]
      simp only [lib_or_l, Option.bind_some, mpC_imp]
    · obtain ⟨hp1, hp2⟩ := idPat_abs_pos x1 x2 (by omega) hsum
      have hnf : ¬ x1 < x2 := by omega
      simp only [Gen.Clause.prove_trivial_clause, ptc_for1_C, hfind, hid, hl2, hnf, hi, mapM_id_C' algCS _ hz, hmove, hrest,
        hctp, Option.pure_def, Option.bind_eq_bind, Option.bind_some, Bool.false_eq_true, if_false, decide_true, decide_false,
        if_true, lib_and_r, lib_or_assoc_r, lib_imp_refl, hcl]
      rw [hp1, hp2, foldrP_cons orP _ _ (by simp), foldrP_cons orP _ _ hne', ← hrestp]
      simp only [lib_and_r_equiv, lib_imp_transitivity, Option.bind_some]
      rw [show (negP (idPat (ClauseSup.pyAbs x1))).imp (negP (idPat (ClauseSup.pyAbs x1))) =
        orP (idPat (ClauseSup.pyAbs x1)) (negP (idPat (ClauseSup.pyAbs x1))) from rfl]
      simp [lib_or_l, mpC_imp]

theorem mem_enumFrom_of {α : Type} : ∀ (B : List α) (y : α) (C : List α) (k : Int),
    (k + (B.length : Int), y) ∈ pyEnumerateFrom k (B ++ y :: C) := by
  intro B
  induction B with
  | nil => intro y C k; simp [pyEnumerateFrom]
  | cons b B ih =>
    intro y C k
    simp only [List.cons_append, pyEnumerateFrom, List.mem_cons, List.length_cons]
    right
    have := ih y C (k + 1)
    rw [show k + ((B.length + 1 : Nat) : Int) = k + 1 + (B.length : Int) from by push_cast; omega]
    exact this

theorem comb_enum_mem : ∀ (A B C : List Int) (x1 x2 k : Int),
    ((k + (A.length : Int), x1), (k + (A.length : Int) + 1 + (B.length : Int), x2)) ∈
      pyCombinations2 (pyEnumerateFrom k (A ++ x1 :: (B ++ x2 :: C))) := by
  intro A
  induction A with
  | nil =>
    intro B C x1 x2 k
    simp only [List.nil_append, pyEnumerateFrom, pyCombinations2, List.mem_append, List.mem_map, List.length_nil,
      Int.natCast_zero, Int.add_zero]
    left
    exact ⟨(k + 1 + (B.length : Int), x2), mem_enumFrom_of B x2 C (k + 1), rfl⟩
  | cons a A ih =>
    intro B C x1 x2 k
    simp only [List.cons_append, pyEnumerateFrom, pyCombinations2, List.mem_append, List.length_cons]
    right
    have := ih B C x1 x2 (k + 1)
    rw [show k + ((A.length + 1 : Nat) : Int) = k + 1 + (A.length : Int) from by push_cast; omega]
    exact this

theorem two_mem {α : Type} (l : List α) (x y : α) (hx : x ∈ l) (hy : y ∈ l) (hne : x ≠ y) :
    (∃ A B C, l = A ++ x :: (B ++ y :: C)) ∨ (∃ A B C, l = A ++ y :: (B ++ x :: C)) := by
  obtain ⟨A, R, rfl⟩ := List.append_of_mem hx
  simp only [List.mem_append, List.mem_cons] at hy
  rcases hy with hy | hy | hy
  · obtain ⟨A1, A2, rfl⟩ := List.append_of_mem hy
    exact Or.inr ⟨A1, A2, R, by simp⟩
  · exact absurd hy.symm hne
  · obtain ⟨R1, R2, rfl⟩ := List.append_of_mem hy
    exact Or.inl ⟨A, R1, R2, rfl⟩

/-- the first complementary pair of positions of a clause, with the decomposition of the clause it defines -/
theorem find_clash (cl : List Int) (p : (Int × Int) × (Int × Int))
    (h : (pyCombinations2 (pyEnumerate cl)).find? clash = some p) :
    ∃ A B C x1 x2, cl = A ++ x1 :: (B ++ x2 :: C) ∧ x1 + x2 = 0 ∧
      p = (((A.length : Int), x1), ((A.length : Int) + 1 + (B.length : Int), x2)) := by
  obtain ⟨⟨i1, x1⟩, ⟨i2, x2⟩⟩ := p
  have hm := List.mem_of_find?_eq_some h
  have hc := List.find?_some h
  obtain ⟨A, B, C, hcl, h1, h2⟩ := mem_comb_enum cl 0 i1 x1 i2 x2 hm
  refine ⟨A, B, C, x1, x2, hcl, by simpa [clash] using hc, ?_⟩
  simp only [Int.zero_add] at h1 h2
  rw [h1, h2]

/-- **`prove_trivial_clause(cl)`** for a trivial clause without the literal `0`: the proof concludes `clause_to_pattern(cl)` -/
theorem prove_trivial_clause_C (cl : List Int) (fuel : Nat) (hz : Res.NoZero cl) (ht : Res.trivial cl = true)
    (hf : moveFuel cl.length ≤ fuel) :
    Gen.Clause.prove_trivial_clause algCS fuel cl = some (clausePat cl) := by
  have hex : ∃ p, (pyCombinations2 (pyEnumerate cl)).find? clash = some p := by
    simp only [Res.trivial, List.any_eq_true, List.contains_eq_mem, decide_eq_true_eq] at ht
    obtain ⟨x, hx, hnx⟩ := ht
    have hx0 := hz x hx
    have hne : x ≠ -x := by omega
    cases hfind : (pyCombinations2 (pyEnumerate cl)).find? clash with
    | some p => exact ⟨p, rfl⟩
    | none =>
      exfalso
      rw [List.find?_eq_none] at hfind
      rcases two_mem cl x (-x) hx hnx hne with ⟨A, B, C, rfl⟩ | ⟨A, B, C, rfl⟩
      · have := hfind _ (comb_enum_mem A B C x (-x) 0)
        simp [clash] at this
        omega
      · have := hfind _ (comb_enum_mem A B C (-x) x 0)
        simp [clash] at this
        omega
  obtain ⟨p, hp⟩ := hex
  obtain ⟨A, B, C, x1, x2, rfl, hsum, rfl⟩ := find_clash cl p hp
  exact ptc_core A B C x1 x2 fuel hp hsum (hz x1 (by simp)) hz hf

/-! ## fuel monotonicity: a run that answers, answers the same with more fuel -/

theorem le_none {α} (y : Option α) : Le none y := fun _ h => by cases h

theorem le_mapM {α β} (f g : α → Option β) (h : ∀ x, Le (f x) (g x)) : ∀ (l : List α), Le (List.mapM f l) (List.mapM g l) := by
  intro l
  induction l with
  | nil => exact Le.refl _
  | cons a l ih =>
    rw [List.mapM_cons, List.mapM_cons]
    simp only [Option.pure_def, Option.bind_eq_bind]
    apply le_bind (h a); intro y
    apply le_bind ih; intro ys
    exact Le.refl _

/-- one step of a monotonicity proof; extended below by every function whose monotonicity is proved -/
syntax "mono_step" : tactic
macro_rules | `(tactic| mono_step) => `(tactic| refine le_bind ?_ (fun _ => ?_))
macro_rules | `(tactic| mono_step) => `(tactic| (with_reducible apply le_bind_same; intro _))
macro_rules | `(tactic| mono_step) => `(tactic| with_reducible apply le_ite)
macro_rules | `(tactic| mono_step) => `(tactic| with_reducible exact Le.refl _)

section Mono
variable {τ : Type} (A : SAlg τ)
attribute [local irreducible] StageSup.lib

theorem foldr_op_mono : ∀ (n : Nat) (op : Pat → Pat → Pat) (l : List Pat) (s e : Int),
    Le (foldr_op A n op l s e) (foldr_op A (n + 1) op l s e) := by
  intro n
  induction n with
  | zero => intro op l s e; exact le_none _
  | succ n ih =>
    intro op l s e
    rw [foldr_op, foldr_op]
    simp only [Option.pure_def, Option.bind_eq_bind]
    repeat' first | (with_reducible exact ih _ _ _ _) | mono_step

macro_rules | `(tactic| mono_step) => `(tactic| with_reducible exact foldr_op_mono _ _ _ _ _ _)
attribute [local irreducible] Gen.Clause.foldr_op

theorem clause_to_pattern_mono (n : Nat) (cl : List Int) :
    Le (clause_to_pattern A n cl) (clause_to_pattern A (n + 1) cl) := by
  simp only [clause_to_pattern, Option.pure_def, Option.bind_eq_bind]
  repeat' mono_step

macro_rules | `(tactic| mono_step) => `(tactic| with_reducible exact clause_to_pattern_mono _ _ _)
attribute [local irreducible] Gen.Clause.clause_to_pattern

theorem clause_conjunctionto_pattern_mono (n : Nat) (cls : List (List Int)) :
    Le (clause_conjunctionto_pattern A n cls) (clause_conjunctionto_pattern A (n + 1) cls) := by
  simp only [clause_conjunctionto_pattern, Option.pure_def, Option.bind_eq_bind]
  apply le_ite (Le.refl _)
  apply le_bind
  · apply le_mapM
    intro cl
    repeat' mono_step
  · intro _
    repeat' mono_step

macro_rules | `(tactic| mono_step) => `(tactic| with_reducible exact clause_conjunctionto_pattern_mono _ _ _)
attribute [local irreducible] Gen.Clause.clause_conjunctionto_pattern

theorem conjunction_implies_nth_mono : ∀ (n : Nat) (term : Pat) (k l : Int),
    Le (conjunction_implies_nth A n term k l) (conjunction_implies_nth A (n + 1) term k l) := by
  intro n
  induction n with
  | zero => intro term k l; exact le_none _
  | succ n ih =>
    intro term k l
    rw [conjunction_implies_nth, conjunction_implies_nth]
    simp only [Option.pure_def, Option.bind_eq_bind]
    repeat' first | (with_reducible exact ih _ _ _) | mono_step

macro_rules | `(tactic| mono_step) => `(tactic| with_reducible exact conjunction_implies_nth_mono _ _ _ _ _)
attribute [local irreducible] Gen.Clause.conjunction_implies_nth

theorem merge_clauses_mono : ∀ (n : Nat) (tl : Pat) (k : Int) (tr : Pat),
    Le (merge_clauses A n tl k tr) (merge_clauses A (n + 1) tl k tr) := by
  intro n
  induction n with
  | zero => intro tl k tr; exact le_none _
  | succ n ih =>
    intro tl k tr
    rw [merge_clauses, merge_clauses]
    simp only [Option.pure_def, Option.bind_eq_bind]
    repeat' first | (with_reducible exact ih _ _ _) | mono_step

macro_rules | `(tactic| mono_step) => `(tactic| with_reducible exact merge_clauses_mono _ _ _ _ _)
attribute [local irreducible] Gen.Clause.merge_clauses

theorem unroll_mono (assoc : Pat → Pat → Pat → Option τ) (comm : Pat → Pat → Option τ) (cong : τ → τ → Option τ)
    (op : Pat → Pat → Pat) (extract : Pat → Option (List Pat)) (assoc_rev : Pat → Pat → Pat → Option τ) :
    ∀ (n : Nat) (tl tr : Pat) (ps : List Int) (l u : Int),
    Le (ac_move_to_front_unroll A assoc comm cong op extract assoc_rev n tl tr ps l u)
      (ac_move_to_front_unroll A assoc comm cong op extract assoc_rev (n + 1) tl tr ps l u) := by
  intro n
  induction n with
  | zero => intro tl tr ps l u; exact le_none _
  | succ n ih =>
    intro tl tr ps l u
    rw [ac_move_to_front_unroll, ac_move_to_front_unroll]
    simp only [Option.pure_def, Option.bind_eq_bind]
    repeat' first | (with_reducible exact ih _ _ _ _ _) | mono_step

macro_rules | `(tactic| mono_step) => `(tactic| with_reducible exact unroll_mono _ _ _ _ _ _ _ _ _ _ _ _ _)
attribute [local irreducible] Gen.Clause.ac_move_to_front_unroll

theorem ac_move_to_front_mono (n : Nat) (ps : List Int) (terms : List Pat) (assoc : Pat → Pat → Pat → Option τ)
    (comm : Pat → Pat → Option τ) (cong : τ → τ → Option τ) (op : Pat → Pat → Pat) (extract : Pat → Option (List Pat)) :
    Le (ac_move_to_front A n ps terms assoc comm cong op extract)
      (ac_move_to_front A (n + 1) ps terms assoc comm cong op extract) := by
  simp only [ac_move_to_front, Option.pure_def, Option.bind_eq_bind]
  repeat' mono_step

macro_rules | `(tactic| mono_step) => `(tactic| with_reducible exact ac_move_to_front_mono _ _ _ _ _ _ _ _ _)
attribute [local irreducible] Gen.Clause.ac_move_to_front

theorem or_move_to_front_mono (n : Nat) (ps : List Int) (terms : List Pat) :
    Le (or_move_to_front A n ps terms) (or_move_to_front A (n + 1) ps terms) := by
  simp only [or_move_to_front, Option.pure_def, Option.bind_eq_bind]
  repeat' mono_step

macro_rules | `(tactic| mono_step) => `(tactic| with_reducible exact or_move_to_front_mono _ _ _ _)
attribute [local irreducible] Gen.Clause.or_move_to_front

theorem reduce_n_mono (n : Nat) (k : Int) (terms : List Pat) :
    Le (reduce_n_or_duplicates_at_front A n k terms) (reduce_n_or_duplicates_at_front A (n + 1) k terms) := by
  simp only [reduce_n_or_duplicates_at_front, Option.pure_def, Option.bind_eq_bind]
  repeat' mono_step

macro_rules | `(tactic| mono_step) => `(tactic| with_reducible exact reduce_n_mono _ _ _ _)
attribute [local irreducible] Gen.Clause.reduce_n_or_duplicates_at_front

theorem simplify_clause_mono (n : Nat) (cl : List Int) (x : Int) :
    Le (Gen.Clause.simplify_clause A n cl x) (Gen.Clause.simplify_clause A (n + 1) cl x) := by
  simp only [Gen.Clause.simplify_clause, Option.pure_def, Option.bind_eq_bind]
  repeat' mono_step

theorem prove_trivial_clause_mono (n : Nat) (cl : List Int) :
    Le (prove_trivial_clause A n cl) (prove_trivial_clause A (n + 1) cl) := by
  simp only [prove_trivial_clause, Option.pure_def, Option.bind_eq_bind]
  repeat' mono_step

end Mono

/-! ## `resolution_step`, inverted: whenever it returns, its premises have the documented shape -/

theorem lib_resolution_step_inv (x y z r : Pat) (h : lib algCS ix_resolution_step [] [x, y, z] = some r) :
    ∃ a b c d, x = .imp a b ∧ y = .imp a c ∧ z = .imp b (.imp c d) ∧ r = .imp a d := by
  -- the body: `a, b = extract(x)`, `a', c = extract(y)`, `assert a == a'`, `b', cd = extract(z)`, `assert b == b'`,
  -- `c', d = extract(cd)`, `assert c == c'`; evaluated once on variables it is a nest of `match`es that must all succeed
  obtain ⟨funs, hf⟩ := sem_getElem algCS.toAlg Gen.lemmaDefs ix_resolution_step _ rfl
  have h0 := h
  unfold lib at h
  rw [hf] at h
  simp [Lem.evalDef, Lem.evalBody, Lem.evalPE, algCS, Lem.algC] at h
  obtain ⟨v, hv, -⟩ := Option.bind_eq_some_iff.mp h
  have key : ∃ a b c d, x = .imp a b ∧ y = .imp a c ∧ z = .imp b (.imp c d) := by
    repeat' split at hv
    all_goals cases hv
    subst_vars
    exact ⟨_, _, _, _, rfl, rfl, rfl⟩
  obtain ⟨a, b, c, d, rfl, rfl, rfl⟩ := key
  rw [lib_resolution_step] at h0
  exact ⟨a, b, c, d, rfl, rfl, rfl, (Option.some.inj h0).symm⟩

end ClauseThm
