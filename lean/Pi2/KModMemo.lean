import Pi2.KModEq
import Pi2.KoreModule
/-!
# The memoising serialisation of a K execution module is accepted too

`==` is truthful on *quiet* patterns (`NPat.QF`, `NPat.peqF_expand_QF` in `Pi2/KModEq.lean`: substitution nodes
meta-headed and outside notation nodes; any metavariable constraints), so they may be memoised (`Memoable.qf`).
Everything `execute_full` of a K module ever passes to `pattern` is quiet: the propositional fragment, `functional`'s
definition with its constrained metavariable, `func_subst_axiom`, and their sub-patterns.  So `module_acceptedG`
gives `module_acceptedKM`: the module of a K trace is accepted under every configuration, with the memory invariant
`MemOK`: every saved pattern is quiet, every published axiom is `PeqOK` (truthfully compared with a rule of the
fragment by `load_axiom`).
-/
set_option linter.unusedSimpArgs false
set_option linter.unusedVariables false
open Pat PySt

namespace KMod
open NPat

/-! ## quiet patterns of the K fragment -/

mutual
theorem PF.subFree : (p : NPat) → p.PF = true → p.SubFree = true
  | .sym _, _ | .mv _ _ _ _ _ _, _ => rfl
  | .imp l r, h | .app l r, h => by
    simp only [PF, Bool.and_eq_true] at h
    simp [NPat.SubFree, PF.subFree l h.1, PF.subFree r h.2]
  | .inst p m, h => by
    simp only [PF, Bool.and_eq_true] at h
    simp [NPat.SubFree, PF.subFree p h.1.1, PFMap.subFree m h.1.2]
  | .mu _ p, h => by
    simp only [PF, Bool.and_eq_true] at h
    rw [isSV0_eq h.2]; rfl
  | .evar _, h | .svar _, h | .ex _ _, h | .esub _ _ _, h | .ssub _ _ _, h => by simp [PF] at h
theorem PFMap.subFree : (m : List (Nat × NPat)) → PFMap m = true → SubFreeMap m = true
  | [], _ => rfl
  | (_, v) :: r, h => by
    simp only [PFMap, Bool.and_eq_true] at h
    simp [SubFreeMap, PF.subFree v h.1, PFMap.subFree r h.2]
end

theorem PF.qf {p : NPat} (h : p.PF = true) : p.QF = true := SubFree.qf p (PF.subFree p h)

/-! ## the memory -/

/-- every saved pattern is quiet; every published axiom is truthfully compared with a rule of the fragment -/
def MemOK (mem : List TTerm) : Prop :=
  (∀ q, TTerm.pat q ∈ mem → q.QF = true) ∧ (∀ a, TTerm.proved a ∈ mem → PeqOK a)

/-- `top` was pushed; the memory invariant is kept; the symbol table grew -/
structure PushedM (s s' : PySt) (top : List (TTerm × Bool)) : Prop where
  stack : s'.stack = top ++ s.stack
  memory : MemOK s.memory → MemOK s'.memory
  claims : s'.claims = s.claims
  phase : s'.phase = s.phase
  symtab : ∃ e, s'.symtab = s.symtab ++ e

/-- tracker and machine in the proof phase -/
structure PRelM (ρ : Nat → Nat) (s : PySt) (m : St) : Prop where
  phase : s.phase = .proof
  memory : MRel ρ s m
  claims : m.claims = s.claims.map fun c => ren ρ c.expand
  memK : MemOK s.memory
  clShape : ∀ c ∈ s.claims, c.Shape = true

theorem Memoable.qf (cfg : Cfg) : Memoable cfg fun p => p.QF = true where
  imp h := by simpa [QF] using h
  app h := by simpa [QF] using h
  ex h := by simpa [QF] using h
  mu h := by simpa [QF] using h
  esub h := by simp only [QF, Bool.and_eq_true] at h; exact ⟨h.1.2, h.2⟩
  ssub h := by simp only [QF, Bool.and_eq_true] at h; exact ⟨h.1.2, h.2⟩
  inst h := by
    simp only [QF, Bool.and_eq_true] at h
    refine ⟨SubFree.qf _ h.1, fun v hv => ?_⟩
    obtain ⟨kv, hkv, rfl⟩ := List.mem_map.mp hv
    exact SubFree.qf _ ((subFreeMap_iff _).mp h.2 kv hkv)
  hit _ n q p hq hp h := by
    have := NPat.peqF_expand_QF n q p true hq hp h
    simpa using this.symm

/-- **`pattern` compiles, plain or memoising**, on quiet patterns -/
theorem pattern_compilesM (cfg : Cfg) {n k : Nat} (hk : k ≤ n) {s : PySt} {p : NPat} {acc : List Call}
    {s' : PySt} {a' : List Call} (h : patternF cfg k s p acc = some (some (s', a')))
    (hp : p.MOK = true) (hq : p.QF = true) : CompG cfg (fun p => p.QF = true) n s acc s' a' [p] :=
  pattern_compilesG (Memoable.qf cfg) hk h hp hq

/-! ## the whole module -/

/-- the axioms a K module may publish through a memoising serialiser: machine-OK, quiet, and `==` against a rule of
the fragment is truthful -/
def GAxQ (a : NPat) : Prop := a.MOK = true ∧ a.QF = true ∧ PeqOK a

/-- **acceptance of a K-style module, plain or memoising** (any suggestion set): axioms `GAxQ`, claims in the
propositional fragment, one proof `load_axiom` / `dynamic_inst(load_axiom)` per claim.  `ρ` is any naming of the symbols
that names the symbols of the final table by their position. -/
theorem module_acceptedKM (cfg : Cfg) {n : Nat} (M : PModule) (s : PySt) (calls : List Call)
    (hgam : ∀ a ∈ M.gammaAxioms, GAxQ a) (hclm : ∀ a ∈ M.claimsOf, a.PF = true)
    (hpfs : ∀ pf ∈ M.proofsOf, KPf pf) (hlen : M.claimsOf.length = M.proofsOf.length)
    (hex : PModule.executeFull cfg n M = some (some (s, calls)))
    (ρ : Nat → Nat) (hag : Agree ρ s.symtab) :
    s.claims = [] ∧ AllSideK n (PySt.init M.claimsOf) calls ∧
    ∃ g c p, PySt.trackAll n (PySt.init M.claimsOf) calls ([], [], []) = some (some (s, (g, c, p))) ∧
      verify g c p = some (M.gammaAxioms.map (fun a => ren ρ a.expand),
        M.claimsOf.reverse.map (fun a => ren ρ a.expand)) :=
  module_acceptedG (Memoable.qf cfg) (fun n a r ha hr => ha n r hr) M s calls hgam
    (fun a ha => ⟨PF.mok a (hclm a ha), PF.qf (hclm a ha), PF.shape a (hclm a ha)⟩)
    (fun pf hpf => (hpfs pf hpf).pfG fun _ => PF.qf) hlen hex ρ hag

end KMod

namespace KMod
open NPat Kore

/-! ## the module of a K execution trace -/

theorem imports_qf : funcSubstAxiom.QF = true ∧ definednessAxiom.QF = true ∧ fnDef.SubFree = true := by
  decide +kernel

theorem kImports_gaxq : ∀ a ∈ PModule.gammaAxioms.gammaList kImports, GAxQ a := by
  intro a ha
  obtain ⟨h1, h2⟩ := kImports_gax a ha
  rw [kImports_gamma] at ha
  simp only [List.mem_cons, List.not_mem_nil, or_false] at ha
  rcases ha with rfl | rfl
  · exact ⟨h1, imports_qf.1, h2⟩
  · exact ⟨h1, imports_qf.2.1, h2⟩

theorem KAx.gaxq {a : NPat} (h : KAx a) : GAxQ a := by
  obtain ⟨h1, h2⟩ := h.gax
  refine ⟨h1, ?_, h2⟩
  rcases h with h | ⟨v, hv, _, rfl⟩
  · exact PF.qf h
  · simp [QF, imports_qf.2.2, SubFreeMap, PF.subFree v hv]

/-- **acceptance of the module of a trace of the fragment, plain or memoising** (any suggestion set), for every naming
`ρ` that agrees with the final symbol table -/
theorem k_module_memo_core (cfg : Cfg) (sg : Sig) (n0 n : Nat) (init : NPat) (steps : List (NPat × List (Nat × NPat)))
    (st : ExecSt) (subs : List PModule) (s : PySt) (calls : List Call)
    (htrace : traceF sg n0 (initSt init) steps = some (some st)) (hfrag : KSteps steps = true)
    (hsubs : ∀ a ∈ PModule.gammaAxioms.gammaList subs, GAxQ a)
    (hex : PModule.executeFull cfg n (st.module subs) = some (some (s, calls)))
    (ρ : Nat → Nat) (hag : Agree ρ s.symtab) :
    s.claims = [] ∧ AllSideK n (PySt.init st.claims) calls ∧
    ∃ g c p, PySt.trackAll n (PySt.init st.claims) calls ([], [], []) = some (some (s, (g, c, p))) ∧
      verify g c p = some ((st.module subs).gammaAxioms.map (fun a => ren ρ a.expand),
        st.claims.reverse.map (fun a => ren ρ a.expand)) := by
  have hinv := trace_inv sg n0 steps _ st hfrag (kinv_init init) htrace
  refine module_acceptedKM cfg (st.module subs) s calls ?_ hinv.claims hinv.proofs hinv.len hex ρ hag
  intro a ha
  rw [module_gamma] at ha
  rcases List.mem_append.mp ha with ha | ha
  · exact hsubs a ha
  · exact (hinv.axioms a ha).gaxq

end KMod

#print axioms KMod.pattern_compilesM
#print axioms KMod.module_acceptedKM
#print axioms KMod.k_module_memo_core
