import Pi2.XProofTie
/-!
# `exec_proof` (the generated text, `Pi2/Gen/ExecProof.lean`) only looks at its converter through the labels of the proof

Two converters that answer alike for every label of the label list (and resolve alike the metavariables of those labels) give the
same run of `exec_proof`.  An `Axiom` object is read through `.pattern`, `.antecedents` and `len(.metavars) > 0` only.
-/
set_option linter.unusedSimpArgs false
set_option linter.unusedVariables false
open MM PyXProof PySt

namespace XProofCongr

/-- the two `Axiom` objects are the same as far as `exec_proof` can tell -/
def AxRel : Option AxiomRec → Option AxiomRec → Prop
  | none, none => True
  | some a, some b => a.pattern = b.pattern ∧ a.antecedents = b.antecedents ∧ (decide (a.metavars.length > 0) = decide (b.metavars.length > 0))
  | _, _ => False

structure ConvAgree (c1 c2 : Conv) (l : Lbl) : Prop where
  pc : c1.isPatternConstructor l = c2.isPatternConstructor l
  fl : c1.floating l = c2.floating l
  ex : c1.isExportedAxiom l = c2.isExportedAxiom l
  pr : c1.isProofRule l = c2.isProofRule l
  ax : AxRel (c1.axiom? l) (c2.axiom? l)
  mio : c1.metavarsInOrder l = c2.metavarsInOrder l
  rm : ∀ v ∈ c1.metavarsInOrder l, c1.resolveMetavar v = c2.resolveMetavar v

theorem forEach_congr {α σ : Type} (l : List α) (st : σ) (b1 b2 : α → σ → (σ → R) → R) (k : σ → R)
    (h : ∀ a ∈ l, ∀ s kk, b1 a s kk = b2 a s kk) : forEach l st b1 k = forEach l st b2 k := by
  induction l generalizing st k with
  | nil => rfl
  | cons a l ih =>
    simp only [forEach]
    rw [h a (by simp)]
    congr 1
    funext st'
    exact ih st' k (fun a' ha' => h a' (by simp [ha']))

theorem get_delta_congr (c1 c2 : Conv) (x : XSt) (vars : List Nat) (k : Dict → R)
    (h : ∀ v ∈ vars, c1.resolveMetavar v = c2.resolveMetavar v) :
    Gen.XProof.get_delta c1 x vars k = Gen.XProof.get_delta c2 x vars k := by
  unfold Gen.XProof.get_delta
  simp only []
  apply forEach_congr
  intro v hv s kk
  rw [h v hv]

/-- `get_axiom_by_name` on the two converters, continued by functions that read only what `AxRel` compares -/
theorem getAxiom_congr (c1 c2 : Conv) (l : Lbl) (k1 k2 : AxiomRec → R) (hax : AxRel (c1.axiom? l) (c2.axiom? l))
    (hk : ∀ a b : AxiomRec, a.pattern = b.pattern → a.antecedents = b.antecedents →
      decide (a.metavars.length > 0) = decide (b.metavars.length > 0) → k1 a = k2 b) :
    getAxiom c1 l k1 = getAxiom c2 l k2 := by
  unfold getAxiom
  cases h1 : c1.axiom? l <;> cases h2 : c2.axiom? l <;> rw [h1, h2] at hax
  · exact hax.elim
  · exact hax.elim
  · exact hk _ _ hax.1 hax.2.1 hax.2.2

theorem br_pc_congr (c1 c2 : Conv) (cfg : Cfg) (n : Nat) (labels : List Lbl) (off : Nat) (x : XSt) (lemma : Nat) (l : Lbl) (k : XSt → R)
    (h : ConvAgree c1 c2 l) :
    Gen.XProof.br_pattern_constructors c1 cfg n labels off x lemma l k =
      Gen.XProof.br_pattern_constructors c2 cfg n labels off x lemma l k := by
  have hargs : (c1.metavarsInOrder l).map c1.resolveMetavar = (c2.metavarsInOrder l).map c2.resolveMetavar := by
    rw [← h.mio]
    exact List.map_congr_left h.rm
  have hpat : (c1.axiom? l).map (·.pattern) = (c2.axiom? l).map (·.pattern) := by
    have hax := h.ax
    cases h1 : c1.axiom? l <;> cases h2 : c2.axiom? l <;> rw [h1, h2] at hax
    · exact hax.elim
    · exact hax.elim
    · exact congrArg some hax.1
  unfold Gen.XProof.br_pattern_constructors
  simp only [hargs, hpat, ← h.mio]
  congr 2
  refine getAxiom_congr c1 c2 l _ _ h.ax fun a b hp _ hm => ?_
  simp only [hp, hm, get_delta_congr c1 c2 _ _ _ h.rm]

theorem br_fp_congr (c1 c2 : Conv) (cfg : Cfg) (n : Nat) (labels : List Lbl) (off : Nat) (x : XSt) (lemma : Nat) (l : Lbl) (k : XSt → R)
    (h : ConvAgree c1 c2 l) :
    Gen.XProof.br_fp_label_to_pattern c1 cfg n labels off x lemma l k =
      Gen.XProof.br_fp_label_to_pattern c2 cfg n labels off x lemma l k := by
  unfold Gen.XProof.br_fp_label_to_pattern
  simp only [fp0, h.fl]

theorem br_ex_congr (c1 c2 : Conv) (cfg : Cfg) (n : Nat) (labels : List Lbl) (off : Nat) (x : XSt) (lemma : Nat) (l : Lbl) (k : XSt → R)
    (h : ConvAgree c1 c2 l) :
    Gen.XProof.br_exported_axioms c1 cfg n labels off x lemma l k =
      Gen.XProof.br_exported_axioms c2 cfg n labels off x lemma l k := by
  unfold Gen.XProof.br_exported_axioms
  rw [← h.mio]
  refine getAxiom_congr c1 c2 l _ _ h.ax fun a b hp ha hm => ?_
  simp only [hp, ha, hm, antsOf, get_delta_congr c1 c2 _ _ _ h.rm]

theorem get_rule_delta_congr (c1 c2 : Conv) (n : Nat) (x : XSt) (l : Lbl) (schema : NPat) (k : Dict → R) (h : ConvAgree c1 c2 l) :
    Gen.XProof.get_rule_delta c1 n x l schema k = Gen.XProof.get_rule_delta c2 n x l schema k := by
  unfold Gen.XProof.get_rule_delta
  rw [← h.mio]
  refine getAxiom_congr c1 c2 l _ _ h.ax fun a b hp _ _ => ?_
  simp only [hp, get_delta_congr c1 c2 _ _ _ h.rm]

theorem br_pr_congr (c1 c2 : Conv) (cfg : Cfg) (n : Nat) (labels : List Lbl) (off : Nat) (x : XSt) (lemma : Nat) (l : Lbl) (k : XSt → R)
    (h : ConvAgree c1 c2 l) :
    Gen.XProof.br_proof_rules c1 cfg n labels off x lemma l k =
      Gen.XProof.br_proof_rules c2 cfg n labels off x lemma l k := by
  have hr : ∀ (x' : XSt) (schema : NPat) (kk : Dict → R), Gen.XProof.get_rule_delta c1 n x' l schema kk =
      Gen.XProof.get_rule_delta c2 n x' l schema kk := fun x' schema kk => get_rule_delta_congr c1 c2 n x' l schema kk h
  unfold Gen.XProof.br_proof_rules
  simp only [hr]

theorem step_congr (c1 c2 : Conv) (cfg : Cfg) (n : Nat) (labels : List Lbl) (off : Nat) (x : XSt) (lemma : Nat) (k : XSt → R)
    (h : ∀ l ∈ labels, ConvAgree c1 c2 l) :
    Gen.XProof.step c1 cfg n labels off x lemma k = Gen.XProof.step c2 cfg n labels off x lemma k := by
  unfold Gen.XProof.step
  refine ite_congr rfl (fun _ => rfl) fun _ => ?_
  unfold labelsGet
  refine ite_congr rfl (fun _ => rfl) fun _ => ?_
  cases hl : labels[lemma - 1]? with
  | none => rfl
  | some l =>
    have ha := h l (List.mem_of_getElem? hl)
    simp only [ha.pc, ha.fl, ha.ex, ha.pr, fp0, br_pc_congr c1 c2 cfg n labels off x lemma l k ha,
      br_fp_congr c1 c2 cfg n labels off x lemma l k ha, br_ex_congr c1 c2 cfg n labels off x lemma l k ha,
      br_pr_congr c1 c2 cfg n labels off x lemma l k ha]
    rfl

theorem exec_proof_congr (c1 c2 : Conv) (cfg : Cfg) (n : Nat) (labels : List Lbl) (steps : List Nat) (s : PySt) (acc : List Call)
    (h : ∀ l ∈ labels, ConvAgree c1 c2 l) (ht : c1.targetPattern = c2.targetPattern) :
    Gen.XProof.exec_proof c1 cfg n labels steps s acc = Gen.XProof.exec_proof c2 cfg n labels steps s acc := by
  unfold Gen.XProof.exec_proof
  simp only [ht]
  apply forEach_congr
  intro lemma _ x kl
  exact step_congr c1 c2 cfg n labels labels.length x lemma kl h

end XProofCongr

#print axioms XProofCongr.exec_proof_congr
