import Pi2.Taut
/-!
# The tautology prover decides correctly

Stages: `ofForm` (1), `propagNeg` (2), `toCnfF` (3), `toClauses` (4), resolution soundness (5) and
completeness (6, via the abstract completeness theorem for single-clash resolution), `proveTautology`
(7).
-/
set_option linter.unusedSimpArgs false
set_option linter.unusedVariables false

namespace CF

/-! ## 1. `ofForm` -/

/-- only `or` and `var` nodes, any flags -/
def IsOrTree : CF → Bool
  | var _ _ => true
  | or _ l r => l.IsOrTree && r.IsOrTree
  | _ => false

theorem eval_setNeg (b : Bool) (c : CF) (v : Nat → Bool) :
    (c.setNeg b).eval v = xor (xor b c.negated) (c.eval v) := by
  cases c <;> cases b <;> simp [setNeg, eval, negated]

theorem isOrTree_setNeg (b : Bool) (c : CF) : (c.setNeg b).IsOrTree = c.IsOrTree := by
  cases c <;> simp [setNeg, IsOrTree]

theorem isBot_setNeg (b : Bool) (c : CF) : (c.setNeg b).isBot = c.isBot := by
  cases c <;> simp [setNeg, isBot]

theorem isBot_bot (n : Bool) : (bot n).isBot = true := rfl
theorem negated_bot (n : Bool) : (bot n).negated = n := rfl

theorem eq_bot_of_isBot (c : CF) (h : c.isBot = true) : c = bot c.negated := by
  cases c <;> first | rfl | cases h

/-- the implication case of `ofForm` (other than `⊤`), by the flags of the two normal forms -/
theorem ofForm_imp (p0 p1 : Form) (h : ¬(p0 = .bot ∧ p1 = .bot)) :
    ofForm (.imp p0 p1) =
      if (ofForm p1).isBot then
        if (ofForm p1).negated then bot true else (ofForm p0).setNeg (!(ofForm p0).negated)
      else if (ofForm p0).isBot then
        if (ofForm p0).negated then ofForm p1 else bot true
      else or false ((ofForm p0).setNeg (!(ofForm p0).negated)) (ofForm p1) := by
  simp only [ofForm, if_neg h]
  generalize ofForm p1 = c1
  generalize ofForm p0 = c0
  rcases c1 with ⟨_ | _⟩ | _ | _ | _ <;>
    rcases c0 with ⟨_ | _⟩ | ⟨_ | _, _⟩ | ⟨_ | _, _, _⟩ | ⟨_ | _, _, _⟩ <;> rfl

theorem ofForm_spec (f : Form) :
    (∀ v, (CF.ofForm f).eval v = f.eval v) ∧
      ((CF.ofForm f).isBot = true ∨ (CF.ofForm f).IsOrTree = true) := by
  induction f with
  | bot => exact ⟨fun v => rfl, Or.inl rfl⟩
  | var n => exact ⟨fun v => by simp [ofForm, eval, Form.eval], Or.inr rfl⟩
  | imp p0 p1 ih0 ih1 =>
    obtain ⟨e0, s0⟩ := ih0
    obtain ⟨e1, s1⟩ := ih1
    by_cases hb : p0 = .bot ∧ p1 = .bot
    · obtain ⟨rfl, rfl⟩ := hb; exact ⟨fun v => rfl, Or.inl rfl⟩
    · rw [ofForm_imp p0 p1 hb]
      simp only [Form.eval, ← e0, ← e1]
      generalize ofForm p1 = c1 at s1
      generalize ofForm p0 = c0 at s0
      cases h1 : c1.isBot
      · have t1 : c1.IsOrTree = true := by simpa [h1] using s1
        cases h0 : c0.isBot
        · have t0 : c0.IsOrTree = true := by simpa [h0] using s0
          simp [eval, eval_setNeg, IsOrTree, isOrTree_setNeg, t0, t1]
        · obtain ⟨n0, rfl⟩ : ∃ n, c0 = bot n := ⟨_, eq_bot_of_isBot c0 h0⟩
          cases n0 <;> simp [eval, isBot_bot, negated_bot, t1]
      · obtain ⟨n1, rfl⟩ : ∃ n, c1 = bot n := ⟨_, eq_bot_of_isBot c1 h1⟩
        cases n1 <;> simp [eval, isBot_bot, negated_bot, eval_setNeg, isBot_setNeg, isOrTree_setNeg, s0]
theorem ofForm_eval (f : Form) (v : Nat → Bool) : (CF.ofForm f).eval v = f.eval v :=
  (ofForm_spec f).1 v

theorem ofForm_shape (f : Form) :
    (CF.ofForm f).isBot = true ∨ (CF.ofForm f).IsOrTree = true := (ofForm_spec f).2

end CF

namespace CF

/-! ## 2. `propagNeg` -/

/-- only unflagged `and`/`or` nodes and `var` leaves (any flag) -/
def IsNNF : CF → Bool
  | var _ _ => true
  | and n l r => !n && l.IsNNF && r.IsNNF
  | or n l r => !n && l.IsNNF && r.IsNNF
  | bot _ => false

theorem propagNegAux_spec (c : CF) : ∀ flip : Bool, c.IsOrTree = true →
    ∃ r, CF.propagNegAux flip c = some r ∧ (∀ v, r.eval v = xor flip (c.eval v)) ∧
      r.IsNNF = true := by
  induction c with
  | bot n => intro _ h; simp [IsOrTree] at h
  | and n l r _ _ => intro _ h; simp [IsOrTree] at h
  | var n i =>
    intro flip _
    refine ⟨_, rfl, fun v => ?_, rfl⟩
    cases n <;> cases flip <;> cases hv : v i <;> simp [eval, hv]
  | or n l r ihl ihr =>
    intro flip h
    simp only [IsOrTree, Bool.and_eq_true] at h
    simp only [propagNegAux]
    split
    · next hx =>
      obtain ⟨l', hl', el, sl⟩ := ihl true h.1
      obtain ⟨r', hr', er, sr⟩ := ihr true h.2
      refine ⟨and false l' r', by simp [hl', hr'], fun v => ?_, by simp [IsNNF, sl, sr]⟩
      simp only [eval, el v, er v]
      cases n <;> cases flip <;> simp at hx <;> cases eval v l <;> cases eval v r <;> rfl
    · next hx =>
      obtain ⟨l', hl', el, sl⟩ := ihl false h.1
      obtain ⟨r', hr', er, sr⟩ := ihr false h.2
      refine ⟨or false l' r', by simp [hl', hr'], fun v => ?_, by simp [IsNNF, sl, sr]⟩
      simp only [eval, el v, er v]
      cases n <;> cases flip <;> simp at hx <;> cases eval v l <;> cases eval v r <;> rfl

theorem propagNeg_spec (c : CF) : c.IsOrTree = true →
    ∃ r, CF.propagNeg c = some r ∧ (∀ v, r.eval v = c.eval v) ∧ r.IsNNF = true := by
  intro h
  obtain ⟨r, hr, he, hs⟩ := propagNegAux_spec c false h
  exact ⟨r, hr, fun v => by simpa using he v, hs⟩

/-! ## 3. `toCnfF` -/

/-- a tree of unflagged `or`s of `var`s -/
def IsOrClause : CF → Bool
  | var _ _ => true
  | or n l r => !n && l.IsOrClause && r.IsOrClause
  | _ => false

/-- a tree of unflagged `and`s whose leaves are or-clauses -/
def IsCNF : CF → Bool
  | and n l r => !n && l.IsCNF && r.IsCNF
  | var _ _ => true
  | or n l r => !n && l.IsOrClause && r.IsOrClause
  | bot _ => false

theorem isNNF_of_isOrClause (c : CF) (h : c.IsOrClause = true) : c.IsNNF = true := by
  induction c with
  | var n i => rfl
  | or n l r ihl ihr =>
    simp only [IsOrClause, Bool.and_eq_true] at h
    simp [IsNNF, h.1.1, ihl h.1.2, ihr h.2]
  | _ => simp [IsOrClause] at h

theorem isNNF_of_isCNF (c : CF) (h : c.IsCNF = true) : c.IsNNF = true := by
  induction c with
  | var n i => rfl
  | and n l r ihl ihr =>
    simp only [IsCNF, Bool.and_eq_true] at h
    simp [IsNNF, h.1.1, ihl h.1.2, ihr h.2]
  | or n l r _ _ =>
    simp only [IsCNF, Bool.and_eq_true] at h
    simp [IsNNF, h.1.1, isNNF_of_isOrClause l h.1.2, isNNF_of_isOrClause r h.2]
  | bot n => simp [IsCNF] at h

theorem isCNF_of_isOrClause (c : CF) (h : c.IsOrClause = true) : c.IsCNF = true := by
  cases c with
  | var n i => rfl
  | or n l r => simpa [IsCNF, IsOrClause] using h
  | _ => simp [IsOrClause] at h

/-- a CNF that is not an `and` is an or-clause -/
theorem isOrClause_of_isCNF (c : CF) (h : c.IsCNF = true) (hna : ∀ n l r, c ≠ and n l r) :
    c.IsOrClause = true := by
  cases c with
  | var n i => rfl
  | or n l r => simpa [IsCNF, IsOrClause] using h
  | and n l r => exact absurd rfl (hna n l r)
  | bot n => simp [IsCNF] at h

theorem weight_ge_two (c : CF) : 2 ≤ c.weight := by
  induction c with
  | bot n => simp [weight]
  | var n i => simp [weight]
  | and n l r ihl ihr => simp only [weight]; omega
  | or n l r ihl ihr =>
    simp only [weight]
    calc 2 ≤ 2 * 2 := by omega
      _ ≤ l.weight * r.weight := Nat.mul_le_mul ihl ihr

/-- the distribution step of `to_cnf` after the two recursive calls -/
def distr (k : Nat) (l' r' : CF) : Option CF :=
  match l', r' with
  | and _ ll lr, _ => toCnfF k (and false (or false ll r') (or false lr r'))
  | _, and _ rl rr => toCnfF k (and false (or false l' rl) (or false l' rr))
  | _, _ => pure (or false l' r')

theorem toCnfF_or (k : Nat) (n : Bool) (l r : CF) :
    toCnfF (k + 1) (or n l r) =
      (toCnfF k l).bind fun l' => (toCnfF k r).bind fun r' => distr k l' r' := by
  simp only [toCnfF, Option.bind_eq_bind]
  cases toCnfF k l with
  | none => rfl
  | some l' =>
    cases toCnfF k r with
    | none => rfl
    | some r' =>
      simp only [Option.bind_some, distr]
      cases l' <;> cases r' <;> rfl

/-- the distribution step on two CNFs: either it distributes over an `and` on one side — the new term is an NNF of
strictly smaller weight with the same value — or both sides are or-clauses and it returns their `or` -/
theorem distr_spec (k : Nat) (l' r' : CF) (cl : l'.IsCNF = true) (cr : r'.IsCNF = true) :
    (∃ t, distr k l' r' = toCnfF k t ∧ t.IsNNF = true ∧ (∀ v, t.eval v = (l'.eval v || r'.eval v)) ∧
        t.weight + 1 ≤ l'.weight * r'.weight) ∨
      (distr k l' r' = some (or false l' r') ∧ l'.IsOrClause = true ∧ r'.IsOrClause = true) := by
  have h2l := weight_ge_two l'
  have h2r := weight_ge_two r'
  have nl := isNNF_of_isCNF l' cl
  have nr := isNNF_of_isCNF r' cr
  by_cases hl : ∃ n a b, l' = and n a b
  · obtain ⟨n, ll, lr, rfl⟩ := hl
    simp only [IsNNF, Bool.and_eq_true, Bool.not_eq_true'] at nl
    obtain ⟨⟨rfl, nll⟩, nlr⟩ := nl
    refine .inl ⟨and false (or false ll r') (or false lr r'), rfl, by simp [IsNNF, nll, nlr, nr], fun v => ?_, ?_⟩
    · simp only [eval, Bool.false_xor]
      cases eval v ll <;> cases eval v lr <;> cases eval v r' <;> rfl
    · simp only [weight, Nat.add_mul, Nat.one_mul]; omega
  · have hnl : ∀ n a b, l' ≠ and n a b := fun n a b e => hl ⟨n, a, b, e⟩
    by_cases hr : ∃ n a b, r' = and n a b
    · obtain ⟨n, rl, rr, rfl⟩ := hr
      simp only [IsNNF, Bool.and_eq_true, Bool.not_eq_true'] at nr
      obtain ⟨⟨rfl, nrl⟩, nrr⟩ := nr
      refine .inl ⟨and false (or false l' rl) (or false l' rr), ?_, by simp [IsNNF, nl, nrl, nrr], fun v => ?_, ?_⟩
      · cases l' <;> first | rfl | exact absurd rfl (hnl _ _ _)
      · simp only [eval, Bool.false_xor]
        cases eval v l' <;> cases eval v rl <;> cases eval v rr <;> rfl
      · simp only [weight, Nat.mul_add, Nat.mul_one]; omega
    · have hnr : ∀ n a b, r' ≠ and n a b := fun n a b e => hr ⟨n, a, b, e⟩
      refine .inr ⟨?_, isOrClause_of_isCNF _ cl hnl, isOrClause_of_isCNF _ cr hnr⟩
      cases l' <;> cases r' <;> first | rfl | exact absurd rfl (hnl _ _ _) | exact absurd rfl (hnr _ _ _)

/-- the full specification of `toCnfF` with the explicit fuel bound `weight c` -/
theorem toCnfF_full (k : Nat) : ∀ c : CF, c.IsNNF = true →
    (∀ r, CF.toCnfF k c = some r →
      (∀ v, r.eval v = c.eval v) ∧ r.IsCNF = true ∧ r.weight ≤ c.weight) ∧
    (c.weight ≤ k → ∃ r, CF.toCnfF k c = some r) := by
  induction k with
  | zero =>
    intro c _
    refine ⟨fun r h => (nomatch h), fun h => ?_⟩
    have := weight_ge_two c; omega
  | succ k ih =>
    intro c hc
    cases c with
    | bot n => cases hc
    | var n i =>
      refine ⟨fun r h => ?_, fun _ => ⟨_, rfl⟩⟩
      cases h
      exact ⟨fun _ => rfl, rfl, Nat.le_refl _⟩
    | and n l r =>
      simp only [IsNNF, Bool.and_eq_true, Bool.not_eq_true'] at hc
      obtain ⟨⟨rfl, hl⟩, hr⟩ := hc
      obtain ⟨ihlA, ihlB⟩ := ih l hl
      obtain ⟨ihrA, ihrB⟩ := ih r hr
      constructor
      · intro res h
        simp only [toCnfF, Option.bind_eq_bind, Option.bind_eq_some_iff, Option.pure_def,
          Option.some.injEq] at h
        obtain ⟨l', hl', r', hr', rfl⟩ := h
        obtain ⟨el, cl, wl⟩ := ihlA l' hl'
        obtain ⟨er, cr, wr⟩ := ihrA r' hr'
        refine ⟨fun v => by simp [eval, el v, er v], by simp [IsCNF, cl, cr], ?_⟩
        simp only [weight]; omega
      · intro hw
        simp only [weight] at hw
        obtain ⟨l', hl'⟩ := ihlB (by omega)
        obtain ⟨r', hr'⟩ := ihrB (by omega)
        exact ⟨and false l' r', by simp [toCnfF, hl', hr']⟩
    | or n l r =>
      simp only [IsNNF, Bool.and_eq_true, Bool.not_eq_true'] at hc
      obtain ⟨⟨rfl, hl⟩, hr⟩ := hc
      obtain ⟨ihlA, ihlB⟩ := ih l hl
      obtain ⟨ihrA, ihrB⟩ := ih r hr
      have h2l := weight_ge_two l
      have h2r := weight_ge_two r
      rw [toCnfF_or]
      simp only [weight]
      -- what happens after the two recursive calls
      have key : ∀ l' r', toCnfF k l = some l' → toCnfF k r = some r' →
          (∀ res, distr k l' r' = some res →
            (∀ v, res.eval v = (or false l r).eval v) ∧ res.IsCNF = true ∧ res.weight ≤ l.weight * r.weight) ∧
          (l.weight * r.weight ≤ k + 1 → ∃ res, distr k l' r' = some res) := by
        intro l' r' hl' hr'
        obtain ⟨el, cl, wl⟩ := ihlA l' hl'
        obtain ⟨er, cr, wr⟩ := ihrA r' hr'
        have hmul : l'.weight * r'.weight ≤ l.weight * r.weight := Nat.mul_le_mul wl wr
        rcases distr_spec k l' r' cl cr with ⟨t, ht, tn, te, tw⟩ | ⟨hd, ol, or'⟩
        · obtain ⟨ihnA, ihnB⟩ := ih t tn
          rw [ht]
          refine ⟨fun res h => ?_, fun hk => ihnB (by omega)⟩
          obtain ⟨e, c', w⟩ := ihnA res h
          exact ⟨fun v => by simp [eval, e v, te v, el v, er v], c', by omega⟩
        · rw [hd]
          refine ⟨fun res h => ?_, fun _ => ⟨_, rfl⟩⟩
          cases h
          exact ⟨fun v => by simp [eval, el v, er v], by simp [IsCNF, ol, or'], hmul⟩
      constructor
      · intro res h
        simp only [Option.bind_eq_some_iff] at h
        obtain ⟨l', hl', r', hr', h⟩ := h
        exact (key l' r' hl' hr').1 res h
      · intro hw
        have hlk : l.weight ≤ k := by
          have : l.weight * 2 ≤ l.weight * r.weight := Nat.mul_le_mul_left _ h2r
          omega
        have hrk : r.weight ≤ k := by
          have : 2 * r.weight ≤ l.weight * r.weight := Nat.mul_le_mul_right _ h2l
          omega
        obtain ⟨l', hl'⟩ := ihlB hlk
        obtain ⟨r', hr'⟩ := ihrB hrk
        obtain ⟨res, hres⟩ := (key l' r' hl' hr').2 hw
        exact ⟨res, by rw [hl', hr']; exact hres⟩
theorem toCnfF_spec (k : Nat) (c r : CF) : c.IsNNF = true → CF.toCnfF k c = some r →
    (∀ v, r.eval v = c.eval v) ∧ r.IsCNF = true := by
  intro hc h
  obtain ⟨e, s, _⟩ := (toCnfF_full k c hc).1 r h
  exact ⟨e, s⟩

/-- `weight c` fuel suffices -/
theorem toCnfF_weight (c : CF) (k : Nat) : c.IsNNF = true → c.weight ≤ k →
    ∃ r, CF.toCnfF k c = some r ∧ r.weight ≤ c.weight := by
  intro hc hk
  obtain ⟨r, hr⟩ := (toCnfF_full k c hc).2 hk
  exact ⟨r, hr, ((toCnfF_full k c hc).1 r hr).2.2⟩

theorem toCnfF_terminates (c : CF) : c.IsNNF = true → ∃ k r, CF.toCnfF k c = some r := by
  intro hc
  obtain ⟨r, hr, _⟩ := toCnfF_weight c c.weight hc (Nat.le_refl _)
  exact ⟨_, r, hr⟩

end CF

/-! ## 4. clauses -/

namespace Res

def evalLit (v : Nat → Bool) (l : Int) : Bool :=
  if l > 0 then v (l.toNat - 1) else !(v ((-l).toNat - 1))
def evalClause (v : Nat → Bool) (cl : List Int) : Bool := cl.any (evalLit v)
def evalClauses (v : Nat → Bool) (cls : List (List Int)) : Bool := cls.all (evalClause v)

/-- the literal `0` does not name a variable (`to_clauses` never produces it) -/
def NoZero (c : List Int) : Prop := ∀ x ∈ c, x ≠ 0

theorem evalLit_pos (v : Nat → Bool) (i : Nat) : evalLit v ((i : Int) + 1) = v i := by
  have h : ((i : Int) + 1) > 0 := by omega
  have e : ((i : Int) + 1).toNat - 1 = i := by omega
  simp [evalLit, h, e]

theorem evalLit_negv (v : Nat → Bool) (i : Nat) : evalLit v (-((i : Int) + 1)) = !(v i) := by
  have h : ¬ (-((i : Int) + 1)) > 0 := by omega
  have e : (-(-((i : Int) + 1))).toNat - 1 = i := by omega
  simp only [evalLit, h, if_false, e]

theorem evalLit_neg (v : Nat → Bool) (x : Int) (hx : x ≠ 0) : evalLit v (-x) = !(evalLit v x) := by
  unfold evalLit
  by_cases h : x > 0
  · have h' : ¬ (-x > 0) := by omega
    simp only [h, h', if_true, if_false, Int.neg_neg]
  · have h' : -x > 0 := by omega
    simp only [h, h', if_true, if_false, Int.neg_neg, Bool.not_not]

end Res

namespace CF
open Res

theorem toClauses_orClause (c : CF) : c.IsOrClause = true →
    ∃ x, CF.toClauses c = some [x] ∧ (∀ v, evalClause v x = c.eval v) ∧ x ≠ [] ∧ NoZero x := by
  induction c with
  | bot n => intro h; simp [IsOrClause] at h
  | and n l r _ _ => intro h; simp [IsOrClause] at h
  | var n i =>
    intro _
    refine ⟨_, rfl, fun v => ?_, by simp, ?_⟩
    · cases n
      · simp [evalClause, evalLit_pos, eval]
      · simp [evalClause, evalLit_negv, eval]
    · intro x hx
      cases n <;> simp at hx <;> omega
  | or n l r ihl ihr =>
    intro h
    simp only [IsOrClause, Bool.and_eq_true, Bool.not_eq_true'] at h
    obtain ⟨⟨hn, hl⟩, hr⟩ := h
    subst hn
    obtain ⟨x, hx, ex, nx, zx⟩ := ihl hl
    obtain ⟨y, hy, ey, ny, zy⟩ := ihr hr
    refine ⟨x ++ y, by simp [toClauses, hx, hy], fun v => ?_, by simp [nx], ?_⟩
    · simp [evalClause, eval, List.any_append] at ex ey ⊢
      rw [← ex v, ← ey v]
    · intro z hz
      rcases List.mem_append.mp hz with hz | hz
      · exact zx z hz
      · exact zy z hz

theorem toClauses_spec (c : CF) : c.IsCNF = true →
    ∃ cls, CF.toClauses c = some cls ∧ (∀ v, Res.evalClauses v cls = c.eval v) ∧
      (∀ cl ∈ cls, cl ≠ []) ∧ (∀ cl ∈ cls, NoZero cl) := by
  induction c with
  | bot n => intro h; simp [IsCNF] at h
  | var n i =>
    intro _
    obtain ⟨x, hx, ex, nx, zx⟩ := toClauses_orClause (var n i) rfl
    exact ⟨[x], hx, fun v => by simp [evalClauses, ex v], by simp [nx], by simpa using zx⟩
  | or n l r _ _ =>
    intro h
    obtain ⟨x, hx, ex, nx, zx⟩ := toClauses_orClause (or n l r) (by simpa [IsCNF, IsOrClause] using h)
    exact ⟨[x], hx, fun v => by simp [evalClauses, ex v], by simp [nx], by simpa using zx⟩
  | and n l r ihl ihr =>
    intro h
    simp only [IsCNF, Bool.and_eq_true, Bool.not_eq_true'] at h
    obtain ⟨⟨hn, hl⟩, hr⟩ := h
    subst hn
    obtain ⟨a, ha, ea, na, za⟩ := ihl hl
    obtain ⟨b, hb, eb, nb, zb⟩ := ihr hr
    refine ⟨a ++ b, by simp [toClauses, ha, hb], fun v => ?_, ?_, ?_⟩
    · simp [evalClauses, eval, List.all_append] at ea eb ⊢
      rw [← ea v, ← eb v]
    · intro cl hcl
      rcases List.mem_append.mp hcl with h | h
      · exact na cl h
      · exact nb cl h
    · intro cl hcl
      rcases List.mem_append.mp hcl with h | h
      · exact za cl h
      · exact zb cl h

end CF

/-! ## 5. resolution: soundness -/

namespace Res

theorem mem_insertSorted (x y : Int) (l : List Int) :
    y ∈ insertSorted x l ↔ y = x ∨ y ∈ l := by
  induction l with
  | nil => simp [insertSorted]
  | cons z r ih =>
    simp only [insertSorted]
    split
    · simp
    · split
      · next h => subst h; simp
      · simp only [List.mem_cons, ih]
        constructor
        · rintro (h | h | h)
          · exact Or.inr (Or.inl h)
          · exact Or.inl h
          · exact Or.inr (Or.inr h)
        · rintro (h | h | h)
          · exact Or.inr (Or.inl h)
          · exact Or.inl h
          · exact Or.inr (Or.inr h)

theorem mem_canon (y : Int) (c : List Int) : y ∈ canon c ↔ y ∈ c := by
  induction c with
  | nil => simp [canon]
  | cons x r ih =>
    have : canon (x :: r) = insertSorted x (canon r) := rfl
    rw [this, mem_insertSorted, ih]; simp

theorem evalClause_true_iff (v : Nat → Bool) (c : List Int) :
    evalClause v c = true ↔ ∃ x ∈ c, evalLit v x = true := by
  simp [evalClause, List.any_eq_true]

theorem evalClause_congr (v : Nat → Bool) (a b : List Int) (h : ∀ x, x ∈ a ↔ x ∈ b) :
    evalClause v a = evalClause v b := by
  rw [Bool.eq_iff_iff, evalClause_true_iff, evalClause_true_iff]
  constructor
  · rintro ⟨x, hx, e⟩; exact ⟨x, (h x).mp hx, e⟩
  · rintro ⟨x, hx, e⟩; exact ⟨x, (h x).mpr hx, e⟩

theorem evalClause_canon (v : Nat → Bool) (c : List Int) :
    evalClause v (canon c) = evalClause v c :=
  evalClause_congr v _ _ (fun x => mem_canon x c)

theorem trivial_iff (c : List Int) : trivial c = true ↔ ∃ x ∈ c, -x ∈ c := by
  simp [trivial, List.any_eq_true]

theorem noZero_of_nontrivial (c : List Int) (h : trivial c = false) : NoZero c := by
  intro x hx e
  subst e
  have : trivial c = true := (trivial_iff c).mpr ⟨0, hx, by simpa using hx⟩
  rw [h] at this; cases this

theorem trivial_valid (c : List Int) (hz : NoZero c) (h : trivial c = true) (v : Nat → Bool) :
    evalClause v c = true := by
  obtain ⟨x, hx, hnx⟩ := (trivial_iff c).mp h
  rw [evalClause_true_iff]
  cases e : evalLit v x with
  | true => exact ⟨x, hx, e⟩
  | false => exact ⟨-x, hnx, by rw [evalLit_neg v x (hz x hx), e]; rfl⟩

theorem resolvable_inv (c1 c2 : List Int) (r : Int) (res : List Int)
    (h : resolvable c1 c2 = some (r, res)) :
    c2.filter (fun y => c1.contains (-y)) = [r] ∧
      res = canon ((c1.filter (· ≠ -r)) ++ (c2.filter (· ≠ r))) := by
  unfold resolvable at h
  split at h
  · next r' heq =>
    simp only [Option.some.injEq, Prod.mk.injEq] at h
    obtain ⟨rfl, rfl⟩ := h
    exact ⟨heq, rfl⟩
  · simp at h

theorem resolvable_clash (c1 c2 : List Int) (r : Int) (res : List Int)
    (h : resolvable c1 c2 = some (r, res)) :
    r ∈ c2 ∧ -r ∈ c1 ∧ (∀ y ∈ c2, -y ∈ c1 → y = r) ∧
      (∀ x, x ∈ res ↔ (x ∈ c1 ∧ x ≠ -r) ∨ (x ∈ c2 ∧ x ≠ r)) := by
  obtain ⟨hf, rfl⟩ := resolvable_inv c1 c2 r res h
  have hmem : ∀ y, y ∈ c2.filter (fun y => c1.contains (-y)) ↔ y = r := by
    intro y; rw [hf]; simp
  have hr := (hmem r).mpr rfl
  simp only [List.mem_filter, List.contains_eq_mem, decide_eq_true_eq] at hr hmem
  refine ⟨hr.1, hr.2, fun y hy hny => (hmem y).mp ⟨hy, hny⟩, ?_⟩
  intro x
  simp [mem_canon, List.mem_append, List.mem_filter]

theorem resolvable_sound (c1 c2 : List Int) (r : Int) (res : List Int) (v : Nat → Bool)
    (hz : NoZero c2) (h : resolvable c1 c2 = some (r, res))
    (h1 : evalClause v c1 = true) (h2 : evalClause v c2 = true) : evalClause v res = true := by
  obtain ⟨hr2, hr1, _, hres⟩ := resolvable_clash c1 c2 r res h
  rw [evalClause_true_iff] at h1 h2 ⊢
  cases e : evalLit v r with
  | true =>
    obtain ⟨x, hx, ex⟩ := h1
    refine ⟨x, (hres x).mpr (Or.inl ⟨hx, ?_⟩), ex⟩
    intro hxr; subst hxr
    rw [evalLit_neg v r (hz r hr2), e] at ex; cases ex
  | false =>
    obtain ⟨y, hy, ey⟩ := h2
    refine ⟨y, (hres y).mpr (Or.inr ⟨hy, ?_⟩), ey⟩
    intro hyr; subst hyr
    rw [e] at ey; cases ey

theorem resolvent_noZero (c1 c2 : List Int) (r : Int) (res : List Int)
    (h : resolvable c1 c2 = some (r, res)) (z1 : NoZero c1) (z2 : NoZero c2) : NoZero res := by
  obtain ⟨_, _, _, hres⟩ := resolvable_clash c1 c2 r res h
  intro x hx
  rcases (hres x).mp hx with ⟨h, _⟩ | ⟨h, _⟩
  · exact z1 x h
  · exact z2 x h

theorem loop_sound (fuel : Nat) : ∀ (l : List (List Int)) (i j : Nat),
    (∀ c ∈ l, NoZero c) → Res.loop fuel l i j = some true →
    ¬ ∃ v, ∀ c ∈ l, evalClause v c = true := by
  induction fuel with
  | zero => intro l i j _ h; simp [loop] at h
  | succ fuel ih =>
    intro l i j hz h
    simp only [loop] at h
    split at h
    · simp at h
    · next cl1 h1 =>
      split at h
      · exact ih l (i + 1) 0 hz h
      · split at h
        · exact ih l (i + 1) 0 hz h
        · next cl2 h2 =>
          have m1 : cl1 ∈ l := List.mem_of_getElem? h1
          have m2 : cl2 ∈ l := List.mem_of_getElem? h2
          split at h
          · exact ih l i (j + 1) hz h
          · next r res hres =>
            split at h
            · exact ih l i (j + 1) hz h
            · split at h
              · next hemp =>
                rintro ⟨v, hv⟩
                have := resolvable_sound cl1 cl2 r res v (hz cl2 m2) hres (hv cl1 m1) (hv cl2 m2)
                have he : res = [] := by simpa using hemp
                subst he
                simp [evalClause] at this
              · have hz' : ∀ c ∈ l ++ [res], NoZero c := by
                  intro c hc
                  rcases List.mem_append.mp hc with hc | hc
                  · exact hz c hc
                  · simp at hc; subst hc
                    exact resolvent_noZero cl1 cl2 r _ hres (hz cl1 m1) (hz cl2 m2)
                have := ih _ i (j + 1) hz' h
                rintro ⟨v, hv⟩
                apply this
                refine ⟨v, fun c hc => ?_⟩
                rcases List.mem_append.mp hc with hc | hc
                · exact hv c hc
                · simp at hc; subst hc
                  exact resolvable_sound cl1 cl2 r _ v (hz cl2 m2) hres (hv cl1 m1) (hv cl2 m2)

/-! ### the initial list -/

theorem mem_initial_aux (xs : List (List Int)) : ∀ (acc : List (List Int)) (c : List Int),
    c ∈ xs.foldl (fun acc c => if trivial c || acc.contains c then acc else acc ++ [c]) acc ↔
      c ∈ acc ∨ (c ∈ xs ∧ trivial c = false) := by
  induction xs with
  | nil => intro acc c; simp
  | cons x xs ih =>
    intro acc c
    simp only [List.foldl_cons, ih]
    by_cases ht : trivial x = true
    · simp only [ht, Bool.true_or, if_true, List.mem_cons]
      constructor
      · rintro (h | ⟨h, h'⟩)
        · exact Or.inl h
        · exact Or.inr ⟨Or.inr h, h'⟩
      · rintro (h | ⟨h | h, h'⟩)
        · exact Or.inl h
        · subst h; rw [ht] at h'; cases h'
        · exact Or.inr ⟨h, h'⟩
    · have ht' : trivial x = false := by simpa using ht
      by_cases hc : acc.contains x = true
      · simp only [ht', hc, Bool.false_or, if_true, List.mem_cons]
        constructor
        · rintro (h | ⟨h, h'⟩)
          · exact Or.inl h
          · exact Or.inr ⟨Or.inr h, h'⟩
        · rintro (h | ⟨h | h, h'⟩)
          · exact Or.inl h
          · subst h; exact Or.inl (by simpa using hc)
          · exact Or.inr ⟨h, h'⟩
      · have hc' : acc.contains x = false := by simpa using hc
        simp only [ht', hc', Bool.false_or, Bool.false_eq_true, if_false, List.mem_append,
          List.mem_singleton, List.mem_cons, List.not_mem_nil, or_false]
        constructor
        · rintro ((h | h) | ⟨h, h'⟩)
          · exact Or.inl h
          · subst h; exact Or.inr ⟨Or.inl rfl, ht'⟩
          · exact Or.inr ⟨Or.inr h, h'⟩
        · rintro (h | ⟨h | h, h'⟩)
          · exact Or.inl (Or.inl h)
          · exact Or.inl (Or.inr h)
          · exact Or.inr ⟨h, h'⟩

theorem mem_initial (cls : List (List Int)) (c : List Int) :
    c ∈ initial cls ↔ (∃ cl ∈ cls, c = canon cl) ∧ trivial c = false := by
  unfold initial
  rw [mem_initial_aux]
  simp only [List.not_mem_nil, false_or, List.mem_map]
  constructor
  · rintro ⟨⟨cl, hcl, rfl⟩, ht⟩; exact ⟨⟨cl, hcl, rfl⟩, ht⟩
  · rintro ⟨⟨cl, hcl, rfl⟩, ht⟩; exact ⟨⟨cl, hcl, rfl⟩, ht⟩

theorem start_sound_false (fuel : Nat) (cls : List (List Int)) :
    Res.start fuel cls = some (some false) → ¬ ∃ v, evalClauses v cls = true := by
  intro h
  unfold start at h
  split at h
  · simp at h
  · simp only [] at h
    split at h
    · simp at h
    · split at h
      · simp at h
      · next hl =>
        have hz : ∀ c ∈ initial cls, NoZero c := fun c hc =>
          noZero_of_nontrivial c ((mem_initial cls c).mp hc).2
        have := loop_sound fuel (initial cls) 0 0 hz hl
        rintro ⟨v, hv⟩
        apply this
        refine ⟨v, fun c hc => ?_⟩
        obtain ⟨⟨cl, hcl, rfl⟩, _⟩ := (mem_initial cls c).mp hc
        rw [evalClause_canon]
        simp only [evalClauses, List.all_eq_true] at hv
        exact hv cl hcl
      · simp at h

theorem start_sound_true (fuel : Nat) (cls : List (List Int)) (hz : ∀ cl ∈ cls, NoZero cl) :
    Res.start fuel cls = some (some true) → ∀ v, evalClauses v cls = true := by
  intro h v
  simp only [evalClauses, List.all_eq_true]
  intro cl hcl
  unfold start at h
  split at h
  · next he =>
    have : cls = [] := by simpa using he
    subst this; simp at hcl
  · simp only [] at h
    split at h
    · next he =>
      have hnil : initial cls = [] := by simpa using he
      rw [← evalClause_canon]
      apply trivial_valid _ (fun x hx => hz cl hcl x ((mem_canon x cl).mp hx))
      cases ht : trivial (canon cl) with
      | true => rfl
      | false =>
        have : canon cl ∈ initial cls := (mem_initial cls _).mpr ⟨⟨cl, hcl, rfl⟩, ht⟩
        rw [hnil] at this; cases this
    · split at h <;> simp at h

end Res

/-! ## the abstract completeness theorem for single-clash resolution (from `proto/C09Res.lean`) -/

namespace AbsRes

structure Lit where
  atom : Nat
  pos : Bool
deriving DecidableEq

def Lit.neg (l : Lit) : Lit := ⟨l.atom, !l.pos⟩

@[simp] theorem Lit.neg_neg (l : Lit) : l.neg.neg = l := by cases l; simp [Lit.neg]
@[simp] theorem Lit.neg_atom (l : Lit) : l.neg.atom = l.atom := rfl
theorem Lit.neg_ne (l : Lit) : l.neg ≠ l := by cases l; simp [Lit.neg]

abbrev Clause := Lit → Prop
abbrev ClauseSet := Clause → Prop

def emptyC : Clause := fun _ => False
/-- `resolvable` finds exactly one clash: q ∈ C₂, ¬q ∈ C₁, and no other such literal -/
def Clash (C₁ C₂ : Clause) (q : Lit) : Prop := C₂ q ∧ C₁ q.neg ∧ ∀ l, C₂ l → C₁ l.neg → l = q
def Res (C₁ C₂ : Clause) (q : Lit) : Clause := fun l => (C₁ l ∧ l ≠ q.neg) ∨ (C₂ l ∧ l ≠ q)
def Closed (S : ClauseSet) : Prop := ∀ C₁ C₂ q, S C₁ → S C₂ → Clash C₁ C₂ q → S (Res C₁ C₂ q)
def NonTaut (C : Clause) : Prop := ∀ l, C l → ¬ C l.neg
def Sat (v : Nat → Bool) (C : Clause) : Prop := ∃ l, C l ∧ v l.atom = l.pos

/-- remove one literal -/
def del (C : Clause) (k : Lit) : Clause := fun l => C l ∧ l ≠ k

/-- clauses of S not containing `k.neg`, with `k` removed (the branch "k is false") -/
def branch (S : ClauseSet) (k : Lit) : ClauseSet := fun D => ∃ C, S C ∧ ¬ C k.neg ∧ D = del C k

theorem clause_ext {C D : Clause} (h : ∀ l, C l ↔ D l) : C = D := funext fun l => propext (h l)

theorem branch_closed (S : ClauseSet) (k : Lit) (hS : Closed S) : Closed (branch S k) := by
  intro D₁ D₂ q ⟨C₁, hC₁, hn₁, e₁⟩ ⟨C₂, hC₂, hn₂, e₂⟩ hcl
  subst e₁; subst e₂
  obtain ⟨hq2, hq1, huniq⟩ := hcl
  -- q ≠ k, q.neg ≠ k
  have hqk : q ≠ k := hq2.2
  have hqnk : q.neg ≠ k := hq1.2
  have hclash : Clash C₁ C₂ q := by
    refine ⟨hq2.1, hq1.1, ?_⟩
    intro l hl2 hl1
    by_cases h1 : l = k
    · subst h1; exact absurd hl1 hn₁
    · by_cases h2 : l.neg = k
      · -- then l = k.neg ∈ C₂, contradiction with hn₂
        have : l = k.neg := by rw [← h2]; simp
        subst this; exact absurd hl2 hn₂
      · exact huniq l ⟨hl2, h1⟩ ⟨hl1, h2⟩
  refine ⟨Res C₁ C₂ q, hS C₁ C₂ q hC₁ hC₂ hclash, ?_, ?_⟩
  · intro h
    rcases h with ⟨h, _⟩ | ⟨h, _⟩
    · exact hn₁ h
    · exact hn₂ h
  · apply clause_ext; intro l
    simp only [Res, del]
    constructor
    · rintro (⟨⟨h1, h2⟩, h3⟩ | ⟨⟨h1, h2⟩, h3⟩)
      · exact ⟨Or.inl ⟨h1, h3⟩, h2⟩
      · exact ⟨Or.inr ⟨h1, h3⟩, h2⟩
    · rintro ⟨(⟨h1, h3⟩ | ⟨h1, h3⟩), h2⟩
      · exact Or.inl ⟨⟨h1, h2⟩, h3⟩
      · exact Or.inr ⟨⟨h1, h2⟩, h3⟩

theorem complete : ∀ (As : List Nat) (S : ClauseSet),
    (∀ C, S C → ∀ l, C l → l.atom ∈ As) → (∀ C, S C → NonTaut C) → Closed S → ¬ S emptyC →
    ∃ v : Nat → Bool, ∀ C, S C → Sat v C := by
  intro As
  induction As with
  | nil =>
    intro S hat _ _ hne
    refine ⟨fun _ => true, ?_⟩
    intro C hC
    have : C = emptyC := clause_ext fun l => ⟨fun h => by simpa using hat C hC l h, fun h => h.elim⟩
    exact absurd (this ▸ hC) hne
  | cons p As ih =>
    intro S hat hnt hcl hne
    let kp : Lit := ⟨p, true⟩
    let kn : Lit := ⟨p, false⟩
    have hkpn : kp.neg = kn := rfl
    have hknn : kn.neg = kp := rfl
    -- generic facts about a branch on literal k with atom p
    have atoms : ∀ k : Lit, k.atom = p → ∀ D, branch S k D → ∀ l, D l → l.atom ∈ As := by
      intro k hk D ⟨C, hC, hn, e⟩ l hl
      subst e
      have hmem := hat C hC l hl.1
      simp only [List.mem_cons] at hmem
      rcases hmem with h | h
      · exfalso
        -- l has atom p, so l = k or l = k.neg
        have : l = k ∨ l = k.neg := by
          cases l with | mk a b => cases k with | mk a' b' =>
          simp only [Lit.neg] at *
          subst h; subst hk
          cases b <;> cases b' <;> simp
        rcases this with h' | h'
        · exact hl.2 h'
        · subst h'; exact hn hl.1
      · exact h
    have nontaut : ∀ k : Lit, ∀ D, branch S k D → NonTaut D := by
      intro k D ⟨C, hC, hn, e⟩ l hl hl'
      subst e; exact hnt C hC l hl.1 hl'.1
    -- extend a model of a branch
    have extend : ∀ k : Lit, k.atom = p → ¬ branch S k emptyC → ∃ v : Nat → Bool, ∀ C, S C → Sat v C := by
      intro k hk hne'
      obtain ⟨v, hv⟩ := ih (branch S k) (atoms k hk) (nontaut k) (branch_closed S k hcl) hne'
      -- make k false, i.e. k.neg true
      refine ⟨fun a => if a = p then !k.pos else v a, ?_⟩
      intro C hC
      by_cases hn : C k.neg
      · exact ⟨k.neg, hn, by simp [hk, Lit.neg]⟩
      · obtain ⟨l, hl, hvl⟩ := hv (del C k) ⟨C, hC, hn, rfl⟩
        have hla : l.atom ∈ As := atoms k hk _ ⟨C, hC, hn, rfl⟩ l hl
        refine ⟨l, hl.1, ?_⟩
        by_cases hlp : l.atom = p
        · -- l has atom p but is in del C k and C has no k.neg: impossible
          exfalso
          have : l = k ∨ l = k.neg := by
            cases l with | mk a b => cases k with | mk a' b' =>
            simp only [Lit.neg] at *
            subst hlp; subst hk
            cases b <;> cases b' <;> simp
          rcases this with h' | h'
          · exact hl.2 h'
          · subst h'; exact hn hl.1
        · simp [hlp, hvl]
    by_cases h1 : branch S kp emptyC
    · by_cases h2 : branch S kn emptyC
      · -- both branches contain the empty clause: {p} and {¬p} are in S, resolve to empty
        exfalso
        obtain ⟨C₁, hC₁, hn₁, e₁⟩ := h1
        obtain ⟨C₂, hC₂, hn₂, e₂⟩ := h2
        have hC₁only : ∀ l, C₁ l → l = kp := by
          intro l hl; apply Classical.byContradiction; intro hne'
          have : del C₁ kp l := ⟨hl, hne'⟩
          rw [← e₁] at this; exact this
        have hC₂only : ∀ l, C₂ l → l = kn := by
          intro l hl; apply Classical.byContradiction; intro hne'
          have : del C₂ kn l := ⟨hl, hne'⟩
          rw [← e₂] at this; exact this
        have hC₁kp : C₁ kp := by
          apply Classical.byContradiction; intro hno
          have : C₁ = emptyC := clause_ext fun l => ⟨fun h => hno (hC₁only l h ▸ h), fun h => h.elim⟩
          exact hne (this ▸ hC₁)
        have hC₂kn : C₂ kn := by
          apply Classical.byContradiction; intro hno
          have : C₂ = emptyC := clause_ext fun l => ⟨fun h => hno (hC₂only l h ▸ h), fun h => h.elim⟩
          exact hne (this ▸ hC₂)
        -- clash: q = kn ∈ C₂, q.neg = kp ∈ C₁
        have hclash : Clash C₁ C₂ kn := ⟨hC₂kn, hC₁kp, fun l hl _ => hC₂only l hl⟩
        have hres := hcl C₁ C₂ kn hC₁ hC₂ hclash
        have : Res C₁ C₂ kn = emptyC := by
          apply clause_ext; intro l
          simp only [Res, emptyC]
          constructor
          · rintro (⟨h, hne'⟩ | ⟨h, hne'⟩)
            · exact hne' (hC₁only l h)
            · exact hne' (hC₂only l h)
          · exact fun h => h.elim
        exact hne (this ▸ hres)
      · exact extend kn rfl h2
    · exact extend kp rfl h1


end AbsRes

/-! ## 6. resolution: completeness -/

namespace Res

/-! ### sorted duplicate-free lists -/

theorem insertSorted_sorted (x : Int) (l : List Int) (h : l.Pairwise (· < ·)) :
    (insertSorted x l).Pairwise (· < ·) := by
  induction l with
  | nil => simp [insertSorted]
  | cons y r ih =>
    obtain ⟨hy, hr⟩ := List.pairwise_cons.mp h
    simp only [insertSorted]
    split
    · next hxy =>
      refine List.pairwise_cons.mpr ⟨?_, h⟩
      intro z hz
      rcases List.mem_cons.mp hz with rfl | hz
      · exact hxy
      · exact Int.lt_trans hxy (hy z hz)
    · split
      · exact h
      · next h1 h2 =>
        refine List.pairwise_cons.mpr ⟨?_, ih hr⟩
        intro z hz
        rcases (mem_insertSorted x z r).mp hz with rfl | hz
        · omega
        · exact hy z hz

theorem canon_sorted (c : List Int) : (canon c).Pairwise (· < ·) := by
  induction c with
  | nil => simp [canon]
  | cons x r ih =>
    have : canon (x :: r) = insertSorted x (canon r) := rfl
    rw [this]; exact insertSorted_sorted x _ ih

theorem canon_nodup (c : List Int) : (canon c).Nodup := by
  rw [List.nodup_iff_pairwise_ne]
  exact (canon_sorted c).imp (fun h => by omega)

theorem filter_singleton {α} (p : α → Bool) (l : List α) (x : α) (hnd : l.Nodup) (hx : x ∈ l)
    (hp : p x = true) (huniq : ∀ y ∈ l, p y = true → y = x) : l.filter p = [x] := by
  induction l with
  | nil => simp at hx
  | cons a r ih =>
    obtain ⟨har, hr⟩ := List.nodup_cons.mp hnd
    rcases List.mem_cons.mp hx with rfl | hxr
    · have : r.filter p = [] := by
        rw [List.filter_eq_nil_iff]
        intro y hy hpy
        have := huniq y (List.mem_cons_of_mem _ hy) hpy
        subst this; exact har hy
      simp [List.filter_cons, hp, this]
    · have hpa : p a = false := by
        cases h : p a with
        | false => rfl
        | true =>
          have := huniq a (by simp) h
          subst this; exact absurd hxr har
      simp only [List.filter_cons, hpa, Bool.false_eq_true, if_false]
      exact ih hr hxr (fun y hy => huniq y (List.mem_cons_of_mem _ hy))

/-- a unique clash makes the pair resolvable -/
theorem resolvable_of_clash (c1 c2 : List Int) (r : Int) (hnd : c2.Nodup) (h2 : r ∈ c2)
    (h1 : -r ∈ c1) (huniq : ∀ y ∈ c2, -y ∈ c1 → y = r) :
    ∃ res, resolvable c1 c2 = some (r, res) := by
  have := filter_singleton (fun y => c1.contains (-y)) c2 r hnd h2 (by simpa using h1)
    (fun y hy hp => huniq y hy (by simpa using hp))
  refine ⟨canon ((c1.filter (· ≠ -r)) ++ (c2.filter (· ≠ r))), ?_⟩
  unfold resolvable
  rw [this]

theorem resolvent_nontrivial (c1 c2 : List Int) (r : Int) (res : List Int)
    (h : resolvable c1 c2 = some (r, res)) (t1 : trivial c1 = false) (t2 : trivial c2 = false) :
    trivial res = false := by
  obtain ⟨hr2, hr1, huniq, hres⟩ := resolvable_clash c1 c2 r res h
  cases ht : trivial res with
  | false => rfl
  | true =>
    exfalso
    obtain ⟨x, hx, hnx⟩ := (trivial_iff res).mp ht
    have n1 : ¬ ∃ x ∈ c1, -x ∈ c1 := by
      intro hh; have := (trivial_iff c1).mpr hh; rw [t1] at this; cases this
    have n2 : ¬ ∃ x ∈ c2, -x ∈ c2 := by
      intro hh; have := (trivial_iff c2).mpr hh; rw [t2] at this; cases this
    rcases (hres x).mp hx with ⟨hx1, hxr⟩ | ⟨hx2, hxr⟩
    · rcases (hres (-x)).mp hnx with ⟨hn1, _⟩ | ⟨hn2, hnr⟩
      · exact n1 ⟨x, hx1, hn1⟩
      · have := huniq (-x) hn2 (by simpa using hx1)
        exact hnr this
    · rcases (hres (-x)).mp hnx with ⟨hn1, hnr⟩ | ⟨hn2, _⟩
      · have := huniq x hx2 hn1
        exact hxr this
      · exact n2 ⟨x, hx2, hn2⟩

/-! ### the loop invariant -/

/-- what holds of every clause in the list -/
def Good (l : List (List Int)) : Prop := ∀ c ∈ l, c ≠ [] ∧ trivial c = false ∧ c.Nodup

/-- the pair `(a, b)` has been processed: its resolvent, if any, is in the list -/
def Done (l : List (List Int)) (a b : Nat) : Prop :=
  ∀ c1 c2 r res, l[a]? = some c1 → l[b]? = some c2 → resolvable c1 c2 = some (r, res) → res ∈ l

def Inv (l : List (List Int)) (i j : Nat) : Prop :=
  i ≤ l.length ∧ (∀ a b, a < i → b < a → Done l a b) ∧ (∀ b, b < j → b < i → Done l i b)

theorem done_mono (l : List (List Int)) (x : List Int) (a b : Nat) (ha : a < l.length)
    (hb : b < l.length) (h : Done l a b) : Done (l ++ [x]) a b := by
  intro c1 c2 r res h1 h2 hr
  rw [List.getElem?_append_left ha] at h1
  rw [List.getElem?_append_left hb] at h2
  exact List.mem_append_left _ (h c1 c2 r res h1 h2 hr)

theorem inv_next (l : List (List Int)) (i j : Nat) (cl1 : List Int) (h1 : l[i]? = some cl1)
    (hinv : Inv l i j) (hall : ∀ b, b < i → Done l i b) : Inv l (i + 1) 0 := by
  obtain ⟨hi, hA, _⟩ := hinv
  have hil : i < l.length := by
    rcases Nat.lt_or_ge i l.length with h | h
    · exact h
    · rw [List.getElem?_eq_none h] at h1; cases h1
  refine ⟨hil, ?_, fun b hb => by omega⟩
  intro a b ha hb
  by_cases hai : a < i
  · exact hA a b hai hb
  · have : a = i := by omega
    subst this
    exact hall b hb

theorem loop_closed (fuel : Nat) : ∀ (l : List (List Int)) (i j : Nat),
    Good l → Inv l i j → loop fuel l i j = some false →
    ∃ l', (∀ c ∈ l, c ∈ l') ∧ Good l' ∧ ∀ a b, b < a → Done l' a b := by
  induction fuel with
  | zero => intro l i j _ _ h; simp [loop] at h
  | succ fuel ih =>
    intro l i j hg hinv h
    simp only [loop] at h
    split at h
    · next hnone =>
      refine ⟨l, fun c hc => hc, hg, ?_⟩
      intro a b hb
      obtain ⟨hi, hA, _⟩ := hinv
      by_cases hai : a < i
      · exact hA a b hai hb
      · intro c1 c2 r res h1 _ _
        have hlen : l.length ≤ i := by
          rcases Nat.lt_or_ge i l.length with h' | h'
          · rw [List.getElem?_eq_getElem h'] at hnone; cases hnone
          · exact h'
        rw [List.getElem?_eq_none (by omega)] at h1; cases h1
    · next cl1 h1 =>
      split at h
      · next hji =>
        exact ih l (i + 1) 0 hg (inv_next l i j cl1 h1 hinv
          (fun b hb => hinv.2.2 b (by omega) hb)) h
      · next hji =>
        split at h
        · next h2 =>
          refine ih l (i + 1) 0 hg (inv_next l i j cl1 h1 hinv ?_) h
          intro b hb
          by_cases hbj : b < j
          · exact hinv.2.2 b hbj hb
          · intro c1 c2 r res _ h2' _
            have hlen : l.length ≤ j := by
              rcases Nat.lt_or_ge j l.length with h' | h'
              · rw [List.getElem?_eq_getElem h'] at h2; cases h2
              · exact h'
            rw [List.getElem?_eq_none (by omega)] at h2'; cases h2'
        · next cl2 h2 =>
          have m1 : cl1 ∈ l := List.mem_of_getElem? h1
          have m2 : cl2 ∈ l := List.mem_of_getElem? h2
          have hil : i < l.length := by
            rcases Nat.lt_or_ge i l.length with h' | h'
            · exact h'
            · rw [List.getElem?_eq_none h'] at h1; cases h1
          -- stepping the inner index once the pair `(i, j)` is done
          have step : ∀ l2 : List (List Int), (∀ a b, a < l.length → b < l.length → Done l a b →
              Done l2 a b) → l.length ≤ l2.length → Done l2 i j → Inv l2 i (j + 1) := by
            intro l2 hmono hlen hdone
            obtain ⟨hi, hA, hB⟩ := hinv
            refine ⟨by omega, ?_, ?_⟩
            · intro a b ha hb
              exact hmono a b (by omega) (by omega) (hA a b ha hb)
            · intro b hb hbi
              by_cases hbj : b < j
              · exact hmono i b hil (by omega) (hB b hbj hbi)
              · have : b = j := by omega
                subst this; exact hdone
          split at h
          · next hres =>
            refine ih l i (j + 1) hg (step l (fun _ _ _ _ hd => hd) (Nat.le_refl _) ?_) h
            intro c1 c2 r res h1' h2' hr
            rw [h1] at h1'; rw [h2] at h2'
            cases h1'; cases h2'
            rw [hres] at hr; cases hr
          · next r res hres =>
            split at h
            · next hcont =>
              refine ih l i (j + 1) hg (step l (fun _ _ _ _ hd => hd) (Nat.le_refl _) ?_) h
              intro c1 c2 r' res' h1' h2' hr
              rw [h1] at h1'; rw [h2] at h2'
              cases h1'; cases h2'
              rw [hres] at hr
              simp only [Option.some.injEq, Prod.mk.injEq] at hr
              rw [← hr.2]
              simpa using hcont
            · split at h
              · simp at h
              · next hne =>
                have hg' : Good (l ++ [res]) := by
                  intro c hc
                  rcases List.mem_append.mp hc with hc | hc
                  · exact hg c hc
                  · simp at hc; subst hc
                    refine ⟨by simpa using hne,
                      resolvent_nontrivial cl1 cl2 r _ hres (hg cl1 m1).2.1 (hg cl2 m2).2.1, ?_⟩
                    rw [(resolvable_inv cl1 cl2 r _ hres).2]
                    exact canon_nodup _
                have hinv' : Inv (l ++ [res]) i (j + 1) := by
                  refine step (l ++ [res]) (fun a b ha hb hd => done_mono l res a b ha hb hd)
                    (by simp) ?_
                  intro c1 c2 r' res' h1' h2' hr
                  rw [List.getElem?_append_left hil, h1] at h1'
                  rw [List.getElem?_append_left (by omega), h2] at h2'
                  cases h1'; cases h2'
                  rw [hres] at hr
                  simp only [Option.some.injEq, Prod.mk.injEq] at hr
                  rw [← hr.2]; simp
                obtain ⟨l', hsub, hg2, hd⟩ := ih _ i (j + 1) hg' hinv' h
                exact ⟨l', fun c hc => hsub c (List.mem_append_left _ hc), hg2, hd⟩

end Res

/-! ### from closed lists to the abstract theorem -/

namespace Res
open AbsRes

def toLit (x : Int) : Lit := ⟨x.natAbs - 1, decide (x > 0)⟩

theorem toLit_neg (x : Int) (hx : x ≠ 0) : toLit (-x) = (toLit x).neg := by
  simp only [toLit, Lit.neg, Int.natAbs_neg, Lit.mk.injEq, true_and]
  by_cases h : x > 0
  · have : ¬ (-x > 0) := by omega
    simp [h, this]; omega
  · have : -x > 0 := by omega
    simp [h, this]; omega

theorem toLit_inj (x y : Int) (hx : x ≠ 0) (hy : y ≠ 0) (h : toLit x = toLit y) : x = y := by
  simp only [toLit, Lit.mk.injEq, decide_eq_decide] at h
  omega

/-- a list clause as a predicate on literals -/
def toPred (c : List Int) : AbsRes.Clause := fun L => ∃ x ∈ c, toLit x = L

theorem sat_of_abs (v : Nat → Bool) (c : List Int) (hz : NoZero c) (h : Sat v (toPred c)) :
    evalClause v c = true := by
  obtain ⟨L, ⟨x, hx, rfl⟩, hv⟩ := h
  rw [evalClause_true_iff]
  refine ⟨x, hx, ?_⟩
  have hx0 := hz x hx
  simp only [toLit] at hv
  unfold evalLit
  by_cases hp : x > 0
  · have e : x.toNat - 1 = x.natAbs - 1 := by omega
    simp [hp, e] at hv ⊢; exact hv
  · have e : (-x).toNat - 1 = x.natAbs - 1 := by omega
    simp [hp, e] at hv ⊢; exact hv

/-- a closed good list is satisfiable -/
theorem closed_sat (l : List (List Int)) (hg : Good l) (hd : ∀ a b, b < a → Done l a b) :
    ∃ v, ∀ c ∈ l, evalClause v c = true := by
  have hz : ∀ c ∈ l, NoZero c := fun c hc => noZero_of_nontrivial c (hg c hc).2.1
  let S : ClauseSet := fun C => ∃ c ∈ l, C = toPred c
  have hatoms : ∀ C, S C → ∀ L, C L → L.atom ∈ l.flatMap (fun c => c.map (fun x => x.natAbs - 1)) := by
    rintro C ⟨c, hc, rfl⟩ L ⟨x, hx, rfl⟩
    simp only [List.mem_flatMap, List.mem_map]
    exact ⟨c, hc, x, hx, rfl⟩
  have hnt : ∀ C, S C → NonTaut C := by
    rintro C ⟨c, hc, rfl⟩ L ⟨x, hx, rfl⟩ ⟨y, hy, hxy⟩
    have hx0 := hz c hc x hx
    have hy0 := hz c hc y hy
    rw [← toLit_neg x hx0] at hxy
    have := toLit_inj y (-x) hy0 (by omega) hxy
    subst this
    have := (trivial_iff c).mpr ⟨x, hx, hy⟩
    rw [(hg c hc).2.1] at this; cases this
  have hne : ¬ S emptyC := by
    rintro ⟨c, hc, he⟩
    cases c with
    | nil => exact (hg [] hc).1 rfl
    | cons x r =>
      have : toPred (x :: r) (toLit x) := ⟨x, by simp, rfl⟩
      rw [← he] at this; exact this
  have hcl : Closed S := by
    rintro C1 C2 q ⟨c1, hc1, rfl⟩ ⟨c2, hc2, rfl⟩ ⟨⟨r0, hr2, rfl⟩, ⟨x, hx1, hxq⟩, huniq⟩
    have hr0 := hz c2 hc2 r0 hr2
    have hx0 := hz c1 hc1 x hx1
    rw [← toLit_neg r0 hr0] at hxq
    have := toLit_inj x (-r0) hx0 (by omega) hxq
    subst this
    have hun : ∀ y ∈ c2, -y ∈ c1 → y = r0 := by
      intro y hy hny
      have hy0 := hz c2 hc2 y hy
      have := huniq (toLit y) ⟨y, hy, rfl⟩ ⟨-y, hny, toLit_neg y hy0⟩
      exact toLit_inj y r0 hy0 hr0 this
    have hun' : ∀ y ∈ c1, -y ∈ c2 → y = -r0 := by
      intro y hy hny
      have := hun (-y) hny (by simpa using hy)
      omega
    obtain ⟨res0, hres0⟩ := resolvable_of_clash c1 c2 r0 (hg c2 hc2).2.2 hr2 hx1 hun
    obtain ⟨res1, hres1⟩ := resolvable_of_clash c2 c1 (-r0) (hg c1 hc1).2.2 hx1
      (by simpa using hr2) hun'
    obtain ⟨a, ha⟩ := List.mem_iff_getElem?.mp hc1
    obtain ⟨b, hb⟩ := List.mem_iff_getElem?.mp hc2
    -- the resolvent, as a predicate
    have key : ∀ res, (∀ x, x ∈ res ↔ (x ∈ c1 ∧ x ≠ -r0) ∨ (x ∈ c2 ∧ x ≠ r0)) →
        toPred res = AbsRes.Res (toPred c1) (toPred c2) (toLit r0) := by
      intro res hres
      apply clause_ext
      intro L
      simp only [toPred, AbsRes.Res]
      constructor
      · rintro ⟨y, hy, rfl⟩
        rcases (hres y).mp hy with ⟨hy1, hne1⟩ | ⟨hy2, hne2⟩
        · refine Or.inl ⟨⟨y, hy1, rfl⟩, ?_⟩
          intro e
          rw [← toLit_neg r0 hr0] at e
          exact hne1 (toLit_inj y (-r0) (hz c1 hc1 y hy1) (by omega) e)
        · refine Or.inr ⟨⟨y, hy2, rfl⟩, ?_⟩
          intro e
          exact hne2 (toLit_inj y r0 (hz c2 hc2 y hy2) hr0 e)
      · rintro (⟨⟨y, hy, rfl⟩, hne1⟩ | ⟨⟨y, hy, rfl⟩, hne2⟩)
        · refine ⟨y, (hres y).mpr (Or.inl ⟨hy, ?_⟩), rfl⟩
          intro e; subst e
          exact hne1 (toLit_neg r0 hr0)
        · refine ⟨y, (hres y).mpr (Or.inr ⟨hy, ?_⟩), rfl⟩
          intro e; subst e
          exact hne2 rfl
    rcases Nat.lt_trichotomy a b with hab | hab | hab
    · -- use the pair `(b, a)`
      have hin := hd b a hab c2 c1 (-r0) res1 hb ha hres1
      obtain ⟨_, _, _, hm⟩ := resolvable_clash c2 c1 (-r0) res1 hres1
      refine ⟨res1, hin, (key res1 ?_).symm⟩
      intro x
      rw [hm x]
      simp only [Int.neg_neg]
      constructor
      · rintro (h | h)
        · exact Or.inr h
        · exact Or.inl h
      · rintro (h | h)
        · exact Or.inr h
        · exact Or.inl h
    · subst hab
      rw [ha] at hb; cases hb
      exfalso
      have := (trivial_iff c1).mpr ⟨r0, hr2, hx1⟩
      rw [(hg c1 hc1).2.1] at this; cases this
    · have hin := hd a b hab c1 c2 r0 res0 ha hb hres0
      obtain ⟨_, _, _, hm⟩ := resolvable_clash c1 c2 r0 res0 hres0
      exact ⟨res0, hin, (key res0 hm).symm⟩
  obtain ⟨v, hv⟩ := complete _ S hatoms hnt hcl hne
  exact ⟨v, fun c hc => sat_of_abs v c (hz c hc) (hv (toPred c) ⟨c, hc, rfl⟩)⟩

/-- a non-trivial clause is falsified by the valuation that makes all its literals false -/
theorem nontrivial_falsifiable (c : List Int) (h : trivial c = false) :
    ∃ v, evalClause v c = false := by
  refine ⟨fun a => decide ((-((a : Int) + 1)) ∈ c), ?_⟩
  have hz := noZero_of_nontrivial c h
  cases e : evalClause (fun a => decide ((-((a : Int) + 1)) ∈ c)) c with
  | false => rfl
  | true =>
    exfalso
    obtain ⟨x, hx, hv⟩ := (evalClause_true_iff _ c).mp e
    have hx0 := hz x hx
    have hnt : ¬ ∃ y ∈ c, -y ∈ c := by
      intro hh; have := (trivial_iff c).mpr hh; rw [h] at this; cases this
    unfold evalLit at hv
    by_cases hp : x > 0
    · simp only [hp, if_true, decide_eq_true_eq] at hv
      have e1 : -(((x.toNat - 1 : Nat) : Int) + 1) = -x := by omega
      rw [e1] at hv
      exact hnt ⟨x, hx, hv⟩
    · simp only [hp, if_false, Bool.not_eq_true', decide_eq_false_iff_not] at hv
      have e1 : -((((-x).toNat - 1 : Nat) : Int) + 1) = x := by omega
      rw [e1] at hv
      exact hv hx

theorem start_complete (fuel : Nat) (cls : List (List Int)) (hne : ∀ cl ∈ cls, cl ≠ [])
    (hz : ∀ cl ∈ cls, NoZero cl) :
    Res.start fuel cls = some none →
    (∃ v, evalClauses v cls = true) ∧ (∃ v, evalClauses v cls = false) := by
  intro h
  unfold start at h
  split at h
  · simp at h
  · simp only [] at h
    split at h
    · simp at h
    · next hnonempty =>
      split at h
      · simp at h
      · simp at h
      · next hloop =>
        have hg : Good (initial cls) := by
          intro c hc
          obtain ⟨⟨cl, hcl, rfl⟩, ht⟩ := (mem_initial cls c).mp hc
          refine ⟨?_, ht, canon_nodup cl⟩
          intro e
          have hcl0 := hne cl hcl
          cases cl with
          | nil => exact hcl0 rfl
          | cons x r =>
            have : x ∈ canon (x :: r) := (mem_canon x _).mpr (by simp)
            rw [e] at this; cases this
        have hinv : Inv (initial cls) 0 0 :=
          ⟨Nat.zero_le _, fun a b ha => by omega, fun b hb => by omega⟩
        obtain ⟨l', hsub, hg', hd⟩ := loop_closed fuel (initial cls) 0 0 hg hinv hloop
        obtain ⟨v, hv⟩ := closed_sat l' hg' hd
        constructor
        · refine ⟨v, ?_⟩
          simp only [evalClauses, List.all_eq_true]
          intro cl hcl
          rw [← evalClause_canon]
          cases ht : trivial (canon cl) with
          | true =>
            exact trivial_valid _ (fun x hx => hz cl hcl x ((mem_canon x cl).mp hx)) ht v
          | false =>
            exact hv _ (hsub _ ((mem_initial cls _).mpr ⟨⟨cl, hcl, rfl⟩, ht⟩))
        · cases hi : initial cls with
          | nil => rw [hi] at hnonempty; simp at hnonempty
          | cons c rest =>
            have hc : c ∈ initial cls := by rw [hi]; simp
            obtain ⟨⟨cl, hcl, rfl⟩, ht⟩ := (mem_initial cls c).mp hc
            obtain ⟨w, hw⟩ := nontrivial_falsifiable _ ht
            refine ⟨w, ?_⟩
            rw [evalClause_canon] at hw
            cases e : evalClauses w cls with
            | false => rfl
            | true =>
              simp only [evalClauses, List.all_eq_true] at e
              rw [e cl hcl] at hw; cases hw

end Res

/-! ## 7. the prover -/

namespace Res

/-- `resolvable` is symmetric up to the sign of the pivot (on duplicate-free clauses) -/
theorem resolvable_symm (c1 c2 : List Int) (r : Int) (res : List Int) (hnd : c1.Nodup)
    (h : resolvable c1 c2 = some (r, res)) :
    ∃ res', resolvable c2 c1 = some (-r, res') ∧ ∀ x, x ∈ res' ↔ x ∈ res := by
  obtain ⟨hr2, hr1, huniq, hres⟩ := resolvable_clash c1 c2 r res h
  obtain ⟨res', h'⟩ := resolvable_of_clash c2 c1 (-r) hnd hr1 (by simpa using hr2)
    (fun y hy hny => by have := huniq (-y) hny (by simpa using hy); omega)
  refine ⟨res', h', fun x => ?_⟩
  obtain ⟨_, _, _, hres'⟩ := resolvable_clash c2 c1 (-r) res' h'
  rw [hres' x, hres x]
  simp only [Int.neg_neg]
  constructor
  · rintro (h | h)
    · exact Or.inr h
    · exact Or.inl h
  · rintro (h | h)
    · exact Or.inr h
    · exact Or.inl h

end Res

open CF Res in
/-- the normal-form pipeline followed by resolution, on an OR/negation tree -/
theorem pipeline_spec (fuel : Nat) (c n cnf : CF) (cls : List (List Int)) (x : Option Bool)
    (hc : c.IsOrTree = true) (h1 : CF.propagNeg c = some n) (h2 : CF.toCnfF fuel n = some cnf)
    (h3 : CF.toClauses cnf = some cls) (h4 : Res.start fuel cls = some x) :
    (x = some true → ∀ v, c.eval v = true) ∧ (x = some false → ∀ v, c.eval v = false) ∧
    (x = none → (∃ v, c.eval v = true) ∧ (∃ v, c.eval v = false)) := by
  obtain ⟨n', hn', en, sn⟩ := propagNeg_spec c hc
  rw [h1] at hn'; cases hn'
  obtain ⟨ecnf, scnf⟩ := toCnfF_spec fuel n cnf sn h2
  obtain ⟨cls', hcls', ecls, nne, nz⟩ := toClauses_spec cnf scnf
  rw [h3] at hcls'; cases hcls'
  have hev : ∀ v, evalClauses v cls = c.eval v := fun v => by rw [ecls v, ecnf v, en v]
  refine ⟨?_, ?_, ?_⟩
  · rintro rfl v
    rw [← hev v]; exact start_sound_true fuel cls nz h4 v
  · rintro rfl v
    have := start_sound_false fuel cls h4
    cases e : c.eval v with
    | false => rfl
    | true => exact absurd ⟨v, by rw [hev v, e]⟩ this
  · rintro rfl
    obtain ⟨⟨v, hv⟩, ⟨w, hw⟩⟩ := start_complete fuel cls nne nz h4
    exact ⟨⟨v, by rw [← hev v]; exact hv⟩, ⟨w, by rw [← hev w]; exact hw⟩⟩

theorem prover_decides (fuel : Nat) (f : Form) :
    (proveTautology fuel f = some (some true) → ∀ v, f.eval v = true) ∧
    (proveTautology fuel f = some (some false) → ∀ v, f.eval v = false) ∧
    (proveTautology fuel f = some none → (∃ v, f.eval v = true) ∧ (∃ v, f.eval v = false)) := by
  have hev : ∀ v, (CF.ofForm (Form.neg f)).eval v = !(f.eval v) := fun v => by
    rw [CF.ofForm_eval]; simp [Form.neg, Form.eval]
  have hshape := CF.ofForm_shape (Form.neg f)
  -- the generic branch
  have generic : ∀ c, CF.ofForm (Form.neg f) = c → c.IsOrTree = true →
      ∀ o, (do
        let n ← CF.propagNeg c
        let cnf ← CF.toCnfF fuel n
        let cls ← CF.toClauses cnf
        match ← Res.start fuel cls with
        | none => pure none
        | some true => pure (some false)
        | some false => pure (some true)) = some o →
      (o = some true → ∀ v, f.eval v = true) ∧ (o = some false → ∀ v, f.eval v = false) ∧
      (o = none → (∃ v, f.eval v = true) ∧ (∃ v, f.eval v = false)) := by
    intro c hc hor o h
    simp only [Option.bind_eq_bind, Option.bind_eq_some_iff] at h
    obtain ⟨n, h1, cnf, h2, cls, h3, x, h4, h⟩ := h
    obtain ⟨pT, pF, pN⟩ := pipeline_spec fuel c n cnf cls x hor h1 h2 h3 h4
    rw [hc] at hev
    have flip : ∀ v b, c.eval v = b → f.eval v = !b := by
      intro v b e
      have hb := hev v; rw [e] at hb
      rw [hb, Bool.not_not]
    cases x with
    | none =>
      simp only [Option.pure_def, Option.some.injEq] at h; subst h
      refine ⟨(fun e => by cases e), (fun e => by cases e), fun _ => ?_⟩
      obtain ⟨⟨v, hv⟩, ⟨w, hw⟩⟩ := pN rfl
      exact ⟨⟨w, by simpa using flip w false hw⟩, ⟨v, by simpa using flip v true hv⟩⟩
    | some b =>
      cases b with
      | true =>
        simp only [Option.pure_def, Option.some.injEq] at h; subst h
        refine ⟨(fun e => by cases e), fun _ v => ?_, (fun e => by cases e)⟩
        simpa using flip v true (pT rfl v)
      | false =>
        simp only [Option.pure_def, Option.some.injEq] at h; subst h
        refine ⟨fun _ v => ?_, (fun e => by cases e), (fun e => by cases e)⟩
        simpa using flip v false (pF rfl v)
  unfold proveTautology
  cases hc : CF.ofForm (Form.neg f) with
  | bot b =>
    rw [hc] at hev
    cases b with
    | true =>
      refine ⟨(fun e => by cases e), fun _ v => ?_, (fun e => by cases e)⟩
      have := hev v; simp [CF.eval] at this; exact this
    | false =>
      refine ⟨fun _ v => ?_, (fun e => by cases e), (fun e => by cases e)⟩
      have := hev v; simp [CF.eval] at this; exact this
  | var n i =>
    have := generic _ hc rfl
    exact ⟨fun h => (this _ h).1 rfl, fun h => (this _ h).2.1 rfl, fun h => (this _ h).2.2 rfl⟩
  | or n l r =>
    have hor : (CF.or n l r).IsOrTree = true := by
      rw [hc] at hshape; simpa [CF.isBot] using hshape
    have := generic _ hc hor
    exact ⟨fun h => (this _ h).1 rfl, fun h => (this _ h).2.1 rfl, fun h => (this _ h).2.2 rfl⟩
  | and n l r =>
    rw [hc] at hshape; simp [CF.isBot, CF.IsOrTree] at hshape

#print axioms CF.ofForm_eval
#print axioms CF.ofForm_shape
#print axioms CF.propagNeg_spec
#print axioms CF.toCnfF_spec
#print axioms CF.toCnfF_terminates
#print axioms CF.toCnfF_weight
#print axioms CF.toClauses_spec
#print axioms Res.resolvable_sound
#print axioms Res.loop_sound
#print axioms Res.start_sound_false
#print axioms Res.start_sound_true
#print axioms Res.start_complete
#print axioms prover_decides
