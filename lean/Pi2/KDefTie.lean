import Pi2.Gen.PyKDef
import Pi2.KDefSpec
import Pi2.KoreTie
/-!
# The construction of a `LanguageSemantics` and the reading of proof hints, as written in Python, are the specification's

`Pi2/Gen/PyKDef.lean` is regenerated from `k/kore_convertion/language_semantics.py` (builder classes, `from_kore_definition`,
`get_axiom / get_sort / get_symbol / resolve_to_ksymbol`) and `k/kore_convertion/rewrite_steps.py` (`get_proof_hints`) on every
run (`vlib/transkdef.py`).  Here the generated functions are proved equal to `Pi2/KDefSpec.lean` on the fragment of
ONE-MODULE definitions that do not import themselves (`InFragment`), for every fuel `≥ 2` and every valid set order.

* the store of a one-module semantics is `heapOf pL pM r` for a refined state `r : RSt` (the sorts with their `hooked` flags,
  the `KSymbol` objects, the rules with ordinals and scopes, the counter); `stepR` is one sentence, `stepR_spec` / `stepsR_spec`
  relate it to `KDefSpec.addSentence` (`proj`);
* `rawL`, `sort_rawL`, `symbol_rawL`, …: the builder methods on a store of any number of modules whose LAST module is the one under
  construction (the one-module store is the case of no earlier module; `Pi2/KDefTieM5.lean` uses them for k modules);
* `from_kore_definition_eq`: the body of the loop over the sentences is `stepR`, and the whole function;
* `get_axiom_eq`, `get_sort_eq`, `get_symbol_eq`, `resolve_to_ksymbol_eq` and the views `get_sort_view`, `get_symbol_view`,
  `resolve_to_ksymbol_view` (the hand-written primitives of `Pi2/KoreSupport.lean` on `semView` are the translated functions);
* `KDefTieM2.get_proof_hints_keeps`: on ANY store that answers `get_axiom` and the cached scopes like a list of rules (`HintInv`) the
  hint stream is `KDefSpec.traceStepsR`; `get_proof_hints_eq`: the one-module store; `k_pipeline`: definition + hint stream ⟼ `traceF`;
* `module_shares_counter` (beyond one module): a later module gets the counter object of the main module.
-/
set_option linter.unusedVariables false
set_option linter.unusedSimpArgs false
namespace KDefTie
open PyI PyM PyK Kore Gen.PyKDef KDefSpec

theorem translated : Gen.PyKDef.translated = true := by decide

/-! ## the store of a one-module semantics -/

/-- the refined state of the one module under construction -/
structure RSt where
  name : Nat
  sorts : List (Nat × Bool)
  symbols : List PyKSymbol
  rules : List Rule
  nAxioms : Nat

def axiomOf (r : Rule) : PyAxiom :=
  match r.kind with
  | .rewrite => .rewriting ⟨r.ordinal, r.pattern⟩
  | .equational => .equational ⟨r.ordinal, r.pattern⟩

/-- the scope object cached for a rule: the dictionaries of `KoreTie.withScope` on a fresh `ConvertionScope` -/
def scopeObj (sc : Scope) : PyScope := KoreTie.withScope Gen.PyKore.ConvertionScope.__init__ sc

def sortsDict (r : RSt) : KDict PyKSortH := r.sorts.map fun e => (e.1, ⟨e.1, e.2⟩)
def symbolsDict (r : RSt) : KDict PyKSymbol := r.symbols.map fun s => (s.name, s)
def axiomsDict (rules : List Rule) : KDict PyAxiom := rules.map fun ru => (ru.ordinal, axiomOf ru)
def scopesDict (rules : List Rule) : KDict PyScope := rules.map fun ru => (ru.ordinal, scopeObj ru.scope)

/-- the one module (reference 0) with these dictionaries -/
abbrev rawMod (pM : Option Bool) (name : Nat) (so : KDict PyKSortH) (sy : KDict PyKSymbol) (ax : KDict PyAxiom) : PyKModule :=
  { _name := name, counter := 0, _parsing := pM, _imported_modules := [], _sorts := so, _symbols := sy, _axioms := ax }

/-- the store: the semantics object, its one module (reference 0), the one counter (reference 0) -/
abbrev rawHeap (pL pM : Option Bool) (name : Nat) (so : KDict PyKSortH) (sy : KDict PyKSymbol) (ax : KDict PyAxiom)
    (sc : KDict PyScope) (cnt : Nat) : PyLS :=
  { _parsing := pL, _imported_modules := [0], _cached_axiom_scopes := sc, _inferred_notations := [],
    modules := [rawMod pM name so sy ax], counters := [cnt] }

def modOf (pM : Option Bool) (r : RSt) : PyKModule := rawMod pM r.name (sortsDict r) (symbolsDict r) (axiomsDict r.rules)

def heapOf (pL pM : Option Bool) (r : RSt) : PyLS :=
  rawHeap pL pM r.name (sortsDict r) (symbolsDict r) (axiomsDict r.rules) (scopesDict r.rules) r.nAxioms

def sgOf (r : RSt) : Sig := { sorts := r.sorts.map (·.1), symbols := r.symbols.map symDeclOf }

theorem sigView_heapOf (pL pM : Option Bool) (r : RSt) : sigView (heapOf pL pM r) = sgOf r := by
  simp [sigView, heapOf, rawHeap, rawMod, sgOf, sortsDict, symbolsDict, List.map_map, Function.comp_def]


/-! ## dictionaries -/

theorem lookup_map_key {α β : Type} (l : List α) (key : α → Nat) (f : α → β) (k : Nat) :
    (l.map fun e => (key e, f e)).lookup k = (l.find? (key · == k)).map f := by
  induction l with
  | nil => rfl
  | cons e r ih =>
    simp only [List.map_cons, List.lookup_cons, List.find?_cons]
    by_cases h : key e = k
    · subst h; simp
    · have h1 : (k == key e) = false := by simpa using fun h' : k = key e => h h'.symm
      have h2 : (key e == k) = false := by simpa using h
      simp only [h1, h2, ih]

theorem sorts_lookup (r : RSt) (k : Nat) :
    (sortsDict r).lookup k = (r.sorts.find? (·.1 == k)).map fun e => ⟨e.1, e.2⟩ :=
  lookup_map_key r.sorts (·.1) (fun e => (⟨e.1, e.2⟩ : PyKSortH)) k

theorem find_key {α} {l : List (Nat × α)} {k : Nat} {e : Nat × α} (h : l.find? (·.1 == k) = some e) : e.1 = k := by
  have := List.find?_some h; simpa using this

/-- `get_sort` on the one module: the declared sort with this name -/
def sortOf (r : RSt) (k : Nat) : Option PyKSortH := (r.sorts.find? (·.1 == k)).map fun e => ⟨k, e.2⟩

theorem sorts_lookup' (r : RSt) (k : Nat) : (sortsDict r).lookup k = sortOf r k := by
  rw [sorts_lookup, sortOf]
  cases h : r.sorts.find? (·.1 == k) with
  | none => rfl
  | some e => simp [find_key h]

theorem symbols_lookup (r : RSt) (k : Nat) : (symbolsDict r).lookup k = r.symbols.find? (·.name == k) :=
  (lookup_map_key r.symbols (·.name) id k).trans Option.map_id'

theorem axioms_lookup (rules : List Rule) (k : Nat) :
    (axiomsDict rules).lookup k = (rules.find? (·.ordinal == k)).map axiomOf :=
  lookup_map_key rules (·.ordinal) axiomOf k

theorem scopes_lookup (rules : List Rule) (k : Nat) :
    (scopesDict rules).lookup k = (rules.find? (·.ordinal == k)).map fun ru => scopeObj ru.scope :=
  lookup_map_key rules (·.ordinal) (fun ru => scopeObj ru.scope) k

/-! ## the module search on a one-module store -/

theorem lookup_branch {α β} (d : KDict α) (k : Nat) (a : α → Py β) (b : Py β) {inst : Decidable (kHas d k = true)} :
    (@ite _ (kHas d k = true) inst (kGet d k a) b) = match d.lookup k with | some v => a v | none => b := by
  cases h : d.lookup k with
  | none =>
    have hk : ¬ (kHas d k = true) := by simp [kHas, h]
    rw [if_neg hk]
  | some v =>
    have hk : kHas d k = true := by simp [kHas, h]
    rw [if_pos hk]; simp [kGet, h]

theorem getMod_raw {β} (pL pM name so sy ax sc cnt) (k : PyKModule → Py β) :
    getMod (rawHeap pL pM name so sy ax sc cnt) 0 k = k (rawMod pM name so sy ax) := rfl

theorem modules_raw (n : Nat) (pL pM name so sy ax sc cnt) :
    KModule.modules (n + 1) (rawHeap pL pM name so sy ax sc cnt) 0 = ret [] := rfl

theorem modules_eq (n : Nat) (pL pM : Option Bool) (r : RSt) :
    KModule.modules (n + 1) (heapOf pL pM r) 0 = ret [] := rfl

theorem get_sort_raw (n : Nat) (pL pM name so sy ax sc cnt) (k : Nat) :
    KModule.get_sort (n + 2) (rawHeap pL pM name so sy ax sc cnt) 0 k = some (so.lookup k) := by
  unfold KModule.get_sort
  dsimp only [getMod_raw, rawMod, modules_raw]
  rw [lookup_branch]
  cases so.lookup k <;> rfl

theorem get_symbol_raw (n : Nat) (pL pM name so sy ax sc cnt) (k : Nat) :
    KModule.get_symbol (n + 2) (rawHeap pL pM name so sy ax sc cnt) 0 k = some (sy.lookup k) := by
  unfold KModule.get_symbol
  dsimp only [getMod_raw, rawMod, modules_raw]
  rw [lookup_branch]
  cases sy.lookup k <;> rfl

theorem get_axiom_raw (n : Nat) (pL pM name so sy ax sc cnt) (k : Nat) :
    KModule.get_axiom (n + 2) (rawHeap pL pM name so sy ax sc cnt) 0 k = some (ax.lookup k) := by
  unfold KModule.get_axiom
  dsimp only [getMod_raw, rawMod, modules_raw]
  rw [lookup_branch]
  cases ax.lookup k <;> rfl

theorem kmodule_get_sort_eq (n : Nat) (pL pM : Option Bool) (r : RSt) (k : Nat) :
    KModule.get_sort (n + 2) (heapOf pL pM r) 0 k = some (sortOf r k) := by
  rw [heapOf, get_sort_raw, sorts_lookup']

theorem kmodule_get_symbol_eq (n : Nat) (pL pM : Option Bool) (r : RSt) (k : Nat) :
    KModule.get_symbol (n + 2) (heapOf pL pM r) 0 k = some (r.symbols.find? (·.name == k)) := by
  rw [heapOf, get_symbol_raw, symbols_lookup]

theorem kmodule_get_axiom_eq (n : Nat) (pL pM : Option Bool) (r : RSt) (k : Nat) :
    KModule.get_axiom (n + 2) (heapOf pL pM r) 0 k = some ((r.rules.find? (·.ordinal == k)).map axiomOf) := by
  rw [heapOf, get_axiom_raw, axioms_lookup]

theorem perm_singleton {so : SetOrder} (hso : so.Valid) (x : Nat) : so [x] = [x] := by
  have := hso [x]
  exact List.perm_singleton.mp this

theorem ls_modules_eq (so : SetOrder) (hso : so.Valid) (n : Nat) (pL pM : Option Bool) (r : RSt) :
    LanguageSemantics.modules so (n + 1) (heapOf pL pM r) = ret [0] := by
  unfold LanguageSemantics.modules
  simp only [heapOf, rawHeap, forEach]
  show call (KModule.modules (n + 1) (heapOf pL pM r) 0) _ = _
  rw [modules_eq]
  simp [call, ret, setAdd, setUpdate, setIter, perm_singleton hso, fromkeys]

theorem builder_true {α} (f : Py α) : builder_method (some true) f = f := rfl

theorem forEach_unit {α β} (l : List α) (body : α → Unit → (Unit → Py β) → Py β) (k : Unit → Py β)
    (hb : ∀ x ∈ l, ∀ cont, body x () cont = cont ()) : forEach l () body k = k () := by
  induction l with
  | nil => rfl
  | cons x xs ih =>
    simp only [forEach]
    rw [hb x (List.mem_cons_self ..)]
    exact ih fun y hy => hb y (List.mem_cons_of_mem _ hy)

def rawL (pL : Option Bool) (pm : List PyKModule) (cache : KDict PyScope) (cs : List Nat) : PyLS :=
  { _parsing := pL, _imported_modules := List.range pm.length, _cached_axiom_scopes := cache, _inferred_notations := [],
    modules := pm, counters := cs }

theorem getMod_last {β} (pL pd x cache cs) (i : Nat) (hi : i = pd.length) (k : PyKModule → Py β) :
    getMod (rawL pL (pd ++ [x]) cache cs) i k = k x := by subst hi; simp [getMod, rawL]

theorem setMod_last (pL pd x cache cs) (i : Nat) (hi : i = pd.length) (y : PyKModule) :
    setMod (rawL pL (pd ++ [x]) cache cs) i y = rawL pL (pd ++ [y]) cache cs := by subst hi; simp [setMod, rawL]

theorem _sort_rawL (pL pd x cache cs) (i : Nat) (hi : i = pd.length) (nm : Nat) (hk : Bool) :
    KModule._sort (rawL pL (pd ++ [x]) cache cs) i nm hk
      = if kHas x._sorts nm then raise
        else ret (rawL pL (pd ++ [{ x with _sorts := kSet x._sorts nm ⟨nm, hk⟩ }]) cache cs, ⟨nm, hk⟩) := by
  unfold KModule._sort
  simp only [getMod_last _ _ _ _ _ i hi, setMod_last _ _ _ _ _ i hi]
  by_cases hh : kHas x._sorts nm = true
  · rw [if_pos hh, if_pos hh]
  · rw [if_neg hh, if_neg hh]
    simp only [kGet, KoreTie.lookup_kSet]

theorem sort_rawL {β} (pL pd x cache cs) (i : Nat) (hi : i = pd.length) (hp : x._parsing = some true) (nm : Nat) (hk : Bool)
    (cont : PyLS → Py β) :
    (if (true && hk) = true then call (KModule.hooked_sort (rawL pL (pd ++ [x]) cache cs) i nm) fun (h, _) => cont h
     else call (KModule.sort (rawL pL (pd ++ [x]) cache cs) i nm) fun (h, _) => cont h)
      = if kHas x._sorts nm then raise
        else cont (rawL pL (pd ++ [{ x with _sorts := kSet x._sorts nm ⟨nm, hk⟩ }]) cache cs) := by
  unfold KModule.hooked_sort KModule.sort
  simp only [getMod_last _ _ _ _ _ i hi, hp, builder_true, _sort_rawL _ _ _ _ _ i hi]
  cases hk <;> by_cases hh : kHas x._sorts nm = true <;> simp [hh, call, ret, raise]

theorem import_rawL (pL pd x cache cs) (i : Nat) (hi : i = pd.length) (hp : x._parsing = some true) (j : Nat) :
    KModule.import_module (rawL pL (pd ++ [x]) cache cs) i j
      = if x._imported_modules.contains j then raise
        else ret (rawL pL (pd ++ [{ x with _imported_modules := x._imported_modules ++ [j] }]) cache cs) := by
  unfold KModule.import_module
  simp only [getMod_last _ _ _ _ _ i hi, setMod_last _ _ _ _ _ i hi, hp, builder_true]

theorem rewrite_rule_rawL (pL pd x cache cnt) (i : Nat) (hi : i = pd.length) (hp : x._parsing = some true) (hc : x.counter = 0)
    (pat : NPat) :
    KModule.rewrite_rule (rawL pL (pd ++ [x]) cache [cnt]) i pat
      = ret (rawL pL (pd ++ [{ x with _axioms := kSet x._axioms cnt (.rewriting ⟨cnt, pat⟩) }]) cache [cnt + 1], ⟨cnt, pat⟩) := by
  subst hi
  obtain ⟨a1, a2, a3, a4, a5, a6, a7⟩ := x
  simp only at hp hc; subst hp; subst hc
  simp [KModule.rewrite_rule, getMod, rawL, builder_method, attrGet, nextCounter, setMod, ret]

theorem equational_rule_rawL (pL pd x cache cnt) (i : Nat) (hi : i = pd.length) (hp : x._parsing = some true) (hc : x.counter = 0)
    (pat : NPat) :
    KModule.equational_rule (rawL pL (pd ++ [x]) cache [cnt]) i pat
      = ret (rawL pL (pd ++ [{ x with _axioms := kSet x._axioms cnt (.equational ⟨cnt, pat⟩) }]) cache [cnt + 1], ⟨cnt, pat⟩) := by
  subst hi
  obtain ⟨a1, a2, a3, a4, a5, a6, a7⟩ := x
  simp only at hp hc; subst hp; subst hc
  simp [KModule.equational_rule, getMod, rawL, builder_method, attrGet, nextCounter, setMod, ret]

theorem next_counter_rawL {β} (pL pm cache cnt) (k : PyLS × Nat → Py β) :
    nextCounter (rawL pL pm cache [cnt]) 0 k = k (rawL pL pm cache [cnt + 1], cnt) := rfl

theorem symbol_rawL (n : Nat) (pL pd x cache cs) (i : Nat) (hi : i = pd.length) (hp : x._parsing = some true)
    (nm : Nat) (out : PySortRef) (sp : List PyKSortVar) (ins : List PySortRef) (f c cl : Bool)
    (hout : ∀ b, out = .sort b → KModule.get_sort n (rawL pL (pd ++ [x]) cache cs) i b.name = ret b)
    (hins : ∀ b, PySortRef.sort b ∈ ins → KModule.get_sort n (rawL pL (pd ++ [x]) cache cs) i b.name = ret b) :
    KModule.symbol n (rawL pL (pd ++ [x]) cache cs) i nm out sp ins f c cl
      = if kHas x._symbols nm then raise
        else ret (rawL pL (pd ++ [{ x with _symbols := kSet x._symbols nm ⟨nm, sp, out, ins, f, c, cl⟩ }]) cache cs,
                  ⟨nm, sp, out, ins, f, c, cl⟩) := by
  have key := fun body k hb => forEach_unit (β := PyLS × PyKSymbol) ins body k hb
  unfold KModule.symbol
  simp only [getMod_last _ _ _ _ _ i hi, hp, builder_true]
  by_cases hh : kHas x._symbols nm = true
  · rw [if_pos hh, if_pos hh]
  · rw [if_neg hh, if_neg hh]
    cases out with
    | var v =>
      dsimp only; rw [key]
      · simp only [setMod_last _ _ _ _ _ i hi]
      · intro y hy cont
        cases y with
        | var v => rfl
        | sort b => simp [hins b hy, call, assert_, ret]
    | sort b =>
      dsimp only
      rw [key]
      · rw [hout b rfl]
        simp only [call, assert_, beq_self_eq_true, if_true, ret, setMod_last _ _ _ _ _ i hi]
      · intro y hy cont
        cases y with
        | var v => rfl
        | sort b => simp [hins b hy, call, assert_, ret]

theorem rawHeap_rawL (pL pM name so sy ax sc cnt) :
    rawHeap pL pM name so sy ax sc cnt = rawL pL ([] ++ [rawMod pM name so sy ax]) sc [cnt] := rfl

theorem setMod_raw (pL pM name so sy ax sc cnt) (m : PyKModule) :
    setMod (rawHeap pL pM name so sy ax sc cnt) 0 m
      = { rawHeap pL pM name so sy ax sc cnt with modules := [m] } := rfl

/-- `module.hooked_sort(name)` if the declaration is hooked, else `module.sort(name)`: both are `_sort` with the flag -/
theorem sortDecl_raw {β} (pL name so sy ax sc cnt) (nm : Nat) (hk : Bool) (cont : PyLS → Py β) :
    (if (true && hk) = true then call (KModule.hooked_sort (rawHeap pL (some true) name so sy ax sc cnt) 0 nm) fun (h, _) => cont h
     else call (KModule.sort (rawHeap pL (some true) name so sy ax sc cnt) 0 nm) fun (h, _) => cont h)
      = if kHas so nm then raise else cont (rawHeap pL (some true) name (kSet so nm ⟨nm, hk⟩) sy ax sc cnt) :=
  sort_rawL pL [] (rawMod (some true) name so sy ax) sc [cnt] 0 rfl rfl nm hk cont

theorem rewrite_rule_raw (pL name so sy ax sc cnt) (pat : NPat) :
    KModule.rewrite_rule (rawHeap pL (some true) name so sy ax sc cnt) 0 pat
      = ret (rawHeap pL (some true) name so sy (kSet ax cnt (.rewriting ⟨cnt, pat⟩)) sc (cnt + 1), ⟨cnt, pat⟩) := rfl

theorem equational_rule_raw (pL name so sy ax sc cnt) (pat : NPat) :
    KModule.equational_rule (rawHeap pL (some true) name so sy ax sc cnt) 0 pat
      = ret (rawHeap pL (some true) name so sy (kSet ax cnt (.equational ⟨cnt, pat⟩)) sc (cnt + 1), ⟨cnt, pat⟩) := rfl

theorem next_counter_raw {β} (pL pM name so sy ax sc cnt) (k : PyLS × Nat → Py β) :
    nextCounter (rawHeap pL pM name so sy ax sc cnt) 0 k = k (rawHeap pL pM name so sy ax sc (cnt + 1), cnt) := rfl

/-! ## `convert_ksort`, `KModule.symbol` -/

/-- `convert_ksort(name_to_sortvar, ksort)` -/
def sortRefRaw (so : KDict PyKSortH) (vm : KDict PyKSortVar) : KSort → Option PySortRef
  | .var x => (vm.lookup x).map .var
  | .app n => (so.lookup n).map .sort

theorem convert_ksort_raw (n : Nat) (pL pM name so sy ax sc cnt) (vm : KDict PyKSortVar) (s : KSort) :
    LanguageSemantics.from_kore_definition.convert_ksort (n + 2) (rawHeap pL pM name so sy ax sc cnt) 0 vm s
      = some (sortRefRaw so vm s) := by
  cases s with
  | var x =>
    simp only [LanguageSemantics.from_kore_definition.convert_ksort, sortRefRaw, kGet]
    cases vm.lookup x <;> rfl
  | app k =>
    simp only [LanguageSemantics.from_kore_definition.convert_ksort, sortRefRaw, get_sort_raw]
    cases so.lookup k <;> rfl

def mapOpt {α β} (g : α → Option β) : List α → Option (List β)
  | [] => some []
  | x :: xs => match g x with
    | none => none
    | some y => (mapOpt g xs).map (y :: ·)

theorem mapPy_total {α β γ} (l : List α) (f : α → Py β) (g : α → Option β) (hf : ∀ x, f x = some (g x)) (k : List β → Py γ) :
    mapPy l f k = match mapOpt g l with | none => some none | some ys => k ys := by
  induction l generalizing k with
  | nil => rfl
  | cons x xs ih =>
    simp only [mapPy, mapOpt, hf]
    cases g x with
    | none => rfl
    | some y =>
      simp only [call, ih]
      cases mapOpt g xs <;> rfl

theorem mapOpt_mem {α β} {g : α → Option β} {l : List α} {ys : List β} (h : mapOpt g l = some ys) :
    ∀ y ∈ ys, ∃ x ∈ l, g x = some y := by
  induction l generalizing ys with
  | nil => cases h; simp
  | cons x xs ih =>
    simp only [mapOpt] at h
    split at h
    · cases h
    · next y0 hx =>
      simp only [Option.map_eq_some_iff] at h
      obtain ⟨zs, hr, rfl⟩ := h
      intro y hy
      rcases List.mem_cons.1 hy with rfl | hy
      · exact ⟨x, List.mem_cons_self .., hx⟩
      · obtain ⟨x', hx', hg⟩ := ih hr y hy
        exact ⟨x', List.mem_cons_of_mem _ hx', hg⟩

theorem mapOpt_length {α β} {g : α → Option β} {l : List α} {ys : List β} (h : mapOpt g l = some ys) : ys.length = l.length := by
  induction l generalizing ys with
  | nil => cases h; rfl
  | cons x xs ih =>
    simp only [mapOpt] at h
    split at h
    · cases h
    · simp only [Option.map_eq_some_iff] at h
      obtain ⟨zs, hr, rfl⟩ := h
      simp [ih hr]

/-- a sort reference that `convert_ksort` produced is the entry of the sort table -/
theorem sortRefRaw_sort {so : KDict PyKSortH} {vm s b} (hkey : ∀ k v, so.lookup k = some v → v.name = k)
    (h : sortRefRaw so vm s = some (.sort b)) : so.lookup b.name = some b := by
  cases s with
  | var x => simp only [sortRefRaw] at h; cases vm.lookup x <;> simp at h
  | app k =>
    simp only [sortRefRaw] at h
    cases hl : so.lookup k with
    | none => simp [hl] at h
    | some v => simp [hl] at h; subst h; rw [hkey k v hl]; exact hl

theorem symbol_raw (n : Nat) (pL name so sy ax sc cnt) (nm : Nat) (out : PySortRef) (sp : List PyKSortVar) (ins : List PySortRef)
    (f c cl : Bool) (hout : ∀ b, out = .sort b → so.lookup b.name = some b)
    (hins : ∀ b, PySortRef.sort b ∈ ins → so.lookup b.name = some b) :
    KModule.symbol (n + 2) (rawHeap pL (some true) name so sy ax sc cnt) 0 nm out sp ins f c cl
      = if kHas sy nm then raise
        else ret (rawHeap pL (some true) name so (kSet sy nm ⟨nm, sp, out, ins, f, c, cl⟩) ax sc cnt, ⟨nm, sp, out, ins, f, c, cl⟩) :=
  symbol_rawL (n + 2) pL [] (rawMod (some true) name so sy ax) sc [cnt] 0 rfl rfl nm out sp ins f c cl
    (fun b hb => by rw [← rawHeap_rawL, get_sort_raw, hout b hb]; rfl)
    (fun b hb => by rw [← rawHeap_rawL, get_sort_raw, hins b hb]; rfl)

/-! ## one sentence -/

theorem isEquals_eq (t : KTerm) : isEquals t = isK t .Equals := by cases t <;> rfl

theorem is_rewrite_rule_eq (p : KTerm) : LanguageSemantics.is_rewrite_rule p = ret (isRewriteRule p) := by
  cases p <;> try rfl
  case rewrites s l r =>
    have e : isRewriteRule (.rewrites s l r) = (isK l .And && isK r .And) := by
      cases l <;> try rfl
      case and => cases r <;> rfl
    rw [e]
    show call (andB (ret true) (andB (ret (isK l .And)) (ret (isK r .And)))) _ = _
    cases isK l .And <;> cases isK r .And <;> rfl

theorem is_equational_rule_eq (p : KTerm) : LanguageSemantics.is_equational_rule p = ret (isEquationalRule p) := by
  cases p <;> try rfl
  case implies s l r =>
    cases r <;> try rfl
    case and s' x y =>
      show _ = ret (isEquals x || isEquals y)
      rw [isEquals_eq, isEquals_eq]
      unfold LanguageSemantics.is_equational_rule
      dsimp only [kattr, kattr_right, kattr_ops, anyPy]
      cases isK x .Equals <;> cases isK y .Equals <;> rfl

theorem rewrite_shape {p : KTerm} (h : isRewriteRule p = true) :
    ∃ s s1 l l2 s2 r r2, p = .rewrites s (.and s1 l l2) (.and s2 r r2) := by
  unfold isRewriteRule at h
  split at h
  · exact ⟨_, _, _, _, _, _, _, rfl⟩
  · cases h

/-- `ksort_var_map` -/
def varMap (vars : List KSort) : KDict PyKSortVar :=
  kDictOf ((vars.map fun v => PyKSortVar.mk (sortName v)).map fun v => (v.name, v))

/-- `attrs` -/
def attrNames (attrs : List KTerm) : List Nat := attrs.filterMap LanguageSemantics.from_kore_definition.comp1

def WF (r : RSt) : Prop := ∀ ru ∈ r.rules, ru.ordinal < r.nAxioms

def addRule (r : RSt) (kind : RuleKind) (x : Scope × NPat) : RSt :=
  { r with rules := r.rules ++ [{ ordinal := r.nAxioms, kind := kind, pattern := x.2, scope := x.1 }], nAxioms := r.nAxioms + 1 }

/-- one sentence on the refined state (`none`: the builder raises) -/
def stepR (r : RSt) : KSentence → Option RSt
  | .«import» _ => none
  | .sortDecl nm hk => if kHas (sortsDict r) nm then none else some { r with sorts := r.sorts ++ [(nm, hk)] }
  | .symbolDecl nm vars params srt attrs =>
      match mapOpt (sortRefRaw (sortsDict r) (varMap vars)) params with
      | none => none
      | some ins =>
        match sortRefRaw (sortsDict r) (varMap vars) srt with
        | none => none
        | some out =>
          if kHas (symbolsDict r) nm then none
          else some { r with symbols := r.symbols ++ [⟨nm, vars.map fun v => ⟨sortName v⟩, out, ins,
                        (attrNames attrs).contains (strName "functional"), (attrNames attrs).contains (strName "constructor"),
                        (attrNames attrs).contains (strName "cell")⟩] }
  | .«axiom» p =>
      if isRewriteRule p then (conv (sgOf r) {} (stripSideConditions p)).map (addRule r .rewrite)
      else if isEquationalRule p then (conv (sgOf r) {} p).map (addRule r .equational)
      else some { r with nAxioms := r.nAxioms + 1 }
  | .other => some r

def stepsR : RSt → List KSentence → Option RSt
  | r, [] => some r
  | r, s :: ss => (stepR r s).bind fun r' => stepsR r' ss

def NotSelfImport (name : Nat) : KSentence → Prop
  | .«import» m => m ≠ name
  | _ => True

theorem addRule_wf {r : RSt} (kind : RuleKind) (x : Scope × NPat) (h : WF r) : WF (addRule r kind x) := by
  intro ru hru
  simp only [addRule, List.mem_append, List.mem_singleton] at hru
  rcases hru with hru | rfl
  · exact Nat.lt_succ_of_lt (h ru hru)
  · exact Nat.lt_succ_self _

/-- a sentence keeps the name of the module and the bound on the ordinals -/
theorem stepR_keeps {r r' : RSt} {s : KSentence} (h : stepR r s = some r') : r'.name = r.name ∧ (WF r → WF r') := by
  cases s with
  | «import» m => simp [stepR] at h
  | sortDecl nm hk => simp only [stepR] at h; split at h <;> simp at h; subst h; exact ⟨rfl, id⟩
  | symbolDecl nm vars params srt attrs =>
    simp only [stepR] at h
    split at h; · simp at h
    split at h; · simp at h
    split at h <;> simp at h; subst h; exact ⟨rfl, id⟩
  | «axiom» p =>
    simp only [stepR] at h
    split at h
    · cases hc : conv (sgOf r) {} (stripSideConditions p) <;> simp [hc] at h; subst h; exact ⟨rfl, addRule_wf _ _⟩
    · split at h
      · cases hc : conv (sgOf r) {} p <;> simp [hc] at h; subst h; exact ⟨rfl, addRule_wf _ _⟩
      · simp at h; subst h
        exact ⟨rfl, fun hw ru hru => Nat.lt_succ_of_lt (hw ru hru)⟩
  | other => simp [stepR] at h; subst h; exact ⟨rfl, id⟩

theorem stepR_wf {r r' : RSt} {s : KSentence} (hw : WF r) (h : stepR r s = some r') : WF r' := (stepR_keeps h).2 hw

/-- the loop over the sentences of the module, for any body that does what `stepR` does (the generated body does:
`from_kore_definition_eq`) -/
theorem sentences_loop {β} (body : KSentence → PyLS → (PyLS → Py β) → Py β)
    (hb : ∀ s r cont, WF r → NotSelfImport r.name s →
      body s (heapOf (some true) (some true) r) cont
        = match stepR r s with
          | none => some none
          | some r' => cont (heapOf (some true) (some true) r')) :
    ∀ (ss : List KSentence) (r : RSt) (k : PyLS → Py β), WF r → (∀ s ∈ ss, NotSelfImport r.name s) →
      forEach ss (heapOf (some true) (some true) r) body k
        = match stepsR r ss with
          | none => some none
          | some r' => k (heapOf (some true) (some true) r') := by
  intro ss
  induction ss with
  | nil => intro r k _ _; rfl
  | cons s ss ih =>
    intro r k hw hns
    simp only [forEach, stepsR]
    rw [hb s r _ hw (hns s (List.mem_cons_self ..))]
    cases hs : stepR r s with
    | none => rfl
    | some r' =>
      simp only [Option.bind_some]
      apply ih r' k (stepR_wf hw hs)
      intro s' hs'
      rw [(stepR_keeps hs).1]
      exact hns s' (List.mem_cons_of_mem _ hs')

/-! ## `from_kore_definition` -/

theorem call_some {α β} (a : α) (k : α → Py β) : call (some (some a)) k = k a := rfl

theorem kHas_false {α} {d : KDict α} {k : Nat} (h : ¬ kHas d k = true) : d.lookup k = none := by
  unfold kHas at h; cases hl : d.lookup k with
  | none => rfl
  | some v => simp [hl] at h

theorem heap_add_sort (pL pM : Option Bool) (r : RSt) (nm : Nat) (hk : Bool) (h : ¬ kHas (sortsDict r) nm = true) :
    rawHeap pL pM r.name (kSet (sortsDict r) nm ⟨nm, hk⟩) (symbolsDict r) (axiomsDict r.rules) (scopesDict r.rules) r.nAxioms
      = heapOf pL pM { r with sorts := r.sorts ++ [(nm, hk)] } := by
  rw [KoreTie.kSet_new _ _ _ (kHas_false h)]
  simp [heapOf, sortsDict, symbolsDict]

theorem heap_add_symbol (pL pM : Option Bool) (r : RSt) (sym : PyKSymbol) (h : ¬ kHas (symbolsDict r) sym.name = true) :
    rawHeap pL pM r.name (sortsDict r) (kSet (symbolsDict r) sym.name sym) (axiomsDict r.rules) (scopesDict r.rules) r.nAxioms
      = heapOf pL pM { r with symbols := r.symbols ++ [sym] } := by
  rw [KoreTie.kSet_new _ _ _ (kHas_false h)]
  simp [heapOf, sortsDict, symbolsDict]

theorem find_freshM {rules : List Rule} {c : Nat} (hw : ∀ ru ∈ rules, ru.ordinal < c) : rules.find? (·.ordinal == c) = none := by
  rw [List.find?_eq_none]
  intro ru hru
  have := hw ru hru
  simp; omega

theorem find_fresh {r : RSt} (hw : WF r) : r.rules.find? (·.ordinal == r.nAxioms) = none := find_freshM hw

theorem heap_add_rule (pL pM : Option Bool) (r : RSt) (kind : RuleKind) (x : Scope × NPat) (hw : WF r) :
    rawHeap pL pM r.name (sortsDict r) (symbolsDict r)
        (kSet (axiomsDict r.rules) r.nAxioms (axiomOf ⟨r.nAxioms, kind, x.2, x.1⟩))
        (kSet (scopesDict r.rules) r.nAxioms (scopeObj x.1)) (r.nAxioms + 1)
      = heapOf pL pM (addRule r kind x) := by
  have h1 : (axiomsDict r.rules).lookup r.nAxioms = none := by rw [axioms_lookup, find_fresh hw]; rfl
  have h2 : (scopesDict r.rules).lookup r.nAxioms = none := by rw [scopes_lookup, find_fresh hw]; rfl
  rw [KoreTie.kSet_new _ _ _ h1, KoreTie.kSet_new _ _ _ h2]
  simp [heapOf, addRule, sortsDict, symbolsDict, axiomsDict, scopesDict]

/-- the conversion in a fresh scope, on the view of any store -/
theorem convert_fresh_view (h : PyLS) (t : KTerm) :
    Gen.PyKore.LanguageSemantics._convert_pattern (semView h) Gen.PyKore.ConvertionScope.__init__ t
      = KoreTie.lift Gen.PyKore.ConvertionScope.__init__ (conv (sigView h) {} t) := by
  have := KoreTie.convert_pattern_rec_eq (semView h) Gen.PyKore.ConvertionScope.__init__ {} t
  rw [← KoreTie.init_scope] at this
  exact this

theorem convert_fresh (pL pM : Option Bool) (r : RSt) (t : KTerm) :
    Gen.PyKore.LanguageSemantics._convert_pattern (semView (heapOf pL pM r)) Gen.PyKore.ConvertionScope.__init__ t
      = KoreTie.lift Gen.PyKore.ConvertionScope.__init__ (conv (sgOf r) {} t) := by
  rw [convert_fresh_view, sigView_heapOf]

theorem sortsDict_key (r : RSt) : ∀ k v, (sortsDict r).lookup k = some v → v.name = k := by
  intro k v h
  rw [sorts_lookup', sortOf] at h
  cases hf : r.sorts.find? (·.1 == k) with
  | none => simp [hf] at h
  | some e => simp [hf] at h; subst h; rfl

def initR (name : Nat) : RSt := { name := name, sorts := [], symbols := [], rules := [], nAxioms := 0 }

theorem from_kore_definition_eq (so : SetOrder) (hso : so.Valid) (n : Nat) (m : KModuleDef)
    (hfrag : ∀ s ∈ m.sentences, NotSelfImport m.name s) :
    LanguageSemantics.from_kore_definition so (n + 2) ⟨[m]⟩
      = match stepsR (initR m.name) m.sentences with
        | none => some none
        | some r => ret (heapOf (some false) (some false) r) := by
  unfold LanguageSemantics.from_kore_definition
  dsimp only [forEach]
  have e1 : LanguageSemantics.__enter__ LanguageSemantics.__init__
      = ret { LanguageSemantics.__init__ with _parsing := some true } := rfl
  have e2 : LanguageSemantics.module { LanguageSemantics.__init__ with _parsing := some true } m.name
      = ret (heapOf (some true) none (initR m.name), 0) := rfl
  have e3 : KModule.__enter__ (heapOf (some true) none (initR m.name)) 0 = ret (heapOf (some true) (some true) (initR m.name), 0) := rfl
  rw [e1, KoreTie.call_ret_val, e2, KoreTie.call_ret_val]
  dsimp only
  rw [e3, KoreTie.call_ret_val]
  dsimp only
  rw [sentences_loop _ _ m.sentences (initR m.name) _ (by intro ru h; cases h) hfrag]
  · cases stepsR (initR m.name) m.sentences with
    | none => rfl
    | some r => rfl
  · intro s r cont hw hns
    cases s with
    | «import» mn =>
      have hne : (r.name == mn) = false := by
        simp only [NotSelfImport] at hns
        simpa using fun h : r.name = mn => hns h.symm
      have : LanguageSemantics.get_module so (n + 2) (heapOf (some true) (some true) r) mn = raise := by
        unfold LanguageSemantics.get_module
        rw [ls_modules_eq so hso]
        simp only [KoreTie.call_ret_val, forEach]
        show (if (r.name == mn) = true then _ else _) = _
        rw [hne]; rfl
      dsimp only
      rw [this]; rfl
    | sortDecl nm hk =>
      dsimp only
      rw [heapOf, sortDecl_raw]
      by_cases hh : kHas (sortsDict r) nm = true
      · simp only [stepR, hh, if_true]; rfl
      · simp only [stepR, hh, Bool.false_eq_true, if_false]
        rw [heap_add_sort _ _ _ _ _ hh]
    | symbolDecl nm vars params srt attrs =>
      dsimp only
      have hv : kDictOf (List.map (fun v_v => (v_v.name, v_v)) (List.map (fun v_v => ({ name := sortName v_v } : PyKSortVar)) vars))
          = varMap vars := rfl
      rw [hv, heapOf]
      rw [mapPy_total _ _ (sortRefRaw (sortsDict r) (varMap vars))
        (by intro x; rw [convert_ksort_raw]; cases sortRefRaw (sortsDict r) (varMap vars) x <;> rfl)]
      cases hm : mapOpt (sortRefRaw (sortsDict r) (varMap vars)) params with
      | none => simp only [stepR, hm]
      | some ins =>
        dsimp only
        rw [convert_ksort_raw]
        cases ho : sortRefRaw (sortsDict r) (varMap vars) srt with
        | none => simp only [stepR, hm, ho]; rfl
        | some out =>
          rw [call_some]
          have hout : ∀ b, out = .sort b → (sortsDict r).lookup b.name = some b := by
            intro b hb; subst hb; exact sortRefRaw_sort (sortsDict_key r) ho
          have hins : ∀ b, PySortRef.sort b ∈ ins → (sortsDict r).lookup b.name = some b := by
            intro b hb
            obtain ⟨x, _, hx⟩ := mapOpt_mem hm _ hb
            exact sortRefRaw_sort (sortsDict_key r) hx
          rw [symbol_raw _ _ _ _ _ _ _ _ _ _ _ _ _ _ _ hout hins]
          by_cases hh : kHas (symbolsDict r) nm = true
          · simp only [stepR, hm, ho, hh, if_true]; rfl
          · simp only [stepR, hm, ho, hh, Bool.false_eq_true, if_false]
            rw [KoreTie.call_ret_val]
            exact congrArg cont (heap_add_symbol _ _ r ⟨nm, _, out, ins, _, _, _⟩ hh)
    | «axiom» p =>
      dsimp only
      rw [is_rewrite_rule_eq, KoreTie.call_ret_val]
      by_cases hrw : isRewriteRule p = true
      · obtain ⟨s, s1, l, l2, s2, rr, r2, rfl⟩ := rewrite_shape hrw
        rw [if_pos hrw]
        show call (Gen.PyKore.LanguageSemantics._convert_pattern _ _ (KTerm.rewrites s l rr)) _ = _
        rw [convert_fresh, KoreTie.call_lift]
        simp only [stepR, hrw, if_true, stripSideConditions]
        cases hc : conv (sgOf r) {} (KTerm.rewrites s l rr) with
        | none => rfl
        | some x =>
          dsimp only [Option.map_some]
          rw [heapOf, rewrite_rule_raw, KoreTie.call_ret_val]
          exact congrArg cont (heap_add_rule _ _ r .rewrite x hw)
      · rw [if_neg hrw, is_equational_rule_eq, KoreTie.call_ret_val]
        by_cases heq : isEquationalRule p = true
        · rw [if_pos heq, convert_fresh, KoreTie.call_lift]
          simp only [stepR, hrw, heq, if_true, Bool.false_eq_true, if_false]
          cases hc : conv (sgOf r) {} p with
          | none => rfl
          | some x =>
            dsimp only [Option.map_some]
            rw [heapOf, equational_rule_raw, KoreTie.call_ret_val]
            exact congrArg cont (heap_add_rule _ _ r .equational x hw)
        · rw [if_neg heq]
          simp only [stepR, hrw, heq, Bool.false_eq_true, if_false]
          rfl
    | other => rfl

/-! ## the refined state against the specification -/

def proj (r : RSt) : DefSem := { sg := sgOf r, rules := r.rules, nAxioms := r.nAxioms }

theorem lookup_kSet_ne {α} (d : KDict α) (k k' : Nat) (v : α) (h : k ≠ k') : (kSet d k' v).lookup k = d.lookup k := by
  induction d with
  | nil =>
    have h1 : (k == k') = false := by simpa using h
    simp [kSet, List.lookup, h1]
  | cons e r ih =>
    obtain ⟨k0, w⟩ := e
    by_cases hk : (k0 == k') = true
    · have hk' : k0 = k' := by simpa using hk
      subst hk'
      have h1 : (k == k0) = false := by simpa using h
      simp [kSet, List.lookup, h1]
    · simp only [kSet, hk, Bool.false_eq_true, if_false, List.lookup]
      cases k == k0 <;> simp [ih]

theorem kDictOf_has {α} (kvs : List (Nat × α)) (k : Nat) : ((kDictOf kvs).lookup k).isSome = kvs.any (·.1 == k) := by
  have gen : ∀ (kvs : List (Nat × α)) (d : KDict α),
      ((kvs.foldl (fun d kv => kSet d kv.1 kv.2) d).lookup k).isSome = ((d.lookup k).isSome || kvs.any (·.1 == k)) := by
    intro kvs
    induction kvs with
    | nil => intro d; simp
    | cons e l ih =>
      intro d
      simp only [List.foldl_cons, ih, List.any_cons]
      by_cases he : e.1 = k
      · subst he; simp [KoreTie.lookup_kSet]
      · have : (e.1 == k) = false := by simpa using he
        rw [lookup_kSet_ne _ _ _ _ (fun h => he h.symm), this]; simp
  have := gen kvs []
  simpa [kDictOf] using this

theorem kHas_sorts (r : RSt) (k : Nat) : kHas (sortsDict r) k = (sgOf r).sorts.contains k := by
  unfold kHas
  rw [sorts_lookup, sgOf, Bool.eq_iff_iff]
  simp

theorem symDeclOf_name (s : PyKSymbol) : (symDeclOf s).name = s.name := rfl

theorem kHas_symbols (r : RSt) (k : Nat) : kHas (symbolsDict r) k = (sgOf r).symbols.any (·.name == k) := by
  unfold kHas
  rw [symbols_lookup, sgOf, Bool.eq_iff_iff]
  simp [symDeclOf_name]

theorem sortRef_ok (r : RSt) (vars : List KSort) (s : KSort) :
    (sortRefRaw (sortsDict r) (varMap vars) s).isSome = sortOk (sgOf r) vars s := by
  cases s with
  | var x =>
    simp only [sortRefRaw, sortOk, Option.isSome_map, varMap, kDictOf_has, List.any_map]
    rfl
  | app k =>
    simp only [sortRefRaw, sortOk, Option.isSome_map]
    exact kHas_sorts r k

theorem mapOpt_isSome {α β} (g : α → Option β) (l : List α) : (mapOpt g l).isSome = l.all fun x => (g x).isSome := by
  induction l with
  | nil => rfl
  | cons x xs ih =>
    simp only [mapOpt, List.all_cons]
    cases g x with
    | none => rfl
    | some y => simp [ih]

theorem attr_has (attrs : List KTerm) (a : String) : (attrNames attrs).contains (strName a) = hasAttr attrs a := by
  unfold attrNames hasAttr
  induction attrs with
  | nil => rfl
  | cons t ts ih =>
    cases t with
    | app sym sorts args =>
      simp only [List.filterMap_cons, LanguageSemantics.from_kore_definition.comp1, List.any_cons, List.contains_cons, ih]
      rw [BEq.comm (a := strName a)]
    | _ => exact ih

theorem stepR_spec (r : RSt) (s : KSentence) : addSentence (proj r) s = (stepR r s).map proj := by
  cases s with
  | «import» m => rfl
  | other => rfl
  | sortDecl nm hk =>
    simp only [addSentence, stepR, kHas_sorts]
    by_cases h : (sgOf r).sorts.contains nm = true
    · rw [if_pos (show (proj r).sg.sorts.contains nm = true from h), if_pos h]; rfl
    · rw [if_neg (show ¬ (proj r).sg.sorts.contains nm = true from h), if_neg h]
      simp [proj, sgOf]
  | «axiom» p =>
    simp only [addSentence, stepR, ruleOf, proj]
    by_cases h1 : isRewriteRule p = true
    · simp only [h1, if_true]
      cases conv (sgOf r) {} (stripSideConditions p) <;> rfl
    · by_cases h2 : isEquationalRule p = true
      · simp only [h1, h2, if_true, Bool.false_eq_true, if_false]
        cases conv (sgOf r) {} p <;> rfl
      · simp only [h1, h2, Bool.false_eq_true, if_false]; rfl
  | symbolDecl nm vars params srt attrs =>
    have hs : (proj r).sg.symbols.any (·.name == nm) = kHas (symbolsDict r) nm := (kHas_symbols r nm).symm
    have hall : (params ++ [srt]).all (sortOk (proj r).sg vars)
        = ((mapOpt (sortRefRaw (sortsDict r) (varMap vars)) params).isSome && (sortRefRaw (sortsDict r) (varMap vars) srt).isSome) := by
      rw [mapOpt_isSome, List.all_append]; simp [sortRef_ok, proj]
    simp only [addSentence, stepR, hs, hall]
    cases hm : mapOpt (sortRefRaw (sortsDict r) (varMap vars)) params with
    | none => by_cases hh : kHas (symbolsDict r) nm = true <;> simp [hh]
    | some ins =>
      cases ho : sortRefRaw (sortsDict r) (varMap vars) srt with
      | none => by_cases hh : kHas (symbolsDict r) nm = true <;> simp [hh]
      | some out =>
        by_cases hh : kHas (symbolsDict r) nm = true
        · simp [hh]
        · simp [hh, proj, sgOf, symDeclOf, symDecl, ← attr_has, mapOpt_length hm]

theorem stepsR_spec (r : RSt) (ss : List KSentence) : addSentences (proj r) ss = (stepsR r ss).map proj := by
  induction ss generalizing r with
  | nil => rfl
  | cons s ss ih =>
    simp only [addSentences, stepsR, stepR_spec]
    cases stepR r s with
    | none => rfl
    | some r' => simp [ih]


/-! ## the finished semantics: what `from_kore_definition` returns, and its queries -/

/-- one module that does not import itself -/
def InFragment (d : KDefinition) : Prop := ∃ m, d.modules = [m] ∧ ∀ s ∈ m.sentences, NotSelfImport m.name s

/-- the store `h` is a finished one-module semantics whose meaning is `ds` -/
def Represents (h : PyLS) (ds : DefSem) : Prop := ∃ r, h = heapOf (some false) (some false) r ∧ proj r = ds

theorem stepsR_wf {r r' : RSt} {ss : List KSentence} (hw : WF r) (h : stepsR r ss = some r') : WF r' := by
  induction ss generalizing r with
  | nil => simp [stepsR] at h; subst h; exact hw
  | cons s ss ih =>
    simp only [stepsR] at h
    cases hs : stepR r s with
    | none => simp [hs] at h
    | some r1 => simp [hs] at h; exact ih (stepR_wf hw hs) h

theorem initR_proj (name : Nat) : proj (initR name) = { sg := { sorts := [], symbols := [] }, rules := [], nAxioms := 0 } := rfl

/-- `from_kore_definition` on a definition of the fragment: it raises exactly when the specification refuses the
definition, and otherwise returns a store that represents `sigOfDefinition d` -/
theorem from_kore_definition_spec (so : SetOrder) (hso : so.Valid) (n : Nat) (d : KDefinition) (hf : InFragment d) :
    match sigOfDefinition d with
    | none => LanguageSemantics.from_kore_definition so (n + 2) d = raise
    | some ds => ∃ h, LanguageSemantics.from_kore_definition so (n + 2) d = ret h ∧ Represents h ds := by
  obtain ⟨m, hm, hns⟩ := hf
  have hd : d = ⟨[m]⟩ := by cases d; simp at hm; subst hm; rfl
  subst hd
  rw [from_kore_definition_eq so hso n m hns]
  simp only [sigOfDefinition, ← initR_proj m.name, stepsR_spec]
  cases hs : stepsR (initR m.name) m.sentences with
  | none => rfl
  | some r =>
    exact ⟨_, rfl, r, rfl, rfl⟩

theorem represents_sig {h : PyLS} {ds : DefSem} (hr : Represents h ds) : sigView h = ds.sg := by
  obtain ⟨r, rfl, rfl⟩ := hr; exact sigView_heapOf _ _ r

theorem ls_get_axiom_heap (n : Nat) (pL pM : Option Bool) (r : RSt) (o : Nat) :
    LanguageSemantics.get_axiom (n + 2) (heapOf pL pM r) o = some ((r.rules.find? (·.ordinal == o)).map axiomOf) := by
  unfold LanguageSemantics.get_axiom
  show call (KModule.get_axiom (n + 2) (heapOf pL pM r) 0 o) _ = _
  rw [kmodule_get_axiom_eq]
  cases r.rules.find? (·.ordinal == o) <;> rfl

/-- `get_axiom(ordinal)`: the rule with this ordinal (`ValueError` if there is none) -/
theorem get_axiom_eq (n : Nat) {h : PyLS} {ds : DefSem} (hr : Represents h ds) (o : Nat) :
    LanguageSemantics.get_axiom (n + 2) h o = some ((ds.rule? o).map axiomOf) := by
  obtain ⟨r, rfl, rfl⟩ := hr
  exact ls_get_axiom_heap n _ _ r o

/-- the scope cached for an ordinal is the scope object of the rule with this ordinal -/
theorem cached_scope_eq {h : PyLS} {ds : DefSem} (hr : Represents h ds) (o : Nat) :
    h._cached_axiom_scopes.lookup o = (ds.rule? o).map fun ru => scopeObj ru.scope := by
  obtain ⟨r, rfl, rfl⟩ := hr
  exact scopes_lookup r.rules o

theorem ls_get_sort_heap (so : SetOrder) (hso : so.Valid) (n : Nat) (pL pM : Option Bool) (r : RSt) (k : Nat) :
    LanguageSemantics.get_sort so (n + 2) (heapOf pL pM r) k = some (sortOf r k) := by
  unfold LanguageSemantics.get_sort
  rw [ls_modules_eq so hso]
  simp only [KoreTie.call_ret_val, List.reverse_cons, List.reverse_nil, List.nil_append, forEach, kmodule_get_sort_eq]
  cases sortOf r k <;> rfl

theorem ls_get_symbol_heap (so : SetOrder) (hso : so.Valid) (n : Nat) (pL pM : Option Bool) (r : RSt) (k : Nat) :
    LanguageSemantics.get_symbol so (n + 2) (heapOf pL pM r) k = some (r.symbols.find? (·.name == k)) := by
  unfold LanguageSemantics.get_symbol
  rw [ls_modules_eq so hso]
  simp only [KoreTie.call_ret_val, List.reverse_cons, List.reverse_nil, List.nil_append, forEach, kmodule_get_symbol_eq]
  cases r.symbols.find? (·.name == k) <;> rfl

theorem find_symDecl (l : List PyKSymbol) (k : Nat) :
    (l.map symDeclOf).find? (·.name == k) = (l.find? (·.name == k)).map symDeclOf := by
  rw [List.find?_map]; rfl

/-- `get_sort`: the hand-written primitive on the view is the translated function on the store; it finds exactly the declared sorts -/
theorem get_sort_view (so : SetOrder) (hso : so.Valid) (n : Nat) (pL pM : Option Bool) (r : RSt) (k : Nat) :
    PyK.get_sort (semView (heapOf pL pM r)) k
      = (LanguageSemantics.get_sort so (n + 2) (heapOf pL pM r) k).map (Option.map fun s => ⟨s.name⟩) := by
  rw [ls_get_sort_heap so hso]
  simp only [PyK.get_sort, semView, sigView_heapOf, ← kHas_sorts, kHas, sorts_lookup']
  unfold sortOf
  cases r.sorts.find? (·.1 == k) <;> rfl

/-- `get_symbol`: the hand-written primitive on the view is the translated function on the store (`symDeclOf`) -/
theorem get_symbol_view (so : SetOrder) (hso : so.Valid) (n : Nat) (pL pM : Option Bool) (r : RSt) (k : Nat) :
    PyK.get_symbol (semView (heapOf pL pM r)) k
      = (LanguageSemantics.get_symbol so (n + 2) (heapOf pL pM r) k).map (Option.map symDeclOf) := by
  rw [ls_get_symbol_heap so hso]
  simp only [PyK.get_symbol, semView, sigView_heapOf, sgOf, find_symDecl]
  cases r.symbols.find? (·.name == k) <;> rfl

theorem unwrap_kore_name_sym (s : Nat) :
    KSymbol.unwrap_kore_name (.sym s)
      = ret (if s ≥ 2001 ∧ s < 100000 ∧ (s - 2001) % 2 = 0 then some ((s - 2001) / 2) else none) := by
  unfold KSymbol.unwrap_kore_name
  have h1 : nameStartsWith s "ksym_" = decide (s ≥ 2001 ∧ s < 100000 ∧ (s - 2001) % 2 = 0) := rfl
  have h2 : nameRemovePrefix s "ksym_" = (s - 2001) / 2 := rfl
  simp only [symName, h1, h2]
  by_cases hs : s ≥ 2001 ∧ s < 100000 ∧ (s - 2001) % 2 = 0
  · rw [if_pos hs]; simp [hs]
  · rw [if_neg hs]; simp [hs]

/-- `resolve_to_ksymbol(Symbol(s))` on any store: `get_symbol` of the Kore name that `s` stands for, `None` if it stands for none
or `get_symbol` raises -/
theorem resolve_to_ksymbol_sym (so : SetOrder) (n : Nat) (h : PyLS) (s : Nat) :
    LanguageSemantics.resolve_to_ksymbol so n h (.sym s)
      = if s ≥ 2001 ∧ s < 100000 ∧ (s - 2001) % 2 = 0
        then tryExcept (call (LanguageSemantics.get_symbol so n h ((s - 2001) / 2)) fun t => ret (some t)) (ret none)
        else ret none := by
  unfold LanguageSemantics.resolve_to_ksymbol
  rw [unwrap_kore_name_sym, KoreTie.call_ret_val]
  split <;> rfl

theorem resolve_to_ksymbol_heap (so : SetOrder) (hso : so.Valid) (n : Nat) (pL pM : Option Bool) (r : RSt) (s : Nat) :
    LanguageSemantics.resolve_to_ksymbol so (n + 2) (heapOf pL pM r) (.sym s)
      = ret (if s ≥ 2001 ∧ s < 100000 ∧ (s - 2001) % 2 = 0 then r.symbols.find? (·.name == (s - 2001) / 2) else none) := by
  rw [resolve_to_ksymbol_sym, ls_get_symbol_heap so hso]
  split
  · cases r.symbols.find? (·.name == (s - 2001) / 2) <;> rfl
  · rfl

/-- `resolve_to_ksymbol`: likewise -/
theorem resolve_to_ksymbol_view (so : SetOrder) (hso : so.Valid) (n : Nat) (pL pM : Option Bool) (r : RSt) (s : Nat) :
    (LanguageSemantics.resolve_to_ksymbol so (n + 2) (heapOf pL pM r) (.sym s)).map (Option.map (Option.map symDeclOf))
      = ret (PyK.resolve_to_ksymbol (semView (heapOf pL pM r)) s) := by
  rw [resolve_to_ksymbol_heap so hso]
  unfold PyK.resolve_to_ksymbol
  simp only [semView, sigView_heapOf, sgOf, find_symDecl]
  split <;> rfl

/-- `get_sort(name)` on a finished semantics: exactly the sorts of the signature (`ValueError` otherwise) -/
theorem get_sort_eq (so : SetOrder) (hso : so.Valid) (n : Nat) {h : PyLS} {ds : DefSem} (hr : Represents h ds) (k : Nat) :
    (LanguageSemantics.get_sort so (n + 2) h k).map (Option.map fun s => s.name)
      = some (if ds.sg.sorts.contains k then some k else none) := by
  obtain ⟨r, rfl, rfl⟩ := hr
  rw [ls_get_sort_heap so hso]
  show _ = some (if (sgOf r).sorts.contains k then some k else none)
  rw [← kHas_sorts, kHas, sorts_lookup']
  unfold sortOf
  cases r.sorts.find? (·.1 == k) <;> rfl

/-- `get_symbol(name)` on a finished semantics: the declaration of the signature with this name (`ValueError` if there is none) -/
theorem get_symbol_eq (so : SetOrder) (hso : so.Valid) (n : Nat) {h : PyLS} {ds : DefSem} (hr : Represents h ds) (k : Nat) :
    (LanguageSemantics.get_symbol so (n + 2) h k).map (Option.map symDeclOf) = some (ds.sg.symbols.find? (·.name == k)) := by
  obtain ⟨r, rfl, rfl⟩ := hr
  rw [← get_symbol_view so hso n]
  simp only [PyK.get_symbol, semView, sigView_heapOf]
  show _ = some ((sgOf r).symbols.find? (·.name == k))
  cases (sgOf r).symbols.find? (·.name == k) <;> rfl

/-- `resolve_to_ksymbol(Symbol(s))` on a finished semantics: the declaration of the Kore symbol that `s` names, if `s` is a `ksym_` name -/
theorem resolve_to_ksymbol_eq (so : SetOrder) (hso : so.Valid) (n : Nat) {h : PyLS} {ds : DefSem} (hr : Represents h ds) (s : Nat) :
    (LanguageSemantics.resolve_to_ksymbol so (n + 2) h (.sym s)).map (Option.map (Option.map symDeclOf))
      = ret (if s ≥ 2001 ∧ s < 100000 ∧ (s - 2001) % 2 = 0 then ds.sg.symbols.find? (·.name == (s - 2001) / 2) else none) := by
  obtain ⟨r, rfl, rfl⟩ := hr
  rw [resolve_to_ksymbol_view so hso n]
  simp only [PyK.resolve_to_ksymbol, semView, sigView_heapOf]
  rfl

/-! ## `get_proof_hints` -/

/-- the `RewriteStepExpression` of a step -/
def hintOf (s : Step) : PyHint :=
  { configuration_before := s.before, configuration_after := s.after, «axiom» := axiomOf s.rule, substitutions := s.subst }

theorem axiomOf_setScope (ru : Rule) (sc : Scope) : axiomOf { ru with scope := sc } = axiomOf ru := by
  cases ru with | mk o k p s => cases k <;> rfl

theorem axiomsDict_setScope (rules : List Rule) (o : Nat) (sc : Scope) : axiomsDict (setScope rules o sc) = axiomsDict rules := by
  induction rules with
  | nil => rfl
  | cons ru l ih =>
    simp only [setScope]
    by_cases h : (ru.ordinal == o) = true
    · simp only [h, if_true, axiomsDict, List.map_cons, axiomOf_setScope]
    · simp only [h, Bool.false_eq_true, if_false]
      simp only [axiomsDict, List.map_cons] at ih ⊢
      rw [ih]

theorem scopesDict_setScope (rules : List Rule) (o : Nat) (sc : Scope) (ru : Rule) (h : rules.find? (·.ordinal == o) = some ru) :
    kSet (scopesDict rules) o (scopeObj sc) = scopesDict (setScope rules o sc) := by
  induction rules with
  | nil => simp at h
  | cons r0 l ih =>
    simp only [List.find?_cons] at h
    by_cases h0 : (r0.ordinal == o) = true
    · simp only [setScope, h0, if_true, scopesDict, List.map_cons, kSet]
    · simp only [h0] at h
      simp only [setScope, h0, Bool.false_eq_true, if_false, scopesDict, List.map_cons, kSet]
      simp only [scopesDict] at ih
      rw [ih h]

/-- the store after the scope of the rule `o` has been extended -/
def withRules (r : RSt) (rules : List Rule) : RSt := { r with rules := rules }

theorem sgOf_withRules (r : RSt) (rules : List Rule) : sgOf (withRules r rules) = sgOf r := rfl
theorem withRules_rules (r : RSt) (rules : List Rule) : (withRules r rules).rules = rules := rfl
theorem withRules_withRules (r : RSt) (a b : List Rule) : withRules (withRules r a) b = withRules r b := rfl

theorem heap_setScope (pL pM : Option Bool) (r : RSt) (o : Nat) (sc : Scope) (ru : Rule)
    (h : r.rules.find? (·.ordinal == o) = some ru) :
    semBack (heapOf pL pM r) { semView (heapOf pL pM r) with _cached_axiom_scopes := kSet (semView (heapOf pL pM r))._cached_axiom_scopes o (scopeObj sc) }
      = heapOf pL pM (withRules r (setScope r.rules o sc)) := by
  simp only [semBack, semView, heapOf, withRules, rawHeap]
  rw [scopesDict_setScope _ _ _ _ h, axiomsDict_setScope]
  rfl

end KDefTie

/-! ## `get_proof_hints` on ANY store that answers `get_axiom` / the cached scopes like a list of rules (`HintInv`)

`get_proof_hints` reads the store only through `semView` (signature, cached scopes), `get_axiom` and writes only the cache (`semBack`);
`get_axiom` does not read the cache (`ls_get_axiom_cache`). -/
namespace KDefTieM2
open PyI PyM PyK Kore Gen.PyKDef KDefSpec KDefTie

theorem modules_cache (h : PyLS) (c : KDict PyScope) :
    ∀ n self, KModule.modules n { h with _cached_axiom_scopes := c } self = KModule.modules n h self := by
  intro n
  induction n with
  | zero => intro self; rfl
  | succ n ih => intro self; unfold KModule.modules; simp only [ih]; rfl

theorem kget_axiom_cache (h : PyLS) (c : KDict PyScope) (o : Nat) :
    ∀ n self, KModule.get_axiom n { h with _cached_axiom_scopes := c } self o = KModule.get_axiom n h self o := by
  intro n
  induction n with
  | zero => intro self; rfl
  | succ n ih => intro self; unfold KModule.get_axiom; simp only [ih, modules_cache]; rfl

theorem ls_get_axiom_cache (h : PyLS) (c : KDict PyScope) (n o : Nat) :
    LanguageSemantics.get_axiom n { h with _cached_axiom_scopes := c } o = LanguageSemantics.get_axiom n h o := by
  unfold LanguageSemantics.get_axiom LanguageSemantics.main_module
  simp only [kget_axiom_cache]

theorem find_setScope_ne (rules : List Rule) (o o' : Nat) (sc : Scope) (hne : o' ≠ o) :
    (setScope rules o sc).find? (·.ordinal == o') = rules.find? (·.ordinal == o') := by
  induction rules with
  | nil => rfl
  | cons r rs ih =>
    by_cases h : (r.ordinal == o) = true
    · have h' : (r.ordinal == o') = false := by
        have : r.ordinal = o := by simpa using h
        simpa [this] using fun e : o = o' => hne e.symm
      simp [setScope, h, List.find?_cons, h']
    · simp only [setScope, h, Bool.false_eq_true, if_false, List.find?_cons, ih]

theorem find_setScope_eq (rules : List Rule) (o : Nat) (sc : Scope) :
    (setScope rules o sc).find? (·.ordinal == o) = (rules.find? (·.ordinal == o)).map fun ru => { ru with scope := sc } := by
  induction rules with
  | nil => rfl
  | cons r rs ih =>
    by_cases h : (r.ordinal == o) = true
    · simp [setScope, h, List.find?_cons]
    · simp only [setScope, h, Bool.false_eq_true, if_false, List.find?_cons, ih]

/-- the store answers `get_axiom` and holds the cached scopes of the rules `rules`; its signature is `sg` -/
structure HintInv (n : Nat) (sg : Sig) (h : PyLS) (rules : List Rule) : Prop where
  sig : sigView h = sg
  ax : ∀ o, LanguageSemantics.get_axiom n h o = some ((rules.find? (·.ordinal == o)).map axiomOf)
  cache : ∀ o ru, rules.find? (·.ordinal == o) = some ru → h._cached_axiom_scopes.lookup o = some (scopeObj ru.scope)

theorem hintInv_step {n sg h rules} (hi : HintInv n sg h rules) (o : Nat) (sc : Scope) :
    HintInv n sg { h with _cached_axiom_scopes := kSet h._cached_axiom_scopes o (scopeObj sc) } (setScope rules o sc) where
  sig := hi.sig
  ax := by
    intro o'
    rw [ls_get_axiom_cache, hi.ax]
    by_cases he : o' = o
    · subst he
      rw [find_setScope_eq]
      cases rules.find? (·.ordinal == o') with
      | none => rfl
      | some ru => simp [axiomOf_setScope]
    · rw [find_setScope_ne _ _ _ _ he]
  cache := by
    intro o' ru hf
    by_cases he : o' = o
    · subst he
      rw [find_setScope_eq] at hf
      show (kSet _ _ _).lookup _ = _
      rw [KoreTie.lookup_kSet]
      cases hr : rules.find? (·.ordinal == o') with
      | none => simp [hr] at hf
      | some r0 => simp [hr] at hf; subst hf; rfl
    · rw [find_setScope_ne _ _ _ _ he] at hf
      show (kSet _ _ _).lookup _ = _
      rw [lookup_kSet_ne _ _ _ _ he]
      exact hi.cache o' ru hf

/-- the body of the loop of the generated `get_proof_hints` (verbatim; `get_proof_hints_unfold`: by `rfl`) -/
def hintBody (n : Nat) : PyTraceItem × PyTraceItem → NPat × NPat × PyLS × List PyHint →
    (NPat × NPat × PyLS × List PyHint → Py (PyLS × List PyHint)) → Py (PyLS × List PyHint) :=
  fun (v_e1, v_e2) (v_pre_config, v_post_config, h, yield_) continue_ =>
    match v_e1 with
    | .rule b_rule_ordinal b_substitution => (
      match v_e2 with
      | .config b_e2 => (
        let v_pre_config : NPat := v_post_config
        call (Gen.PyKore.LanguageSemantics.convert_pattern (semView h) b_e2) fun t2 =>
        let v_post_config : NPat := t2
        call (LanguageSemantics.get_axiom n h b_rule_ordinal) fun t3 =>
        let v_axiom : PyAxiom := t3
        call (Gen.PyKore.LanguageSemantics.convert_substitutions (semView h) (kDictOf b_substitution) b_rule_ordinal) fun (t5, t4) =>
        let h : PyLS := semBack h t5
        let v_substitutions : Dict := t4
        let v_hint : PyHint := (PyHint.mk v_pre_config v_post_config v_axiom v_substitutions)
        let yield_ : List PyHint := yield_ ++ [v_hint]
        continue_ (v_pre_config, v_post_config, h, yield_))
      | _ =>
      continue_ (v_pre_config, v_post_config, h, yield_))
    | _ =>
    continue_ (v_pre_config, v_post_config, h, yield_)

theorem get_proof_hints_unfold (n : Nat) (h : PyLS) (tr : PyLLVMTrace) :
    get_proof_hints n h tr
      = call (Gen.PyKore.LanguageSemantics.convert_pattern (semView h) tr.initial_config) fun t1 =>
        if (decide (tr.trace.length > 0)) then
          forEach (List.zip tr.trace (tr.trace.drop 1)) (t1, t1, h, []) (hintBody n) fun (_, _, h, yield_) => ret (h, yield_)
        else ret (h, []) := rfl

/-- the loop of `get_proof_hints` keeps `HintInv`, and with it any property `P` of the store and the rules that the write of one
extended scope into the cache keeps (`P` says which store it is, where that is known) -/
theorem hints_loopM (n : Nat) (sg : Sig) (P : PyLS → List Rule → Prop)
    (hP : ∀ h rules o ru sc, P h rules → rules.find? (·.ordinal == o) = some ru →
      P { h with _cached_axiom_scopes := kSet h._cached_axiom_scopes o (scopeObj sc) } (setScope rules o sc)) :
    ∀ (pairs : List (PyTraceItem × PyTraceItem)) (pre post : NPat) (h : PyLS) (rules : List Rule) (ys : List PyHint),
      HintInv n sg h rules → P h rules →
      match stepsF sg rules post (pairs.filterMap pairOf) with
      | none => forEach pairs (pre, post, h, ys) (hintBody n) (fun (_, _, h, yield_) => ret (h, yield_)) = some none
      | some (rules', steps) => ∃ h', HintInv n sg h' rules' ∧ P h' rules' ∧
          forEach pairs (pre, post, h, ys) (hintBody n) (fun (_, _, h, yield_) => ret (h, yield_)) = ret (h', ys ++ steps.map hintOf) := by
  intro pairs
  induction pairs with
  | nil => intro pre post h rules ys hi hp; exact ⟨h, hi, hp, by simp [forEach]⟩
  | cons e l ih =>
    intro pre post h rules ys hi hp
    obtain ⟨e1, e2⟩ := e
    cases e1 with
    | otherEvent | config c0 => simp only [pairOf, List.filterMap_cons]; exact ih pre post h rules ys hi hp
    | rule o σ =>
      cases e2 with
      | otherEvent | rule o' σ' => simp only [pairOf, List.filterMap_cons]; exact ih pre post h rules ys hi hp
      | config c =>
        simp only [pairOf, List.filterMap_cons, stepsF, Option.bind_eq_bind, forEach, hintBody, KoreTie.convert_pattern_eq, semView, hi.sig]
        cases convertPattern sg c with
        | none => rfl
        | some post' =>
          simp only [Option.bind_some, call_some, hi.ax]
          cases hf : rules.find? (·.ordinal == o) with
          | none => rfl
          | some ru =>
            simp only [Option.bind_some, Option.map_some, call_some]
            have hc : (semView h)._cached_axiom_scopes.lookup o = some (KoreTie.withScope Gen.PyKore.ConvertionScope.__init__ ru.scope) :=
              hi.cache o ru hf
            have hcs := KoreTie.convert_substitutions_eq (semView h) _ ru.scope (kDictOf σ) o hc
            simp only [semView, hi.sig] at hcs
            rw [hcs]
            cases hx : convertSubst sg ru.scope (kDictOf σ) [] with
            | none => rfl
            | some x =>
              simp only [Option.bind_some, KoreTie.call_ret_val]
              have := ih post post' _ (setScope rules o x.1) (ys ++ [hintOf { before := post, after := post', rule := ru, subst := x.2 }])
                (hintInv_step hi o x.1) (hP h rules o ru x.1 hp hf)
              cases hs : stepsF sg (setScope rules o x.1) post' (l.filterMap pairOf) with
              | none => rw [hs] at this; exact this
              | some y =>
                rw [hs] at this
                obtain ⟨h', hinv', hp', heq⟩ := this
                refine ⟨h', hinv', hp', Eq.trans heq ?_⟩
                simp [List.append_assoc]

theorem get_proof_hints_keeps (n : Nat) (h : PyLS) (ds : DefSem) (P : PyLS → List Rule → Prop)
    (hP : ∀ h rules o ru sc, P h rules → rules.find? (·.ordinal == o) = some ru →
      P { h with _cached_axiom_scopes := kSet h._cached_axiom_scopes o (scopeObj sc) } (setScope rules o sc))
    (hi : HintInv n ds.sg h ds.rules) (hp : P h ds.rules) (tr : PyLLVMTrace) :
    match traceStepsR ds tr with
    | none => get_proof_hints n h tr = raise
    | some (_, rules', steps) =>
        ∃ h', get_proof_hints n h tr = ret (h', steps.map hintOf) ∧ HintInv n ds.sg h' rules' ∧ P h' rules' := by
  rw [get_proof_hints_unfold]
  unfold traceStepsR
  simp only [KoreTie.convert_pattern_eq, semView, hi.sig, Option.bind_eq_bind]
  cases hc : convertPattern ds.sg tr.initial_config with
  | none => rfl
  | some init =>
    simp only [call_some, Option.bind_some]
    by_cases hl : tr.trace.length > 0
    · simp only [hl, decide_true, if_true]
      have := hints_loopM n ds.sg P hP (List.zip tr.trace (tr.trace.drop 1)) init init h ds.rules [] hi hp
      simp only [hintPairs]
      cases hs : stepsF ds.sg ds.rules init (List.filterMap pairOf (tr.trace.zip (tr.trace.drop 1))) with
      | none => rw [hs] at this; exact this
      | some y =>
        rw [hs] at this
        obtain ⟨h', hinv', hp', heq⟩ := this
        exact ⟨h', by simpa using heq, hinv', hp'⟩
    · have ht : tr.trace = [] := by
        cases hh : tr.trace with
        | nil => rfl
        | cons a l => simp [hh] at hl
      simp only [ht, hintPairs]
      exact ⟨h, rfl, hi, hp⟩

/-- `get_proof_hints` on a store that answers like the rules `ds.rules` (signature `ds.sg`) is `traceStepsR` -/
theorem get_proof_hints_inv (n : Nat) (h : PyLS) (ds : DefSem) (hi : HintInv n ds.sg h ds.rules) (tr : PyLLVMTrace) :
    match traceStepsR ds tr with
    | none => get_proof_hints n h tr = raise
    | some (_, rules', steps) => ∃ h', get_proof_hints n h tr = ret (h', steps.map hintOf) ∧ HintInv n ds.sg h' rules' := by
  have := get_proof_hints_keeps n h ds (fun _ _ => True) (fun _ _ _ _ _ _ _ => trivial) hi trivial tr
  cases hx : traceStepsR ds tr with
  | none => rw [hx] at this; exact this
  | some x => rw [hx] at this; obtain ⟨h', he, hi', _⟩ := this; exact ⟨h', he, hi'⟩

end KDefTieM2

namespace KDefTie
open PyI PyM PyK Kore Gen.PyKDef KDefSpec

theorem withRules_self (r : RSt) : withRules r r.rules = r := rfl

theorem hintInv_heapOf (n : Nat) (pL pM : Option Bool) (r : RSt) : KDefTieM2.HintInv (n + 2) (sgOf r) (heapOf pL pM r) r.rules where
  sig := sigView_heapOf pL pM r
  ax := ls_get_axiom_heap n pL pM r
  cache := fun o ru hf => by
    show (scopesDict r.rules).lookup o = _
    rw [scopes_lookup, hf]; rfl

/-- `get_proof_hints` on a one-module store is `traceStepsR`; the store it leaves differs only in the scopes of the rules -/
theorem get_proof_hints_heap (n : Nat) (pL pM : Option Bool) (r : RSt) (tr : PyLLVMTrace) :
    get_proof_hints (n + 2) (heapOf pL pM r) tr
      = match traceStepsR (proj r) tr with
        | none => some none
        | some (_, rules', steps) => ret (heapOf pL pM (withRules r rules'), steps.map hintOf) := by
  have := KDefTieM2.get_proof_hints_keeps (n + 2) (heapOf pL pM r) (proj r) (fun h rules => h = heapOf pL pM (withRules r rules))
    (fun h rules o ru sc hh hf => by subst hh; exact heap_setScope pL pM (withRules r rules) o sc ru hf)
    (hintInv_heapOf n pL pM r) rfl tr
  cases hx : traceStepsR (proj r) tr with
  | none => rw [hx] at this; exact this
  | some x => rw [hx] at this; obtain ⟨h', he, _, rfl⟩ := this; exact he

/-- `get_proof_hints` on a finished semantics that represents `ds`: it raises exactly when the specification has no
steps for the trace, and otherwise yields the hints of `traceStepsR ds tr` and leaves a semantics that represents `ds` with
the scopes the substitutions have extended -/
theorem get_proof_hints_eq (n : Nat) {h : PyLS} {ds : DefSem} (hr : Represents h ds) (tr : PyLLVMTrace) :
    match traceStepsR ds tr with
    | none => get_proof_hints (n + 2) h tr = raise
    | some (_, rules', steps) =>
        ∃ h', get_proof_hints (n + 2) h tr = ret (h', steps.map hintOf) ∧ Represents h' { ds with rules := rules' } := by
  obtain ⟨r, rfl, rfl⟩ := hr
  rw [get_proof_hints_heap]
  cases traceStepsR (proj r) tr with
  | none => rfl
  | some x => exact ⟨_, rfl, withRules r x.2.1, rfl, rfl⟩

theorem stepsF_first {sg : Sig} {rules : List Rule} {cur : NPat} {l rs s0 ss}
    (h : stepsF sg rules cur l = some (rs, s0 :: ss)) : s0.before = cur := by
  cases l with
  | nil => simp [stepsF] at h
  | cons e l =>
    obtain ⟨o, σ, c⟩ := e
    simp only [stepsF, Option.bind_eq_bind, Option.bind_eq_some_iff] at h
    obtain ⟨post, _, ru, _, x, _, y, _, hy⟩ := h
    simp at hy
    rw [← hy.2.1]

theorem stepOf_hintOf (s : Step) : KoreTie.stepOf (hintOf s) = (s.rule.pattern, s.subst) := by
  cases s with | mk b a ru σ => cases ru with | mk o k p sc => cases k <;> rfl

theorem allRewriting_hints (steps : List Step) (hrw : ∀ s ∈ steps, s.rule.kind = .rewrite) :
    KoreTie.AllRewriting (steps.map hintOf) := by
  intro hnt hmem
  obtain ⟨s, hs, rfl⟩ := List.mem_map.mp hmem
  have := hrw s hs
  cases s with | mk b a ru σ => cases ru with | mk o k p sc =>
    simp at this; subst this; exact ⟨_, rfl⟩

/-- END TO END: a definition of the fragment and a hint stream.  If the specification gives the definition the meaning `ds`
and the trace the initial configuration `init` and the (rewrite) steps `s0 :: ss`, then `from_kore_definition` returns a
semantics, `get_proof_hints` turns the stream into hints, and `ExecutionProofExp.from_proof_hints` on them is the model's
`traceF` on `ds.sg` from `init` over the steps (same caveat about the order in which fuel runs out as `KoreTie.from_proof_hints_eq`) -/
theorem k_pipeline (so : SetOrder) (hso : so.Valid) (n k : Nat) (d : KDefinition) (hf : InFragment d) (ds : DefSem)
    (hd : sigOfDefinition d = some ds) (tr : PyLLVMTrace) (init : NPat) (s0 : Step) (ss : List Step)
    (ht : traceSteps ds tr = some (init, s0 :: ss)) (hrw : ∀ s ∈ s0 :: ss, s.rule.kind = .rewrite) :
    ∃ ls ls' hints,
      LanguageSemantics.from_kore_definition so (n + 2) d = ret ls ∧
      get_proof_hints (n + 2) ls tr = ret (ls', hints) ∧
      sigView ls' = ds.sg ∧
      (Gen.PyKore.ExecutionProofExp.from_proof_hints k hints (semView ls')
          = (match traceF ds.sg k (initSt init) (modelSteps (s0 :: ss)) with
             | none => none
             | some none => some none
             | some (some st) => ret (some (KoreTie.withSt (Gen.PyKore.ExecutionProofExp.__init__ (semView ls') init) st)))
        ∨ (traceF ds.sg k (initSt init) (modelSteps (s0 :: ss)) = none
            ∧ Gen.PyKore.ExecutionProofExp.from_proof_hints k hints (semView ls') = some none)) := by
  have h1 := from_kore_definition_spec so hso n d hf
  rw [hd] at h1
  obtain ⟨ls, hls, hrep⟩ := h1
  have h2 := get_proof_hints_eq n hrep tr
  simp only [traceSteps] at ht
  cases htr : traceStepsR ds tr with
  | none => simp [htr] at ht
  | some x =>
    obtain ⟨init', rules', steps⟩ := x
    simp [htr] at ht
    obtain ⟨rfl, rfl⟩ := ht
    rw [htr] at h2
    obtain ⟨ls', hg, hrep'⟩ := h2
    have hsig : sigView ls' = ds.sg := represents_sig (ds := { ds with rules := rules' }) hrep'
    refine ⟨ls, ls', _, hls, hg, hsig, ?_⟩
    have hbefore : s0.before = init' := by
      simp only [traceStepsR, Option.bind_eq_bind, Option.bind_eq_some_iff] at htr
      obtain ⟨i, _, y, hy, he⟩ := htr
      simp at he
      obtain ⟨rfl, rfl, hs⟩ := he
      obtain ⟨y1, y2⟩ := y
      simp only at hs; subst hs
      exact stepsF_first hy
    have hall := allRewriting_hints (s0 :: ss) hrw
    have := KoreTie.from_proof_hints_eq k (semView ls') (hintOf s0) (ss.map hintOf) hall
    have hsteps : ((hintOf s0 :: ss.map hintOf).map KoreTie.stepOf) = modelSteps (s0 :: ss) := by
      simp [modelSteps, stepOf_hintOf, Function.comp_def]
    have hsg : (semView ls').sg = ds.sg := hsig
    have hcb : (hintOf s0).configuration_before = init' := hbefore
    rw [hsteps, hsg, hcb] at this
    exact this


/-! ## `count_simplifications`: the leaf (the function itself is translated and compared with the real one on every run, not tied) -/

/-- a function symbol in the sense of `count_simplifications`: `ksym_<name>` of a declared symbol that is functional, not a cell,
not a constructor -/
def isFunctionSym (r : RSt) (s : Nat) : Bool :=
  match (if s ≥ 2001 ∧ s < 100000 ∧ (s - 2001) % 2 = 0 then r.symbols.find? (·.name == (s - 2001) / 2) else none) with
  | some d => d.is_functional && !d.is_cell && !d.is_ctor
  | none => false

/-- the closure `count_function_symbol` of `count_simplifications` adds one exactly for a function symbol -/
theorem count_function_symbol_eq (so : SetOrder) (hso : so.Valid) (n : Nat) (pL pM : Option Bool) (r : RSt) (acc s : Nat) :
    LanguageSemantics.count_simplifications.count_function_symbol so (n + 2) (heapOf pL pM r) acc (.sym s)
      = ret (acc + if isFunctionSym r s then 1 else 0) := by
  unfold LanguageSemantics.count_simplifications.count_function_symbol isFunctionSym
  rw [resolve_to_ksymbol_heap so hso, KoreTie.call_ret_val]
  cases (if s ≥ 2001 ∧ s < 100000 ∧ (s - 2001) % 2 = 0 then r.symbols.find? (·.name == (s - 2001) / 2) else none) with
  | none => rfl
  | some d =>
    dsimp only
    by_cases hb : (d.is_functional && !d.is_cell && !d.is_ctor) = true
    · rw [if_pos hb, if_pos hb]
    · rw [if_neg hb, if_neg hb]; rfl


/-! ## beyond one module: all modules of a semantics share ONE counter -/

theorem mapPy_inv {α β γ} (l : List α) (f : α → Py β) (k : List β → Py γ) (x : γ) (h : mapPy l f k = ret x) :
    ∃ ys, k ys = ret x := by
  induction l generalizing k with
  | nil => exact ⟨[], h⟩
  | cons a l ih =>
    simp only [mapPy] at h
    cases hf : f a with
    | none => simp [hf, call, ret] at h
    | some o =>
      cases o with
      | none => simp [hf, call, ret] at h
      | some y =>
        simp only [hf, call] at h
        obtain ⟨ys, hy⟩ := ih _ h
        exact ⟨y :: ys, hy⟩

/-- `LanguageSemantics.module` on a semantics that already has a module: the new `KModule` object gets the counter OBJECT of the
main (= last) module, and no counter is created — so the ordinals of a later module continue the count of the earlier ones
(the one-module theorems above never reach this branch) -/
theorem module_shares_counter (h h' : PyLS) (name m' : Nat) (hne : h._imported_modules ≠ [])
    (hm : LanguageSemantics.module h name = ret (h', m')) :
    ∃ main mo mo', h._imported_modules.getLast? = some main ∧ h.modules[main]? = some mo ∧ h'.modules[m']? = some mo' ∧
      mo'.counter = mo.counter ∧ h'.counters = h.counters ∧ h'._imported_modules = h._imported_modules ++ [m'] := by
  unfold LanguageSemantics.module at hm
  have hlen : (h._imported_modules.length == 0) = false := by
    cases hh : h._imported_modules with
    | nil => exact absurd hh hne
    | cons a l => rfl
  cases hp : h._parsing with
  | none => simp [builder_method, attrGet, hp, raise, ret] at hm
  | some b =>
    cases b with
    | false => simp [builder_method, attrGet, hp, raise, ret] at hm
    | true =>
      simp only [builder_method, attrGet, hp, if_true] at hm
      obtain ⟨ys, hy⟩ := mapPy_inv _ _ _ _ hm
      by_cases hc : ys.contains name = true
      · rw [if_pos hc] at hy; simp [raise, ret] at hy
      · rw [if_neg hc] at hy
        simp only [Bool.false_eq_true, if_false, hlen, LanguageSemantics.main_module] at hy
        cases hl : h._imported_modules.getLast? with
        | none => simp [lastOf, hl, call, raise, ret] at hy
        | some main =>
          simp only [lastOf, hl, call, ret] at hy
          cases hmo : h.modules[main]? with
          | none => simp [getMod, hmo, raise] at hy
          | some mo =>
            simp only [getMod, hmo, newModule, Option.some.injEq, Prod.mk.injEq] at hy
            obtain ⟨rfl, rfl⟩ := hy
            exact ⟨main, mo, KModule.__init__ name mo.counter, rfl, hmo, by simp, rfl, rfl, rfl⟩

#print axioms translated
#print axioms module_shares_counter
#print axioms count_function_symbol_eq
#print axioms from_kore_definition_eq
#print axioms stepR_spec
#print axioms from_kore_definition_spec
#print axioms get_axiom_eq
#print axioms cached_scope_eq
#print axioms get_sort_view
#print axioms get_symbol_view
#print axioms resolve_to_ksymbol_view
#print axioms get_sort_eq
#print axioms get_symbol_eq
#print axioms resolve_to_ksymbol_eq
#print axioms get_proof_hints_heap
#print axioms get_proof_hints_eq
#print axioms k_pipeline
end KDefTie
