import Pi2.ClauseBase
/-!
# `ac_move_to_front` (with its nested `unroll`), `or_move_to_front`, `and_move_to_front` on conclusions
(second part of `Pi2/ClauseThm.lean`; same namespace)

`unroll(term_l, term_r, positions, l, unrolling)` works on a ZIPPER over the operand list `xs`: `term_l` is the LEFT-nested
chain of the first `unrolling + 1` operands, `term_r` the right-nested chain of the others.  `unroll_C`: for every zipper
`(lr, rs)` (`lr` = the left part reversed) and every well-formed position list `qs` ending in the sentinel `0`, with fuel above
the potential `Phi`, the run does not raise and concludes `term_l . term_r <-> foldr_op(op, mf qs xs)`, where `mf` moves, one
after the other, the operand at the given position (relative to what is left) to the front.
-/
set_option linter.unusedSimpArgs false
open Pat

namespace ClauseThm
open Lem StageSup Gen.PyTaut TautSup TautTie StageThm Gen.Clause

/-- the LEFT-nested `op`-chain `((x0 . x1) . x2) ..` of a non-empty list given in REVERSE order -/
def foldlR (op : Pat → Pat → Pat) : List Pat → Pat
  | [] => Lem.botP
  | [a] => a
  | m :: b :: r => op (foldlR op (b :: r)) m

theorem foldlR_cons (op : Pat → Pat → Pat) (m : Pat) (lr : List Pat) (h : lr ≠ []) :
    foldlR op (m :: lr) = op (foldlR op lr) m := by
  cases lr with
  | nil => exact absurd rfl h
  | cons b r => rfl

/-- what `unroll` does to the operand list: for each position in turn (relative to the operands that are left), that
operand goes to the front; two operands left: swap or not, and stop -/
def mf : List Nat → List Pat → List Pat
  | [], xs => xs
  | q :: qs, xs =>
    if xs.length ≤ 2 then (if q = 0 then xs else xs.reverse)
    else match xs[q]? with
      | some x => x :: mf qs (xs.eraseIdx q)
      | none => xs

theorem mf_length : ∀ (qs : List Nat) (xs : List Pat), (mf qs xs).length = xs.length := by
  intro qs
  induction qs with
  | nil => intro xs; rfl
  | cons q qs ih =>
    intro xs
    unfold mf
    split
    · split
      · rfl
      · simp
    · split
      · rename_i x hx
        have hq : q < xs.length := by
          have := (List.getElem?_eq_some_iff.mp hx).1
          exact this
        simp only [List.length_cons, ih, List.length_eraseIdx, hq, if_true]
        omega
      · rfl

theorem mf_ne_nil (qs : List Nat) (xs : List Pat) (h : xs ≠ []) : mf qs xs ≠ [] := by
  intro e
  have := mf_length qs xs
  rw [e] at this
  exact h (List.length_eq_zero_iff.mp this.symm)

/-- the positions are in range (as long as `unroll` looks at them: it stops at two operands) -/
def WFQ : List Nat → Nat → Prop
  | [], _ => True
  | q :: qs, l => q < l ∧ (2 < l → WFQ qs (l - 1))

/-- fuel: an upper bound of the work for the positions that follow -/
def Psi : List Nat → Nat → Nat
  | [], _ => 0
  | _ :: qs, l => l + Psi qs (l - 1)

/-- the number of zipper moves before the operand at `q` is consumed -/
def dist (q u l : Nat) : Nat := if q ≤ u then u - q else min q (l - 2) - u

/-- the potential of a call of `unroll` -/
def Phi : List Nat → Nat → Nat → Nat
  | [], _, _ => 0
  | q :: qs, l, u => dist q u l + 1 + Psi qs (l - 1)

theorem dist_le (q u l : Nat) (h : u + 1 < l) : dist q u l ≤ l - 2 := by
  unfold dist
  split <;> omega

theorem Phi_le_Psi (qs : List Nat) (l u : Nat) (h : u + 1 < l) : Phi qs l u ≤ Psi qs l := by
  cases qs with
  | nil => simp [Phi, Psi]
  | cons q qs =>
    have := dist_le q u l h
    simp only [Phi, Psi]
    omega

/-- what `ac_move_to_front` is told about its parameters -/
structure ACOp (op : Pat → Pat → Pat) (assoc : Pat → Pat → Pat → Option Pat) (comm : Pat → Pat → Option Pat)
    (cong : Pat → Pat → Option Pat) (extract : Pat → Option (List Pat)) : Prop where
  hassoc : ∀ a b c, assoc a b c = some (equivP (op a (op b c)) (op (op a b) c))
  hcomm : ∀ a b, comm a b = some (equivP (op a b) (op b a))
  hcong : ∀ a b c d, cong (equivP a b) (equivP c d) = some (equivP (op a c) (op b d))
  hext : ∀ a b, extract (op a b) = some [a, b]

/-- `assoc_rev = lambda a, b, c: self.equiv_sym(assoc(a, b, c))` -/
def assocRev (assoc : Pat → Pat → Pat → Option Pat) : Pat → Pat → Pat → Option Pat :=
  fun a b c => do let t1_ ← assoc a b c; let t2_ ← lib algCS ix_equiv_sym [] [t1_]; pure t2_

theorem assocRev_eq {op assoc comm cong extract} (H : ACOp op assoc comm cong extract) (a b c : Pat) :
    assocRev assoc a b c = some (equivP (op (op a b) c) (op a (op b c))) := by
  unfold assocRev
  rw [H.hassoc, Option.bind_eq_bind, Option.bind_some, lib_equiv_sym]

theorem pySliceFrom_one {α} (x : α) (T : List α) : pySliceFrom (x :: T) (1 : Int) = T := by
  simp [pySliceFrom]

theorem getElem?_append_mid {α} (A : List α) (m : α) (B : List α) : (A ++ m :: B)[A.length]? = some m := by
  simp

theorem eraseIdx_append_mid {α} (A : List α) (m : α) (B : List α) : (A ++ m :: B).eraseIdx A.length = A ++ B := by
  induction A with
  | nil => rfl
  | cons a A ih => simp [ih]

theorem mf_mid (qs : List Nat) (A : List Pat) (m : Pat) (B : List Pat) (h : 2 < (A ++ m :: B).length) :
    mf (A.length :: qs) (A ++ m :: B) = m :: mf qs (A ++ B) := by
  have h' : ¬ (A ++ m :: B).length ≤ 2 := by omega
  rw [mf, if_neg h', getElem?_append_mid]
  simp only [eraseIdx_append_mid]

theorem WFQ_cons {q : Nat} {qs : List Nat} {l : Nat} (h : WFQ (q :: qs) l) : q < l ∧ (2 < l → WFQ qs (l - 1)) := h

theorem dist_fwd (q u l : Nat) (h : u < q) (h2 : u + 2 < l) : dist q (u + 1) l + 1 = dist q u l := by
  unfold dist
  rw [if_neg (show ¬ q ≤ u by omega)]
  split <;> omega

theorem dist_back (q u l : Nat) (h : q < u + 1) : dist q u l + 1 = dist q (u + 1) l := by
  unfold dist
  rw [if_pos (show q ≤ u by omega), if_pos (show q ≤ u + 1 by omega)]
  omega

theorem Phi_consume (q : Nat) (qs : List Nat) (l u u' : Nat) (h : u' + 1 < l) :
    Phi qs l u' < Phi (q :: qs) (l + 1) u := by
  have := Phi_le_Psi qs l u' h
  show Phi qs l u' < dist q u (l + 1) + 1 + Psi qs l
  omega

theorem Phi_fwd (q : Nat) (qs : List Nat) (l u : Nat) (h : u < q) (h2 : u + 2 < l) :
    Phi (q :: qs) l (u + 1) < Phi (q :: qs) l u := by
  have := dist_fwd q u l h h2
  show dist q (u + 1) l + 1 + Psi qs (l - 1) < dist q u l + 1 + Psi qs (l - 1)
  omega

theorem Phi_back (q : Nat) (qs : List Nat) (l u : Nat) (h : q < u + 1) :
    Phi (q :: qs) l u < Phi (q :: qs) l (u + 1) := by
  have := dist_back q u l h
  show dist q u l + 1 + Psi qs (l - 1) < dist q (u + 1) l + 1 + Psi qs (l - 1)
  omega

theorem foldrP_mf_take (op : Pat → Pat → Pat) (qs : List Nat) (lr : List Pat) (m : Pat) (rs : List Pat)
    (h : 2 < lr.length + 1 + rs.length) :
    foldrP op (mf (lr.length :: qs) ((m :: lr).reverse ++ rs)) = op m (foldrP op (mf qs (lr.reverse ++ rs))) := by
  have hm := mf_mid qs lr.reverse m rs (by simp; omega)
  rw [List.length_reverse] at hm
  rw [List.reverse_cons, List.append_assoc, List.singleton_append, hm, foldrP_cons op m _ (mf_ne_nil _ _ ?_)]
  intro e
  have := congrArg List.length e
  simp only [List.length_append, List.length_reverse, List.length_nil] at this
  omega

section Unroll
variable {op : Pat → Pat → Pat} {assoc : Pat → Pat → Pat → Option Pat} {comm : Pat → Pat → Option Pat}
  {cong : Pat → Pat → Option Pat} {extract : Pat → Option (List Pat)}

local notation "UN" => ac_move_to_front_unroll algCS assoc comm cong op extract (assocRev assoc)

/-- in `x.bind f` only `x` is simplified: the continuation is looked at once `Option.bind_some` has put the value in, so
the tests behind a bind are decided before their branches are visited -/
theorem bind_congr_left {α β} {x y : Option α} {f : α → Option β} (h : x = y) : x.bind f = y.bind f := h ▸ rfl

attribute [local congr] bind_congr_left

/-- one call of `unroll`: unfold the body, pass the assertions and the tests with the given facts -/
local macro "unroll_step" "[" ts:Lean.Parser.Tactic.simpLemma,* "]" : tactic =>
  `(tactic| simp only [ac_move_to_front_unroll, List.isEmpty_nil, List.isEmpty_cons, Bool.not_false, Bool.not_true,
    Bool.false_eq_true, ↓reduceIte, pyIndex_cons_zero, pyAssert, decide_true, decide_eq_true_eq, beq_iff_eq, BEq.rfl,
    ClauseSup.pyUnpack2, pySliceFrom_one, ↓Option.bind_eq_bind, Option.bind_some, lib_equiv_refl, lib_equiv_transitivity,
    Int.natCast_zero, Int.natCast_add, Int.natCast_one, Int.add_sub_cancel, $ts,*])

section Steps
variable (H : ACOp op assoc comm cong extract) (f : Nat) (tl tr mid X : Pat) (q l u : Nat) (T : List Int)
include H

omit H in
theorem step_nil : UN (f + 1) tl tr [] l u = some (equivP (op tl tr) (op tl tr)) := by
  unroll_step []

omit H in
theorem step_keep2 : UN (f + 1) tl tr ((0 : Int) :: T) 2 0 = some (equivP (op tl tr) (op tl tr)) := by
  simp [ac_move_to_front_unroll, lib_equiv_refl, pyIndex_cons_zero, pyAssert]

theorem step_swap2 : UN (f + 1) tl tr ((1 : Int) :: T) 2 0 = some (equivP (op tl tr) (op tr tl)) := by
  simp [ac_move_to_front_unroll, pyIndex_cons_zero, pyAssert, H.hcomm]

theorem step_keep (h2 : 1 < l)
    (hrec : UN f mid tr T (l : Int) 0 = some (equivP (op mid tr) X)) :
    UN (f + 1) tl (op mid tr) (((0 : Nat) : Int) :: T) ((l + 1 : Nat) : Int) ((0 : Nat) : Int) =
      some (equivP (op tl (op mid tr)) (op tl X)) := by
  unroll_step [show ((0 : Int) + 1 < (l : Int) + 1) by omega, show ((0 : Int) < (l : Int) + 1) by omega, Int.le_refl,
    show ¬ ((l : Int) + 1 = 2) by omega, H.hext, H.hcong, hrec]

theorem step_take (hq : q = u + 1) (h1 : u + 1 < l)
    (hrec : UN f tl tr T (l : Int) (u : Int) = some (equivP (op tl tr) X)) :
    UN (f + 1) (op tl mid) tr ((q : Int) :: T) ((l + 1 : Nat) : Int) ((u + 1 : Nat) : Int) =
      some (equivP (op (op tl mid) tr) (op mid X)) := by
  subst hq
  unroll_step [show ((u : Int) + 1 + 1 < (l : Int) + 1) by omega, show ((u : Int) + 1 < (l : Int) + 1) by omega, Int.le_refl,
    show ¬ ((u : Int) + 1 = 0) by omega, H.hext, H.hcomm, H.hcong, assocRev_eq H, hrec]

theorem step_back (hq : q < u + 1) (h1 : u + 2 < l)
    (hrec : UN f tl (op mid tr) ((q : Int) :: T) (l : Int) (u : Int) = some (equivP (op tl (op mid tr)) X)) :
    UN (f + 1) (op tl mid) tr ((q : Int) :: T) (l : Int) ((u + 1 : Nat) : Int) = some (equivP (op (op tl mid) tr) X) := by
  unroll_step [show ((u : Int) + 1 + 1 < (l : Int)) by omega, show ((q : Int) < (l : Int)) by omega,
    show ((q : Int) ≤ (u : Int) + 1) by omega, show ¬ ((u : Int) + 1 = 0) by omega, show ¬ ((q : Int) = (u : Int) + 1) by omega,
    H.hext, assocRev_eq H, hrec]

theorem step_last (hq : u + 1 < q) (h2 : q < l + 1) (hu : u + 2 = l)
    (hrec : UN f tl mid T (l : Int) (u : Int) = some (equivP (op tl mid) X)) :
    UN (f + 1) (op tl mid) tr ((q : Int) :: T) ((l + 1 : Nat) : Int) ((u + 1 : Nat) : Int) =
      some (equivP (op (op tl mid) tr) (op tr X)) := by
  rw [show (u : Int) = (l : Int) + 1 - 3 by omega] at hrec
  unroll_step [show ((u : Int) + 1 = (l : Int) + 1 - 2) by omega, show ((l : Int) + 1 - 2 + 1 < (l : Int) + 1) by omega,
    show ((q : Int) < (l : Int) + 1) by omega, show ¬ ((q : Int) ≤ (l : Int) + 1 - 2) by omega,
    show ¬ ((l : Int) + 1 = 2) by omega, H.hext, H.hcomm, H.hcong, hrec]

theorem step_fwd (hq : u < q) (h2 : q < l) (hu : u + 2 < l)
    (hrec : UN f (op tl mid) tr ((q : Int) :: T) (l : Int) ((u + 1 : Nat) : Int) = some (equivP (op (op tl mid) tr) X)) :
    UN (f + 1) tl (op mid tr) ((q : Int) :: T) (l : Int) (u : Int) = some (equivP (op tl (op mid tr)) X) := by
  rw [show ((u + 1 : Nat) : Int) = (u : Int) + 1 by omega] at hrec
  unroll_step [show ((u : Int) + 1 < (l : Int)) by omega, show ((q : Int) < (l : Int)) by omega,
    show ¬ ((q : Int) ≤ (u : Int)) by omega, show ¬ ((l : Int) = 2) by omega, show ¬ ((u : Int) = (l : Int) - 2) by omega,
    H.hext, H.hassoc, hrec]

end Steps

/-- `unroll` on a zipper `(lr, rs)` (`lr` = the left part reversed), the lengths as variables: `l` operands in all, `u + 1` of
them in the left part.  By induction on the fuel; the case analysis is that of the code: where the position `q` lies relative
to `u`, and whether the zipper is at an end. -/
theorem unroll_aux (H : ACOp op assoc comm cong extract) :
    ∀ (fuel : Nat) (lr rs : List Pat) (qs : List Nat) (l u : Nat), u + 1 = lr.length → l = lr.length + rs.length → rs ≠ [] →
      WFQ qs l → (∀ h : qs ≠ [], qs.getLast h = 0) → (qs = [] → u = 0) → Phi qs l u < fuel →
      UN fuel (foldlR op lr) (foldrP op rs) (qs.map fun (k : Nat) => (k : Int)) (l : Int) (u : Int) =
        some (equivP (op (foldlR op lr) (foldrP op rs)) (foldrP op (mf qs (lr.reverse ++ rs)))) := by
  intro fuel
  induction fuel with
  | zero => intro _ _ _ _ _ _ _ _ _ _ _ hf; omega
  | succ f ih =>
    intro lr rs qs l u hu hl hr hw hs he hf
    have hf := Nat.le_of_lt_succ hf
    cases qs with
    | nil =>
      obtain ⟨x0, rfl⟩ : ∃ x0, lr = [x0] := List.length_eq_one_iff.mp (by rw [← hu, he rfl])
      rw [List.map_nil, step_nil, show mf [] ([x0].reverse ++ rs) = x0 :: rs from rfl, foldrP_cons op x0 rs hr]
      rfl
    | cons q qs' =>
      obtain ⟨hq, hw'⟩ := WFQ_cons hw
      have hsent : ∀ h : qs' ≠ [], qs'.getLast h = 0 := fun h => by
        have := hs (by simp)
        rwa [List.getLast_cons h] at this
      have hq0 : qs' = [] → q = 0 := by
        intro h
        subst h
        simpa using hs (by simp)
      match lr, rs, hu, hl, hr with
      | m :: lr', n :: rs', hu, hl, _ =>
        simp only [List.length_cons] at hu hl
        simp only [List.map_cons]
        obtain ⟨l, rfl⟩ : ∃ l', l = l' + 1 := ⟨_, hl⟩
        rcases Nat.lt_trichotomy q u with c | c | c
        · -- the position is further left: one step back
          obtain ⟨u, rfl⟩ := Nat.exists_eq_add_one.mpr (Nat.zero_lt_of_lt c)
          have hlr : lr' ≠ [] := by intro e; subst e; simp at hu
          have hrec := ih lr' (m :: n :: rs') (q :: qs') (l + 1) u (Nat.succ.inj hu) (by simp only [List.length_cons]; omega)
            (by simp) hw hs (by simp) (Nat.lt_of_lt_of_le (Phi_back q qs' (l + 1) u c) hf)
          rw [foldrP_cons op m (n :: rs') (by simp), List.map_cons] at hrec
          rw [foldlR_cons op m lr' hlr, step_back H f _ _ _ _ q (l + 1) u _ c (by omega) hrec]
          simp
        · by_cases hlr : lr' = []
          · subst hlr
            obtain rfl : u = 0 := by simpa using hu
            subst c
            by_cases hrs : rs' = []
            · -- two operands, the first one wanted: nothing to do
              subst hrs
              obtain rfl : l = 1 := by simpa using hl
              exact step_keep2 f _ _ _
            · -- the first operand is wanted: it stays, `unroll` goes on with the others
              have hr1 := List.length_pos_iff.mpr hrs
              have hrec := ih [n] rs' qs' l 0 rfl (by simp only [List.length_cons, List.length_nil]; omega) hrs
                (hw' (by omega)) hsent (fun _ => rfl) (Nat.lt_of_lt_of_le (Phi_consume 0 qs' l 0 0 (by omega)) hf)
              rw [foldrP_cons op n rs' hrs]
              simp only [foldlR] at hrec ⊢
              rw [step_keep H f _ _ _ _ l _ (by omega) hrec]
              exact congrArg (fun X => some (equivP _ X)) (foldrP_mf_take op qs' [] m (n :: rs') (by simp; omega)).symm
          · -- the operand at the position is the last one of the left part: it goes to the front
            have hl1 := List.length_pos_iff.mpr hlr
            obtain ⟨u, rfl⟩ := Nat.exists_eq_add_one.mpr (Nat.succ.inj hu ▸ hl1)
            have hrec := ih lr' (n :: rs') qs' l u (Nat.succ.inj hu) (by simp only [List.length_cons]; omega) (by simp)
              (hw' (by omega)) hsent (by intro h; have := hq0 h; omega)
              (Nat.lt_of_lt_of_le (Phi_consume q qs' l (u + 1) u (by omega)) hf)
            rw [foldlR_cons op m lr' hlr, step_take H f _ _ _ _ q l u _ c (by omega) hrec,
              show q = lr'.length by omega, foldrP_mf_take op qs' lr' m (n :: rs') (by simp; omega)]
        · by_cases hrs : rs' = []
          · subst hrs
            simp only [List.length_nil] at hl
            by_cases hlr : lr' = []
            · -- two operands, the second one wanted: swap
              subst hlr
              obtain rfl : u = 0 := by simpa using hu
              obtain rfl : l = 1 := by simpa using hl
              obtain rfl : q = 1 := by omega
              exact step_swap2 H f _ _ _
            · -- the position is the last operand: swap it to the front
              have hl1 := List.length_pos_iff.mpr hlr
              obtain ⟨u, rfl⟩ := Nat.exists_eq_add_one.mpr (Nat.succ.inj hu ▸ hl1)
              have hrec := ih lr' [m] qs' l u (Nat.succ.inj hu) (by simp only [List.length_cons, List.length_nil]; omega)
                (by simp) (hw' (by omega)) hsent (by intro h; have := hq0 h; omega)
                (Nat.lt_of_lt_of_le (Phi_consume q qs' l (u + 1) u (by omega)) hf)
              simp only [foldrP] at hrec ⊢
              rw [foldlR_cons op m lr' hlr, step_last H f _ _ _ _ q l u _ c hq (by omega) hrec]
              have := foldrP_mf_take op qs' (m :: lr') n [] (by simp; omega)
              simp only [List.append_nil, List.length_cons, List.reverse_cons] at this ⊢
              rw [show q = lr'.length + 1 by omega, this]
          · -- the position is further right: one step forward
            have hr1 := List.length_pos_iff.mpr hrs
            have hrec := ih (n :: m :: lr') rs' (q :: qs') (l + 1) (u + 1) (congrArg (· + 1) hu)
              (by simp only [List.length_cons]; omega) hrs hw hs (by simp) (Nat.lt_of_lt_of_le (Phi_fwd q qs' (l + 1) u c (by omega)) hf)
            rw [foldlR_cons op n (m :: lr') (by simp), List.map_cons] at hrec
            rw [foldrP_cons op n rs' hrs, step_fwd H f _ _ _ _ q (l + 1) u _ c hq (by omega) hrec]
            simp

/-- **`unroll`.**  On every zipper, for every well-formed position list that ends in the sentinel `0`, with fuel above the
potential: no raise, and the conclusion is `term_l . term_r <-> (the operands moved as `mf` says, right-nested)` -/
theorem unroll_C (H : ACOp op assoc comm cong extract) :
    ∀ (fuel : Nat) (lr rs : List Pat) (qs : List Nat), lr ≠ [] → rs ≠ [] →
      WFQ qs (lr.length + rs.length) → (∀ h : qs ≠ [], qs.getLast h = 0) → (qs = [] → lr.length = 1) →
      Phi qs (lr.length + rs.length) (lr.length - 1) < fuel →
      UN fuel (foldlR op lr) (foldrP op rs) (qs.map fun (k : Nat) => (k : Int))
        ((lr.length + rs.length : Nat) : Int) ((lr.length - 1 : Nat) : Int) =
        some (equivP (op (foldlR op lr) (foldrP op rs)) (foldrP op (mf qs (lr.reverse ++ rs)))) := by
  intro fuel lr rs qs hl hr hw hs he hf
  have h1 := List.length_pos_iff.mpr hl
  exact unroll_aux H fuel lr rs qs _ _ (by omega) rfl hr hw hs (fun h => by have := he h; omega) hf
end Unroll

/-! ## the position bookkeeping of `ac_move_to_front`: `sorted`, `sorted_pos[i] -= i`, the sentinel -/

theorem pyInsert_le (x : Int) : ∀ (l : List Int), (∀ y ∈ l, x ≤ y) → ClauseSup.pyInsert x l = x :: l := by
  intro l h
  cases l with
  | nil => rfl
  | cons y r => simp [ClauseSup.pyInsert, h y List.mem_cons_self]

/-- `sorted` of an ascending list -/
theorem pySorted_sorted : ∀ (l : List Int), l.Pairwise (· ≤ ·) → ClauseSup.pySorted l = l := by
  intro l
  induction l with
  | nil => intro _; rfl
  | cons x l ih =>
    intro h
    rw [List.pairwise_cons] at h
    rw [ClauseSup.pySorted, ih h.2, pyInsert_le x l h.1]

/-- `sorted_pos[i] = sorted_pos[i] - i` for `i = k, k + 1, ..` -/
def adjOff : Nat → List Nat → List Nat
  | _, [] => []
  | k, p :: ps => (p - k) :: adjOff (k + 1) ps

theorem adjOff_length : ∀ (ps : List Nat) (k : Nat), (adjOff k ps).length = ps.length := by
  intro ps
  induction ps with
  | nil => intro k; rfl
  | cons p ps ih => intro k; simp [adjOff, ih]

theorem pyListSet_mid {α} (pre : List α) (x y : α) (suf : List α) :
    ClauseSup.pyListSet (pre ++ x :: suf) (pre.length : Int) y = some (pre ++ y :: suf) := by
  simp [ClauseSup.pyListSet]

theorem pyIndex_mid {α} (pre : List α) (x : α) (suf : List α) : pyIndex (pre ++ x :: suf) (pre.length : Int) = some x := by
  simp [pyIndex]

theorem ac_for1_C {τ} (A : SAlg τ) : ∀ (ps : List Nat) (k : Nat) (pre : List Int), pre.length = k → (∀ p ∈ ps, k ≤ p) →
    ps.Pairwise (· < ·) →
    ac_move_to_front_for1 A ((List.range' k ps.length).map fun (i : Nat) => (i : Int)) (pre ++ ps.map fun (p : Nat) => (p : Int)) =
      some (pre ++ (adjOff k ps).map fun (p : Nat) => (p : Int)) := by
  intro ps
  induction ps with
  | nil => intro k pre _ _ _; rfl
  | cons p ps ih =>
    intro k pre hk hge hs
    rw [List.pairwise_cons] at hs
    have hp : k ≤ p := hge p List.mem_cons_self
    have e : ((p : Int) - (k : Int)) = ((p - k : Nat) : Int) := by omega
    have hrec := ih (k + 1) (pre ++ [((p - k : Nat) : Int)]) (by simp [hk])
      (fun p' hp' => by have := hs.1 p' hp'; omega) hs.2
    simp only [List.append_assoc, List.singleton_append] at hrec
    simp only [List.length_cons, List.range'_succ, List.map_cons, ac_move_to_front_for1, Option.pure_def,
      Option.bind_eq_bind, ← hk, pyIndex_mid, pyListSet_mid, Option.bind_some, adjOff]
    rw [hk, e, hrec]

theorem WFQ_adj : ∀ (ps : List Nat) (k l : Nat), ps.Pairwise (· < ·) → (∀ p ∈ ps, k ≤ p ∧ p < k + l) → 0 < l →
    WFQ (adjOff k ps ++ [0]) l := by
  intro ps
  induction ps with
  | nil => intro k l _ _ hl; exact ⟨hl, fun _ => trivial⟩
  | cons p ps ih =>
    intro k l hs hr hl
    rw [List.pairwise_cons] at hs
    have hp := hr p List.mem_cons_self
    refine ⟨by omega, fun h2 => ?_⟩
    apply ih (k + 1) (l - 1) hs.2 _ (by omega)
    intro p' hp'
    have h1 := hs.1 p' hp'
    have h2' := hr p' (List.mem_cons_of_mem _ hp')
    omega

theorem Psi_le : ∀ (qs : List Nat) (l : Nat), Psi qs l ≤ qs.length * l := by
  intro qs
  induction qs with
  | nil => intro l; simp [Psi]
  | cons q qs ih =>
    intro l
    have h1 := ih (l - 1)
    have h2 : qs.length * (l - 1) ≤ qs.length * l := Nat.mul_le_mul_left _ (Nat.sub_le _ _)
    simp only [Psi, List.length_cons, Nat.succ_mul]
    omega

section Move
variable {op : Pat → Pat → Pat} {assoc : Pat → Pat → Pat → Option Pat} {comm : Pat → Pat → Option Pat}
  {cong : Pat → Pat → Option Pat} {extract : Pat → Option (List Pat)}

/-- **`ac_move_to_front`.**  For an ascending list `ps` of positions of `terms`: the proof concludes
`foldr_op(op, terms) <-> foldr_op(op, moved)` where `moved` has the operands at `ps` in front (`mf` on the positions made
relative by `sorted_pos[i] -= i`, with the sentinel `0`) -/
theorem ac_move_to_front_C (H : ACOp op assoc comm cong extract) (ps : List Nat) (xs : List Pat) (fuel : Nat)
    (hs : ps.Pairwise (· < ·)) (hr : ∀ p ∈ ps, p < xs.length) (hx : xs ≠ [])
    (hf : (ps.length + 1) * xs.length < fuel) :
    ac_move_to_front algCS fuel (ps.map fun (p : Nat) => (p : Int)) xs assoc comm cong op extract =
      some (equivP (foldrP op xs) (foldrP op (mf (adjOff 0 ps ++ [0]) xs))) := by
  have hsI : (ps.map fun (p : Nat) => (p : Int)).Pairwise (· ≤ ·) := by
    rw [List.pairwise_map]
    exact hs.imp (fun h => by omega)
  have hfor := ac_for1_C algCS ps 0 [] rfl (fun _ _ => Nat.zero_le _) hs
  simp only [List.nil_append] at hfor
  have hrange : pyRange (pyLen (ps.map fun (p : Nat) => (p : Int))) = (List.range' 0 ps.length).map fun (i : Nat) => (i : Int) := by
    simp [pyRange, pyLen, List.range_eq_range']
  cases xs with
  | nil => exact absurd rfl hx
  | cons x0 r =>
    by_cases hr0 : r = []
    · subst hr0
      have : mf (adjOff 0 ps ++ [0]) [x0] = [x0] := by
        cases h : adjOff 0 ps ++ [0] with
        | nil => rfl
        | cons q qs => simp [mf]
      simp [ac_move_to_front, pyLen, pyIndex, lib_equiv_refl, this, foldrP]
    · have hlen : ¬ (pyLen (x0 :: r) == (1 : Int)) = true := by
        have : 1 ≤ r.length := List.length_pos_iff.mpr hr0
        simp [pyLen]; omega
      have hr1 : 1 ≤ r.length := List.length_pos_iff.mpr hr0
      have hlx : (x0 :: r).length = r.length + 1 := rfl
      have hfo := foldr_op_default algCS op (x0 :: r) 1 fuel (by rw [hlx]; omega)
        (by
          have : (x0 :: r).length ≤ (ps.length + 1) * (x0 :: r).length := Nat.le_mul_of_pos_left _ (by omega)
          omega)
      simp only [List.drop_succ_cons, List.drop_zero] at hfo
      rw [show (((1 : Nat)) : Int) = 1 from rfl] at hfo
      have e : [x0].length + r.length = r.length + 1 := by simp; omega
      have e0 : [x0].length - 1 = 0 := rfl
      have hun := unroll_C H fuel [x0] r (adjOff 0 ps ++ [0]) (by simp) hr0
        (by
          rw [e]
          exact WFQ_adj ps 0 (r.length + 1) hs (fun p hp => ⟨Nat.zero_le _, by have := hr p hp; rw [hlx] at this; omega⟩)
            (by omega))
        (by intro h; simp)
        (by intro h; simp at h)
        (by
          rw [e, e0]
          have h1 := Phi_le_Psi (adjOff 0 ps ++ [0]) (r.length + 1) 0 (by omega)
          have h2 := Psi_le (adjOff 0 ps ++ [0]) (r.length + 1)
          have h3 : (adjOff 0 ps ++ [0]).length = ps.length + 1 := by simp [adjOff_length]
          rw [h3] at h2
          rw [hlx] at hf
          omega)
      have e1 : ((([x0].length + r.length : Nat)) : Int) = pyLen (x0 :: r) := by simp [pyLen]; omega
      have e2 : ((([x0].length - 1 : Nat)) : Int) = 0 := by simp
      rw [e1, e2] at hun
      simp only [foldlR, List.map_append, List.map_cons, List.map_nil, List.reverse_cons, List.reverse_nil, List.nil_append,
        List.singleton_append] at hun
      have hcast : (((0 : Nat)) : Int) = 0 := rfl
      rw [hcast] at hun
      have har : (fun (a : Pat) (b : Pat) (c : Pat) => (assoc a b c).bind fun t1_ => lib algCS ix_equiv_sym [] [t1_]) =
          assocRev assoc := by
        funext a b c
        simp [assocRev]
      simp only [ac_move_to_front, hlen, Bool.false_eq_true, if_false, pySorted_sorted _ hsI, hrange, hfor, pyIndex_cons_zero,
        hfo, Option.pure_def, Option.bind_eq_bind, Option.bind_some, har, hun]
      rw [foldrP_cons op x0 r hr0]

end Move

/-! ## what `mf` does for an ascending list of positions: the selected operands first, in order, then the others -/

/-- the positions (from `k` on) at which a mask is set -/
def idxs : Nat → List Bool → List Nat
  | _, [] => []
  | k, b :: bs => if b then k :: idxs (k + 1) bs else idxs (k + 1) bs

/-- the elements at which a mask is set -/
def sel {α : Type} : List Bool → List α → List α
  | b :: bs, x :: xs => if b then x :: sel bs xs else sel bs xs
  | _, _ => []

theorem idxs_bounds : ∀ (bs : List Bool) (k : Nat), ∀ p ∈ idxs k bs, k ≤ p ∧ p < k + bs.length := by
  intro bs
  induction bs with
  | nil => intro k p hp; simp [idxs] at hp
  | cons b bs ih =>
    intro k p hp
    simp only [idxs] at hp
    split at hp
    · simp only [List.mem_cons] at hp
      rcases hp with rfl | hp
      · simp
      · have := ih (k + 1) p hp; simp; omega
    · have := ih (k + 1) p hp; simp; omega

theorem idxs_sorted : ∀ (bs : List Bool) (k : Nat), (idxs k bs).Pairwise (· < ·) := by
  intro bs
  induction bs with
  | nil => intro k; simp [idxs]
  | cons b bs ih =>
    intro k
    simp only [idxs]
    split
    · rw [List.pairwise_cons]
      exact ⟨fun p hp => by have := idxs_bounds bs (k + 1) p hp; omega, ih (k + 1)⟩
    · exact ih (k + 1)

theorem idxs_replicate_false (bs : List Bool) : ∀ (p k : Nat), idxs k (List.replicate p false ++ bs) = idxs (k + p) bs := by
  intro p
  induction p with
  | zero => intro k; rfl
  | succ p ih =>
    intro k
    simp only [List.replicate_succ, List.cons_append, idxs, Bool.false_eq_true, if_false, ih]
    congr 1; omega

theorem idxs_pred : ∀ (bs : List Bool) (k : Nat), (idxs (k + 1) bs).map (· - 1) = idxs k bs := by
  intro bs
  induction bs with
  | nil => intro k; rfl
  | cons b bs ih =>
    intro k
    simp only [idxs]
    split
    · simp [ih]
    · exact ih (k + 1)

theorem adjOff_succ : ∀ (I : List Nat) (k : Nat), adjOff (k + 1) I = adjOff k (I.map (· - 1)) := by
  intro I
  induction I with
  | nil => intro k; rfl
  | cons i I ih =>
    intro k
    simp only [adjOff, List.map_cons, ih]
    congr 1; omega

theorem first_true : ∀ (bs : List Bool) (k : Nat), idxs k bs ≠ [] →
    ∃ p bs', bs = List.replicate p false ++ true :: bs' := by
  intro bs
  induction bs with
  | nil => intro k h; exact absurd rfl h
  | cons b bs ih =>
    intro k h
    cases b with
    | true => exact ⟨0, bs, rfl⟩
    | false =>
      simp only [idxs, Bool.false_eq_true, if_false] at h
      obtain ⟨p, bs', e⟩ := ih (k + 1) h
      exact ⟨p + 1, bs', by rw [e]; rfl⟩

theorem sel_replicate_false {α : Type} (bs : List Bool) (B : List α) : ∀ (A : List α),
    sel (List.replicate A.length false ++ bs) (A ++ B) = sel bs B := by
  intro A
  induction A with
  | nil => rfl
  | cons a A ih => simp [List.replicate_succ, sel, ih]

theorem sel_replicate_true {α : Type} (bs : List Bool) (B : List α) : ∀ (A : List α),
    sel (List.replicate A.length true ++ bs) (A ++ B) = A ++ sel bs B := by
  intro A
  induction A with
  | nil => rfl
  | cons a A ih => simp [List.replicate_succ, sel, ih]

theorem sel_all_false {α : Type} : ∀ (bs : List Bool) (k : Nat) (xs : List α), idxs k bs = [] → bs.length = xs.length →
    sel bs xs = [] ∧ sel (bs.map not) xs = xs := by
  intro bs
  induction bs with
  | nil => intro k xs _ hl; cases xs with | nil => exact ⟨rfl, rfl⟩ | cons _ _ => simp at hl
  | cons b bs ih =>
    intro k xs h hl
    cases xs with
    | nil => simp at hl
    | cons x xs =>
      cases b with
      | true => simp [idxs] at h
      | false =>
        simp only [idxs, Bool.false_eq_true, if_false] at h
        obtain ⟨h1, h2⟩ := ih (k + 1) xs h (by simpa using hl)
        simp [sel, h1, h2]

theorem mf_sentinel (xs : List Pat) (h : xs ≠ []) : mf [0] xs = xs := by
  cases xs with
  | nil => exact absurd rfl h
  | cons x r =>
    unfold mf
    split
    · rfl
    · simp [mf]

/-- for the positions of a mask, made relative, with the sentinel: the selected operands, then the others -/
theorem mf_mask : ∀ (n : Nat) (bs : List Bool) (xs : List Pat), (idxs 0 bs).length = n → bs.length = xs.length → xs ≠ [] →
    mf (adjOff 0 (idxs 0 bs) ++ [0]) xs = sel bs xs ++ sel (bs.map not) xs := by
  intro n
  induction n with
  | zero =>
    intro bs xs hn hl hx
    have h0 : idxs 0 bs = [] := List.length_eq_zero_iff.mp hn
    obtain ⟨h1, h2⟩ := sel_all_false bs 0 xs h0 hl
    rw [h0, h1, h2]
    exact mf_sentinel xs hx
  | succ n ih =>
    intro bs xs hn hl hx
    obtain ⟨p, bs', rfl⟩ := first_true bs 0 (by intro h; rw [h] at hn; simp at hn)
    have hl' : xs.length = p + (bs'.length + 1) := by simpa using hl.symm
    obtain ⟨A, x, B, rfl, hA, hB⟩ : ∃ A x B, xs = A ++ x :: B ∧ A.length = p ∧ B.length = bs'.length := by
      have hp : p < xs.length := by omega
      refine ⟨xs.take p, xs[p], xs.drop (p + 1), ?_, by simp; omega, by simp; omega⟩
      rw [← List.drop_eq_getElem_cons hp, List.take_append_drop]
    subst hA
    have hI : idxs 0 (List.replicate A.length false ++ true :: bs') = A.length :: idxs (A.length + 1) bs' := by
      rw [idxs_replicate_false]; simp [idxs]
    have hsel1 : sel (List.replicate A.length false ++ true :: bs') (A ++ x :: B) = x :: sel bs' B := by
      rw [sel_replicate_false]; simp [sel]
    have hsel2 : sel ((List.replicate A.length false ++ true :: bs').map not) (A ++ x :: B) = A ++ sel (bs'.map not) B := by
      simp only [List.map_append, List.map_replicate, List.map_cons, Bool.not_false, Bool.not_true]
      rw [sel_replicate_true]; simp [sel]
    rw [hI, hsel1, hsel2]
    simp only [adjOff, Nat.sub_zero, List.cons_append]
    by_cases h2 : (A ++ x :: B).length ≤ 2
    · -- at most two operands: the run stops here
      have h2' : A.length + B.length ≤ 1 := by simp at h2; omega
      cases A with
      | nil =>
        cases B with
        | nil =>
          obtain rfl : bs' = [] := List.eq_nil_of_length_eq_zero hB.symm
          simp [mf, sel]
        | cons y B =>
          obtain rfl : B = [] := List.eq_nil_of_length_eq_zero (by simp only [List.length_cons, List.length_nil] at h2'; omega)
          obtain ⟨b, rfl⟩ : ∃ b, bs' = [b] := List.length_eq_one_iff.mp hB.symm
          cases b <;> simp [mf, sel]
      | cons a A =>
        obtain rfl : A = [] := List.eq_nil_of_length_eq_zero (by simp only [List.length_cons, List.length_nil] at h2'; omega)
        obtain rfl : B = [] := List.eq_nil_of_length_eq_zero (by simp only [List.length_cons, List.length_nil] at h2'; omega)
        obtain rfl : bs' = [] := List.eq_nil_of_length_eq_zero hB.symm
        simp [mf, sel]
    · have hm := mf_mid (adjOff 1 (idxs (A.length + 1) bs') ++ [0]) A x B (by omega)
      rw [hm]
      have hbs2 : idxs 0 (List.replicate A.length false ++ bs') = (idxs (A.length + 1) bs').map (· - 1) := by
        rw [idxs_replicate_false, idxs_pred]; simp
      have hrec := ih (List.replicate A.length false ++ bs') (A ++ B)
        (by rw [hbs2, List.length_map]; rw [hI] at hn; simpa using hn)
        (by simp [hB])
        (by
          intro h
          have h3 : (A ++ x :: B).length = (A ++ B).length + 1 := by simp; omega
          rw [h] at h3
          simp only [List.length_nil] at h3
          omega)
      rw [hbs2, ← adjOff_succ] at hrec
      rw [hrec, sel_replicate_false]
      simp only [List.map_append, List.map_replicate, Bool.not_false]
      rw [sel_replicate_true]

theorem idxs_length_le : ∀ (bs : List Bool) (k : Nat), (idxs k bs).length ≤ bs.length := by
  intro bs
  induction bs with
  | nil => intro k; simp [idxs]
  | cons b bs ih =>
    intro k
    have := ih (k + 1)
    simp only [idxs]
    split <;> simp <;> omega

/-! ## `or_move_to_front`, `and_move_to_front` -/

theorem acOp_or : ACOp orP (fun x1_ x2_ x3_ => lib algCS ix_or_assoc [x1_, x2_, x3_] [])
    (fun x1_ x2_ => lib algCS ix_or_comm [x1_, x2_] []) (fun x1_ x2_ => lib algCS ix_or_cong [] [x1_, x2_])
    (Lem.matchNotn .or) :=
  ⟨lib_or_assoc, lib_or_comm, lib_or_cong, matchNotn_or⟩

theorem acOp_and : ACOp andP (fun x1_ x2_ x3_ => lib algCS ix_and_assoc [x1_, x2_, x3_] [])
    (fun x1_ x2_ => lib algCS ix_and_comm [x1_, x2_] []) (fun x1_ x2_ => lib algCS ix_and_cong [] [x1_, x2_])
    (Lem.matchNotn .and) :=
  ⟨lib_and_assoc, lib_and_comm, lib_and_cong, matchNotn_and⟩

/-- the fuel that suffices for moving operands of a list of `n` operands -/
def moveFuel (n : Nat) : Nat := (n + 1) * n + 1

theorem move_fuel_ok (bs : List Bool) (xs : List Pat) (fuel : Nat) (hl : bs.length = xs.length)
    (hf : moveFuel xs.length ≤ fuel) : ((idxs 0 bs).length + 1) * xs.length < fuel := by
  have h1 := idxs_length_le bs 0
  have h2 : ((idxs 0 bs).length + 1) * xs.length ≤ (xs.length + 1) * xs.length :=
    Nat.mul_le_mul_right _ (by omega)
  unfold moveFuel at hf
  omega

/-- **`or_move_to_front(pos, terms)`** for the ascending positions `pos` of a mask over `terms`: the proof concludes
`t0 \/ (t1 \/ ..) <-> (the selected operands, in order) \/ (the others, in order)` -/
theorem or_move_to_front_C (bs : List Bool) (xs : List Pat) (fuel : Nat) (hl : bs.length = xs.length) (hx : xs ≠ [])
    (hf : moveFuel xs.length ≤ fuel) :
    or_move_to_front algCS fuel ((idxs 0 bs).map fun (p : Nat) => (p : Int)) xs =
      some (equivP (foldrP orP xs) (foldrP orP (sel bs xs ++ sel (bs.map not) xs))) := by
  have := ac_move_to_front_C acOp_or (idxs 0 bs) xs fuel (idxs_sorted bs 0)
    (fun p hp => by have := idxs_bounds bs 0 p hp; omega) hx (move_fuel_ok bs xs fuel hl hf)
  rw [mf_mask _ bs xs rfl hl hx] at this
  simp only [or_move_to_front, this, Option.pure_def, Option.bind_eq_bind, Option.bind_some]

/-- **`and_move_to_front(pos, terms)`**, likewise for conjunctions -/
theorem and_move_to_front_C (bs : List Bool) (xs : List Pat) (fuel : Nat) (hl : bs.length = xs.length) (hx : xs ≠ [])
    (hf : moveFuel xs.length ≤ fuel) :
    and_move_to_front algCS fuel ((idxs 0 bs).map fun (p : Nat) => (p : Int)) xs =
      some (equivP (foldrP andP xs) (foldrP andP (sel bs xs ++ sel (bs.map not) xs))) := by
  have := ac_move_to_front_C acOp_and (idxs 0 bs) xs fuel (idxs_sorted bs 0)
    (fun p hp => by have := idxs_bounds bs 0 p hp; omega) hx (move_fuel_ok bs xs fuel hl hf)
  rw [mf_mask _ bs xs rfl hl hx] at this
  simp only [and_move_to_front, this, Option.pure_def, Option.bind_eq_bind, Option.bind_some]

end ClauseThm
