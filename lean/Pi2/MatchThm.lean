import Pi2.NotationThm
import Pi2.Match
/-!
# Matching: soundness and (partial-correctness) completeness of `match_single` / `match`
-/
open Pat

/-- no `esub`/`ssub` node anywhere -/
def Pat.SubstFree : Pat → Bool
  | .evar _ => true | .svar _ => true | .sym _ => true
  | .imp l r => l.SubstFree && r.SubstFree
  | .app l r => l.SubstFree && r.SubstFree
  | .ex _ p => p.SubstFree | .mu _ p => p.SubstFree
  | .mv .. => true
  | .esub .. => false
  | .ssub .. => false

namespace NPat
set_option linter.unusedSimpArgs false

/-! ## 1. `headF` -/

theorem headF_expand (n : Nat) (p q : NPat) :
    p.Shape = true → NPat.headF n p = some q →
    q.expand = p.expand ∧ q.Shape = true ∧ q.isInst = false := by
  induction n generalizing p with
  | zero => intro _ h; simp [headF] at h
  | succ n ih =>
    intro hp h
    cases p with
    | inst p' m =>
      simp only [headF, Option.bind_eq_bind, Option.bind_eq_some_iff] at h
      obtain ⟨s, hs, hq⟩ := h
      simp only [Shape, Bool.and_eq_true] at hp
      obtain ⟨es, ss⟩ := instF_expand _ _ _ _ hp.1 hp.2 hs
      obtain ⟨eq, sq, iq⟩ := ih _ ss hq
      exact ⟨by rw [eq, es]; simp only [expand], sq, iq⟩
    | _ =>
      simp only [headF, Option.some.injEq] at h; subst h
      exact ⟨rfl, hp, by simp [isInst]⟩

/-! ## 5. corollaries about `peqF` -/

theorem peqF_refl (n : Nat) (a : NPat) (r : Bool) :
    a.Shape = true → peqF n a a = some r → r = true := by
  intro ha h
  simpa using peqF_expand n a a r ha ha h

theorem peqF_symm (n m : Nat) (a b : NPat) (r r' : Bool) :
    a.Shape = true → b.Shape = true → peqF n a b = some r → peqF m b a = some r' → r = r' := by
  intro ha hb h h'
  rw [peqF_expand n a b r ha hb h, peqF_expand m b a r' hb ha h']
  exact decide_eq_decide.mpr ⟨Eq.symm, Eq.symm⟩

theorem peqF_trans (n m k : Nat) (a b c : NPat) (r : Bool) :
    a.Shape = true → b.Shape = true → c.Shape = true →
    peqF n a b = some true → peqF m b c = some true → peqF k a c = some r → r = true := by
  intro ha hb hc h1 h2 h3
  have e1 : a.expand = b.expand := by simpa using (peqF_expand n a b true ha hb h1).symm
  have e2 : b.expand = c.expand := by simpa using (peqF_expand m b c true hb hc h2).symm
  rw [peqF_expand k a c r ha hc h3]
  simp [e1, e2]

/-! ## 2. soundness of `matchF` -/

/-- the conclusion of soundness, on the expansions -/
def SoundC (P I : Pat) (s s' : Subst) : Prop :=
  Py.inst (Py.lookup (expand.expandMap s')) P = I
  ∧ (∀ k v, Py.lookup s k = some v → Py.lookup s' k = some v)
  ∧ (∀ k ∈ Py.metavars P, (Py.lookup s' k).isSome = true)
  ∧ ShapeMap s' = true

/-- extending a substitution that binds all metavariables of `P` does not change `P`'s instance -/
theorem inst_extend (P : Pat) (r1 s' : Subst)
    (hb : ∀ k ∈ Py.metavars P, (Py.lookup r1 k).isSome = true)
    (hmono : ∀ k v, Py.lookup r1 k = some v → Py.lookup s' k = some v) :
    Py.inst (Py.lookup (expand.expandMap s')) P = Py.inst (Py.lookup (expand.expandMap r1)) P
    ∧ ∀ k ∈ Py.metavars P, (Py.lookup s' k).isSome = true := by
  constructor
  · apply Py.inst_congr
    intro k hk
    obtain ⟨v, hv⟩ := Option.isSome_iff_exists.mp (hb k hk)
    rw [lookup_expandMap, lookup_expandMap, hv, hmono k v hv]
  · intro k hk
    obtain ⟨v, hv⟩ := Option.isSome_iff_exists.mp (hb k hk)
    rw [hmono k v hv]; rfl

theorem soundC_pair {Pl Il Pr Ir : Pat} {s r1 s' : Subst}
    (c1 : SoundC Pl Il s r1) (c2 : SoundC Pr Ir r1 s') :
    Py.inst (Py.lookup (expand.expandMap s')) Pl = Il
    ∧ Py.inst (Py.lookup (expand.expandMap s')) Pr = Ir
    ∧ (∀ k v, Py.lookup s k = some v → Py.lookup s' k = some v)
    ∧ (∀ k, (k ∈ Py.metavars Pl ∨ k ∈ Py.metavars Pr) → (Py.lookup s' k).isSome = true)
    ∧ ShapeMap s' = true := by
  obtain ⟨e1, m1, b1, _⟩ := c1
  obtain ⟨e2, m2, b2, sh2⟩ := c2
  obtain ⟨e1', b1'⟩ := inst_extend Pl r1 s' b1 m2
  refine ⟨e1'.trans e1, e2, fun k v h => m2 k v (m1 k v h), ?_, sh2⟩
  intro k hk
  rcases hk with hk | hk
  · exact b1' k hk
  · exact b2 k hk

theorem soundC_imp {Pl Il Pr Ir : Pat} {s r1 s' : Subst}
    (c1 : SoundC Pl Il s r1) (c2 : SoundC Pr Ir r1 s') :
    SoundC (.imp Pl Pr) (.imp Il Ir) s s' := by
  obtain ⟨e1, e2, m, b, sh⟩ := soundC_pair c1 c2
  refine ⟨by simp [Py.inst, e1, e2], m, ?_, sh⟩
  intro k hk
  exact b k (by simpa [Py.metavars] using hk)

theorem soundC_app {Pl Il Pr Ir : Pat} {s r1 s' : Subst}
    (c1 : SoundC Pl Il s r1) (c2 : SoundC Pr Ir r1 s') :
    SoundC (.app Pl Pr) (.app Il Ir) s s' := by
  obtain ⟨e1, e2, m, b, sh⟩ := soundC_pair c1 c2
  refine ⟨by simp [Py.inst, e1, e2], m, ?_, sh⟩
  intro k hk
  exact b k (by simpa [Py.metavars] using hk)

theorem soundC_ex {P I : Pat} {s s' : Subst} (x : VId) (c : SoundC P I s s') :
    SoundC (.ex x P) (.ex x I) s s' := by
  obtain ⟨e, m, b, sh⟩ := c
  exact ⟨by simp [Py.inst, e], m, by simpa [Py.metavars] using b, sh⟩

theorem soundC_mu {P I : Pat} {s s' : Subst} (x : VId) (c : SoundC P I s s') :
    SoundC (.mu x P) (.mu x I) s s' := by
  obtain ⟨e, m, b, sh⟩ := c
  exact ⟨by simp [Py.inst, e], m, by simpa [Py.metavars] using b, sh⟩

theorem soundC_atom (P : Pat) (s : Subst) (hs : ShapeMap s = true)
    (hP : ∀ δ, Py.inst δ P = P) (hm : Py.metavars P = []) : SoundC P P s s :=
  ⟨hP _, fun _ _ h => h, by simp [hm], hs⟩

def SoundOK (n : Nat) : Prop :=
  ∀ (p i : NPat) (s s' : Subst), p.Shape = true → i.Shape = true → ShapeMap s = true →
    matchF n p i s = some (some s') → SoundC p.expand i.expand s s'

theorem sound_mv (n : Nat) (id : VId) (ef sf ps ns hs : List VId) (ins : NPat) (ret s' : Subst)
    (hins : ins.Shape = true) (hret : ShapeMap ret = true)
    (h : (match Py.lookup ret id with
          | some v => (peqF n v ins).bind fun eq => pure (if eq = true then some ret else none)
          | none => pure (some (ret ++ [(id, ins)]))) = some (some s')) :
    SoundC (mv id ef sf ps ns hs).expand ins.expand ret s' := by
  cases hl : Py.lookup ret id with
  | some v =>
    simp only [hl, Option.bind_eq_some_iff, Option.pure_def, Option.some.injEq] at h
    obtain ⟨eq, heq, hr⟩ := h
    have hv := shape_of_lookup ret hret id v hl
    have e := peqF_expand _ _ _ _ hv hins heq
    cases eq with
    | false => simp at hr
    | true =>
      simp at hr; subst hr
      have e' : v.expand = ins.expand := by simpa using e.symm
      refine ⟨?_, fun _ _ h => h, ?_, hret⟩
      · simp [expand, Py.inst, lookup_expandMap, hl, e']
      · simp [expand, Py.metavars, hl]
  | none =>
    simp only [hl, Option.pure_def, Option.some.injEq] at h
    subst h
    refine ⟨?_, ?_, ?_, ?_⟩
    · simp [expand, Py.inst, lookup_expandMap, Py.lookup_append, hl, Py.lookup]
    · intro k v hk; simp [Py.lookup_append, hk]
    · simp [expand, Py.metavars, Py.lookup_append, hl, Py.lookup]
    · simp [shapeMap_append, hret, ShapeMap, hins]

theorem sound_step (n : Nat) (ih : SoundOK n) : SoundOK (n + 1) := by
  intro pat ins ret s' hpat hins hret h
  simp only [matchF, Option.bind_eq_bind, Option.bind_eq_some_iff] at h
  obtain ⟨p, hp, h⟩ := h
  obtain ⟨ep, sp, ip⟩ := headF_expand _ _ _ hpat hp
  rw [← ep]
  cases p with
  | mv id ef sf ps ns hs => exact sound_mv n id ef sf ps ns hs ins ret s' hins hret h
  | inst p' m => simp [isInst] at ip
  | imp pl pr =>
    simp only [Option.bind_eq_bind, Option.bind_eq_some_iff] at h
    obtain ⟨i, hi, h⟩ := h
    obtain ⟨ei, si, ii⟩ := headF_expand _ _ _ hins hi
    rw [← ei]
    cases i with
    | imp il ir =>
      simp only [Option.bind_eq_bind, Option.bind_eq_some_iff, Option.pure_def] at h
      obtain ⟨a, ha, h⟩ := h
      cases a with
      | none => simp at h
      | some r1 =>
        simp only [] at h
        simp only [Shape, Bool.and_eq_true] at sp si
        have c1 := ih _ _ _ _ sp.1 si.1 hret ha
        have c2 := ih _ _ _ _ sp.2 si.2 c1.2.2.2 h
        simpa only [expand] using soundC_imp c1 c2
    | _ => cases h
  | app pl pr =>
    simp only [Option.bind_eq_bind, Option.bind_eq_some_iff] at h
    obtain ⟨i, hi, h⟩ := h
    obtain ⟨ei, si, ii⟩ := headF_expand _ _ _ hins hi
    rw [← ei]
    cases i with
    | app il ir =>
      simp only [Option.bind_eq_bind, Option.bind_eq_some_iff, Option.pure_def] at h
      obtain ⟨a, ha, h⟩ := h
      cases a with
      | none => simp at h
      | some r1 =>
        simp only [] at h
        simp only [Shape, Bool.and_eq_true] at sp si
        have c1 := ih _ _ _ _ sp.1 si.1 hret ha
        have c2 := ih _ _ _ _ sp.2 si.2 c1.2.2.2 h
        simpa only [expand] using soundC_app c1 c2
    | _ => cases h
  | ex x pb =>
    simp only [Option.bind_eq_bind, Option.bind_eq_some_iff] at h
    obtain ⟨i, hi, h⟩ := h
    obtain ⟨ei, si, ii⟩ := headF_expand _ _ _ hins hi
    rw [← ei]
    cases i with
    | ex y ib =>
      simp only [Option.pure_def] at h
      split at h
      · next hxy =>
        subst hxy
        simp only [Shape] at sp si
        simpa only [expand] using soundC_ex x (ih _ _ _ _ sp si hret h)
      · simp at h
    | _ => cases h
  | mu x pb =>
    simp only [Option.bind_eq_bind, Option.bind_eq_some_iff] at h
    obtain ⟨i, hi, h⟩ := h
    obtain ⟨ei, si, ii⟩ := headF_expand _ _ _ hins hi
    rw [← ei]
    cases i with
    | mu y ib =>
      simp only [Option.pure_def] at h
      split at h
      · next hxy =>
        subst hxy
        simp only [Shape] at sp si
        simpa only [expand] using soundC_mu x (ih _ _ _ _ sp si hret h)
      · simp at h
    | _ => cases h
  | evar x =>
    simp only [Option.bind_eq_bind, Option.bind_eq_some_iff] at h
    obtain ⟨i, hi, h⟩ := h
    obtain ⟨ei, si, ii⟩ := headF_expand _ _ _ hins hi
    rw [← ei]
    cases i with
    | evar y =>
      simp only [Option.pure_def, Option.some.injEq] at h
      split at h
      · next hxy =>
        subst hxy
        simp only [Option.some.injEq] at h; subst h
        exact soundC_atom _ _ hret (by simp [expand, Py.inst]) (by simp [expand, Py.metavars])
      · simp at h
    | _ => cases h
  | svar x =>
    simp only [Option.bind_eq_bind, Option.bind_eq_some_iff] at h
    obtain ⟨i, hi, h⟩ := h
    obtain ⟨ei, si, ii⟩ := headF_expand _ _ _ hins hi
    rw [← ei]
    cases i with
    | svar y =>
      simp only [Option.pure_def, Option.some.injEq] at h
      split at h
      · next hxy =>
        subst hxy
        simp only [Option.some.injEq] at h; subst h
        exact soundC_atom _ _ hret (by simp [expand, Py.inst]) (by simp [expand, Py.metavars])
      · simp at h
    | _ => cases h
  | sym x =>
    simp only [Option.bind_eq_bind, Option.bind_eq_some_iff] at h
    obtain ⟨i, hi, h⟩ := h
    obtain ⟨ei, si, ii⟩ := headF_expand _ _ _ hins hi
    rw [← ei]
    cases i with
    | sym y =>
      simp only [Option.pure_def, Option.some.injEq] at h
      split at h
      · next hxy =>
        subst hxy
        simp only [Option.some.injEq] at h; subst h
        exact soundC_atom _ _ hret (by simp [expand, Py.inst]) (by simp [expand, Py.metavars])
      · simp at h
    | _ => cases h
  | esub p' x q | ssub p' x q =>
    simp only [Option.bind_eq_bind, Option.bind_eq_some_iff] at h
    obtain ⟨i, hi, h⟩ := h
    cases i <;> cases h

theorem sound_all (n : Nat) : SoundOK n := by
  induction n with
  | zero => intro p i s s' _ _ _ h; simp [matchF] at h
  | succ n ih => exact sound_step n ih

theorem matchF_sound (n : Nat) (p i : NPat) (s s' : NPat.Subst) :
    p.Shape = true → i.Shape = true → NPat.ShapeMap s = true →
    NPat.matchF n p i s = some (some s') →
      Py.inst (Py.lookup (NPat.expand.expandMap s')) p.expand = i.expand
    ∧ (∀ k v, Py.lookup s k = some v → Py.lookup s' k = some v)
    ∧ (∀ k ∈ Py.metavars p.expand, (Py.lookup s' k).isSome = true)
    ∧ NPat.ShapeMap s' = true :=
  sound_all n p i s s'

/-! ## 3. completeness (partial-correctness form) -/

/-- every binding of `s` agrees with `θ` -/
def Agree (s : Subst) (θ : VId → Option Pat) : Prop :=
  ∀ k v, Py.lookup s k = some v → θ k = some v.expand

def CompleteOK (n : Nat) : Prop :=
  ∀ (p i : NPat) (s : Subst) (θ : VId → Option Pat) (r : Option Subst),
    p.Shape = true → i.Shape = true → ShapeMap s = true → p.expand.SubstFree = true →
    (∀ k ∈ Py.metavars p.expand, (θ k).isSome = true) → i.expand = Py.inst θ p.expand →
    Agree s θ → matchF n p i s = some r → ∃ s', r = some s' ∧ Agree s' θ

theorem complete_mv (n : Nat) (id : VId) (ef sf ps ns hs : List VId) (ins : NPat) (ret : Subst)
    (θ : VId → Option Pat) (r : Option Subst)
    (hins : ins.Shape = true) (hret : ShapeMap ret = true)
    (hθ : ∀ k ∈ Py.metavars (mv id ef sf ps ns hs).expand, (θ k).isSome = true)
    (hexp : ins.expand = Py.inst θ (mv id ef sf ps ns hs).expand) (hag : Agree ret θ)
    (h : (match Py.lookup ret id with
          | some v => (peqF n v ins).bind fun eq => pure (if eq = true then some ret else none)
          | none => pure (some (ret ++ [(id, ins)]))) = some r) :
    ∃ s', r = some s' ∧ Agree s' θ := by
  obtain ⟨w, hw⟩ := Option.isSome_iff_exists.mp (hθ id (by simp [expand, Py.metavars]))
  have hexp' : ins.expand = w := by simpa [expand, Py.inst, hw] using hexp
  cases hl : Py.lookup ret id with
  | some v =>
    simp only [hl, Option.bind_eq_some_iff, Option.pure_def, Option.some.injEq] at h
    obtain ⟨eq, heq, hr⟩ := h
    have hv := shape_of_lookup ret hret id v hl
    have e := peqF_expand _ _ _ _ hv hins heq
    have hvw : v.expand = w := by
      have := hag id v hl
      rw [hw] at this; exact (Option.some.inj this).symm
    have : eq = true := by rw [e]; simp [hvw, hexp']
    subst this
    exact ⟨ret, by simpa using hr.symm, hag⟩
  | none =>
    simp only [hl, Option.pure_def, Option.some.injEq] at h
    subst h
    refine ⟨_, rfl, ?_⟩
    intro k v hkv
    rw [Py.lookup_append] at hkv
    cases hk : Py.lookup ret k with
    | some v' =>
      rw [hk] at hkv
      simp only [Option.some_or, Option.some.injEq] at hkv
      subst hkv
      exact hag k v' hk
    | none =>
      rw [hk] at hkv
      simp only [Option.none_or, Py.lookup] at hkv
      split at hkv
      · next hik =>
        subst hik
        simp only [Option.some.injEq] at hkv; subst hkv
        rw [hw, hexp']
      · simp at hkv

/-- the two-field case (`imp`, `app`) -/
theorem complete_two (n : Nat) (ih : CompleteOK n) (pl pr il ir : NPat) (s : Subst)
    (θ : VId → Option Pat) (r : Option Subst) (a : Option Subst)
    (spl : pl.Shape = true) (spr : pr.Shape = true) (sil : il.Shape = true)
    (sir : ir.Shape = true) (hs : ShapeMap s = true)
    (fl : pl.expand.SubstFree = true) (fr : pr.expand.SubstFree = true)
    (hθl : ∀ k ∈ Py.metavars pl.expand, (θ k).isSome = true)
    (hθr : ∀ k ∈ Py.metavars pr.expand, (θ k).isSome = true)
    (el : il.expand = Py.inst θ pl.expand) (er : ir.expand = Py.inst θ pr.expand)
    (hag : Agree s θ) (ha : matchF n pl il s = some a)
    (hnone : a = none → some none = some r)
    (hsome : ∀ r1, a = some r1 → matchF n pr ir r1 = some r) :
    ∃ s', r = some s' ∧ Agree s' θ := by
  obtain ⟨r1, e1, ag1⟩ := ih _ _ _ _ _ spl sil hs fl hθl el hag ha
  subst e1
  have sh1 := (matchF_sound n pl il s r1 spl sil hs ha).2.2.2
  exact ih _ _ _ _ _ spr sir sh1 fr hθr er ag1 (hsome r1 rfl)

theorem complete_step (n : Nat) (ih : CompleteOK n) : CompleteOK (n + 1) := by
  intro pat ins ret θ r hpat hins hret hsf hθ hexp hag h
  simp only [matchF, Option.bind_eq_bind, Option.bind_eq_some_iff] at h
  obtain ⟨p, hp, h⟩ := h
  obtain ⟨ep, sp, ip⟩ := headF_expand _ _ _ hpat hp
  rw [← ep] at hsf hθ hexp
  cases p with
  | mv id ef sf ps ns hs => exact complete_mv n id ef sf ps ns hs ins ret θ r hins hret hθ hexp hag h
  | inst p' m => simp [isInst] at ip
  | esub p' x q | ssub p' x q => simp [expand, Pat.SubstFree] at hsf
  | imp pl pr =>
    simp only [Option.bind_eq_bind, Option.bind_eq_some_iff] at h
    obtain ⟨i, hi, h⟩ := h
    obtain ⟨ei, si, ii⟩ := headF_expand _ _ _ hins hi
    rw [← ei] at hexp
    cases i with
    | imp il ir =>
      simp only [Option.bind_eq_bind, Option.bind_eq_some_iff, Option.pure_def] at h
      obtain ⟨a, ha, h⟩ := h
      simp only [Shape, Bool.and_eq_true] at sp si
      simp only [expand, Pat.SubstFree, Bool.and_eq_true] at hsf
      simp only [expand, Py.inst, Pat.imp.injEq] at hexp
      simp only [expand, Py.metavars, List.mem_append] at hθ
      exact complete_two n ih pl pr il ir ret θ r a sp.1 sp.2 si.1 si.2 hret hsf.1 hsf.2
        (fun k hk => hθ k (Or.inl hk)) (fun k hk => hθ k (Or.inr hk)) hexp.1 hexp.2 hag ha
        (fun e => by subst e; simpa using h) (fun r1 e => by subst e; simpa using h)
    | inst p' m => cases ii
    | _ => cases hexp
  | app pl pr =>
    simp only [Option.bind_eq_bind, Option.bind_eq_some_iff] at h
    obtain ⟨i, hi, h⟩ := h
    obtain ⟨ei, si, ii⟩ := headF_expand _ _ _ hins hi
    rw [← ei] at hexp
    cases i with
    | app il ir =>
      simp only [Option.bind_eq_bind, Option.bind_eq_some_iff, Option.pure_def] at h
      obtain ⟨a, ha, h⟩ := h
      simp only [Shape, Bool.and_eq_true] at sp si
      simp only [expand, Pat.SubstFree, Bool.and_eq_true] at hsf
      simp only [expand, Py.inst, Pat.app.injEq] at hexp
      simp only [expand, Py.metavars, List.mem_append] at hθ
      exact complete_two n ih pl pr il ir ret θ r a sp.1 sp.2 si.1 si.2 hret hsf.1 hsf.2
        (fun k hk => hθ k (Or.inl hk)) (fun k hk => hθ k (Or.inr hk)) hexp.1 hexp.2 hag ha
        (fun e => by subst e; simpa using h) (fun r1 e => by subst e; simpa using h)
    | inst p' m => cases ii
    | _ => cases hexp
  | ex x pb =>
    simp only [Option.bind_eq_bind, Option.bind_eq_some_iff] at h
    obtain ⟨i, hi, h⟩ := h
    obtain ⟨ei, si, ii⟩ := headF_expand _ _ _ hins hi
    rw [← ei] at hexp
    cases i with
    | ex y ib =>
      simp only [Shape] at sp si
      simp only [expand, Pat.SubstFree] at hsf
      simp only [expand, Py.inst, Pat.ex.injEq] at hexp
      simp only [expand, Py.metavars] at hθ
      obtain ⟨hyx, hexp⟩ := hexp
      subst hyx
      simp only [if_true] at h
      exact ih _ _ _ _ _ sp si hret hsf hθ hexp hag h
    | inst p' m => cases ii
    | _ => cases hexp
  | mu x pb =>
    simp only [Option.bind_eq_bind, Option.bind_eq_some_iff] at h
    obtain ⟨i, hi, h⟩ := h
    obtain ⟨ei, si, ii⟩ := headF_expand _ _ _ hins hi
    rw [← ei] at hexp
    cases i with
    | mu y ib =>
      simp only [Shape] at sp si
      simp only [expand, Pat.SubstFree] at hsf
      simp only [expand, Py.inst, Pat.mu.injEq] at hexp
      simp only [expand, Py.metavars] at hθ
      obtain ⟨hyx, hexp⟩ := hexp
      subst hyx
      simp only [if_true] at h
      exact ih _ _ _ _ _ sp si hret hsf hθ hexp hag h
    | inst p' m => cases ii
    | _ => cases hexp
  | evar x =>
    simp only [Option.bind_eq_bind, Option.bind_eq_some_iff] at h
    obtain ⟨i, hi, h⟩ := h
    obtain ⟨ei, si, ii⟩ := headF_expand _ _ _ hins hi
    rw [← ei] at hexp
    cases i with
    | evar y =>
      simp only [expand, Py.inst, Pat.evar.injEq] at hexp
      subst hexp
      simp only [Option.pure_def, if_true, Option.some.injEq] at h
      exact ⟨ret, h.symm, hag⟩
    | inst p' m => cases ii
    | _ => cases hexp
  | svar x =>
    simp only [Option.bind_eq_bind, Option.bind_eq_some_iff] at h
    obtain ⟨i, hi, h⟩ := h
    obtain ⟨ei, si, ii⟩ := headF_expand _ _ _ hins hi
    rw [← ei] at hexp
    cases i with
    | svar y =>
      simp only [expand, Py.inst, Pat.svar.injEq] at hexp
      subst hexp
      simp only [Option.pure_def, if_true, Option.some.injEq] at h
      exact ⟨ret, h.symm, hag⟩
    | inst p' m => cases ii
    | _ => cases hexp
  | sym x =>
    simp only [Option.bind_eq_bind, Option.bind_eq_some_iff] at h
    obtain ⟨i, hi, h⟩ := h
    obtain ⟨ei, si, ii⟩ := headF_expand _ _ _ hins hi
    rw [← ei] at hexp
    cases i with
    | sym y =>
      simp only [expand, Py.inst, Pat.sym.injEq] at hexp
      subst hexp
      simp only [Option.pure_def, if_true, Option.some.injEq] at h
      exact ⟨ret, h.symm, hag⟩
    | inst p' m => cases ii
    | _ => cases hexp

theorem complete_all (n : Nat) : CompleteOK n := by
  induction n with
  | zero => intro p i s θ r _ _ _ _ _ _ _ h; simp [matchF] at h
  | succ n ih => exact complete_step n ih

theorem matchF_complete (n : Nat) (p i : NPat) (s : NPat.Subst) (θ : VId → Option Pat)
    (r : Option NPat.Subst) :
    p.Shape = true → i.Shape = true → NPat.ShapeMap s = true → p.expand.SubstFree = true →
    (∀ k ∈ Py.metavars p.expand, (θ k).isSome = true) → i.expand = Py.inst θ p.expand →
    (∀ k v, Py.lookup s k = some v → θ k = some v.expand) →
    NPat.matchF n p i s = some r →
    ∃ s', r = some s' ∧ (∀ k v, Py.lookup s' k = some v → θ k = some v.expand) :=
  complete_all n p i s θ r

/-! ## 4. `matchListF` -/

theorem matchListF_nil (n : Nat) (s : NPat.Subst) : NPat.matchListF n [] s = some (some s) := by
  simp [matchListF]

theorem matchListF_sound (n : Nat) (eqs : List (NPat × NPat)) (s s' : NPat.Subst) :
    (∀ pi ∈ eqs, pi.1.Shape = true ∧ pi.2.Shape = true) → NPat.ShapeMap s = true →
    NPat.matchListF n eqs s = some (some s') →
      (∀ pi ∈ eqs, Py.inst (Py.lookup (NPat.expand.expandMap s')) pi.1.expand = pi.2.expand)
    ∧ (∀ k v, Py.lookup s k = some v → Py.lookup s' k = some v)
    ∧ NPat.ShapeMap s' = true := by
  induction eqs generalizing s with
  | nil =>
    intro _ hs h
    simp only [matchListF, Option.some.injEq] at h; subst h
    exact ⟨by simp, fun _ _ h => h, hs⟩
  | cons pi rest ih =>
    obtain ⟨p, i⟩ := pi
    intro hsh hs h
    simp only [matchListF, Option.bind_eq_bind, Option.bind_eq_some_iff, Option.pure_def] at h
    obtain ⟨a, ha, h⟩ := h
    cases a with
    | none => simp at h
    | some s1 =>
      simp only [] at h
      have hpi := hsh (p, i) (by simp)
      obtain ⟨e1, m1, b1, sh1⟩ := matchF_sound n p i s s1 hpi.1 hpi.2 hs ha
      obtain ⟨e2, m2, sh2⟩ := ih s1 (fun q hq => hsh q (List.mem_cons_of_mem _ hq)) sh1 h
      refine ⟨?_, fun k v hk => m2 k v (m1 k v hk), sh2⟩
      intro q hq
      rcases List.mem_cons.mp hq with hq | hq
      · subst hq
        exact ((inst_extend p.expand s1 s' b1 m2).1).trans e1
      · exact e2 q hq

end NPat

#print axioms NPat.headF_expand
#print axioms NPat.matchF_sound
#print axioms NPat.matchF_complete
#print axioms NPat.matchListF_sound
#print axioms NPat.matchListF_nil
#print axioms NPat.peqF_refl
#print axioms NPat.peqF_symm
#print axioms NPat.peqF_trans
