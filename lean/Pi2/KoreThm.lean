import Pi2.Kore
import Pi2.NotationThm
import Pi2.MatchThm
import Pi2.NotationTotal
/-!
# K traces → proof modules: scopes, chaining, conversion commutes with substitution
-/
open Pat
set_option linter.unusedSimpArgs false
set_option linter.unusedVariables false

/-! ## fuel monotonicity of the notation operations, in the vocabulary of this file (the proof is `NPat.monoAll_succ`) -/
namespace NPat.KMono

/-- `b` is defined wherever `a` is, with the same value -/
def OLe {α} (a b : Option α) : Prop := ∀ r, a = some r → b = some r

structure MonoAt (n : Nat) : Prop where
  inst : ∀ δ p, OLe (instF n δ p) (instF (n + 1) δ p)
  map : ∀ δ m, OLe (mapF n δ m) (mapF (n + 1) δ m)
  mvs : ∀ p, OLe (metavarsF n p) (metavarsF (n + 1) p)
  esub : ∀ x plug p, OLe (esubF n x plug p) (esubF (n + 1) x plug p)
  ssub : ∀ x plug p, OLe (ssubF n x plug p) (ssubF (n + 1) x plug p)

theorem mono_step (n : Nat) (ih : MonoAt n) : MonoAt (n + 1) := by
  obtain ⟨hI, hM, hV, hE, hS⟩ := NPat.monoAll_succ n ⟨ih.inst, ih.map, ih.mvs, ih.esub, ih.ssub⟩
  exact ⟨hI, hM, hV, hE, hS⟩

end NPat.KMono

namespace Kore

/-! ## K1. scopes -/

theorem idxOf?_of_mem {l : List Nat} {x : Nat} (h : x ∈ l) : l.idxOf? x = some (l.idxOf x) := by
  simp [List.idxOf?, List.idxOf, List.findIdx?_eq_some_iff_findIdx_eq, h]

theorem idxOf?_of_not_mem {l : List Nat} {x : Nat} (h : x ∉ l) : l.idxOf? x = none :=
  List.idxOf?_eq_none_iff.mpr h

theorem resolveMv_mem (sc : Scope) (x : Nat) (h : x ∈ sc.mvs) :
    sc.resolveMv x = (sc, sc.mvs.idxOf x) := by
  simp only [Scope.resolveMv, idxOf?_of_mem h]

theorem resolveMv_not_mem (sc : Scope) (x : Nat) (h : x ∉ sc.mvs) :
    sc.resolveMv x = ({ sc with mvs := sc.mvs ++ [x] }, sc.mvs.length) := by
  simp only [Scope.resolveMv, idxOf?_of_not_mem h]

theorem resolveMv_snd (sc : Scope) (x : Nat) : (sc.resolveMv x).2 = sc.mvs.idxOf x := by
  by_cases h : x ∈ sc.mvs
  · rw [resolveMv_mem sc x h]
  · rw [resolveMv_not_mem sc x h, List.idxOf_eq_length h]

theorem resolveMv_mem_after (sc : Scope) (x : Nat) : x ∈ (sc.resolveMv x).1.mvs := by
  by_cases h : x ∈ sc.mvs
  · rw [resolveMv_mem sc x h]; exact h
  · rw [resolveMv_not_mem sc x h]; simp

theorem resolveMv_spec (sc : Scope) (x : Nat) (h : sc.mvs.Nodup) :
    (sc.resolveMv x).1.mvs.Nodup ∧ (∃ ext, (sc.resolveMv x).1.mvs = sc.mvs ++ ext) ∧
    (sc.resolveMv x).1.mvs[(sc.resolveMv x).2]? = some x ∧ (sc.resolveMv x).1.sortParams = sc.sortParams := by
  by_cases hx : x ∈ sc.mvs
  · rw [resolveMv_mem sc x hx]
    refine ⟨h, ⟨[], by simp⟩, ?_, rfl⟩
    have hlt : sc.mvs.idxOf x < sc.mvs.length := List.idxOf_lt_length_iff.mpr hx
    show sc.mvs[sc.mvs.idxOf x]? = some x
    rw [List.getElem?_eq_getElem hlt, List.getElem_idxOf hlt]
  · rw [resolveMv_not_mem sc x hx]
    refine ⟨?_, ⟨[x], rfl⟩, ?_, rfl⟩
    · show (sc.mvs ++ [x]).Nodup
      rw [List.nodup_append]
      refine ⟨h, by simp, ?_⟩
      intro a ha b hb
      have : b = x := by simpa using hb
      subst this
      intro hab; subst hab; exact hx ha
    · show (sc.mvs ++ [x])[sc.mvs.length]? = some x
      simp

theorem idxOf_inj {l : List Nat} {x y : Nat} (hx : x ∈ l) (h : l.idxOf x = l.idxOf y) : x = y := by
  have hlt : l.idxOf x < l.length := List.idxOf_lt_length_iff.mpr hx
  have hlt' : l.idxOf y < l.length := h ▸ hlt
  have e1 : l[l.idxOf x] = x := List.getElem_idxOf hlt
  have e2 : l[l.idxOf y] = y := List.getElem_idxOf hlt'
  rw [← e1, ← e2]
  congr 1

theorem idxOf_append_of_mem {l e : List Nat} {x : Nat} (hx : x ∈ l) : (l ++ e).idxOf x = l.idxOf x := by
  rw [List.idxOf_append, if_pos hx]

theorem resolveMv_idx (sc : Scope) (x : Nat) : (sc.resolveMv x).1.mvs.idxOf x = sc.mvs.idxOf x := by
  by_cases hx : x ∈ sc.mvs
  · rw [resolveMv_mem sc x hx]
  · rw [resolveMv_not_mem sc x hx]
    show (sc.mvs ++ [x]).idxOf x = _
    rw [List.idxOf_append, if_neg hx, List.idxOf_eq_length hx]; simp

theorem scope_injective (sc : Scope) (h : sc.mvs.Nodup) (x y : Nat) :
    ((sc.resolveMv x).2 = ((sc.resolveMv x).1.resolveMv y).2 ↔ x = y) := by
  have hmem := resolveMv_mem_after sc x
  rw [resolveMv_snd, resolveMv_snd, ← resolveMv_idx]
  constructor
  · exact idxOf_inj hmem
  · intro e; rw [e]

/-- a name keeps its id however the scope grows afterwards -/
theorem scope_stable (sc sc' : Scope) (x : Nat) (hx : x ∈ sc.mvs) (hext : ∃ ext, sc'.mvs = sc.mvs ++ ext) :
    (sc'.resolveMv x) = (sc', sc.mvs.idxOf x) := by
  obtain ⟨ext, he⟩ := hext
  have hx' : x ∈ sc'.mvs := by rw [he]; exact List.mem_append_left _ hx
  rw [resolveMv_mem sc' x hx', he, idxOf_append_of_mem hx]

/-- pattern variables and sort parameters do not collide as long as a scope has at most 100 variables -/
theorem ids_disjoint (sc : Scope) (x s : Nat) (h : sc.mvs.length < 100) :
    (sc.resolveMv x).2 ≠ (sc.resolveSortParam s).2 := by
  rw [resolveMv_snd]
  have h1 : sc.mvs.idxOf x ≤ sc.mvs.length := List.idxOf_le_length
  have h2 : 100 ≤ (sc.resolveSortParam s).2 := by
    unfold Scope.resolveSortParam sortParamBase
    split <;> simp
  omega

/-- … and they DO collide beyond that (the recorded limitation KF-C20-ids) -/
example : ∃ sc : Scope, sc.mvs.Nodup ∧ (sc.resolveMv 1000).2 = (sc.resolveSortParam 0).2 :=
  ⟨{ mvs := List.range 100, sortParams := [] }, List.nodup_range, by decide⟩

end Kore

namespace Kore

/-! ## K2. chaining -/

theorem rewriteEvent_spec (sg : Sig) (n : Nat) (st st' : ExecSt) (rule : NPat) (σ : List (Nat × NPat))
    (h : rewriteEventF sg n st rule σ = some (some st')) :
    ∃ inst rw ar s lhs rhs, NPat.instF n σ rule = some inst ∧ koreNotation "kore-rewrites" = some (rw, ar) ∧
      NPat.notationMatchesF n rw ar inst = some (some [s, lhs, rhs]) ∧ NPat.peqF n lhs st.curr = some true ∧
      st'.claims = st.claims ++ [inst] ∧ st'.curr = rhs ∧ st'.proofs.length = st.proofs.length + 1 := by
  unfold rewriteEventF at h
  simp only [Option.bind_eq_bind, Option.bind_eq_some_iff, Option.pure_def] at h
  obtain ⟨inst, hi, h⟩ := h
  cases hk : koreNotation "kore-rewrites" with
  | none => rw [hk] at h; cases h
  | some v =>
    obtain ⟨rw, ar⟩ := v
    simp only [hk] at h
    cases hm : NPat.notationMatchesF n rw ar inst with
    | none => rw [hm] at h; cases h
    | some mr =>
      simp only [hm, Option.bind_some] at h
      split at h
      · next s lhs rhs =>
        cases hp : NPat.peqF n lhs st.curr with
        | none => rw [hp] at h; cases h
        | some b =>
          simp only [hp, Option.bind_some] at h
          cases b with
          | false => simp at h
          | true =>
            simp only [Bool.not_true, Bool.false_eq_true, if_false] at h
            cases hf : addFunctionalF sg n st.axioms σ with
            | none => rw [hf] at h; cases h
            | some fr =>
              simp only [hf, Option.bind_some] at h
              cases fr with
              | none => simp at h
              | some axs1 =>
                simp only at h
                cases ha : addAxiomF n axs1 rule with
                | none => rw [ha] at h; cases h
                | some axs2 =>
                  simp only [ha, Option.bind_some, Option.some.injEq] at h
                  subst h
                  exact ⟨inst, rw, ar, s, lhs, rhs, hi, rfl, hm, hp, rfl, rfl, by simp⟩
      · simp at h

/-- a step that does not start from the configuration reached is refused -/
theorem mismatch_refused (sg : Sig) (n : Nat) (st : ExecSt) (rule : NPat) (σ : List (Nat × NPat))
    (inst rw s lhs rhs : NPat) (ar : Nat)
    (hi : NPat.instF n σ rule = some inst) (hk : koreNotation "kore-rewrites" = some (rw, ar))
    (hm : NPat.notationMatchesF n rw ar inst = some (some [s, lhs, rhs]))
    (hne : NPat.peqF n lhs st.curr = some false) :
    rewriteEventF sg n st rule σ = some none := by
  unfold rewriteEventF
  simp only [hi, hk, hm, hne, Option.bind_eq_bind, Option.bind_some]
  rfl

theorem traceF_cons_inv (sg : Sig) (n : Nat) (st st' : ExecSt) (rule : NPat) (σ : List (Nat × NPat))
    (r : List (NPat × List (Nat × NPat)))
    (h : traceF sg n st ((rule, σ) :: r) = some (some st')) :
    ∃ st1, rewriteEventF sg n st rule σ = some (some st1) ∧ traceF sg n st1 r = some (some st') := by
  simp only [traceF, Option.bind_eq_bind, Option.pure_def] at h
  cases hr : rewriteEventF sg n st rule σ with
  | none => simp [hr] at h
  | some o =>
    simp only [hr, Option.bind_some] at h
    cases o with
    | none => simp at h
    | some st1 => exact ⟨st1, rfl, h⟩

/-- a whole trace: one claim per step, in order, each the instantiated rule of its step … -/
theorem chain_claims (sg : Sig) (n : Nat) : ∀ (steps : List (NPat × List (Nat × NPat))) (st st' : ExecSt),
    traceF sg n st steps = some (some st') →
    ∃ insts, st'.claims = st.claims ++ insts ∧ insts.length = steps.length ∧
      ∀ i (h : i < steps.length), ∃ inst, insts[i]? = some inst ∧ NPat.instF n (steps[i]).2 (steps[i]).1 = some inst := by
  intro steps
  induction steps with
  | nil =>
    intro st st' h
    simp only [traceF, Option.some.injEq] at h
    subst h
    exact ⟨[], by simp, rfl, fun i h => absurd h (Nat.not_lt_zero _)⟩
  | cons step r ih =>
    intro st st' h
    obtain ⟨rule, σ⟩ := step
    obtain ⟨st1, h1, h2⟩ := traceF_cons_inv sg n st st' rule σ r h
    obtain ⟨inst, rw, ar, s, lhs, rhs, hi, _, _, _, hc, _, _⟩ := rewriteEvent_spec sg n st st1 rule σ h1
    obtain ⟨insts, hcl, hlen, hall⟩ := ih st1 st' h2
    refine ⟨inst :: insts, ?_, by simp [hlen], ?_⟩
    · rw [hcl, hc]; simp
    · intro i hi'
      cases i with
      | zero => exact ⟨inst, rfl, hi⟩
      | succ j =>
        have hj : j < r.length := by simpa using hi'
        obtain ⟨x, hx1, hx2⟩ := hall j hj
        exact ⟨x, by simpa using hx1, by simpa using hx2⟩

/-- … and linked: each starts where the previous one ended (`Linked` from `Kore.lean`) -/
theorem chain_links (sg : Sig) (n : Nat) : ∀ (steps : List (NPat × List (Nat × NPat))) (st st' : ExecSt),
    traceF sg n st steps = some (some st') →
    ∃ insts, st'.claims = st.claims ++ insts ∧ Linked n st.curr insts st'.curr := by
  intro steps
  induction steps with
  | nil =>
    intro st st' h
    simp only [traceF, Option.some.injEq] at h
    subst h
    exact ⟨[], by simp, rfl⟩
  | cons step r ih =>
    intro st st' h
    obtain ⟨rule, σ⟩ := step
    obtain ⟨st1, h1, h2⟩ := traceF_cons_inv sg n st st' rule σ r h
    obtain ⟨inst, rw, ar, s, lhs, rhs, hi, hk, hm, hp, hc, hcur, _⟩ := rewriteEvent_spec sg n st st1 rule σ h1
    obtain ⟨insts, hcl, hlink⟩ := ih st1 st' h2
    refine ⟨inst :: insts, ?_, ?_⟩
    · rw [hcl, hc]; simp
    · exact ⟨rw, ar, s, lhs, rhs, hk, hm, hp, hcur ▸ hlink⟩

end Kore

namespace Kore

/-! ## a uniform view of `conv`: every non-variable term is a notation applied to sorts, extra
symbols and converted sub-terms -/

def KTerm.isEvar : KTerm → Bool
  | .evar _ => true
  | _ => false

/-- definition and arity of the notation a term is converted to -/
def KTerm.head (sg : Sig) : KTerm → Option (NPat × Nat)
  | .evar _ => none
  | .app f _ _ => (sg.symbols.find? (·.name == f)).bind fun d =>
      if d.isKseq then koreNotation "kore-kseq"
      else some (naryDef (symSym f) (d.nSortParams + d.nInputs), d.nSortParams + d.nInputs)
  | .dv _ _ => koreNotation "kore-dv"
  | .top _ => koreNotation "kore-top"
  | .bottom _ => koreNotation "kore-bottom"
  | .not _ _ => koreNotation "kore-not"
  | .next _ _ => koreNotation "kore-next"
  | .and _ _ _ => koreNotation "kore-and"
  | .or _ _ _ => koreNotation "kore-or"
  | .implies _ _ _ => koreNotation "kore-implies"
  | .iff _ _ _ => koreNotation "kore-iff"
  | .rewrites _ _ _ => koreNotation "kore-rewrites"
  | .ceil _ _ _ => koreNotation "kore-ceil"
  | .floor _ _ _ => koreNotation "kore-floor"
  | .equals _ _ _ _ => koreNotation "kore-equals"
  | .kin _ _ _ _ => koreNotation "kore-in"

def KTerm.sorts : KTerm → List KSort
  | .evar _ => []
  | .app _ ss _ => ss
  | .dv s _ => [s] | .top s => [s] | .bottom s => [s]
  | .not s _ => [s] | .next s _ => [s]
  | .and s _ _ => [s] | .or s _ _ => [s] | .implies s _ _ => [s] | .iff s _ _ => [s]
  | .rewrites s _ _ => [s]
  | .ceil a b _ => [a, b] | .floor a b _ => [a, b]
  | .equals a b _ _ => [a, b] | .kin a b _ _ => [a, b]

def KTerm.extra : KTerm → List NPat
  | .dv _ v => [dvSym v]
  | _ => []

def KTerm.kids : KTerm → List KTerm
  | .evar _ => []
  | .app _ _ as => as
  | .dv _ _ => [] | .top _ => [] | .bottom _ => []
  | .not _ p => [p] | .next _ p => [p]
  | .and _ l r => [l, r] | .or _ l r => [l, r] | .implies _ l r => [l, r] | .iff _ l r => [l, r]
  | .rewrites _ l r => [l, r]
  | .ceil _ _ p => [p] | .floor _ _ p => [p]
  | .equals _ _ l r => [l, r] | .kin _ _ l r => [l, r]

/-- the uniform description of `conv` on a non-variable term (the notation is looked up last, as `conv` does) -/
def convNode (sg : Sig) (sc : Scope) (t : KTerm) : Option (Scope × NPat) := do
  let (sc1, sp) ← convSorts sg sc t.sorts
  let (sc2, ap) ← convList sg sc1 t.kids
  let (d, ar) ← t.head sg
  let r ← applyDef d ar (sp ++ t.extra ++ ap)
  pure (sc2, r)

theorem conv_node (sg : Sig) (sc : Scope) (t : KTerm) (ht : t.isEvar = false) :
    conv sg sc t = convNode sg sc t := by
  cases t with
  | evar x => cases ht
  | app f ss as =>
    simp only [conv, convNode, KTerm.head, KTerm.sorts, KTerm.kids, KTerm.extra, applyN, Option.bind_eq_bind,
      Option.pure_def, List.append_nil]
    cases sg.symbols.find? (·.name == f) with
    | none =>
      -- `get_symbol` fails first in `conv`, last in `convNode`
      cases convSorts sg sc ss with
      | none => rfl
      | some x => simp only [Option.bind_some, Option.bind_none]; cases convList sg x.1 as <;> rfl
    | some d =>
      simp only [Option.bind_some]
      by_cases hq : d.isKseq = true <;> simp only [hq, if_true, if_false, Option.bind_some, Option.bind_assoc]
      rfl
  | _ =>
    simp only [conv, convNode, KTerm.head, KTerm.sorts, KTerm.kids, KTerm.extra, convSorts, convList, applyN,
      Option.bind_eq_bind, Option.bind_some, Option.bind_assoc, Option.pure_def,
      List.nil_append, List.cons_append, List.append_nil]

theorem conv_node_iff (sg : Sig) (sc sc' : Scope) (t : KTerm) (p : NPat) (ht : t.isEvar = false) :
    conv sg sc t = some (sc', p) ↔
      ∃ d ar sc1 sp ap, t.head sg = some (d, ar) ∧ convSorts sg sc t.sorts = some (sc1, sp) ∧
        convList sg sc1 t.kids = some (sc', ap) ∧ (sp ++ t.extra ++ ap).length = ar ∧
        p = .inst d ((List.range ar).zip (sp ++ t.extra ++ ap)) := by
  rw [conv_node sg sc t ht]
  unfold convNode
  constructor
  · intro h
    simp only [Option.bind_eq_bind, Option.bind_eq_some_iff, Option.pure_def] at h
    obtain ⟨⟨sc1, sp⟩, hs, ⟨sc2, ap⟩, hl, ⟨d, ar⟩, hh, r, hr, he⟩ := h
    simp only [Option.some.injEq, Prod.mk.injEq] at he
    obtain ⟨rfl, rfl⟩ := he
    unfold applyDef at hr
    split at hr
    · next hlen =>
      simp only [Option.some.injEq] at hr
      exact ⟨d, ar, sc1, sp, ap, hh, hs, hl, hlen, hr.symm⟩
    · cases hr
  · rintro ⟨d, ar, sc1, sp, ap, hh, hs, hl, hlen, rfl⟩
    simp only [hh, hs, hl, applyDef, hlen, Option.bind_eq_bind, Option.bind_some, Option.pure_def, if_true]

theorem conv_evar (sg : Sig) (sc : Scope) (x : Nat) :
    conv sg sc (.evar x) = some ((sc.resolveMv x).1, mvN (sc.resolveMv x).2) := by
  simp only [conv]

/-- induction over terms through the uniform view -/
theorem KTerm.ind {P : KTerm → Prop} {Q : List KTerm → Prop}
    (hev : ∀ x, P (.evar x))
    (hnode : ∀ t, t.isEvar = false → Q t.kids → P t)
    (hnil : Q []) (hcons : ∀ t ts, P t → Q ts → Q (t :: ts)) : (∀ t, P t) ∧ (∀ ts, Q ts) := by
  have main : ∀ t : KTerm, P t := by
    intro t
    induction t using KTerm.rec (motive_2 := Q) with
    | evar x => exact hev x
    | nil => exact hnil
    | cons t ts iht ihts => exact hcons t ts iht ihts
    | app f ss as ih => exact hnode _ rfl ih
    | dv s v | top s | bottom s => exact hnode _ rfl hnil
    | not s p ih | next s p ih | ceil a b p ih | floor a b p ih => exact hnode _ rfl (hcons _ _ ih hnil)
    | and s l r ihl ihr | or s l r ihl ihr | implies s l r ihl ihr | iff s l r ihl ihr | rewrites s l r ihl ihr
    | equals a b l r ihl ihr | kin a b l r ihl ihr => exact hnode _ rfl (hcons _ _ ihl (hcons _ _ ihr hnil))
  refine ⟨main, ?_⟩
  intro ts
  induction ts with
  | nil => exact hnil
  | cons t ts ih => exact hcons t ts (main t) ih

theorem convList_nil (sg : Sig) (sc : Scope) : convList sg sc [] = some (sc, []) := by
  simp only [convList]

theorem convList_cons_iff (sg : Sig) (sc sc' : Scope) (t : KTerm) (ts : List KTerm) (ps : List NPat) :
    convList sg sc (t :: ts) = some (sc', ps) ↔
      ∃ sc1 p ps', conv sg sc t = some (sc1, p) ∧ convList sg sc1 ts = some (sc', ps') ∧ ps = p :: ps' := by
  simp only [convList, Option.bind_eq_bind, Option.bind_eq_some_iff, Option.pure_def, Option.some.injEq,
    Prod.mk.injEq, Prod.exists]
  constructor
  · rintro ⟨sc1, p, h1, sc2, ps', h2, rfl, rfl⟩
    exact ⟨sc1, p, ps', h1, h2, rfl⟩
  · rintro ⟨sc1, p, ps', h1, h2, rfl⟩
    exact ⟨sc1, p, h1, sc', ps', h2, rfl, rfl⟩

theorem subst_node (sg : Sig) (σ : List (Nat × KTerm)) (t : KTerm) (ht : t.isEvar = false) :
    (t.subst σ).isEvar = false ∧ (t.subst σ).head sg = t.head sg ∧ (t.subst σ).sorts = t.sorts ∧
      (t.subst σ).extra = t.extra ∧ (t.subst σ).kids = substList σ t.kids := by
  cases t with
  | evar x => cases ht
  | _ => exact ⟨rfl, rfl, rfl, rfl, rfl⟩

theorem ground_node (t : KTerm) (ht : t.isEvar = false) :
    t.ground = (t.sorts.all KSort.ground && groundList t.kids) := by
  cases t with
  | evar x => cases ht
  | _ => simp only [KTerm.ground, groundList, KTerm.kids, KTerm.sorts, List.all_cons, List.all_nil, Bool.and_true, Bool.and_assoc]

theorem evars_node (t : KTerm) (ht : t.isEvar = false) : t.evars = evarsList t.kids := by
  cases t with
  | evar x => cases ht
  | _ => simp only [KTerm.evars, evarsList, KTerm.kids, List.append_nil]

/-! ## sorts -/

/-- what a sort converts to: a sort-parameter metavariable (id ≥ 100) or a sort symbol -/
def IsSortPat (p : NPat) : Prop := (∃ i, 100 ≤ i ∧ p = mvN i) ∨ (∃ n, p = sortSym n)

theorem convSort_spec (sg : Sig) (sc sc' : Scope) (s : KSort) (p : NPat)
    (h : convSort sg sc s = some (sc', p)) :
    sc'.mvs = sc.mvs ∧ IsSortPat p ∧
    (∀ m, convSort sg { mvs := m, sortParams := sc.sortParams } s =
        some ({ mvs := m, sortParams := sc'.sortParams }, p)) ∧
    (s.ground = true → sc' = sc) := by
  cases s with
  | var x =>
    simp only [convSort, Scope.resolveSortParam, sortParamBase] at h ⊢
    cases hi : sc.sortParams.idxOf? x with
    | some i =>
      simp only [hi, Option.some.injEq, Prod.mk.injEq] at h
      obtain ⟨rfl, rfl⟩ := h
      refine ⟨rfl, Or.inl ⟨100 + i, by omega, rfl⟩, fun m => ?_, fun hg => by simp [KSort.ground] at hg⟩
      simp only [hi]
    | none =>
      simp only [hi, Option.some.injEq, Prod.mk.injEq] at h
      obtain ⟨rfl, rfl⟩ := h
      refine ⟨rfl, Or.inl ⟨100 + sc.sortParams.length, by omega, rfl⟩, fun m => ?_, fun hg => by simp [KSort.ground] at hg⟩
      simp only [hi]
  | app n =>
    simp only [convSort] at h ⊢
    split at h
    · next hc =>
      simp only [Option.some.injEq, Prod.mk.injEq] at h
      obtain ⟨rfl, rfl⟩ := h
      refine ⟨rfl, Or.inr ⟨n, rfl⟩, fun m => ?_, fun _ => rfl⟩
      simp only [hc, if_true]
    · cases h

theorem convSorts_spec (sg : Sig) : ∀ (ss : List KSort) (sc sc' : Scope) (sp : List NPat),
    convSorts sg sc ss = some (sc', sp) →
    sc'.mvs = sc.mvs ∧ (∀ p ∈ sp, IsSortPat p) ∧
    (∀ m, convSorts sg { mvs := m, sortParams := sc.sortParams } ss =
        some ({ mvs := m, sortParams := sc'.sortParams }, sp)) ∧
    (ss.all KSort.ground = true → sc' = sc) ∧ sp.length = ss.length := by
  intro ss
  induction ss with
  | nil =>
    intro sc sc' sp h
    simp only [convSorts, Option.some.injEq, Prod.mk.injEq] at h
    obtain ⟨rfl, rfl⟩ := h
    exact ⟨rfl, by simp, fun m => by simp only [convSorts], fun _ => rfl, rfl⟩
  | cons s ss ih =>
    intro sc sc' sp h
    simp only [convSorts, Option.bind_eq_bind, Option.bind_eq_some_iff, Option.pure_def, Option.some.injEq,
      Prod.mk.injEq, Prod.exists] at h
    obtain ⟨sc1, p, h1, sc2, ps, h2, rfl, rfl⟩ := h
    obtain ⟨a1, a2, a3, a4⟩ := convSort_spec sg sc sc1 s p h1
    obtain ⟨b1, b2, b3, b4, b5⟩ := ih sc1 sc2 ps h2
    refine ⟨b1.trans a1, ?_, fun m => ?_, fun hg => ?_, by simp [b5]⟩
    · intro q hq
      cases hq with
      | head => exact a2
      | tail _ hq => exact b2 q hq
    · simp only [convSorts, a3 m, b3 m, Option.bind_eq_bind, Option.bind_some, Option.pure_def]
    · simp only [List.all_cons, Bool.and_eq_true] at hg
      have := a4 hg.1
      subst this
      exact b4 hg.2

theorem IsSortPat.shape {p : NPat} (h : IsSortPat p) : p.Shape = true := by
  rcases h with ⟨i, _, rfl⟩ | ⟨n, rfl⟩ <;> simp [mvN, sortSym, NPat.Shape]

theorem IsSortPat.inst_fix {p : NPat} (h : IsSortPat p) (θ : VId → Option Pat)
    (hθ : ∀ k, 100 ≤ k → θ k = none) : Py.inst θ p.expand = p.expand := by
  rcases h with ⟨i, hi, rfl⟩ | ⟨n, rfl⟩
  · simp [mvN, NPat.expand, Py.inst, hθ i hi]
  · simp [sortSym, NPat.expand, Py.inst]

/-! ## K1 (continued): conversion only appends to the scope -/

def ScopeGrows (sc sc' : Scope) (vars : List Nat) : Prop :=
  (∃ ext, sc'.mvs = sc.mvs ++ ext) ∧ (sc.mvs.Nodup → sc'.mvs.Nodup) ∧ (∀ x ∈ vars, x ∈ sc'.mvs)

theorem conv_scope_both (sg : Sig) :
    (∀ t : KTerm, ∀ sc sc' p, conv sg sc t = some (sc', p) → ScopeGrows sc sc' t.evars) ∧
    (∀ ts : List KTerm, ∀ sc sc' ps, convList sg sc ts = some (sc', ps) → ScopeGrows sc sc' (evarsList ts)) := by
  apply KTerm.ind
  · intro x sc sc' p h
    rw [conv_evar] at h
    simp only [Option.some.injEq, Prod.mk.injEq] at h
    obtain ⟨rfl, _⟩ := h
    refine ⟨?_, fun hn => (resolveMv_spec sc x hn).1, ?_⟩
    · by_cases hx : x ∈ sc.mvs
      · rw [resolveMv_mem sc x hx]; exact ⟨[], by simp⟩
      · rw [resolveMv_not_mem sc x hx]; exact ⟨[x], rfl⟩
    · intro y hy
      simp only [KTerm.evars, List.mem_singleton] at hy
      subst hy
      exact resolveMv_mem_after sc y
  · intro t ht ih sc sc' p h
    obtain ⟨d, ar, sc1, sp, ap, hh, hs, hl, hlen, rfl⟩ := (conv_node_iff sg sc sc' t p ht).mp h
    obtain ⟨e1, _, _, _, _⟩ := convSorts_spec sg _ _ _ _ hs
    obtain ⟨⟨ext, he⟩, hn, hv⟩ := ih sc1 sc' ap hl
    rw [evars_node t ht]
    exact ⟨⟨ext, by rw [he, e1]⟩, fun h => hn (e1 ▸ h), hv⟩
  · intro sc sc' ps h
    rw [convList_nil] at h
    simp only [Option.some.injEq, Prod.mk.injEq] at h
    obtain ⟨rfl, _⟩ := h
    exact ⟨⟨[], by simp⟩, id, by simp [evarsList]⟩
  · intro t ts iht ihts sc sc' ps h
    obtain ⟨sc1, p, ps', h1, h2, rfl⟩ := (convList_cons_iff sg sc sc' t ts ps).mp h
    obtain ⟨⟨e1, he1⟩, hn1, hv1⟩ := iht sc sc1 p h1
    obtain ⟨⟨e2, he2⟩, hn2, hv2⟩ := ihts sc1 sc' ps' h2
    refine ⟨⟨e1 ++ e2, by rw [he2, he1, List.append_assoc]⟩, fun h => hn2 (hn1 h), ?_⟩
    intro x hx
    simp only [evarsList, List.mem_append] at hx
    rcases hx with hx | hx
    · rw [he2]; exact List.mem_append_left _ (hv1 x hx)
    · exact hv2 x hx

/-- conversion only appends to the scope, and afterwards every element variable of the term is in it -/
theorem conv_scope (sg : Sig) (sc sc' : Scope) (t : KTerm) (p : NPat) (h : conv sg sc t = some (sc', p))
    (hn : sc.mvs.Nodup) :
    sc'.mvs.Nodup ∧ (∃ ext, sc'.mvs = sc.mvs ++ ext) ∧ (∀ x ∈ t.evars, x ∈ sc'.mvs) := by
  obtain ⟨a, b, c⟩ := (conv_scope_both sg).1 t sc sc' p h
  exact ⟨b hn, a, c⟩

/-! ## K3. the notation definitions used by the conversion -/

/-- a definition is well shaped, mentions only metavariables below its arity, and its metavariable
set can be computed with finite fuel (which holds of every pattern: `metavarsF_total`) -/
def GoodDef (d : NPat) (ar : Nat) : Prop :=
  d.Shape = true ∧ (∀ k ∈ Py.metavars d.expand, k < ar) ∧ ∃ n, (NPat.metavarsF n d).isSome = true

theorem metavarsF_total (d : NPat) : ∃ n, (NPat.metavarsF n d).isSome = true := by
  obtain ⟨L, h⟩ := NPat.metavarsF_terminates d _ (Nat.le_refl _)
  exact ⟨_, by rw [h]; rfl⟩

theorem kore_entries_good : ∀ e ∈ Gen.notations, e.group = "kore" →
    e.definition.Shape = true ∧ (Py.metavars e.definition.expand).all (· < e.arity) = true := by decide +kernel

theorem koreNotation_good (lbl : String) (d : NPat) (ar : Nat) (h : koreNotation lbl = some (d, ar)) :
    GoodDef d ar := by
  unfold koreNotation at h
  simp only [Option.map_eq_some_iff, Prod.mk.injEq] at h
  obtain ⟨e, he, rfl, rfl⟩ := h
  have hp := List.find?_some he
  simp only [Bool.and_eq_true, beq_iff_eq] at hp
  obtain ⟨g1, g2⟩ := kore_entries_good e (List.mem_of_find?_eq_some he) hp.1
  exact ⟨g1, fun k hk => by simpa using List.all_eq_true.mp g2 k hk, metavarsF_total _⟩

theorem naryDef_succ (sym : NPat) (n : Nat) : naryDef sym (n + 1) = .app (naryDef sym n) (mvN n) := by
  simp only [naryDef, List.range_succ, List.foldl_append, List.foldl_cons, List.foldl_nil, mvN]

theorem naryDef_zero (sym : NPat) : naryDef sym 0 = sym := by
  simp [naryDef]

theorem naryDef_good (s : Nat) (n : Nat) : GoodDef (naryDef (.sym s) n) n := by
  induction n with
  | zero =>
    rw [naryDef_zero]
    exact ⟨rfl, by simp [NPat.expand, Py.metavars], metavarsF_total _⟩
  | succ n ih =>
    obtain ⟨h1, h2, _⟩ := ih
    rw [naryDef_succ]
    refine ⟨by simp [NPat.Shape, h1, mvN], ?_, metavarsF_total _⟩
    intro k hk
    simp only [NPat.expand, mvN, Py.metavars, List.mem_append, List.mem_singleton] at hk
    rcases hk with hk | hk
    · exact Nat.lt_succ_of_lt (h2 k hk)
    · subst hk; exact Nat.lt_succ_self _

theorem head_good (sg : Sig) (t : KTerm) (d : NPat) (ar : Nat) (h : t.head sg = some (d, ar)) :
    GoodDef d ar := by
  cases t with
  | evar x => simp [KTerm.head] at h
  | app f ss as =>
    simp only [KTerm.head, Option.bind_eq_some_iff] at h
    obtain ⟨sd, _, h⟩ := h
    split at h
    · exact koreNotation_good _ _ _ h
    · simp only [Option.some.injEq, Prod.mk.injEq] at h
      obtain ⟨rfl, rfl⟩ := h
      exact naryDef_good _ _
  | _ => exact koreNotation_good _ _ _ h

/-! ## expansion of a notation application -/

theorem lookup_zip_range' (args : List NPat) : ∀ (s k : Nat),
    Py.lookup (NPat.expand.expandMap ((List.range' s args.length).zip args)) k =
      if s ≤ k then (args[k - s]?).map NPat.expand else none := by
  induction args with
  | nil => intro s k; simp [NPat.expand.expandMap, Py.lookup]
  | cons a as ih =>
    intro s k
    simp only [List.length_cons, List.range'_succ, List.zip_cons_cons, NPat.expand.expandMap, Py.lookup]
    by_cases hsk : s = k
    · subst hsk; simp
    · rw [if_neg hsk, ih (s + 1) k]
      by_cases hlt : s < k
      · have h1 : s + 1 ≤ k := hlt
        have h2 : s ≤ k := Nat.le_of_lt hlt
        have h3 : k - s = (k - (s + 1)) + 1 := by omega
        rw [if_pos h1, if_pos h2, h3, List.getElem?_cons_succ]
      · have h1 : ¬ s + 1 ≤ k := by omega
        have h2 : ¬ s ≤ k := by omega
        rw [if_neg h1, if_neg h2]

theorem node_expand (d : NPat) (ar : Nat) (args : List NPat) (hlen : args.length = ar) :
    (NPat.inst d ((List.range ar).zip args)).expand =
      Py.inst (fun k => (args[k]?).map NPat.expand) d.expand := by
  subst hlen
  simp only [NPat.expand]
  congr 1
  funext k
  rw [List.range_eq_range', lookup_zip_range' args 0 k]
  simp

/-! ## converted patterns are well shaped -/

theorem shapeMap_zip (ks : List Nat) (args : List NPat) (h : ∀ a ∈ args, a.Shape = true) :
    NPat.ShapeMap (ks.zip args) = true := by
  rw [NPat.shapeMap_iff]
  intro kv hkv
  exact h _ (List.of_mem_zip hkv).2

theorem conv_shape_both (sg : Sig) :
    (∀ t : KTerm, ∀ sc sc' p, conv sg sc t = some (sc', p) → p.Shape = true) ∧
    (∀ ts : List KTerm, ∀ sc sc' ps, convList sg sc ts = some (sc', ps) → ∀ p ∈ ps, p.Shape = true) := by
  apply KTerm.ind
  · intro x sc sc' p h
    rw [conv_evar] at h
    simp only [Option.some.injEq, Prod.mk.injEq] at h
    obtain ⟨_, rfl⟩ := h
    simp [mvN, NPat.Shape]
  · intro t ht ih sc sc' p h
    obtain ⟨d, ar, sc1, sp, ap, hh, hs, hl, hlen, rfl⟩ := (conv_node_iff sg sc sc' t p ht).mp h
    obtain ⟨_, hsp, _, _, _⟩ := convSorts_spec sg _ _ _ _ hs
    have hd := (head_good sg t d ar hh).1
    simp only [NPat.Shape, hd, Bool.true_and]
    apply shapeMap_zip
    intro a ha
    simp only [List.mem_append] at ha
    rcases ha with (ha | ha) | ha
    · exact (hsp a ha).shape
    · cases t <;> simp [KTerm.extra] at ha
      subst ha; rfl
    · exact ih sc1 sc' ap hl a ha
  · intro sc sc' ps h
    rw [convList_nil] at h
    simp only [Option.some.injEq, Prod.mk.injEq] at h
    obtain ⟨_, rfl⟩ := h
    simp
  · intro t ts iht ihts sc sc' ps h
    obtain ⟨sc1, p, ps', h1, h2, rfl⟩ := (convList_cons_iff sg sc sc' t ts ps).mp h
    intro q hq
    cases hq with
    | head => exact iht sc sc1 p h1
    | tail _ hq => exact ihts sc1 sc' ps' h2 q hq

theorem conv_shape (sg : Sig) (sc sc' : Scope) (t : KTerm) (p : NPat) (h : conv sg sc t = some (sc', p)) :
    p.Shape = true := (conv_shape_both sg).1 t sc sc' p h

/-! ## ground terms: the scope is not touched and does not matter -/

theorem convSorts_ground (sg : Sig) : ∀ (ss : List KSort) (sc sc' : Scope) (sp : List NPat),
    ss.all KSort.ground = true → convSorts sg sc ss = some (sc', sp) →
    ∀ sc2, convSorts sg sc2 ss = some (sc2, sp) := by
  intro ss
  induction ss with
  | nil =>
    intro sc sc' sp _ h sc2
    simp only [convSorts, Option.some.injEq, Prod.mk.injEq] at h ⊢
    simp [h.2]
  | cons s ss ih =>
    intro sc sc' sp hg h sc2
    simp only [List.all_cons, Bool.and_eq_true] at hg
    simp only [convSorts, Option.bind_eq_bind, Option.bind_eq_some_iff, Option.pure_def, Option.some.injEq,
      Prod.mk.injEq, Prod.exists] at h
    obtain ⟨sc1, p, h1, sc3, ps, h3, rfl, rfl⟩ := h
    have h1' : convSort sg sc2 s = some (sc2, p) := by
      cases s with
      | var x => simp [KSort.ground] at hg
      | app n =>
        simp only [convSort] at h1 ⊢
        split at h1
        · next hc =>
          simp only [Option.some.injEq, Prod.mk.injEq] at h1
          simp only [hc, if_true, h1.2]
        · cases h1
    simp only [convSorts, h1', ih sc1 sc3 ps hg.2 h3 sc2, Option.bind_eq_bind, Option.bind_some, Option.pure_def]

def ScopeFree (sg : Sig) (t : KTerm) : Prop :=
  ∀ sc sc' p, conv sg sc t = some (sc', p) → sc' = sc ∧ ∀ sc2, conv sg sc2 t = some (sc2, p)

def ScopeFreeL (sg : Sig) (ts : List KTerm) : Prop :=
  ∀ sc sc' ps, convList sg sc ts = some (sc', ps) → sc' = sc ∧ ∀ sc2, convList sg sc2 ts = some (sc2, ps)

theorem conv_ground_both (sg : Sig) :
    (∀ t : KTerm, t.ground = true → ScopeFree sg t) ∧
    (∀ ts : List KTerm, groundList ts = true → ScopeFreeL sg ts) := by
  apply KTerm.ind
  · intro x hg
    simp [KTerm.ground] at hg
  · intro t ht ih hg sc sc' p h
    rw [ground_node t ht, Bool.and_eq_true] at hg
    obtain ⟨d, ar, sc1, sp, ap, hh, hs, hl, hlen, rfl⟩ := (conv_node_iff sg sc sc' t p ht).mp h
    obtain ⟨_, _, _, hsc, _⟩ := convSorts_spec sg _ _ _ _ hs
    have e1 := hsc hg.1
    subst e1
    obtain ⟨e2, hall⟩ := ih hg.2 sc1 sc' ap hl
    subst e2
    refine ⟨rfl, fun sc2 => ?_⟩
    rw [conv_node_iff sg sc2 sc2 t _ ht]
    exact ⟨d, ar, sc2, sp, ap, hh, convSorts_ground sg _ _ _ _ hg.1 hs sc2, hall sc2, hlen, rfl⟩
  · intro _ sc sc' ps h
    rw [convList_nil] at h
    simp only [Option.some.injEq, Prod.mk.injEq] at h
    obtain ⟨rfl, rfl⟩ := h
    exact ⟨rfl, fun sc2 => convList_nil sg sc2⟩
  · intro t ts iht ihts hg sc sc' ps h
    simp only [groundList, Bool.and_eq_true] at hg
    obtain ⟨sc1, p, ps', h1, h2, rfl⟩ := (convList_cons_iff sg sc sc' t ts ps).mp h
    obtain ⟨e1, a1⟩ := iht hg.1 sc sc1 p h1
    subst e1
    obtain ⟨e2, a2⟩ := ihts hg.2 sc1 sc' ps' h2
    subst e2
    refine ⟨rfl, fun sc2 => ?_⟩
    rw [convList_cons_iff]
    exact ⟨sc2, p, ps', a1 sc2, a2 sc2, rfl⟩

theorem conv_ground (sg : Sig) (t : KTerm) (hg : t.ground = true) : ScopeFree sg t :=
  (conv_ground_both sg).1 t hg

/-! ## K3. the main induction: converting the substituted term = instantiating the converted term -/

theorem resolveMv_sortParams (sc : Scope) (x : Nat) : (sc.resolveMv x).1.sortParams = sc.sortParams := by
  by_cases hx : x ∈ sc.mvs
  · rw [resolveMv_mem sc x hx]
  · rw [resolveMv_not_mem sc x hx]

theorem extra_spec (t : KTerm) : ∀ a ∈ t.extra, ∃ v, a = dvSym v := by
  intro a ha
  cases t <;> simp [KTerm.extra] at ha
  exact ⟨_, ha⟩

/-- `Pat`-level core: instantiating a notation application = instantiating its arguments, when the
definition only mentions its own parameters -/
theorem inst_node (θ : VId → Option Pat) (D : Pat) (A A' : List Pat) (hD : D.Shape = true)
    (hmv : ∀ k ∈ Py.metavars D, k < A.length) (hA : ∀ v ∈ A, v.Shape = true)
    (hA' : A' = A.map (Py.inst θ)) :
    Py.inst θ (Py.inst (fun k => A[k]?) D) = Py.inst (fun k => A'[k]?) D := by
  rw [Py.inst_comp _ _ (fun k v h => hA v (List.mem_of_getElem? h)) D hD]
  apply Py.inst_congr
  intro k hk
  have hlt := hmv k hk
  subst hA'
  simp [List.getElem?_map, List.getElem?_eq_getElem hlt]

section main
variable (sg : Sig) (σ : List (Nat × KTerm)) (θ : VId → Option Pat) (scF : Scope)

/-- a variable of the rule: bound by `σ` to a ground term whose conversion is what `θ` maps the
variable's metavariable to -/
def GoodVar (x : Nat) : Prop :=
  ∃ v pv, σ.lookup x = some v ∧ v.ground = true ∧ (∀ sc, conv sg sc v = some (sc, pv)) ∧
    θ (scF.mvs.idxOf x) = some pv.expand

theorem conv_subst_both (hθ : ∀ k, 100 ≤ k → θ k = none) :
    (∀ t : KTerm, ∀ sc sc' p, conv sg sc t = some (sc', p) → (∃ ext, scF.mvs = sc'.mvs ++ ext) →
      (∀ x ∈ t.evars, GoodVar sg σ θ scF x) →
      ∀ m, ∃ q, conv sg { mvs := m, sortParams := sc.sortParams } (t.subst σ) =
          some ({ mvs := m, sortParams := sc'.sortParams }, q) ∧ q.expand = Py.inst θ p.expand) ∧
    (∀ ts : List KTerm, ∀ sc sc' ps, convList sg sc ts = some (sc', ps) → (∃ ext, scF.mvs = sc'.mvs ++ ext) →
      (∀ x ∈ evarsList ts, GoodVar sg σ θ scF x) →
      ∀ m, ∃ qs, convList sg { mvs := m, sortParams := sc.sortParams } (substList σ ts) =
          some ({ mvs := m, sortParams := sc'.sortParams }, qs) ∧
          qs.map NPat.expand = (ps.map NPat.expand).map (Py.inst θ)) := by
  apply KTerm.ind
  · -- variable
    intro x sc sc' p h hext hgood m
    rw [conv_evar] at h
    simp only [Option.some.injEq, Prod.mk.injEq] at h
    obtain ⟨rfl, rfl⟩ := h
    obtain ⟨v, pv, hl, hg, hc, hth⟩ := hgood x (by simp [KTerm.evars])
    refine ⟨pv, ?_, ?_⟩
    · simp only [KTerm.subst, hl, Option.getD_some, resolveMv_sortParams]
      exact hc _
    · obtain ⟨ext, he⟩ := hext
      have hi : (sc.resolveMv x).2 = scF.mvs.idxOf x := by
        rw [he, idxOf_append_of_mem (resolveMv_mem_after sc x), resolveMv_idx, resolveMv_snd]
      simp only [mvN, NPat.expand, Py.inst, hi, hth]
  · -- notation application
    intro t ht ih sc sc' p h hext hgood m
    obtain ⟨d, ar, sc1, sp, ap, hh, hs, hl, hlen, rfl⟩ := (conv_node_iff sg sc sc' t p ht).mp h
    obtain ⟨_, hsp, hs', _, _⟩ := convSorts_spec sg _ _ _ _ hs
    rw [evars_node t ht] at hgood
    obtain ⟨qs, hq, hqe⟩ := ih sc1 sc' ap hl hext hgood m
    obtain ⟨s1, s2, s3, s4, s5⟩ := subst_node sg σ t ht
    have hlq : qs.length = ap.length := by
      have := congrArg List.length hqe
      simpa using this
    have hlen' : (sp ++ t.extra ++ qs).length = ar := by
      rw [← hlen]; simp only [List.length_append, hlq]
    refine ⟨.inst d ((List.range ar).zip (sp ++ t.extra ++ qs)), ?_, ?_⟩
    · rw [conv_node_iff sg _ _ _ _ s1]
      refine ⟨d, ar, { mvs := m, sortParams := sc1.sortParams }, sp, qs, by rw [s2, hh], by rw [s3]; exact hs' m,
        by rw [s5]; exact hq, by rw [s4]; exact hlen', by rw [s4]⟩
    · obtain ⟨gd1, gd2, _⟩ := head_good sg t d ar hh
      rw [node_expand d ar _ hlen', node_expand d ar _ hlen]
      have e1 : (fun k : Nat => ((sp ++ t.extra ++ qs)[k]?).map NPat.expand) =
          fun k : Nat => ((sp ++ t.extra ++ qs).map NPat.expand)[k]? := by
        funext k; rw [List.getElem?_map]
      have e2 : (fun k : Nat => ((sp ++ t.extra ++ ap)[k]?).map NPat.expand) =
          fun k : Nat => ((sp ++ t.extra ++ ap).map NPat.expand)[k]? := by
        funext k; rw [List.getElem?_map]
      rw [e1, e2]
      symm
      apply inst_node θ _ _ _ (NPat.shape_expand d gd1)
      · intro k hk
        rw [List.length_map, hlen]
        exact gd2 k hk
      · intro v hv
        obtain ⟨a, ha, rfl⟩ := List.mem_map.mp hv
        apply NPat.shape_expand
        simp only [List.mem_append] at ha
        rcases ha with (ha | ha) | ha
        · exact (hsp a ha).shape
        · obtain ⟨w, rfl⟩ := extra_spec t a ha; rfl
        · exact (conv_shape_both sg).2 _ _ _ _ hl a ha
      · simp only [List.map_append, hqe]
        congr 1
        congr 1
        · rw [List.map_map]
          apply List.map_congr_left
          intro a ha
          exact ((hsp a ha).inst_fix θ hθ).symm
        · rw [List.map_map]
          apply List.map_congr_left
          intro a ha
          obtain ⟨w, rfl⟩ := extra_spec t a ha
          rfl
  · intro sc sc' ps h hext hgood m
    rw [convList_nil] at h
    simp only [Option.some.injEq, Prod.mk.injEq] at h
    obtain ⟨rfl, rfl⟩ := h
    exact ⟨[], by simp only [substList, convList], rfl⟩
  · intro t ts iht ihts sc sc' ps h hext hgood m
    obtain ⟨sc1, p, ps', h1, h2, rfl⟩ := (convList_cons_iff sg sc sc' t ts ps).mp h
    obtain ⟨⟨e2, he2⟩, _, _⟩ := (conv_scope_both sg).2 ts sc1 sc' ps' h2
    obtain ⟨ext, hext'⟩ := hext
    have hext1 : ∃ ext, scF.mvs = sc1.mvs ++ ext := ⟨e2 ++ ext, by rw [hext', he2, List.append_assoc]⟩
    obtain ⟨q, hq, hqe⟩ := iht sc sc1 p h1 hext1
      (fun x hx => hgood x (by simp only [evarsList, List.mem_append]; exact Or.inl hx)) m
    obtain ⟨qs, hqs, hqse⟩ := ihts sc1 sc' ps' h2 ⟨ext, hext'⟩
      (fun x hx => hgood x (by simp only [evarsList, List.mem_append]; exact Or.inr hx)) m
    refine ⟨q :: qs, ?_, ?_⟩
    · simp only [substList]
      rw [convList_cons_iff]
      exact ⟨_, q, qs, hq, hqs, rfl⟩
    · simp only [List.map_cons, hqe, hqse]

end main

/-! ## K3. the converted substitution -/

/-- entry-wise relation between a Kore substitution and its conversion in the scope `sc` -/
def SubstRel (sg : Sig) (sc : Scope) (xv : Nat × KTerm) (ip : Nat × NPat) : Prop :=
  xv.1 ∈ sc.mvs ∧ ip.1 = sc.mvs.idxOf xv.1 ∧ conv sg sc xv.2 = some (sc, ip.2)

inductive SubstRelL (sg : Sig) (sc : Scope) : List (Nat × KTerm) → List (Nat × NPat) → Prop
  | nil : SubstRelL sg sc [] []
  | cons {xv ip σ ps} : SubstRel sg sc xv ip → SubstRelL sg sc σ ps → SubstRelL sg sc (xv :: σ) (ip :: ps)

theorem convertSubst_spec (sg : Sig) (sc : Scope) : ∀ (σ : List (Nat × KTerm)) (acc : List (Nat × NPat))
    (sc' : Scope) (δ : List (Nat × NPat)),
    (∀ x t, (x, t) ∈ σ → t.ground = true) → (σ.map (·.1)).Nodup →
    (∀ y ∈ σ.map (·.1), ∀ kv ∈ acc, kv.1 ≠ sc.mvs.idxOf y) →
    convertSubst sg sc σ acc = some (sc', δ) →
    sc' = sc ∧ ∃ ps, δ = acc ++ ps ∧ SubstRelL sg sc σ ps := by
  intro σ
  induction σ with
  | nil =>
    intro acc sc' δ _ _ _ h
    simp only [convertSubst, Option.some.injEq, Prod.mk.injEq] at h
    obtain ⟨rfl, rfl⟩ := h
    exact ⟨rfl, [], by simp, SubstRelL.nil⟩
  | cons xt r ih =>
    intro acc sc' δ hg hnd hinv h
    obtain ⟨x, t⟩ := xt
    simp only [convertSubst, Option.bind_eq_bind, Option.bind_eq_some_iff] at h
    obtain ⟨i, hi, ⟨sc1, p⟩, hc, h⟩ := h
    have hx : x ∈ sc.mvs := by
      by_cases hx : x ∈ sc.mvs
      · exact hx
      · rw [idxOf?_of_not_mem hx] at hi; cases hi
    rw [idxOf?_of_mem hx] at hi
    simp only [Option.some.injEq] at hi
    subst hi
    obtain ⟨e1, _⟩ := conv_ground sg t (hg x t (by simp)) sc sc1 p hc
    subst e1
    have hany : acc.any (fun kv => kv.1 == sc1.mvs.idxOf x) = false := by
      rw [List.any_eq_false]
      intro kv hkv
      have := hinv x (by simp) kv hkv
      simpa using this
    simp only [hany, Bool.false_eq_true, if_false] at h
    simp only [List.map_cons, List.nodup_cons] at hnd
    obtain ⟨e2, ps, hps, hrel⟩ := ih (acc ++ [(sc1.mvs.idxOf x, p)]) sc' δ
      (fun y u hy => hg y u (List.mem_cons_of_mem _ hy)) hnd.2
      (by
        intro y hy kv hkv
        simp only [List.mem_append, List.mem_singleton] at hkv
        rcases hkv with hkv | rfl
        · exact hinv y (by simp only [List.map_cons]; exact List.mem_cons_of_mem _ hy) kv hkv
        · intro heq
          have := idxOf_inj hx heq
          subst this
          exact hnd.1 hy) h
    refine ⟨e2, (sc1.mvs.idxOf x, p) :: ps, by rw [hps]; simp, ?_⟩
    exact SubstRelL.cons ⟨hx, rfl, hc⟩ hrel

theorem substRel_lookup (sg : Sig) (sc : Scope) : ∀ (σ : List (Nat × KTerm)) (ps : List (Nat × NPat)),
    SubstRelL sg sc σ ps → ∀ x v, σ.lookup x = some v →
    ∃ pv, conv sg sc v = some (sc, pv) ∧ Py.lookup ps (sc.mvs.idxOf x) = some pv := by
  intro σ ps h
  induction h with
  | nil => intro x v hl; simp at hl
  | @cons yw iq σ' ps' hr _ ih =>
    intro x v hl
    obtain ⟨y, w⟩ := yw
    obtain ⟨i, q⟩ := iq
    obtain ⟨hy, hi, hc⟩ := hr
    simp only at hy hi hc
    simp only [List.lookup] at hl
    by_cases hxy : x = y
    · subst hxy
      simp only [beq_self_eq_true, Option.some.injEq] at hl
      subst hl
      exact ⟨q, hc, by simp [Py.lookup, hi]⟩
    · have hb : (x == y) = false := by simpa using hxy
      simp only [hb] at hl
      obtain ⟨pv, h1, h2⟩ := ih x v hl
      refine ⟨pv, h1, ?_⟩
      simp only [Py.lookup]
      rw [if_neg]
      · exact h2
      · intro heq
        rw [hi] at heq
        exact hxy (idxOf_inj hy heq).symm

theorem substRel_mem (sg : Sig) (sc : Scope) : ∀ (σ : List (Nat × KTerm)) (ps : List (Nat × NPat)),
    SubstRelL sg sc σ ps → ∀ kv ∈ ps, kv.1 < sc.mvs.length ∧ kv.2.Shape = true := by
  intro σ ps h
  induction h with
  | nil => intro kv hkv; cases hkv
  | @cons yw iq σ' ps' hr _ ih =>
    intro kv hkv
    cases hkv with
    | head =>
      obtain ⟨hy, hi, hc⟩ := hr
      exact ⟨by rw [hi]; exact List.idxOf_lt_length_iff.mpr hy, conv_shape sg _ _ _ _ hc⟩
    | tail _ hkv => exact ih kv hkv

/-! ## K3. conversion commutes with substitution -/

theorem mem_of_lookup {σ : List (Nat × KTerm)} {x : Nat} {v : KTerm} (h : σ.lookup x = some v) :
    (x, v) ∈ σ := by
  obtain ⟨l1, l2, e, _⟩ := List.lookup_eq_some_iff.mp h
  rw [e]; simp

/-- For a quantifier-free rule `r` converted in a fresh scope, and a substitution `σ` that is total on
the variables of `r`, has distinct keys and ground values: instantiating the converted rule with the
converted substitution gives a pattern with the same expansion as converting the substituted rule.
(`hsub` is not used by the proof: `hδ` already forces every key of `σ` to be in the scope.) -/
theorem convert_subst (sg : Sig) (r : KTerm) (σ : List (Nat × KTerm)) (sc1 sc1' : Scope) (p : NPat)
    (δ : List (Nat × NPat))
    (hr : conv sg {} r = some (sc1, p))
    (hkeys : (σ.map (·.1)).Nodup) (hground : ∀ x t, (x, t) ∈ σ → t.ground = true)
    (hdom : ∀ x ∈ r.evars, (σ.lookup x).isSome) (hsub : ∀ x t, (x, t) ∈ σ → x ∈ r.evars)
    (hδ : convertSubst sg sc1 σ [] = some (sc1', δ)) (hsmall : sc1.mvs.length ≤ 100) :
    ∃ sc2 q n inst, conv sg {} (r.subst σ) = some (sc2, q) ∧ NPat.instF n δ p = some inst ∧
      inst.expand = q.expand := by
  -- the converted substitution
  obtain ⟨_, ps, hps, hrel⟩ := convertSubst_spec sg sc1 σ [] sc1' δ hground hkeys
    (fun _ _ kv hkv => by cases hkv) hδ
  simp only [List.nil_append] at hps
  subst hps
  have hmem := substRel_mem sg sc1 σ δ hrel
  have hshape : NPat.ShapeMap δ = true := by
    rw [NPat.shapeMap_iff]; intro kv hkv; exact (hmem kv hkv).2
  -- the `Pat`-level instantiation it denotes
  have hθ : ∀ k, 100 ≤ k → Py.lookup (NPat.expand.expandMap δ) k = none := by
    intro k hk
    rw [NPat.lookup_expandMap]
    cases hl : Py.lookup δ k with
    | none => rfl
    | some v =>
      have := (hmem (k, v) (Py.lookup_mem _ _ _ hl)).1
      exact absurd (Nat.lt_of_lt_of_le this hsmall) (Nat.not_lt.mpr hk)
  have hgood : ∀ x ∈ r.evars, GoodVar sg σ (Py.lookup (NPat.expand.expandMap δ)) sc1 x := by
    intro x hx
    obtain ⟨v, hv⟩ := Option.isSome_iff_exists.mp (hdom x hx)
    have hg := hground x v (mem_of_lookup hv)
    obtain ⟨pv, hc, hl⟩ := substRel_lookup sg sc1 σ δ hrel x v hv
    refine ⟨v, pv, hv, hg, (conv_ground sg v hg sc1 sc1 pv hc).2, ?_⟩
    rw [NPat.lookup_expandMap, hl]; rfl
  -- converting the substituted rule
  obtain ⟨q, hq, hqe⟩ := (conv_subst_both sg σ _ sc1 hθ).1 r {} sc1 p hr ⟨[], by simp⟩ hgood []
  -- instantiating the converted rule
  obtain ⟨inst, hinst, _⟩ := NPat.instF_terminates δ p _ (Nat.le_refl _)
  have hie := (NPat.instF_expand _ δ p inst (conv_shape sg _ _ _ _ hr) hshape hinst).1
  exact ⟨_, q, _, inst, hq, hinst, by rw [hie, hqe]⟩

#print axioms resolveMv_spec
#print axioms scope_injective
#print axioms scope_stable
#print axioms conv_scope
#print axioms ids_disjoint
#print axioms rewriteEvent_spec
#print axioms mismatch_refused
#print axioms chain_claims
#print axioms chain_links
#print axioms convert_subst

end Kore
