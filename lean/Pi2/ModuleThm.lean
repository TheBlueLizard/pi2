import Pi2.ProofThm
import Pi2.Codec
/-!
# From calls to phases to modules: the checker accepts what the generator serialises
-/
set_option linter.unusedSimpArgs false
set_option linter.unusedVariables false
open PySt

/-! ## B1/B2: one phase -/

/-- everything `sim_step`/`sim_accept` ask of one call -/
def SideOK (s : PySt) (c : Call) : Prop :=
  SideCond s c ∧ touchesResidue s c = false ∧ (∀ nm, c = .symbol nm → nm ≤ s.symtab.length) ∧
  (∀ keys, (c = .instantiate keys ∨ c = .instantiatePattern keys) → keys.Nodup) ∧
  (∀ t, c = .load t → t.body.Shape = true) ∧
  (∀ id ef sf ps ns hs, c = .metavar id ef sf ps ns hs → ef = [] ∧ sf = [])

/-- the side conditions of a history of one phase, along `track1` -/
def AllSide (n : Nat) : PySt → List Call → Prop
  | _, [] => True
  | s, c :: cs => SideOK s c ∧ c ≠ .intoClaim ∧ c ≠ .intoProof ∧
      ∀ s', track1 n s c = some (some s') → AllSide n s' cs

/-- what a call publishes: the expansion of the tracker's top pattern -/
def pubOf (s : PySt) (c : Call) : List Pat :=
  match c, s.stack with
  | .publishAxiom, (.pat a, _) :: _ => [a.expand]
  | .publishClaim, (.pat a, _) :: _ => [a.expand]
  | _, _ => []

/-- the journal of a history, along `track1` -/
def published (n : Nat) : PySt → List Call → List Pat
  | _, [] => []
  | s, c :: cs => pubOf s c ++
      (match track1 n s c with
       | some (some s') => published n s' cs
       | _ => [])

theorem pubOf_quiet (s : PySt) (c : Call) (h : c ≠ .publishAxiom) (h' : c ≠ .publishClaim) :
    pubOf s c = [] := by
  unfold pubOf
  split
  · exact absurd rfl h
  · exact absurd rfl h'
  · rfl

theorem step_nopub (ph : Phase) (m m' : St) (i : Instr) (j : Option Pat) (hi : i ≠ .publish)
    (h : step ph m i = some (m', j)) : j = none ∧ m'.claims = m.claims := by
  cases i with
  | publish => exact absurd rfl hi
  | instantiate ids =>
    dsimp only [step] at h
    split at h
    · simp only [Option.bind_eq_bind, Option.bind_eq_some_iff, Option.pure_def, Option.some.injEq,
        Prod.mk.injEq] at h
      obtain ⟨_, _, _, _, rfl, rfl⟩ := h
      exact ⟨rfl, rfl⟩
    · simp only [Option.bind_eq_bind, Option.bind_eq_some_iff, Option.pure_def, Option.some.injEq,
        Prod.mk.injEq] at h
      obtain ⟨_, _, _, _, rfl, rfl⟩ := h
      exact ⟨rfl, rfl⟩
    · simp at h
  | subst x =>
    dsimp only [step] at h
    split at h
    · simp only [Option.map_eq_some_iff, Prod.mk.injEq] at h
      obtain ⟨_, _, rfl, rfl⟩ := h
      exact ⟨rfl, rfl⟩
    · simp at h
  | load k =>
    dsimp only [step] at h
    simp only [Option.map_eq_some_iff, Prod.mk.injEq] at h
    obtain ⟨_, _, rfl, rfl⟩ := h
    exact ⟨rfl, rfl⟩
  | _ =>
    dsimp only [step] at h
    repeat' (split at h)
    all_goals first
      | (cases h; exact ⟨rfl, rfl⟩)
      | cases h

/-- what the machine publishes for the instruction of a call is what the tracker publishes -/
theorem step_journal (n : Nat) (s s' : PySt) (m m' : St) (c : Call) (i : Instr) (j : Option Pat)
    (hR : R s m) (hres : touchesResidue s c = false)
    (he : emit1 n s c = some (some [i])) (ht : track1 n s c = some (some s'))
    (hstep : step s.phase m i = some (m', j)) : j.toList = pubOf s c := by
  by_cases hpub : c = .publishAxiom ∨ c = .publishClaim ∨ c = .publishProof
  · obtain hpub | rfl := or_assoc.mpr hpub
    · rcases hpub with rfl | rfl <;>
      · cases he
        dsimp only [track1] at ht
        split at ht
        · next a b st hph hs =>
          simp only [touchesResidue, Call.arity, hs, List.take_succ_cons, List.take_zero,
            List.any_cons, List.any_nil, Bool.or_false] at hres
          subst hres
          have hm : m.stack = .pat a.expand :: (live st).map convT := by
            rw [hR.stack, hs]; simp [convT]
          dsimp only [step] at hstep
          simp only [hph, hm, Option.some.injEq, Prod.mk.injEq] at hstep
          rw [← hstep.2]
          simp [pubOf, hs]
        · simp at ht
    · cases he
      dsimp only [track1] at ht
      split at ht
      · next t b st c0 cs hph hs hcl =>
        rw [pubOf_quiet _ _ (by simp) (by simp)]
        dsimp only [step] at hstep
        simp only [hph] at hstep
        split at hstep
        · split at hstep
          · simp only [Option.some.injEq, Prod.mk.injEq] at hstep
            rw [← hstep.2]; rfl
          · simp at hstep
        · simp at hstep
      · simp at ht
  · have h1 : c ≠ .publishAxiom := fun e => hpub (Or.inl e)
    have h2 : c ≠ .publishClaim := fun e => hpub (Or.inr (Or.inl e))
    have h3 : c ≠ .publishProof := fun e => hpub (Or.inr (Or.inr e))
    rw [pubOf_quiet s c h1 h2]
    have hi : i ≠ .publish := by
      intro e; subst e
      cases c with
      | publishAxiom => exact h1 rfl
      | publishClaim => exact h2 rfl
      | publishProof => exact h3 rfl
      | metavar id ef sf ps ns hs =>
        dsimp only [emit1] at he
        split at he <;> cases he
      | load t =>
        simp only [emit1, Option.bind_eq_bind, Option.bind_eq_some_iff] at he
        obtain ⟨oi, _, he⟩ := he
        cases oi <;> simp at he
      | _ => cases he
    rw [(step_nopub _ _ _ _ _ hi hstep).1]; rfl

/-- B1 + B2: within one phase the machine accepts everything the tracker emitted, ends related, and
publishes exactly what the tracker published -/
theorem trackAll_sim_pub (n : Nat) : ∀ (cs : List Call) (s s' : PySt) (m : St)
    (out out' : List Instr × List Instr × List Instr),
    R s m → ShapeSt s → CanonTab s.symtab → AllSide n s cs →
    PySt.trackAll n s cs out = some (some (s', out')) →
    ∃ is m' js, out' = addOut s.phase out is ∧ run s.phase m is = some (m', js) ∧
      R s' m' ∧ ShapeSt s' ∧ CanonTab s'.symtab ∧ js = published n s cs ∧
      s'.phase = s.phase := by
  intro cs
  induction cs with
  | nil =>
    intro s s' m out out' hR hSh hC _ h
    simp only [PySt.trackAll, Option.some.injEq, Prod.mk.injEq] at h
    obtain ⟨rfl, rfl⟩ := h
    exact ⟨[], m, [], by cases s.phase <;> simp [addOut], by simp [run], hR, hSh, hC,
      by simp [published], rfl⟩
  | cons c cs ih =>
    intro s s' m out out' hR hSh hC hside h
    obtain ⟨g, cl, pf⟩ := out
    obtain ⟨⟨hsc, hres, hsym, hkeys, hload, hmv⟩, hnc, hnp, hrest⟩ := hside
    simp only [PySt.trackAll, Option.bind_eq_bind, Option.bind_eq_some_iff] at h
    obtain ⟨oe, he, h⟩ := h
    cases oe with
    | none => simp at h
    | some is1 =>
      simp only [Option.bind_eq_some_iff] at h
      obtain ⟨os, hs, h⟩ := h
      cases os with
      | none => simp at h
      | some s1 =>
        simp only [] at h
        obtain ⟨i, rfl, hacc, hsim, hsh1, hc1⟩ :=
          sim1 n s s1 m c is1 hR hSh hC hsym hkeys hload hmv hnc hnp hres hs he
        obtain ⟨⟨m1, j⟩, hstep⟩ := Option.isSome_iff_exists.mp (hacc hsc)
        have hR1 := hsim m1 j hstep
        have hph : s1.phase = s.phase := (track1_pres n s s1 c hSh hload hmv hs).2.1 hnc hnp
        have hj := step_journal n s s1 m m1 c i j hR hres he hs hstep
        obtain ⟨is2, m', js2, hout, hrun, hR', hsh', hc', hjs, hph'⟩ :=
          ih s1 s' m1 _ out' hR1 hsh1 hc1 (hrest s1 hs) h
        refine ⟨i :: is2, m', j.toList ++ js2, ?_, ?_, hR', hsh', hc', ?_, hph'.trans hph⟩
        · rw [hout, hph, show (i :: is2) = [i] ++ is2 from rfl, ← addOut_addOut]
          cases s.phase <;> rfl
        · rw [hph] at hrun
          simp [run, hstep, hrun]
        · simp only [published, hs, hj, hjs]

/-- B1 -/
theorem trackAll_sim (n : Nat) : ∀ (cs : List Call) (s s' : PySt) (m : St)
    (out out' : List Instr × List Instr × List Instr),
    R s m → ShapeSt s → CanonTab s.symtab → AllSide n s cs →
    PySt.trackAll n s cs out = some (some (s', out')) →
    ∃ is m' js, out' = addOut s.phase out is ∧ run s.phase m is = some (m', js) ∧
      R s' m' ∧ ShapeSt s' ∧ CanonTab s'.symtab := by
  intro cs s s' m out out' hR hSh hC hside h
  obtain ⟨is, m', js, h1, h2, h3, h4, h5, _⟩ :=
    trackAll_sim_pub n cs s s' m out out' hR hSh hC hside h
  exact ⟨is, m', js, h1, h2, h3, h4, h5⟩

/-! ## B3: modules -/

/-! ### the machine's claim stack -/

theorem step_claims (ph : Phase) (m m' : St) (i : Instr) (j : Option Pat)
    (h : step ph m i = some (m', j)) :
    (ph = .gamma → m'.claims = m.claims) ∧ (ph = .claim → m'.claims = j.toList ++ m.claims) := by
  by_cases hi : i = .publish
  · subst hi
    cases ph with
    | gamma =>
      refine ⟨fun _ => ?_, (fun e => by cases e)⟩
      dsimp only [step] at h
      split at h
      · simp only [Option.some.injEq, Prod.mk.injEq] at h
        obtain ⟨rfl, _⟩ := h; rfl
      · simp at h
    | claim =>
      refine ⟨(fun e => by cases e), fun _ => ?_⟩
      dsimp only [step] at h
      split at h
      · simp only [Option.some.injEq, Prod.mk.injEq] at h
        obtain ⟨rfl, rfl⟩ := h; rfl
      · simp at h
    | proof => exact ⟨(fun e => by cases e), (fun e => by cases e)⟩
  · obtain ⟨rfl, hc⟩ := step_nopub ph m m' i j hi h
    exact ⟨fun _ => hc, fun _ => by simpa using hc⟩

theorem run_claims (ph : Phase) : ∀ (is : List Instr) (m m' : St) (js : List Pat),
    run ph m is = some (m', js) →
    (ph = .gamma → m'.claims = m.claims) ∧ (ph = .claim → m'.claims = js.reverse ++ m.claims) := by
  intro is
  induction is with
  | nil =>
    intro m m' js h
    simp only [run, Option.some.injEq, Prod.mk.injEq] at h
    obtain ⟨rfl, rfl⟩ := h
    simp
  | cons i is ih =>
    intro m m' js h
    simp only [run, Option.bind_eq_bind, Option.bind_eq_some_iff, Option.pure_def,
      Option.some.injEq, Prod.mk.injEq] at h
    obtain ⟨⟨m1, j⟩, hstep, ⟨m2, js2⟩, hrun, rfl, rfl⟩ := h
    obtain ⟨hg, hc⟩ := step_claims ph m m1 i j hstep
    obtain ⟨hg2, hc2⟩ := ih m1 m2 js2 hrun
    constructor
    · intro e; rw [hg2 e, hg e]
    · intro e
      rw [hc2 e, hc e]
      cases j <;> simp

/-! ### runs of the tracker with one fuel -/

def Reach (n : Nat) : PySt → List Call → PySt → Prop
  | s, [], s' => s' = s
  | s, c :: cs, s' => ∃ s1, track1 n s c = some (some s1) ∧ Reach n s1 cs s'

theorem reach_append (n : Nat) (cs1 cs2 : List Call) (s s' : PySt) :
    Reach n s (cs1 ++ cs2) s' ↔ ∃ s1, Reach n s cs1 s1 ∧ Reach n s1 cs2 s' := by
  induction cs1 generalizing s with
  | nil => simp [Reach]
  | cons c cs ih =>
    simp only [List.cons_append, Reach, ih]
    constructor
    · rintro ⟨s1, h1, s2, h2, h3⟩; exact ⟨s2, ⟨s1, h1, h2⟩, h3⟩
    · rintro ⟨s2, ⟨s1, h1, h2⟩, h3⟩; exact ⟨s1, h1, s2, h2, h3⟩

theorem trackAll_cons (n : Nat) (s s' : PySt) (c : Call) (cs : List Call)
    (out out' : List Instr × List Instr × List Instr)
    (h : trackAll n s (c :: cs) out = some (some (s', out'))) :
    ∃ is s1, emit1 n s c = some (some is) ∧ track1 n s c = some (some s1) ∧
      trackAll n s1 cs (addOut s.phase out is) = some (some (s', out')) := by
  obtain ⟨g, cl, pf⟩ := out
  simp only [PySt.trackAll, Option.bind_eq_bind, Option.bind_eq_some_iff] at h
  obtain ⟨oe, he, h⟩ := h
  cases oe with
  | none => simp at h
  | some is1 =>
    simp only [Option.bind_eq_some_iff] at h
    obtain ⟨os, hs, h⟩ := h
    cases os with
    | none => simp at h
    | some s1 =>
      simp only [] at h
      refine ⟨is1, s1, he, hs, ?_⟩
      have : addOut s.phase (g, cl, pf) is1 = (match s.phase with
            | .gamma => (g ++ is1, cl, pf)
            | .claim => (g, cl ++ is1, pf)
            | .proof => (g, cl, pf ++ is1)) := by cases s.phase <;> rfl
      rw [this]; exact h

theorem trackAll_reach (n : Nat) : ∀ (cs : List Call) (s s' : PySt)
    (out out' : List Instr × List Instr × List Instr),
    trackAll n s cs out = some (some (s', out')) → Reach n s cs s' := by
  intro cs
  induction cs with
  | nil =>
    intro s s' out out' h
    simp only [PySt.trackAll, Option.some.injEq, Prod.mk.injEq] at h
    exact h.1.symm
  | cons c cs ih =>
    intro s s' out out' h
    obtain ⟨is, s1, _, hs, h⟩ := trackAll_cons n s s' c cs out out' h
    exact ⟨s1, hs, ih s1 s' _ out' h⟩

theorem trackAll_append (n : Nat) : ∀ (cs1 cs2 : List Call) (s s' : PySt)
    (out out' : List Instr × List Instr × List Instr),
    trackAll n s (cs1 ++ cs2) out = some (some (s', out')) →
    ∃ s1 out1, trackAll n s cs1 out = some (some (s1, out1)) ∧
      trackAll n s1 cs2 out1 = some (some (s', out')) := by
  intro cs1
  induction cs1 with
  | nil => intro cs2 s s' out out' h; exact ⟨s, out, by simp [PySt.trackAll], by simpa using h⟩
  | cons c cs ih =>
    intro cs2 s s' out out' h
    obtain ⟨g, cl, pf⟩ := out
    rw [List.cons_append] at h
    obtain ⟨is, s1, he, hs, h⟩ := trackAll_cons n s s' c (cs ++ cs2) _ out' h
    obtain ⟨s2, out2, h1, h2⟩ := ih cs2 s1 s' _ out' h
    refine ⟨s2, out2, ?_, h2⟩
    have : addOut s.phase (g, cl, pf) is = (match s.phase with
          | .gamma => (g ++ is, cl, pf)
          | .claim => (g, cl ++ is, pf)
          | .proof => (g, cl, pf ++ is)) := by cases s.phase <;> rfl
    simp only [PySt.trackAll, he, hs, Option.bind_eq_bind, Option.bind_some, ← this]
    exact h1

/-- the side conditions of a whole history; the phase switches are allowed and ask nothing -/
def AllSideM (n : Nat) : PySt → List Call → Prop
  | _, [] => True
  | s, c :: cs => ((c = .intoClaim ∨ c = .intoProof) ∨ SideOK s c) ∧
      ∀ s', track1 n s c = some (some s') → AllSideM n s' cs

theorem allSideM_append (n : Nat) (cs1 cs2 : List Call) (s s1 : PySt)
    (h : AllSideM n s (cs1 ++ cs2)) (hr : Reach n s cs1 s1) :
    AllSideM n s cs1 ∧ AllSideM n s1 cs2 := by
  induction cs1 generalizing s with
  | nil => simp only [Reach] at hr; subst hr; exact ⟨trivial, h⟩
  | cons c cs ih =>
    obtain ⟨s2, hs2, hr⟩ := hr
    obtain ⟨h1, h2⟩ := h
    obtain ⟨ha, hb⟩ := ih s2 (h2 s2 hs2) hr
    refine ⟨⟨h1, ?_⟩, hb⟩
    intro s' hs'
    rw [hs2] at hs'
    cases hs'
    exact ha

theorem allSide_of (n : Nat) (cs : List Call) (s : PySt) (h : AllSideM n s cs)
    (hns : ∀ c ∈ cs, c ≠ .intoClaim ∧ c ≠ .intoProof) : AllSide n s cs := by
  induction cs generalizing s with
  | nil => trivial
  | cons c cs ih =>
    obtain ⟨h1, h2⟩ := h
    obtain ⟨hnc, hnp⟩ := hns c (by simp)
    rcases h1 with (e | e) | hok
    · exact absurd e hnc
    · exact absurd e hnp
    · exact ⟨hok, hnc, hnp, fun s' hs' => ih s' (h2 s' hs')
        (fun x hx => hns x (List.mem_cons_of_mem _ hx))⟩

theorem published_quiet (n : Nat) (cs : List Call) (s : PySt)
    (h : ∀ c ∈ cs, c.quiet = true) : published n s cs = [] := by
  induction cs generalizing s with
  | nil => rfl
  | cons c cs ih =>
    have hq := h c (by simp)
    have h1 : c ≠ .publishAxiom := by intro e; subst e; simp [Call.quiet] at hq
    have h2 : c ≠ .publishClaim := by intro e; subst e; simp [Call.quiet] at hq
    simp only [published, pubOf_quiet s c h1 h2, List.nil_append]
    split
    · exact ih _ (fun x hx => h x (List.mem_cons_of_mem _ hx))
    · rfl

theorem published_append (n : Nat) (cs1 cs2 : List Call) (s s1 : PySt)
    (hr : Reach n s cs1 s1) :
    published n s (cs1 ++ cs2) = published n s cs1 ++ published n s1 cs2 := by
  induction cs1 generalizing s with
  | nil => simp only [Reach] at hr; subst hr; simp [published]
  | cons c cs ih =>
    obtain ⟨s2, hs2, hr⟩ := hr
    simp only [List.cons_append, published, hs2, ih s2 hr, List.append_assoc]

theorem track1_claims (n : Nat) (s s' : PySt) (c : Call) (hc : c ≠ .publishProof)
    (h : track1 n s c = some (some s')) : s'.claims = s.claims := by
  by_cases h1 : c = .intoClaim
  · subst h1
    dsimp only [track1] at h
    split at h
    · simp only [Option.some.injEq] at h; subst h; rfl
    · simp at h
  · by_cases h2 : c = .intoProof
    · subst h2
      dsimp only [track1] at h
      split at h
      · simp only [Option.some.injEq] at h; subst h; rfl
      · simp at h
    · exact (track1_frame n s s' c hc h1 h2 h).2.1

theorem reach_claims (n : Nat) (cs : List Call) (s s' : PySt) (hr : Reach n s cs s')
    (h : ∀ c ∈ cs, c ≠ .publishProof) : s'.claims = s.claims := by
  induction cs generalizing s with
  | nil => simp only [Reach] at hr; rw [hr]
  | cons c cs ih =>
    obtain ⟨s1, hs1, hr⟩ := hr
    rw [ih s1 hr (fun x hx => h x (List.mem_cons_of_mem _ hx)),
      track1_claims n s s1 c (h c (by simp)) hs1]

/-! ### the generator's own run against the replay with one fuel -/

theorem sideM_load {s : PySt} {c : Call}
    (h : (c = .intoClaim ∨ c = .intoProof) ∨ SideOK s c) :
    (∀ t, c = .load t → t.body.Shape = true) ∧
    (∀ id ef sf ps ns hs, c = .metavar id ef sf ps ns hs → ef = [] ∧ sf = []) := by
  rcases h with (rfl | rfl) | hok
  · exact ⟨(fun _ e => by cases e), (fun _ _ _ _ _ _ e => by cases e)⟩
  · exact ⟨(fun _ e => by cases e), (fun _ _ _ _ _ _ e => by cases e)⟩
  · exact ⟨hok.2.2.2.2.1, hok.2.2.2.2.2⟩

/-- replaying the calls the generator made (with whatever fuel) with fuel `n` goes through states
equal up to notation -/
theorem exec_congr (n : Nat) {s s' : PySt} {cs : List Call} (hex : Exec s cs s') :
    ∀ t t', StEqG true s t → ShapeSt s → ShapeSt t → AllSideM n t cs → Reach n t cs t' →
    StEqG true s' t' ∧ ShapeSt s' ∧ ShapeSt t' := by
  induction hex with
  | nil s =>
    intro t t' hE hSs hSt _ hr
    simp only [Reach] at hr; subst hr
    exact ⟨hE, hSs, hSt⟩
  | @cons s s1 s' c cs k ht _ ih =>
    intro t t' hE hSs hSt hside hr
    obtain ⟨t1, hk, hr⟩ := hr
    obtain ⟨h1, h2⟩ := hside
    obtain ⟨hload, hmv⟩ := sideM_load h1
    obtain ⟨t1', e, hE1⟩ := track1_congrG true k n s t s1 c c (some t1) hE hSs hSt (Or.inl rfl)
      hload (fun h => by simp at h) ht hk
    cases e
    exact ih t1 t' hE1 (track1_pres k s s1 c hSs hload hmv ht).1
      (track1_pres n t t1 c hSt hload hmv hk).1 (h2 t1 hk) hr

/-- the gamma and claim loops of `execute_full`: compile a pattern, publish it -/
inductive PubTrace (c : Call) : PySt → List NPat → List Call → PySt → Prop
  | nil (s : PySt) : PubTrace c s [] [] s
  | cons {s u s1 s' : PySt} {a t : NPat} {r : List NPat} {cs cs' : List Call} (k : Nat) :
      Exec s cs u → (∀ x ∈ cs, x.quiet = true) → u.stack = (.pat t, false) :: s.stack →
      t.expand = a.expand → track1 k u c = some (some s1) → PubTrace c s1 r cs' s' →
      PubTrace c s (a :: r) (cs ++ c :: cs') s'

theorem quiet_noswitch {c : Call} (h : c.quiet = true) : c ≠ .intoClaim ∧ c ≠ .intoProof := by
  constructor <;> (intro e; subst e; simp [Call.quiet] at h)

theorem quiet_nopublishProof {c : Call} (h : c.quiet = true) : c ≠ .publishProof := by
  intro e; subst e; simp [Call.quiet] at h

theorem PubTrace.noswitch {c : Call} (hc : c = .publishAxiom ∨ c = .publishClaim)
    {s s' : PySt} {as : List NPat} {cs : List Call} (h : PubTrace c s as cs s') :
    ∀ x ∈ cs, x ≠ .intoClaim ∧ x ≠ .intoProof ∧ x ≠ .publishProof := by
  induction h with
  | nil s => simp
  | cons k _ hq _ _ _ _ ih =>
    intro x hx
    rcases List.mem_append.mp hx with hx | hx
    · exact ⟨(quiet_noswitch (hq x hx)).1, (quiet_noswitch (hq x hx)).2,
        quiet_nopublishProof (hq x hx)⟩
    · rcases List.mem_cons.mp hx with rfl | hx
      · rcases hc with rfl | rfl <;> simp
      · exact ih x hx

theorem pub_trace (cfg : Cfg) (n : Nat) (c : Call) (hc : c = .publishAxiom ∨ c = .publishClaim) :
    ∀ (as : List NPat) (s : PySt) (acc : List Call) (s' : PySt) (a' : List Call),
    (∀ a ∈ as, a.Shape = true) → ShapeSt s →
    PModule.executeFull.pub cfg n s acc c as = some (some (s', a')) →
    ∃ cs, a' = acc ++ cs ∧ PubTrace c s as cs s' ∧ ShapeSt s' := by
  intro as
  induction as with
  | nil =>
    intro s acc s' a' _ hSh h
    simp only [PModule.executeFull.pub, Option.some.injEq, Prod.mk.injEq] at h
    obtain ⟨rfl, rfl⟩ := h
    exact ⟨[], by simp, .nil s, hSh⟩
  | cons a r ih =>
    intro s acc s' a' has hSh h
    simp only [PModule.executeFull.pub, Option.bind_eq_bind, Option.bind_eq_some_iff] at h
    obtain ⟨o1, hp, h⟩ := h
    cases o1 with
    | none => simp at h
    | some p1 =>
      obtain ⟨u, a1⟩ := p1
      simp only [Option.bind_eq_some_iff] at h
      obtain ⟨o2, hd, h⟩ := h
      obtain ⟨t, cs, hstk, het, rfl, hex, hq, hshu, _⟩ :=
        PySt.patternF_exec cfg n s a acc u a1 (has a (by simp)) hSh hp
      obtain ⟨y, hy, rfl⟩ := (doCalls_single n u c _ o2).mp hd
      cases y with
      | none => simp at h
      | some s1 =>
        simp only [Option.map_some] at h
        have hsh1 : ShapeSt s1 := (track1_pres n u s1 c hshu
          (fun _ e => by rcases hc with rfl | rfl <;> cases e)
          (fun _ _ _ _ _ _ e => by rcases hc with rfl | rfl <;> cases e) hy).1
        obtain ⟨cs', rfl, htr, hsh'⟩ := ih s1 _ s' a'
          (fun x hx => has x (List.mem_cons_of_mem _ hx)) hsh1 h
        exact ⟨cs ++ c :: cs', by simp, .cons n hex hq hstk het hy htr, hsh'⟩

theorem pub_congr (n : Nat) (c : Call) (hc : c = .publishAxiom ∨ c = .publishClaim)
    {s s' : PySt} {as : List NPat} {cs : List Call} (htr : PubTrace c s as cs s') :
    ∀ t t', StEqG true s t → ShapeSt s → ShapeSt t → AllSideM n t cs → Reach n t cs t' →
    published n t cs = as.map NPat.expand ∧ StEqG true s' t' ∧ ShapeSt s' ∧ ShapeSt t' := by
  induction htr with
  | nil s =>
    intro t t' hE hSs hSt _ hr
    simp only [Reach] at hr; subst hr
    exact ⟨rfl, hE, hSs, hSt⟩
  | @cons s u s1 s' a tt r cs cs' k hex hq hstk het hpub _ ih =>
    intro t t' hE hSs hSt hside hr
    obtain ⟨tu, hr1, hr2⟩ := (reach_append n cs (c :: cs') t t').mp hr
    obtain ⟨hside1, hside2⟩ := allSideM_append n cs (c :: cs') t tu hside hr1
    obtain ⟨hEu, hSu, hStu⟩ := exec_congr n hex t tu hE hSs hSt hside1 hr1
    obtain ⟨t1, hk, hr3⟩ := hr2
    obtain ⟨hc1, hc2⟩ := hside2
    have hload : ∀ x, c = .load x → x.body.Shape = true :=
      fun _ e => by rcases hc with rfl | rfl <;> cases e
    have hmv : ∀ id ef sf ps ns hs, c = .metavar id ef sf ps ns hs → ef = [] ∧ sf = [] :=
      fun _ _ _ _ _ _ e => by rcases hc with rfl | rfl <;> cases e
    obtain ⟨t1', e, hE1⟩ := track1_congrG true k n u tu s1 c c (some t1) hEu hSu hStu (Or.inl rfl)
      hload (fun h => by simp at h) hpub hk
    cases e
    obtain ⟨hp, hE', hS', hSt'⟩ := ih t1 t' hE1 (track1_pres k u s1 c hSu hload hmv hpub).1
      (track1_pres n tu t1 c hStu hload hmv hk).1 (hc2 t1 hk) hr3
    refine ⟨?_, hE', hS', hSt'⟩
    have hstk' := hEu.2.1
    rw [hstk] at hstk'
    obtain ⟨tt', st', htus, hexp, _, _⟩ := stk_pat true tt false _ _ hstk'
    rw [published_append n cs (c :: cs') t tu hr1, published_quiet n cs t hq]
    simp only [List.nil_append, published, hk, hp, List.map_cons]
    congr 1
    rcases hc with rfl | rfl <;> simp [pubOf, htus, hexp, het]

/-- the proof loop of `execute_full`: its calls never switch phase -/
theorem proofs_calls (cfg : Cfg) (m : PModule) (n : Nat) (hax : AxShaped m.axiomsOf) :
    ∀ (pfs : List Pf) (s : PySt) (acc : List Call) (s' : PySt) (a' : List Call),
    (∀ pf ∈ pfs, pf.Shaped) → ShapeSt s →
    PModule.executeFull.proofs cfg m n s acc pfs = some (some (s', a')) →
    ∃ cs, a' = acc ++ cs ∧ ∀ x ∈ cs, x ≠ .intoClaim ∧ x ≠ .intoProof := by
  intro pfs
  induction pfs with
  | nil =>
    intro s acc s' a' _ _ h
    simp only [PModule.executeFull.proofs, Option.some.injEq, Prod.mk.injEq] at h
    exact ⟨[], by simp [h.2], by simp⟩
  | cons pf r ih =>
    intro s acc s' a' hsh hSh h
    simp only [PModule.executeFull.proofs, Option.bind_eq_bind, Option.bind_eq_some_iff] at h
    obtain ⟨o1, hp, h⟩ := h
    cases o1 with
    | none => simp at h
    | some p1 =>
      obtain ⟨u, a1, cc⟩ := p1
      simp only [Option.bind_eq_some_iff] at h
      obtain ⟨o2, hd, h⟩ := h
      obtain ⟨cs, _, rfl, _, hq, hshu, _⟩ :=
        Pf.runF_exec cfg m.axiomsOf n s pf acc u a1 cc hax (hsh pf (by simp)) hSh hp
      obtain ⟨y, hy, rfl⟩ := (doCalls_single n u .publishProof _ o2).mp hd
      cases y with
      | none => simp at h
      | some s1 =>
        simp only [Option.map_some] at h
        have hsh1 : ShapeSt s1 := (track1_pres n u s1 .publishProof hshu
          (fun _ e => by cases e) (fun _ _ _ _ _ _ e => by cases e) hy).1
        obtain ⟨cs', rfl, hns⟩ := ih s1 _ s' a'
          (fun x hx => hsh x (List.mem_cons_of_mem _ hx)) hsh1 h
        refine ⟨cs ++ .publishProof :: cs', by simp, ?_⟩
        intro x hx
        rcases List.mem_append.mp hx with hx | hx
        · exact quiet_noswitch (hq x hx)
        · rcases List.mem_cons.mp hx with rfl | hx
          · simp
          · exact hns x hx

theorem intoClaim_spec (n : Nat) (s s' : PySt) (h : track1 n s .intoClaim = some (some s')) :
    s.phase = .gamma ∧ s' = { s with phase := .claim, stack := [] } := by
  dsimp only [track1] at h
  split at h
  · next hph => simp only [Option.some.injEq] at h; exact ⟨hph, h.symm⟩
  · simp at h

theorem intoProof_spec (n : Nat) (s s' : PySt) (h : track1 n s .intoProof = some (some s')) :
    s.phase = .claim ∧ s' = { s with phase := .proof, stack := [] } := by
  dsimp only [track1] at h
  split at h
  · next hph => simp only [Option.some.injEq] at h; exact ⟨hph, h.symm⟩
  · simp at h

theorem addOut_nil (ph : Phase) (out : List Instr × List Instr × List Instr) :
    addOut ph out [] = out := by
  cases ph <;> simp [addOut]

/-- a phase switch on both runs -/
theorem switch_congr (n : Nat) (c : Call) (hc : c = .intoClaim ∨ c = .intoProof)
    (s t s' t' : PySt) (hE : StEqG true s t) (hSs : ShapeSt s) (hSt : ShapeSt t)
    (hs : track1 n s c = some (some s')) (ht : track1 n t c = some (some t')) :
    StEqG true s' t' ∧ ShapeSt s' ∧ ShapeSt t' ∧ t'.symtab = t.symtab := by
  have hload : ∀ x, c = .load x → x.body.Shape = true :=
    fun _ e => by rcases hc with rfl | rfl <;> cases e
  have hmv : ∀ id ef sf ps ns hs, c = .metavar id ef sf ps ns hs → ef = [] ∧ sf = [] :=
    fun _ _ _ _ _ _ e => by rcases hc with rfl | rfl <;> cases e
  obtain ⟨t1', e, hE1⟩ := track1_congrG true n n s t s' c c (some t') hE hSs hSt (Or.inl rfl)
    hload (fun h => by simp at h) hs ht
  cases e
  have hP := track1_pres n t t' c hSt hload hmv ht
  exact ⟨hE1, (track1_pres n s s' c hSs hload hmv hs).1, hP.1,
    hP.2.2 (fun nm e => by rcases hc with rfl | rfl <;> cases e)⟩

/-- B3. The checker accepts the serialised module; the published theory is exactly the declared
axioms (imports first) and the published claims exactly the declared claims reversed — for any
memoisation configuration. -/
theorem module_accepted (cfg : Cfg) (n : Nat) (m : PModule) (s : PySt) (calls : List Call)
    (g c p : List Instr) :
    (∀ a ∈ m.gammaAxioms, a.Shape = true) → (∀ a ∈ m.claimsOf, a.Shape = true) →
    AxShaped m.axiomsOf → (∀ pf ∈ m.proofsOf, pf.Shaped) →
    PModule.executeFull cfg n m = some (some (s, calls)) →
    PySt.trackAll n (PySt.init m.claimsOf) calls ([], [], []) = some (some (s, (g, c, p))) →
    AllSideM n (PySt.init m.claimsOf) calls →
    s.claims = [] →
    verify g c p = some (m.gammaAxioms.map NPat.expand, m.claimsOf.reverse.map NPat.expand) := by
  intro hgam hclm hax hpfs hex hT hside hfin
  have hS0 : ShapeSt (PySt.init m.claimsOf) :=
    ⟨by simp [PySt.init], by simp [PySt.init], by simpa [PySt.init] using hclm⟩
  -- the structure of `executeFull`
  simp only [PModule.executeFull, Option.bind_eq_bind, Option.bind_eq_some_iff] at hex
  obtain ⟨o1, hpub1, hex⟩ := hex
  cases o1 with
  | none => simp at hex
  | some p1 =>
  obtain ⟨e1, a1⟩ := p1
  simp only [Option.bind_eq_some_iff] at hex
  obtain ⟨o2, hd1, hex⟩ := hex
  obtain ⟨y1, hy1, rfl⟩ := (doCalls_single n e1 .intoClaim a1 o2).mp hd1
  cases y1 with
  | none => simp at hex
  | some e2 =>
  simp only [Option.map_some, Option.bind_eq_some_iff] at hex
  obtain ⟨o3, hpub2, hex⟩ := hex
  cases o3 with
  | none => simp at hex
  | some p3 =>
  obtain ⟨e3, a3⟩ := p3
  simp only [Option.bind_eq_some_iff] at hex
  obtain ⟨o4, hd2, hex⟩ := hex
  obtain ⟨y2, hy2, rfl⟩ := (doCalls_single n e3 .intoProof a3 o4).mp hd2
  cases y2 with
  | none => simp at hex
  | some e4 =>
  simp only [Option.map_some] at hex
  obtain ⟨G, hG, trG, hShe1⟩ := pub_trace cfg n .publishAxiom (Or.inl rfl) m.gammaAxioms _ [] e1 a1
    hgam hS0 hpub1
  simp only [List.nil_append] at hG
  have hG' := hG.symm
  subst hG'
  obtain ⟨hE12, hShe2, _, _⟩ := switch_congr n .intoClaim (Or.inl rfl) e1 e1 e2 e2
    (StEqG.refl true e1) hShe1 hShe1 hy1 hy1
  obtain ⟨C, hC, trC, hShe3⟩ := pub_trace cfg n .publishClaim (Or.inr rfl) m.claimsOf.reverse e2 _
    e3 a3 (fun a ha => hclm a (List.mem_reverse.mp ha)) hShe2 hpub2
  subst hC
  obtain ⟨_, hShe4, _, _⟩ := switch_congr n .intoProof (Or.inr rfl) e3 e3 e4 e4
    (StEqG.refl true e3) hShe3 hShe3 hy2 hy2
  obtain ⟨P, hP, hPns⟩ := proofs_calls cfg m n hax m.proofsOf e4 _ s calls hpfs hShe4 hex
  have hcalls : calls = G ++ .intoClaim :: (C ++ .intoProof :: P) := by
    rw [hP]; simp [List.append_assoc]
  subst hcalls
  -- the replay with fuel `n`, phase by phase
  obtain ⟨t1, out1, hT1, hT⟩ := trackAll_append n G _ _ s _ _ hT
  have hr1 := trackAll_reach n G _ t1 _ _ hT1
  obtain ⟨hsideG, hside⟩ := allSideM_append n G _ _ t1 hside hr1
  obtain ⟨is0, t2, he0, hs0, hT⟩ := trackAll_cons n t1 s .intoClaim _ out1 _ hT
  cases he0
  rw [addOut_nil] at hT
  have hside := hside.2 t2 hs0
  obtain ⟨t3, out3, hT3, hT⟩ := trackAll_append n C _ t2 s _ _ hT
  have hr3 := trackAll_reach n C t2 t3 _ _ hT3
  obtain ⟨hsideC, hside⟩ := allSideM_append n C _ t2 t3 hside hr3
  obtain ⟨is1, t4, he1, hs1, hT⟩ := trackAll_cons n t3 s .intoProof _ out3 _ hT
  cases he1
  rw [addOut_nil] at hT
  have hsideP := hside.2 t4 hs1
  -- gamma
  obtain ⟨hpG, hE1, _, hSht1⟩ := pub_congr n .publishAxiom (Or.inl rfl) trG _ t1
    (StEqG.refl true _) hS0 hS0 hsideG hr1
  have hR0 : R (PySt.init m.claimsOf) ⟨[], [], []⟩ :=
    ⟨by simp [PySt.init, live], by simp [PySt.init], fun h => by simp [PySt.init] at h⟩
  have hnsG := trG.noswitch (Or.inl rfl)
  obtain ⟨isG, m1, js1, hout1, hrun1, hR1, _, hC1, hjs1, hph1⟩ :=
    trackAll_sim_pub n G _ t1 ⟨[], [], []⟩ _ out1 hR0 hS0 (by simp [PySt.init, CanonTab])
      (allSide_of n G _ hsideG (fun x hx => ⟨(hnsG x hx).1, (hnsG x hx).2.1⟩)) hT1
  -- into the claim phase
  obtain ⟨hE2, _, hSht2, hsym2⟩ := switch_congr n .intoClaim (Or.inl rfl) e1 t1 e2 t2 hE1 hShe1
    hSht1 hy1 hs0
  have hR2 := sim_intoClaim n t1 t2 m1 hR1 hs0
  obtain ⟨_, ht2⟩ := intoClaim_spec n t1 t2 hs0
  have hph2 : t2.phase = .claim := by rw [ht2]
  obtain ⟨hpC, hE3, _, hSht3⟩ := pub_congr n .publishClaim (Or.inr rfl) trC t2 t3 hE2 hShe2 hSht2
    hsideC hr3
  have hnsC := trC.noswitch (Or.inr rfl)
  obtain ⟨isC, m2, js2, hout3, hrun2, hR3, _, hC3, hjs2, hph3⟩ :=
    trackAll_sim_pub n C t2 t3 { m1 with stack := [] } out1 out3 hR2 hSht2 (by rw [hsym2]; exact hC1)
      (allSide_of n C t2 hsideC (fun x hx => ⟨(hnsC x hx).1, (hnsC x hx).2.1⟩)) hT3
  -- the machine's claim stack after the claim phase
  have hcl1 : m1.claims = [] := by
    have := (run_claims .gamma isG ⟨[], [], []⟩ m1 js1 (by simpa [PySt.init] using hrun1)).1 rfl
    simpa using this
  have hcl2 : m2.claims = js2.reverse := by
    have := (run_claims .claim isC { m1 with stack := [] } m2 js2
      (by rw [hph2] at hrun2; exact hrun2)).2 rfl
    simpa [hcl1] using this
  have htc1 : t1.claims = m.claimsOf := by
    rw [reach_claims n G _ t1 hr1 (fun x hx => (hnsG x hx).2.2)]; rfl
  have htc2 : t2.claims = m.claimsOf := by rw [ht2]; exact htc1
  have htc3 : t3.claims = m.claimsOf := by
    rw [reach_claims n C t2 t3 hr3 (fun x hx => (hnsC x hx).2.2), htc2]
  have hclm2 : m2.claims = t3.claims.map NPat.expand := by
    rw [hcl2, hjs2, hpC, htc3]; simp [List.map_reverse]
  -- into the proof phase
  obtain ⟨_, _, hSht4, hsym4⟩ := switch_congr n .intoProof (Or.inr rfl) e3 t3 e4 t4 hE3 hShe3
    hSht3 hy2 hs1
  have hR4 := sim_intoProof n t3 t4 m2 hR3 hclm2 hs1
  obtain ⟨_, ht4⟩ := intoProof_spec n t3 t4 hs1
  have hph4 : t4.phase = .proof := by rw [ht4]
  obtain ⟨isP, m3, js3, hout, hrun3, hR, _, _, _, hphs⟩ :=
    trackAll_sim_pub n P t4 s { m2 with stack := [] } out3 (g, c, p) hR4 hSht4
      (by rw [hsym4]; exact hC3) (allSide_of n P t4 hsideP hPns) hT
  have hcl3 : m3.claims = [] := by
    rw [hR.claims (by rw [hphs, hph4]), hfin]; rfl
  -- the three streams
  have hph0 : (PySt.init m.claimsOf).phase = .gamma := rfl
  rw [hph0] at hout1 hrun1
  rw [hph2] at hout3 hrun2
  rw [hph4] at hout hrun3
  subst hout1
  subst hout3
  simp only [addOut, Prod.mk.injEq] at hout
  obtain ⟨rfl, rfl, rfl⟩ := hout
  simp [verify, hrun1, hrun2, hrun3, hcl3, hjs1, hpG, hjs2, hpC]

#print axioms trackAll_sim
#print axioms trackAll_sim_pub
#print axioms module_accepted
