import Pi2.Machine
/-!
# Renaming of symbols commutes with everything the checker does

The serializer writes a symbol as its position in the table of symbols met so far; the tracker keeps the
name.  `Pat.ren ρ` renames the symbols of a pattern by an arbitrary function `ρ`; the four syntactic
judgements do not see it and substitution / instantiation commute with it.  (Only functionality of `ρ`
is used: equal patterns stay equal.)
-/
open Pat

namespace Pat

def ren (ρ : Nat → Nat) : Pat → Pat
  | evar x => evar x | svar X => svar X | sym s => sym (ρ s)
  | imp l r => imp (ren ρ l) (ren ρ r)
  | app l r => app (ren ρ l) (ren ρ r)
  | ex x p => ex x (ren ρ p)
  | mu X p => mu X (ren ρ p)
  | mv id ef sf ps ns hs => mv id ef sf ps ns hs
  | esub p x q => esub (ren ρ p) x (ren ρ q)
  | ssub p X q => ssub (ren ρ p) X (ren ρ q)

variable (ρ : Nat → Nat)

@[simp] theorem eFresh_ren (e : VId) (p : Pat) : (ren ρ p).eFresh e = p.eFresh e := by
  induction p with
  | esub p x q ihp ihq => simp only [ren, eFresh, ihp, ihq]
  | _ => simp_all [ren, eFresh]

@[simp] theorem sFresh_ren (s : VId) (p : Pat) : (ren ρ p).sFresh s = p.sFresh s := by
  induction p with
  | ssub p x q ihp ihq => simp only [ren, sFresh, ihp, ihq]
  | _ => simp_all [ren, sFresh]

theorem pos_ng_ren (p : Pat) : ∀ s, (ren ρ p).pos s = p.pos s ∧ (ren ρ p).ng s = p.ng s := by
  induction p with
  | evar _ | svar _ | sym _ | mv _ _ _ _ _ _ => intro s; simp [ren, pos, ng]
  | imp l r ihl ihr | app l r ihl ihr =>
    intro s; simp [ren, pos, ng, (ihl s).1, (ihl s).2, (ihr s).1, (ihr s).2]
  | ex x p ih | mu x p ih => intro s; simp [ren, pos, ng, (ih s).1, (ih s).2]
  | esub p x q ihp ihq => intro s; simp [ren, pos, ng, (ihp s).1, (ihp s).2]
  | ssub p X q ihp ihq =>
    intro s
    simp only [ren, pos, ng, (ihp s).1, (ihp s).2, (ihp X).1, (ihp X).2, (ihq s).1, (ihq s).2,
      sFresh_ren, and_self]

@[simp] theorem pos_ren (s : VId) (p : Pat) : (ren ρ p).pos s = p.pos s := (pos_ng_ren ρ p s).1
@[simp] theorem ng_ren (s : VId) (p : Pat) : (ren ρ p).ng s = p.ng s := (pos_ng_ren ρ p s).2

@[simp] theorem isMeta_ren (p : Pat) : (ren ρ p).isMeta = p.isMeta := by
  cases p <;> rfl

theorem ren_eq_evar (p : Pat) (x : VId) : ren ρ p = evar x ↔ p = evar x := by
  cases p <;> simp [ren]

theorem ren_eq_svar (p : Pat) (x : VId) : ren ρ p = svar x ↔ p = svar x := by
  cases p <;> simp [ren]

@[simp] theorem beq_evar_ren (p : Pat) (x : VId) : (ren ρ p == evar x) = (p == evar x) := by
  by_cases h : p = evar x
  · subst h; simp [ren]
  · have : ren ρ p ≠ evar x := fun e => h ((ren_eq_evar ρ p x).mp e)
    rw [beq_eq_false_iff_ne.mpr h, beq_eq_false_iff_ne.mpr this]

@[simp] theorem beq_svar_ren (p : Pat) (x : VId) : (ren ρ p == svar x) = (p == svar x) := by
  by_cases h : p = svar x
  · subst h; simp [ren]
  · have : ren ρ p ≠ svar x := fun e => h ((ren_eq_svar ρ p x).mp e)
    rw [beq_eq_false_iff_ne.mpr h, beq_eq_false_iff_ne.mpr this]

theorem applyESubst_ren (x : VId) (plug : Pat) (p : Pat) :
    applyESubst x (ren ρ plug) (ren ρ p) = (applyESubst x plug p).map (ren ρ) := by
  induction p with
  | evar y => simp only [ren, applyESubst]; split <;> simp [ren]
  | svar _ | sym _ | esub p y q _ _ | ssub p y q _ _ => simp [ren, applyESubst]
  | imp l r ihl ihr | app l r ihl ihr =>
    simp only [ren, applyESubst, ihl, ihr]
    cases applyESubst x plug l <;> cases applyESubst x plug r <;> rfl
  | ex y p ih =>
    simp only [ren, applyESubst, ih, eFresh_ren]
    split
    · simp [ren]
    · split
      · cases applyESubst x plug p <;> simp [ren]
      · simp
  | mu Y p ih =>
    simp only [ren, applyESubst, ih, sFresh_ren]
    split
    · cases applyESubst x plug p <;> simp [ren]
    · simp
  | mv id ef sf ps ns hs => simp only [ren, applyESubst]; split <;> simp [ren]

theorem applySSubst_ren (X : VId) (plug : Pat) (p : Pat) :
    applySSubst X (ren ρ plug) (ren ρ p) = (applySSubst X plug p).map (ren ρ) := by
  induction p with
  | svar y => simp only [ren, applySSubst]; split <;> simp [ren]
  | evar _ | sym _ | esub p y q _ _ | ssub p y q _ _ => simp [ren, applySSubst]
  | imp l r ihl ihr | app l r ihl ihr =>
    simp only [ren, applySSubst, ihl, ihr]
    cases applySSubst X plug l <;> cases applySSubst X plug r <;> rfl
  | ex y p ih =>
    simp only [ren, applySSubst, ih, eFresh_ren]
    split
    · cases applySSubst X plug p <;> simp [ren]
    · simp
  | mu Y p ih =>
    simp only [ren, applySSubst, ih, sFresh_ren]
    split
    · simp [ren]
    · split
      · cases applySSubst X plug p <;> simp [ren]
      · simp
  | mv id ef sf ps ns hs => simp only [ren, applySSubst]; split <;> simp [ren]

@[simp] theorem okPlug_ren (ef sf ps ns : List VId) (q : Pat) :
    okPlug ef sf ps ns (ren ρ q) = okPlug ef sf ps ns q := by
  simp [okPlug]

/-- instantiation commutes with renaming -/
theorem inst_ren (θ : VId → Option Pat) (p : Pat) :
    inst (fun k => (θ k).map (ren ρ)) (ren ρ p) = (inst θ p).map (ren ρ) := by
  induction p with
  | evar _ | svar _ | sym _ => simp [ren, inst]
  | mv id ef sf ps ns hs =>
    simp only [ren, inst]
    cases θ id with
    | none => simp [ren]
    | some q => simp only [Option.map_some, okPlug_ren]; split <;> simp
  | imp l r ihl ihr | app l r ihl ihr =>
    simp only [ren, inst, ihl, ihr]
    cases inst θ l <;> cases inst θ r <;> rfl
  | ex x p ih | mu x p ih =>
    simp only [ren, inst, ih]
    cases inst θ p <;> rfl
  | esub p x q ihp ihq =>
    simp only [ren, inst, ihp, ihq]
    cases inst θ p <;> cases inst θ q <;> simp [applyESubst_ren]
  | ssub p X q ihp ihq =>
    simp only [ren, inst, ihp, ihq]
    cases inst θ p <;> cases inst θ q <;> simp [applySSubst_ren]

theorem lookupPlug_ren (ks : List VId) (ps : List Pat) (k : VId) :
    lookupPlug ks (ps.map (ren ρ)) k = (lookupPlug ks ps k).map (ren ρ) := by
  induction ks generalizing ps with
  | nil => simp [lookupPlug]
  | cons a ks ih =>
    cases ps with
    | nil => simp [lookupPlug]
    | cons p ps =>
      simp only [List.map_cons, lookupPlug, ih]
      split <;> simp

end Pat

