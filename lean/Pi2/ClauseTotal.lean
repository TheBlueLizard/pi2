import Pi2.ClauseProver
/-!
# The generated prover WITH proof objects answers wherever the model answers

`Pi2/ClauseProver.lean` shows that whatever the generated prover with proof objects answers is right.  Here, conversely:
where the model `proveTautology` answers, the generated `prove_tautology` with proof objects (over the generated
`prove_trivial_clause` and `build_proof_from_hint`) answers the same verdict at every sufficiently large fuel — none of its
proof constructions fails.

* `resolution_algorithm_pos`: the saturation loop only records POSITIVE resolvants (and only derives clauses without the
  literal `0`) — what the hint bookkeeping invariant `TautTie.WF` does not say, and what `build_proof_from_hint` needs
  (`id_to_metavar(-r) = neg(id_to_metavar(r))`);
* `bpfh_total`: on a well-founded hint (`TautTie.WF`, `TautTie.resolution_algorithm_complete`) with positive resolvants,
  `build_proof_from_hint` with proof objects does not raise;
* `sra_total`, `stage_prover_complete`.
-/
set_option linter.unusedSimpArgs false
open Pat

namespace ClauseThm
open Lem StageSup Gen.PyTaut TautSup TautTie StageThm

/-- a recorded resolvant is positive, a recorded index is not negative -/
def EntryPos : Sum ResolutionHintSource Int → Prop
  | .inl s => 0 < s.resolvant
  | .inr idx => 0 ≤ idx

/-- every recorded resolvant is positive, every recorded index non-negative -/
def HintPos (hint : StageThm.Hint) : Prop := ∀ e ∈ hint, EntryPos e.2

/-- no clause set contains the literal `0` -/
def AllNZ (l : List FrozenSet) : Prop := ∀ c ∈ l, Res.NoZero c

theorem mem_dictSet (k : FrozenSet) (v : Sum ResolutionHintSource Int) : ∀ (d : StageThm.Hint) (e), e ∈ dictSet d k v → e ∈ d ∨ e.2 = v := by
  intro d
  induction d with
  | nil => intro e he; simp [dictSet] at he; subst he; exact Or.inr rfl
  | cons p d ih =>
    intro e he
    obtain ⟨k', v'⟩ := p
    simp only [dictSet] at he
    split at he
    · simp only [List.mem_cons] at he
      rcases he with rfl | he
      · exact Or.inr rfl
      · exact Or.inl (List.mem_cons_of_mem _ he)
    · simp only [List.mem_cons] at he
      rcases he with rfl | he
      · exact Or.inl List.mem_cons_self
      · rcases ih e he with h | h
        · exact Or.inl (List.mem_cons_of_mem _ h)
        · exact Or.inr h

theorem HintPos_set (d : StageThm.Hint) (k : FrozenSet) (v : Sum ResolutionHintSource Int) (h : HintPos d)
    (hv : EntryPos v) : HintPos (dictSet d k v) := by
  intro e he
  rcases mem_dictSet k v d e he with h' | h'
  · exact h e h'
  · rw [h']; exact hv

abbrev LoopOut := Ctl (Bool × StageThm.Hint × List FrozenSet) (StageThm.Hint × List FrozenSet)

def outHint : LoopOut → StageThm.Hint
  | .ret r => r.2.1
  | .go s => s.1

def outList : LoopOut → List FrozenSet
  | .ret r => r.2.2
  | .go s => s.2

/-- the inner loop of `resolution_algorithm` keeps the resolvants positive and the clause sets free of `0` -/
theorem for2_pos (cl1 : FrozenSet) (h1 : Res.NoZero cl1) : ∀ (fuel i : Nat) (hint : StageThm.Hint) (l : List FrozenSet)
    (o : LoopOut), resolution_algorithm_for2 cl1 fuel i hint l = some o → HintPos hint → AllNZ l →
    HintPos (outHint o) ∧ AllNZ (outList o) := by
  intro fuel
  induction fuel with
  | zero => intro i hint l o h; simp [resolution_algorithm_for2] at h
  | succ f ih =>
    intro i hint l o h hp hz
    rw [resolution_algorithm_for2] at h
    cases hj : l[i]? with
    | none =>
      simp only [hj, Option.pure_def, Option.some.injEq] at h
      subst h; exact ⟨hp, hz⟩
    | some cl2 =>
      have h2 : Res.NoZero cl2 := hz cl2 (List.mem_of_getElem? hj)
      simp only [hj, Option.pure_def, Option.bind_eq_bind, resolvable_eq, Option.bind_some] at h
      by_cases hc : (cl2 == cl1) = true
      · simp only [hc, if_true, Option.some.injEq] at h
        subst h; exact ⟨hp, hz⟩
      · simp only [hc, Bool.false_eq_true, if_false] at h
        cases hr : Res.resolvable cl1 cl2 with
        | none =>
          simp only [hr, Option.isNone_none, if_true] at h
          exact ih _ _ _ _ h hp hz
        | some pr =>
          obtain ⟨r, res⟩ := pr
          have hres : Res.NoZero res := Res.resolvent_noZero cl1 cl2 r res hr h1 h2
          have hr0 : r ≠ 0 := h2 r (Res.resolvable_clash cl1 cl2 r res hr).1
          simp only [hr, Option.isNone_some, Bool.false_eq_true, if_false, Option.bind_some] at h
          by_cases hd : dictHas hint res = true
          · simp only [hd, Bool.not_true, Bool.false_eq_true, if_false] at h
            exact ih _ _ _ _ h hp hz
          · simp only [hd, Bool.not_false, if_true] at h
            have hz' : AllNZ (l ++ [res]) := by
              intro c hc'
              simp only [List.mem_append, List.mem_singleton] at hc'
              rcases hc' with hc' | rfl
              · exact hz c hc'
              · exact hres
            by_cases hneg : r < 0
            · have hp' : HintPos (dictSet hint res (Sum.inl (ResolutionHintSource_new cl2 cl1 (-r)))) :=
                HintPos_set _ _ _ hp (by show 0 < -r; omega)
              simp only [hneg, decide_true, if_true, Option.bind_some] at h
              by_cases ht : fsTruthy res = true
              · simp only [ht, Bool.not_true, Bool.false_eq_true, if_false] at h
                exact ih _ _ _ _ h hp' hz'
              · simp only [ht, Bool.not_false, if_true, Option.some.injEq] at h
                subst h; exact ⟨hp', hz⟩
            · have hp' : HintPos (dictSet hint res (Sum.inl (ResolutionHintSource_new cl1 cl2 r))) :=
                HintPos_set _ _ _ hp (by show 0 < r; omega)
              simp only [hneg, decide_false, Bool.false_eq_true, if_false, Option.bind_some] at h
              by_cases ht : fsTruthy res = true
              · simp only [ht, Bool.not_true, Bool.false_eq_true, if_false] at h
                exact ih _ _ _ _ h hp' hz'
              · simp only [ht, Bool.not_false, if_true, Option.some.injEq] at h
                subst h; exact ⟨hp', hz⟩

/-- …and so does the outer loop -/
theorem for1_pos : ∀ (fuel i : Nat) (hint : StageThm.Hint) (l : List FrozenSet) (o : LoopOut),
    resolution_algorithm_for1 fuel i hint l = some o → HintPos hint → AllNZ l →
    HintPos (outHint o) ∧ AllNZ (outList o) := by
  intro fuel
  induction fuel with
  | zero => intro i hint l o h; simp [resolution_algorithm_for1] at h
  | succ f ih =>
    intro i hint l o h hp hz
    rw [resolution_algorithm_for1] at h
    cases hi : l[i]? with
    | none =>
      simp only [hi, Option.pure_def, Option.some.injEq] at h
      subst h; exact ⟨hp, hz⟩
    | some cl1 =>
      have h1 : Res.NoZero cl1 := hz cl1 (List.mem_of_getElem? hi)
      simp only [hi, Option.pure_def, Option.bind_eq_bind] at h
      cases h2 : resolution_algorithm_for2 cl1 f 0 hint l with
      | none => simp [h2] at h
      | some o2 =>
        obtain ⟨hp2, hz2⟩ := for2_pos cl1 h1 f 0 hint l o2 h2 hp hz
        simp only [h2, Option.bind_some] at h
        cases o2 with
        | ret r =>
          simp only [Option.some.injEq] at h
          subst h; exact ⟨hp2, hz2⟩
        | go s =>
          obtain ⟨h', l'⟩ := s
          exact ih _ _ _ _ h hp2 hz2

/-- `resolution_algorithm` records positive resolvants only -/
theorem resolution_algorithm_pos (G : Nat) (hint : StageThm.Hint) (l : List FrozenSet) (b : Bool) (h' : StageThm.Hint)
    (l' : List FrozenSet) (h : resolution_algorithm G hint l = some (b, h', l')) (hp : HintPos hint) (hz : AllNZ l) :
    HintPos h' := by
  simp only [resolution_algorithm, Option.pure_def, Option.bind_eq_bind] at h
  cases h1 : resolution_algorithm_for1 G 0 hint l with
  | none => simp [h1] at h
  | some o =>
    obtain ⟨hp1, _⟩ := for1_pos G 0 hint l o h1 hp hz
    simp only [h1, Option.bind_some] at h
    cases o with
    | ret r =>
      simp only [Option.some.injEq] at h
      subst h; exact hp1
    | go s =>
      obtain ⟨h'', l''⟩ := s
      simp only [Option.some.injEq, Prod.mk.injEq] at h
      obtain ⟨_, rfl, _⟩ := h
      exact hp1

theorem enumFrom_ge {α : Type} : ∀ (xs : List α) (k : Int), ∀ x ∈ pyEnumerateFrom k xs, k ≤ x.1 := by
  intro xs
  induction xs with
  | nil => intro k x hx; simp [pyEnumerateFrom] at hx
  | cons a xs ih =>
    intro k x hx
    simp only [pyEnumerateFrom, List.mem_cons] at hx
    rcases hx with rfl | hx
    · exact Int.le_refl _
    · have := ih (k + 1) x hx; omega

/-- the first loop of `start_resolution_algorithm` records non-negative indices -/
theorem sra_for1_pos : ∀ (l : List (Int × FrozenSet)) (hint hint' : StageThm.Hint),
    Gen.PyTaut.start_resolution_algorithm_for1 l hint = some hint' → (∀ x ∈ l, 0 ≤ x.1) → HintPos hint → HintPos hint' := by
  intro l
  induction l with
  | nil => intro hint hint' h _ hp; simp [Gen.PyTaut.start_resolution_algorithm_for1] at h; subst h; exact hp
  | cons x l ih =>
    intro hint hint' h hx hp
    obtain ⟨i, c⟩ := x
    have hi : 0 ≤ i := hx (i, c) List.mem_cons_self
    have hx' : ∀ x ∈ l, 0 ≤ x.1 := fun y hy => hx y (List.mem_cons_of_mem _ hy)
    simp only [Gen.PyTaut.start_resolution_algorithm_for1, Option.pure_def, Option.bind_eq_bind] at h
    cases ht : is_trivial_clause c with
    | none => simp [ht] at h
    | some b =>
      simp only [ht, Option.bind_some] at h
      cases b with
      | true => exact ih _ _ h hx' hp
      | false => exact ih _ _ h hx' (HintPos_set _ _ _ hp hi)

/-! ## `build_proof_from_hint` with proof objects does not raise on a well-founded hint with positive resolvants -/

theorem idPat_neg_of_pos (r : Int) (h : 0 < r) : idPat (-r) = negP (idPat r) := by
  have h1 : -r < 0 := by omega
  have h2 : ¬ r < 0 := by omega
  have e : (-(-r + 1)).toNat = (r - 1).toNat := by omega
  unfold idPat
  rw [if_pos h1, if_neg h2, e]

theorem simplified_mem (cl : List Int) (x : Int) (h : x ∈ cl) : simplified cl x = x :: cl.filter (· != x) := by
  unfold simplified
  have : ¬ (cl.all (· != x) = true) := by
    intro ha
    have := List.all_eq_true.mp ha x h
    simp at this
  simp [this]

theorem noZero_filter (cl : List Int) (P : Int → Bool) (h : Res.NoZero cl) : Res.NoZero (cl.filter P) :=
  fun x hx => h x (List.mem_filter.mp hx).1

theorem moveFuel_ge (n : Nat) : n ≤ moveFuel n := by
  unfold moveFuel
  have : n ≤ (n + 1) * n := Nat.le_mul_of_pos_left _ (by omega)
  omega

/-- **`build_proof_from_hint` with proof objects, on a well-founded hint** (`TautTie.WF`) without repeated keys, with positive
resolvants and non-negative indices, over clauses without the literal `0`: for the key at position `p` there is a clause
`t` whose set is that key such that at every sufficient fuel the function returns `t` with a proof that concludes
`clause_conjunctionto_pattern(terms) -> clause_to_pattern(t)`; none of its assertions or proof constructions fails -/
theorem bpfh_total (terms : List (List Int)) (hint : StageThm.Hint) (hw : WF terms hint) (hnd : (dictKeys hint).Nodup)
    (hp : HintPos hint) (hz : ∀ t ∈ terms, Res.NoZero t) :
    ∀ (p : Nat) (hpl : p < hint.length), ∃ F' t, Res.canon t = hint[p].1 ∧ Res.NoZero t ∧ ∀ G, F' ≤ G →
      bpfhC G hint hint[p].1 terms = some (t, .imp (clausesPat terms) (clausePat t)) := by
  intro p
  induction p using Nat.strongRecOn with
  | _ p ih =>
    intro hpl
    have hget := lookup_getElem hint hnd p hpl
    have hok := hw p hpl
    have hpos := hp hint[p] (List.getElem_mem hpl)
    cases hv : hint[p].2 with
    | inr idx =>
      rw [hv] at hok hpos hget
      obtain ⟨t, ht, hc⟩ := hok
      have hidx : 0 ≤ idx := hpos
      obtain ⟨k, rfl⟩ : ∃ k : Nat, idx = (k : Int) := ⟨idx.toNat, by omega⟩
      have hk : k < terms.length := by
        rcases Nat.lt_or_ge k terms.length with h' | h'
        · exact h'
        · simp [pyIndex, List.getElem?_eq_none h'] at ht
      rw [pyIndex_nat terms k hk] at ht
      cases ht
      have hne : terms ≠ [] := by intro e; subst e; simp at hk
      refine ⟨terms.length + (terms.map List.length).sum + 1, terms[k], hc, hz _ (List.getElem_mem hk), fun G hG => ?_⟩
      obtain ⟨g, rfl⟩ : ∃ g, G = g + 1 := ⟨G - 1, by omega⟩
      have hl : ∀ cl ∈ terms, cl.length ≤ g := by
        intro cl hcl
        have := le_sum_of_mem (terms.map List.length) cl.length (List.mem_map.mpr ⟨cl, hcl, rfl⟩)
        omega
      have hccp := clause_conjunctionto_pattern_C algCS terms g hz hl (by omega)
      have hcin := conjunction_implies_nth_C (terms.map clausePat) k g (by simpa using hk) (by simp; omega)
      rw [← clausesPat_eq terms hne] at hcin
      have hlen : pyLen terms = ((terms.map clausePat).length : Int) := by simp [pyLen]
      unfold bpfhC
      rw [Gen.Clause.build_proof_from_hint]
      simp only [hget, hccp, pyIndex_nat terms k hk, hlen, hcin, Option.pure_def, Option.bind_eq_bind, Option.bind_some]
      simp
    | inl s =>
      rw [hv] at hok hpos hget
      obtain ⟨L0, R0, r⟩ := s
      simp only [EntryOK, ResolutionHintSource.left_set, ResolutionHintSource.right_set, ResolutionHintSource.resolvant] at hok
      have hr : 0 < r := hpos
      obtain ⟨hL, hR, hnr, hrr, hk⟩ := hok
      have find : ∀ X, X ∈ (dictKeys hint).take p → ∃ F' t, Res.canon t = X ∧ Res.NoZero t ∧ ∀ G, F' ≤ G →
          bpfhC G hint X terms = some (t, .imp (clausesPat terms) (clausePat t)) := by
        intro X hX
        obtain ⟨q, hq, e⟩ := List.mem_take_iff_getElem.mp hX
        have hq1 : q < p := by omega
        have hq2 : q < hint.length := by omega
        have : hint[q].1 = X := by simpa [dictKeys] using e
        rw [← this]
        exact ih q hq1 hq2
      obtain ⟨FL, tl, c1, zl, eL⟩ := find L0 hL
      obtain ⟨FR, tr, c2, zr, eR⟩ := find R0 hR
      have hml : -r ∈ tl := by rw [← c1, Res.mem_canon] at hnr; exact hnr
      have hmr : r ∈ tr := by rw [← c2, Res.mem_canon] at hrr; exact hrr
      have hfin : Res.canon (tl.filter (· != -r) ++ tr.filter (· != r)) = hint[p].1 := by
        rw [← hk]
        apply canon_ext
        intro x
        simp only [List.mem_append, List.mem_filter, ← c1, ← c2, Res.mem_canon]
      have zL := noZero_filter tl (· != -r) zl
      have zR := noZero_filter tr (· != r) zr
      refine ⟨FL + FR + moveFuel tl.length + moveFuel tr.length + 1, tl.filter (· != -r) ++ tr.filter (· != r), hfin, ?_,
        fun G hG => ?_⟩
      · intro x hx
        simp only [List.mem_append] at hx
        rcases hx with hx | hx
        · exact zL x hx
        · exact zR x hx
      · obtain ⟨g, rfl⟩ : ∃ g, G = g + 1 := ⟨G - 1, by omega⟩
        have e3 := eL g (by omega)
        have e4 := eR g (by omega)
        have e5 := simplify_clause_C tl (-r) g zl (by omega)
        have e6 := simplify_clause_C tr r g zr (by omega)
        rw [simplified_mem tl (-r) hml] at e5
        rw [simplified_mem tr r hmr] at e6
        have hid := id_to_metavar_C algCS r (by omega)
        have hfs : (fsOfList (tl.filter (· != -r) ++ tr.filter (· != r)) == hint[p].1) = true := by
          simp only [fsOfList, hfin, beq_self_eq_true]
        have hgL : (tl.filter (· != -r)).length ≤ g := by
          have := List.length_filter_le (· != -r) tl
          have := moveFuel_ge tl.length
          omega
        have hgR : (tr.filter (· != r)).length ≤ g := by
          have := List.length_filter_le (· != r) tr
          have := moveFuel_ge tr.length
          omega
        unfold bpfhC at e3 e4 ⊢
        rw [Gen.Clause.build_proof_from_hint]
        simp only [hget, ResolutionHintSource.left_set, ResolutionHintSource.right_set, ResolutionHintSource.resolvant, hid,
          e3, e4, e5, e6, pyIndex_cons_zero, pyAssert, beq_self_eq_true, if_true, pySliceFrom_one, hfs, lib_and_l_equiv,
          lib_imp_transitivity, Option.pure_def, Option.bind_eq_bind, Option.bind_some, pyLen_beq_zero]
        -- the `match` on the two rests, and `resolution_step`
        generalize tl.filter (· != -r) = L at zL hgL
        generalize tr.filter (· != r) = R at zR hgR
        have hn := idPat_neg_of_pos r hr
        by_cases hl : L = []
        · subst hl
          by_cases hr' : R = []
          · subst hr'
            simp only [List.isEmpty_nil, Bool.true_beq, Bool.not_true, Bool.and_self, Bool.and_false, Bool.false_and,
              beq_self_eq_true, Bool.false_eq_true, if_false, lib_resolution_base, Option.bind_some, clausePat_single, hn,
              lib_resolution_step, List.append_nil]
            rfl
          · simp only [List.isEmpty_nil, List.isEmpty_eq_false_iff.mpr hr', Bool.true_beq, Bool.false_beq, Bool.not_true,
              Bool.not_false, Bool.and_self, Bool.and_false, Bool.false_and, Bool.and_true, beq_self_eq_true,
              Bool.false_eq_true, if_false, if_true, clause_to_pattern_C algCS R g zR hgR, lib_resolution_r, Option.bind_some,
              clausePat_single, hn, clausePat_cons r R hr', lib_resolution_step, List.nil_append]
        · by_cases hr' : R = []
          · subst hr'
            simp only [List.isEmpty_nil, List.isEmpty_eq_false_iff.mpr hl, Bool.true_beq, Bool.false_beq, Bool.not_true,
              Bool.not_false, Bool.and_self, Bool.and_false, Bool.false_and, Bool.and_true, beq_self_eq_true,
              Bool.false_eq_true, if_false, if_true, clause_to_pattern_C algCS L g zL hgL, lib_resolution_l, Option.bind_some,
              clausePat_single, hn, clausePat_cons (-r) L hl, lib_resolution_step, List.append_nil]
          · have hcl : clausePat L = foldrP orP (L.map idPat) := clausePat_eq _ hl
            have hmg := merge_clauses_C (clausePat R) (L.map idPat) g (by simpa using hl) (by simpa using hgL)
            rw [← hcl, List.length_map, clausePat_append L R hl hr'] at hmg
            simp only [List.isEmpty_eq_false_iff.mpr hl, List.isEmpty_eq_false_iff.mpr hr', Bool.false_beq, Bool.not_false,
              Bool.and_self, if_true, clause_to_pattern_C algCS L g zL hgL, clause_to_pattern_C algCS R g zR hgR,
              lib_resolution, pyLen, hmg, lib_and_l_equiv, lib_long_imp_trans, Option.bind_some, hn, clausePat_cons (-r) L hl,
              clausePat_cons r R hr', lib_resolution_step]

/-! ## the saturation loop: more fuel, same answer -/

theorem for2_mono (cl1 : FrozenSet) : ∀ (n i : Nat) (hint : StageThm.Hint) (l : List FrozenSet),
    Le (resolution_algorithm_for2 cl1 n i hint l) (resolution_algorithm_for2 cl1 (n + 1) i hint l) := by
  intro n
  induction n with
  | zero => intro i hint l; exact le_none _
  | succ n ih =>
    intro i hint l
    rw [resolution_algorithm_for2, resolution_algorithm_for2]
    cases l[i]? with
    | none => exact Le.refl _
    | some cl2 =>
      simp only [Option.pure_def, Option.bind_eq_bind]
      repeat' first | (with_reducible exact ih _ _ _) | mono_step

theorem for2_mono_le (cl1 : FrozenSet) (n m i : Nat) (hint : StageThm.Hint) (l : List FrozenSet) (h : n ≤ m) :
    Le (resolution_algorithm_for2 cl1 n i hint l) (resolution_algorithm_for2 cl1 m i hint l) :=
  le_of_step (fun k (x : Nat × StageThm.Hint × List FrozenSet) => resolution_algorithm_for2 cl1 k x.1 x.2.1 x.2.2)
    (fun k x => for2_mono cl1 k x.1 x.2.1 x.2.2) n m (i, hint, l) h

theorem for1_mono : ∀ (n i : Nat) (hint : StageThm.Hint) (l : List FrozenSet),
    Le (resolution_algorithm_for1 n i hint l) (resolution_algorithm_for1 (n + 1) i hint l) := by
  intro n
  induction n with
  | zero => intro i hint l; exact le_none _
  | succ n ih =>
    intro i hint l
    rw [resolution_algorithm_for1, resolution_algorithm_for1]
    cases l[i]? with
    | none => exact Le.refl _
    | some cl1 =>
      simp only [Option.pure_def, Option.bind_eq_bind]
      apply le_bind (for2_mono cl1 n 0 hint l)
      intro o
      cases o with
      | ret r => exact Le.refl _
      | go s => exact ih _ _ _

theorem resolution_algorithm_mono_le (n m : Nat) (hint : StageThm.Hint) (l : List FrozenSet) (h : n ≤ m) :
    Le (resolution_algorithm n hint l) (resolution_algorithm m hint l) := by
  have h1 : Le (resolution_algorithm_for1 n 0 hint l) (resolution_algorithm_for1 m 0 hint l) :=
    le_of_step (fun k (x : Nat × StageThm.Hint × List FrozenSet) => resolution_algorithm_for1 k x.1 x.2.1 x.2.2)
      (fun k x => for1_mono k x.1 x.2.1 x.2.2) n m (0, hint, l) h
  simp only [resolution_algorithm, Option.pure_def, Option.bind_eq_bind]
  exact le_bind h1 (fun _ => Le.refl _)

/-! ## `start_resolution_algorithm` with proof objects answers wherever the model answers -/

theorem trivial_canon (c : List Int) : Res.trivial (Res.canon c) = Res.trivial c := by
  unfold Res.trivial
  rw [Bool.eq_iff_iff]
  simp only [List.any_eq_true, List.contains_eq_mem, decide_eq_true_eq, Res.mem_canon]

theorem initial_fold_nil : ∀ (l acc : List (List Int)),
    l.foldl (fun acc c => if Res.trivial c || acc.contains c then acc else acc ++ [c]) acc = [] →
    acc = [] ∧ ∀ c ∈ l, Res.trivial c = true := by
  intro l
  induction l with
  | nil => intro acc h; exact ⟨h, fun c hc => by simp at hc⟩
  | cons c l ih =>
    intro acc h
    simp only [List.foldl_cons] at h
    obtain ⟨h1, h2⟩ := ih _ h
    by_cases hc : (Res.trivial c || acc.contains c) = true
    · rw [if_pos hc] at h1
      subst h1
      have : Res.trivial c = true := by simpa using hc
      exact ⟨rfl, fun c' hc' => by
        simp only [List.mem_cons] at hc'
        rcases hc' with rfl | hc'
        · exact this
        · exact h2 c' hc'⟩
    · rw [if_neg hc] at h1
      simp at h1

theorem initial_nil_trivial (cls : List (List Int)) (h : Res.initial cls = []) : ∀ cl ∈ cls, Res.trivial cl = true := by
  intro cl hcl
  have := (initial_fold_nil (cls.map Res.canon) [] h).2 (Res.canon cl) (List.mem_map.mpr ⟨cl, hcl, rfl⟩)
  rwa [trivial_canon] at this

theorem mapM_ptc_C (G : Nat) : ∀ (cls : List (List Int)), (∀ cl ∈ cls, Res.NoZero cl) → (∀ cl ∈ cls, Res.trivial cl = true) →
    (∀ cl ∈ cls, moveFuel cl.length ≤ G) → List.mapM (ptcC G) cls = some (cls.map clausePat) := by
  intro cls
  induction cls with
  | nil => intro _ _ _; rfl
  | cons c cls ih =>
    intro hz ht hf
    rw [List.mapM_cons, ih (fun x hx => hz x (List.mem_cons_of_mem _ hx)) (fun x hx => ht x (List.mem_cons_of_mem _ hx))
      (fun x hx => hf x (List.mem_cons_of_mem _ hx))]
    have := prove_trivial_clause_C c G (hz c List.mem_cons_self) (ht c List.mem_cons_self) (hf c List.mem_cons_self)
    simp [ptcC, this]

/-- **`start_resolution_algorithm` with proof objects answers wherever the model answers**, at every sufficient fuel, with
the model's verdict; its proof object concludes the clause conjunction / its refutation -/
theorem sra_total (F : Nat) (cls : List (List Int)) (hz : ∀ cl ∈ cls, Res.NoZero cl) (x : Option Bool)
    (h : Res.start F cls = some x) :
    ∃ F', ∀ G, F' ≤ G → Gen.Stage.start_resolution_algorithm algCS ptcC bpfhC G cls =
      some (x.map fun b => (b, if b then clausesPat cls else .imp (clausesPat cls) Lem.botP)) := by
  -- it suffices that the run answers with the right verdict: `sra_C` gives the conclusion
  suffices hex : ∃ F', ∀ G, F' ≤ G → ∃ v, Gen.Stage.start_resolution_algorithm algCS ptcC bpfhC G cls = some v ∧ v.map (·.1) = x by
    obtain ⟨F', hF'⟩ := hex
    refine ⟨F', fun G hG => ?_⟩
    obtain ⟨v, hv, hx⟩ := hF' G hG
    rw [hv]
    cases v with
    | none => simp at hx; subst hx; rfl
    | some bp =>
      obtain ⟨b, p⟩ := bp
      have := sra_C ptcC bpfhC (fun F cl p h => prove_trivial_clause_any F cl p h)
        (fun F hint cl terms r p h => build_proof_from_hint_any F hint cl terms r p h) G cls b p hv
      subst this
      simp at hx; subst hx; rfl
  cases cls with
  | nil =>
    simp [Res.start] at h; subst h
    exact ⟨0, fun G _ => ⟨some (true, topP), by simp [Gen.Stage.start_resolution_algorithm, StageThm.lib_top_intro], rfl⟩⟩
  | cons c0 cs =>
    have hz' : ∀ c ∈ List.map (fun cl => fsOfList cl) (c0 :: cs), Res.NoZero c := by
      intro c hc
      obtain ⟨c', hc', rfl⟩ := List.mem_map.mp hc
      intro y hy
      exact hz c' hc' y ((Res.mem_canon y c').mp hy)
    obtain ⟨hint', e1, e2⟩ := start_for1_keys _ hz' 0 ([] : StageThm.Hint)
    have e2' : dictKeys hint' = Res.initial (c0 :: cs) := e2
    have hall : AllInr (c0 :: cs) hint' := by
      refine start_for1_allInr (c0 :: cs) _ 0 [] hint' ?_ (by intro e he; cases he) (by simpa using e1)
      intro q hq
      have hq' : q < (c0 :: cs).length := by simpa using hq
      exact ⟨(c0 :: cs)[q], by simp [List.getElem?_eq_getElem hq'], by cases q with
        | zero => rfl
        | succ q => simp [fsOfList]⟩
    have hwf := AllInr_WF _ _ hall
    have hnd : (dictKeys hint').Nodup := e2' ▸ initial_nodup _
    have hpos : HintPos hint' :=
      sra_for1_pos _ [] hint' e1 (fun x hx => enumFrom_ge _ 0 x hx) (fun e he => by cases he)
    simp only [Res.start, List.isEmpty_cons, Bool.false_eq_true, if_false] at h
    by_cases hemp : hint' = []
    · subst hemp
      have hl : Res.initial (c0 :: cs) = [] := by rw [← e2']; rfl
      simp [hl] at h; subst h
      have htriv := initial_nil_trivial (c0 :: cs) hl
      refine ⟨((c0 :: cs).map fun cl => moveFuel cl.length).sum, fun G hG => ?_⟩
      have hf : ∀ cl ∈ (c0 :: cs), moveFuel cl.length ≤ G := by
        intro cl hcl
        have := le_sum_of_mem ((c0 :: cs).map fun cl => moveFuel cl.length) (moveFuel cl.length)
          (List.mem_map.mpr ⟨cl, hcl, rfl⟩)
        omega
      simp only [Gen.Stage.start_resolution_algorithm, sra_for1_erase, pyEnumerate, e1, Option.pure_def, Option.bind_eq_bind,
        Option.bind_some, List.isEmpty_cons, Bool.not_false, Bool.not_true, Bool.false_eq_true, if_false, dictTruthy,
        List.isEmpty_nil, if_true, bind_some_eta]
      cases cs with
      | nil =>
        have := prove_trivial_clause_C c0 G (hz c0 (by simp)) (htriv c0 (by simp)) (hf c0 (by simp))
        exact ⟨some (true, clausePat c0), by simp [pyLen, pyIndex, ptcC, this], rfl⟩
      | cons c1 cs' =>
        have hl1 : ¬ (pyLen (c0 :: c1 :: cs') == (1 : Int)) = true := by simp [pyLen]; omega
        have hm := mapM_ptc_C G (c0 :: c1 :: cs') hz htriv hf
        obtain ⟨xs, a, b, he⟩ := split_last2 ((c0 :: c1 :: cs').map clausePat) (by simp)
        simp only [hl1, Bool.false_eq_true, if_false, hm, Option.bind_some]
        rw [he]
        simp only [pyIndex_m2, pyIndex_m1, pySliceTo_m2, Option.bind_some, StageThm.lib_and_intro, sra_for2_C]
        exact ⟨_, rfl, rfl⟩
    · have hl : (Res.initial (c0 :: cs)).isEmpty = false := by
        rw [← e2']; cases hint' with
        | nil => exact absurd rfl hemp
        | cons p d => rfl
      have htr : dictTruthy hint' = true := by
        cases hint' with
        | nil => exact absurd rfl hemp
        | cons p d => rfl
      simp only [hl, Bool.false_eq_true, if_false] at h
      cases hloop : Res.loop F (Res.initial (c0 :: cs)) 0 0 with
      | none => simp [hloop] at h
      | some b =>
        -- the answer of the saturation loop at one sufficient fuel is its answer at every larger fuel
        obtain ⟨h2, l2, hra, hret⟩ := resolution_algorithm_complete (c0 :: cs) F hint' _ b e2' (e2' ▸ hnd) hwf hloop
          (hint'.length + F + 1) (by omega)
        rw [← e2'] at hra
        have hraG : ∀ G, hint'.length + F + 1 ≤ G → resolution_algorithm G hint' (dictKeys hint') = some (b, h2, l2) :=
          fun G hG => resolution_algorithm_mono_le _ G hint' _ hG _ hra
        have hnz : AllNZ (dictKeys hint') := by
          intro c hc
          rw [e2'] at hc
          have hmem : c ∈ (c0 :: cs).map Res.canon := by
            have hsub : ∀ (l acc : List (List Int)), (∀ a ∈ acc, a ∈ (c0 :: cs).map Res.canon) → (∀ a ∈ l, a ∈ (c0 :: cs).map Res.canon) →
                ∀ a ∈ l.foldl (fun acc c => if Res.trivial c || acc.contains c then acc else acc ++ [c]) acc,
                  a ∈ (c0 :: cs).map Res.canon := by
              intro l
              induction l with
              | nil => intro acc ha _ a h'; exact ha a h'
              | cons y l ih =>
                intro acc ha hl' a h'
                simp only [List.foldl_cons] at h'
                refine ih _ ?_ (fun a' ha' => hl' a' (List.mem_cons_of_mem _ ha')) a h'
                intro a' ha'
                split at ha'
                · exact ha a' ha'
                · simp only [List.mem_append, List.mem_singleton] at ha'
                  rcases ha' with ha' | rfl
                  · exact ha a' ha'
                  · exact hl' _ List.mem_cons_self
            exact hsub _ [] (fun a ha => by cases ha) (fun a ha => ha) c hc
          exact hz' c hmem
        cases b with
        | false =>
          simp [hloop] at h; subst h
          refine ⟨hint'.length + F + 1, fun G hG => ⟨none, ?_, rfl⟩⟩
          simp only [Gen.Stage.start_resolution_algorithm, sra_for1_erase, pyEnumerate, e1, Option.pure_def, Option.bind_eq_bind,
            Option.bind_some, List.isEmpty_cons, Bool.not_false, Bool.not_true, Bool.false_eq_true, if_false, htr, hraG G hG]
          simp
        | true =>
          simp [hloop] at h; subst h
          obtain ⟨_, hw2, hnd2, hlen, h0, v, hlast⟩ := hret rfl
          simp only at hw2 hnd2 hlen hlast
          have hp2 : HintPos h2 := resolution_algorithm_pos _ hint' _ true h2 l2 hra hpos hnz
          have hp : h0.length < h2.length := by rw [hlast]; simp
          obtain ⟨Fb, t, hc, _, hb⟩ := bpfh_total (c0 :: cs) h2 hw2 hnd2 hp2 hz h0.length hp
          have hkey : h2[h0.length].1 = ([] : List Int) := by simp [hlast]
          rw [hkey] at hc hb
          have htn : t = [] := canon_eq_nil t hc
          subst htn
          refine ⟨hint'.length + F + 1 + Fb, fun G hG =>
            ⟨some (false, (clausesPat (c0 :: cs)).imp (clausePat [])), ?_, rfl⟩⟩
          have hfs : fsOfList ([] : List Int) = [] := rfl
          simp only [Gen.Stage.start_resolution_algorithm, sra_for1_erase, pyEnumerate, e1, Option.pure_def, Option.bind_eq_bind,
            Option.bind_some, List.isEmpty_cons, Bool.not_false, Bool.not_true, Bool.false_eq_true, if_false, htr,
            hraG G (by omega), hfs, hb G (by omega), pyAssert, List.isEmpty_nil, if_true]

/-! ## the generated prover with proof objects answers wherever the model answers -/

/-- **where the model `proveTautology` answers, the generated `prove_tautology` with proof objects gives the same verdict at
every sufficiently large fuel**, with a proof object that concludes literally the pattern / its negation: none of its
assertions or proof constructions fails -/
theorem stage_prover_complete (F : Nat) (f : Form) (x : Option Bool) (h : proveTautology F f = some x) :
    ∃ F', ∀ G, F' ≤ G → Gen.Stage.prove_tautology algCS ptcC bpfhC G f =
      some (x.map fun b => (b, if b then toPat f else negP (toPat f))) := by
  suffices hex : ∃ F', ∀ G, F' ≤ G → ∃ v, Gen.Stage.prove_tautology algCS ptcC bpfhC G f = some v ∧ v.map (·.1) = x by
    obtain ⟨F', hF'⟩ := hex
    refine ⟨F', fun G hG => ?_⟩
    obtain ⟨v, hv, hx⟩ := hF' G hG
    rw [hv]
    cases v with
    | none => simp at hx; subst hx; rfl
    | some bp =>
      obtain ⟨b, p⟩ := bp
      have := prove_tautology_C ptcC bpfhC (fun F cl p h => prove_trivial_clause_any F cl p h)
        (fun F hint cl terms r p h => build_proof_from_hint_any F hint cl terms r p h) G f b p hv
      subst this
      simp at hx; subst hx; rfl
  cases hb : (CF.ofForm (Form.neg f)).isBot with
  | true =>
    refine ⟨(Form.neg f).size, fun G hG => ?_⟩
    have e := to_conj_form_C (Form.neg f) G hG
    cases hc : CF.ofForm (Form.neg f) with
    | bot b =>
      cases b
      · have hx : x = some true := by simp [proveTautology, hc] at h; exact h.symm
        subst hx
        refine ⟨some (true, toPat f), ?_, rfl⟩
        have htn : toPat (Form.neg f) = negP (toPat f) := rfl
        simp [Gen.Stage.prove_tautology, TautSup.neg, e, conjSpec, hc, ofCF, CF.isBot, CF.negated, ConjForm.isCFBot,
          ConjForm.negated, StageThm.lib_dneg_elim, htn, mpC_imp]
      · have hx : x = some false := by simp [proveTautology, hc] at h; exact h.symm
        subst hx
        refine ⟨some (false, toPat (Form.neg f)), ?_, rfl⟩
        simp [Gen.Stage.prove_tautology, TautSup.neg, e, conjSpec, hc, ofCF, CF.isBot, CF.negated, ConjForm.isCFBot,
          ConjForm.negated]
    | var b i => simp [hc, CF.isBot] at hb
    | or b l r => simp [hc, CF.isBot] at hb
    | and b l r => simp [hc, CF.isBot] at hb
  | false =>
    rw [proveTautology_nonbot F f hb] at h
    simp only [Option.bind_eq_bind, Option.bind_eq_some_iff] at h
    obtain ⟨nt, hn, cnf, hcnf, cls, hcls, sx, hs, hx⟩ := h
    have hor : (CF.ofForm (Form.neg f)).IsOrTree = true := by
      rcases CF.ofForm_shape (Form.neg f) with h' | h'
      · rw [hb] at h'; cases h'
      · exact h'
    obtain ⟨nt', hnt', _, hnnf⟩ := CF.propagNeg_spec _ hor
    rw [hn] at hnt'
    cases hnt'
    have hcnfG : ∀ G, F ≤ G → CF.toCnfF G nt = some cnf := fun G hG => toCnfF_mono_le F G hG nt cnf hcnf
    have hiscnf := (CF.toCnfF_spec F nt cnf hnnf hcnf).2
    obtain ⟨F', hF'⟩ := sra_total F cls (toClauses_noZero cnf cls hcls) sx hs
    refine ⟨(Form.neg f).size + depth (CF.ofForm (Form.neg f)) + F + depth cnf + F', fun G hG => ?_⟩
    have e1 := to_conj_form_C (Form.neg f) G (by omega)
    have e2 := propag_neg_C (CF.ofForm (Form.neg f)) G (by omega)
    have e3 := to_cnf_C G nt hnnf
    rw [hcnfG G (by omega)] at e3
    have e4 := to_clauses_C cnf G (by omega) hiscnf
    have e5 := hF' G (by omega)
    have hnb : (ofCF (CF.ofForm (Form.neg f))).isCFBot = false := by simpa using hb
    simp only [conjSpec, hb, Bool.false_eq_true, if_false] at e1
    simp only [hn, Option.map_some] at e2
    simp only [Option.map_some] at e3
    simp only [hcls, Option.map_some] at e4
    -- the run up to `start_resolution_algorithm`, once for the three verdicts
    simp only [Gen.Stage.prove_tautology, TautSup.neg, e1, hnb, pyAssert, e2, pfPair, e3, e4, clSpec, e5, Option.pure_def,
      Option.bind_eq_bind, Option.bind_some, Bool.false_eq_true, if_false, Option.isSome_some, if_true]
    cases sx with
    | none =>
      simp at hx; subst hx
      exact ⟨none, by simp, rfl⟩
    | some b =>
      cases b
      · simp at hx; subst hx
        refine ⟨some (true, toPat f), ?_, rfl⟩
        simp [StageThm.lib_imp_transitivity, StageThm.lib_dneg_elim]
        rw [show (toPat f.neg).imp Lem.botP = negP (negP (toPat f)) from rfl, mpC_imp]
        rfl
      · simp at hx; subst hx
        refine ⟨some (false, toPat (Form.neg f)), ?_, rfl⟩
        simp [StageThm.lib_imp_transitivity, mpC_imp]

end ClauseThm

#print axioms ClauseThm.resolution_algorithm_pos
#print axioms ClauseThm.bpfh_total
#print axioms ClauseThm.sra_total
#print axioms ClauseThm.stage_prover_complete
