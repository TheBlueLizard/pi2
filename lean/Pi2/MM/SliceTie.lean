import Pi2.Gen.Slicer
import Pi2.MM.SliceThm
import Pi2.MM.SliceVerify
/-!
# The translated slicer (`Pi2/Gen/Slicer.lean`, regenerated from the text of `metamath_extract_slice.py` on every run
by `vlib/transslice.py`) is the hand-written model (`Pi2/MM/Slice.lean`)

`none` = raises, on both sides.

* `translated`: every statement of the eight functions was recognised.
* `construct_axiom_eq`, `deconstruct_compressed_proof_eq` (token level, see `Pi2/SliceSupport.lean`): unconditional.
* `match_axiom_while_eq` (the work-list loop is `matchAxiomLoop`, for EVERY fuel), `match_axiom_eq` (`stmtSize s ≤ fuel`),
  `deconstruct_provable_eq` (the source additionally asserts `not match_axiom(statement)` on a block; the model's function is
  only called where `match_axiom` returned `None`: `deconstruct_provable_eq_of_none`).
* `mem_get_constants`, `sgc_stmt(s)`: `get_constants` / `statements_get_constants` compute, AS SETS, the model's
  `termsConstants` / `stmtsConstants` plus the default constants (the Python code unions the default set in again for every
  subterm, so the lists differ); they raise on the same statements.
* `supporting_database_eq`: on the Python dictionary `ofCut cut` (string keys; the `$d` statement at position `n` has the key
  `'$d n'`) the model's ordered dictionary `cut` stands for, `supporting_database_for_provable` returns EXACTLY `supportingDb`.
  Where the order of a Python SET could reach the output: nowhere — `needed_lemmas` is only used for membership and for
  collecting sets; `needed_constants` / `needed_metavariables` reach the output only through `sorted(..)`, and `sortDedup_congr`
  shows that `sorted` of a set given as a list does not depend on order or repetitions; everything else is emitted in the
  insertion order of the dictionary `cut_antecedents` (`foldl_emit`, `emit_ofCutFrom`).  (The translator refuses the
  order-sensitive uses of a set: `tuple(<set>)`, a `for` loop over a set that does more than accumulate into sets, …)
* `slice_database_eq`: `list(slice_database(db, syntax_deps, include, exclude))` is `sliceDatabase`, for `stmtsSize db ≤ fuel`
  and `KeysOk db deps`: no label under which a statement is filed or looked up is of the form `$d <n>`.
  `keysOk_of_tokensOk`: true when no label / proof token / `syntax_deps` entry contains a blank (`tokensOk`, decidable) —
  as for everything the parser produces.
  The hypothesis cannot be dropped: on the AST (not obtainable from the parser)
  `$c … $. $v x y $. x-f $f … $. y-f $f … $. $d x y $.  «$d 2» $a |- ( foo x y ) $.  th $p |- ( foo x y ) $= ( ) A $.`
  the axiom labelled `$d 2` REPLACES the `$d x y` statement in `cut_antecedents` (same key), so the real slicer — and the
  translated one — lose the `$d` statement, while the model (which files `$d` statements under no key, see the comment at
  `MM.Cut`) keeps it.  That is the only difference between the model and the source found.
Core Lean only.
-/
namespace SliceTie
open MM SliceSup

theorem translated : Gen.Slicer.translated = true := by decide

theorem construct_axiom_eq (ants : List MStmt) (c : MStmt) :
    Gen.Slicer.construct_axiom ants c = constructAxiom ants c.label c.terms := by
  unfold Gen.Slicer.construct_axiom constructAxiom
  cases ants <;> simp

theorem match_axiom_while_eq : ∀ (fuel : Nat) (work : List MStmt) (last : Option MStmt),
    Gen.Slicer.match_axiom_while1 fuel last work = matchAxiomLoop fuel work last
  | 0, _, _ => rfl
  | n + 1, [], last => by
      rcases last with _ | s
      · rfl
      · cases s <;> rfl
  | n + 1, s :: rest, last => by
      -- both sides compute, by the kind of `s`, to `some none` or to the loop on the rest
      cases s with
      | block _ | disj _ | ess _ _ | ax _ _ => exact match_axiom_while_eq n _ _
      | _ => rfl

theorem stmtsSize_append : ∀ (a b : List MStmt), stmtsSize (a ++ b) = stmtsSize a + stmtsSize b
  | [], b => by simp [stmtsSize]
  | s :: a, b => by simp [stmtsSize, stmtsSize_append a b]; omega

/-- enough fuel: the result of the work-list loop does not depend on it -/
theorem matchAxiomLoop_fuel : ∀ (n m : Nat) (work : List MStmt) (last : Option MStmt),
    stmtsSize work < n → stmtsSize work < m → matchAxiomLoop n work last = matchAxiomLoop m work last
  | 0, _, _, _, h, _ => by omega
  | _, 0, _, _, _, h => by omega
  | n + 1, m + 1, [], last, _, _ => by simp [matchAxiomLoop]
  | n + 1, m + 1, s :: rest, last, hn, hm => by
      unfold matchAxiomLoop
      cases s with
      | block _ | disj _ | ess _ _ | ax _ _ =>
        simp only
        apply matchAxiomLoop_fuel <;> simp [stmtsSize_append, stmtsSize, stmtSize] at hn hm ⊢ <;> omega
      | _ => rfl

theorem match_axiom_eq (fuel : Nat) (s : MStmt) (h : stmtSize s ≤ fuel) :
    Gen.Slicer.match_axiom fuel s = matchAxiom s := by
  unfold Gen.Slicer.match_axiom matchAxiom
  cases s with
  | block ss =>
    simp only [isAxiomatic, isBlock, MStmt.statements, Bool.false_eq_true, if_false, if_true]
    rw [match_axiom_while_eq]
    simp [stmtSize] at h
    exact matchAxiomLoop_fuel _ _ _ _ (by omega) (by omega)
  | _ => simp [isAxiomatic, isBlock]

@[simp] theorem pyAssert_true : pyAssert true = some () := rfl
@[simp] theorem pyAssert_false : pyAssert false = none := rfl

theorem foldlM_assert {α : Type} (p : α → Bool) : ∀ (xs : List α),
    xs.foldlM (fun (_ : Unit) x => (pyAssert (p x)).bind fun _ => some ()) () = if xs.all p then some () else none
  | [] => by simp
  | x :: xs => by
      have ih := foldlM_assert p xs
      rcases Bool.eq_false_or_eq_true (p x) with hp | hp
      · simp only [List.foldlM_cons, hp, pyAssert_true, Option.bind_some, Option.bind_eq_bind, List.all_cons,
          Bool.true_and]
        exact ih
      · simp [hp]

/-- `deconstruct_provable`: on a `$p` statement the model's function; on a block it first asserts that `match_axiom`
returns `None` (the model's `deconstructProvable` is only called when it does) -/
theorem deconstruct_provable_eq (fuel : Nat) (s : MStmt) (h : stmtSize s ≤ fuel) :
    Gen.Slicer.deconstruct_provable fuel s =
      if isBlock s then (do let r ← matchAxiom s; if r.isSome then none else deconstructProvable s)
      else deconstructProvable s := by
  unfold Gen.Slicer.deconstruct_provable
  cases s with
  | block ss =>
    simp only [isProvable, isBlock, MStmt.statements, Bool.false_eq_true, if_false, if_true]
    rw [match_axiom_eq fuel _ h]
    cases hm : matchAxiom (.block ss) with
    | none => simp
    | some r =>
      cases r with
      | some a => simp [pyAssert]
      | none =>
        simp only [Option.bind_eq_bind, Option.bind_some, Option.isSome_none, Bool.not_false, pyAssert_true,
          Option.pure_def]
        rw [foldlM_assert (fun s => isDisjoint s || isEssential s) ss.dropLast]
        have hall : (ss.dropLast.all fun s => isDisjoint s || isEssential s) =
            ss.dropLast.all (fun s => match s with | .disj _ => true | .ess _ _ => true | _ => false) := by
          congr 1; funext s; cases s <;> rfl
        unfold deconstructProvable pyLast
        rw [hall]
        have key : ∀ (b : Bool) (o : Option MStmt),
            ((if b = true then some () else none).bind fun _ => o.bind fun t => (pyAssert (isProvable t)).bind fun _ =>
              o.bind fun t => some (ss.dropLast, t)) =
            match o with
            | some (.prov l ts pf) => if b = true then some (ss.dropLast, .prov l ts pf) else none
            | _ => none := by
          intro b o
          cases b <;> rcases o with _ | t <;> try cases t
          all_goals rfl
        exact key _ _
  | _ => simp [isProvable, isBlock, deconstructProvable]

theorem deconstruct_provable_eq_of_none (fuel : Nat) (s : MStmt) (h : stmtSize s ≤ fuel)
    (hm : matchAxiom s = some none) : Gen.Slicer.deconstruct_provable fuel s = deconstructProvable s := by
  rw [deconstruct_provable_eq fuel s h, hm]
  cases isBlock s <;> simp

/-! ## `deconstruct_compressed_proof` (token level: see `Pi2/SliceSupport.lean`) -/
theorem posFind_zero (pf : List String) (tok : String) :
    posFind pf tok 0 = match pf.idxOf? tok with | some i => 2 * (i : Int) | none => -1 := by
  have : ((0 : Int).toNat + 1) / 2 = 0 := by decide
  simp only [posFind, this, List.drop_zero]
  cases pf.idxOf? tok <;> simp

theorem posFind_odd (pf : List String) (tok : String) (i : Nat) :
    posFind pf tok (2 * (i : Int) + 1) =
      match (pf.drop (i + 1)).idxOf? tok with | some j => 2 * ((i + 1 + j : Nat) : Int) | none => -1 := by
  have : ((2 * (i : Int) + 1).toNat + 1) / 2 = i + 1 := by omega
  simp only [posFind, this]
  cases (pf.drop (i + 1)).idxOf? tok <;> simp

theorem posSlice_eq (pf : List String) (a b : Nat) (lo hi : Int) (ha : (lo.toNat + 1) / 2 = a)
    (hb : (hi.toNat + 1) / 2 = b) : posSlice pf lo hi = (pf.drop a).take (b - a) := by
  simp only [posSlice, ha, hb]

theorem deconstruct_compressed_proof_eq (l : String) (ts : List MTerm) (pf : List String) :
    (Gen.Slicer.deconstruct_compressed_proof (.prov l ts pf)).map (·.1) = proofLabels pf := by
  unfold Gen.Slicer.deconstruct_compressed_proof proofLabels
  simp only [MStmt.proof]
  cases he : pf.isEmpty
  case true => simp
  case false =>
    simp only [Bool.not_false, pyAssert_true, Option.bind_eq_bind, Option.bind_some, Bool.false_eq_true, if_false,
      Option.pure_def]
    simp only [posFind_zero]
    cases h1 : pf.idxOf? "(" with
    | none =>
      have e : (-1 : Int) + 1 = 0 := by decide
      simp only [e, Option.isNone_none, Bool.true_and, posFind_zero]
      cases h2 : pf.idxOf? ")" with
      | none => simp
      | some j =>
        simp only
        by_cases hj : j = 0
        · subst hj; simp
        · have h3 : (decide ((0 : Int) ≤ 0) && decide ((0 : Int) < 2 * (j : Int))) = true := by
            simp; omega
          rw [h3]
          simp only [pyAssert_true, Option.bind_some, Option.map_some, hj, decide_false, Bool.false_eq_true, if_false]
          rw [posSlice_eq pf 0 j 0 (2 * (j : Int)) (by simp) (by omega)]
          simp
    | some i =>
      simp only [Option.isNone_some, Bool.false_and, Bool.false_eq_true, if_false, posFind_odd]
      cases h2 : (pf.drop (i + 1)).idxOf? ")" with
      | none =>
        have h3 : (decide ((0 : Int) ≤ 2 * (i : Int) + 1) && decide (2 * (i : Int) + 1 < -1)) = false := by
          simp; omega
        simp [h3]
      | some j =>
        simp only
        have h3 : (decide ((0 : Int) ≤ 2 * (i : Int) + 1) &&
            decide (2 * (i : Int) + 1 < 2 * ((i + 1 + j : Nat) : Int))) = true := by
          simp; omega
        rw [h3]
        simp only [pyAssert_true, Option.bind_some, Option.map_some]
        rw [posSlice_eq pf (i + 1) (i + 1 + j) _ _ (by omega) (by omega)]
        simp

/-! ## `get_constants`, `statements_get_constants`: the same SETS as `termsConstants` / `stmtsConstants` plus the default
constants (the Python code unions the default set in again at every level) -/
/-- the body of the `for` loop of `get_constants` -/
def gcStep (ret : List String) (term : MTerm) : List String :=
  if isApplication term then ret ++ [term.symbol] ++ Gen.Slicer.get_constants term.subterms else ret

theorem get_constants_unfold (ts : List MTerm) :
    Gen.Slicer.get_constants ts = ts.foldl gcStep defaultConstants := by
  rw [Gen.Slicer.get_constants]
  simp only [dite_eq_ite]
  rfl

mutual
theorem gc_term (a : String) : (t : MTerm) → ∀ (ret : List String),
    a ∈ gcStep ret t ↔ a ∈ ret ∨ (isApplication t = true ∧ a ∈ defaultConstants) ∨ a ∈ termConstants t
  | .mv _, ret => by simp [gcStep, isApplication, termConstants]
  | .app s sub, ret => by
      have h := gc_terms a sub defaultConstants
      simp only [gcStep, isApplication, if_true, MTerm.symbol, MTerm.subterms, get_constants_unfold, List.mem_append,
        h, termConstants, List.mem_cons, true_and, List.not_mem_nil, or_false]
      constructor
      · rintro ((h | h) | h | ⟨_, h⟩ | h) <;> simp [h]
      · rintro (h | h | h | h) <;> simp [h]
theorem gc_terms (a : String) : (ts : List MTerm) → ∀ (ret : List String),
    a ∈ ts.foldl gcStep ret ↔
      a ∈ ret ∨ ((∃ t ∈ ts, isApplication t = true) ∧ a ∈ defaultConstants) ∨ a ∈ termsConstants ts
  | [], ret => by simp [termsConstants]
  | t :: ts, ret => by
      simp only [List.foldl_cons, gc_terms a ts, gc_term a t, termsConstants, List.mem_append, List.mem_cons,
        exists_eq_or_imp]
      constructor
      · rintro ((h | ⟨h1, h2⟩ | h) | ⟨h1, h2⟩ | h) <;> simp [*]
      · rintro (h | ⟨h1 | h1, h2⟩ | h | h) <;> simp [*]
end

theorem mem_get_constants {a : String} {ts : List MTerm} :
    a ∈ Gen.Slicer.get_constants ts ↔ a ∈ defaultConstants ∨ a ∈ termsConstants ts := by
  rw [get_constants_unfold, gc_terms]
  constructor
  · rintro (h | ⟨_, h⟩ | h) <;> simp [h]
  · rintro (h | h) <;> simp [h]

/-- the body of the `for` loop of `statements_get_constants` -/
def sgcStep (ret : List String) (statement : MStmt) : Option (List String) :=
  if isStructured statement then some (ret ++ Gen.Slicer.get_constants statement.terms)
  else if isBlock statement then
    (Gen.Slicer.statements_get_constants statement.statements).bind fun r => some (ret ++ r)
  else if isDisjoint statement then some ret
  else none

theorem statements_get_constants_unfold (ss : List MStmt) :
    Gen.Slicer.statements_get_constants ss = ss.foldlM sgcStep [] := by
  rw [Gen.Slicer.statements_get_constants]
  simp only [dite_eq_ite, Option.pure_def, Option.bind_eq_bind]
  rfl

/-- `r` (what the translated code accumulates, starting from `ret`) and `m` (the model) raise together, and otherwise
`r` is `ret` plus the model's constants, plus possibly default constants -/
def AccRel (ret : List String) (r m : Option (List String)) : Prop :=
  match r, m with
  | none, none => True
  | some r, some xs => (∀ a, a ∈ ret ∨ a ∈ xs → a ∈ r) ∧ (∀ a, a ∈ r → a ∈ ret ∨ a ∈ defaultConstants ∨ a ∈ xs)
  | _, _ => False

/-- a structured statement: `ret` plus `get_constants` of its terms, against the model's constants `xs` of these terms -/
theorem accRel_get_constants (ret : List String) (ts : List MTerm) (xs : List String)
    (h : ∀ a, a ∈ xs ↔ a ∈ termsConstants ts) : AccRel ret (some (ret ++ Gen.Slicer.get_constants ts)) (some xs) := by
  simp only [AccRel, List.mem_append, mem_get_constants, h]
  exact ⟨by rintro a (h | h) <;> simp [h], by rintro a (h | h | h) <;> simp [h]⟩

mutual
theorem sgc_stmt : (s : MStmt) → ∀ (ret : List String), AccRel ret (sgcStep ret s) (stmtConstants s)
  | .const _, ret | .var _, ret => by
      simp [sgcStep, isStructured, isFloating, isEssential, isAxiomatic, isProvable, isBlock, isDisjoint, stmtConstants, AccRel]
  | .disj _, ret => by
      simp [sgcStep, isStructured, isFloating, isEssential, isAxiomatic, isProvable, isBlock, isDisjoint,
        stmtConstants, AccRel]
      exact fun a h => Or.inl h
  | .float l tc v, ret => accRel_get_constants ret [.app tc [], .mv v] _ (fun a => by simp [termsConstants, termConstants])
  | .ess l ts, ret => accRel_get_constants ret ts _ (fun _ => Iff.rfl)
  | .ax l ts, ret => accRel_get_constants ret ts _ (fun _ => Iff.rfl)
  | .prov l ts pf, ret => accRel_get_constants ret ts _ (fun _ => Iff.rfl)
  | .block ss, ret => by
      have h := sgc_stmts ss []
      simp only [sgcStep, isStructured, isFloating, isEssential, isAxiomatic, isProvable, isBlock, Bool.or_self,
        Bool.false_eq_true, if_false, if_true, MStmt.statements, statements_get_constants_unfold, stmtConstants]
      revert h
      cases ss.foldlM sgcStep [] <;> cases stmtsConstants ss <;> simp only [AccRel, Option.bind_none, Option.bind_some,
        imp_self, List.mem_append, List.not_mem_nil, false_or]
      exact fun ⟨h1, h2⟩ => ⟨fun a h => h.imp_right (h1 a), fun a h => h.imp_right (h2 a)⟩
theorem sgc_stmts : (ss : List MStmt) → ∀ (ret : List String), AccRel ret (ss.foldlM sgcStep ret) (stmtsConstants ss)
  | [], ret => by
      simp [stmtsConstants, AccRel]
      exact fun a h => Or.inl h
  | s :: ss, ret => by
      have h1 := sgc_stmt s ret
      simp only [List.foldlM_cons, stmtsConstants, Option.bind_eq_bind, Option.pure_def]
      revert h1
      cases hs : sgcStep ret s with
      | none => cases stmtConstants s <;> simp [AccRel]
      | some r1 =>
        cases hm : stmtConstants s with
        | none => simp [AccRel]
        | some x1 =>
          have h2 := sgc_stmts ss r1
          revert h2
          simp only [Option.bind_some]
          cases ss.foldlM sgcStep r1 <;> cases stmtsConstants ss <;> simp only [AccRel, Option.bind_none,
            Option.bind_some, imp_self, implies_true, List.mem_append, false_imp_iff, imp_false]
          rintro ⟨a1, a2⟩ ⟨b1, b2⟩
          constructor
          · exact fun a h => a1 a ((or_assoc.2 h).imp_left (b1 a))
          · intro a h
            rcases a2 a h with h | h | h
            · rcases b2 a h with h | h | h <;> simp [h]
            · simp [h]
            · simp [h]
end

/-! ## `sorted(<set>)` depends only on the set -/
theorem str_lt_of_le_of_ne {a b : String} (h : a ≤ b) (hne : a ≠ b) : a < b := by
  rw [← String.not_le]
  intro h'
  exact hne (String.le_antisymm h h')

theorem eraseDups_pairwise_lt : ∀ (n : Nat) (l : List String), l.length ≤ n → l.Pairwise (· ≤ ·) →
    l.eraseDups.Pairwise (· < ·)
  | _, [], _, _ => by simp
  | 0, _ :: _, h, _ => by simp at h
  | n + 1, a :: as, h, hp => by
      rw [List.eraseDups_cons, List.pairwise_cons]
      rw [List.pairwise_cons] at hp
      constructor
      · intro b hb
        rw [List.mem_eraseDups, List.mem_filter] at hb
        exact str_lt_of_le_of_ne (hp.1 b hb.1) (fun e => by subst e; simp at hb)
      · apply eraseDups_pairwise_lt n
        · have := List.length_filter_le (fun b => !b == a) as
          simp at h; omega
        · exact hp.2.sublist List.filter_sublist

theorem sortDedup_pairwise (xs : List String) : (sortDedup xs).Pairwise (· < ·) := by
  unfold sortDedup
  apply eraseDups_pairwise_lt _ _ (Nat.le_refl _)
  have h := List.pairwise_mergeSort (le := fun (a b : String) => decide (a ≤ b))
    (fun a b c hab hbc => by simp at hab hbc ⊢; exact String.le_trans hab hbc)
    (fun a b => by simp; exact String.le_total a b) xs
  exact h.imp (by simp)

theorem pairwise_lt_ext : ∀ (l1 l2 : List String), l1.Pairwise (· < ·) → l2.Pairwise (· < ·) →
    (∀ a, a ∈ l1 ↔ a ∈ l2) → l1 = l2 := by
  intro l1 l2 h1 h2 h
  -- strictly sorted lists have no repetitions, so equal members make them permutations of each other
  have nodup : ∀ {l : List String}, l.Pairwise (· < ·) → l.Nodup :=
    fun hl => hl.imp fun {a b} (hlt : a < b) (e : a = b) => String.lt_irrefl b (e ▸ hlt)
  exact ((List.perm_ext_iff_of_nodup (nodup h1) (nodup h2)).2 h).eq_of_pairwise
    (fun a b _ _ hab hba => absurd hab (String.lt_asymm hba)) h1 h2

/-- `sorted(s)` of a set `s` given as a list: repetitions and order in the list do not matter -/
theorem sortDedup_congr {xs ys : List String} (h : ∀ a, a ∈ xs ↔ a ∈ ys) : sortDedup xs = sortDedup ys :=
  pairwise_lt_ext _ _ (sortDedup_pairwise xs) (sortDedup_pairwise ys) (fun a => by simp [mem_sortDedup, h a])

/-! ## the keys of `cut_antecedents` -/

/-- not one of the keys `f'$d {n}'` under which `slice_database` files the top-level `$d` statements -/
def notDKey (s : String) : Prop := ∀ n : Nat, s ≠ "$d " ++ toString n

theorem repr_inj {m n : Nat} (h : Nat.repr m = Nat.repr n) : m = n := by
  have h1 : Nat.toDigits 10 m = Nat.toDigits 10 n := by
    rw [← Nat.toList_repr, ← Nat.toList_repr, h]
  have := congrArg (fun l => Nat.ofDigitChars 10 l 0) h1
  simpa using this

theorem dkey_inj {m n : Nat} (h : "$d " ++ toString m = "$d " ++ toString n) : m = n :=
  repr_inj ((String.append_right_inj _).1 h)

theorem sugar_notDKey (x : String) : notDKey (x ++ "is-sugar") := by
  intro n e
  have h := congrArg (fun s => s.toList.getLast?) e
  simp only [String.toList_append] at h
  have hd : (toString n : String).toList = Nat.toDigits 10 n := Nat.toList_repr
  rw [hd] at h
  have hne : Nat.toDigits 10 n ≠ [] := Nat.toDigits_ne_nil
  rw [List.getLast?_append, List.getLast?_append] at h
  cases hl : (Nat.toDigits 10 n).getLast? with
  | none => exact hne (List.getLast?_eq_none_iff.1 hl)
  | some c =>
    rw [hl] at h
    simp at h
    subst h
    have := Nat.isDigit_of_mem_toDigits (b := 10) (n := n) (by decide) (by decide) (List.mem_of_getLast? hl)
    simp [Char.isDigit] at this

/-! ## the Python dictionary `cut_antecedents` (string keys) a model `Cut` stands for

An entry is never removed and a new key is appended, so the `$d` statement filed when the dictionary had `n` entries
(key `'$d n'`) is the entry number `n`. -/
def ofCutFrom : Nat → Cut → PyDict MStmt
  | _, [] => []
  | i, (some l, v) :: rest => (l, v) :: ofCutFrom (i + 1) rest
  | i, (none, v) :: rest => ("$d " ++ toString i, v) :: ofCutFrom (i + 1) rest

def ofCut (c : Cut) : PyDict MStmt := ofCutFrom 0 c

/-- the entries without a label are the `$d` statements, the labels are not `$d` keys -/
structure CutOk (c : Cut) : Prop where
  disj : ∀ v, (none, v) ∈ c → isDisjoint v = true
  keys : ∀ k v, (some k, v) ∈ c → notDKey k

theorem ofCutFrom_append : ∀ (i : Nat) (a b : Cut),
    ofCutFrom i (a ++ b) = ofCutFrom i a ++ ofCutFrom (i + a.length) b
  | _, [], b => by simp [ofCutFrom]
  | i, (o, v) :: rest, b => by
      cases o <;> simp [ofCutFrom, ofCutFrom_append (i + 1) rest b] <;> congr 1 <;> omega

theorem values_ofCutFrom : ∀ (i : Nat) (c : Cut), dictValues (ofCutFrom i c) = c.map (·.2)
  | _, [] => rfl
  | i, (o, v) :: rest => by
      have := values_ofCutFrom (i + 1) rest
      simp only [dictValues] at this ⊢
      cases o <;> simp [ofCutFrom, this]

theorem length_ofCutFrom (i : Nat) (c : Cut) : (ofCutFrom i c).length = c.length := by
  simpa [dictValues] using congrArg List.length (values_ofCutFrom i c)

/-- the keys of the dictionary: the labels, and `$d j` for positions `j` -/
theorem key_ofCutFrom : ∀ (i : Nat) (c : Cut) (k : String) (v : MStmt), (k, v) ∈ ofCutFrom i c →
    (some k, v) ∈ c ∨ ∃ j, j < i + c.length ∧ k = "$d " ++ toString j
  | _, [], _, _, h => by simp [ofCutFrom] at h
  | i, (o, w) :: rest, k, v, h => by
      have tail : (k, v) ∈ ofCutFrom (i + 1) rest → (some k, v) ∈ (o, w) :: rest ∨
          ∃ j, j < i + ((o, w) :: rest).length ∧ k = "$d " ++ toString j := by
        intro h
        rcases key_ofCutFrom (i + 1) rest k v h with h | ⟨j, h2, h3⟩
        · exact Or.inl (List.mem_cons_of_mem _ h)
        · exact Or.inr ⟨j, by simp; omega, h3⟩
      cases o with
      | some l =>
        simp only [ofCutFrom, List.mem_cons, Prod.mk.injEq] at h
        rcases h with ⟨rfl, rfl⟩ | h
        · simp
        · exact tail h
      | none =>
        simp only [ofCutFrom, List.mem_cons, Prod.mk.injEq] at h
        rcases h with ⟨rfl, rfl⟩ | h
        · exact Or.inr ⟨i, by simp, rfl⟩
        · exact tail h

theorem lookup_ofCutFrom {q : String} (hq : notDKey q) : ∀ (i : Nat) (c : Cut),
    (ofCutFrom i c).lookup q = c.lookup (some q)
  | _, [] => rfl
  | i, (some l, v) :: rest => by
      simp only [ofCutFrom, List.lookup_cons, lookup_ofCutFrom hq (i + 1) rest]
      by_cases e : q = l <;> simp [e]
  | i, (none, v) :: rest => by
      simp only [ofCutFrom, List.lookup_cons, lookup_ofCutFrom hq (i + 1) rest]
      have e1 : (q == "$d " ++ i.repr) = false := by simpa using hq i
      simp [e1]

theorem anyKey_ofCutFrom {q : String} (hq : notDKey q) : ∀ (i : Nat) (c : Cut),
    (ofCutFrom i c).any (·.1 == q) = c.any (·.1 == some q)
  | _, [] => rfl
  | i, (some l, v) :: rest => by
      simp [ofCutFrom, anyKey_ofCutFrom hq (i + 1) rest]
  | i, (none, v) :: rest => by
      have e1 : ¬ "$d " ++ i.repr = q := fun e => hq i e.symm
      simp [ofCutFrom, anyKey_ofCutFrom hq (i + 1) rest, e1]

theorem map_ofCutFrom (q : String) (hq : notDKey q) (v : MStmt) : ∀ (i : Nat) (c : Cut),
    (ofCutFrom i c).map (fun (k', v') => if k' == q then (k', v) else (k', v')) =
      ofCutFrom i (c.map fun (k', v') => if k' == some q then (k', v) else (k', v'))
  | _, [] => rfl
  | i, (some l, w) :: rest => by
      simp only [ofCutFrom, List.map_cons, map_ofCutFrom q hq v (i + 1) rest]
      by_cases e : l = q <;> simp [e, ofCutFrom]
  | i, (none, w) :: rest => by
      have e1 : ¬ "$d " ++ i.repr = q := fun e => hq i e.symm
      have ih := map_ofCutFrom q hq v (i + 1) rest
      simp only [ofCutFrom, List.map_cons, ih]
      simp [e1, ofCutFrom]

/-- `cut_antecedents[label] = v` -/
theorem dictSet_ofCut {q : String} (hq : notDKey q) (c : Cut) (v : MStmt) :
    SliceSup.dictSet (ofCut c) q v = ofCut (MM.dictSet c q v) := by
  unfold SliceSup.dictSet MM.dictSet ofCut
  rw [anyKey_ofCutFrom hq]
  by_cases h : c.any (·.1 == some q) = true
  · rw [if_pos h, if_pos h]; exact map_ofCutFrom q hq v 0 c
  · rw [if_neg h, if_neg h, ofCutFrom_append]
    simp [ofCutFrom]

/-- `cut_antecedents[f'$d {len(cut_antecedents)}'] = v`: the key is new -/
theorem dictSet_dkey (c : Cut) (hc : CutOk c) (v : MStmt) :
    SliceSup.dictSet (ofCut c) ("$d " ++ toString (dictLen (ofCut c))) v = ofCut (c ++ [(none, v)]) := by
  unfold SliceSup.dictSet ofCut dictLen
  rw [length_ofCutFrom]
  have hnew : (ofCutFrom 0 c).any (·.1 == "$d " ++ toString c.length) = false := by
    rw [List.any_eq_false]
    rintro ⟨k, w⟩ hm
    simp only [beq_iff_eq]
    intro e
    subst e
    rcases key_ofCutFrom 0 c _ w hm with h | ⟨j, h2, h3⟩
    · exact hc.keys _ _ h c.length rfl
    · have := dkey_inj h3; omega
  rw [hnew, ofCutFrom_append]
  simp [ofCutFrom]

theorem keysContains_ofCut {q : String} (hq : notDKey q) (c : Cut) :
    (dictKeys (ofCut c)).contains q = c.any (·.1 == some q) := by
  rw [← anyKey_ofCutFrom hq 0 c]
  simp only [dictKeys, ofCut, List.contains_eq_any_beq, List.any_map]
  congr 1; funext x; simp [BEq.comm]

/-- the closure `corresponding_sugar_axiom` -/
theorem sugar_eq (c : Cut) (label : String) :
    (if (!(label.endsWith "is-pattern")) = true then none
      else
        let sugar_label := (strDropEnd label "is-pattern".length ++ "is-sugar")
        if (!((dictKeys (ofCut c)).contains sugar_label)) = true then none else some sugar_label) = sugarOf c label := by
  unfold sugarOf strDropEnd
  simp only [keysContains_ofCut (sugar_notDKey _)]
  cases label.endsWith "is-pattern"
  · simp
  · simp only [Bool.not_true, Bool.false_eq_true, if_false, if_true]
    generalize (List.any c _) = b
    cases b <;> rfl

theorem sugar_truthy (c : Cut) (label : String) : (sugarOf c label).filter strTruthy = sugarOf c label := by
  unfold sugarOf
  split
  · simp only
    split
    · simp [strTruthy]
    · rfl
  · rfl

theorem foldl_append_flatMap {α β : Type} (f : α → List β) : ∀ (xs : List α) (init : List β),
    xs.foldl (fun acc x => acc ++ f x) init = init ++ xs.flatMap f
  | [], init => by simp
  | x :: xs, init => by simp [foldl_append_flatMap f xs, List.append_assoc]

theorem topEss_ofCutFrom : ∀ (i : Nat) (c : Cut), (∀ v, (none, v) ∈ c → isDisjoint v = true) →
    ((dictItems (ofCutFrom i c)).filter (fun x => isEssential x.2)).map (·.1) = topEssLabels c
  | _, [], _ => rfl
  | i, (o, v) :: rest, h => by
      have ih := topEss_ofCutFrom (i + 1) rest (fun v hv => h v (List.mem_cons_of_mem _ hv))
      cases o with
      | some l =>
        cases v with
        | ess _ _ => exact congrArg (l :: ·) ih
        | _ => exact ih
      | none =>
        have hv := h v (by simp)
        cases v with
        | disj _ => exact ih
        | _ => cases hv

/-- what the emission loop of `supporting_database_for_provable` does with one entry -/
def emitG (needed mvs : List String) (x : String × MStmt) : Option MStmt :=
  if isDisjoint x.2 then
    if decide ((x.2.metavariables.filter fun var => mvs.contains var).length > 1) then
      some (.disj (x.2.metavariables.filter fun var => mvs.contains var)) else none
  else if needed.contains x.1 || (isFloating x.2 && mvs.contains x.2.metavariable) then some x.2 else none

theorem foldl_emit (needed mvs : List String) : ∀ (d : List (String × MStmt)) (init : List MStmt),
    d.foldl (fun statements x =>
      if isDisjoint x.2 = true then
        if decide ((x.2.metavariables.filter fun var => mvs.contains var).length > 1) = true then
          statements ++ [MStmt.disj (x.2.metavariables.filter fun var => mvs.contains var)]
        else statements
      else if (needed.contains x.1 || isFloating x.2 && mvs.contains x.2.metavariable) = true then
        statements ++ [x.2]
      else statements) init = init ++ d.filterMap (emitG needed mvs)
  | [], init => by simp
  | x :: d, init => by
      rw [List.foldl_cons, foldl_emit needed mvs d, List.filterMap_cons, emitG]
      generalize decide (_ > 1) = b1, (needed.contains x.1 || isFloating x.2 && mvs.contains x.2.metavariable) = b2
      cases isDisjoint x.2 <;> cases b1 <;> cases b2 <;> simp

theorem emit_ofCutFrom (needed mvs : List String) : ∀ (i : Nat) (c : Cut),
    (∀ v, (none, v) ∈ c → isDisjoint v = true) →
    (ofCutFrom i c).filterMap (emitG needed mvs) = c.filterMap (keepEntry needed mvs)
  | _, [], _ => rfl
  | i, (o, v) :: rest, h => by
      have ih := emit_ofCutFrom needed mvs (i + 1) rest (fun v hv => h v (List.mem_cons_of_mem _ hv))
      cases o with
      | some l =>
        have : emitG needed mvs (l, v) = keepEntry needed mvs (some l, v) := by
          cases v <;> simp [emitG, keepEntry, isDisjoint, isFloating, nameNeeded, MStmt.metavariables, MStmt.metavariable]
        simp only [ofCutFrom, List.filterMap_cons, ih, this]
      | none =>
        have hv := h v (by simp)
        have : emitG needed mvs ("$d " ++ toString i, v) = keepEntry needed mvs (none, v) := by
          cases v <;> simp [isDisjoint] at hv
          simp [emitG, keepEntry, isDisjoint, MStmt.metavariables]
        simp only [ofCutFrom, List.filterMap_cons, ih, this]

theorem foldl_typecodes (mvs : List String) : ∀ (vals : List MStmt) (init : List String),
    vals.foldl (fun needed_constants lemma_statement =>
      if (isFloating lemma_statement && mvs.contains lemma_statement.metavariable) = true then
        needed_constants ++ [lemma_statement.typecode]
      else needed_constants) init =
    init ++ vals.filterMap (fun st => match st with
      | .float _ tc v => if mvs.contains v then some tc else none
      | _ => none)
  | [], init => by simp
  | s :: vals, init => by
      rw [List.foldl_cons, foldl_typecodes mvs vals, List.filterMap_cons]
      cases s with
      | float _ tc v => by_cases h : v ∈ mvs <;> simp [isFloating, MStmt.metavariable, MStmt.typecode, h]
      | _ => rfl

theorem typecodes_ofCut (c : Cut) (mvs : List String) :
    (dictValues (ofCut c)).filterMap (fun st => match st with
      | .float _ tc v => if mvs.contains v then some tc else none
      | _ => none) = keptTypecodesOf c mvs := by
  rw [ofCut, values_ofCutFrom, List.filterMap_map]
  rfl

theorem mapM_congr {α β : Type} (f g : α → Option β) : ∀ (l : List α), (∀ x ∈ l, f x = g x) → l.mapM f = l.mapM g
  | [], _ => rfl
  | x :: l, h => by
      rw [List.mapM_cons, List.mapM_cons, h x (by simp), mapM_congr f g l (fun y hy => h y (List.mem_cons_of_mem _ hy))]

theorem sgcStep_acc (ret : List String) (s : MStmt) : sgcStep ret s = (sgcStep [] s).map (ret ++ ·) := by
  unfold sgcStep
  split
  · simp
  · split
    · cases Gen.Slicer.statements_get_constants s.statements <;> simp
    · split <;> simp

/-- the loop that collects the constants and metavariables of the needed statements -/
theorem fold_needed : ∀ (all : List MStmt) (c0 m0 : List String),
    all.foldlM (fun (x : List String × List String) needed =>
      (Gen.Slicer.statements_get_constants [needed]).bind fun r =>
        some (x.1 ++ r, x.2 ++ needed.get_metavariables)) (c0, m0) =
    (all.foldlM sgcStep c0).map fun c => (c, m0 ++ stmtsMvs all)
  | [], c0, m0 => by simp [stmtsMvs]
  | s :: all, c0, m0 => by
      rw [List.foldlM_cons, List.foldlM_cons, statements_get_constants_unfold, sgcStep_acc c0 s]
      simp only [List.foldlM_cons, List.foldlM_nil, Option.bind_eq_bind, Option.pure_def]
      generalize sgcStep [] s = o
      cases o with
      | none => simp
      | some r =>
        simp only [Option.bind_some, Option.map_some]
        rw [fold_needed all]
        simp [stmtsMvs, MStmt.get_metavariables, List.append_assoc]

theorem pyFilterNone_sugar (c : Cut) (labels : List String) :
    pyFilterNone (labels.map fun label => sugarOf c label) = labels.filterMap (sugarOf c) := by
  unfold pyFilterNone
  rw [List.filterMap_map]
  congr 1; funext l; exact sugar_truthy c l

theorem needed_eq (c : Cut) (hc : CutOk c) (deps : List (String × List String)) (labels : List String) :
    List.foldl (fun needed_lemmas lemma => needed_lemmas ++ dictGetD deps lemma [])
        (labels ++ pyFilterNone (labels.map fun label => sugarOf c label))
        (labels ++ pyFilterNone (labels.map fun label => sugarOf c label)) ++
      List.map (fun x => x.fst) (List.filter (fun x => isEssential x.snd) (dictItems (ofCut c))) =
    neededOf c deps labels := by
  rw [foldl_append_flatMap, pyFilterNone_sugar, ofCut, topEss_ofCutFrom 0 c hc.disj]
  rfl

theorem sugarOf_notDKey {c : Cut} {l s : String} (h : sugarOf c l = some s) : notDKey s := by
  unfold sugarOf at h
  split at h
  · simp only at h
    split at h
    · injection h with h; subst h; exact sugar_notDKey _
    · cases h
  · cases h

theorem mem_topEssLabels {c : Cut} {k : String} (h : k ∈ topEssLabels c) : ∃ v, (some k, v) ∈ c := by
  simp only [topEssLabels, List.mem_filterMap] at h
  obtain ⟨⟨k', v⟩, hm, e⟩ := h
  cases v <;> simp at e
  subst e
  exact ⟨_, hm⟩

theorem needed_notDKey {c : Cut} (hc : CutOk c) {deps : List (String × List String)} {labels : List String}
    (hlab : ∀ x ∈ labels, notDKey x) (hdeps : ∀ k v, (k, v) ∈ deps → ∀ x ∈ v, notDKey x) :
    ∀ x ∈ neededOf c deps labels, notDKey x := by
  have h1 : ∀ x ∈ labels ++ labels.filterMap (sugarOf c), notDKey x := by
    intro x hx
    rcases List.mem_append.1 hx with hx | hx
    · exact hlab x hx
    · obtain ⟨l, _, hl⟩ := List.mem_filterMap.1 hx
      exact sugarOf_notDKey hl
  intro x hx
  simp only [neededOf, List.mem_append] at hx
  rcases hx with (hx | hx) | hx
  · exact h1 x (List.mem_append.2 hx)
  · obtain ⟨l, _, hl⟩ := List.mem_flatMap.1 hx
    cases hlk : deps.lookup l with
    | none => simp [hlk] at hl
    | some v =>
      rw [hlk] at hl
      exact hdeps l v (lookup_mem deps l v hlk) x hl
  · obtain ⟨v, hv⟩ := mem_topEssLabels hx
    exact hc.keys _ _ hv

theorem defaults_in_fold {l : String} {ts : List MTerm} {pf : List String} {rest : List MStmt} {r : List String}
    (h : (MStmt.prov l ts pf :: rest).foldlM sgcStep [] = some r) : ∀ a ∈ defaultConstants, a ∈ r := by
  have h0 : sgcStep [] (MStmt.prov l ts pf) = some (Gen.Slicer.get_constants ts) := by
    simp [sgcStep, isStructured, isProvable, MStmt.terms]
  rw [List.foldlM_cons, h0] at h
  simp only [Option.bind_eq_bind, Option.bind_some] at h
  have hr := sgc_stmts rest (Gen.Slicer.get_constants ts)
  rw [h] at hr
  intro a ha
  cases hm : stmtsConstants rest with
  | none => rw [hm] at hr; exact hr.elim
  | some xs =>
    rw [hm] at hr
    exact hr.1 a (Or.inl (mem_get_constants.2 (Or.inl ha)))

/-- **`supporting_database_for_provable` is `supportingDb`**, on the Python dictionary `ofCut cut` the model's `cut` stands for.
The intermediate SETS differ as lists (the Python code unions the default constants in at every level of every term), the
OUTPUT is equal: the only place where the order of a set reaches the output is `sorted(..)` (`sortDedup_congr`). -/
theorem supporting_database_eq (cut : Cut) (deps : List (String × List String)) (l : String) (ts : List MTerm) (pf : List String)
    (ess : List MStmt) (hc : CutOk cut)
    (hlab : ∀ labels, proofLabels pf = some labels → ∀ x ∈ labels, notDKey x)
    (hdeps : ∀ k v, (k, v) ∈ deps → ∀ x ∈ v, notDKey x) :
    Gen.Slicer.supporting_database_for_provable (ofCut cut) deps (.prov l ts pf) ess = supportingDb cut deps l ts pf ess := by
  unfold Gen.Slicer.supporting_database_for_provable supportingDb
  simp only [sugar_eq]
  have hd := deconstruct_compressed_proof_eq l ts pf
  cases hg : Gen.Slicer.deconstruct_compressed_proof (.prov l ts pf) with
  | none =>
    rw [hg] at hd
    simp only [Option.map_none] at hd
    rw [← hd]
    rfl
  | some p =>
    obtain ⟨labels, rest⟩ := p
    rw [hg] at hd
    simp only [Option.map_some] at hd
    rw [← hd]
    simp only [Option.bind_eq_bind, Option.bind_some, needed_eq cut hc deps labels]
    change _ = (List.mapM (fun l => List.lookup (some l) cut) (neededOf cut deps labels)).bind _
    have hn := needed_notDKey hc (hlab labels hd.symm) hdeps
    rw [mapM_congr (fun n => dictGet? (ofCut cut) n) (fun l => cut.lookup (some l)) _
      (fun x hx => lookup_ofCutFrom (hn x hx) 0 cut)]
    cases (neededOf cut deps labels).mapM (fun l => cut.lookup (some l)) with
    | none => rfl
    | some neededStmts =>
      simp only [Option.bind_some, Option.pure_def, List.cons_append, List.nil_append]
      rw [fold_needed]
      have hdef := @defaults_in_fold l ts pf (ess ++ neededStmts)
      generalize hall : MStmt.prov l ts pf :: (ess ++ neededStmts) = all at hdef
      have hrel := sgc_stmts all []
      cases h1 : all.foldlM sgcStep [] with
      | none =>
        cases h2 : stmtsConstants all with
        | none => rfl
        | some xs => rw [h1, h2] at hrel; exact hrel.elim
      | some r =>
        cases h2 : stmtsConstants all with
        | none => rw [h1, h2] at hrel; exact hrel.elim
        | some consts =>
          rw [h1, h2] at hrel
          simp only [AccRel, List.not_mem_nil, false_or] at hrel
          simp only [Option.map_some, Option.bind_some, List.nil_append, foldl_emit, foldl_typecodes, typecodes_ofCut,
            sortedSet, List.map_id']
          simp only [dictItems, ofCut, emit_ofCutFrom _ _ 0 cut hc.disj]
          have hconst : sortDedup (r ++ keptTypecodesOf cut (stmtsMvs all)) =
              sortDedup (defaultConstants ++ consts ++ keptTypecodesOf cut (stmtsMvs all)) := by
            apply sortDedup_congr
            intro a
            simp only [List.mem_append]
            exact ⟨Or.imp_left (hrel.2 a), Or.imp_left fun h => h.elim (hdef h1 a) (hrel.1 a)⟩
          rw [hconst]
          congr 1
          cases (stmtsMvs all).isEmpty <;> rfl

theorem matchAxiom_is_ax {s r : MStmt} (h : matchAxiom s = some (some r)) : ∃ l ts, r = .ax l ts := by
  cases s with
  | ax l ts => simp [matchAxiom] at h; exact ⟨l, ts, h.symm⟩
  | block ss => obtain ⟨_, l, ts, e, _⟩ := matchAxiom_block_spec h; exact ⟨l, ts, e⟩
  | _ => simp [matchAxiom] at h

/-- the strings under which `slice_database` files statements and which it looks up are not `$d <n>` (they are tokens) -/
structure KeysOk (db : MDb) (deps : List (String × List String)) : Prop where
  floatEss : ∀ s ∈ db, (isFloating s || isEssential s) = true → notDKey s.label
  axioms : ∀ s ∈ db, ∀ l ts, matchAxiom s = some (some (.ax l ts)) → notDKey l
  provables : ∀ s ∈ db, ∀ ants l ts pf, deconstructProvable s = some (ants, .prov l ts pf) →
    notDKey l ∧ ∀ labels, proofLabels pf = some labels → ∀ x ∈ labels, notDKey x
  deps : ∀ k v, (k, v) ∈ deps → ∀ x ∈ v, notDKey x

/-- the state of the loop of `slice_database` a model state stands for -/
def enc (st : SliceSt) : PyDict MStmt × List (String × MDb) := (ofCut st.cut, st.out)

theorem foldlM_sim {σ τ α : Type} (enc : σ → τ) (Inv : σ → Prop) (f : τ → α → Option τ) (g : σ → α → Option σ) :
    ∀ (l : List α) (st : σ), Inv st →
      (∀ s ∈ l, ∀ st, Inv st → f (enc st) s = (g st s).map enc ∧ ∀ st', g st s = some st' → Inv st') →
      l.foldlM f (enc st) = (l.foldlM g st).map enc
  | [], st, _, _ => by simp
  | s :: l, st, hinv, h => by
      obtain ⟨h1, h2⟩ := h s (by simp) st hinv
      rw [List.foldlM_cons, List.foldlM_cons, h1]
      cases hg : g st s with
      | none => simp
      | some st' =>
        simp only [Option.map_some, Option.bind_eq_bind, Option.bind_some]
        exact foldlM_sim enc Inv f g l st' (h2 st' hg) (fun s hs => h s (List.mem_cons_of_mem _ hs))

theorem cutOk_dictSet {c : Cut} (hc : CutOk c) {k : String} (hk : notDKey k) (v : MStmt) : CutOk (MM.dictSet c k v) := by
  constructor
  · intro w hw
    rcases mem_dictSet hw with h | h
    · exact hc.disj w h
    · cases h
  · intro k' w hw
    rcases mem_dictSet hw with h | h
    · exact hc.keys k' w h
    · injection h with h1 _; injection h1 with h1; subst h1; exact hk

theorem stmtSize_le_of_mem {s : MStmt} : ∀ {db : List MStmt}, s ∈ db → stmtSize s ≤ stmtsSize db
  | [], h => by cases h
  | a :: db, h => by
      rcases List.mem_cons.1 h with rfl | h
      · simp [stmtsSize]
      · have := stmtSize_le_of_mem h; simp [stmtsSize]; omega

/-- filing `v` under a label that is not a `$d` key: the same entry is set on both sides, and the cut stays well-formed -/
theorem step_file (st : SliceSt) (hinv : CutOk st.cut) {l : String} (hl : notDKey l) (v : MStmt) :
    some (SliceSup.dictSet (ofCut st.cut) l v, st.out) = Option.map enc (some { st with cut := MM.dictSet st.cut l v }) ∧
    ∀ st', some { st with cut := MM.dictSet st.cut l v } = some st' → CutOk st'.cut := by
  refine ⟨by simp only [dictSet_ofCut hl, Option.map_some, enc], ?_⟩
  intro st' e
  injection e with e; subst e
  exact cutOk_dictSet hinv hl v

/-- the `$p` branch of the loop body, for a statement on which `match_axiom` returned `None` -/
theorem step_provable (fuel : Nat) (deps : List (String × List String)) (incl excl : List String) (st : SliceSt)
    (hinv : CutOk st.cut) (s : MStmt) (hsz : stmtSize s ≤ fuel) (hm : matchAxiom s = some none)
    (hpb : (isProvable s || isBlock s) = true)
    (hp : ∀ ants l ts pf, deconstructProvable s = some (ants, .prov l ts pf) →
      notDKey l ∧ ∀ labels, proofLabels pf = some labels → ∀ x ∈ labels, notDKey x)
    (hdeps : ∀ k v, (k, v) ∈ deps → ∀ x ∈ v, notDKey x) :
    ((Gen.Slicer.deconstruct_provable fuel s).bind fun __x =>
        if (incl.contains __x.snd.label && !excl.contains __x.snd.label) = true then
          (Gen.Slicer.supporting_database_for_provable (ofCut st.cut) deps __x.snd __x.fst).bind fun __do_lift =>
            (some (st.out ++ [(__x.snd.label, __do_lift)])).bind fun yielded =>
              some (SliceSup.dictSet (ofCut st.cut) __x.snd.label (Gen.Slicer.construct_axiom __x.fst __x.snd), yielded)
        else
          (some st.out).bind fun yielded =>
            some (SliceSup.dictSet (ofCut st.cut) __x.snd.label (Gen.Slicer.construct_axiom __x.fst __x.snd), yielded)) =
      Option.map enc (sliceStep deps incl excl st s) ∧
    ∀ st', sliceStep deps incl excl st s = some st' → CutOk st'.cut := by
  rw [deconstruct_provable_eq_of_none fuel s hsz hm]
  cases s <;> simp [isProvable, isBlock] at hpb
  all_goals
    simp only [sliceStep, hm, Option.bind_eq_bind, Option.bind_some, Option.pure_def]
    cases hd : deconstructProvable _ with
    | none => simp
    | some x =>
      obtain ⟨ants, c⟩ := x
      obtain ⟨l, ts, pf, rfl, _, _⟩ := deconstructProvable_spec hd
      obtain ⟨hl, hlab⟩ := hp ants l ts pf hd
      simp only [Option.bind_some, MStmt.label, construct_axiom_eq, MStmt.terms,
        supporting_database_eq st.cut deps l ts pf ants hinv hlab hdeps, dictSet_ofCut hl]
      cases hc : (incl.contains l && !excl.contains l)
      · simp [enc]
        exact cutOk_dictSet hinv hl _
      · simp only [if_true]
        cases supportingDb st.cut deps l ts pf ants with
        | none => simp
        | some d =>
          simp [enc]
          exact cutOk_dictSet hinv hl _

theorem slice_database_eq (fuel : Nat) (db : MDb) (deps : List (String × List String)) (incl excl : List String)
    (hfuel : stmtsSize db ≤ fuel) (hk : KeysOk db deps) :
    Gen.Slicer.slice_database fuel db deps incl excl = sliceDatabase db deps incl excl := by
  unfold Gen.Slicer.slice_database sliceDatabase
  simp only [Option.bind_eq_bind, Option.pure_def]
  have key : ∀ F, (∀ s ∈ db, ∀ st : SliceSt, CutOk st.cut → F (enc st) s = (sliceStep deps incl excl st s).map enc ∧
        ∀ st', sliceStep deps incl excl st s = some st' → CutOk st'.cut) →
      db.foldlM F ([], []) = (db.foldlM (sliceStep deps incl excl) {}).map enc :=
    fun F h => foldlM_sim enc (fun st => CutOk st.cut) F (sliceStep deps incl excl) db {} ⟨by simp, by simp⟩ h
  rw [key _ ?_]
  · cases List.foldlM (sliceStep deps incl excl) {} db <;> rfl
  · intro s hs st hinv
    have hsz : stmtSize s ≤ fuel := Nat.le_trans (stmtSize_le_of_mem hs) hfuel
    simp only [enc]
    rw [match_axiom_eq fuel s hsz]
    cases s with
    | const cs => simp [isConstant, sliceStep, enc, hinv]
    | var vs => simp [isConstant, isVariable, sliceStep, enc, hinv]
    | disj vs =>
      simp only [isConstant, isVariable, isDisjoint, Bool.or_self, Bool.false_eq_true, if_false, if_true, sliceStep,
        dictSet_dkey _ hinv, Option.map_some, enc, true_and]
      intro st' e
      injection e with e; subst e
      constructor
      · intro v hv
        rcases List.mem_append.1 hv with hv | hv
        · exact hinv.disj v hv
        · simp at hv; subst hv; rfl
      · intro k v hv
        rcases List.mem_append.1 hv with hv | hv
        · exact hinv.keys k v hv
        · simp at hv
    | float l tc v =>
      have hl : notDKey l := hk.floatEss _ hs (by simp [isFloating])
      simp only [isConstant, isVariable, isDisjoint, isFloating, Bool.or_self, Bool.false_eq_true, if_false, if_true,
        Bool.true_or, sliceStep, MStmt.label]
      exact step_file st hinv hl _
    | ess l ts =>
      have hl : notDKey l := hk.floatEss _ hs (by simp [isEssential])
      simp only [isConstant, isVariable, isDisjoint, isFloating, isEssential, Bool.or_self, Bool.false_eq_true, if_false,
        if_true, Bool.or_true, sliceStep, MStmt.label]
      exact step_file st hinv hl _
    | ax l ts =>
      have hl : notDKey l := hk.axioms _ hs l ts (by simp [matchAxiom])
      simp only [isConstant, isVariable, isDisjoint, isFloating, isEssential, Bool.or_self, Bool.false_eq_true, if_false,
        sliceStep, matchAxiom, Option.bind_some, Option.bind_eq_bind, MStmt.label, Option.pure_def]
      exact step_file st hinv hl _
    | prov l ts pf =>
      have hm : matchAxiom (.prov l ts pf) = some none := by simp [matchAxiom]
      have := step_provable fuel deps incl excl st hinv _ hsz hm (by simp [isProvable, isBlock]) (hk.provables _ hs) hk.deps
      simpa only [isConstant, isVariable, isDisjoint, isFloating, isEssential, Bool.or_self, Bool.false_eq_true,
        if_false, hm, Option.bind_some, isProvable, Bool.true_or, if_true] using this
    | block ss =>
      simp only [isConstant, isVariable, isDisjoint, isFloating, isEssential, Bool.or_self, Bool.false_eq_true, if_false]
      cases hm : matchAxiom (.block ss) with
      | none => simp [sliceStep, hm]
      | some r =>
        cases r with
        | none =>
          have := step_provable fuel deps incl excl st hinv _ hsz hm (by simp [isProvable, isBlock]) (hk.provables _ hs) hk.deps
          simpa only [Option.bind_some, isProvable, isBlock, Bool.or_true, if_true] using this
        | some a =>
          obtain ⟨l, ts, rfl⟩ := matchAxiom_is_ax hm
          have hl : notDKey l := hk.axioms _ hs l ts hm
          simp only [sliceStep, hm, Option.bind_some, Option.bind_eq_bind, MStmt.label, Option.pure_def]
          exact step_file st hinv hl _

/-! ## a decidable sufficient condition for `KeysOk`: no label, proof token or dependency contains a blank
(true of everything the parser produces: these strings are tokens) -/
def noBlank (s : String) : Bool := !s.toList.contains ' '

def leafNamesOk : MStmt → Bool
  | .float l _ _ => noBlank l
  | .ess l _ => noBlank l
  | .ax l _ => noBlank l
  | .prov l _ pf => noBlank l && pf.all noBlank
  | _ => true

/-- every label and every proof token of the database, and every label in `syntax_deps`, is free of blanks -/
def tokensOk (db : MDb) (deps : List (String × List String)) : Bool :=
  (flatL db).all leafNamesOk && deps.all fun kv => kv.2.all noBlank

theorem notDKey_of_noBlank {s : String} (h : noBlank s = true) : notDKey s := by
  intro n e
  rw [e] at h
  simp [noBlank, String.toList_append] at h

theorem proofLabels_sub {pf labels : List String} (h : proofLabels pf = some labels) : ∀ x ∈ labels, x ∈ pf := by
  unfold proofLabels at h
  split at h
  · cases h
  · simp only at h
    split at h
    · cases h
    · split at h
      · cases h
      · injection h with h
        subst h
        intro x hx
        have hx := List.mem_of_mem_take hx
        split at hx
        · exact List.mem_of_mem_drop hx
        · exact hx

theorem keysOk_of_tokensOk {db : MDb} {deps : List (String × List String)} (h : tokensOk db deps = true) :
    KeysOk db deps := by
  simp only [tokensOk, Bool.and_eq_true, List.all_eq_true] at h
  obtain ⟨h1, h2⟩ := h
  refine ⟨?_, ?_, ?_, ?_⟩
  · intro s hs hfe
    cases s <;> simp [isFloating, isEssential] at hfe
    all_goals
      have := h1 _ (mem_flatL_of_mem hs (List.mem_singleton_self _))
      exact notDKey_of_noBlank (by simpa [leafNamesOk, MStmt.label] using this)
  · intro s hs l ts hm
    have hmem : MStmt.ax l ts ∈ flat s := by
      cases s with
      | ax l' ts' => simp [matchAxiom] at hm; simp [flat, hm]
      | block ss => obtain ⟨_, _, _, e, hm'⟩ := matchAxiom_block_spec hm; simpa [flat] using hm'
      | _ => simp [matchAxiom] at hm
    exact notDKey_of_noBlank (by simpa [leafNamesOk] using h1 _ (mem_flatL_of_mem hs hmem))
  · intro s hs ants l ts pf hd
    have hmem : MStmt.prov l ts pf ∈ flat s := by
      rw [(flat_lemma_stmt hd).1]; simp
    have := h1 _ (mem_flatL_of_mem hs hmem)
    simp only [leafNamesOk, Bool.and_eq_true, List.all_eq_true] at this
    exact ⟨notDKey_of_noBlank this.1, fun labels hl x hx => notDKey_of_noBlank (this.2 x (proofLabels_sub hl x hx))⟩
  · intro k v hkv x hx
    have := h2 (k, v) hkv
    exact notDKey_of_noBlank (this x hx)

theorem slice_database_eq_of_tokensOk (fuel : Nat) (db : MDb) (deps : List (String × List String)) (incl excl : List String)
    (hfuel : stmtsSize db ≤ fuel) (htok : tokensOk db deps = true) :
    Gen.Slicer.slice_database fuel db deps incl excl = sliceDatabase db deps incl excl :=
  slice_database_eq fuel db deps incl excl hfuel (keysOk_of_tokensOk htok)

end SliceTie

#print axioms SliceTie.translated
#print axioms SliceTie.construct_axiom_eq
#print axioms SliceTie.match_axiom_eq
#print axioms SliceTie.deconstruct_provable_eq
#print axioms SliceTie.deconstruct_compressed_proof_eq
#print axioms SliceTie.mem_get_constants
#print axioms SliceTie.sgc_stmts
#print axioms SliceTie.sortDedup_congr
#print axioms SliceTie.supporting_database_eq
#print axioms SliceTie.slice_database_eq
#print axioms SliceTie.slice_database_eq_of_tokensOk
