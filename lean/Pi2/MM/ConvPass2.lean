import Pi2.MM.ConvAxiom
/-!
# `_import_axiom` / `_import_lemma` on the statements of the fragment, and the second sweep of `_top_down`
-/
set_option linter.unusedSimpArgs false
set_option linter.unusedVariables false
open MM SliceSup ConvSup Gen.MMConv

namespace ConvTie

/-- `label $e |- h` -/
def mkEss (p : String × MTerm) : MStmt := .ess p.1 [.app "|-" [], p.2]

/-- the conditions on a term of a statement -/
structure TermOK (K fs : List String) (fuel : Nat) (t : MTerm) : Prop where
  fuel : tsize t < fuel
  wf : wfT K t = true
  vars : ∀ v ∈ termMvs t, v ∈ fs

/-! ## the essential hypotheses of a block -/
theorem convert_metaconditions_ok (σ : String → Nat) (fuel : Nat) (c : ConvObj) (scope : ScopeObj) (es : List MStmt)
    (hes : ∀ e ∈ es, essOK e = true) : _convert_metaconditions σ fuel c scope es = .ok c := by
  unfold _convert_metaconditions
  simp only [bind_pure]
  rw [forM'_foldl (fun c _ => c) (fun _ rest => ∀ e ∈ rest, essOK e = true) _ _ es c hes]
  · clear hes
    induction es generalizing c with
    | nil => rfl
    | cons _ _ ih => exact ih c
  · intro s x rest h
    have hx := h x (by simp)
    have hess : isEssential x = true := by
      cases x <;> simp [essOK] at hx <;> rfl
    refine ⟨?_, fun e he => h e (by simp [he])⟩
    simp [hess, check_axiom_ess σ fuel s scope x hx, bind, Res.bind, pure]

/-- one antecedent: the converter after it, and its `Axiom` object -/
noncomputable def antG (σ : String → Nat) (fuel : Nat) (scope : ScopeObj) (s : ConvObj × List AxiomObj) (st : MStmt) :
    ConvObj × List AxiomObj :=
  match _convert_axiom_for_scope σ fuel s.1 scope st with
  | .ok (c', a) => (c', s.2 ++ [a])
  | _ => s

theorem convert_antecedents_ok (σ : String → Nat) (fuel : Nat) (scope : ScopeObj) (fs : List String) (hsc : GoodScope scope fs) :
    ∀ (eh : List (String × MTerm)) (c : ConvObj) (S : List String) (acc : List AxiomObj),
      SymState σ c S → (∀ p ∈ eh, TermOK c._declared_constants fs fuel p.2) →
      (∀ x ∈ fs, x ∉ c._declared_constants) → (∀ s ∈ S, s ∈ c._declared_constants) →
      ∃ as, (eh.map mkEss).foldl (antG σ fuel scope) (c, acc) =
          (withSyms σ c (setUnion S (symsOfL (eh.map (·.2)))), acc ++ as) ∧
        as.length = eh.length ∧ as.map (·.pattern) = (eh.map (·.2)).map (patOf σ (valOf fs)) ∧
        ∀ v, (∃ a ∈ as, v ∈ a.metavars) ↔ v ∈ termsMvs (eh.map (·.2)) := by
  intro eh
  induction eh with
  | nil =>
    intro c S acc hS _ _ _
    exact ⟨[], by simp [symsOfL, setUnion, withSyms_self σ c S hS], rfl, rfl, by intro v; simp [termsMvs]⟩
  | cons p eh ih =>
    intro c S acc hS hts hdis hSK
    obtain ⟨l, h⟩ := p
    have ht := hts (l, h) (by simp)
    obtain ⟨a, ha, haof, _, _⟩ := convert_stmt_ok σ fuel c S scope fs (mkEss (l, h)) (.app "|-" []) h none rfl rfl ht.fuel hS hsc ht.wf
      ht.vars hdis hSK
    have hS'K := setUnion_symsOf_subset hSK ht.wf
    obtain ⟨as, has, hlen, hpat, hmv⟩ := ih (withSyms σ c (setUnion S (symsOf h))) (setUnion S (symsOf h)) (acc ++ [a])
      (symState_withSyms σ c _) (fun p hp => hts p (by simp [hp])) hdis hS'K
    refine ⟨a :: as, ?_, by simp [hlen], by simp [hpat, haof.pattern], ?_⟩
    · simp only [List.map_cons, List.foldl_cons, antG, ha]
      rw [has]
      simp [withSyms_withSyms, symsOfL, setUnion_append]
    · intro v
      simp only [List.mem_cons, exists_eq_or_imp, List.map_cons, termsMvs, List.mem_append, haof.metavars v, hmv v]

theorem convert_antecedents_eq (σ : String → Nat) (fuel : Nat) (scope : ScopeObj) (fs : List String) (hsc : GoodScope scope fs)
    (eh : List (String × MTerm)) (c : ConvObj) (S : List String)
    (hS : SymState σ c S) (hts : ∀ p ∈ eh, TermOK c._declared_constants fs fuel p.2)
    (hdis : ∀ x ∈ fs, x ∉ c._declared_constants) (hSK : ∀ s ∈ S, s ∈ c._declared_constants) :
    _convert_antecedents σ fuel c scope (eh.map mkEss) = .ok ((eh.map mkEss).foldl (antG σ fuel scope) (c, [])) := by
  unfold _convert_antecedents
  simp only [bind_pure]
  let I : ConvObj × List AxiomObj → List MStmt → Prop := fun s rest =>
    ∃ (eh' : List (String × MTerm)) (S' : List String), rest = eh'.map mkEss ∧ SymState σ s.1 S' ∧
      s.1._declared_constants = c._declared_constants ∧ (∀ p ∈ eh', TermOK c._declared_constants fs fuel p.2) ∧
      (∀ s ∈ S', s ∈ c._declared_constants)
  rw [forM'_foldl (antG σ fuel scope) I _ _ (eh.map mkEss) (c, []) ⟨eh, S, rfl, hS, rfl, hts, hSK⟩]
  · cases (eh.map mkEss).foldl (antG σ fuel scope) (c, []); rfl
  · intro s x rest ⟨eh', S', hrest, hS', hK, hts', hSK'⟩
    cases eh' with
    | nil => simp at hrest
    | cons p eh' =>
      obtain ⟨l, h⟩ := p
      simp only [List.map_cons, List.cons.injEq] at hrest
      obtain ⟨rfl, rfl⟩ := hrest
      have ht := hts' (l, h) (by simp)
      obtain ⟨a, ha, _, _, _⟩ := convert_stmt_ok σ fuel s.1 S' scope fs (mkEss (l, h)) (.app "|-" []) h none rfl rfl ht.fuel hS' hsc
        (by rw [hK]; exact ht.wf) ht.vars (by rw [hK]; exact hdis) (by rw [hK]; exact hSK')
      refine ⟨?_, eh', setUnion S' (symsOf h), rfl, ?_, ?_, fun p hp => hts' p (by simp [hp]), ?_⟩
      · simp [check_axiom_ess σ fuel s.1 scope (mkEss (l, h)) rfl, ha, antG, bind, Res.bind, pure]
      · simp only [antG, ha]; exact symState_withSyms σ s.1 _
      · simp only [antG, ha]; exact hK
      · exact setUnion_symsOf_subset hSK' ht.wf

/-! ## `_import_axiom` -/
/-- the entry of `_axioms` for an axiom `l: tc t` with the essential hypotheses `hyps` -/
structure AxEntry (σ : String → Nat) (fs : List String) (l : String) (hyps : List MTerm) (t : MTerm) (a : AxiomObj) : Prop where
  name : a.name = l
  pattern : a.pattern = patOf σ (valOf fs) t
  metavars : ∀ v, v ∈ a.metavars ↔ v ∈ termsMvs (hyps ++ [t])
  antecedents : a.antecedents? = if hyps = [] then none else some (hyps.map (patOf σ (valOf fs)))
  cls : a.cls = if hyps = [] then AxCls.Axiom else AxCls.AxiomWithAntecedents
  proof : a.proof? = none

theorem filter_ess (eh : List (String × MTerm)) (p : MStmt → Bool) (hp : ∀ x, isEssential x = true → p x = true) :
    (eh.map mkEss).filter p = eh.map mkEss := by
  apply List.filter_eq_self.mpr
  intro x hx
  obtain ⟨q, _, rfl⟩ := List.mem_map.mp hx
  exact hp _ rfl

theorem forM'_setUnion (as : List AxiomObj) (m : List String) :
    forM' as m (fun metavar_names antecedent => (Res.ok (setUnion metavar_names antecedent.metavars) : Res (List String))) =
      .ok (as.foldl (fun m a => setUnion m a.metavars) m) := by
  induction as generalizing m with
  | nil => rfl
  | cons a as ih => simp only [forM'_cons, Res.bind_ok, List.foldl_cons]; exact ih _

theorem mem_foldl_setUnion (as : List AxiomObj) : ∀ (m : List String) (v : String),
    v ∈ as.foldl (fun m a => setUnion m a.metavars) m ↔ v ∈ m ∨ ∃ a ∈ as, v ∈ a.metavars := by
  induction as with
  | nil => intro m v; simp
  | cons a as ih =>
    intro m v
    simp only [List.foldl_cons, ih, mem_setUnion, List.mem_cons, exists_eq_or_imp, or_assoc]

/-- the statement the first sweep puts on the list `axioms` -/
def mkAxStmt (plain : Bool) (eh : List (String × MTerm)) (l tcs : String) (t : MTerm) : MStmt :=
  if plain then .ax l [.app tcs [], t] else .block (eh.map mkEss ++ [.ax l [.app tcs [], t]])

theorem axHead_mkAxStmt (plain : Bool) (eh : List (String × MTerm)) (l tcs : String) (t : MTerm) :
    axHead (mkAxStmt plain eh l tcs t) = some (l, [.app tcs [], t]) := by
  cases plain <;> simp [mkAxStmt, axHead]

theorem symsOfL_append (a b : List MTerm) : symsOfL (a ++ b) = symsOfL a ++ symsOfL b := by
  induction a with
  | nil => simp [symsOfL]
  | cons x a ih => simp [symsOfL, ih]

theorem symsOfL_subset (K : List String) : ∀ ts : List MTerm, (∀ t ∈ ts, wfT K t = true) → ∀ s ∈ symsOfL ts, s ∈ K := by
  intro ts
  induction ts with
  | nil => intro _ s hs; simp [symsOfL] at hs
  | cons t ts ih =>
    intro h s hs
    simp only [symsOfL, List.mem_append] at hs
    rcases hs with hs | hs
    · exact symsOf_subset K t (h t (by simp)) s hs
    · exact ih (fun t' ht' => h t' (by simp [ht'])) s hs

theorem setUnion_symsOfL_subset {K S : List String} {ts : List MTerm} (hSK : ∀ s ∈ S, s ∈ K) (h : ∀ t ∈ ts, wfT K t = true) :
    ∀ s ∈ setUnion S (symsOfL ts), s ∈ K :=
  fun s hs => ((mem_setUnion _ _ _).mp hs).elim (hSK s) (symsOfL_subset K ts h s)

theorem setUnion_nil (S : List String) : setUnion S [] = S := rfl

theorem add_axiom_new (σ : String → Nat) (fuel : Nat) (c : ConvObj) (l : String) (a : AxiomObj) (hnew : l ∉ c._axioms.map (·.1)) :
    _add_axiom σ fuel c l a = .ok { c with _axioms := c._axioms ++ [(l, [a])] } := by
  have : dictHas c._axioms l = false := (dictHas_false_iff _ _).mpr hnew
  simp only [_add_axiom, this, Bool.false_eq_true, if_false, bind, Res.bind, pure, dictSet_new _ _ _ hnew]

theorem import_axiom_ok (σ : String → Nat) (fuel : Nat) (c : ConvObj) (S fs : List String)
    (plain : Bool) (eh : List (String × MTerm)) (l tcs : String) (t : MTerm)
    (hplain : plain = true → eh = [])
    (hax : axOK [.app tcs [], t] = true) (hreg : axUpd c (mkAxStmt plain eh l tcs t) = c)
    (hS : SymState σ c S) (hsc : GoodScope c._scope fs)
    (ht : TermOK c._declared_constants fs fuel t) (hts : ∀ p ∈ eh, TermOK c._declared_constants fs fuel p.2)
    (hdis : ∀ x ∈ fs, x ∉ c._declared_constants) (hSK : ∀ s ∈ S, s ∈ c._declared_constants)
    (hnew : l ∉ c._axioms.map (·.1)) :
    ∃ a, _import_axiom σ fuel c (mkAxStmt plain eh l tcs t) =
        .ok { withSyms σ c (setUnion S (symsOfL (eh.map (·.2) ++ [t]))) with _axioms := c._axioms ++ [(l, [a])] } ∧
      AxEntry σ fs l (eh.map (·.2)) t a := by
  have hsc' := goodScope_copy c._scope fs [] hsc
  obtain ⟨L, hL, _, _, _⟩ := collect_variables_ok σ fuel c t ht.fuel
  obtain ⟨as, has, haslen, haspat, hasmv⟩ := convert_antecedents_ok σ fuel (copyScope c._scope []) fs hsc' eh c S [] hS hts hdis hSK
  have hS1K := setUnion_symsOfL_subset hSK (List.forall_mem_map.mpr fun p hp => (hts p hp).wf)
  obtain ⟨a0, ha0, ha0of, ha0cls, ha0pf⟩ := convert_stmt_ok σ fuel (withSyms σ c (setUnion S (symsOfL (eh.map (·.2)))))
    (setUnion S (symsOfL (eh.map (·.2)))) (copyScope c._scope []) fs (.ax l [.app tcs [], t]) (.app tcs []) t none rfl rfl ht.fuel
    (symState_withSyms σ c _) hsc' ht.wf ht.vars hdis hS1K
  simp only [withSyms_withSyms, setUnion_append, ← symsOfL_append] at ha0
  have hsyms : symsOfL (eh.map (·.2)) ++ symsOf t = symsOfL (eh.map (·.2) ++ [t]) := by
    simp [symsOfL_append, symsOfL]
  rw [hsyms] at ha0
  have hcheck : _check_axiom σ fuel c c._scope (.ax l [.app tcs [], t]) = .ok (c, AxiomType.Provable) := by
    rw [check_axiom_ax σ fuel c c._scope _ l _ (axHead_mkAxStmt plain eh l tcs t) hax, hreg]
  have hc1 : [AxiomType.Trivial, AxiomType.Substitution, AxiomType.Metacondition, AxiomType.LocalNotation].contains AxiomType.Provable = false := by
    decide
  have hc2 : [AxiomType.Notation, AxiomType.Provable].contains AxiomType.Provable = true := by decide
  have ha0name : a0.name = l := ha0of.name
  -- the object that is stored
  let a : AxiomObj := if as.length > 0 then
      { cls := AxCls.AxiomWithAntecedents, name := a0.name, args := a0.args, type_check := a0.type_check, pattern := a0.pattern,
        metavars := as.foldl (fun m a => setUnion m a.metavars) (setOf a0.metavars), antecedents? := some (as.map fun a => a.pattern),
        proof? := none }
    else a0
  have haname : a.name = l := by
    simp only [a]; split <;> exact ha0name
  have hadd : _add_axiom σ fuel (withSyms σ c (setUnion S (symsOfL (eh.map (·.2) ++ [t])))) a0.name a =
      .ok { withSyms σ c (setUnion S (symsOfL (eh.map (·.2) ++ [t]))) with _axioms := c._axioms ++ [(l, [a])] } := by
    have h := add_axiom_new σ fuel (withSyms σ c (setUnion S (symsOfL (eh.map (·.2) ++ [t])))) a0.name a (by rw [ha0name]; exact hnew)
    rw [h, ha0name]
    rfl
  refine ⟨a, ?_, ?_⟩
  · cases plain with
    | true =>
      have he := hplain rfl
      subst he
      have has0 : as = [] := by simpa using haslen
      subst has0
      simp only [List.map_nil, List.nil_append] at ha0
      rw [show symsOfL ([] : List MTerm) = [] from rfl, setUnion_nil, withSyms_self σ c S hS] at ha0
      simp only [a, List.length_nil, Nat.lt_irrefl, if_false, List.map_nil, List.nil_append] at hadd
      simp only [mkAxStmt, if_true, _import_axiom, isAxiomatic, ConvSup.pyAssert, hcheck, hc1, hc2, MStmt.terms, listGet_one, hL,
        unambiguize_ok σ fuel c L fs hsc, forM'_cons, forM'_nil, isBlock, ha0, bind, Res.bind, pure, beq_self_eq_true, if_true,
        Bool.false_eq_true, if_false, List.length_nil, Nat.lt_irrefl, decide_false, hadd, List.map_nil, List.nil_append, a]
    | false =>
      have hlast : listLast (eh.map mkEss ++ [MStmt.ax l [.app tcs [], t]]) = .ok (MStmt.ax l [.app tcs [], t]) := listLast_concat _ _
      have hall : ((eh.map mkEss).all fun st => (isEssential st || isDisjoint st)) = true := by
        simp only [List.all_eq_true, List.mem_map]
        rintro x ⟨p, _, rfl⟩
        rfl
      have hmeta := convert_metaconditions_ok σ fuel c (copyScope c._scope []) (eh.map mkEss) (by
        intro e he
        obtain ⟨p, _, rfl⟩ := List.mem_map.mp he
        rfl)
      have hant := convert_antecedents_eq σ fuel (copyScope c._scope []) fs hsc' eh c S hS hts hdis hSK
      rw [has] at hant
      have hprep : _prepare_scope_for_block σ fuel c (MStmt.block (eh.map mkEss ++ [MStmt.ax l [.app tcs [], t]])) (copyScope c._scope [])
          = .ok (withSyms σ c (setUnion S (symsOfL (eh.map (·.2)))), as) := by
        simp only [_prepare_scope_for_block, MStmt.statements, hall, ConvSup.pyAssert, if_true, List.dropLast_concat,
          filter_ess eh (fun st => (isEssential st || isDisjoint st)) (fun x hx => by rw [hx]; rfl), filter_ess eh (fun st => isEssential st) (fun x hx => hx), hmeta, hant, bind, Res.bind,
          pure, List.nil_append]
      simp only [mkAxStmt, Bool.false_eq_true, if_false, _import_axiom, isAxiomatic, MStmt.statements, hlast, ConvSup.pyAssert, hcheck,
        hc1, hc2, MStmt.terms, listGet_one, hL, unambiguize_ok σ fuel c L fs hsc, forM'_cons, forM'_nil, isBlock, hprep, ha0,
        forM'_setUnion, bind, Res.bind, pure, beq_self_eq_true, if_true]
      by_cases hlen : as.length > 0
      · simp only [hlen, decide_true, if_true, a] at hadd ⊢
        simp only [hadd]
      · simp only [hlen, decide_false, Bool.false_eq_true, if_false, a] at hadd ⊢
        simp only [hadd]
  · -- the stored object is the entry of the specification
    by_cases hlen : as.length > 0
    · have hne : eh.map (·.2) ≠ [] := by
        intro h0
        rw [List.map_eq_nil_iff] at h0
        rw [haslen, h0] at hlen
        exact Nat.lt_irrefl _ hlen
      simp only [a, hlen, if_true]
      refine ⟨ha0name, ha0of.pattern, fun v => ?_, by simp only [hne, if_false, haspat], by simp only [hne, if_false], rfl⟩
      simp only [termsMvs_append, termsMvs, List.append_nil, List.mem_append, ← hasmv v, mem_foldl_setUnion, mem_setOf,
        ha0of.metavars v]
      exact Or.comm
    · have has0 : as = [] := List.length_eq_zero_iff.mp (by omega)
      subst has0
      have heh : eh = [] := List.length_eq_zero_iff.mp haslen.symm
      subst heh
      simp only [a, hlen, if_false]
      exact ⟨ha0name, ha0of.pattern, fun v => by simpa [termsMvs] using ha0of.metavars v, ha0of.antecedents, ha0cls, ha0pf⟩

/-! ## the second sweep over the axioms -/
def essParts : MStmt → Option (String × MTerm)
  | .ess l [.app tc [], h] => if tc = "|-" then some (l, h) else none
  | _ => none

/-- the parts of a statement on the list `axioms`: alone or last in a block after `$e |- h` statements -/
def axParts : MStmt → Option (Bool × List (String × MTerm) × String × String × MTerm)
  | .ax l [.app tcs [], t] => some (true, [], l, tcs, t)
  | .block ss =>
      match ss.getLast?, ss.dropLast.mapM essParts with
      | some (.ax l [.app tcs [], t]), some eh => some (false, eh, l, tcs, t)
      | _, _ => none
  | _ => none

theorem essParts_eq {e : MStmt} {p : String × MTerm} (h : essParts e = some p) : e = mkEss p := by
  unfold essParts at h
  split at h
  · split at h
    · cases h; subst_vars; rfl
    · cases h
  · cases h

theorem mapM_essParts_eq : ∀ (es : List MStmt) (eh : List (String × MTerm)), es.mapM essParts = some eh → es = eh.map mkEss := by
  intro es
  induction es with
  | nil => intro eh h; simp at h; subst h; rfl
  | cons e es ih =>
    intro eh h
    rw [List.mapM_cons] at h
    cases hp : essParts e with
    | none => simp [hp] at h
    | some p =>
      cases hr : es.mapM essParts with
      | none => simp [hp, hr] at h
      | some r =>
        simp [hp, hr] at h
        subst h
        simp [essParts_eq hp, ih r hr]

theorem axParts_eq {st : MStmt} {pl : Bool} {eh : List (String × MTerm)} {l tcs : String} {t : MTerm}
    (h : axParts st = some (pl, eh, l, tcs, t)) : st = mkAxStmt pl eh l tcs t ∧ (pl = true → eh = []) := by
  unfold axParts at h
  split at h
  · cases h; exact ⟨rfl, fun _ => rfl⟩
  · rename_i ss
    split at h
    · rename_i l' tcs' t' eh' hlast hm
      cases h
      refine ⟨?_, fun h => by cases h⟩
      have hne : ss ≠ [] := by intro e; subst e; simp at hlast
      rw [List.getLast?_eq_some_getLast hne] at hlast
      simp only [mkAxStmt, Bool.false_eq_true, if_false]
      rw [← mapM_essParts_eq _ _ hm, ← Option.some.inj hlast, List.dropLast_concat_getLast hne]
    · cases h
  · cases h

/-- the label of a statement on the list `axioms` -/
def axLabel (st : MStmt) : String := match axParts st with | some (_, _, l, _, _) => l | none => ""

/-- what the second sweep needs of a statement on the list `axioms` -/
structure AxOK2 (K fs : List String) (fuel : Nat) (pcs prs : List String) (st : MStmt) : Prop where
  parts : ∃ pl eh l tcs t, axParts st = some (pl, eh, l, tcs, t) ∧ axOK [.app tcs [], t] = true ∧
    TermOK K fs fuel t ∧ (∀ p ∈ eh, TermOK K fs fuel p.2) ∧
    (isPcItem st = true → headLabel st ∈ pcs) ∧ (isPrItem st = true → headLabel st ∈ prs)

/-- the entries of `_axioms` for a list of statements -/
def AxList (σ : String → Nat) (fs : List String) : PyDict (List AxiomObj) → List MStmt → Prop
  | [], [] => True
  | (l, as) :: A, st :: sts =>
      (∃ pl eh tcs t a, axParts st = some (pl, eh, l, tcs, t) ∧ as = [a] ∧ AxEntry σ fs l (eh.map (·.2)) t a) ∧ AxList σ fs A sts
  | _, _ => False

theorem axList_append (σ : String → Nat) (fs : List String) : ∀ (A : PyDict (List AxiomObj)) (sts : List MStmt) (B : PyDict (List AxiomObj))
    (sts' : List MStmt), AxList σ fs A sts → AxList σ fs B sts' → AxList σ fs (A ++ B) (sts ++ sts') := by
  intro A
  induction A with
  | nil => intro sts B sts' h1 h2; cases sts with
    | nil => exact h2
    | cons _ _ => exact absurd h1 (by simp [AxList])
  | cons p A ih =>
    intro sts B sts' h1 h2
    obtain ⟨l, as⟩ := p
    cases sts with
    | nil => exact absurd h1 (by simp [AxList])
    | cons st sts => exact ⟨h1.1, ih sts B sts' h1.2 h2⟩

theorem axList_keys (σ : String → Nat) (fs : List String) : ∀ (A : PyDict (List AxiomObj)) (sts : List MStmt), AxList σ fs A sts →
    A.map (·.1) = sts.map axLabel := by
  intro A
  induction A with
  | nil => intro sts h; cases sts with
    | nil => rfl
    | cons _ _ => exact absurd h (by simp [AxList])
  | cons p A ih =>
    intro sts h
    obtain ⟨l, as⟩ := p
    cases sts with
    | nil => exact absurd h (by simp [AxList])
    | cons st sts =>
      obtain ⟨⟨pl, eh, tcs, t, a, hp, _, _⟩, h2⟩ := h
      simp [axLabel, hp, ih sts h2]

theorem axUpd_registered (c : ConvObj) (st : MStmt) (h1 : isPcItem st = true → headLabel st ∈ c._pattern_constructors)
    (h2 : isPrItem st = true → headLabel st ∈ c._proof_rules) : axUpd c st = c := by
  unfold axUpd
  cases hp : isPcItem st <;> cases hr : isPrItem st <;> simp [setAdd_mem, h1, h2, hp, hr]

theorem pass2_ok (σ : String → Nat) (fuel : Nat) (fs : List String) : ∀ (axs : List MStmt) (c : ConvObj) (S : List String),
    SymState σ c S → GoodScope c._scope fs → (∀ x ∈ fs, x ∉ c._declared_constants) → (∀ s ∈ S, s ∈ c._declared_constants) →
    (∀ st ∈ axs, AxOK2 c._declared_constants fs fuel c._pattern_constructors c._proof_rules st) →
    (axs.map axLabel).Nodup → (∀ st ∈ axs, axLabel st ∉ c._axioms.map (·.1)) →
    ∃ S' A, forM' axs c (fun self ax => _import_axiom σ fuel self ax) = .ok { withSyms σ c S' with _axioms := c._axioms ++ A } ∧
      (∀ s ∈ S', s ∈ c._declared_constants) ∧ AxList σ fs A axs := by
  intro axs
  induction axs with
  | nil =>
    intro c S hS _ _ hSK _ _ _
    refine ⟨S, [], ?_, hSK, trivial⟩
    simp only [forM'_nil, List.append_nil]
    congr 1
    exact (withSyms_self σ c S hS).symm
  | cons st axs ih =>
    intro c S hS hsc hdis hSK hok hnd hnew
    obtain ⟨pl, eh, l, tcs, t, hparts, hax, ht, hts, hr1, hr2⟩ := (hok st (by simp)).parts
    obtain ⟨hst, hpl⟩ := axParts_eq hparts
    have hlab : axLabel st = l := by simp [axLabel, hparts]
    obtain ⟨a, ha, haentry⟩ := import_axiom_ok σ fuel c S fs pl eh l tcs t hpl hax (hst ▸ axUpd_registered c st hr1 hr2) hS hsc ht hts hdis hSK
      (by rw [← hlab]; exact hnew st (by simp))
    let c1 : ConvObj := { withSyms σ c (setUnion S (symsOfL (eh.map (·.2) ++ [t]))) with _axioms := c._axioms ++ [(l, [a])] }
    have hS1K := setUnion_symsOfL_subset hSK
      (List.forall_mem_append.mpr ⟨List.forall_mem_map.mpr fun p hp => (hts p hp).wf, List.forall_mem_singleton.mpr ht.wf⟩)
    obtain ⟨S', A, hfold, hS'K, hA⟩ := ih c1 (setUnion S (symsOfL (eh.map (·.2) ++ [t]))) ⟨rfl, rfl⟩ hsc hdis hS1K
      (fun st' hst' => hok st' (by simp [hst'])) (by simp at hnd; exact hnd.2) (by
        intro st' hst'
        simp only [c1, List.map_append, List.map_cons, List.map_nil, List.mem_append, List.mem_singleton, not_or]
        refine ⟨hnew st' (by simp [hst']), ?_⟩
        rw [← hlab]
        simp only [List.map_cons, List.nodup_cons, List.mem_map, not_exists, not_and] at hnd
        intro e
        exact hnd.1 st' hst' e)
    refine ⟨S', (l, [a]) :: A, ?_, hS'K, ⟨⟨pl, eh, tcs, t, a, hparts, rfl, haentry⟩, hA⟩⟩
    rw [forM'_cons, hst, ha, Res.bind_ok]
    show forM' axs c1 _ = _
    rw [hfold]
    simp [c1, withSyms]

/-! ## `_import_lemma` -/
theorem add_lemma_new (σ : String → Nat) (fuel : Nat) (c : ConvObj) (l : String) (a : AxiomObj) (hnew : l ∉ c._lemmas.map (·.1)) :
    _add_lemma σ fuel c l a = .ok { c with _lemmas := c._lemmas ++ [(l, [a])] } := by
  have : dictHas c._lemmas l = false := (dictHas_false_iff _ _).mpr hnew
  simp only [_add_lemma, this, Bool.false_eq_true, if_false, bind, Res.bind, pure, dictSet_new _ _ _ hnew]

theorem import_lemma_ok (σ : String → Nat) (fuel : Nat) (c : ConvObj) (S fs : List String)
    (l : String) (t : MTerm) (prf : List String) (pf : Gen.ImportProof.Proof)
    (hS : SymState σ c S) (hsc : GoodScope c._scope fs) (ht : TermOK c._declared_constants fs fuel t)
    (hdis : ∀ x ∈ fs, x ∉ c._declared_constants) (hSK : ∀ s ∈ S, s ∈ c._declared_constants)
    (hnew : l ∉ c._lemmas.map (·.1))
    (hpf : callImportProof c._floating_patterns (.prov l [.app "|-" [], t] prf) = .ok pf) :
    ∃ a, _import_lemma σ fuel c (.prov l [.app "|-" [], t] prf) =
        .ok { withSyms σ c (setUnion S (symsOf t)) with _lemmas := c._lemmas ++ [(l, [a])] } ∧
      AxiomOf σ fs l t a ∧ a.cls = AxCls.Lemma ∧ a.proof? = some pf := by
  have hsc' := goodScope_copy c._scope fs [] hsc
  obtain ⟨L, hL, _, _, _⟩ := collect_variables_ok σ fuel c t ht.fuel
  obtain ⟨a, ha, haof, (hacls : a.cls = AxCls.Lemma), hapf⟩ := convert_stmt_ok σ fuel c S (copyScope c._scope []) fs
    (.prov l [.app "|-" [], t] prf) (.app "|-" []) t (some pf) ⟨rfl, hpf⟩ rfl ht.fuel hS hsc' ht.wf ht.vars hdis hSK
  refine ⟨a, ?_, haof, hacls, hapf⟩
  have hadd : _add_lemma σ fuel (withSyms σ c (setUnion S (symsOf t))) a.name a =
      .ok { withSyms σ c (setUnion S (symsOf t)) with _lemmas := c._lemmas ++ [(l, [a])] } := by
    have h := add_lemma_new σ fuel (withSyms σ c (setUnion S (symsOf t))) a.name a (by rw [haof.name]; exact hnew)
    rw [h, haof.name]
    rfl
  simp only [_import_lemma, isProvable, ConvSup.pyAssert, MStmt.terms, listGet_zero, listGet_one, isApplication, MTerm.symbol,
    beq_self_eq_true, andR_true, Res.map_ok, Bool.not_true, Bool.false_eq_true, if_false, if_true, hL,
    unambiguize_ok σ fuel c L fs hsc, forM'_cons, forM'_nil, isBlock, ha, hacls, AxCls.isLemma, List.length_nil, Nat.lt_irrefl,
    decide_false, hadd, bind, Res.bind, pure, Functor.map, Function.comp]

end ConvTie
