import Pi2.MM.ConvQuery
/-!
# The generated `MetamathConverter` (`Pi2/Gen/MMConv.lean`) on the databases of the supported fragment

`Pi2/Gen/MMConv.lean` is regenerated from the text of `converter.py` / `scope.py` / `representation.py` on every run
(`vlib/transconv.py`).  This file ties it to the meaning of the database.

* `InFragmentM mdb fuel target : Bool` — the decidable conditions on the parsed database (`MDb`) under which the run of the converter
  is determined (first sweep: `ok1`; shapes and terms of the `$a` statements and their `$e` hypotheses; labels pairwise different;
  exactly one `$p`, the target, with a proof that `_import_proof` decodes).
* `converter_state`: on such a database `MetamathConverter(parsed)` returns (no exception, no path outside the modelled fragment,
  enough fuel) and its final state is `Final` (`Pi2/MM/ConvInit.lean`): the pattern constructors / proof rules are exactly the
  labels of the `#Pattern` axioms / of the `|-` axioms named `proof-rule-…`, `_axioms` holds in DATABASE ORDER one `Axiom` per `$a`
  statement whose pattern is the structural image `patOf` of its term over `MetaVar(position of the variable's $f statement)`,
  whose antecedents are the images of the `$e |-` hypotheses of its block and whose metavariables are the variables of hypotheses
  and conclusion; `_lemmas` holds the target with the image of its statement and its decoded proof.
* the queries `translate.exec_proof` makes, answered on that state: `q_is_pattern_constructor`, `q_is_proof_rule`, `q_get_axiom`
  (`get_axiom_by_name`, `get_metavars_in_order` = the statement's variables in `$f` order), `q_floating`
  (`_fp_label_to_pattern`, `resolve_metavar`), `q_exported` (`exported_axioms` in database order), `q_lemma` — `Pi2/MM/ConvQuery.lean`.
-/
set_option linter.unusedSimpArgs false
set_option linter.unusedVariables false
open MM SliceSup ConvSup Gen.MMConv

namespace ConvTie

theorem translated : Gen.MMConv.translated = true := by decide

/-! ## the fragment, decidably -/
def termOKb (K fs : List String) (fuel : Nat) (t : MTerm) : Bool :=
  decide (tsize t < fuel) && wfT K t && (termMvs t).all fs.contains

def axItemOKb (K fs : List String) (fuel : Nat) (st : MStmt) : Bool :=
  match axParts st with
  | some (_, eh, _, tcs, t) => axOK [.app tcs [], t] && termOKb K fs fuel t && eh.all fun p => termOKb K fs fuel p.2
  | none => false

/-- the target lemma: the only `$p`, a top-level statement `target $p |- t $= proof` -/
def lemmaOf (mdb : MDb) : Option (String × MTerm × List String) :=
  match mdb.filter isLemItem with
  | [.prov l [.app tc [], t] prf] => if tc = "|-" then some (l, t, prf) else none
  | _ => none

def InFragmentM (mdb : MDb) (fuel : Nat) (target : String) : Bool :=
  let K := ConvSpec.constsOf mdb
  let fs := (floatPairs mdb).map (·.2)
  ok1 K [] [] mdb &&
  decide ((floatPairs mdb).map (·.1)).Nodup &&
  (mdb.filter isAxItem).all (axItemOKb K fs fuel) &&
  decide ((mdb.filter isAxItem).map axLabel).Nodup &&
  ((floatPairs mdb).map (·.1)).all (fun l => !((mdb.filter isAxItem).map axLabel).contains l) &&
  (match lemmaOf mdb with
   | some (l, t, prf) => l == target && termOKb K fs fuel t && (callImportProof fs (.prov l [.app "|-" [], t] prf)).isOk
   | none => false)

mutual
/-- the total size of the terms of a statement (a bound for the fuel the converter needs) -/
def stmtTS : MStmt → Nat
  | .ess _ ts => tsizes ts
  | .ax _ ts => tsizes ts
  | .prov _ ts _ => tsizes ts
  | .block ss => stmtsTS ss
  | _ => 0
def stmtsTS : List MStmt → Nat
  | [] => 0
  | s :: ss => stmtTS s + stmtsTS ss
end
/-- enough fuel for every `while` loop and recursion of the converter on this database -/
def dbFuel (mdb : MDb) : Nat := stmtsTS mdb + 1

theorem termOKb_sound {K fs : List String} {fuel fuel' : Nat} {t : MTerm} (h : termOKb K fs fuel t = true) (hf : fuel ≤ fuel') :
    TermOK K fs fuel' t := by
  simp only [termOKb, Bool.and_eq_true, decide_eq_true_eq, List.all_eq_true, List.contains_eq_mem] at h
  exact ⟨by omega, h.1.2, fun v hv => h.2 v hv⟩

theorem lemmaOf_some {mdb : MDb} {l : String} {t : MTerm} {prf : List String} (h : lemmaOf mdb = some (l, t, prf)) :
    mdb.filter isLemItem = [.prov l [.app "|-" [], t] prf] := by
  unfold lemmaOf at h
  split at h
  · rename_i heq
    split at h
    · rename_i htc
      cases h
      exact htc ▸ heq
    · cases h
  · cases h

theorem inFragmentM_sound {mdb : MDb} {fuel : Nat} {target : String} (h : InFragmentM mdb fuel target = true) :
    ∃ t prf pf, lemmaOf mdb = some (target, t, prf) ∧ LabelsOK mdb ∧
      callImportProof ((floatPairs mdb).map (·.2)) (.prov target [.app "|-" [], t] prf) = .ok pf ∧
      ∀ fuel', fuel ≤ fuel' → FragM mdb fuel' target t prf := by
  simp only [InFragmentM, Bool.and_eq_true, decide_eq_true_eq, List.all_eq_true] at h
  obtain ⟨⟨⟨⟨⟨h1, h2⟩, h3⟩, h4⟩, h5⟩, h6⟩ := h
  split at h6
  case h_2 => cases h6
  rename_i l t prf hl
  simp only [Bool.and_eq_true, beq_iff_eq] at h6
  obtain ⟨⟨rfl, ht⟩, hpf⟩ := h6
  cases hp : callImportProof ((floatPairs mdb).map (·.2)) (.prov l [.app "|-" [], t] prf) with
  | ok pf =>
    refine ⟨t, prf, pf, hl, ⟨?_⟩, hp, ?_⟩
    · intro x hx hx'
      have := h5 x hx
      simp only [Bool.not_eq_true', List.contains_eq_mem, decide_eq_false_iff_not] at this
      exact this hx'
    · intro fuel' hf
      refine ⟨h1, h2, ?_, h4, lemmaOf_some hl, termOKb_sound ht hf⟩
      intro st hst
      have := h3 st hst
      unfold axItemOKb at this
      split at this
      · rename_i pl eh l' tcs t' hparts
        simp only [Bool.and_eq_true, List.all_eq_true] at this
        exact ⟨pl, eh, l', tcs, t', hparts, this.1.1, termOKb_sound this.1.2 hf, fun p hp => termOKb_sound (this.2 p hp) hf⟩
      · cases this
  | _ => simp [hp, Res.isOk] at hpf

/-- on a database of the fragment the converter returns, and its final state is the one the database determines -/
theorem converter_state (σ : String → Nat) (mdb : MDb) (fuel0 : Nat) (target : String) (h : InFragmentM mdb fuel0 target = true) :
    ∃ t prf pf, lemmaOf mdb = some (target, t, prf) ∧
      callImportProof ((floatPairs mdb).map (·.2)) (.prov target [.app "|-" [], t] prf) = .ok pf ∧
      ∀ fuel, fuel0 ≤ fuel → ∃ c, MetamathConverter_init σ fuel default mdb = .ok c ∧ Final σ mdb target t pf c := by
  obtain ⟨t, prf, pf, hl, _, hpf, hF⟩ := inFragmentM_sound h
  exact ⟨t, prf, pf, hl, hpf, fun fuel hf => init_ok σ fuel mdb target t prf pf (hF fuel hf) hpf⟩

end ConvTie

#print axioms ConvTie.translated
#print axioms ConvTie.converter_state
#print axioms ConvTie.q_is_pattern_constructor
#print axioms ConvTie.q_is_proof_rule
#print axioms ConvTie.q_get_axiom
#print axioms ConvTie.q_floating
#print axioms ConvTie.q_exported
#print axioms ConvTie.q_lemma
