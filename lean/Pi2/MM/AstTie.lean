import Pi2.MM.AstEmbed
import Pi2.MM.AstThm
/-!
# The generated Metamath parser callbacks / grammar rules / `Encoder` (`Pi2/Gen/MMAst.lean`) = the model `Pi2/MM/Ast.lean`

`Pi2/Gen/MMAst.lean` is regenerated on every run by `vlib/transmmast.py` from the text of `class ASTTransformer`, the lark
grammar and `parse_database` (metamath/parser.py), the AST dataclasses and `class Encoder` (metamath/ast.py).

* `parse_terms_eq` / `parse_term_eq`: the generated `parse_terms` (with its `while` loop, `parse_term`, the balanced-parenthesis
  scan with the loop variable `i` used after the loop, both asserts, the slices) IS `MM.parseTerms`, on every token list, for
  every fuel ≥ 3·tokens + 2 (`termFuel`); `parseTermsF_fuel`: the model's own fuel does not matter either.
* `keywords_eq`: the anonymous literals of the grammar are the model's `isKeyword`.
* `g_stmt_eq`: one statement — the rule function generated from the grammar (alternative chosen by its keyword prefix, the
  children in grammar order, the callback of the alias) is the statement branch `MM.modelStmt` of `parseStmtsF`
  (`MM.parseStmtsF_cons` in `Pi2/MM/AstThm.lean`: a verbatim copy); `genStmts_eq`: `stmt*` up to `$}` / the end of input is `parseStmtsF`;
  `parse_database_eq`: `parse_database F toks = (parseDb toks).map ofDb` for EVERY token list, `F ≥ toks.length`.
  `ofDb` embeds the model's AST into the generated one (`.var/.disj`: names ↦ `Metavariable` objects, `.float l tc v` ↦ the
  terms `(Application(tc), Metavariable(v))`, proof tokens `pf` ↦ the proof string `' '.join(pf)`).
* `visit_Term_toks`, `visit_Stmt_toks`, `encode_tokens`: the strings the generated `Encoder` writes for (the image of) a model
  database, concatenated and split at the characters the grammar ignores (`lexTokens`), are `printTerm` / `printStmt` / `printDb` —
  provided every string of the database is a lexeme (`Lex`: non-empty, no ignored character: what a lexer token is), and
  `omit_proof = False`.  `proof_string_toks` / `proof_string_tokens`: the proof string `' '.join(pf)` is read back as the tokens
  `pf` (`.split()`), and written between ` $= ` and ` $.` it contributes exactly `pf`.
* `print_parse_text`: for the GENERATED functions, `parse_database (lexTokens (text written for db)) = db` whenever
  `db = parse_database toks` for lexemes `toks` — by transporting `MM.print_parse`.

OUTSIDE (assumed, stated in `vlib/transmmast.py`): lark's lexer (= `lexTokens` + keyword classification on such texts), its LALR(1)
parser (= the rule functions), the order in which `Transformer` calls the callbacks.  The theorems HERE are about the strings the
`Encoder` writes; what `Printer.write/flush` make of them is `Pi2/MM/AstText.lean`: for every database of lexemes the text is
lexed to the same tokens (`Printer` as repaired by 5aefd01; before, a statement label that consists only of characters `str.isspace`
accepts but the grammar does not ignore — `'\x0b'`, `'\x1c'`–`'\x1f'`, `'\x85'`, `'\xa0'`, U+2000…, U+3000 — was taken for
indentation by `Printer.is_line_buffer_empty` and dropped: `AstText.old_printer_dropped_blank_label`).
-/
namespace AstTie
open MM MMAstSup Gen.MMAst

theorem translated : Gen.MMAst.translated = true := by decide

/-- the same eleven literals, `$.` at another place -/
theorem keywords_eq (t : String) : keywords.contains t = isKeyword t := by
  simp only [keywords, isKeyword, List.contains_cons, List.contains_nil, Bool.or_false]
  ac_rfl


theorem for1_spec : ∀ (ts : List String) (d k : Nat) (i? : Option Nat),
    ∃ i' n', parse_term_for1 (pyEnumerateFrom k ts) i? ((d : Int) + 1) = some (i', n') ∧
      (∀ j, scanClose d ts k = some j → i' = some j ∧ n' = 0) ∧ (scanClose d ts k = none → n' ≠ 0)
  | [], d, k, i? => ⟨i?, (d : Int) + 1, by simp [pyEnumerateFrom, parse_term_for1], by simp [scanClose], by intro _; omega⟩
  | t :: ts, d, k, i? => by
      simp only [pyEnumerateFrom, parse_term_for1, scanClose]
      by_cases h1 : t = "("
      · subst h1
        obtain ⟨i', n', h, ha, hb⟩ := for1_spec ts (d + 1) (k + 1) (some k)
        refine ⟨i', n', ?_, by simpa using ha, by simpa using hb⟩
        have hne : ¬ ((d : Int) + 1 + 1 = 0) := by omega
        simp [hne]
        exact h
      · by_cases h2 : t = ")"
        · subst h2
          cases d with
          | zero =>
            refine ⟨some k, 0, ?_, by simp, by simp⟩
            simp
          | succ d =>
            obtain ⟨i', n', h, ha, hb⟩ := for1_spec ts d (k + 1) (some k)
            refine ⟨i', n', ?_, by simpa using ha, by simpa using hb⟩
            have hne : ¬ ((d : Int) + 1 = 0) := by omega
            simp [hne]
            exact h
        · obtain ⟨i', n', h, ha, hb⟩ := for1_spec ts d (k + 1) (some k)
          refine ⟨i', n', ?_, by simpa [h1, h2] using ha, by simpa [h1, h2] using hb⟩
          have hne : ¬ ((d : Int) + 1 = 0) := by omega
          simp [h1, h2, hne]
          exact h

/-- one call of `parse_term`, in terms of the model's scan for the closing parenthesis -/
theorem parse_term_cons (self : ASTTransformer) (F : Nat) (t : String) (rest : List String) :
    parse_term self (F + 1) (t :: rest) =
      if t = "(" then
        match scanClose 0 rest 0 with
        | none => none
        | some k => if k < 2 then none else
          match rest with
          | [] => none
          | head :: inner => (parse_terms self F (inner.take (k - 1))).bind fun sub =>
              some (MTerm.app head sub, rest.drop (k + 1))
      else if self.metavariables.contains t then some (MTerm.mv t, rest) else some (MTerm.app t [], rest) := by
  rw [parse_term]
  simp only [pyAssert, pyIdx, pySliceFrom, pyEnumerate, pySlice]
  by_cases h1 : t = "("
  · subst h1
    obtain ⟨i', n', h, ha, hb⟩ := for1_spec rest 0 0 none
    simp only [Int.natCast_zero, Int.zero_add] at h
    simp [h]
    cases hs : scanClose 0 rest 0 with
    | none =>
      have := hb hs
      cases i' <;> simp [this]
    | some k =>
      obtain ⟨rfl, rfl⟩ := ha k hs
      simp
      by_cases hk : k < 2
      · have : ¬ (2 < k + 1) := by omega
        simp [hk, this]
      · have : 2 < k + 1 := by omega
        simp [hk, this]
        cases rest with
        | nil => simp [scanClose] at hs
        | cons head inner =>
          simp
          have e1 : (List.take k (head :: inner)).tail = List.take (k - 1) inner := by
            obtain ⟨k', rfl⟩ : ∃ k', k = k' + 2 := ⟨k - 2, by omega⟩
            simp
          rw [e1]
  · simp [h1]

theorem parse_terms_succ (self : ASTTransformer) (G : Nat) (ts : List String) :
    parse_terms self (G + 1) ts = (parse_terms_while1 self G ts []).map (·.2) := by
  rw [parse_terms]
  cases parse_terms_while1 self G ts [] <;> simp

/-- the `while` loop of `parse_terms` (with `parse_term` inside) is the model's `parseTermsF`, given enough fuel on both sides -/
theorem while1_eq (self : ASTTransformer) : ∀ (m : Nat) (ts : List String), ts.length ≤ m →
    ∀ (F n : Nat) (acc : List MTerm), 3 * ts.length + 1 ≤ F → ts.length + 1 ≤ n →
    parse_terms_while1 self F ts acc =
      (parseTermsF self.metavariables n ts).map fun r => (([] : List String), acc ++ r)
  | _, [], _, F, n, acc, hF, hn => by
      obtain ⟨F', rfl⟩ : ∃ F', F = F' + 1 := ⟨F - 1, by omega⟩
      rw [parse_terms_while1]; simp [parseTermsF]
  | 0, _ :: _, hm, _, _, _, _, _ => absurd hm (by simp)
  | m + 1, t :: rest, hm, F, n, acc, hF, hn => by
      have ih := while1_eq self m
      simp only [List.length_cons] at hm hF hn
      obtain ⟨F2, rfl⟩ : ∃ F2, F = F2 + 1 + 1 := ⟨F - 2, by omega⟩
      obtain ⟨n', rfl⟩ : ∃ n', n = n' + 1 := ⟨n - 1, by omega⟩
      rw [parse_terms_while1, parseTermsF]
      simp only [List.length_cons, bne_iff_ne, ne_eq, Nat.add_eq_zero_iff, Nat.succ_ne_self, and_false,
        not_false_eq_true, ↓reduceIte]
      rw [parse_term_cons]
      by_cases h1 : t = "("
      · simp only [h1, ↓reduceIte]
        cases hs : scanClose 0 rest 0 with
        | none => simp
        | some k =>
          simp only
          by_cases hk : k < 2
          · simp [hk]
          · simp only [hk, ↓reduceIte]
            cases rest with
            | nil => simp
            | cons head inner =>
              simp only [List.length_cons] at hm hF hn
              obtain ⟨F3, rfl⟩ : ∃ F3, F2 = F3 + 1 := ⟨F2 - 1, by omega⟩
              have hsub : (List.take (k - 1) inner).length ≤ inner.length := by simp [List.length_take]; omega
              have hmore : (List.drop (k + 1) (head :: inner)).length ≤ inner.length := by
                simp only [List.length_drop, List.length_cons]; omega
              dsimp only
              rw [parse_terms_succ, ih _ (by omega) F3 n' [] (by omega) (by omega)]
              cases hsubr : parseTermsF self.metavariables n' (List.take (k - 1) inner) with
              | none => simp
              | some sub =>
                simp only [Option.map_some, List.nil_append, Option.bind_some, Option.bind_eq_bind]
                rw [ih _ (by omega) (F3 + 1 + 1) n' _ (by omega) (by omega)]
                cases parseTermsF self.metavariables n' (List.drop (k + 1) (head :: inner)) <;> simp
      · simp only [h1, ↓reduceIte]
        split
        all_goals
          simp only [Option.bind_some, Option.bind_eq_bind]
          rw [ih _ (by omega) (F2 + 1) n' _ (by omega) (by omega)]
          cases parseTermsF self.metavariables n' rest <;> simp

/-- **`parse_terms` is the model's `parseTerms`** (any fuel ≥ three per token plus two; `termFuel` is such) -/
theorem parse_terms_eq (self : ASTTransformer) (F : Nat) (ts : List String) (hF : 3 * ts.length + 2 ≤ F) :
    parse_terms self F ts = parseTerms self.metavariables ts := by
  obtain ⟨G, rfl⟩ : ∃ G, F = G + 1 := ⟨F - 1, by omega⟩
  rw [parse_terms_succ, while1_eq self _ ts (Nat.le_refl _) G (ts.length + 1) [] (by omega) (Nat.le_refl _), parseTerms]
  cases parseTermsF self.metavariables (ts.length + 1) ts <;> simp

theorem parse_terms_termFuel (self : ASTTransformer) (ts : List String) :
    parse_terms self (termFuel ts) ts = parseTerms self.metavariables ts :=
  parse_terms_eq self _ ts (by simp [termFuel])

/-- the model's fuel does not matter once it exceeds the number of tokens -/
theorem parseTermsF_fuel (mvs : List String) (ts : List String) (n : Nat) (hn : ts.length + 1 ≤ n) :
    parseTermsF mvs n ts = parseTerms mvs ts := by
  have h1 := while1_eq ⟨mvs⟩ _ ts (Nat.le_refl _) (3 * ts.length + 1) n [] (Nat.le_refl _) hn
  have h2 := while1_eq ⟨mvs⟩ _ ts (Nat.le_refl _) (3 * ts.length + 1) (ts.length + 1) [] (Nat.le_refl _) (Nat.le_refl _)
  rw [h1] at h2
  simp only [List.nil_append] at h2
  rw [parseTerms]
  cases ha : parseTermsF mvs n ts <;> cases hb : parseTermsF mvs (ts.length + 1) ts <;> simp_all

/-- **`parse_term` is one step of the model**: the first term and the remaining tokens -/
theorem parse_term_eq (self : ASTTransformer) (F : Nat) (t : String) (rest : List String)
    (hF : 3 * (rest.length + 1) ≤ F) :
    parse_term self F (t :: rest) =
      if t = "(" then
        match scanClose 0 rest 0 with
        | none => none
        | some k => if k < 2 then none else
          match rest with
          | [] => none
          | head :: inner => (parseTerms self.metavariables (inner.take (k - 1))).map fun sub =>
              (MTerm.app head sub, rest.drop (k + 1))
      else if self.metavariables.contains t then some (MTerm.mv t, rest) else some (MTerm.app t [], rest) := by
  obtain ⟨G, rfl⟩ : ∃ G, F = G + 1 := ⟨F - 1, by omega⟩
  rw [parse_term_cons]
  -- the two sides differ only in the call for the subterms, whose tokens are fewer than `rest`
  cases rest with
  | nil => rfl
  | cons head inner =>
    simp only [List.length_cons] at hF
    split <;> try rfl
    split <;> try rfl
    split <;> try rfl
    next k _ _ =>
    dsimp only
    have hsub : (List.take (k - 1) inner).length ≤ inner.length := by simp [List.length_take]; omega
    rw [parse_terms_eq self G _ (by omega)]
    cases parseTerms self.metavariables (List.take (k - 1) inner) <;> rfl

theorem ofStmts_append (as bs : List MStmt) : ofStmts (as ++ bs) = ofStmts as ++ ofStmts bs := by
  induction as with
  | nil => simp [ofStmts]
  | cons a as ih => simp [ofStmts, ih]

def notKw (t : String) : Bool := !isKeyword t

theorem first_token_eq : first_token = notKw := by
  funext t; simp only [first_token, notKw, keywords_eq]

theorem token_single (self : ASTTransformer) (t : String) : token self [t] = some t := by
  simp [token, pyIdx, pyAssert]

theorem g_token_cons (self : ASTTransformer) (t : String) (ts : List String) :
    g_token self (t :: ts) = if isKeyword t then none else some (t, self, ts) := by
  simp only [g_token, gTOKEN, keywords_eq]
  by_cases h : isKeyword t <;> simp [h, token_single]

theorem g_token_nil (self : ASTTransformer) : g_token self [] = none := by
  simp [g_token, gTOKEN]

theorem gStarF_token (self : ASTTransformer) : ∀ (ts : List String) (N : Nat), ts.length + 1 ≤ N →
    gStarF first_token g_token N self ts = some (ts.takeWhile notKw, self, ts.dropWhile notKw)
  | [], N, h => by
      obtain ⟨N', rfl⟩ : ∃ N', N = N' + 1 := ⟨N - 1, by omega⟩
      simp [gStarF]
  | t :: ts, N, h => by
      obtain ⟨N', rfl⟩ : ∃ N', N = N' + 1 := ⟨N - 1, by simp at h; omega⟩
      simp only [gStarF, first_token_eq]
      by_cases hk : isKeyword t
      · simp [notKw, hk]
      · have := gStarF_token self ts N' (by simp at h; omega)
        rw [first_token_eq] at this
        simp [notKw, hk, g_token_cons, this]

theorem gStar_token (self : ASTTransformer) (ts : List String) :
    gStar first_token g_token self ts = some (ts.takeWhile notKw, self, ts.dropWhile notKw) :=
  gStarF_token self ts _ (Nat.le_refl _)

theorem gPlus_token (self : ASTTransformer) (ts : List String) :
    gPlus first_token g_token self ts =
      if (ts.takeWhile notKw).isEmpty then none else some (ts.takeWhile notKw, self, ts.dropWhile notKw) := by
  cases ts with
  | nil => simp [gPlus, g_token_nil]
  | cons t r =>
    simp only [gPlus, g_token_cons]
    by_cases hk : isKeyword t <;> simp [hk, gStar_token, notKw]

/-- the model's `takeUntil`, for a keyword: the maximal run of `TOKEN`s, then exactly that keyword -/
theorem takeUntil_eq (stop : String) (hstop : isKeyword stop = true) : ∀ ts : List String,
    takeUntil stop ts =
      match ts.dropWhile notKw with
      | t :: r => if t = stop then some (ts.takeWhile notKw, r) else none
      | [] => none
  | [] => by simp [takeUntil]
  | t :: ts => by
      rw [takeUntil]
      by_cases h1 : t = stop
      · subst h1; simp [notKw, hstop]
      · by_cases hk : isKeyword t
        · simp [h1, hk, notKw]
        · rw [takeUntil_eq stop hstop ts]
          simp only [h1, hk, notKw, Bool.not_false, List.dropWhile_cons_of_pos, List.takeWhile_cons_of_pos, ↓reduceIte,
            Bool.false_eq_true]
          cases List.dropWhile notKw ts with
          | nil => simp
          | cons x r => by_cases hx : x = stop <;> simp [hx]

/-! ## the callbacks, in closed form -/
theorem constant_stmt_eq (self : ASTTransformer) (cs : List String) :
    constant_stmt self cs = some (.ConstantStatement cs) := rfl

theorem variable_stmt_eq (self : ASTTransformer) (vs : List String) :
    variable_stmt self vs = some (.VariableStatement (vs.map MTerm.mv), ⟨self.metavariables ++ vs⟩) := rfl

theorem disjoint_for1_eq (self : ASTTransformer) : ∀ vs : List String,
    disjoint_stmt_for1 self vs = if vs.all self.metavariables.contains then some () else none
  | [] => by simp [disjoint_stmt_for1]
  | v :: vs => by
      simp only [disjoint_stmt_for1, pyAssert, List.all_cons]
      by_cases h : v ∈ self.metavariables <;> simp [h, disjoint_for1_eq self vs]

theorem disjoint_stmt_eq (self : ASTTransformer) (vs : List String) :
    disjoint_stmt self vs =
      if vs.all self.metavariables.contains then some (.DisjointStatement (vs.map MTerm.mv)) else none := by
  simp only [disjoint_stmt, disjoint_for1_eq]
  by_cases h : vs.all self.metavariables.contains <;> simp [h]

theorem floating_stmt_eq (self : ASTTransformer) (l tc v : String) :
    floating_stmt self [l, tc, v] =
      if self.metavariables.contains v then some (.FloatingStatement l [MTerm.app tc [], MTerm.mv v]) else none := by
  simp only [floating_stmt, pyUnpack3, pyAssert]
  by_cases h : v ∈ self.metavariables <;> simp [h]

theorem essential_stmt_eq (self : ASTTransformer) (l : String) (body : List String) :
    essential_stmt self (l :: body) = (parseTerms self.metavariables body).map (Stmt.EssentialStatement l) := by
  simp only [essential_stmt, pyHeadRest, parse_terms_termFuel]
  cases h : parseTerms self.metavariables body <;> simp [h]

theorem axiom_stmt_eq (self : ASTTransformer) (l : String) (body : List String) :
    axiom_stmt self (l :: body) = (parseTerms self.metavariables body).map (Stmt.AxiomaticStatement l) := by
  simp only [axiom_stmt, pyHeadRest, parse_terms_termFuel]
  cases h : parseTerms self.metavariables body <;> simp [h]

theorem strs_map_str : ∀ body : List String, Arg.strs (body.map Arg.str) = some body
  | [] => by simp [Arg.strs]
  | b :: body => by
      have := strs_map_str body
      simp only [Arg.strs] at this ⊢
      simp [Arg.asStr, this]

/-- `provable_stmt` on the children the grammar delivers: the label, the `TOKEN`s of the statement, the result of `proof` -/
theorem provable_stmt_eq (self : ASTTransformer) (l : String) (body pf : List String) :
    provable_stmt self (Arg.str l :: (body.map Arg.str ++ [Arg.list pf])) =
      (parseTerms self.metavariables body).map fun ts => Stmt.ProvableStatement l ts (some (pyJoin " " pf)) := by
  have h1 : pyDropLast (body.map Arg.str ++ [Arg.list pf]) 1 = body.map Arg.str := by simp [pyDropLast]
  have h2 : pyLast (body.map Arg.str ++ [Arg.list pf]) = some (Arg.list pf) := by simp [pyLast]
  rw [provable_stmt]
  simp only [pyHeadRest, Option.bind_eq_bind, Option.bind_some]
  rw [h2, h1]
  simp only [Option.bind_some, strs_map_str, parse_terms_termFuel, Arg.toList, Arg.asStr]
  cases h : parseTerms self.metavariables body <;> simp

def ofRes : MStmt × List String × List String → Stmt × ASTTransformer × List String :=
  fun x => (ofStmt x.1, ⟨x.2.1⟩, x.2.2)
def ofRess : List MStmt × List String × List String → List Stmt × ASTTransformer × List String :=
  fun x => (ofStmts x.1, ⟨x.2.1⟩, x.2.2)

/-- the generated counterpart of `parseStmtsF`: `stmt*`, then the closing `$}` (in a block) or the end of the input -/
def genStmts (F N : Nat) (inBlock : Bool) (self : ASTTransformer) (ts : List String) :
    Option (List Stmt × ASTTransformer × List String) :=
  (gStarF first_stmt (g_stmt F) N self ts).bind fun x =>
    if inBlock then (gLit "$}" x.2.2).map fun r => (x.1, x.2.1, r) else (gEnd x.2.2).map fun _ => (x.1, x.2.1, [])

theorem kw_dot : isKeyword "$." = true := by decide
theorem kw_eq : isKeyword "$=" = true := by decide

theorem gLit_self (s : String) (ts : List String) : gLit s (s :: ts) = some ts := by simp [gLit]
theorem gLit_cons (s t : String) (ts : List String) : gLit s (t :: ts) = if t = s then some ts else none := by
  simp [gLit]
theorem gLit_nil (s : String) : gLit s [] = none := rfl
theorem gPeekLit_zero (t s : String) (ts : List String) : gPeekLit (t :: ts) 0 s = (t == s) := by simp [gPeekLit]
theorem gPeekLit_one (t x s : String) (ts : List String) : gPeekLit (t :: x :: ts) 1 s = (x == s) := by simp [gPeekLit]
theorem gPeekTOKEN_zero (t : String) (ts : List String) : gPeekTOKEN keywords (t :: ts) 0 = !isKeyword t := by
  simp only [gPeekTOKEN, List.getElem?_cons_zero, keywords_eq]

/-- `token+ stop` of a grammar rule, with what the rule does next (`k`), is the model's `takeUntil stop` with a non-empty result -/
theorem gPlus_gLit {β : Type} (stop : String) (hstop : isKeyword stop = true) (self : ASTTransformer) (ts : List String)
    (k : List String × ASTTransformer × List String → List String → Option β) :
    ((gPlus first_token g_token self ts).bind fun x => (gLit stop x.2.2).bind fun r => k x r) =
      (takeUntil stop ts).bind fun y => if y.1.isEmpty then none else k (y.1, self, stop :: y.2) y.2 := by
  rw [gPlus_token, takeUntil_eq stop hstop]
  generalize ts.takeWhile notKw = cs, ts.dropWhile notKw = r0
  rcases r0 with _ | ⟨t, r⟩
  · cases cs <;> rfl
  · by_cases ht : t = stop
    · subst ht; cases cs <;> simp [gLit_self]
    · cases cs <;> simp [gLit_cons, ht]

/-- `token* stop` likewise (the result may be empty) -/
theorem gStar_gLit {β : Type} (stop : String) (hstop : isKeyword stop = true) (self : ASTTransformer) (ts : List String)
    (k : List String × ASTTransformer × List String → List String → Option β) :
    ((gStar first_token g_token self ts).bind fun x => (gLit stop x.2.2).bind fun r => k x r) =
      (takeUntil stop ts).bind fun y => k (y.1, self, stop :: y.2) y.2 := by
  rw [gStar_token, takeUntil_eq stop hstop]
  generalize ts.takeWhile notKw = cs, ts.dropWhile notKw = r0
  rcases r0 with _ | ⟨t, r⟩
  · rfl
  · by_cases ht : t = stop
    · subst ht; simp [gLit_self]
    · simp [gLit_cons, ht]

theorem g_stmt_c (F n : Nat) (mvs ts : List String) :
    g_stmt (F + 1) ⟨mvs⟩ ("$c" :: ts) = (modelStmt n mvs "$c" ts).map ofRes := by
  rw [g_stmt, modelStmt_c]
  simp only [gPeekLit_zero, beq_self_eq_true, ↓reduceIte, gLit_self, Option.bind_eq_bind, Option.bind_some, constant_stmt_eq,
    gPlus_gLit _ kw_dot]
  rcases takeUntil "$." ts with _ | ⟨_ | _, _⟩ <;> rfl

theorem g_stmt_v (F n : Nat) (mvs ts : List String) :
    g_stmt (F + 1) ⟨mvs⟩ ("$v" :: ts) = (modelStmt n mvs "$v" ts).map ofRes := by
  rw [g_stmt, modelStmt_v]
  simp only [gPeekLit_zero, show ("$v" == "$c") = false by decide, Bool.false_eq_true, beq_self_eq_true, ↓reduceIte, gLit_self,
    Option.bind_eq_bind, Option.bind_some, variable_stmt_eq, gPlus_gLit _ kw_dot]
  rcases takeUntil "$." ts with _ | ⟨_ | _, _⟩ <;> rfl

theorem g_stmt_d (F n : Nat) (mvs ts : List String) :
    g_stmt (F + 1) ⟨mvs⟩ ("$d" :: ts) = (modelStmt n mvs "$d" ts).map ofRes := by
  rw [g_stmt, modelStmt_d]
  simp only [gPeekLit_zero, show ("$d" == "$c") = false by decide, show ("$d" == "$v") = false by decide, Bool.false_eq_true,
    beq_self_eq_true, ↓reduceIte, gLit_self, Option.bind_eq_bind, Option.bind_some, disjoint_stmt_eq, gPlus_gLit _ kw_dot]
  rcases takeUntil "$." ts with _ | ⟨_ | _, _⟩ <;> try rfl
  simp only [Option.bind_some, List.isEmpty_cons, Bool.false_eq_true, ↓reduceIte]
  split <;> rfl

/-- a statement that starts with a `TOKEN` (its label): the alternative is chosen by the second token -/
theorem g_stmt_tok (F n : Nat) (mvs : List String) (t : String) (ts : List String) (hk : isKeyword t = false) :
    g_stmt (F + 1) ⟨mvs⟩ (t :: ts) = (modelStmt n mvs t ts).map ofRes := by
  have n1 := ne_of_notKw hk "$c" (by decide)
  have n2 := ne_of_notKw hk "$v" (by decide)
  have n3 := ne_of_notKw hk "$d" (by decide)
  have n4 := ne_of_notKw hk "${" (by decide)
  rw [g_stmt, modelStmt_tok n mvs t ts hk]
  cases ts with
  | nil => simp [gPeekLit, gPeekTOKEN, n1, n2, n3, n4]
  | cons x ts' =>
    simp only [gPeekLit_zero, gPeekLit_one, gPeekTOKEN_zero, hk, beq_iff_eq, n1, n2, n3, n4, ↓reduceIte, Bool.not_false,
      Bool.true_and, g_token_cons, Bool.false_eq_true, g_proof, proof, gLit_cons, Option.bind_eq_bind, Option.bind_some,
      Option.pure_def, List.cons_append, List.nil_append, Option.bind_assoc, essential_stmt_eq, axiom_stmt_eq, provable_stmt_eq,
      gPlus_gLit _ kw_dot, gPlus_gLit _ kw_eq, gStar_gLit _ kw_dot]
    by_cases hf : x = "$f"
    · subst hf
      simp only [↓reduceIte, Option.bind_some]
      rcases ts' with _ | ⟨tc, _ | ⟨v, _ | ⟨y, rest⟩⟩⟩
      · rfl
      · cases h1 : isKeyword tc <;> simp [g_token_nil, g_token_cons, h1]
      · cases h1 : isKeyword tc <;> cases h2 : isKeyword v <;> simp [g_token_cons, h1, h2, gLit_nil]
      · by_cases h3 : y = "$."
        · subst h3
          cases h1 : isKeyword tc <;> cases h2 : isKeyword v <;> simp [g_token_cons, gLit_self, floating_stmt_eq, h1, h2]
          split <;> rfl
        · cases h1 : isKeyword tc <;> cases h2 : isKeyword v <;> simp [g_token_cons, gLit_cons, h1, h2, h3]
    by_cases hea : x = "$e" ∨ x = "$a"
    · -- the same rule and the same callback, up to the class of the result
      rcases hea with rfl | rfl
      all_goals
        simp only [show ¬ "$e" = "$f" by decide, show ¬ "$a" = "$f" by decide, show ¬ "$a" = "$e" by decide, ↓reduceIte,
          Option.bind_some]
        rcases takeUntil "$." ts' with _ | ⟨_ | _, _⟩ <;> try rfl
        simp only [Option.bind_some, List.isEmpty_cons, Bool.false_eq_true, ↓reduceIte]
        cases parseTerms mvs _ <;> rfl
    obtain ⟨he, ha⟩ := not_or.mp hea
    by_cases hp : x = "$p"
    · subst hp
      simp only [show ¬ "$p" = "$f" by decide, show ¬ "$p" = "$e" by decide, show ¬ "$p" = "$a" by decide, ↓reduceIte,
        Option.bind_some]
      rcases takeUntil "$=" ts' with _ | ⟨body, r1⟩
      · rfl
      simp only [Option.bind_some]
      cases takeUntil "$." r1 <;> cases body <;> try rfl
      simp only [Option.bind_some, List.isEmpty_cons, Bool.false_eq_true, ↓reduceIte]
      cases parseTerms mvs _ <;> rfl
    · simp [hf, he, ha, hp]

theorem g_stmt_block (F n : Nat) (mvs ts : List String)
    (hb : genStmts F (ts.length + 1) true ⟨mvs⟩ ts = (parseStmtsF n true mvs ts).map ofRess) :
    g_stmt (F + 1) ⟨mvs⟩ ("${" :: ts) = (modelStmt n mvs "${" ts).map ofRes := by
  rw [g_stmt, modelStmt_block]
  simp only [gPeekLit_zero, gPeekTOKEN_zero, show isKeyword "${" = true by decide, show ("${" == "$c") = false by decide,
    show ("${" == "$v") = false by decide, show ("${" == "$d") = false by decide, beq_self_eq_true, ↓reduceIte, Bool.not_true,
    Bool.false_and, Bool.false_eq_true, gLit_self, Option.bind_eq_bind, Option.bind_some, gStar, Option.pure_def]
  -- the left side is `genStmts` with `block` applied to the statements
  refine Eq.trans (b := (genStmts F (ts.length + 1) true ⟨mvs⟩ ts).map fun y => (Stmt.Block y.1, y.2.1, y.2.2)) ?_ ?_
  · simp only [genStmts, ↓reduceIte]
    cases gStarF first_stmt (g_stmt F) (ts.length + 1) ⟨mvs⟩ ts with
    | none => rfl
    | some x => simp only [Option.bind_some]; cases gLit "$}" x.2.2 <;> rfl
  · rw [hb]; cases parseStmtsF n true mvs ts <;> rfl

theorem g_stmt_kw (F : Nat) (self : ASTTransformer) (t : String) (ts : List String)
    (hk : isKeyword t = true) (n1 : t ≠ "$c") (n2 : t ≠ "$v") (n3 : t ≠ "$d") (n4 : t ≠ "${") :
    g_stmt (F + 1) self (t :: ts) = none := by
  rw [g_stmt]
  simp [gPeekLit_zero, gPeekTOKEN_zero, hk, n1, n2, n3, n4]

/-- **one statement**: the rule function `g_stmt` (alternative chosen by its keyword prefix, children in grammar order, the
callback) is the statement branch of the model — given that for the body of a block (shorter) -/
theorem g_stmt_eq (F n : Nat) (mvs : List String) (t : String) (ts : List String)
    (hb : t = "${" → genStmts F (ts.length + 1) true ⟨mvs⟩ ts = (parseStmtsF n true mvs ts).map ofRess) :
    g_stmt (F + 1) ⟨mvs⟩ (t :: ts) = (modelStmt n mvs t ts).map ofRes := by
  by_cases h1 : t = "$c"
  · subst h1; exact g_stmt_c F n mvs ts
  by_cases h2 : t = "$v"
  · subst h2; exact g_stmt_v F n mvs ts
  by_cases h3 : t = "$d"
  · subst h3; exact g_stmt_d F n mvs ts
  by_cases h4 : t = "${"
  · subst h4; exact g_stmt_block F n mvs ts (hb rfl)
  by_cases hk : isKeyword t
  · rw [g_stmt_kw F _ t ts hk h1 h2 h3 h4, modelStmt_kw n mvs t ts hk h1 h2 h3 h4]; rfl
  · exact g_stmt_tok F n mvs t ts (by simpa using hk)

theorem first_stmt_false {t : String} (h : first_stmt t = false) :
    isKeyword t = true ∧ t ≠ "$c" ∧ t ≠ "$v" ∧ t ≠ "$d" ∧ t ≠ "${" := by
  simp only [first_stmt, keywords_eq, Bool.or_eq_false_iff, beq_eq_false_iff_ne, ne_eq, Bool.not_eq_eq_eq_not,
    Bool.not_false] at h
  obtain ⟨⟨⟨⟨a, b⟩, c⟩, d⟩, e⟩ := h
  exact ⟨e, a, b, c, d⟩

theorem genStmts_nil (F N : Nat) (b : Bool) (self : ASTTransformer) :
    genStmts F (N + 1) b self [] = if b then none else some ([], self, []) := by
  cases b <;> simp [genStmts, gStarF, gLit_nil, gEnd]

theorem genStmts_cons (F N : Nat) (b : Bool) (self : ASTTransformer) (t : String) (ts : List String) :
    genStmts F (N + 1) b self (t :: ts) =
      if first_stmt t then
        (g_stmt F self (t :: ts)).bind fun x =>
          (genStmts F N b x.2.1 x.2.2).map fun y => (x.1 :: y.1, y.2.1, y.2.2)
      else if b then (gLit "$}" (t :: ts)).map fun r => ([], self, r) else none := by
  simp only [genStmts, gStarF]
  by_cases hf : first_stmt t
  · simp only [hf, ↓reduceIte, Option.bind_eq_bind, Option.pure_def]
    cases g_stmt F self (t :: ts) with
    | none => simp
    | some x =>
      simp only [Option.bind_some]
      cases gStarF first_stmt (g_stmt F) N x.2.1 x.2.2 with
      | none => simp
      | some y => cases b <;> simp [Option.map_map, Function.comp_def]
  · cases b <;> simp [hf, gEnd]

/-- **`stmt*` + the callbacks = the model's `parseStmtsF`** (enough fuel on every side) -/
theorem genStmts_eq : ∀ (m : Nat) (ts : List String), ts.length ≤ m → ∀ (F N n : Nat) (b : Bool) (mvs : List String),
    ts.length ≤ F → ts.length + 1 ≤ N → ts.length + 1 ≤ n →
    genStmts F N b ⟨mvs⟩ ts = (parseStmtsF n b mvs ts).map ofRess
  | _, [], _, F, N, n, b, mvs, hF, hN, hn => by
      obtain ⟨N', rfl⟩ : ∃ N', N = N' + 1 := ⟨N - 1, by omega⟩
      obtain ⟨n', rfl⟩ : ∃ n', n = n' + 1 := ⟨n - 1, by omega⟩
      rw [genStmts_nil, parseStmtsF.eq_def]
      cases b <;> simp [ofRess, ofStmts]
  | 0, _ :: _, hm, _, _, _, _, _, _, _, _ => absurd hm (by simp)
  | m + 1, t :: ts', hm, F, N, n, b, mvs, hF, hN, hn => by
      have ih := genStmts_eq m
      obtain ⟨N', rfl⟩ : ∃ N', N = N' + 1 := ⟨N - 1, by omega⟩
      obtain ⟨n', rfl⟩ : ∃ n', n = n' + 1 := ⟨n - 1, by omega⟩
      simp only [List.length_cons] at hm hF hN hn
      obtain ⟨F', rfl⟩ : ∃ F', F = F' + 1 := ⟨F - 1, by omega⟩
      rw [genStmts_cons, parseStmtsF_cons]
      by_cases hc : t = "$}"
      · subst hc
        have : first_stmt "$}" = false := by decide
        cases b <;> simp [this, gLit_self, ofRess, ofStmts]
      · simp only [hc, ↓reduceIte]
        by_cases hf : first_stmt t
        · simp only [hf, ↓reduceIte]
          rw [g_stmt_eq F' n' mvs t ts' (fun _ => ih ts' (by omega) F' _ n' true mvs (by omega) (Nat.le_refl _) (by omega))]
          cases hms : modelStmt n' mvs t ts' with
          | none => simp
          | some x =>
            obtain ⟨s, mvs1, rest⟩ := x
            have hl := modelStmt_len hms
            simp only [Option.map_some, Option.bind_some, ofRes, Option.bind_eq_bind]
            rw [ih rest (by omega) (F' + 1) N' n' b mvs1 (by omega) (by omega) (by omega)]
            cases parseStmtsF n' b mvs1 rest <;> simp [ofRess, ofStmts]
        · have hf' : first_stmt t = false := by simpa using hf
          obtain ⟨hk, n1, n2, n3, n4⟩ := first_stmt_false hf'
          simp only [hf', Bool.false_eq_true, ↓reduceIte, modelStmt_kw n' mvs t ts' hk n1 n2 n3 n4, Option.bind_eq_bind, Option.bind_none, Option.map_none]
          cases b <;> simp [gLit_cons, hc]

/-- **`parse_database` is the model's `parseDb`** on every token list (fuel at least the number of tokens) -/
theorem parse_database_eq (F : Nat) (toks : List String) (hF : toks.length ≤ F) :
    parse_database F toks = (parseDb toks).map ofDb := by
  have h := genStmts_eq _ toks (Nat.le_refl _) F (toks.length + 1) (toks.length + 1) false [] hF (Nat.le_refl _) (Nat.le_refl _)
  -- `parse_database` is `genStmts` (outside a block) with `database` applied to the statements
  refine Eq.trans (b := (genStmts F (toks.length + 1) false ⟨[]⟩ toks).map fun y => Database.mk y.1) ?_ ?_
  · simp only [parse_database, g_database, gStar, ASTTransformer.new, database, genStmts, Option.bind_eq_bind, Option.pure_def,
      Bool.false_eq_true, ↓reduceIte]
    cases gStarF first_stmt (g_stmt F) (toks.length + 1) ⟨[]⟩ toks with
    | none => rfl
    | some x => simp only [Option.bind_some]; cases gEnd x.2.2 <;> rfl
  · rw [h, parseDb]; cases parseStmtsF (toks.length + 1) false [] toks <;> rfl

/-! ## the Encoder: the strings written, split at the ignored characters -/
/-- a character the grammar ignores between tokens (`%ignore /[ \n\t\f\r]+/`) -/
def isWs (c : Char) : Bool := ignoreChars.contains c
/-- what the lexer can deliver as ONE token and the printer must give back as one: non-empty, without ignored characters -/
def lexB (t : String) : Bool := !t.toList.isEmpty && t.toList.all fun c => !isWs c
def Lex (t : String) : Prop := lexB t = true
/-- the lexer's view of a text (a list of characters): the maximal runs of non-ignored characters -/
def lexTokens (text : List Char) : List String := splitWs isWs text

theorem tab_is_ws : (Encoder.new).tab.toList.all isWs = true := by decide
/-- a keyword terminal is never a `TOKEN` (it contains `$`), and is delivered whole (no ignored character) -/
theorem keywords_not_TOKEN : keywords.all (fun k => k.toList.any tokenExcluded.contains && lexB k) = true := by decide
/-- `TOKEN` = non-empty, no ignored character, no `$` -/
theorem tokenExcluded_eq : tokenExcluded = ignoreChars ++ ['$'] := by decide

theorem lex_all {ts : List String} (h : ts.all lexB = true) : ∀ t ∈ ts, Lex t := fun t ht => List.all_eq_true.mp h t ht
theorem Lex.ne_nil {t : String} (h : Lex t) : t.toList ≠ [] := by
  simp only [Lex, lexB, Bool.and_eq_true, Bool.not_eq_eq_eq_not, Bool.not_true, List.isEmpty_eq_false_iff] at h
  exact h.1
theorem Lex.no_ws {t : String} (h : Lex t) : ∀ c ∈ t.toList, isWs c = false := by
  simp only [Lex, lexB, Bool.and_eq_true, List.all_eq_true, Bool.not_eq_eq_eq_not, Bool.not_true] at h
  exact h.2
theorem Lex.truthy {t : String} (h : Lex t) : strTruthy t = true := by
  simp only [strTruthy, bne_iff_ne, ne_eq]
  intro e; subst e; exact h.ne_nil rfl

theorem splitAux_word : ∀ (w acc X : List Char), (∀ c ∈ w, isWs c = false) →
    splitAux isWs (w ++ X) acc = splitAux isWs X (w.reverse ++ acc)
  | [], acc, X, _ => by simp
  | c :: w, acc, X, h => by
      have hc : isWs c = false := h c (by simp)
      simp only [List.cons_append, splitAux, hc, Bool.false_eq_true, ↓reduceIte]
      rw [splitAux_word w (c :: acc) X (fun d hd => h d (by simp [hd]))]
      simp

theorem split_lex {t : String} (h : Lex t) {c : Char} (hc : isWs c = true) (X : List Char) :
    splitWs isWs (t.toList ++ c :: X) = t :: splitWs isWs X := by
  rw [splitWs, splitAux_word _ _ _ h.no_ws]
  have hne : t.toList.reverse.isEmpty = false := by
    have := h.ne_nil
    cases ht : t.toList with
    | nil => exact absurd ht this
    | cons a b => simp
  simp only [splitAux, hc, ↓reduceIte, List.append_nil, hne, Bool.false_eq_true, List.reverse_reverse, String.ofList_toList,
    splitWs]

theorem split_ws {c : Char} (hc : isWs c = true) (X : List Char) : splitWs isWs (c :: X) = splitWs isWs X := by
  simp [splitWs, splitAux, hc]

/-- `cs`, followed by an ignored character, is read as the tokens `T` -/
def Toks (cs : List Char) (T : List String) : Prop :=
  ∀ (c : Char) (X : List Char), isWs c = true → splitWs isWs (cs ++ c :: X) = T ++ splitWs isWs X
/-- `L` may follow anything that is read as tokens (it is empty or starts with an ignored character) -/
def LToks (L : List Char) (TL : List String) : Prop := ∀ A TA, Toks A TA → Toks (A ++ L) (TA ++ TL)
/-- `cs` ends its last token itself (it is empty or ends with an ignored character) -/
def TToks (cs : List Char) (T : List String) : Prop := ∀ X : List Char, splitWs isWs (cs ++ X) = T ++ splitWs isWs X

theorem Toks.nil : Toks [] [] := fun c X hc => by simp [split_ws hc]
theorem Toks.lex {t : String} (h : Lex t) : Toks t.toList [t] := fun c X hc => by simp [split_lex h hc]
theorem Toks.sep {A B : List Char} {TA TB : List String} (hA : Toks A TA) {c : Char} (hc : isWs c = true) (hB : Toks B TB) :
    Toks (A ++ c :: B) (TA ++ TB) := fun d X hd => by
  have := hA c (B ++ d :: X) hc
  simp only [List.append_assoc, List.cons_append] at this ⊢
  rw [this, hB d X hd]
theorem Toks.ws_cons {B : List Char} {TB : List String} {c : Char} (hc : isWs c = true) (hB : Toks B TB) : Toks (c :: B) TB := by
  have := Toks.sep Toks.nil hc hB
  simpa using this
theorem Toks.snoc_ws {A : List Char} {TA : List String} (hA : Toks A TA) {c : Char} (hc : isWs c = true) : Toks (A ++ [c]) TA := by
  have := Toks.sep hA hc Toks.nil
  simpa using this
theorem LToks.nil : LToks [] [] := fun A TA h => by simpa using h
theorem LToks.cons {c : Char} (hc : isWs c = true) {V L : List Char} {TV TL : List String} (hV : Toks V TV) (hL : LToks L TL) :
    LToks (c :: (V ++ L)) (TV ++ TL) := fun A TA hA => by
  have := hL _ _ (Toks.sep hA hc hV)
  simpa [List.append_assoc] using this
theorem TToks.nil : TToks [] [] := fun X => by simp
theorem TToks.append {A B : List Char} {TA TB : List String} (hA : TToks A TA) (hB : TToks B TB) : TToks (A ++ B) (TA ++ TB) :=
  fun X => by rw [List.append_assoc, hA, hB, List.append_assoc]
theorem Toks.toT {A : List Char} {TA : List String} (hA : Toks A TA) {c : Char} (hc : isWs c = true) : TToks (A ++ [c]) TA :=
  fun X => by simpa using hA c X hc

theorem written_append (a b : List PCall) : written (a ++ b) = written a ++ written b := by simp [written]
theorem written_single (s : String) : written [.write s] = s.toList := by simp [written]
theorem written_nil : written [] = [] := rfl
theorem written_cons (s : String) (a : List PCall) : written (.write s :: a) = s.toList ++ written a := by simp [written]
theorem written_indent (a : List PCall) : written (.indent :: a) = written a := by simp [written]
theorem written_deindent (a : List PCall) : written (.deindent :: a) = written a := by simp [written]

theorem ws_sp : isWs ' ' = true := by decide
theorem ws_nl : isWs '\n' = true := by decide

theorem lex_lp : Lex "(" := by unfold Lex; decide
theorem lex_rp : Lex ")" := by unfold Lex; decide

mutual
/-- **`Encoder.visit` on a term writes the model's `printTerm`** -/
theorem visit_Term_toks (self : Encoder) : ∀ (t : MTerm), (∀ x ∈ printTerm t, Lex x) →
    Toks (written (visit_Term self t)) (printTerm t)
  | .mv n, h => by
      simp only [visit_Term, printTerm, written_single]
      exact Toks.lex (h n (by simp [printTerm]))
  | .app s [], h => by
      simp only [visit_Term, printTerm, written_single, List.length_nil, beq_self_eq_true, ↓reduceIte]
      exact Toks.lex (h s (by simp [printTerm]))
  | .app s (a :: as), h => by
      have hs : Lex s := h s (by simp [printTerm])
      have hsub : ∀ x ∈ printTerms (a :: as), Lex x := fun x hx => h x (by simp [printTerm, hx])
      have hL := for1_toks self (a :: as) hsub
      have := Toks.sep (hL _ _ (Toks.sep (Toks.lex lex_lp) ws_sp (Toks.lex hs))) ws_sp (Toks.lex lex_rp)
      simp only [visit_Term, List.length_cons]
      simpa [written_cons, written_append, written_nil, show "( ".toList = ['(', ' '] by decide, show " )".toList = [' ', ')'] by decide,
        show "(".toList = ['('] by decide, show ")".toList = [')'] by decide, printTerm] using this
theorem for1_toks (self : Encoder) : ∀ (ts : List MTerm), (∀ x ∈ printTerms ts, Lex x) →
    LToks (written (postvisit_application_for1 self ts)) (printTerms ts)
  | [], _ => by simpa [postvisit_application_for1, printTerms, written_nil] using LToks.nil
  | t :: ts, h => by
      have h1 := visit_Term_toks self t (fun x hx => h x (by simp [printTerms, hx]))
      have h2 := for1_toks self ts (fun x hx => h x (by simp [printTerms, hx]))
      simpa [postvisit_application_for1, written_append, written_cons, show " ".toList = [' '] by decide, printTerms] using
        LToks.cons ws_sp h1 h2
end

/-! ### the loops over strings / metavariables / terms, the proof string -/
/-- a loop `for t in ts: self.write(' '); self.visit(t)` over terms (three of them in the `Encoder`) -/
theorem termLoop_toks (self : Encoder) (F : List MTerm → List PCall) (h0 : F [] = [])
    (hc : ∀ t ts, F (t :: ts) = [.write " "] ++ visit_Term self t ++ F ts) :
    ∀ (ts : List MTerm), (∀ x ∈ printTerms ts, Lex x) → LToks (written (F ts)) (printTerms ts)
  | [], _ => by simpa [h0, printTerms, written_nil] using LToks.nil
  | t :: ts, h => by
      have h1 := visit_Term_toks self t (fun x hx => h x (by simp [printTerms, hx]))
      have h2 := termLoop_toks self F h0 hc ts (fun x hx => h x (by simp [printTerms, hx]))
      simpa [hc, written_append, written_cons, show " ".toList = [' '] by decide, printTerms] using LToks.cons ws_sp h1 h2

theorem printTerms_map_mv : ∀ vs : List String, printTerms (vs.map MTerm.mv) = vs
  | [] => rfl
  | v :: vs => by simp [printTerms, printTerm, printTerms_map_mv vs]

/-- such a loop over metavariables (`$v`, `$d`) writes their names -/
theorem mvLoop_toks (self : Encoder) (F : List MTerm → List PCall) (h0 : F [] = [])
    (hc : ∀ t ts, F (t :: ts) = [.write " "] ++ visit_Term self t ++ F ts) (vs : List String) (h : ∀ x ∈ vs, Lex x) :
    LToks (written (F (vs.map MTerm.mv))) vs := by
  simpa [printTerms_map_mv] using termLoop_toks self F h0 hc (vs.map MTerm.mv) (by rwa [printTerms_map_mv])

theorem terms_for1_toks (self : Encoder) : ∀ (ts : List MTerm), (∀ x ∈ printTerms ts, Lex x) →
    LToks (written (postvisit_structured_statement_for1 self ts)) (printTerms ts) :=
  termLoop_toks self _ rfl (fun _ _ => rfl)

theorem inter_cons (sep : List Char) (t : List Char) : ∀ (rest : List (List Char)),
    sep.intercalate (t :: rest) = t ++ (rest.flatMap fun x => sep ++ x)
  | [] => by simp [List.intercalate]
  | a :: r => by
      have := inter_cons sep a r
      simp only [List.intercalate] at this ⊢
      simp [List.intersperse, this]

/-- the characters of the proof string `' '.join(pf)` the parser stores -/
theorem join_chars (t : String) (rest : List String) :
    (pyJoin " " (t :: rest)).toList = t.toList ++ (rest.flatMap fun x => ' ' :: x.toList) := by
  simp [pyJoin, String.toList_intercalate, inter_cons, List.flatMap_map]

theorem join_nil : (pyJoin " " []).toList = [] := by simp [pyJoin, String.intercalate]

theorem tail_toks : ∀ (rest : List String), (∀ x ∈ rest, Lex x) → LToks (rest.flatMap fun x => ' ' :: x.toList) rest
  | [], _ => by simpa using LToks.nil
  | t :: rest, h => by
      have h2 := tail_toks rest (fun x hx => h x (by simp [hx]))
      simpa using LToks.cons ws_sp (Toks.lex (h t (by simp))) h2

theorem const_for1_toks (self : Encoder) (cs : List String) (h : ∀ x ∈ cs, Lex x) :
    LToks (written (postvisit_constant_statement_for1 self cs)) cs := by
  have e : written (postvisit_constant_statement_for1 self cs) = cs.flatMap fun x => ' ' :: x.toList := by
    induction cs with
    | nil => rfl
    | cons c cs ih =>
      simp [postvisit_constant_statement_for1, written_cons, show " ".toList = [' '] by decide, ih fun x hx => h x (by simp [hx])]
  rw [e]
  exact tail_toks cs h

/-- **the proof string and the proof tokens**: behind a blank, `' '.join(pf)` is read as the tokens `pf` -/
theorem proof_string_toks (pf : List String) (h : ∀ x ∈ pf, Lex x) : LToks (' ' :: (pyJoin " " pf).toList) pf := by
  cases pf with
  | nil =>
    rw [join_nil]
    simpa using LToks.cons ws_sp Toks.nil LToks.nil
  | cons t rest =>
    rw [join_chars]
    simpa using LToks.cons ws_sp (Toks.lex (h t (by simp))) (tail_toks rest (fun x hx => h x (by simp [hx])))

/-- conversely the proof tokens are the proof string split at the ignored characters (`.split()`) -/
theorem proof_string_tokens (pf : List String) (h : ∀ x ∈ pf, Lex x) : lexTokens ((pyJoin " " pf).toList ++ [' ']) = pf := by
  have := proof_string_toks pf h [] [] Toks.nil ' ' [] ws_sp
  simp only [List.nil_append, splitWs, splitAux] at this
  have e : splitWs isWs (' ' :: ((pyJoin " " pf).toList ++ [' '])) = lexTokens ((pyJoin " " pf).toList ++ [' ']) :=
    split_ws ws_sp _
  rw [← e]
  simpa [splitWs, splitAux] using this

theorem lex_c : Lex "$c" := by unfold Lex; decide
theorem lex_v : Lex "$v" := by unfold Lex; decide
theorem lex_d : Lex "$d" := by unfold Lex; decide
theorem lex_f : Lex "$f" := by unfold Lex; decide
theorem lex_e : Lex "$e" := by unfold Lex; decide
theorem lex_a : Lex "$a" := by unfold Lex; decide
theorem lex_p : Lex "$p" := by unfold Lex; decide
theorem lex_eq : Lex "$=" := by unfold Lex; decide
theorem lex_dot : Lex "$." := by unfold Lex; decide
theorem lex_lb : Lex "${" := by unfold Lex; decide
theorem lex_rb : Lex "$}" := by unfold Lex; decide

theorem TToks.then {B C : List Char} {TB TC : List String} (hB : TToks B TB) (hC : Toks C TC) : Toks (B ++ C) (TB ++ TC) :=
  fun c X hc => by rw [List.append_assoc, hB, hC c X hc, List.append_assoc]

/-- `$c`, `$v`, `$d`: the keyword, the loop over the operands, ` $.` -/
theorem kw_loop_toks {k : String} (hk : Lex k) {L : List PCall} {T : List String} (hL : LToks (written L) T) :
    Toks (written ([.write k] ++ L ++ [.write " $."])) (k :: (T ++ ["$."])) := by
  have := Toks.sep (hL _ _ (Toks.lex hk)) ws_sp (Toks.lex lex_dot)
  simpa [written_append, written_cons, written_nil, show " $.".toList = ' ' :: "$.".toList by decide] using this

/-- a structured statement without proof (`$f`, `$e`, `$a`): label, blank, `$` and the type letter (two writes, one token `k`),
the terms, ` $.` -/
theorem structured_toks (self : Encoder) (S : Stmt) (k ty : String) (hl : Lex S.label) (hk : Lex k)
    (hty : get_statement_type self S = ty) (hkty : k.toList = '$' :: ty.toList) (hp : isProvableStatement S = false)
    (hts : ∀ x ∈ printTerms S.terms, Lex x) :
    Toks (written (postvisit_structured_statement self S)) (S.label :: k :: (printTerms S.terms ++ ["$."])) := by
  have e : written (postvisit_structured_statement self S) =
      ((S.label.toList ++ ' ' :: k.toList) ++ written (postvisit_structured_statement_for1 self S.terms)) ++ ' ' :: "$.".toList := by
    simp [postvisit_structured_statement, hty, hkty, hp, hl.truthy, written_append, written_cons, written_nil,
      show " $.".toList = ' ' :: "$.".toList by decide, show " ".toList = [' '] by decide, show "$".toList = ['$'] by decide]
  rw [e]
  have := Toks.sep (terms_for1_toks self _ hts _ _ (Toks.sep (Toks.lex hl) ws_sp (Toks.lex hk))) ws_sp (Toks.lex lex_dot)
  simpa using this

mutual
/-- **`Encoder.visit` on a statement of the model writes the model's `printStmt`** (`omit_proof=False`) -/
theorem visit_Stmt_toks (self : Encoder) (ho : self.omit_proof = false) : ∀ (s : MStmt), (∀ x ∈ printStmt s, Lex x) →
    Toks (written (visit_Stmt self (ofStmt s))) (printStmt s)
  | .const cs, h => by
      simpa [ofStmt, visit_Stmt, printStmt] using
        kw_loop_toks lex_c (const_for1_toks self cs (fun x hx => h x (by simp [printStmt, hx])))
  | .var vs, h => by
      simpa [ofStmt, visit_Stmt, printStmt] using
        kw_loop_toks lex_v (mvLoop_toks self _ rfl (fun _ _ => rfl) vs (fun x hx => h x (by simp [printStmt, hx])))
  | .disj vs, h => by
      simpa [ofStmt, visit_Stmt, printStmt] using
        kw_loop_toks lex_d (mvLoop_toks self _ rfl (fun _ _ => rfl) vs (fun x hx => h x (by simp [printStmt, hx])))
  | .float l tc v, h => by
      have := structured_toks self (ofStmt (.float l tc v)) "$f" "f" (h l (by simp [printStmt])) lex_f rfl (by decide) rfl
        (fun x hx => h x (by simp [ofStmt, Stmt.terms, printTerms, printTerm] at hx; rcases hx with rfl | rfl <;> simp [printStmt]))
      simpa [visit_Stmt, ofStmt, Stmt.label, Stmt.terms, printStmt, printTerms, printTerm] using this
  | .ess l ts, h => by
      have := structured_toks self (ofStmt (.ess l ts)) "$e" "e" (h l (by simp [printStmt])) lex_e rfl (by decide) rfl
        (fun x hx => h x (by simp [printStmt]; exact .inr (.inr (.inl hx))))
      simpa [visit_Stmt, ofStmt, Stmt.label, Stmt.terms, printStmt] using this
  | .ax l ts, h => by
      have := structured_toks self (ofStmt (.ax l ts)) "$a" "a" (h l (by simp [printStmt])) lex_a rfl (by decide) rfl
        (fun x hx => h x (by simp [printStmt]; exact .inr (.inr (.inl hx))))
      simpa [visit_Stmt, ofStmt, Stmt.label, Stmt.terms, printStmt] using this
  | .prov l ts pf, h => by
      have hl : Lex l := h l (by simp [printStmt])
      have hts : ∀ x ∈ printTerms ts, Lex x := fun x hx => h x (by simp [printStmt, hx])
      have hpf : ∀ x ∈ pf, Lex x := fun x hx => h x (by simp [printStmt, hx])
      have h1 := terms_for1_toks self ts hts _ _ (Toks.sep (Toks.lex hl) ws_sp (Toks.lex lex_p))
      have h2 := proof_string_toks pf hpf _ _ (Toks.sep h1 ws_sp (Toks.lex lex_eq))
      simpa [visit_Stmt, ofStmt, postvisit_structured_statement, get_statement_type, isFloatingStatement, isEssentialStatement,
          isAxiomaticStatement, isProvableStatement, Stmt.label, Stmt.proof, ho,
          Stmt.terms, hl.truthy, written_append, written_cons, written_nil, show " $.".toList = ' ' :: "$.".toList by decide,
          show " ".toList = [' '] by decide, show "$".toList = ['$'] by decide, show "p".toList = ['p'] by decide,
          show "$p".toList = ['$', 'p'] by decide, show " $= ".toList = [' ', '$', '=', ' '] by decide,
          show "$=".toList = ['$', '='] by decide, printStmt] using Toks.sep h2 ws_sp (Toks.lex lex_dot)
  | .block ss, h => by
      have hss : ∀ x ∈ printStmts ss, Lex x := fun x hx => h x (by simp [printStmt, hx])
      simpa [ofStmt, visit_Stmt, written_append, written_cons, written_nil, written_indent, written_deindent,
          show "${ ".toList = ['$', '{', ' '] by decide, show "${".toList = ['$', '{'] by decide, printStmt] using
        Toks.sep (Toks.lex lex_lb) ws_sp ((block_for1_toks self ho ss (ofStmts ss) 0 hss).then (Toks.lex lex_rb))
theorem block_for1_toks (self : Encoder) (ho : self.omit_proof = false) : ∀ (ss : List MStmt) (all : List Stmt) (i : Nat),
    (∀ x ∈ printStmts ss, Lex x) → TToks (written (postvisit_block_for1 self all (ofStmts ss) i)) (printStmts ss)
  | [], all, i, _ => by simpa [ofStmts, postvisit_block_for1, printStmts, written_nil] using TToks.nil
  | s :: ss, all, i, h => by
      have h1 := visit_Stmt_toks self ho s (fun x hx => h x (by simp [printStmts, hx]))
      have h2 := block_for1_toks self ho ss all (i + 1) (fun x hx => h x (by simp [printStmts, hx]))
      -- the separator is a newline, after the last statement a blank: an ignored character either way
      by_cases hi : i + 1 != all.length
      · simpa [ofStmts, postvisit_block_for1, hi, written_append, written_cons, show "\n".toList = ['\n'] by decide, printStmts]
          using (h1.toT ws_nl).append h2
      · simpa [ofStmts, postvisit_block_for1, hi, written_append, written_cons, show " ".toList = [' '] by decide, printStmts]
          using (h1.toT ws_sp).append h2
end

/-- the loop of `postvisit_database` is that of `postvisit_block` where the test `i + 1 != len(block.statements)` never fails -/
theorem database_for1_eq (self : Encoder) : ∀ (ss : List Stmt) (i : Nat),
    postvisit_database_for1 self ss = postvisit_block_for1 self [] ss i
  | [], _ => by simp [postvisit_database_for1, postvisit_block_for1]
  | s :: ss, i => by simp [postvisit_database_for1, postvisit_block_for1, database_for1_eq self ss (i + 1)]

theorem db_for1_toks (self : Encoder) (ho : self.omit_proof = false) (ss : List MStmt) (h : ∀ x ∈ printStmts ss, Lex x) :
    TToks (written (postvisit_database_for1 self (ofStmts ss))) (printStmts ss) :=
  database_for1_eq self _ 0 ▸ block_for1_toks self ho ss [] 0 h

/-- a term / a statement alone: followed by one blank (or a newline), the text is read as the model's tokens -/
theorem encode_term_tokens (self : Encoder) (t : MTerm) (h : ∀ x ∈ printTerm t, Lex x) :
    lexTokens (written (visit_Term self t) ++ [' ']) = printTerm t := by
  simpa [lexTokens, splitWs, splitAux] using visit_Term_toks self t h ' ' [] ws_sp

theorem encode_stmt_tokens (self : Encoder) (ho : self.omit_proof = false) (s : MStmt) (h : ∀ x ∈ printStmt s, Lex x) :
    lexTokens (written (visit_Stmt self (ofStmt s)) ++ ['\n']) = printStmt s := by
  simpa [lexTokens, splitWs, splitAux] using visit_Stmt_toks self ho s h '\n' [] ws_nl

/-- **the Encoder's text, split at the ignored characters, is the model's `printDb`** — for every database of the model whose
strings (labels, symbols, variables, proof tokens) are lexemes: non-empty, without ignored characters -/
theorem encode_tokens (self : Encoder) (ho : self.omit_proof = false) (db : MDb) (h : ∀ x ∈ printDb db, Lex x) :
    lexTokens (written (encode self (ofDb db))) = printDb db := by
  have := db_for1_toks self ho db h []
  simpa [lexTokens, encode, visit_Database, ofDb, printDb, splitWs, splitAux] using this

/-- **printing a parsed database and parsing the text again gives the same database** — for the GENERATED parser and Encoder:
`toks` = what the lexer delivered (lexemes), `F` any fuel ≥ their number; the text the Encoder writes (the concatenation of the
written strings) is lexed to the same tokens, and parsed to the same database -/
theorem print_parse_text (F : Nat) (toks : List String) (db : Database) (self : Encoder) (ho : self.omit_proof = false)
    (hlex : ∀ t ∈ toks, Lex t) (hF : toks.length ≤ F) (h : parse_database F toks = some db) :
    lexTokens (written (encode self db)) = toks ∧
    parse_database F (lexTokens (written (encode self db))) = some db := by
  rw [parse_database_eq F toks hF] at h
  simp only [Option.map_eq_some_iff] at h
  obtain ⟨mdb, hp, rfl⟩ := h
  have hpr := MM.print_parse toks mdb hp
  have ht : lexTokens (written (encode self (ofDb mdb))) = toks := by
    rw [encode_tokens self ho mdb (by rw [hpr]; exact hlex), hpr]
  refine ⟨ht, ?_⟩
  rw [ht, parse_database_eq F toks hF, hp]; rfl

/-! ## non-vacuity: the example of `Pi2/MM/AstThm.lean` through the generated parser and Encoder -/
theorem exToks_lex : ∀ t ∈ MM.exToks, Lex t := lex_all (by decide)

theorem ex_parse : parse_database MM.exToks.length MM.exToks = some (ofDb MM.exDb) := by
  rw [parse_database_eq _ _ (Nat.le_refl _), MM.exToks_parse]; rfl

theorem ex_roundtrip :
    lexTokens (written (encode Encoder.new (ofDb MM.exDb))) = MM.exToks ∧
    parse_database MM.exToks.length (lexTokens (written (encode Encoder.new (ofDb MM.exDb)))) = some (ofDb MM.exDb) :=
  print_parse_text _ _ _ Encoder.new rfl exToks_lex (Nat.le_refl _) ex_parse

/-- the parser rejects something: `l $a ( a ) $.` (`assert i > 2`) and a `$c` without constants -/
theorem ex_rejects : parse_database 6 ["x", "$a", "(", "a", ")", "$."] = none ∧ parse_database 2 ["$c", "$."] = none := by
  constructor <;> (rw [parse_database_eq _ _ (by simp)]; rfl)

end AstTie

#print axioms AstTie.parse_terms_eq
#print axioms AstTie.parse_term_eq
#print axioms AstTie.g_stmt_eq
#print axioms AstTie.genStmts_eq
#print axioms AstTie.parse_database_eq
#print axioms AstTie.visit_Term_toks
#print axioms AstTie.visit_Stmt_toks
#print axioms AstTie.encode_tokens
#print axioms AstTie.proof_string_tokens
#print axioms AstTie.print_parse_text
