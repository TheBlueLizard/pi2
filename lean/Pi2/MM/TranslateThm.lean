import Pi2.MM.Translate
import Pi2.ModuleThm
import Pi2.MM.Succeeds
import Pi2.MM.Accept
/-!
# The Metamath translator (`exec_proof` + `execute_full`) against the Metamath verifier and the checker

* `MM.translate_succeeds` (T1): a compressed proof accepted by `mmVerify` over a well-formed database is
  translated (for enough fuel, any memoisation configuration); the translation proves its claim.
  Proof: `MM.Inv` (`Pi2/MM/Sim.lean`) relates the verifier's stack/heap to the tracker's stack and
  `mm_memory`, elementwise up to notation, on the simple fragment `NPat.F0`; one lemma per label
  (`sim_bin`, `sim_ctor`, `sim_rule`, `sim_p1`, `sim_p2`, `sim_mp`, …); `image_subst`: the converter's
  image commutes with substitution.
* `MM.translate_accepted` (T2): the checker accepts the serialised translation and publishes exactly
  the images of the database's axioms and of the goal.  The side conditions (`AllSideM`) that
  `module_accepted` assumes are *derived* here (`MM.translate_side`) from `db.wf` and `CanonCalls`.
  `MM.translate_trackAll`: the replay hypothesis `hT` is derivable from `hex`.
* `MM.translate_layout_independent` (T3): two translations of proofs of the same goal publish the same
  journal.
-/
open Pat PySt NPat

namespace MM

/-- T1 (translation succeeds; the tracker's stack simulates the Metamath stack). -/
theorem translate_succeeds (cfg : PySt.Cfg) (db : DB) (goal : Term) (labels : List Lbl)
    (steps : List Nat) (hwf : db.wf = true) (hv : mmVerify db goal labels steps = true) :
    ∃ n s calls, translateFull cfg n db goal labels steps = some (some (s, calls)) ∧ s.claims = [] :=
  translate_succeeds_core cfg db goal labels steps hwf hv

/-- T2 (the checker accepts the translation; the journal is the structural image). -/
theorem translate_accepted (cfg : PySt.Cfg) (n : Nat) (db : DB) (goal : Term) (labels : List Lbl)
    (steps : List Nat) (s : PySt) (calls : List Call) (g c p : List Instr)
    (hwf : db.wf = true)
    (hex : translateFull cfg n db goal labels steps = some (some (s, calls)))
    (hT : PySt.trackAll n (PySt.init [image db goal]) calls ([], [], []) = some (some (s, (g, c, p))))
    (hcanon : CanonCalls [] calls) (hfin : s.claims = []) :
    verify g c p = some (db.axiomImages.map NPat.expand, [(image db goal).expand]) :=
  translate_accepted_core cfg n db goal labels steps s calls g c p hwf hex hT hcanon hfin

/-- T2 without the replay hypothesis: the calls collected by the translator are accepted by the
serializer (`translate_trackAll`), and the streams it writes are accepted by the checker. -/
theorem translate_accepted' (cfg : PySt.Cfg) (n : Nat) (db : DB) (goal : Term) (labels : List Lbl)
    (steps : List Nat) (s : PySt) (calls : List Call)
    (hwf : db.wf = true)
    (hex : translateFull cfg n db goal labels steps = some (some (s, calls)))
    (hcanon : CanonCalls [] calls) (hfin : s.claims = []) :
    ∃ g c p,
      PySt.trackAll n (PySt.init [image db goal]) calls ([], [], []) = some (some (s, (g, c, p))) ∧
      verify g c p = some (db.axiomImages.map NPat.expand, [(image db goal).expand]) := by
  obtain ⟨g, c, p, hT⟩ := translate_trackAll cfg n db goal labels steps s calls hwf hex
  exact ⟨g, c, p, hT, translate_accepted cfg n db goal labels steps s calls g c p hwf hex hT hcanon hfin⟩

/-- T1 + T2: a verifying Metamath proof yields streams that the checker accepts (given canonical
symbol names), publishing the image of the database and of the goal. -/
theorem translate_verifies (cfg : PySt.Cfg) (db : DB) (goal : Term) (labels : List Lbl)
    (steps : List Nat) (hwf : db.wf = true) (hv : mmVerify db goal labels steps = true) :
    ∃ n s calls g c p,
      translateFull cfg n db goal labels steps = some (some (s, calls)) ∧
      PySt.trackAll n (PySt.init [image db goal]) calls ([], [], []) = some (some (s, (g, c, p))) ∧
      (CanonCalls [] calls →
        verify g c p = some (db.axiomImages.map NPat.expand, [(image db goal).expand])) := by
  obtain ⟨n, s, calls, hex, hfin⟩ := translate_succeeds cfg db goal labels steps hwf hv
  obtain ⟨g, c, p, hT⟩ := translate_trackAll cfg n db goal labels steps s calls hwf hex
  exact ⟨n, s, calls, g, c, p, hex, hT, fun hcanon =>
    translate_accepted cfg n db goal labels steps s calls g c p hwf hex hT hcanon hfin⟩

/-- T3 (layout independence): two translations — of any two compressed proofs of the same goal over the
same database, with any fuel and memoisation configuration — are accepted with the same journal. -/
theorem translate_layout_independent (cfg₁ cfg₂ : PySt.Cfg) (n₁ n₂ : Nat) (db : DB) (goal : Term)
    (labels₁ labels₂ : List Lbl) (steps₁ steps₂ : List Nat)
    (s₁ s₂ : PySt) (calls₁ calls₂ : List Call) (g₁ c₁ p₁ g₂ c₂ p₂ : List Instr)
    (hwf : db.wf = true)
    (hex₁ : translateFull cfg₁ n₁ db goal labels₁ steps₁ = some (some (s₁, calls₁)))
    (hT₁ : PySt.trackAll n₁ (PySt.init [image db goal]) calls₁ ([], [], [])
      = some (some (s₁, (g₁, c₁, p₁))))
    (hcanon₁ : CanonCalls [] calls₁) (hfin₁ : s₁.claims = [])
    (hex₂ : translateFull cfg₂ n₂ db goal labels₂ steps₂ = some (some (s₂, calls₂)))
    (hT₂ : PySt.trackAll n₂ (PySt.init [image db goal]) calls₂ ([], [], [])
      = some (some (s₂, (g₂, c₂, p₂))))
    (hcanon₂ : CanonCalls [] calls₂) (hfin₂ : s₂.claims = []) :
    verify g₁ c₁ p₁ = verify g₂ c₂ p₂ ∧
      verify g₁ c₁ p₁ = some (db.axiomImages.map NPat.expand, [(image db goal).expand]) := by
  have h1 := translate_accepted cfg₁ n₁ db goal labels₁ steps₁ s₁ calls₁ g₁ c₁ p₁ hwf hex₁ hT₁ hcanon₁ hfin₁
  have h2 := translate_accepted cfg₂ n₂ db goal labels₂ steps₂ s₂ calls₂ g₂ c₂ p₂ hwf hex₂ hT₂ hcanon₂ hfin₂
  exact ⟨h1.trans h2.symm, h1⟩

/-! ## non-vacuity: a concrete database and two compressed proofs of the same goal -/

/-- floats `0 1 2`; a binary constructor and a constant; one axiom with two essential hypotheses
(`|- x`, `|- ( \imp x y )` ⊢ `|- y`); the three proof rules -/
def exDB : DB :=
  { floats := [0, 1, 2], impArgs := (0, 1), appArgs := (0, 1), ctors := [{ sym := 7, args := [0, 1] }, { sym := 3, args := [] }],
    rules := [⟨[.var 0, .imp (.var 0) (.var 1)], .var 1⟩], p1 := (0, 1), p2 := (0, 1, 2), mp := (0, 1) }

/-- `( \imp x ( \imp y x ) )` -/
def exA : Term := .imp (.var 0) (.imp (.var 1) (.var 0))
/-- `( \imp z ( \imp x ( \imp y x ) ) )` -/
def exB : Term := .imp (.var 2) exA

def exLabels : List Lbl := [.float 0, .float 1, .float 2, .impC, .p1, .rule 0, .mp]
/-- builds `#Pattern A`, `#Pattern B` (with `Z` marks and reuse), proves `|- A` and `|- ( \imp A B )` by
`proof-rule-prop-1`, and closes with the database's axiom -/
def exSteps₁ : List Nat := [1, 2, 1, 4, 4, 0, 3, 8, 4, 0, 1, 2, 5, 8, 3, 5, 6]
/-- the same, closing with `proof-rule-mp` -/
def exSteps₂ : List Nat := [1, 2, 1, 4, 4, 0, 3, 8, 4, 0, 8, 3, 5, 1, 2, 5, 7]

example : exDB.wf = true := by decide
example : mmVerify exDB exB exLabels exSteps₁ = true := by decide
example : mmVerify exDB exB exLabels exSteps₂ = true := by decide
/-- a prop-1 instance with a saved and reused pattern -/
example : mmVerify exDB (.imp (.imp (.var 0) (.var 1)) (.imp (.imp (.var 0) (.var 1)) (.imp (.var 0) (.var 1))))
    [.float 0, .float 1, .impC, .p1] [1, 2, 3, 0, 5, 4] = true := by decide

/-- the hypotheses of T1 are met by the example, so its conclusion holds for it -/
example : ∃ n s calls, translateFull {} n exDB exB exLabels exSteps₁ = some (some (s, calls)) ∧
    s.claims = [] :=
  translate_succeeds {} exDB exB exLabels exSteps₁ (by decide) (by decide)

end MM

#print axioms MM.translate_succeeds
#print axioms MM.translate_accepted
#print axioms MM.translate_accepted'
#print axioms MM.translate_verifies
#print axioms MM.translate_layout_independent
#print axioms MM.translate_trackAll
#print axioms MM.translate_side
