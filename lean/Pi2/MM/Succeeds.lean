import Pi2.MM.Sim
/-!
# T1: a verifying Metamath proof translates
-/
set_option linter.unusedSimpArgs false
set_option linter.unusedVariables false
open Pat PySt NPat

namespace MM

theorem pub_mono (cfg : Cfg) {n m : Nat} (h : n ≤ m) (c : Call) (as : List NPat) (s : PySt)
    (acc : List Call) :
    OLe (translateFull.pub cfg n s acc c as) (translateFull.pub cfg m s acc c as) :=
  OLe.of_step (fun n => translateFull.pub cfg n s acc c as) (fun n => pub_step cfg n c as s acc) h

/-- the gamma and claim loops return -/
theorem pub_total (cfg : Cfg) (c : Call) (ph : Phase)
    (hc : (c = .publishAxiom ∧ ph = .gamma) ∨ (c = .publishClaim ∧ ph = .claim)) :
    ∀ (as : List NPat) (s : PySt) (acc : List Call), (∀ a ∈ as, a.B0 = true) → StF0 s →
    s.phase = ph →
    ∃ n s' a', translateFull.pub cfg n s acc c as = some (some (s', a')) ∧ StF0 s' ∧
      s'.phase = ph ∧ s'.claims = s.claims ∧ (∀ u ∈ s.memory, u ∈ s'.memory) ∧
      (c = .publishAxiom → ∀ a ∈ as, TTerm.proved a ∈ s'.memory) := by
  intro as
  induction as with
  | nil =>
    intro s acc _ hs hph
    exact ⟨0, s, acc, rfl, hs, hph, rfl, fun _ h => h, fun _ a ha => by simp at ha⟩
  | cons a r ih =>
    intro s acc has hs hph
    have haB := has a (by simp)
    obtain ⟨n1, s1, a1, h1⟩ := patternF_term cfg a s acc haB hs
    obtain ⟨cs, hcs, _, hstk, hsf1, hfr, _⟩ := patternF_tr cfg (Nat.le_refl n1) haB hs h1
    simp only [List.singleton_append] at hstk
    obtain ⟨e, he⟩ := hfr.2.2.1
    -- the publish call
    have hpub : ∃ s2, (∀ n, track1 n s1 c = some (some s2)) ∧ StF0 s2 ∧ s2.phase = ph ∧
        s2.claims = s.claims ∧ (∀ u ∈ s1.memory, u ∈ s2.memory) ∧
        (c = .publishAxiom → TTerm.proved a ∈ s2.memory) := by
      rcases hc with ⟨rfl, rfl⟩ | ⟨rfl, rfl⟩
      · refine ⟨{ s1 with stack := (.pat a, true) :: s.stack, memory := s1.memory ++ [.proved a] },
          ?_, ?_, ?_, ?_, ?_, ?_⟩
        · intro n; simp [track1, hfr.1, hph, hstk]
        · refine ⟨?_, ?_, hsf1.2.2⟩
          · intro e he
            rcases List.mem_cons.mp he with rfl | he
            · exact B0.toF0 a haB
            · exact hs.1 e he
          · intro u hu
            rcases List.mem_append.mp hu with hu | hu
            · exact hsf1.2.1 u hu
            · simp at hu; subst hu; exact B0.toF0 a haB
        · exact hfr.1.trans hph
        · exact hfr.2.1
        · intro u hu; exact List.mem_append_left _ hu
        · intro _; simp
      · refine ⟨{ s1 with stack := (.pat a, true) :: s.stack }, ?_, ?_, ?_, ?_, ?_, ?_⟩
        · intro n; simp [track1, hfr.1, hph, hstk]
        · refine ⟨?_, hsf1.2.1, hsf1.2.2⟩
          intro e he
          rcases List.mem_cons.mp he with rfl | he
          · exact B0.toF0 a haB
          · exact hs.1 e he
        · exact hfr.1.trans hph
        · exact hfr.2.1
        · intro u hu; exact hu
        · intro e; cases e
    obtain ⟨s2, ht2, hsf2, hph2, hcl2, hm2, hax2⟩ := hpub
    obtain ⟨n3, s', a', h3, hsf', hph', hcl', hm', hax'⟩ :=
      ih s2 (a1 ++ [c]) (fun x hx => has x (List.mem_cons_of_mem _ hx)) hsf2 hph2
    refine ⟨max n1 n3, s', a', ?_, hsf', hph', hcl'.trans hcl2, ?_, ?_⟩
    · simp only [translateFull.pub, Option.bind_eq_bind]
      rw [patternF_mono cfg (Nat.le_max_left n1 n3) _ _ _ _ h1]
      simp only [Option.bind_some, doCalls_ok _ s1 s2 c a1 (ht2 _)]
      exact pub_mono cfg (Nat.le_max_right n1 n3) _ _ _ _ _ h3
    · intro u hu
      exact hm' u (hm2 u (by rw [he]; exact List.mem_append_left _ hu))
    · intro hc' x hx
      rcases List.mem_cons.mp hx with rfl | hx
      · exact hm' _ (hax2 hc')
      · exact hax' hc' x hx

theorem execProof_mono (cfg : Cfg) {n m : Nat} (h : n ≤ m) (db : DB) (goal : Term)
    (labels : List Lbl) (steps : List Nat) (s : PySt) (acc : List Call) :
    OLe (execProof cfg n db goal labels steps s acc) (execProof cfg m db goal labels steps s acc) :=
  OLe.of_step (fun n => execProof cfg n db goal labels steps s acc)
    (fun n => execProof_step cfg n db goal labels steps s acc) h

/-- the proof phase -/
theorem execProof_total (cfg : Cfg) (db : DB) (goal : Term) (hwf : db.WF) (labels : List Lbl)
    (steps : List Nat) (s : PySt) (acc : List Call) (hinv : Inv db goal [] [] ⟨s, acc, []⟩)
    (hv : mmVerify db goal labels steps = true) :
    ∃ n s' a', execProof cfg n db goal labels steps s acc = some (some (s', a')) ∧ s'.claims = [] := by
  unfold mmVerify at hv
  split at hv
  · next st heap hrun =>
    have hst := Stmt.beq_eq _ _ hv
    subst hst
    obtain ⟨n1, x, hx, hi⟩ := sim_vrun cfg db goal hwf labels steps [] [] _ _ ⟨s, acc, []⟩ hinv hrun
    obtain ⟨T, hT, hr⟩ := hi.stack
    match T, hr with
    | [t], hr =>
    obtain ⟨⟨p, rfl, hpF, hpe⟩, _⟩ := hr
    simp only [if_true, List.map_cons, List.map_nil, ent] at hT
    obtain ⟨n2, hpeq⟩ := peqF_total p (image db goal) hpF (B0.toF0 _ (image_B0 db goal))
    rw [hpe] at hpeq
    simp only [decide_true] at hpeq
    have hpub : track1 n2 x.s .publishProof
        = some (some { x.s with stack := [(.proved p, true)], claims := [] }) := by
      simp [track1, hi.phase, hT, hi.claims, hpeq]
    refine ⟨max n1 n2, { x.s with stack := [(.proved p, true)], claims := [] },
      x.calls ++ [.publishProof], ?_, rfl⟩
    simp only [execProof, Option.bind_eq_bind]
    rw [xrun_mono cfg (Nat.le_max_left n1 n2) _ _ _ _ _ hx]
    simp only [Option.bind_some, hT]
    rw [peqF_mono (Nat.le_max_right n1 n2) _ _ _ hpeq]
    simp only [Option.bind_some, if_true]
    have hR : Reach (max n1 n2) x.s [.publishProof]
        { x.s with stack := [(.proved p, true)], claims := [] } :=
      ⟨_, track1_mono (Nat.le_max_right n1 n2) _ _ _ hpub, rfl⟩
    rw [doC_reach hR]
    rfl
  · simp at hv

/-- T1. A proof that the Metamath verifier accepts is translated (for enough fuel, under any
memoisation configuration), and the translation proves its one claim. -/
theorem translate_succeeds_core (cfg : PySt.Cfg) (db : DB) (goal : Term) (labels : List Lbl)
    (steps : List Nat) (hwf : db.wf = true) (hv : mmVerify db goal labels steps = true) :
    ∃ n s calls, translateFull cfg n db goal labels steps = some (some (s, calls)) ∧ s.claims = [] := by
  have hWF := db.wf_WF hwf
  have hg0 : (image db goal).F0 = true := B0.toF0 _ (image_B0 db goal)
  have hs0 : StF0 (PySt.init [image db goal]) :=
    ⟨by simp [PySt.init], by simp [PySt.init], by simp [PySt.init]; exact hg0⟩
  -- gamma
  obtain ⟨n1, s1, a1, h1, hsf1, hph1, hcl1, _, hax1⟩ := pub_total cfg .publishAxiom .gamma
    (Or.inl ⟨rfl, rfl⟩) db.axiomImages (PySt.init [image db goal]) [] (implChain_mem_B0 db) hs0 rfl
  have ht1 : ∀ n, track1 n s1 .intoClaim = some (some { s1 with phase := .claim, stack := [] }) := by
    intro n; simp [track1, hph1]
  have hsf2 : StF0 { s1 with phase := .claim, stack := [] } := ⟨by simp, hsf1.2.1, hsf1.2.2⟩
  -- claim
  obtain ⟨n2, s3, a3, h3, hsf3, hph3, hcl3, hm3, _⟩ := pub_total cfg .publishClaim .claim
    (Or.inr ⟨rfl, rfl⟩) [image db goal].reverse { s1 with phase := .claim, stack := [] }
    (a1 ++ [.intoClaim]) (by simp; exact image_B0 db goal) hsf2 rfl
  have ht3 : ∀ n, track1 n s3 .intoProof = some (some { s3 with phase := .proof, stack := [] }) := by
    intro n; simp [track1, hph3]
  -- proof
  have hinv : Inv db goal [] [] ⟨{ s3 with phase := .proof, stack := [] }, a3 ++ [.intoProof], []⟩ := by
    refine ⟨rfl, ?_, ⟨[], rfl, trivial⟩, trivial, by simp, ?_, hsf3.2.1⟩
    · show s3.claims = _
      rw [hcl3]; show s1.claims = _; rw [hcl1]; rfl
    · intro r hr
      refine ⟨.proved (implChain db r.hyps r.concl), ?_, rfl⟩
      apply hm3
      exact hax1 rfl _ (List.mem_map_of_mem (f := fun r => implChain db r.hyps r.concl) hr)
  obtain ⟨n4, s', a', h4, hfin⟩ := execProof_total cfg db goal hWF labels steps _ _ hinv hv
  refine ⟨max n1 (max n2 n4), s', a', ?_, hfin⟩
  simp only [translateFull, Option.bind_eq_bind]
  rw [pub_mono cfg (Nat.le_max_left _ _) _ _ _ _ _ h1]
  simp only [Option.bind_some, doCalls_ok _ s1 _ .intoClaim a1 (ht1 _)]
  rw [pub_mono cfg (Nat.le_trans (Nat.le_max_left n2 n4) (Nat.le_max_right _ _)) _ _ _ _ _ h3]
  simp only [Option.bind_some, doCalls_ok _ s3 _ .intoProof a3 (ht3 _)]
  exact execProof_mono cfg (Nat.le_trans (Nat.le_max_right n2 n4) (Nat.le_max_right _ _)) _ _ _ _ _ _ _ h4

end MM
#print axioms MM.translate_succeeds_core
