import Pi2.MM.F0
import Pi2.MM.XMono
/-!
# The tracker on the simple fragment: side conditions of single calls, traces, `Interpreter.pattern`
-/
set_option linter.unusedSimpArgs false
set_option linter.unusedVariables false
open Pat PySt NPat

namespace MM

/-! ## states over the fragment -/

def StF0 (s : PySt) : Prop :=
  (∀ e ∈ s.stack, e.1.body.F0 = true) ∧ (∀ t ∈ s.memory, t.body.F0 = true) ∧
    (∀ c ∈ s.claims, c.F0 = true)

theorem StF0.shape {s : PySt} (h : StF0 s) : ShapeSt s :=
  ⟨fun e he => F0.shape _ (h.1 e he), fun t ht => F0.shape _ (h.2.1 t ht),
    fun c hc => F0.shape _ (h.2.2 c hc)⟩

theorem StF0.setStack {s : PySt} (h : StF0 s) (S : List (TTerm × Bool))
    (hS : ∀ e ∈ S, e.1.body.F0 = true) : StF0 { s with stack := S } := ⟨hS, h.2.1, h.2.2⟩

theorem StF0.cons {s : PySt} (h : StF0 s) (t : TTerm) (b : Bool) (st : List (TTerm × Bool))
    (ht : t.body.F0 = true) (hst : ∀ e ∈ st, e ∈ s.stack) :
    StF0 { s with stack := (t, b) :: st } := by
  apply h.setStack
  intro e he
  rcases List.mem_cons.mp he with rfl | he
  · exact ht
  · exact h.1 e (hst e he)

theorem StF0.push {s : PySt} (h : StF0 s) (t : TTerm) (ht : t.body.F0 = true) : StF0 (s.push t) :=
  h.cons t false s.stack ht (fun _ h => h)

theorem StF0.addMem {s : PySt} (h : StF0 s) (t : TTerm) (ht : t.body.F0 = true) :
    StF0 { s with memory := s.memory ++ [t] } := by
  refine ⟨h.1, ?_, h.2.2⟩
  intro u hu
  rcases List.mem_append.mp hu with hu | hu
  · exact h.2.1 u hu
  · simp at hu; subst hu; exact ht

/-! ## side conditions without the symbol-naming condition -/

def SideNS (s : PySt) (c : Call) : Prop :=
  SideCond s c ∧ touchesResidue s c = false ∧
  (∀ keys, (c = .instantiate keys ∨ c = .instantiatePattern keys) → keys.Nodup) ∧
  (∀ t, c = .load t → t.body.Shape = true) ∧
  (∀ id ef sf ps ns hs, c = .metavar id ef sf ps ns hs → ef = [] ∧ sf = [])

def AllNS (n : Nat) : PySt → List Call → Prop
  | _, [] => True
  | s, c :: cs => ((c = .intoClaim ∨ c = .intoProof) ∨ SideNS s c) ∧
      ∀ s', track1 n s c = some (some s') → AllNS n s' cs

/-- every call but `symbol` leaves the symbol table alone: each branch of `track1` that answers changes other fields only -/
theorem track1_symtab (n : Nat) (s s' : PySt) (c : Call) (hc : ∀ nm, c ≠ .symbol nm)
    (ht : track1 n s c = some (some s')) : s'.symtab = s.symtab := by
  cases c <;> simp only [track1, Option.bind_eq_bind, Option.pure_def] at ht
  case symbol nm => exact absurd rfl (hc nm)
  all_goals
    repeat' first
      | split at ht
      | (simp only [Option.bind_eq_some_iff] at ht; obtain ⟨_, _, ht⟩ := ht)
  all_goals first | (cases ht; rfl) | cases ht

theorem allSideM_of_NS (n : Nat) : ∀ (cs : List Call) (s : PySt), AllNS n s cs →
    CanonCalls s.symtab cs → AllSideM n s cs := by
  intro cs
  induction cs with
  | nil => intro s _ _; trivial
  | cons c cs ih =>
    intro s h hc
    obtain ⟨h1, h2⟩ := h
    by_cases hsym : ∃ nm, c = .symbol nm
    · obtain ⟨nm, rfl⟩ := hsym
      simp only [CanonCalls] at hc
      refine ⟨?_, ?_⟩
      · rcases h1 with (e | e) | hok
        · cases e
        · cases e
        · exact Or.inr ⟨hok.1, hok.2.1, fun nm' e => by cases e; exact hc.1, hok.2.2.1, hok.2.2.2.1,
            hok.2.2.2.2⟩
      · intro s' hs'
        apply ih s' (h2 s' hs')
        have : s'.symtab = if s.symtab.contains nm then s.symtab else s.symtab ++ [nm] := by
          simp only [track1, Option.some.injEq] at hs'; subst hs'; rfl
        rw [this]; exact hc.2
    · have hns : ∀ nm, c ≠ .symbol nm := fun nm e => hsym ⟨nm, e⟩
      have hc' : CanonCalls s.symtab cs := by
        cases c <;> first | exact hc | exact absurd rfl (hns _)
      refine ⟨?_, ?_⟩
      · rcases h1 with e | hok
        · exact Or.inl e
        · exact Or.inr ⟨hok.1, hok.2.1, fun nm e => absurd e (hns nm), hok.2.2.1, hok.2.2.2.1,
            hok.2.2.2.2⟩
      · intro s' hs'
        apply ih s' (h2 s' hs')
        rw [track1_symtab n s s' c hns hs']; exact hc'

/-! ## traces: the calls lead from `s` to `s'` with fuel `n`, and satisfy the side conditions -/

def Tr (n : Nat) (s : PySt) (cs : List Call) (s' : PySt) : Prop := Reach n s cs s' ∧ AllNS n s cs

theorem Tr.nil (n : Nat) (s : PySt) : Tr n s [] s := ⟨rfl, trivial⟩

theorem Tr.cons {n : Nat} {s s1 s' : PySt} {c : Call} {cs : List Call}
    (ht : track1 n s c = some (some s1)) (hs : (c = .intoClaim ∨ c = .intoProof) ∨ SideNS s c)
    (h : Tr n s1 cs s') : Tr n s (c :: cs) s' := by
  refine ⟨⟨s1, ht, h.1⟩, hs, ?_⟩
  intro s2 hs2
  rw [ht] at hs2
  cases hs2
  exact h.2

theorem Tr.single {n : Nat} {s s' : PySt} {c : Call}
    (ht : track1 n s c = some (some s')) (hs : (c = .intoClaim ∨ c = .intoProof) ∨ SideNS s c) :
    Tr n s [c] s' := Tr.cons ht hs (Tr.nil n s')

theorem Tr.append {n : Nat} {cs1 cs2 : List Call} {s s1 s' : PySt}
    (h1 : Tr n s cs1 s1) (h2 : Tr n s1 cs2 s') : Tr n s (cs1 ++ cs2) s' := by
  induction cs1 generalizing s with
  | nil =>
    have : s1 = s := h1.1
    subst this
    simpa using h2
  | cons c cs ih =>
    obtain ⟨⟨s2, hs2, hr⟩, hside, hrest⟩ := h1
    exact Tr.cons hs2 hside (ih ⟨hr, hrest s2 hs2⟩)

theorem reach_exec {n : Nat} {s s' : PySt} {cs : List Call} (h : Reach n s cs s') : Exec s cs s' := by
  induction cs generalizing s with
  | nil => simp only [Reach] at h; subst h; exact .nil _
  | cons c cs ih =>
    obtain ⟨s1, h1, h2⟩ := h
    exact .cons n h1 (ih h2)

theorem reach_mono {n m : Nat} (hnm : n ≤ m) {s s' : PySt} {cs : List Call} (h : Reach n s cs s') :
    Reach m s cs s' := by
  induction cs generalizing s with
  | nil => exact h
  | cons c cs ih =>
    obtain ⟨s1, h1, h2⟩ := h
    exact ⟨s1, track1_mono hnm _ _ _ h1, ih h2⟩

theorem doCalls_reach (n : Nat) : ∀ (cs : List Call) (s : PySt) (acc : List Call) (s' : PySt)
    (a' : List Call), doCalls n s cs acc = some (some (s', a')) → a' = acc ++ cs ∧ Reach n s cs s' := by
  intro cs
  induction cs with
  | nil =>
    intro s acc s' a' h
    simp only [doCalls, Option.some.injEq, Prod.mk.injEq] at h
    exact ⟨by simp [h.2], h.1.symm⟩
  | cons c cs ih =>
    intro s acc s' a' h
    simp only [doCalls, Option.bind_eq_bind, Option.bind_eq_some_iff] at h
    obtain ⟨o, ho, h⟩ := h
    cases o with
    | none => simp at h
    | some s1 =>
      obtain ⟨e, hr⟩ := ih s1 _ s' a' h
      exact ⟨by simp [e], s1, ho, hr⟩

theorem reach_doCalls (n : Nat) : ∀ (cs : List Call) (s : PySt) (acc : List Call) (s' : PySt),
    Reach n s cs s' → doCalls n s cs acc = some (some (s', acc ++ cs)) := by
  intro cs
  induction cs with
  | nil => intro s acc s' h; simp only [Reach] at h; subst h; simp [doCalls]
  | cons c cs ih =>
    intro s acc s' h
    obtain ⟨s1, h1, h2⟩ := h
    simp only [doCalls, h1, Option.bind_eq_bind, Option.bind_some]
    rw [ih s1 _ s' h2]
    simp

/-! ## side conditions of the calls the translator makes -/

theorem sideNS_mk (s : PySt) (c : Call) (h1 : SideCond s c) (h2 : touchesResidue s c = false)
    (hk : ∀ keys, c ≠ .instantiate keys ∧ c ≠ .instantiatePattern keys) (hl : ∀ t, c ≠ .load t)
    (hm : ∀ id ef sf ps ns hs, c ≠ .metavar id ef sf ps ns hs) : SideNS s c :=
  ⟨h1, h2, (fun keys e => by rcases e with e | e; exact absurd e (hk keys).1; exact absurd e (hk keys).2),
    (fun t e => absurd e (hl t)), (fun id ef sf ps ns hs e => absurd e (hm id ef sf ps ns hs))⟩

theorem sideNS_symbol (s : PySt) (nm : Nat) : SideNS s (.symbol nm) :=
  sideNS_mk s _ trivial (by simp [touchesResidue, Call.arity]) (by simp) (by simp) (by simp)

theorem sideNS_mvclean (s : PySt) (id : Nat) : SideNS s (.metavar id [] [] [] [] []) :=
  ⟨by simp [SideCond], by simp [touchesResidue, Call.arity],
    (fun _ e => by rcases e with e | e <;> cases e),
    (fun _ e => by cases e), (fun _ _ _ _ _ _ e => by cases e; exact ⟨rfl, rfl⟩)⟩

theorem sideNS_prop1 (s : PySt) : SideNS s .prop1 :=
  sideNS_mk s _ trivial (by simp [touchesResidue, Call.arity]) (by simp) (by simp) (by simp)

theorem sideNS_prop2 (s : PySt) : SideNS s .prop2 :=
  sideNS_mk s _ trivial (by simp [touchesResidue, Call.arity]) (by simp) (by simp) (by simp)

theorem sideNS_load (s : PySt) (t : TTerm) (ht : t.body.Shape = true) : SideNS s (.load t) :=
  ⟨trivial, by simp [touchesResidue, Call.arity], (fun _ e => by rcases e with e | e <;> cases e),
    (fun _ e => by cases e; exact ht), (fun _ _ _ _ _ _ e => by cases e)⟩

/-- calls that look at the top entry only -/
theorem sideNS_top1 (s : PySt) (c : Call) (t : TTerm) (st : List (TTerm × Bool))
    (hs : s.stack = (t, false) :: st)
    (hc : c = .save ∨ c = .pop ∨ c = .publishProof ∨ c = .publishAxiom ∨ c = .publishClaim) :
    SideNS s c := by
  rcases hc with rfl | rfl | rfl | rfl | rfl <;>
  exact sideNS_mk s _ trivial (by simp [touchesResidue, Call.arity, hs]) (by simp) (by simp) (by simp)

/-- calls that look at the two top entries -/
theorem sideNS_top2 (s : PySt) (c : Call) (t u : TTerm) (st : List (TTerm × Bool))
    (hs : s.stack = (t, false) :: (u, false) :: st)
    (hc : c = .implies ∨ c = .app ∨ c = .mp) : SideNS s c := by
  rcases hc with rfl | rfl | rfl <;>
  exact sideNS_mk s _ trivial (by simp [touchesResidue, Call.arity, hs]) (by simp) (by simp) (by simp)

theorem sideNS_inst (s : PySt) (c : Call) (keys : List Nat)
    (hc : c = .instantiate keys ∨ c = .instantiatePattern keys) (hnd : keys.Nodup)
    (t : TTerm) (st : List (TTerm × Bool)) (hs : s.stack = (t, false) :: st)
    (hres : (st.take keys.length).any (·.2) = false) (ht : t.body.F0 = true) : SideNS s c := by
  have hsc : ∀ a b st0 plugs st', s.stack = (a, b) :: st0 →
      PySt.takePlugs keys.length st0 = some (plugs, st') →
      (Pat.inst (Py.lookup (NPat.expand.expandMap (keys.zip plugs))) a.body.expand).isSome = true := by
    intro a b st0 plugs st' hs' _
    rw [hs] at hs'
    cases hs'
    exact Pat.inst_simple _ _ (F0.simple _ ht)
  rcases hc with rfl | rfl
  · exact ⟨hsc, by simp [touchesResidue, Call.arity, hs, List.take_succ_cons, hres],
      (fun _ e => by rcases e with e | e <;> cases e; exact hnd),
      (fun _ e => by cases e), (fun _ _ _ _ _ _ e => by cases e)⟩
  · exact ⟨hsc, by simp [touchesResidue, Call.arity, hs, List.take_succ_cons, hres],
      (fun _ e => by rcases e with e | e <;> cases e; exact hnd),
      (fun _ e => by cases e), (fun _ _ _ _ _ _ e => by cases e)⟩

/-! ## `Interpreter.pattern` on notation-free patterns -/

/-- calls made on top of `s0`: trace with fuel `N`, new entries `top`, the rest framed -/
def PostTr (N : Nat) (s0 : PySt) (top : List (TTerm × Bool)) (acc : List Call) (s : PySt)
    (a : List Call) : Prop :=
  ∃ cs, a = acc ++ cs ∧ Tr N s0 cs s ∧ s.stack = top ++ s0.stack ∧ StF0 s ∧ Frame s0 s ∧
    ∀ c ∈ cs, c.quiet = true

theorem PostTr.init (N : Nat) (s : PySt) (acc : List Call) (h : StF0 s) : PostTr N s [] acc s acc :=
  ⟨[], by simp, Tr.nil N s, rfl, h, Frame.refl s, by simp⟩

theorem PostTr.trans {N : Nat} {s0 s1 s2 : PySt} {t1 t2 : List (TTerm × Bool)}
    {acc a1 a2 : List Call} (h1 : PostTr N s0 t1 acc s1 a1) (h2 : PostTr N s1 t2 a1 s2 a2) :
    PostTr N s0 (t2 ++ t1) acc s2 a2 := by
  obtain ⟨c1, rfl, tr1, k1, _, f1, q1⟩ := h1
  obtain ⟨c2, rfl, tr2, k2, sf2, f2, q2⟩ := h2
  refine ⟨c1 ++ c2, by simp, tr1.append tr2, by rw [k2, k1, List.append_assoc], sf2, f1.trans f2, ?_⟩
  intro c hc
  rcases List.mem_append.mp hc with hc | hc
  · exact q1 c hc
  · exact q2 c hc

theorem PostTr.step {N : Nat} {s0 s s' : PySt} {top top' : List (TTerm × Bool)} {acc a : List Call}
    (c : Call) (hp : PostTr N s0 top acc s a) (ht : track1 N s c = some (some s'))
    (hside : SideNS s c) (hstk : s'.stack = top' ++ s0.stack) (hsf : StF0 s')
    (hq : c.quiet = true) : PostTr N s0 top' acc s' (a ++ [c]) := by
  obtain ⟨cs, rfl, tr, _, _, f, q⟩ := hp
  have hns := quiet_noswitch hq
  refine ⟨cs ++ [c], by simp, tr.append (Tr.single ht (Or.inr hside)), hstk, hsf,
    f.trans (track1_frame N s s' c (quiet_nopublishProof hq) hns.1 hns.2 ht), ?_⟩
  intro x hx
  rcases List.mem_append.mp hx with hx | hx
  · exact q x hx
  · simp at hx; subst hx; exact hq

theorem track1_load_eq {n : Nat} {s s' : PySt} {t : TTerm}
    (h : track1 n s (.load t) = some (some s')) : s' = s.push t := by
  simp only [track1, Option.bind_eq_bind, Option.bind_eq_some_iff] at h
  obtain ⟨oi, _, h⟩ := h
  cases oi with
  | none => simp at h
  | some i => simp only [Option.pure_def, Option.some.injEq] at h; exact h.symm

/-- a successful single call made through `doCalls` -/
theorem doCalls_one {n : Nat} {s s' : PySt} {c : Call} {acc a' : List Call}
    (h : doCalls n s [c] acc = some (some (s', a'))) :
    track1 n s c = some (some s') ∧ a' = acc ++ [c] := by
  obtain ⟨x, hx, e⟩ := (doCalls_single n s c acc _).mp h
  cases x with
  | none => simp at e
  | some s1 =>
    simp only [Option.map_some, Option.some.injEq, Prod.mk.injEq] at e
    obtain ⟨rfl, rfl⟩ := e
    exact ⟨hx, rfl⟩

def PatTrOK (cfg : Cfg) (N k : Nat) : Prop :=
  ∀ s p acc s' a', p.B0 = true → StF0 s → patternF cfg k s p acc = some (some (s', a')) →
    PostTr N s [(.pat p, false)] acc s' a'

theorem build_tr (cfg : Cfg) (N k : Nat) (hk : k ≤ N) (ih : PatTrOK cfg N k)
    (s : PySt) (p : NPat) (acc : List Call) (s' : PySt) (a' : List Call)
    (hp : p.B0 = true) (hs : StF0 s) (h : buildF cfg k s p acc = some (some (s', a'))) :
    PostTr N s [(.pat p, false)] acc s' a' := by
  have hP0 := PostTr.init N s acc hs
  have two : ∀ (l r : NPat) (c : Call) (res : NPat), l.B0 = true → r.B0 = true →
      (c = .implies ∨ c = .app) → res.F0 = true →
      (∀ (s2 : PySt) st, s2.stack = (.pat r, false) :: (.pat l, false) :: st →
        ∀ n, track1 n s2 c = some (some { s2 with stack := (.pat res, false) :: st })) →
      c.quiet = true →
      (andThen (patternF cfg k s l acc) fun s1 a1 =>
        andThen (patternF cfg k s1 r a1) fun s2 a2 => doCalls k s2 [c] a2) = some (some (s', a')) →
      PostTr N s [(.pat res, false)] acc s' a' := by
    intro l r c res hl hr hc hres htr hq h
    rcases andThen_eq_some _ _ _ h with ⟨_, e⟩ | ⟨s1, a1, h1, h⟩
    · cases e
    rcases andThen_eq_some _ _ _ h with ⟨_, e⟩ | ⟨s2, a2, h2, h⟩
    · cases e
    have p1 := ih s l acc s1 a1 hl hs h1
    have p2 := ih s1 r a1 s2 a2 hr p1.choose_spec.2.2.2.1 h2
    have p12 := p1.trans p2
    obtain ⟨ht, rfl⟩ := doCalls_one h
    have hstk : s2.stack = (.pat r, false) :: (.pat l, false) :: s.stack := by
      obtain ⟨_, _, _, hk', _⟩ := p12
      simpa using hk'
    have ht' := htr s2 s.stack hstk k
    rw [ht'] at ht
    simp only [Option.some.injEq] at ht
    subst ht
    have hsf2 : StF0 s2 := p12.choose_spec.2.2.2.1
    refine p12.step c (htr s2 s.stack hstk N) ?_ rfl ?_ hq
    · exact sideNS_top2 s2 c _ _ _ hstk (by rcases hc with rfl | rfl <;> simp)
    · exact hsf2.cons _ _ _ hres (fun e he => by rw [hstk]; simp [he])
  cases p, hp using B0.ind with
  | sym x =>
    simp only [buildF] at h
    obtain ⟨ht, rfl⟩ := doCalls_one h
    have ht' : track1 N s (.symbol x) = some (some s') := track1_mono hk _ _ _ ht
    cases ht
    exact hP0.step _ ht' (sideNS_symbol s x) rfl
      ⟨fun e he => by
          rcases List.mem_cons.mp he with rfl | he
          · rfl
          · exact hs.1 e he, hs.2.1, hs.2.2⟩ rfl
  | mv id =>
    simp only [buildF] at h
    obtain ⟨ht, rfl⟩ := doCalls_one h
    have ht' : track1 N s (.metavar id [] [] [] [] []) = some (some s') := track1_mono hk _ _ _ ht
    cases ht
    exact hP0.step _ ht' (sideNS_mvclean s id) rfl (hs.push _ (by rfl)) rfl
  | imp l r hl hr =>
    simp only [buildF] at h
    exact two l r .implies (.imp l r) hl hr (Or.inl rfl) (by simp [F0, B0.toF0 l hl, B0.toF0 r hr])
      (fun s2 st hstk n => by simp [track1, hstk]) rfl h
  | app l r hl hr =>
    simp only [buildF] at h
    exact two l r .app (.app l r) hl hr (Or.inr rfl) (by simp [F0, B0.toF0 l hl, B0.toF0 r hr])
      (fun s2 st hstk n => by simp [track1, hstk]) rfl h

theorem patternF_trOK (cfg : Cfg) (N : Nat) : ∀ k, k ≤ N → PatTrOK cfg N k := by
  intro k
  induction k with
  | zero => intro _ s p acc s' a' _ _ h; simp [patternF] at h
  | succ k ih =>
    intro hk s p acc s' a' hp hs h
    have ihk := ih (by omega)
    rw [patternF_succ] at h
    simp only [Option.bind_eq_some_iff] at h
    obtain ⟨hit, _, h⟩ := h
    cases hit with
    | true =>
      simp only [if_true] at h
      obtain ⟨ht, rfl⟩ := doCalls_one h
      have e := track1_load_eq ht
      subst e
      exact (PostTr.init N s acc hs).step _ (track1_mono (by omega) _ _ _ ht)
        (sideNS_load s _ (F0.shape _ (B0.toF0 p hp))) rfl (hs.push _ (B0.toF0 p hp)) rfl
    | false =>
      simp only [Bool.false_eq_true, if_false] at h
      rcases andThen_eq_some _ _ _ h with ⟨_, e⟩ | ⟨s1, a1, hb, h⟩
      · cases e
      have p1 := build_tr cfg N k (by omega) ihk s p acc s1 a1 hp hs hb
      unfold saveF at h
      split at h
      · split at h
        · obtain ⟨ht, rfl⟩ := doCalls_one h
          have hstk : s1.stack = (.pat p, false) :: s.stack := by
            obtain ⟨_, _, _, hk', _⟩ := p1
            simpa using hk'
          have hsf1 : StF0 s1 := p1.choose_spec.2.2.2.1
          have ht2 : ∀ n, track1 n s1 .save
              = some (some { s1 with memory := s1.memory ++ [.pat p] }) := by
            intro n; simp [track1, hstk]
          rw [ht2 k] at ht
          simp only [Option.some.injEq] at ht
          subst ht
          exact p1.step _ (ht2 N) (sideNS_top1 s1 _ _ _ hstk (Or.inl rfl)) hstk
            (hsf1.addMem _ (B0.toF0 p hp)) rfl
        · simp only [Option.some.injEq, Prod.mk.injEq] at h
          obtain ⟨rfl, rfl⟩ := h
          exact p1
      · simp only [Option.some.injEq, Prod.mk.injEq] at h
        obtain ⟨rfl, rfl⟩ := h
        exact p1

/-- `Interpreter.pattern` (plain or memoising) on a notation-free pattern: it pushes exactly that
pattern; the calls it makes satisfy the side conditions -/
theorem patternF_tr (cfg : Cfg) {N k : Nat} (hk : k ≤ N) {s : PySt} {p : NPat} {acc : List Call}
    {s' : PySt} {a' : List Call} (hp : p.B0 = true) (hs : StF0 s)
    (h : patternF cfg k s p acc = some (some (s', a'))) :
    PostTr N s [(.pat p, false)] acc s' a' := patternF_trOK cfg N k hk s p acc s' a' hp hs h

end MM
namespace MM

/-! ## termination of the tracker on the fragment -/

theorem teqF_term (a b : TTerm) (ha : a.body.F0 = true) (hb : b.body.F0 = true) :
    ∃ n r, teqF n a b = some r := by
  cases a <;> cases b
  · obtain ⟨n, h⟩ := peqF_total _ _ ha hb; exact ⟨n, _, h⟩
  · exact ⟨0, _, rfl⟩
  · exact ⟨0, _, rfl⟩
  · obtain ⟨n, h⟩ := peqF_total _ _ ha hb; exact ⟨n, _, h⟩

theorem teqF_mono {n m : Nat} (h : n ≤ m) (a b : TTerm) : OLe (teqF n a b) (teqF m a b) :=
  OLe.of_step (fun n => teqF n a b) (fun n => teqF_step n a b) h

theorem indexF_mono {n m : Nat} (h : n ≤ m) (t : TTerm) (mem : List TTerm) (i : Nat) :
    OLe (indexF n t mem i) (indexF m t mem i) :=
  OLe.of_step (fun n => indexF n t mem i) (fun n => indexF_step n t mem i) h

theorem inMemoryF_mono {n m : Nat} (h : n ≤ m) (p : NPat) (mem : List TTerm) :
    OLe (inMemoryF n p mem) (inMemoryF m p mem) :=
  OLe.of_step (fun n => inMemoryF n p mem) (fun n => inMemoryF_step n p mem) h

theorem indexF_term (t : TTerm) (ht : t.body.F0 = true) : ∀ (mem : List TTerm),
    (∀ u ∈ mem, u.body.F0 = true) → ∀ i, ∃ n r, indexF n t mem i = some r := by
  intro mem
  induction mem with
  | nil => intro _ i; exact ⟨0, _, rfl⟩
  | cons u r ih =>
    intro hm i
    obtain ⟨n1, b, hb⟩ := teqF_term u t (hm u (by simp)) ht
    obtain ⟨n2, x, hx⟩ := ih (fun v hv => hm v (List.mem_cons_of_mem _ hv)) (i + 1)
    refine ⟨max n1 n2, if b then some i else x, ?_⟩
    simp only [indexF, Option.bind_eq_bind, Option.pure_def]
    rw [teqF_mono (Nat.le_max_left n1 n2) _ _ _ hb]
    cases b
    · simpa using indexF_mono (Nat.le_max_right n1 n2) _ _ _ _ hx
    · simp

theorem inMemoryF_term (p : NPat) (hp : p.F0 = true) : ∀ (mem : List TTerm),
    (∀ u ∈ mem, u.body.F0 = true) → ∃ n r, inMemoryF n p mem = some r := by
  intro mem
  induction mem with
  | nil => intro _; exact ⟨0, _, rfl⟩
  | cons u r ih =>
    intro hm
    obtain ⟨n1, b, hb⟩ := teqF_term u (.pat p) (hm u (by simp)) hp
    obtain ⟨n2, x, hx⟩ := ih (fun v hv => hm v (List.mem_cons_of_mem _ hv))
    refine ⟨max n1 n2, if b then true else x, ?_⟩
    simp only [inMemoryF, Option.bind_eq_bind, Option.pure_def]
    rw [teqF_mono (Nat.le_max_left n1 n2) _ _ _ hb]
    cases b
    · simpa using inMemoryF_mono (Nat.le_max_right n1 n2) _ _ _ hx
    · simp

/-- `load` of a term that is in memory (up to notation) -/
theorem load_total (s : PySt) (t : TTerm) (hs : StF0 s) (ht : t.body.F0 = true)
    (hm : ∃ u ∈ s.memory, convT u = convT t) :
    ∃ n, track1 n s (.load t) = some (some (s.push t)) := by
  obtain ⟨n, r, h⟩ := indexF_term t ht s.memory hs.2.1 0
  cases r with
  | none =>
    obtain ⟨u, hu, e⟩ := hm
    exact absurd e (indexF_none n t (F0.shape _ ht) s.memory (fun v hv => F0.shape _ (hs.2.1 v hv)) 0 h
      u hu)
  | some i => exact ⟨n, tr_load n s t i h⟩

theorem memoHitF_mono (cfg : Cfg) {n m : Nat} (h : n ≤ m) (p : NPat) (s : PySt) :
    OLe (memoHitF cfg n p s) (memoHitF cfg m p s) :=
  OLe.of_step (fun n => memoHitF cfg n p s) (fun n => memoHitF_step cfg n p s) h

theorem memoHitF_term (cfg : Cfg) (p : NPat) (hp : p.F0 = true) (s : PySt) (hs : StF0 s) :
    ∃ n b, memoHitF cfg n p s = some b := by
  unfold memoHitF
  split
  · exact ⟨0, _, rfl⟩
  · exact inMemoryF_term p hp s.memory hs.2.1

/-- a single call returns (possibly raising) once its fuel-dependent part does -/
theorem doCalls_one_term {s : PySt} {c : Call} (acc : List Call)
    (h : ∃ n r, track1 n s c = some r) : ∃ n r, doCalls n s [c] acc = some r := by
  obtain ⟨n, r, h⟩ := h
  exact ⟨n, _, (doCalls_single n s c acc _).mpr ⟨r, h, rfl⟩⟩

theorem patternF_term (cfg : Cfg) : ∀ (p : NPat) (s : PySt) (acc : List Call), p.B0 = true → StF0 s →
    ∃ n s' a', patternF cfg n s p acc = some (some (s', a')) := by
  -- it suffices to return at all: `Interpreter.pattern` does not raise on shaped patterns
  have up : ∀ (p : NPat) (s : PySt) (acc : List Call), p.B0 = true → StF0 s →
      (∃ n r, patternF cfg n s p acc = some r) →
      ∃ n s' a', patternF cfg n s p acc = some (some (s', a')) := by
    intro p s acc hp hs ⟨n, r, h⟩
    obtain ⟨s', a', rfl, _⟩ := (pattern_spec cfg n).1 s p acc r (F0.shape _ (B0.toF0 p hp)) hs.shape h
    exact ⟨n, s', a', h⟩
  have two : ∀ (l r : NPat) (c : Call) (s : PySt) (acc : List Call), l.B0 = true → r.B0 = true →
      StF0 s →
      (∀ (s : PySt) (acc : List Call), StF0 s → ∃ n s' a', patternF cfg n s l acc = some (some (s', a'))) →
      (∀ (s : PySt) (acc : List Call), StF0 s → ∃ n s' a', patternF cfg n s r acc = some (some (s', a'))) →
      (∀ s2 n, ∃ r, track1 n s2 c = some r) →
      ∃ n o, (andThen (patternF cfg n s l acc) fun s1 a1 =>
        andThen (patternF cfg n s1 r a1) fun s2 a2 => doCalls n s2 [c] a2) = some o := by
    intro l r c s acc hl hr hs ihl ihr hc
    obtain ⟨n1, s1, a1, h1⟩ := ihl s acc hs
    have hs1 : StF0 s1 := (patternF_tr cfg (Nat.le_refl n1) hl hs h1).choose_spec.2.2.2.1
    obtain ⟨n2, s2, a2, h2⟩ := ihr s1 a1 hs1
    obtain ⟨x, hx⟩ := hc s2 (max n1 n2)
    refine ⟨max n1 n2, x.map fun s' => (s', a2 ++ [c]), ?_⟩
    rw [patternF_mono cfg (Nat.le_max_left n1 n2) _ _ _ _ h1]
    simp only [andThen, Option.bind_some]
    rw [patternF_mono cfg (Nat.le_max_right n1 n2) _ _ _ _ h2]
    simp only [Option.bind_some]
    exact (doCalls_single _ s2 c a2 _).mpr ⟨x, hx, rfl⟩
  -- the memo check and the final `save` around a build that returns
  have wrap : ∀ (p : NPat) (s : PySt) (acc : List Call), p.B0 = true → StF0 s →
      (∃ n o, buildF cfg n s p acc = some o) → ∃ n r, patternF cfg n s p acc = some r := by
    intro p s acc hp hs ⟨n1, o, hb⟩
    obtain ⟨n2, hit, hh⟩ := memoHitF_term cfg p (B0.toF0 p hp) s hs
    cases hit with
    | true =>
      obtain ⟨n3, r, hl⟩ := indexF_term (.pat p) (B0.toF0 p hp) s.memory hs.2.1 0
      have ht : ∃ x, track1 (max n2 n3) s (.load (.pat p)) = some x := by
        simp only [track1, Option.bind_eq_bind]
        rw [indexF_mono (Nat.le_max_right n2 n3) _ _ _ _ hl]
        cases r <;> exact ⟨_, rfl⟩
      obtain ⟨x, hx⟩ := ht
      refine ⟨max n2 n3 + 1, x.map fun s' => (s', acc ++ [.load (.pat p)]), ?_⟩
      rw [patternF_succ, memoHitF_mono cfg (Nat.le_max_left n2 n3) _ _ _ hh]
      simp only [Option.bind_some, if_true]
      exact (doCalls_single _ s _ acc _).mpr ⟨x, hx, rfl⟩
    | false =>
      cases o with
      | none =>
        refine ⟨max n1 n2 + 1, none, ?_⟩
        rw [patternF_succ, memoHitF_mono cfg (Nat.le_max_right n1 n2) _ _ _ hh]
        simp only [Option.bind_some, Bool.false_eq_true, if_false]
        have hb' : buildF cfg (max n1 n2) s p acc = some none :=
          OLe.of_step (fun n => buildF cfg n s p acc)
            (fun n => buildF_step cfg n (patMono cfg n) s p acc) (Nat.le_max_left n1 n2) _ hb
        simp [andThen, hb']
      | some sa =>
        obtain ⟨s1, a1⟩ := sa
        have hb' : buildF cfg (max n1 n2) s p acc = some (some (s1, a1)) :=
          OLe.of_step (fun n => buildF cfg n s p acc)
            (fun n => buildF_step cfg n (patMono cfg n) s p acc) (Nat.le_max_left n1 n2) _ hb
        have hsave : ∃ r, saveF cfg (max n1 n2) p s1 a1 = some r := by
          unfold saveF
          split
          · split
            · have : ∃ r, track1 (max n1 n2) s1 .save = some r := by
                simp only [track1]; split <;> exact ⟨_, rfl⟩
              obtain ⟨r, hr⟩ := this
              exact ⟨_, (doCalls_single _ s1 _ a1 _).mpr ⟨r, hr, rfl⟩⟩
            · exact ⟨_, rfl⟩
          · exact ⟨_, rfl⟩
        obtain ⟨r, hr⟩ := hsave
        refine ⟨max n1 n2 + 1, r, ?_⟩
        rw [patternF_succ, memoHitF_mono cfg (Nat.le_max_right n1 n2) _ _ _ hh]
        simp only [Option.bind_some, Bool.false_eq_true, if_false]
        simp [andThen, hb', hr]
  intro p s acc hp
  induction p, hp using B0.ind generalizing s acc with
  | sym | mv => intro hs; exact up _ s acc (by rfl) hs (wrap _ s acc (by rfl) hs ⟨0, _, rfl⟩)
  | imp l r hl hr hp ihl ihr =>
    intro hs
    refine up _ s acc hp hs (wrap _ s acc hp hs ?_)
    simp only [buildF]
    exact two l r .implies s acc hl hr hs ihl ihr (fun s2 n => by simp only [track1]; split <;> exact ⟨_, rfl⟩)
  | app l r hl hr hp ihl ihr =>
    intro hs
    refine up _ s acc hp hs (wrap _ s acc hp hs ?_)
    simp only [buildF]
    exact two l r .app s acc hl hr hs ihl ihr (fun s2 n => by simp only [track1]; split <;> exact ⟨_, rfl⟩)

end MM
#print axioms MM.patternF_tr
#print axioms MM.patternF_term
