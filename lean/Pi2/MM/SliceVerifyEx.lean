import Pi2.MM.SliceTie
/-!
# `slice_verifies`: non-vacuity, and the two repaired defects of the slicer as regression facts
-/
namespace MM
namespace SliceEx

/-- `List.mergeSort` is defined by well-founded recursion and does not reduce; but `sortDedup xs` is THE strictly
increasing list with the elements of `xs`, and that is decidable -/
abbrev SortOf (xs ys : List String) : Prop := ys.Pairwise (· < ·) ∧ (∀ a ∈ xs, a ∈ ys) ∧ ∀ a ∈ ys, a ∈ xs

theorem sortDedup_eq {xs ys : List String} (h : SortOf xs ys) : sortDedup xs = ys :=
  SliceTie.pairwise_lt_ext _ _ (SliceTie.sortDedup_pairwise xs) h.1 fun a => by
    rw [mem_sortDedup]; exact ⟨h.2.1 a, h.2.2 a⟩

/-- a slice as `sliceDatabase` returns it, with its `$c` and `$v` statements sorted -/
theorem sliced_eq {L V C W : List String} {rest : MDb} (hc : SortOf L C) (hv : SortOf V W) :
    MStmt.const (sortDedup L) :: .var (sortDedup V) :: rest = .const C :: .var W :: rest := by
  rw [sortDedup_eq hc, sortDedup_eq hv]

def T (s : String) : MTerm := .app s []
def imp (a b : MTerm) : MTerm := .app "->" [a, b]
def all (x a : MTerm) : MTerm := .app "A." [x, a]
def p : MTerm := .mv "p"
def q : MTerm := .mv "q"
def x : MTerm := .mv "x"

/-- a database with top-level `$d`, rules with `$e` hypotheses in blocks (`mp`, `ag`; `ag` has the mandatory
condition `$d x p`), and two lemmas with a hypothesis each; `th2` uses `th1`:
```
$c ( ) -> A. wff set |- $.   $v p q x $.
wp $f wff p $.  wq $f wff q $.  vx $f set x $.
$d x p $.  $d x q $.
wi $a wff ( -> p q ) $.
ax1 $a |- ( -> p ( -> q p ) ) $.
${ mp.1 $e |- p $.  mp.2 $e |- ( -> p q ) $.  mp $a |- q $. $}
${ ag.1 $e |- p $.  ag $a |- ( A. x p ) $. $}
${ th1.1 $e |- p $.  th1 $p |- ( A. x ( -> q p ) ) $= ( wi ax1 mp ag ) BAECABAEDABFGH $. $}
${ th2.1 $e |- p $.  th2 $p |- ( A. x ( -> p p ) ) $= ( th1 ) AABCD $. $}
``` -/
def exDb : MDb :=
  [.const ["(", ")", "->", "A.", "wff", "set", "|-"],
   .var ["p", "q", "x"],
   .float "wp" "wff" "p", .float "wq" "wff" "q", .float "vx" "set" "x",
   .disj ["x", "p"], .disj ["x", "q"],
   .ax "wi" [T "wff", imp p q],
   .ax "ax1" [T "|-", imp p (imp q p)],
   .block [.ess "mp.1" [T "|-", p], .ess "mp.2" [T "|-", imp p q], .ax "mp" [T "|-", q]],
   .block [.ess "ag.1" [T "|-", p], .ax "ag" [T "|-", all x p]],
   .block [.ess "th1.1" [T "|-", p],
           .prov "th1" [T "|-", all x (imp q p)] ["(", "wi", "ax1", "mp", "ag", ")", "BAECABAEDABFGH"]],
   .block [.ess "th2.1" [T "|-", p],
           .prov "th2" [T "|-", all x (imp p p)] ["(", "th1", ")", "AABCD"]]]

/-- all hypotheses of the theorem hold -/
theorem exDb_wf : WellFormedDb exDb := wellFormedDb_of_decide (by decide +kernel)

theorem exDb_all : verifyDb exDb = true := by decide +kernel

/-- the whole database verifies, hence each of its lemmas -/
theorem exDb_th1 : verifyLemma exDb "th1" = true :=
  verifyLemma_of_verifyDb exDb_all ⟨_, _, by
    simp [exDb, flatL, flat]
    exact ⟨rfl, rfl⟩⟩
theorem exDb_th2 : verifyLemma exDb "th2" = true :=
  verifyLemma_of_verifyDb exDb_all ⟨_, _, by
    simp [exDb, flatL, flat]
    exact ⟨rfl, rfl⟩⟩

/-- the slice of `th1`, as the slicer prints it (`$c` and `$v` sorted): everything `th1` cites, the two `$d` at their place -/
def exSl1 : MDb :=
  [.const ["#ElementVariable", "#Pattern", "#SetVariable", "#Symbol", "#Variable", "(", ")", "->", "A.", "set",
           "wff", "|-"],
   .var ["p", "q", "x"],
   .float "wp" "wff" "p", .float "wq" "wff" "q", .float "vx" "set" "x",
   .disj ["x", "p"], .disj ["x", "q"],
   .ax "wi" [T "wff", imp p q],
   .ax "ax1" [T "|-", imp p (imp q p)],
   .block [.ess "mp.1" [T "|-", p], .ess "mp.2" [T "|-", imp p q], .ax "mp" [T "|-", q]],
   .block [.ess "ag.1" [T "|-", p], .ax "ag" [T "|-", all x p]],
   .block [.ess "th1.1" [T "|-", p],
           .prov "th1" [T "|-", all x (imp q p)] ["(", "wi", "ax1", "mp", "ag", ")", "BAECABAEDABFGH"]]]

/-- the slice of `th2`: `th1` has become an axiom with its hypothesis, the two `$d` are kept, `wi`, `ax1`, `mp`, `ag`
are gone -/
def exSl2 : MDb :=
  [.const ["#ElementVariable", "#Pattern", "#SetVariable", "#Symbol", "#Variable", "(", ")", "->", "A.", "set",
           "wff", "|-"],
   .var ["p", "q", "x"],
   .float "wp" "wff" "p", .float "wq" "wff" "q", .float "vx" "set" "x",
   .disj ["x", "p"], .disj ["x", "q"],
   .block [.ess "th1.1" [T "|-", p], .ax "th1" [T "|-", all x (imp q p)]],
   .block [.ess "th2.1" [T "|-", p],
           .prov "th2" [T "|-", all x (imp p p)] ["(", "th1", ")", "AABCD"]]]

/-- the slices the slicer produces: the unsorted `$c` / `$v` lists are whatever evaluation finds (`L1` … `V2`), and
sorted they are those of `exSl1`, `exSl2` -/
theorem exDb_slices : sliceDatabase exDb [] ["th1", "th2"] [] = some [("th1", exSl1), ("th2", exSl2)] := by
  have raw : ∃ L1 V1 L2 V2, sliceDatabase exDb [] ["th1", "th2"] [] = some
      [("th1", .const (sortDedup L1) :: .var (sortDedup V1) :: exSl1.drop 2),
       ("th2", .const (sortDedup L2) :: .var (sortDedup V2) :: exSl2.drop 2)] ∧
      MStmt.const (sortDedup L1) :: .var (sortDedup V1) :: exSl1.drop 2 = exSl1 ∧
      MStmt.const (sortDedup L2) :: .var (sortDedup V2) :: exSl2.drop 2 = exSl2 :=
    ⟨_, _, _, _, rfl, sliced_eq (by decide) (by decide), sliced_eq (by decide) (by decide)⟩
  obtain ⟨L1, V1, L2, V2, h, e1, e2⟩ := raw
  rw [h, e1, e2]

/-- non-vacuity of `slice_verifies`: its hypotheses hold for `exDb` and the slice of `th2`, so the slice verifies … -/
theorem exSl2_verifies : verifyLemma exSl2 "th2" = true :=
  slice_verifies exDb_wf exDb_slices (by simp) exDb_th2

theorem exSl1_verifies : verifyLemma exSl1 "th1" = true :=
  slice_verifies exDb_wf exDb_slices (by simp) exDb_th1

/-- … which can also be computed -/
example : verifyLemma exSl2 "th2" = true := by decide +kernel
example : verifyLemma exSl1 "th1" = true := by decide +kernel

/-! ## the two defects found while proving `slice_verifies`, repaired in the slicer: regression facts -/

/-- (1) a top-level `$d` AFTER an axiom over both variables, which the lemma uses with equal variables.  The slicer
used to move every top-level `$d` to the front of the slice, where `ax1` acquired the condition `$d x y`:
```
$c |- ( ) foo #Pattern $.  $v x y z $.
x-f $f #Pattern x $.  y-f $f #Pattern y $.  z-f $f #Pattern z $.
ax1 $a |- ( foo x y ) $.
$d x y $.
th $p |- ( foo z z ) $= ( ax1 ) AAB $.
``` -/
def cexDb : MDb :=
  [.const ["|-", "(", ")", "foo", "#Pattern"],
   .var ["x", "y", "z"],
   .float "x-f" "#Pattern" "x", .float "y-f" "#Pattern" "y", .float "z-f" "#Pattern" "z",
   .ax "ax1" [T "|-", .app "foo" [.mv "x", .mv "y"]],
   .disj ["x", "y"],
   .prov "th" [T "|-", .app "foo" [.mv "z", .mv "z"]] ["(", "ax1", ")", "AAB"]]

/-- the slice the repaired slicer cuts for `th`: the `$d` stays behind `ax1` -/
def cexSl : MDb :=
  [.const ["#ElementVariable", "#Pattern", "#SetVariable", "#Symbol", "#Variable", "(", ")", "foo", "|-"],
   .var ["x", "y", "z"],
   .float "x-f" "#Pattern" "x", .float "y-f" "#Pattern" "y", .float "z-f" "#Pattern" "z",
   .ax "ax1" [T "|-", .app "foo" [.mv "x", .mv "y"]],
   .disj ["x", "y"],
   .block [.prov "th" [T "|-", .app "foo" [.mv "z", .mv "z"]] ["(", "ax1", ")", "AAB"]]]

/-- what the slicer produced before the repair -/
def cexSlOld : MDb :=
  [.const ["#ElementVariable", "#Pattern", "#SetVariable", "#Symbol", "#Variable", "(", ")", "foo", "|-"],
   .var ["x", "y", "z"],
   .disj ["x", "y"],
   .float "x-f" "#Pattern" "x", .float "y-f" "#Pattern" "y", .float "z-f" "#Pattern" "z",
   .ax "ax1" [T "|-", .app "foo" [.mv "x", .mv "y"]],
   .block [.prov "th" [T "|-", .app "foo" [.mv "z", .mv "z"]] ["(", "ax1", ")", "AAB"]]]

theorem cexDb_wf : WellFormedDb cexDb := wellFormedDb_of_decide (by decide +kernel)

theorem cexDb_verifies : verifyLemma cexDb "th" = true ∧ verifyDb cexDb = true := by decide +kernel

theorem cexDb_sliced : sliceDatabase cexDb [] ["th"] [] = some [("th", cexSl)] := by
  have raw : ∃ L V, sliceDatabase cexDb [] ["th"] [] = some
      [("th", .const (sortDedup L) :: .var (sortDedup V) :: cexSl.drop 2)] ∧
      MStmt.const (sortDedup L) :: .var (sortDedup V) :: cexSl.drop 2 = cexSl :=
    ⟨_, _, rfl, sliced_eq (by decide) (by decide)⟩
  obtain ⟨L, V, h, e⟩ := raw
  rw [h, e]

/-- the slice verifies now (by the theorem, and by computation); the old slice did not -/
theorem cex_disj_now_verifies : verifyLemma cexSl "th" = true :=
  slice_verifies cexDb_wf cexDb_sliced (by simp) cexDb_verifies.1

example : verifyLemma cexSl "th" = true := by decide +kernel

theorem cex_disj_old_slice_fails : verifyLemma cexSlOld "th" = false := by decide +kernel

/-- (2) an essential hypothesis stated outside a block, cited by the lemma after it.  The slicer used to drop it:
```
$c |- ( ) foo #Pattern $.  $v x $.  x-f $f #Pattern x $.
h $e |- ( foo x x ) $.
th $p |- ( foo x x ) $= ( ) B $.
``` -/
def cexEssDb : MDb :=
  [.const ["|-", "(", ")", "foo", "#Pattern"],
   .var ["x"],
   .float "x-f" "#Pattern" "x",
   .ess "h" [T "|-", .app "foo" [.mv "x", .mv "x"]],
   .prov "th" [T "|-", .app "foo" [.mv "x", .mv "x"]] ["(", ")", "B"]]

def cexEssSl : MDb :=
  [.const ["#ElementVariable", "#Pattern", "#SetVariable", "#Symbol", "#Variable", "(", ")", "foo", "|-"],
   .var ["x"],
   .float "x-f" "#Pattern" "x",
   .ess "h" [T "|-", .app "foo" [.mv "x", .mv "x"]],
   .block [.prov "th" [T "|-", .app "foo" [.mv "x", .mv "x"]] ["(", ")", "B"]]]

/-- what the slicer produced before the repair -/
def cexEssSlOld : MDb :=
  [.const ["#ElementVariable", "#Pattern", "#SetVariable", "#Symbol", "#Variable", "(", ")", "foo", "|-"],
   .var ["x"],
   .float "x-f" "#Pattern" "x",
   .block [.prov "th" [T "|-", .app "foo" [.mv "x", .mv "x"]] ["(", ")", "B"]]]

theorem cexEssDb_wf : WellFormedDb cexEssDb := wellFormedDb_of_decide (by decide +kernel)

theorem cexEssDb_verifies : verifyLemma cexEssDb "th" = true ∧ verifyDb cexEssDb = true := by decide +kernel

theorem cexEssDb_sliced : sliceDatabase cexEssDb [] ["th"] [] = some [("th", cexEssSl)] := by
  have raw : ∃ L V, sliceDatabase cexEssDb [] ["th"] [] = some
      [("th", .const (sortDedup L) :: .var (sortDedup V) :: cexEssSl.drop 2)] ∧
      MStmt.const (sortDedup L) :: .var (sortDedup V) :: cexEssSl.drop 2 = cexEssSl :=
    ⟨_, _, rfl, sliced_eq (by decide) (by decide)⟩
  obtain ⟨L, V, h, e⟩ := raw
  rw [h, e]

theorem cex_top_ess_now_verifies : verifyLemma cexEssSl "th" = true :=
  slice_verifies cexEssDb_wf cexEssDb_sliced (by simp) cexEssDb_verifies.1

example : verifyLemma cexEssSl "th" = true := by decide +kernel

theorem cex_top_ess_old_slice_fails : verifyLemma cexEssSlOld "th" = false := by decide +kernel

end SliceEx
end MM

#print axioms MM.SliceEx.exDb_wf
#print axioms MM.SliceEx.exDb_slices
#print axioms MM.SliceEx.cex_disj_now_verifies
#print axioms MM.SliceEx.cex_top_ess_now_verifies
#print axioms MM.SliceEx.exSl2_verifies
#print axioms MM.SliceEx.cex_disj_old_slice_fails
