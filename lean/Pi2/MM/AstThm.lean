import Pi2.MM.Ast
/-!
# The printer is a left inverse of the parser (token level)
-/
namespace MM


theorem scanClose_split : ∀ (ts : List String) (d k0 k : Nat), scanClose d ts k0 = some k →
    ∃ pre post, ts = pre ++ ")" :: post ∧ k = k0 + pre.length
  | [], _, _, _, h => by simp [scanClose] at h
  | t :: ts, d, k0, k, h => by
      simp only [scanClose] at h
      split at h
      · obtain ⟨pre, post, e, hk⟩ := scanClose_split ts _ _ _ h
        exact ⟨t :: pre, post, by simp [e], by simp [hk]; omega⟩
      · split at h
        · split at h
          · injection h with h
            exact ⟨[], ts, by simp [*], by simp [h]⟩
          · obtain ⟨pre, post, e, hk⟩ := scanClose_split ts _ _ _ h
            exact ⟨t :: pre, post, by simp [e], by simp [hk]; omega⟩
        · obtain ⟨pre, post, e, hk⟩ := scanClose_split ts _ _ _ h
          exact ⟨t :: pre, post, by simp [e], by simp [hk]; omega⟩

theorem parseTermsF_ne_nil (mvs : List String) (n : Nat) (t : String) (ts : List String) (terms : List MTerm)
    (h : parseTermsF mvs n (t :: ts) = some terms) : terms ≠ [] := by
  cases n with
  | zero => simp [parseTermsF] at h
  | succ n =>
    simp only [parseTermsF] at h
    split at h
    · split at h
      · cases h
      · split at h
        · cases h
        · split at h
          · cases h
          · simp only [Option.bind_eq_bind, Option.bind_eq_some_iff, Option.pure_def] at h
            obtain ⟨_, _, _, _, h⟩ := h
            injection h with h; subst h; simp
    · split at h <;>
      · simp only [Option.bind_eq_bind, Option.bind_eq_some_iff, Option.pure_def] at h
        obtain ⟨_, _, h⟩ := h
        injection h with h; subst h; simp

theorem printTerms_append (as bs : List MTerm) : printTerms (as ++ bs) = printTerms as ++ printTerms bs := by
  induction as with
  | nil => simp [printTerms]
  | cons a as ih => simp [printTerms, ih]

theorem printTerm_app_ne_nil (s : String) (sub : List MTerm) (h : sub ≠ []) :
    printTerm (.app s sub) = "(" :: s :: (printTerms sub ++ [")"]) := by
  cases sub with
  | nil => exact absurd rfl h
  | cons a as => simp [printTerm]

/-- A1: the printer is a left inverse of the term parser on every token list the parser accepts -/
theorem print_parseTerms (mvs : List String) (n : Nat) (ts : List String) (terms : List MTerm) :
    parseTermsF mvs n ts = some terms → printTerms terms = ts := by
  induction n generalizing ts terms with
  | zero =>
    intro h
    cases ts with
    | nil => simp [parseTermsF] at h; subst h; simp [printTerms]
    | cons t ts => simp [parseTermsF] at h
  | succ n ih =>
    intro h
    cases ts with
    | nil => simp [parseTermsF] at h; subst h; simp [printTerms]
    | cons first rest =>
      simp only [parseTermsF] at h
      split at h
      · next hfirst =>
        split at h
        · cases h
        · next k hk =>
          split at h
          · cases h
          · next hk2 =>
            split at h
            · cases h
            · next head inner =>
              simp only [Option.bind_eq_bind, Option.bind_eq_some_iff, Option.pure_def] at h
              obtain ⟨sub, hsub, more, hmore, h⟩ := h
              injection h with h; subst h
              obtain ⟨pre, post, e, hkl⟩ := scanClose_split _ _ _ _ hk
              simp only [Nat.zero_add] at hkl
              -- `pre` is non-empty since `k ≥ 2`
              cases pre with
              | nil => simp at hkl; omega
              | cons p pre' =>
                simp only [List.cons_append, List.cons.injEq] at e
                obtain ⟨e1, e2⟩ := e
                subst e1
                have hlen : k - 1 = pre'.length := by simp at hkl; omega
                have htake : List.take (k - 1) inner = pre' := by
                  rw [e2, hlen]; simp
                have hdrop : List.drop (k + 1) (head :: inner) = post := by
                  rw [e2, hkl]; simp
                rw [htake] at hsub
                rw [hdrop] at hmore
                have hne : sub ≠ [] := by
                  cases pre' with
                  | nil => simp at hlen hkl; omega
                  | cons q pre'' => exact parseTermsF_ne_nil _ _ _ _ _ hsub
                have h1 := ih _ _ hsub
                have h2 := ih _ _ hmore
                simp only [printTerms, printTerm_app_ne_nil _ _ hne, h1, h2, hfirst, e2]
                simp
      · split at h <;>
        · simp only [Option.bind_eq_bind, Option.bind_eq_some_iff, Option.pure_def] at h
          obtain ⟨more, hmore, h⟩ := h
          injection h with h; subst h
          simp [printTerms, printTerm, ih _ _ hmore]

theorem print_parseTerms' (mvs : List String) (ts : List String) (terms : List MTerm) :
    parseTerms mvs ts = some terms → printTerms terms = ts :=
  print_parseTerms mvs _ ts terms


theorem takeUntil_split (stop : String) : ∀ (ts a b : List String), takeUntil stop ts = some (a, b) →
    ts = a ++ stop :: b
  | [], _, _, h => by simp [takeUntil] at h
  | t :: ts, a, b, h => by
      simp only [takeUntil] at h
      split at h
      · next ht => injection h with h; injection h with h1 h2; subst h1 h2 ht; rfl
      · split at h
        · cases h
        · simp only [Option.map_eq_some_iff] at h
          obtain ⟨⟨a', b'⟩, h', e⟩ := h
          injection e with e1 e2; subst e1 e2
          simp [takeUntil_split stop ts _ _ h']

theorem printStmts_append (as bs : List MStmt) : printStmts (as ++ bs) = printStmts as ++ printStmts bs := by
  induction as with
  | nil => simp [printStmts]
  | cons a as ih => simp [printStmts, ih]

/-- the statement-level branch of `parseStmtsF` (a verbatim copy of its inner expression: `parseStmtsF_cons`) -/
def modelStmt (n : Nat) (mvs : List String) (t : String) (ts : List String) : Option (MStmt × List String × List String) :=
          if t = "$c" then do
            let (cs, rest) ← takeUntil "$." ts
            if cs.isEmpty then none else pure (MStmt.const cs, mvs, rest)
          else if t = "$v" then do
            let (vs, rest) ← takeUntil "$." ts
            if vs.isEmpty then none else pure (MStmt.var vs, mvs ++ vs, rest)
          else if t = "$d" then do
            let (vs, rest) ← takeUntil "$." ts
            if vs.isEmpty then none
            else if vs.all mvs.contains then pure (MStmt.disj vs, mvs, rest) else none
          else if t = "${" then do
            let (ss, mvs', rest) ← parseStmtsF n true mvs ts
            pure (MStmt.block ss, mvs', rest)
          else if isKeyword t then none
          else
            match ts with
            | "$f" :: tc :: v :: "$." :: rest =>
                if isKeyword tc || isKeyword v then none
                else if mvs.contains v then pure (MStmt.float t tc v, mvs, rest) else none
            | "$e" :: ts' => do
                let (body, rest) ← takeUntil "$." ts'
                if body.isEmpty then none else pure (MStmt.ess t (← parseTerms mvs body), mvs, rest)
            | "$a" :: ts' => do
                let (body, rest) ← takeUntil "$." ts'
                if body.isEmpty then none else pure (MStmt.ax t (← parseTerms mvs body), mvs, rest)
            | "$p" :: ts' => do
                let (body, rest1) ← takeUntil "$=" ts'
                let (pf, rest) ← takeUntil "$." rest1
                if body.isEmpty then none else pure (MStmt.prov t (← parseTerms mvs body) pf, mvs, rest)
            | _ => none

theorem parseStmtsF_cons (n : Nat) (b : Bool) (mvs : List String) (t : String) (ts : List String) :
    parseStmtsF (n + 1) b mvs (t :: ts) =
      if t = "$}" then (if b then some ([], mvs, ts) else none)
      else (do
        let (s, mvs1, rest) ← modelStmt n mvs t ts
        let (ss, mvs2, rest2) ← parseStmtsF n b mvs1 rest
        pure (s :: ss, mvs2, rest2)) := by
  rw [parseStmtsF.eq_def]; rfl

section
variable (n : Nat) (mvs : List String) (t : String) (ts : List String)

theorem modelStmt_c : modelStmt n mvs "$c" ts =
    (takeUntil "$." ts).bind fun x => if x.1.isEmpty then none else some (.const x.1, mvs, x.2) := by
  simp [modelStmt]

theorem modelStmt_v : modelStmt n mvs "$v" ts =
    (takeUntil "$." ts).bind fun x => if x.1.isEmpty then none else some (.var x.1, mvs ++ x.1, x.2) := by
  simp [modelStmt]

theorem modelStmt_d : modelStmt n mvs "$d" ts =
    (takeUntil "$." ts).bind fun x =>
      if x.1.isEmpty then none else if x.1.all mvs.contains then some (.disj x.1, mvs, x.2) else none := by
  simp [modelStmt]

theorem modelStmt_block : modelStmt n mvs "${" ts =
    (parseStmtsF n true mvs ts).map fun x => (.block x.1, x.2.1, x.2.2) := by
  simp only [modelStmt, show ¬ "${" = "$c" by decide, show ¬ "${" = "$v" by decide, show ¬ "${" = "$d" by decide, ↓reduceIte]
  cases parseStmtsF n true mvs ts <;> rfl

theorem modelStmt_kw (hk : isKeyword t = true) (n1 : t ≠ "$c") (n2 : t ≠ "$v") (n3 : t ≠ "$d") (n4 : t ≠ "${") :
    modelStmt n mvs t ts = none := by
  simp [modelStmt, hk, n1, n2, n3, n4]

theorem ne_of_notKw {t : String} (hk : isKeyword t = false) (s : String) (hs : isKeyword s = true) : t ≠ s := by
  intro h; subst h; simp [hk] at hs

theorem modelStmt_tok (hk : isKeyword t = false) : modelStmt n mvs t ts =
    match ts with
    | "$f" :: tc :: v :: "$." :: rest =>
        if isKeyword tc || isKeyword v then none
        else if mvs.contains v then some (.float t tc v, mvs, rest) else none
    | "$e" :: ts' => (takeUntil "$." ts').bind fun x =>
        if x.1.isEmpty then none else (parseTerms mvs x.1).bind fun terms => some (.ess t terms, mvs, x.2)
    | "$a" :: ts' => (takeUntil "$." ts').bind fun x =>
        if x.1.isEmpty then none else (parseTerms mvs x.1).bind fun terms => some (.ax t terms, mvs, x.2)
    | "$p" :: ts' => (takeUntil "$=" ts').bind fun x => (takeUntil "$." x.2).bind fun y =>
        if x.1.isEmpty then none else (parseTerms mvs x.1).bind fun terms => some (.prov t terms y.1, mvs, y.2)
    | _ => none := by
  simp only [modelStmt, hk, ne_of_notKw hk "$c" (by decide), ne_of_notKw hk "$v" (by decide),
    ne_of_notKw hk "$d" (by decide), ne_of_notKw hk "${" (by decide), ↓reduceIte, Bool.false_eq_true]
  rfl
end

/-- one statement: the tokens consumed are those printed, given the same for the body of a block -/
theorem modelStmt_print {n : Nat} {mvs : List String} {t : String} {ts : List String} {s : MStmt} {mvs1 rest : List String}
    (h : modelStmt n mvs t ts = some (s, mvs1, rest))
    (hblk : ∀ ss m r, parseStmtsF n true mvs ts = some (ss, m, r) → ts = printStmts ss ++ "$}" :: r) :
    t :: ts = printStmt s ++ rest := by
  by_cases h1 : t = "$c"
  · subst h1
    simp only [modelStmt_c, Option.bind_eq_some_iff] at h
    obtain ⟨⟨cs, r⟩, htu, h⟩ := h
    split at h
    · cases h
    · cases h; simp [printStmt, takeUntil_split _ _ _ _ htu]
  by_cases h2 : t = "$v"
  · subst h2
    simp only [modelStmt_v, Option.bind_eq_some_iff] at h
    obtain ⟨⟨cs, r⟩, htu, h⟩ := h
    split at h
    · cases h
    · cases h; simp [printStmt, takeUntil_split _ _ _ _ htu]
  by_cases h3 : t = "$d"
  · subst h3
    simp only [modelStmt_d, Option.bind_eq_some_iff] at h
    obtain ⟨⟨cs, r⟩, htu, h⟩ := h
    split at h
    · cases h
    · split at h
      · cases h; simp [printStmt, takeUntil_split _ _ _ _ htu]
      · cases h
  by_cases h4 : t = "${"
  · subst h4
    simp only [modelStmt_block, Option.map_eq_some_iff] at h
    obtain ⟨⟨ss, m, r⟩, hb, h⟩ := h
    cases h; simp [printStmt, hblk _ _ _ hb]
  by_cases hk : isKeyword t
  · rw [modelStmt_kw n mvs t ts hk h1 h2 h3 h4] at h; cases h
  rw [modelStmt_tok n mvs t ts (by simpa using hk)] at h
  split at h
  · split at h
    · cases h
    · split at h
      · cases h; simp [printStmt]
      · cases h
  · simp only [Option.bind_eq_some_iff] at h
    obtain ⟨⟨body, r⟩, htu, h⟩ := h
    split at h
    · cases h
    · simp only [Option.bind_eq_some_iff] at h
      obtain ⟨terms, hterms, h⟩ := h
      cases h; simp [printStmt, print_parseTerms' _ _ _ hterms, takeUntil_split _ _ _ _ htu]
  · simp only [Option.bind_eq_some_iff] at h
    obtain ⟨⟨body, r⟩, htu, h⟩ := h
    split at h
    · cases h
    · simp only [Option.bind_eq_some_iff] at h
      obtain ⟨terms, hterms, h⟩ := h
      cases h; simp [printStmt, print_parseTerms' _ _ _ hterms, takeUntil_split _ _ _ _ htu]
  · simp only [Option.bind_eq_some_iff] at h
    obtain ⟨⟨body, r1⟩, htu1, ⟨pf, r⟩, htu2, h⟩ := h
    split at h
    · cases h
    · simp only [Option.bind_eq_some_iff] at h
      obtain ⟨terms, hterms, h⟩ := h
      cases h
      simp only at htu2
      simp [printStmt, print_parseTerms' _ _ _ hterms, takeUntil_split _ _ _ _ htu1, takeUntil_split _ _ _ _ htu2]
  · cases h

theorem parseStmtsF_print : ∀ (n : Nat) (inBlock : Bool) (mvs toks : List String) (ss : List MStmt)
    (mvs' rest : List String), parseStmtsF n inBlock mvs toks = some (ss, mvs', rest) →
    toks = printStmts ss ++ (if inBlock then "$}" :: rest else rest) ∧ (inBlock = false → rest = []) := by
  intro n
  induction n with
  | zero => intro _ _ _ _ _ _ h; simp [parseStmtsF] at h
  | succ n ih =>
    intro inBlock mvs toks ss mvs' rest h
    cases toks with
    | nil =>
      rw [parseStmtsF.eq_def] at h
      cases inBlock <;> cases h
      simp [printStmts]
    | cons t ts =>
      rw [parseStmtsF_cons] at h
      by_cases ht : t = "$}"
      · rw [if_pos ht] at h
        cases inBlock <;> cases h
        simp [printStmts, ht]
      · simp only [if_neg ht, Option.bind_eq_bind, Option.bind_eq_some_iff, Option.pure_def] at h
        obtain ⟨⟨s, mvs1, rest1⟩, hone, ⟨ss', mvs2, rest2⟩, htail, h⟩ := h
        cases h
        simp only at htail ⊢
        obtain ⟨ih1, ih2⟩ := ih _ _ _ _ _ _ htail
        refine ⟨?_, ih2⟩
        rw [modelStmt_print hone fun ss m r hb => (ih _ _ _ _ _ _ hb).1, ih1]
        simp [printStmts]

theorem modelStmt_len {n : Nat} {mvs : List String} {t : String} {ts : List String} {s : MStmt} {mvs1 rest : List String}
    (h : modelStmt n mvs t ts = some (s, mvs1, rest)) : rest.length ≤ ts.length := by
  have e := congrArg List.length (modelStmt_print h fun ss m r hb => (parseStmtsF_print _ _ _ _ _ _ _ hb).1)
  have : 0 < (printStmt s).length := by cases s <;> simp [printStmt]
  simp only [List.length_cons, List.length_append] at e
  omega

/-- A2: the printer is a left inverse of the database parser on every token list the parser accepts -/
theorem print_parse (toks : List String) (db : MDb) : parseDb toks = some db → printDb db = toks := by
  intro h
  simp only [parseDb, Option.map_eq_some_iff] at h
  obtain ⟨⟨ss, mvs', rest⟩, h, e⟩ := h
  simp only at e; subst e
  obtain ⟨h1, h2⟩ := parseStmtsF_print _ _ _ _ _ _ _ h
  have := h2 rfl
  subst this
  simp at h1
  simp [printDb, h1]

/-- A3: parse ∘ print is the identity on the image of the parser -/
theorem parse_print_parse (toks : List String) (db : MDb) :
    parseDb toks = some db → parseDb (printDb db) = some db := by
  intro h
  rw [print_parse toks db h]; exact h

/-! ## A4: non-vacuity -/

/-- a token list with a `$c`, a `$v`, two `$f`, an `$a` with a nested parenthesised term, and a block
containing an `$e`, a `$d` and a `$p` -/
def exToks : List String :=
  ["$c", "(", ")", "->", "wff", "|-", "$.", "$v", "p", "q", "$.",
   "wp", "$f", "wff", "p", "$.", "wq", "$f", "wff", "q", "$.",
   "ax1", "$a", "|-", "(", "->", "p", "(", "->", "q", "p", ")", ")", "$.",
   "${", "h1", "$e", "|-", "p", "$.", "$d", "p", "q", "$.",
   "th1", "$p", "|-", "(", "->", "q", "p", ")", "$=", "(", "ax1", ")", "A", "$.", "$}"]

def exDb : MDb :=
  [.const ["(", ")", "->", "wff", "|-"], .var ["p", "q"],
   .float "wp" "wff" "p", .float "wq" "wff" "q",
   .ax "ax1" [.app "|-" [], .app "->" [.mv "p", .app "->" [.mv "q", .mv "p"]]],
   .block [.ess "h1" [.app "|-" [], .mv "p"], .disj ["p", "q"],
           .prov "th1" [.app "|-" [], .app "->" [.mv "q", .mv "p"]] ["(", "ax1", ")", "A"]]]

theorem exToks_parse : parseDb exToks = some exDb := by rfl

set_option maxRecDepth 10000 in
example : parseDb exToks = some exDb := exToks_parse

example : printDb exDb = exToks := by rfl

set_option maxRecDepth 10000 in
example : parseDb (printDb exDb) = some exDb := parse_print_parse _ _ exToks_parse

/-- the parser does reject something (so `print_parse` is not about a parser that accepts everything
vacuously, nor one that rejects everything) -/
example : parseDb ["$c", "$."] = none := by rfl
example : parseDb ["x", "$a", "(", "a", ")", "$."] = none := by rfl   -- `assert i > 2`

end MM

#print axioms MM.print_parseTerms
#print axioms MM.print_parse
#print axioms MM.parse_print_parse
