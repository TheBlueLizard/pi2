import Pi2.MM.ConvPat
/-!
# `_collect_variables`, the scopes, `_convert_axiom_for_scope`: the `Axiom` object of a statement `|- t` / `#Pattern t`
-/
set_option linter.unusedSimpArgs false
set_option linter.unusedVariables false
open MM SliceSup ConvSup Gen.MMConv

namespace ConvTie

/-! ## `_collect_variables` -/
theorem whileM_measure {σ : Type} (cond : σ → Bool) (body : σ → Res σ) (μ : σ → Nat) (I : σ → Prop)
    (hstep : ∀ s, I s → cond s = true → ∃ s', body s = .ok s' ∧ I s' ∧ μ s' < μ s) :
    ∀ (fuel : Nat) (s : σ), I s → μ s < fuel → ∃ s', whileM cond body fuel s = .ok s' ∧ I s' ∧ cond s' = false := by
  intro fuel
  induction fuel with
  | zero => intro s _ h; omega
  | succ n ih =>
    intro s hI hμ
    cases hc : cond s with
    | false => exact ⟨s, by simp [whileM, hc], hI, hc⟩
    | true =>
      obtain ⟨s', hb, hI', hlt⟩ := hstep s hI hc
      obtain ⟨s'', hw, hI'', hc''⟩ := ih s' hI' (by omega)
      exact ⟨s'', by simp [whileM, hc, hb, hw, bind, Res.bind], hI'', hc''⟩

theorem tsizes_append (a b : List MTerm) : tsizes (a ++ b) = tsizes a + tsizes b := by
  induction a with
  | nil => simp [tsizes]
  | cons x a ih => simp [tsizes, ih]; omega

theorem termsMvs_append (a b : List MTerm) : termsMvs (a ++ b) = termsMvs a ++ termsMvs b := by
  induction a with
  | nil => simp [termsMvs]
  | cons x a ih => simp [termsMvs, ih]

theorem beq_mv (a b : String) : ((MTerm.mv a) == (MTerm.mv b)) = (a == b) := rfl

theorem contains_mv (L : List MTerm) (hL : ∀ x ∈ L, isMetavariable x = true) (v : String) :
    L.contains (MTerm.mv v) = (L.map MTerm.name).contains v := by
  induction L with
  | nil => rfl
  | cons x L ih =>
    have hx := hL x (by simp)
    cases x with
    | app _ _ => simp [isMetavariable] at hx
    | mv w =>
      simp only [List.contains_cons, List.map_cons, MTerm.name, beq_mv]
      rw [ih (fun y hy => hL y (by simp [hy]))]

/-- the body of the `while todo:` loop of `_collect_variables`: the text of `Pi2/Gen/MMConv.lean`, checked by `rfl` where it is used -/
def collectStep : List MTerm × List MTerm → Res (List MTerm × List MTerm) :=
  fun (todo, collected_variables) => do
    let (todo, current) ← listPop todo
    if isApplication current then
      let todo := todo ++ current.subterms
      pure (todo, collected_variables)
    else
      if isMetavariable current then
        if !(collected_variables.contains current) then
          let collected_variables := collected_variables ++ [current]
          pure (todo, collected_variables)
        else
          pure (todo, collected_variables)
      else
        Res.raise

/-- `_collect_variables(t)`: `Metavariable` objects with pairwise different names, the variables of `t` -/
theorem collect_variables_ok (σ : String → Nat) (fuel : Nat) (c : ConvObj) (t : MTerm) (hf : tsize t < fuel) :
    ∃ L, _collect_variables σ fuel c t = .ok L ∧ (∀ x ∈ L, isMetavariable x = true) ∧ (L.map MTerm.name).Nodup ∧
      ∀ v, v ∈ L.map MTerm.name ↔ v ∈ termMvs t := by
  let I : List MTerm × List MTerm → Prop := fun s =>
    (∀ x ∈ s.2, isMetavariable x = true) ∧ (s.2.map MTerm.name).Nodup ∧
      ∀ v, (v ∈ s.2.map MTerm.name ∨ v ∈ termsMvs s.1) ↔ v ∈ termMvs t
  have hw := whileM_measure
    (fun (x : List MTerm × List MTerm) => match x with | (todo, collected_variables) => !todo.isEmpty) collectStep
    (fun s => tsizes s.1) I ?_ fuel ([t], []) ⟨by simp, by simp, by intro v; simp [termsMvs]⟩ (by simpa [tsizes] using hf)
  · obtain ⟨⟨todo, L⟩, hw, ⟨h1, h2, h3⟩, hc⟩ := hw
    have htodo : todo = [] := by simpa using hc
    subst htodo
    refine ⟨L, ?_, h1, h2, by intro v; have := h3 v; simpa [termsMvs] using this⟩
    unfold _collect_variables
    unfold collectStep at hw
    simp only [bind, Res.bind, pure] at hw ⊢
    rw [hw]
  · intro ⟨todo, L⟩ ⟨h1, h2, h3⟩ hc
    have hne : todo ≠ [] := by simpa using hc
    obtain ⟨init, last, rfl⟩ : ∃ init last, todo = init ++ [last] := ⟨todo.dropLast, todo.getLast hne, (List.dropLast_concat_getLast hne).symm⟩
    have hpop : listPop (init ++ [last]) = .ok (init, last) := by simp [listPop]
    cases last with
    | app s args =>
      refine ⟨(init ++ args, L), by simp [collectStep, hpop, isApplication, MTerm.subterms, bind, Res.bind, pure], ⟨h1, h2, ?_⟩, ?_⟩
      · intro v
        rw [← h3 v]
        simp only [termsMvs_append, termsMvs, termMvs, List.append_nil]
      · simp [tsizes_append, tsizes, tsize]
    | mv w =>
      by_cases hin : w ∈ L.map MTerm.name
      · refine ⟨(init, L), ?_, ⟨h1, h2, ?_⟩, ?_⟩
        · have : L.contains (MTerm.mv w) = true := by rw [contains_mv L h1]; simpa using hin
          simp [collectStep, hpop, isApplication, isMetavariable, this, bind, Res.bind, pure]
        · intro v
          rw [← h3 v]
          simp only [termsMvs_append, termsMvs, termMvs, List.append_nil, List.mem_append, List.mem_singleton, ← or_assoc]
          exact (or_iff_left_of_imp fun e => Or.inl (e ▸ hin)).symm
        · simp [tsizes_append, tsizes, tsize]
      · refine ⟨(init, L ++ [MTerm.mv w]), ?_, ⟨?_, ?_, ?_⟩, ?_⟩
        · have : L.contains (MTerm.mv w) = false := by
            rw [contains_mv L h1]
            simpa using hin
          simp [collectStep, hpop, isApplication, isMetavariable, this, bind, Res.bind, pure]
        · intro x hx
          simp only [List.mem_append, List.mem_singleton] at hx
          rcases hx with hx | rfl
          · exact h1 x hx
          · rfl
        · simp only [List.map_append, List.map_cons, List.map_nil, MTerm.name]
          exact List.nodup_append.mpr ⟨h2, by simp, by intro a ha b hb; simp at hb; subst hb; intro e; subst e; exact hin ha⟩
        · intro v
          rw [← h3 v]
          simp only [List.map_append, List.map_cons, List.map_nil, MTerm.name, termsMvs_append, termsMvs, termMvs, List.append_nil,
            List.mem_append, List.mem_singleton]
          exact or_right_comm.trans or_assoc
        · simp [tsizes_append, tsizes, tsize]

structure GoodScope (sc : ScopeObj) (fs : List String) : Prop where
  mv : sc._metavars = ⟨mvData fs, some PyType.MetaVar⟩
  ev : sc._element_vars = ⟨[], some PyType.EVar⟩
  sv : sc._set_vars = ⟨[], some PyType.SVar⟩
  nots : GoodNotations sc._notations
  amb : sc._ambiguous_vars = []
  nodup : fs.Nodup

/-- `Scope()` / `NotationScope(args)` followed by `import_from_scope(sc)` -/
def copyScope (sc : ScopeObj) (args : List String) : ScopeObj :=
  { _metavars := sc._metavars, _element_vars := ⟨[], some PyType.EVar⟩, _set_vars := ⟨[], some PyType.SVar⟩,
    _notations := sc._notations, _ambiguous_vars := [], _args := args }

theorem goodScope_copy (sc : ScopeObj) (fs : List String) (args : List String) (h : GoodScope sc fs) :
    GoodScope (copyScope sc args) fs := ⟨h.mv, rfl, rfl, h.nots, rfl, h.nodup⟩

theorem import_from_scope_ok (σ : String → Nat) (fuel : Nat) (self other : ScopeObj) (fs : List String) (h : GoodScope other fs) :
    Scope_import_from_scope σ fuel self other none =
      .ok { self with _metavars := other._metavars, _element_vars := ⟨[], some PyType.EVar⟩, _set_vars := ⟨[], some PyType.SVar⟩,
                      _notations := other._notations } := by
  have h1 : vdCopy other._metavars = .ok other._metavars := by
    apply vdCopy_ok
    · rw [h.mv]; exact mvData_fits fs
    · rw [h.mv]; simp only []; rw [mvData_keys]; exact h.nodup
  have h2 : vdOfDict ([] : PyDict NPat) (some PyType.EVar) = .ok ⟨[], some PyType.EVar⟩ := rfl
  have h3 : vdOfDict ([] : PyDict NPat) (some PyType.SVar) = .ok ⟨[], some PyType.SVar⟩ := rfl
  simp [Scope_import_from_scope, h1, h.ev, h.sv, vdItems, h2, h3, bind, Res.bind, pure]

theorem unambiguize_ok (σ : String → Nat) (fuel : Nat) (c : ConvObj) (args : List MTerm) (fs : List String)
    (h : GoodScope c._scope fs) : _unambiguize_scope σ fuel c args = .ok [copyScope c._scope []] := by
  have hamb : ∀ a : MTerm, GlobalScope_is_ambiguous σ fuel c._scope (StrOrMv.mv a.name) = false := by
    intro a; simp [GlobalScope_is_ambiguous, h.amb]
  simp [_unambiguize_scope, hamb, Scope_init, import_from_scope_ok σ fuel _ c._scope fs h, bind, Res.bind, pure, copyScope]
  exact ⟨rfl, rfl⟩

theorem to_notation_scope_ok (σ : String → Nat) (fuel : Nat) (sc : ScopeObj) (vars : List MTerm) (fs : List String)
    (h : GoodScope sc fs) (hv : ∀ x ∈ vars, isMetavariable x = true) :
    to_notation_scope σ fuel sc vars = .ok (copyScope sc (vars.map MTerm.name)) := by
  have hall : (vars.all fun arg => isMetavariable arg) = true := by simpa using hv
  simp [to_notation_scope, hall, NotationScope_init, Scope_init, import_from_scope_ok σ fuel _ sc fs h, bind, Res.bind, pure, copyScope]
  rfl

/-! ## the argument type check of an axiom's notation -/
theorem enumerate_mem {α : Type} : ∀ (xs : List α) (k : Nat) (p : Nat × α), p ∈ ImpSup.pyEnumerateFrom k xs →
    k ≤ p.1 ∧ p.1 < k + xs.length ∧ p.2 ∈ xs := by
  intro xs
  induction xs with
  | nil => intro k p h; simp [ImpSup.pyEnumerateFrom] at h
  | cons x xs ih =>
    intro k p h
    simp only [ImpSup.pyEnumerateFrom, List.mem_cons] at h
    rcases h with rfl | h
    · simp
    · obtain ⟨h1, h2, h3⟩ := ih (k + 1) p h
      simp only [List.length_cons, List.mem_cons]
      exact ⟨by omega, by omega, Or.inr h3⟩

theorem forM'_none {α β : Type} (xs : List α) (body : Option β → α → Res (Option β))
    (h : ∀ p ∈ xs, body none p = .ok none) : forM' xs none body = .ok none := by
  induction xs with
  | nil => rfl
  | cons x xs ih =>
    simp only [forM'_cons, h x (by simp), Res.bind_ok]
    exact ih (fun p hp => h p (by simp [hp]))

/-- the values a type check accepts: every argument name resolves to a `MetaVar`, and there are enough arguments -/
theorem arguments_type_check_ok (σ : String → Nat) (fuel : Nat) (c : ConvObj) (ns : ScopeObj) (fs : List String)
    (hns : GoodScope ns fs) (hargs : ∀ v ∈ ns._args, v ∈ fs) :
    ∃ tc, _get_arguments_type_check σ fuel c ns = .ok tc ∧
      ∀ (view : SelfView) (S : List String) (args : List NPat), view._symbols = ⟨symData σ S, some PyType.Symbol⟩ →
        (∀ v ∈ ns._args, v ∉ S ∧ v ∉ view._declared_constants) → ns._args.length ≤ args.length → tc view args = .ok true := by
  refine ⟨_, rfl, ?_⟩
  intro view S args hsym hdis hlen
  have hen : ∀ p ∈ ImpSup.pyEnumerate ns._args, p.1 < args.length ∧ p.2 ∈ ns._args := by
    intro p hp
    obtain ⟨_, h2, h3⟩ := enumerate_mem ns._args 0 p hp
    exact ⟨by omega, h3⟩
  show (forM' (ImpSup.pyEnumerate ns._args) (none : Option Bool) _ >>= _) = _
  rw [forM'_none]
  · rfl
  · intro p hp
    obtain ⟨i, name⟩ := p
    obtain ⟨hi, hn⟩ := hen (i, name) hp
    have hres : _resolve_ro σ fuel view ns name = .ok (mkMetaVar (fs.idxOf name)) := by
      rw [resolve_ro_var σ fuel view S ns name hsym (hdis name hn).1 (hdis name hn).2]
      apply scope_resolve_mv
      rw [hns.mv]
      exact mvData_lookup fs name (hargs name hn)
    simp only [listGet_ok args i hi, hres, bind, Res.bind, pure, typeOf, mkMetaVar, isPattern, beq_self_eq_true,
      Bool.and_self, if_true]

/-! ## `_make_axiom_from_notation`, `_convert_axiom_for_scope` -/
/-- the value of a variable: `MetaVar(position of its `$f` statement)` -/
def valOf (fs : List String) (v : String) : NPat := mkMetaVar (fs.idxOf v)

theorem resolve_args_ok (σ : String → Nat) (fuel : Nat) (c : ConvObj) (S : List String) (scope : ScopeObj) (fs : List String)
    (hS : SymState σ c S) (hsc : GoodScope scope fs) :
    ∀ names : List String, (∀ v ∈ names, v ∈ fs ∧ v ∉ S ∧ v ∉ c._declared_constants) →
      mapS names c (fun c a => _resolve σ fuel c scope a) = .ok (c, names.map (valOf fs)) := by
  intro names
  induction names with
  | nil => intro _; rfl
  | cons v names ih =>
    intro h
    obtain ⟨h1, h2, h3⟩ := h v (by simp)
    have hr : _resolve σ fuel c scope v = .ok (c, valOf fs v) := by
      rw [resolve_var σ fuel c S scope v hS h2 h3, scope_resolve_mv σ fuel scope v (valOf fs v)]
      · rfl
      · rw [hsc.mv]; exact mvData_lookup fs v h1
    simp only [mapS, hr, ih (fun w hw => h w (by simp [hw])), bind, Res.bind, pure, List.map_cons]

theorem map_getElem_idxOf {α : Type} (names : List String) (f : String → α) (v : String) (h : v ∈ names) :
    (names.map f)[names.idxOf v]? = some (f v) := by
  have hlt : names.idxOf v < names.length := List.idxOf_lt_length_of_mem h
  rw [List.getElem?_map, List.getElem?_eq_getElem hlt]
  simp [List.getElem_idxOf hlt]

theorem mem_sortedStrs (xs : List String) (v : String) : v ∈ sortedStrs xs ↔ v ∈ xs := by
  unfold sortedStrs sortDedup
  rw [List.mem_eraseDups]
  exact List.mem_mergeSort

mutual
/-- a term of the fragment over the constants `K` (independently of the argument list) -/
def wfT (K : List String) : MTerm → Bool
  | .mv v => !isBuiltin v
  | .app s args =>
      if s = "\\imp" ∨ s = "\\app" then args.length == 2 && wfTs K args
      else !isBuiltin s && K.contains s && wfTs K args
def wfTs (K : List String) : List MTerm → Bool
  | [] => true
  | t :: ts => wfT K t && wfTs K ts
end

mutual
theorem wfTerm_of_wfT (K names : List String) (hdis : ∀ x ∈ names, x ∉ K) :
    (t : MTerm) → wfT K t = true → (∀ v ∈ termMvs t, v ∈ names) → wfTerm K names t = true
  | .mv v, hwf, hv => by
    simp only [wfT] at hwf
    simp [wfTerm, hv v (by simp [termMvs]), hwf]
  | .app s args, hwf, hv => by
    simp only [termMvs] at hv
    unfold wfT at hwf
    unfold wfTerm
    by_cases hb : s = "\\imp" ∨ s = "\\app"
    · rw [if_pos hb] at hwf ⊢
      simp only [Bool.and_eq_true] at hwf ⊢
      exact ⟨hwf.1, wfTerms_of_wfTs K names hdis args hwf.2 hv⟩
    · rw [if_neg hb] at hwf ⊢
      simp only [Bool.and_eq_true] at hwf ⊢
      refine ⟨⟨hwf.1, ?_⟩, wfTerms_of_wfTs K names hdis args hwf.2 hv⟩
      have hK : s ∈ K := by simpa using hwf.1.2
      simpa using fun hs => hdis s hs hK
theorem wfTerms_of_wfTs (K names : List String) (hdis : ∀ x ∈ names, x ∉ K) :
    (ts : List MTerm) → wfTs K ts = true → (∀ v ∈ termsMvs ts, v ∈ names) → wfTerms K names ts = true
  | [], _, _ => rfl
  | t :: ts, hwf, hv => by
    simp only [wfTs, Bool.and_eq_true] at hwf
    simp only [termsMvs, List.mem_append] at hv
    simp only [wfTerms, Bool.and_eq_true]
    exact ⟨wfTerm_of_wfT K names hdis t hwf.1 (fun v h => hv v (Or.inl h)),
      wfTerms_of_wfTs K names hdis ts hwf.2 (fun v h => hv v (Or.inr h))⟩
end

/-- the `Axiom` object of the statement `label: tc t` (an `$a`, an `$e`) in a scope without ambiguity -/
structure AxiomOf (σ : String → Nat) (fs : List String) (label : String) (t : MTerm) (a : AxiomObj) : Prop where
  name : a.name = label
  pattern : a.pattern = patOf σ (valOf fs) t
  metavars : ∀ v, v ∈ a.metavars ↔ v ∈ termMvs t
  antecedents : a.antecedents? = none

/-- the object `_make_axiom_from_notation` / `_make_lemma_from_notation` build from a notation and its pattern -/
def objOf (n : Notation) (cls : AxCls) (p : NPat) (pf? : Option Gen.ImportProof.Proof) : AxiomObj :=
  { cls := cls, name := n.name, args := n.args, type_check := n.type_check, pattern := p,
    metavars := sortedStrs (setOf n.args), antecedents? := none, proof? := pf? }

theorem make_from_notation_ok (σ : String → Nat) (fuel : Nat) (c : ConvObj) (S : List String) (scope : ScopeObj) (fs : List String)
    (n : Notation) (P : (String → NPat) → NPat)
    (hS : SymState σ c S) (hsc : GoodScope scope fs) (hnames : ∀ v ∈ n.args, v ∈ fs ∧ v ∉ S ∧ v ∉ c._declared_constants)
    (htc : ∀ (view : SelfView) (S : List String) (args : List NPat), view._symbols = ⟨symData σ S, some PyType.Symbol⟩ →
        (∀ v ∈ n.args, v ∉ S ∧ v ∉ view._declared_constants) → n.args.length ≤ args.length → n.type_check view args = .ok true)
    (hf : ClosureSpec n.callable n.args P) :
    _make_axiom_from_notation σ fuel c scope n = .ok (c, objOf n .Axiom (P (valOf fs)) none) ∧
    ∀ st pf, callImportProof c._floating_patterns st = .ok pf →
      _make_lemma_from_notation σ fuel c st scope n = .ok (c, objOf n .Lemma (P (valOf fs)) (some pf)) := by
  have hfilter : (n.args.filter fun var => Scope_is_metavar σ fuel scope var) = n.args := by
    apply List.filter_eq_self.mpr
    intro v hv
    have : v ∈ (mvData fs).map (·.1) := by rw [mvData_keys]; exact (hnames v hv).1
    simp [Scope_is_metavar, vdHas, hsc.mv, (dictHas_iff _ _).mpr this]
  have hcall : Notation_call σ fuel n c.view (n.args.map (valOf fs)) = .ok (P (valOf fs)) :=
    notation_call_ok _ _ _ _ _ _ (htc c.view S _ hS.syms (fun v hv => (hnames v hv).2) (by simp))
      (hf c.view _ (valOf fs) (fun v hv => map_getElem_idxOf n.args (valOf fs) v hv))
  have hargs := resolve_args_ok σ fuel c S scope fs hS hsc n.args hnames
  refine ⟨by simp only [_make_axiom_from_notation, hargs, hfilter, hcall, bind, Res.bind, pure, objOf], fun st pf hpf => ?_⟩
  simp only [_make_lemma_from_notation, hargs, hfilter, hcall, hpf, bind, Res.bind, pure, objOf]

mutual
theorem symsOf_subset (K : List String) : (t : MTerm) → wfT K t = true → ∀ s ∈ symsOf t, s ∈ K
  | .mv v, _, s, hs => by simp [symsOf] at hs
  | .app h args, hwf, s, hs => by
    unfold wfT at hwf
    unfold symsOf at hs
    by_cases hb : h = "\\imp" ∨ h = "\\app"
    · rw [if_pos hb] at hwf hs
      simp only [Bool.and_eq_true] at hwf
      exact symsOfL_subset_wfTs K args hwf.2 s hs
    · rw [if_neg hb] at hwf hs
      simp only [Bool.and_eq_true] at hwf
      rcases List.mem_cons.mp hs with rfl | hs
      · simpa using hwf.1.2
      · exact symsOfL_subset_wfTs K args hwf.2 s hs
theorem symsOfL_subset_wfTs (K : List String) : (ts : List MTerm) → wfTs K ts = true → ∀ s ∈ symsOfL ts, s ∈ K
  | [], _, s, hs => by simp [symsOfL] at hs
  | t :: ts, hwf, s, hs => by
    simp only [wfTs, Bool.and_eq_true] at hwf
    simp only [symsOfL, List.mem_append] at hs
    rcases hs with hs | hs
    · exact symsOf_subset K t hwf.1 s hs
    · exact symsOfL_subset_wfTs K ts hwf.2 s hs
end

theorem setUnion_symsOf_subset {K S : List String} {t : MTerm} (hSK : ∀ s ∈ S, s ∈ K) (hwf : wfT K t = true) :
    ∀ s ∈ setUnion S (symsOf t), s ∈ K :=
  fun s hs => ((mem_setUnion _ _ _).mp hs).elim (hSK s) (symsOf_subset K t hwf s)

/-- a statement `label: tc t` that is not a `$p` -/
def isAxOrEss : MStmt → Bool | .ax _ _ => true | .ess _ _ => true | _ => false

theorem isAxOrEss_kind {st : MStmt} (h : isAxOrEss st = true) : isBlock st = false ∧ (isAxiomatic st || isEssential st) = true := by
  cases st with
  | ax _ _ | ess _ _ => exact ⟨rfl, rfl⟩
  | _ => cases h

theorem isProvable_kind {st : MStmt} (h : isProvable st = true) : isBlock st = false ∧ (isAxiomatic st || isEssential st) = false := by
  cases st with
  | prov _ _ _ => exact ⟨rfl, rfl⟩
  | _ => cases h

/-- `_convert_axiom_for_scope` on a statement `label: tc t`: an `$a` or `$e` (`pf? = none`: an `Axiom`), or a `$p` whose proof
`_import_proof` reads as `pf` (`pf? = some pf`: a `Lemma`) -/
theorem convert_stmt_ok (σ : String → Nat) (fuel : Nat) (c : ConvObj) (S : List String) (scope : ScopeObj) (fs : List String)
    (st : MStmt) (tc0 t : MTerm) (pf? : Option Gen.ImportProof.Proof)
    (hst : match pf? with
      | none => isAxOrEss st = true
      | some pf => isProvable st = true ∧ callImportProof c._floating_patterns st = .ok pf)
    (hterms : st.terms = [tc0, t])
    (hfuel : tsize t < fuel) (hS : SymState σ c S) (hsc : GoodScope scope fs)
    (hwf : wfT c._declared_constants t = true) (hvars : ∀ v ∈ termMvs t, v ∈ fs)
    (hdis : ∀ x ∈ fs, x ∉ c._declared_constants) (hSK : ∀ s ∈ S, s ∈ c._declared_constants) :
    ∃ a, _convert_axiom_for_scope σ fuel c scope st = .ok (withSyms σ c (setUnion S (symsOf t)), a) ∧
      AxiomOf σ fs st.label t a ∧ a.cls = (if pf?.isSome then AxCls.Lemma else AxCls.Axiom) ∧ a.proof? = pf? := by
  obtain ⟨L, hL, hLmv, hLnd, hLmem⟩ := collect_variables_ok σ fuel c t hfuel
  have hnames_fs : ∀ v ∈ L.map MTerm.name, v ∈ fs := fun v hv => hvars v ((hLmem v).mp hv)
  have hns := goodScope_copy scope fs (L.map MTerm.name) hsc
  have hwf' : wfTerm c._declared_constants (copyScope scope (L.map MTerm.name))._args t = true :=
    wfTerm_of_wfT _ _ (fun x hx => hdis x (hnames_fs x hx)) t hwf (fun v hv => (hLmem v).mpr hv)
  obtain ⟨f, hf, hfs⟩ := to_pattern_ok σ (copyScope scope (L.map MTerm.name)) hns.nots fuel t c S hfuel hS hwf'
  obtain ⟨tc, htc, htcs⟩ := arguments_type_check_ok σ fuel (withSyms σ c (setUnion S (symsOf t)))
    (copyScope scope (L.map MTerm.name)) fs hns hnames_fs
  have hS'K := setUnion_symsOf_subset hSK hwf
  obtain ⟨hmkA, hmkL⟩ := make_from_notation_ok σ fuel (withSyms σ c (setUnion S (symsOf t))) (setUnion S (symsOf t)) scope fs
    { name := st.label, args := L.map MTerm.name, type_check := tc, callable := f } (fun val => patOf σ val t)
    (symState_withSyms σ c _) hsc
    (fun v hv => ⟨hnames_fs v hv, fun h => hdis v (hnames_fs v hv) (hS'K v h), hdis v (hnames_fs v hv)⟩)
    htcs hfs
  have hkind : isBlock st = false ∧ (isAxiomatic st || isEssential st) = pf?.isNone ∧ (pf?.isNone || isProvable st) = true := by
    cases pf? with
    | none => exact ⟨(isAxOrEss_kind hst).1, (isAxOrEss_kind hst).2, rfl⟩
    | some pf => exact ⟨(isProvable_kind hst.1).1, (isProvable_kind hst.1).2, hst.1⟩
  have hname : _get_axiom_name σ fuel c st = .ok st.label := by
    simp [_get_axiom_name, hkind, bind, Res.bind, pure]
  have hterm : _get_axiom_term σ fuel c st = .ok t := by
    simp [_get_axiom_term, hkind, hterms, bind, Res.bind, pure]
  refine ⟨objOf { name := st.label, args := L.map MTerm.name, type_check := tc, callable := f }
      (if pf?.isSome then .Lemma else .Axiom) (patOf σ (valOf fs) t) pf?, ?_, ⟨rfl, rfl, ?_, rfl⟩, rfl, rfl⟩
  · cases pf? with
    | none =>
      simp only [_convert_axiom_for_scope, hname, hterms, listGet_one, hL, hterm, to_notation_scope_ok σ fuel scope L fs hsc hLmv,
        hf, htc, hkind, Option.isNone_none, if_true, hmkA, bind, Res.bind, pure]
      rfl
    | some pf =>
      simp only [_convert_axiom_for_scope, hname, hterms, listGet_one, hL, hterm, to_notation_scope_ok σ fuel scope L fs hsc hLmv,
        hf, htc, hkind, Option.isNone_some, Bool.false_eq_true, if_false, hst.1, if_true, hmkL _ _ hst.2, bind, Res.bind, pure]
      rfl
  · intro v
    simp only [objOf, mem_sortedStrs, mem_setOf]
    exact hLmem v

end ConvTie
