import Pi2.MM.ConvCoherence
import Pi2.MM.ConvSugar
/-!
# `attachAll` on constructor tables: closed form and `DB.notOk` (the part that does not mention statements)

`attach` (`Pi2/MM/ConvSpec.lean`) = "translate the `#Notation` statement" (`sugarEntry`) then "put the body at the one constructor
entry of the head" (`attachE`).  For entries with pairwise different heads, each with exactly one constructor entry of the same
variables and no body, `attachAll` succeeds and its result is the table with the bodies looked up (`dress1`): `attachAll_spec`.
For such a table `DB.notOk` holds when the entries come in the order of the constructor entries, every body is stated over the
variables of its entry, and mentions of the heads only EARLIER ones: `notOk_dress`.
-/
set_option linter.unusedSimpArgs false
set_option linter.unusedVariables false
set_option linter.unnecessarySimpa false
open MM

namespace MM.ConvSpec

abbrev Sugar := String × String × List MTerm × MTerm

/-- the model's reading of `l $a #Notation ( n v₁ … vₖ ) BODY`: (symbol, variables, body) -/
def sugarEntry (nm : Names) (sg : Sugar) : Option (Nat × List Nat × Term) := do
  let c ← nm.con? sg.2.1
  let vs ← asVars (← termsOf nm sg.2.2.1)
  let b ← termOf nm sg.2.2.2
  pure (c, vs, b)

def set1 (c : Nat) (b : Term) (k : Ctor) : Ctor := if k.sym == c then { k with body := some b } else k

def attachE (db : DB) (e : Nat × List Nat × Term) : Option DB :=
  match db.ctors.filter (·.sym == e.1) with
  | [k] => if k.args = e.2.1 ∧ k.body.isNone then some { db with ctors := db.ctors.map (set1 e.1 e.2.2) } else none
  | _ => none

theorem attach_eq (nm : Names) (db : DB) (sg : Sugar) : attach nm db sg = (sugarEntry nm sg).bind (attachE db) := by
  unfold attach sugarEntry
  simp only [Option.bind_eq_bind, Option.pure_def, Option.bind_assoc, Option.bind_some]
  rfl

/-- the table with the bodies of `N` at their symbols -/
def dress1 (N : List (Nat × Term)) (k : Ctor) : Ctor :=
  match N.lookup k.sym with
  | some b => { k with body := some b }
  | none => k

theorem set1_sym (c : Nat) (b : Term) (k : Ctor) : (set1 c b k).sym = k.sym := by
  unfold set1; split <;> rfl
theorem set1_args (c : Nat) (b : Term) (k : Ctor) : (set1 c b k).args = k.args := by
  unfold set1; split <;> rfl
theorem dress1_sym (N : List (Nat × Term)) (k : Ctor) : (dress1 N k).sym = k.sym := by
  unfold dress1; split <;> rfl
theorem dress1_args (N : List (Nat × Term)) (k : Ctor) : (dress1 N k).args = k.args := by
  unfold dress1; split <;> rfl

theorem lookup_none_of_not_mem {β : Type} (N : List (Nat × β)) (c : Nat) (h : c ∉ N.map (·.1)) : N.lookup c = none :=
  List.lookup_eq_none_iff.mpr fun _ hp => bne_iff_ne.mpr fun e => h (e ▸ List.mem_map_of_mem hp)

theorem mem_of_lookup_some {β : Type} (N : List (Nat × β)) (c : Nat) (b : β) (h : N.lookup c = some b) : c ∈ N.map (·.1) := by
  obtain ⟨l₁, l₂, rfl, _⟩ := List.lookup_eq_some_iff.mp h
  simp

theorem lookup_mid {β : Type} (Np : List (Nat × β)) (c : Nat) (b : β) (Nr : List (Nat × β)) (h : c ∉ Np.map (·.1)) :
    (Np ++ (c, b) :: Nr).lookup c = some b :=
  List.lookup_eq_some_iff.mpr ⟨Np, Nr, rfl, fun _ hp => bne_iff_ne.mpr fun e => h (e ▸ List.mem_map_of_mem hp)⟩

theorem dress1_nil (k : Ctor) : dress1 [] k = k := rfl

theorem dress1_set1 (c : Nat) (b : Term) (N : List (Nat × Term)) (hc : c ∉ N.map (·.1)) (k : Ctor) :
    dress1 N (set1 c b k) = dress1 ((c, b) :: N) k := by
  unfold set1 dress1
  by_cases h : k.sym = c
  · subst h
    simp [lookup_none_of_not_mem N _ hc]
  · simp [beq_false_of_ne h, List.lookup_cons]

theorem filter_sym_map (f : Ctor → Ctor) (hf : ∀ k, (f k).sym = k.sym) (c : Nat) (C : List Ctor) :
    (C.map f).filter (·.sym == c) = (C.filter (·.sym == c)).map f := by
  rw [List.filter_map]
  congr 1
  apply List.filter_congr
  intro k _
  simp [Function.comp, hf]

/-- `attachAll` on translated statements with pairwise different heads, each with exactly one constructor entry, over the same
variables and without a body: it succeeds, and changes nothing but the bodies -/
theorem attachAll_spec (nm : Names) : ∀ (sgs : List Sugar) (es : List (Nat × List Nat × Term)) (db : DB),
    sgs.mapM (sugarEntry nm) = some es → (es.map (·.1)).Nodup →
    (∀ e ∈ es, ∃ k, db.ctors.filter (·.sym == e.1) = [k] ∧ k.args = e.2.1 ∧ k.body = none) →
    attachAll nm db sgs = some { db with ctors := db.ctors.map (dress1 (es.map fun e => (e.1, e.2.2))) } := by
  intro sgs
  induction sgs with
  | nil =>
    intro es db h _ _
    simp at h
    subst h
    simp [attachAll, show dress1 [] = id from funext dress1_nil]
  | cons sg sgs ih =>
    intro es db h hnd hone
    obtain ⟨e, es', he, hes', rfl⟩ := (ConvCoh.mapM_cons_some _ _ _ _).mp h
    simp only [List.map_cons, List.nodup_cons] at hnd
    obtain ⟨k, hk, hargs, hbody⟩ := hone e (by simp)
    have hatt : attach nm db sg = some { db with ctors := db.ctors.map (set1 e.1 e.2.2) } := by
      rw [attach_eq, he]
      simp only [Option.bind_some, attachE, hk, hargs, hbody, Option.isNone_none, and_self, if_true]
    simp only [attachAll, hatt, Option.bind_eq_bind, Option.bind_some]
    rw [ih es' _ hes' hnd.2]
    · simp only [List.map_map, List.map_cons]
      congr 2
      apply List.map_congr_left
      intro k' _
      exact dress1_set1 e.1 e.2.2 _ (by simpa using hnd.1) k'
    · intro e' he'
      obtain ⟨k', hk', hargs', hbody'⟩ := hone e' (by simp [he'])
      have hne : e'.1 ≠ e.1 := by
        intro heq
        apply hnd.1
        rw [← heq]
        exact List.mem_map.mpr ⟨e', he', rfl⟩
      have hks : k'.sym = e'.1 := by
        have : k' ∈ db.ctors.filter (·.sym == e'.1) := by rw [hk']; simp
        simpa using (List.mem_filter.mp this).2
      have hset : set1 e.1 e.2.2 k' = k' := by
        unfold set1
        have : (k'.sym == e.1) = false := by rw [hks]; simpa using hne
        simp [this]
      refine ⟨k', ?_, hargs', hbody'⟩
      show (db.ctors.map (set1 e.1 e.2.2)).filter (·.sym == e'.1) = [k']
      rw [filter_sym_map _ (set1_sym _ _), hk', List.map_cons, List.map_nil, hset]

/-! ## `DB.notOk` of a dressed table -/

/-- every body mentions, of the symbols `all`, only those of EARLIER entries -/
def SymsOK (all : List Nat) : List Nat → List (Nat × Term) → Prop
  | _, [] => True
  | seen, p :: r => (∀ s ∈ p.2.syms, s ∈ seen ∨ s ∉ all) ∧ SymsOK all (seen ++ [p.1]) r

theorem notWf_dress (db : DB) (N : List (Nat × Term)) (hnd : (N.map (·.1)).Nodup)
    (hNS : ∀ s ∈ db.notSyms, s ∈ N.map (·.1)) :
    ∀ (C : List Ctor) (Np Nr : List (Nat × Term)), N = Np ++ Nr → (∀ k ∈ C, k.body = none) →
      (∀ p ∈ N, ∀ k ∈ C, k.sym = p.1 → ∀ v ∈ p.2.vars, v ∈ k.args) →
      (C.map (·.sym)).filter (N.map (·.1)).contains = Nr.map (·.1) →
      SymsOK (N.map (·.1)) (Np.map (·.1)) Nr →
      db.notWf (Np.map (·.1)) (C.map (dress1 N)) = true := by
  intro C
  induction C with
  | nil => intro _ _ _ _ _ _ _; rfl
  | cons k C ih =>
    intro Np Nr hN hplain hvars hord hsy
    simp only [List.map_cons]
    by_cases hk : k.sym ∈ N.map (·.1)
    · have hc : (N.map (·.1)).contains k.sym = true := by simpa using hk
      simp only [List.map_cons, List.filter_cons, hc, if_true] at hord
      match Nr, hord, hsy, hN with
      | [], hord, _, _ => simp at hord
      | p :: Nr', hord, hsy, hN =>
        simp only [List.map_cons, List.cons.injEq] at hord
        obtain ⟨hp1, hord'⟩ := hord
        have hnp : p.1 ∉ Np.map (·.1) := by
          rw [hN, List.map_append, List.map_cons, List.nodup_append] at hnd
          intro hm
          exact hnd.2.2 _ hm _ (by simp) rfl
        have hlk : N.lookup k.sym = some p.2 := by
          rw [hN, hp1]
          exact lookup_mid Np p.1 p.2 Nr' hnp
        have hpN : p ∈ N := by rw [hN]; simp
        have hd : dress1 N k = { k with body := some p.2 } := by
          unfold dress1; rw [hlk]
        rw [hd]
        unfold DB.notWf
        simp only [Bool.and_eq_true, List.all_eq_true, List.contains_eq_mem, decide_eq_true_eq, Bool.or_eq_true,
          Bool.not_eq_true', decide_eq_false_iff_not]
        refine ⟨⟨?_, ?_⟩, ?_⟩
        · intro v hv
          exact hvars p hpN k (by simp) hp1 v hv
        · intro s hs
          rcases hsy.1 s hs with h | h
          · exact Or.inl h
          · exact Or.inr (fun hm => h (hNS s hm))
        · have := ih (Np ++ [p]) Nr' (by rw [hN]; simp) (fun k' hk' => hplain k' (by simp [hk']))
            (fun q hq k' hk' => hvars q hq k' (by simp [hk'])) hord' (by simpa [hp1] using hsy.2)
          simpa [hp1] using this
    · have hc : (N.map (·.1)).contains k.sym = false := by simpa using hk
      simp only [List.map_cons, List.filter_cons, hc, Bool.false_eq_true, if_false] at hord
      have hd : dress1 N k = k := by
        unfold dress1; rw [lookup_none_of_not_mem N k.sym hk]
      rw [hd]
      unfold DB.notWf
      rw [hplain k (by simp)]
      exact ih Np Nr hN (fun k' hk' => hplain k' (by simp [hk'])) (fun q hq k' hk' => hvars q hq k' (by simp [hk'])) hord hsy

/-- `DB.notOk` of the table `C0` (no bodies) dressed with `N` -/
theorem notOk_dress (db : DB) (C0 : List Ctor) (N : List (Nat × Term)) (hdb : db.ctors = C0.map (dress1 N))
    (hplain : ∀ k ∈ C0, k.body = none) (hnd : (N.map (·.1)).Nodup)
    (hone : ∀ p ∈ N, (C0.filter (·.sym == p.1)).length = 1)
    (hord : (C0.map (·.sym)).filter (N.map (·.1)).contains = N.map (·.1))
    (hvars : ∀ p ∈ N, ∀ k ∈ C0, k.sym = p.1 → ∀ v ∈ p.2.vars, v ∈ k.args)
    (hsyms : SymsOK (N.map (·.1)) [] N) : db.notOk = true := by
  have hbody : ∀ k ∈ C0, (dress1 N k).body.isSome = true → k.sym ∈ N.map (·.1) := by
    intro k hk hb
    cases hl : N.lookup k.sym with
    | none =>
      unfold dress1 at hb
      rw [hl] at hb
      simp [hplain k hk] at hb
    | some b => exact mem_of_lookup_some N _ b hl
  have hNS : ∀ s ∈ db.notSyms, s ∈ N.map (·.1) := by
    intro s hs
    unfold DB.notSyms at hs
    rw [hdb] at hs
    obtain ⟨k', hk', rfl⟩ := List.mem_map.mp hs
    obtain ⟨hk'm, hk'b⟩ := List.mem_filter.mp hk'
    obtain ⟨k, hk, rfl⟩ := List.mem_map.mp hk'm
    rw [dress1_sym]
    exact hbody k hk hk'b
  unfold DB.notOk
  simp only [Bool.and_eq_true, List.all_eq_true, Bool.or_eq_true, beq_iff_eq]
  constructor
  · intro k' hk'
    rw [hdb] at hk' ⊢
    obtain ⟨k, hk, rfl⟩ := List.mem_map.mp hk'
    cases hb : (dress1 N k).body with
    | none => left; rfl
    | some b =>
      right
      have hmem := hbody k hk (by simp [hb])
      obtain ⟨p, hp, hpk⟩ := List.mem_map.mp hmem
      rw [filter_sym_map _ (dress1_sym N), List.length_map, dress1_sym, ← hpk]
      exact hone p hp
  · rw [hdb]
    exact notWf_dress db N hnd hNS C0 [] N rfl hplain hvars hord hsyms

end MM.ConvSpec
