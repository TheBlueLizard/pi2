import Pi2.MM.ConvSpec
/-!
# What a database of the supported fragment IS: `FragmentShape`

A decidable predicate on the parsed database (`MDb`) and the target label that speaks about the STATEMENTS only — it mentions
neither the output of the specification `dbOfMDb` (`Pi2/MM/ConvSpec.lean`) nor the converter.  Written from the Metamath meaning of
the statements (Metamath book, chapter 4) and the fixed names by which `translate.exec_proof` knows the built-in constructors and
the three proof rules:

* top level: `$c`, `$v`, `$f`, `$a`, one `$p`, and blocks `${ $e … $e $a $}`; no `$d`, no `$e` outside a block;
* `$f`: `v-is-pattern $f #Pattern v` for a variable `v` that is declared (`$v`) BEFORE the statement, is no constant, no reserved
  word (`\imp`, `\app`, `\exists`, `\mu`) and has no earlier `$f`;
* terms: variables with a `$f` statement; `( \imp a b )`, `( \app a b )`; `( s a₁ … aₙ )` / `s` for a declared constant `s` that is
  no reserved word (so the binders `\exists`, `\mu` are outside the fragment);
* `l $a #Pattern ( s v₁ … vₙ )` / `l $a #Pattern s`: pairwise different variables as arguments; `s = \imp` (resp. `\app`) exactly
  for the label `imp-is-pattern` (resp. `app-is-pattern`), then with two arguments; otherwise `s` is a declared constant that is
  neither reserved nor a quoted literal `"…"`;
* `l $a |- t`, alone or closing a block of `$e |- h` statements: terms as above; the labels `proof-rule-prop-1`, `proof-rule-prop-2`,
  `proof-rule-mp` state exactly the three rules (over pairwise different variables), no other label begins with `proof-rule-`;
* all labels (`$f`, `$e`, `$a`, `$p`) pairwise different; `imp-is-pattern` and the three proof rules are present;
* exactly one `$p`, at top level: `target $p |- t $= ( l₁ … lₖ ) LETTERS $.` — a compressed proof: the cited labels are Metamath
  labels (letters, digits, `-`, `_`, `.`) of `$f` / `$a` statements of the database, the letter tokens consist of printable ASCII
  and decode as in Appendix B of the Metamath book.

`Pi2/MM/ConvCoherence.lean` proves that every such database is in the fragment of the converter tie (`ConvTie.InFragmentX`), with
`dbOfMDb` coherent with every statement.
-/
namespace MM.ConvSpec

def reserved (s : String) : Bool := s == "\\imp" || s == "\\app" || s == "\\exists" || s == "\\mu"

/-- a quoted literal `"…"` (a different sort of constant for the converter; outside the fragment) -/
def quoted (s : String) : Bool :=
  match s.toList with
  | c :: _ => c == '"'
  | [] => false

/-- a printable, non-blank ASCII character: the characters of Metamath tokens -/
def tokChar (c : Char) : Bool := decide (33 ≤ c.toNat) && decide (c.toNat ≤ 126)
/-- the characters of Metamath labels: letters, digits, `-`, `_`, `.` -/
def labelChar (c : Char) : Bool :=
  let n := c.toNat
  (decide (48 ≤ n) && decide (n ≤ 57)) || (decide (65 ≤ n) && decide (n ≤ 90)) || (decide (97 ≤ n) && decide (n ≤ 122)) ||
  n == 45 || n == 46 || n == 95
def labelTok (s : String) : Bool := !s.toList.isEmpty && s.toList.all labelChar

mutual
/-- a term of the fragment over the constants `K` and the variables `fs` (those with a `$f` statement) -/
def termShape (K fs : List String) : MTerm → Bool
  | .mv v => fs.contains v
  | .app s args =>
      if s = "\\imp" ∨ s = "\\app" then args.length == 2 && termsShape K fs args
      else !reserved s && K.contains s && termsShape K fs args
def termsShape (K fs : List String) : List MTerm → Bool
  | [] => true
  | t :: ts => termShape K fs t && termsShape K fs ts
end

/-- the argument list of a pattern-constructor axiom: variables -/
def mvNames : List MTerm → Option (List String)
  | [] => some []
  | .mv v :: ts => (mvNames ts).map (v :: ·)
  | _ :: _ => none

/-- `l $a #Pattern ( s v₁ … vₙ )` / `l $a #Pattern s` -/
def syntaxShape (K fs : List String) (l : String) : MTerm → Bool
  | .mv _ => false
  | .app s args =>
      match mvNames args with
      | none => false
      | some vs =>
          vs.all fs.contains && decide vs.Nodup &&
          (if s = "\\imp" then l == "imp-is-pattern" && vs.length == 2
           else if s = "\\app" then l == "app-is-pattern" && vs.length == 2
           else !reserved s && K.contains s && !quoted s && l != "imp-is-pattern" && l != "app-is-pattern")

/-- the three proof rules are stated as `exec_proof` expects them, under their names; no other label begins with `proof-rule-` -/
def ruleShape (l : String) (hyps : List MTerm) (t : MTerm) : Bool :=
  if l = "proof-rule-prop-1" then
    match hyps, t with
    | [], .app i1 [.mv a, .app i2 [.mv b, .mv a']] => i1 == "\\imp" && i2 == "\\imp" && a' == a && a != b
    | _, _ => false
  else if l = "proof-rule-prop-2" then
    match hyps, t with
    | [], .app i1 [.app i2 [.mv a, .app i3 [.mv b, .mv c]], .app i4 [.app i5 [.mv a', .mv b'], .app i6 [.mv a'', .mv c']]] =>
        i1 == "\\imp" && i2 == "\\imp" && i3 == "\\imp" && i4 == "\\imp" && i5 == "\\imp" && i6 == "\\imp" &&
        a' == a && a'' == a && b' == b && c' == c && a != b && a != c && b != c
    | _, _ => false
  else if l = "proof-rule-mp" then
    match hyps, t with
    | [.app i1 [.mv a, .mv b], .mv a'], .mv b' => i1 == "\\imp" && a' == a && b' == b && a != b
    | _, _ => false
  else !("proof-rule-".toList.isPrefixOf l.toList)

/-- `$e |- h` -/
def essTerm : MStmt → Option MTerm
  | .ess _ [.app tc [], h] => if tc = "|-" then some h else none
  | _ => none

/-- a top-level statement of the fragment (the `$f` statements: `floatsShape`; the proof of the `$p`: `proofShape`) -/
def stmtShape (K fs : List String) : MStmt → Bool
  | .const _ => true
  | .var _ => true
  | .float _ _ _ => true
  | .ax l [.app tc [], t] =>
      if tc = "#Pattern" then syntaxShape K fs l t else tc == "|-" && termShape K fs t && ruleShape l [] t
  | .prov _ [.app tc [], t] _ => tc == "|-" && termShape K fs t
  | .block ss =>
      match ss.getLast?, ss.dropLast.mapM essTerm with
      | some (.ax l [.app tc [], t]), some hs => tc == "|-" && termShape K fs t && termsShape K fs hs && ruleShape l hs t
      | _, _ => false
  | _ => false

/-- `(label, variable)` of the `$f` statements, in order -/
def floatsOf : MDb → List (String × String)
  | [] => []
  | .float l _ v :: r => (l, v) :: floatsOf r
  | _ :: r => floatsOf r

/-- the `$f` statements in their places: `vs` = the variables declared so far, `fs` = those with a `$f` so far -/
def floatsShape (K : List String) : List String → List String → MDb → Bool
  | _, _, [] => true
  | vs, fs, .var ws :: r => floatsShape K (vs ++ ws) fs r
  | vs, fs, .float l tc v :: r =>
      tc == "#Pattern" && l == v ++ "-is-pattern" && vs.contains v && !fs.contains v && !K.contains v && !reserved v &&
      floatsShape K vs (fs ++ [v]) r
  | vs, fs, _ :: r => floatsShape K vs fs r

/-- label and typecode of an `$a` statement, alone or closing a block -/
def axHeadOf : MStmt → Option (String × String)
  | .ax l (.app tc [] :: _) => some (l, tc)
  | .block ss => (match ss.getLast? with | some (.ax l (.app tc [] :: _)) => some (l, tc) | _ => none)
  | _ => none

/-- the labels of the `$a` statements -/
def axLabelsOf (mdb : MDb) : List String := mdb.filterMap fun st => (axHeadOf st).map (·.1)

def innerLabel : MStmt → Option String
  | .float l _ _ => some l
  | .ess l _ => some l
  | .ax l _ => some l
  | .prov l _ _ => some l
  | _ => none

/-- all labels of the database, in order (blocks: one level, as in the fragment) -/
def labelsOf : MDb → List String
  | [] => []
  | .block ss :: r => ss.filterMap innerLabel ++ labelsOf r
  | st :: r => (innerLabel st).toList ++ labelsOf r

def isProv : MStmt → Bool
  | .prov _ _ _ => true
  | _ => false

/-- a compressed proof `( l₁ … lₖ ) LETTERS`; `citable` = the labels of the `$f` and `$a` statements -/
def proofShape (citable : List String) (pf : List String) : Bool :=
  match pf with
  | "(" :: rest =>
      match parseLabels rest [] with
      | some (labels, body) =>
          labels.all (fun l => labelTok l && citable.contains l) && body.all (fun b => b.toList.all tokChar) &&
          (tokenize (body.flatMap String.toList) []).isSome
      | none => false
  | _ => false

/-- the database `mdb`, WITHOUT `#Notation` statements, with the theorem `target` is a database of the supported fragment -/
def CoreShape (mdb : MDb) (target : String) : Bool :=
  let K := constsOf mdb
  let F := floatsOf mdb
  let fs := F.map (·.2)
  floatsShape K [] [] mdb &&
  mdb.all (stmtShape K fs) &&
  decide (labelsOf mdb).Nodup &&
  mdb.any (fun st => axHeadOf st == some ("imp-is-pattern", "#Pattern")) &&
  mdb.any (fun st => axHeadOf st == some ("proof-rule-prop-1", "|-")) &&
  mdb.any (fun st => axHeadOf st == some ("proof-rule-prop-2", "|-")) &&
  mdb.any (fun st => axHeadOf st == some ("proof-rule-mp", "|-")) &&
  (match mdb.filter isProv with
   | [.prov l _ pf] => l == target && proofShape (F.map (·.1) ++ axLabelsOf mdb) pf
   | _ => false)

/-! ## declared notations (`sugarShape`)

`l $a #Notation ( n v₁ … vₖ ) BODY $.` / `l $a #Notation n BODY $.`:
* `n` has exactly one constructor axiom `… $a #Pattern ( n v₁ … vₖ )`, BEFORE the statement, over the same variables in the same
  order (pairwise different, with `$f`: `syntaxShape`); one `#Notation` statement per head;
* `BODY` is a term over `v₁ … vₖ` (no other variable), the constants and `\imp` / `\app`; of the heads of `#Notation` statements it
  mentions only those whose `#Notation` statement comes EARLIER (so not `n` itself): `MetamathConverter._top_down` imports the
  `#Notation` statements in database order and converts each body in the scope of the notations imported so far — a later one stays an
  opaque symbol inside the body but is expanded where it is written directly (finding KF-C16-forward-notation);
* the `#Notation` statements come in the order of the constructor axioms of their heads (the model's `DB.notTab` imports the
  notations in the order of the constructor entries);
* everywhere in the database (`$a`, `$e`, `$p`, bodies) a head `n` is applied to exactly `k` arguments (with fewer the closure built
  by `_to_pattern` raises `IndexError`, with more it ignores the rest);
* all labels, those of the `#Notation` statements included, are pairwise different; the proof cites no `#Notation` statement
  (`CoreShape` of the database without them: `proofShape`);
* no `#Notation` statement has the head `\imp` or `\app` (`headsPlain`): their "constructor axioms" `imp-is-pattern` / `app-is-pattern`
  are the built-in connectives, not constructor entries, and the converter has nothing to attach a body to;
* without its `#Notation` statements the database is a database of the fragment (`CoreShape`). -/

/-- `… $a #Pattern ( s a₁ … aₙ )`: head and arguments -/
def ctorHeadOf : MStmt → Option (String × List MTerm)
  | .ax _ [.app tc [], .app s args] => if tc = "#Pattern" then some (s, args) else none
  | _ => none

mutual
/-- the heads of the applications of a term -/
def headsOf : MTerm → List String
  | .mv _ => []
  | .app s args => s :: headsOfL args
def headsOfL : List MTerm → List String
  | [] => []
  | t :: ts => headsOf t ++ headsOfL ts
end

mutual
/-- the declared notations are applied to as many arguments as they have variables; `ar`: (head, number of variables) -/
def arityShape (ar : List (String × Nat)) : MTerm → Bool
  | .mv _ => true
  | .app s args => (match ar.lookup s with | some k => args.length == k | none => true) && aritiesShape ar args
def aritiesShape (ar : List (String × Nat)) : List MTerm → Bool
  | [] => true
  | t :: ts => arityShape ar t && aritiesShape ar ts
end

def stmtArity (ar : List (String × Nat)) : MStmt → Bool
  | .ess _ ts => aritiesShape ar ts
  | .ax _ ts => aritiesShape ar ts
  | .prov _ ts _ => aritiesShape ar ts
  | .block ss => ss.all fun
      | .ess _ ts => aritiesShape ar ts
      | .ax _ ts => aritiesShape ar ts
      | _ => true
  | _ => true

/-- the `#Notation` statements in their places: `cs` = (head, variables) of the constructor axioms so far, `seen` = the heads of the
`#Notation` statements so far; `heads` = the heads of all `#Notation` statements of the database -/
def sugarShape (K heads : List String) : List (String × List String) → List String → MDb → Bool
  | _, _, [] => true
  | cs, seen, st :: r =>
      match sugarOf st with
      | some (_, n, args, body) =>
          (match mvNames args with
           | some vs => (cs.filter (·.1 == n)).map (·.2) == [vs] && termShape K vs body
           | none => false) &&
          (headsOf body).all (fun s => seen.contains s || !heads.contains s) &&
          sugarShape K heads cs (seen ++ [n]) r
      | none =>
          match ctorHeadOf st with
          | some (s, args) => sugarShape K heads (cs ++ [(s, (mvNames args).getD [])]) seen r
          | none => sugarShape K heads cs seen r

/-- no `#Notation` statement for `\imp` or `\app`: these two heads have no constructor ENTRY (`imp-is-pattern` / `app-is-pattern` are
the built-in connectives, not constructors), so the converter has nothing to attach the body to -/
def headsPlain (mdb : MDb) : Bool := (sugarsOf mdb).all fun sg => sg.2.1 != "\\imp" && sg.2.1 != "\\app"

/-- the database `mdb` with the theorem `target` is a database of the supported fragment -/
def FragmentShape (mdb : MDb) (target : String) : Bool :=
  let K := constsOf mdb
  let sugars := sugarsOf mdb
  let heads : List String := sugars.map (·.2.1)
  let ctorHeads : List String := (mdb.filterMap ctorHeadOf).map (·.1)
  CoreShape (coreOf mdb) target &&
  decide (labelsOf mdb).Nodup &&
  decide heads.Nodup &&
  heads.all (fun n => (ctorHeads.filter (· == n)).length == 1) &&
  ctorHeads.filter heads.contains == heads &&
  sugarShape K heads [] [] mdb &&
  mdb.all (stmtArity (sugars.map fun sg => (sg.2.1, sg.2.2.1.length))) &&
  headsPlain mdb

/-- the clause `headsPlain` of `FragmentShape` -/
theorem headsPlain_of_fragmentShape {mdb : MDb} {target : String} (h : FragmentShape mdb target = true) : headsPlain mdb = true := by
  simp only [FragmentShape, Bool.and_eq_true] at h
  exact h.2

/-- a database without `#Notation` statements: `FragmentShape` says what `CoreShape` says … -/
theorem coreShape_of_sugarFree {mdb : MDb} {target : String} (h : FragmentShape mdb target = true) (hs : sugarFree mdb = true) :
    CoreShape mdb target = true := by
  simp only [FragmentShape, Bool.and_eq_true] at h
  have := h.1.1.1.1.1.1.1
  rwa [coreOf_of_sugarFree hs] at this

/-- … and a database of `CoreShape` has none -/
theorem sugarFree_of_coreShape {mdb : MDb} {target : String} (h : CoreShape mdb target = true) : sugarFree mdb = true := by
  simp only [CoreShape, Bool.and_eq_true, List.all_eq_true] at h
  have hall := h.1.1.1.1.1.1.2
  simp only [sugarFree, List.all_eq_true]
  intro st hst
  have := hall st hst
  cases hs : isSugar st with
  | false => rfl
  | true =>
    unfold isSugar at hs
    match st, hs, this with
    | .ax l [.app tc [], .app n args, body], _, this => simp [stmtShape] at this

/-! ## non-vacuity: a small database of the fragment -/
namespace Example
def v (s : String) : MTerm := .mv s
def imp (a b : MTerm) : MTerm := .app "\\imp" [a, b]
def tc (s : String) : MTerm := .app s []

/-- constants, a binary constructor `f`, `\imp` / `\app`, three `$f` in shuffled order, one axiom, one rule with two hypotheses,
the three proof rules, and `goal $p |- ( \imp c ( \imp c c ) )` proved by `proof-rule-prop-1` -/
def db : MDb := [
  .const ["#Pattern", "|-", "(", ")", "\\imp", "\\app", "c", "f"],
  .var ["x", "y", "z"],
  .float "y-is-pattern" "#Pattern" "y",
  .float "z-is-pattern" "#Pattern" "z",
  .float "x-is-pattern" "#Pattern" "x",
  .ax "imp-is-pattern" [tc "#Pattern", imp (v "x") (v "y")],
  .ax "app-is-pattern" [tc "#Pattern", .app "\\app" [v "y", v "x"]],
  .ax "c-is-pattern" [tc "#Pattern", .app "c" []],
  .ax "f-is-pattern" [tc "#Pattern", .app "f" [v "z", v "x"]],
  .ax "proof-rule-prop-1" [tc "|-", imp (v "x") (imp (v "y") (v "x"))],
  .ax "proof-rule-prop-2" [tc "|-", imp (imp (v "x") (imp (v "y") (v "z"))) (imp (imp (v "x") (v "y")) (imp (v "x") (v "z")))],
  .block [.ess "proof-rule-mp.0" [tc "|-", imp (v "y") (v "x")], .ess "proof-rule-mp.1" [tc "|-", v "y"],
          .ax "proof-rule-mp" [tc "|-", v "x"]],
  .ax "ax0" [tc "|-", .app "f" [.app "c" [], .app "\\app" [v "x", .app "c" []]]],
  .block [.ess "r.0" [tc "|-", imp (v "x") (.app "c" [])], .ess "r.1" [tc "|-", v "z"],
          .ax "r" [tc "|-", .app "f" [v "z", .app "f" [v "x", .app "c" []]]]],
  .prov "goal" [tc "|-", imp (.app "c" []) (imp (.app "c" []) (.app "c" []))] ["(", "c-is-pattern", "proof-rule-prop-1", ")", "AAB"]]

theorem db_in_fragment : FragmentShape db "goal" = true := by decide +kernel
theorem db_sugarFree : sugarFree db = true := by decide +kernel
end Example

end MM.ConvSpec
