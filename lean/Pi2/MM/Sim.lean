import Pi2.MM.TermThm
import Pi2.MM.TrackF0
/-!
# T1: the translator simulates the Metamath verifier
-/
set_option linter.unusedSimpArgs false
set_option linter.unusedVariables false
open Pat PySt NPat

namespace MM

/-! ## the correspondence between Metamath statements and tracker terms -/

def EntRel (db : DB) (st : Stmt) (t : TTerm) : Prop :=
  ∃ p, t = (if st.thm then .proved p else .pat p) ∧ p.F0 = true ∧
    p.expand = (image db st.term).expand

def Rel (db : DB) : List Stmt → List TTerm → Prop
  | [], [] => True
  | a :: as, t :: ts => EntRel db a t ∧ Rel db as ts
  | _, _ => False

theorem EntRel.F0 {db : DB} {st : Stmt} {t : TTerm} (h : EntRel db st t) : t.body.F0 = true := by
  obtain ⟨p, rfl, hp, _⟩ := h
  split <;> exact hp

theorem Rel.ind {db : DB} {motive : (L : List Stmt) → (T : List TTerm) → Rel db L T → Prop}
    (nil : motive [] [] trivial)
    (cons : ∀ a t L T (ha : EntRel db a t) (h : Rel db L T), motive L T h → motive (a :: L) (t :: T) ⟨ha, h⟩) :
    ∀ L T (h : Rel db L T), motive L T h
  | [], [], _ => nil
  | a :: L, t :: T, h => cons a t L T h.1 h.2 (Rel.ind nil cons L T h.2)
  | [], _ :: _, h => h.elim
  | _ :: _, [], h => h.elim

theorem Rel.F0 {db : DB} {L : List Stmt} {T : List TTerm} (h : Rel db L T) : ∀ t ∈ T, t.body.F0 = true := by
  induction L, T, h using Rel.ind with
  | nil => simp
  | cons a t L T ha h ih =>
    intro u hu
    rcases List.mem_cons.mp hu with rfl | hu
    · exact ha.F0
    · exact ih u hu

theorem Rel.length_eq {db : DB} {L : List Stmt} {T : List TTerm} (h : Rel db L T) : L.length = T.length := by
  induction L, T, h using Rel.ind with
  | nil => rfl
  | cons a t L T ha h ih => simp [ih]

theorem Rel.append {db : DB} {A : List Stmt} {TA : List TTerm} {B : List Stmt} {TB : List TTerm}
    (h1 : Rel db A TA) (h2 : Rel db B TB) : Rel db (A ++ B) (TA ++ TB) := by
  induction A, TA, h1 using Rel.ind with
  | nil => exact h2
  | cons a t L T ha h ih => exact ⟨ha, ih⟩

theorem Rel.split {db : DB} : ∀ (A : List Stmt) {B : List Stmt} {T : List TTerm},
    Rel db (A ++ B) T → ∃ TA TB, T = TA ++ TB ∧ Rel db A TA ∧ Rel db B TB
  | [], _, T, h => ⟨[], T, rfl, trivial, h⟩
  | a :: A, B, [], h => h.elim
  | a :: A, B, t :: T, h => by
    obtain ⟨TA, TB, rfl, h1, h2⟩ := Rel.split A h.2
    exact ⟨t :: TA, TB, rfl, ⟨h.1, h1⟩, h2⟩

theorem Rel.snoc {db : DB} {L : List Stmt} {T : List TTerm} {a : Stmt} {t : TTerm}
    (h : Rel db L T) (ha : EntRel db a t) : Rel db (L ++ [a]) (T ++ [t]) :=
  Rel.append h ⟨ha, trivial⟩

theorem Rel.get {db : DB} {L : List Stmt} {T : List TTerm} (h : Rel db L T) (j : Nat) (a : Stmt)
    (hj : L[j]? = some a) : ∃ t, T[j]? = some t ∧ EntRel db a t := by
  induction L, T, h using Rel.ind generalizing j with
  | nil => simp at hj
  | cons b t L T hb h ih =>
    cases j with
    | zero =>
      simp only [List.getElem?_cons_zero, Option.some.injEq] at hj
      subst hj
      exact ⟨t, rfl, hb⟩
    | succ j => exact ih j hj

theorem Rel.reverse {db : DB} : ∀ {L : List Stmt} {T : List TTerm}, Rel db L T →
    Rel db L.reverse T.reverse := by
  intro L T h
  induction L, T, h using Rel.ind with
  | nil => trivial
  | cons a t L T ha h ih =>
    simp only [List.reverse_cons]
    exact Rel.snoc ih ha

/-- the bodies of a run of statements of one kind (`b`: `|-`, else `#Pattern`) -/
theorem Rel.bodies {db : DB} {b : Bool} {L : List Stmt} {T : List TTerm} (h : Rel db L T)
    (hf : ∀ f ∈ L, f.thm = b) :
    ∃ ps : List NPat, T = ps.map (fun p => if b then .proved p else .pat p) ∧ (∀ p ∈ ps, p.F0 = true) ∧
      ps.map NPat.expand = L.map fun f => (image db f.term).expand := by
  induction L, T, h using Rel.ind with
  | nil => exact ⟨[], rfl, by simp, rfl⟩
  | cons a t L T ha h ih =>
    obtain ⟨ps, rfl, h1, h2⟩ := ih (fun f hf' => hf f (List.mem_cons_of_mem _ hf'))
    obtain ⟨p, rfl, hp, he⟩ := ha
    refine ⟨p :: ps, by simp [hf a (by simp)], ?_, by simp [he, h2]⟩
    intro q hq
    rcases List.mem_cons.mp hq with rfl | hq
    · exact hp
    · exact h1 q hq

/-- the conclusions of a run of `|-` statements -/
theorem Rel.proofs {db : DB} : ∀ {L : List Stmt} {T : List TTerm}, Rel db L T →
    (∀ f ∈ L, f.thm = true) →
    ∃ ps : List NPat, T = ps.map TTerm.proved ∧ (∀ p ∈ ps, p.F0 = true) ∧
      ps.map NPat.expand = L.map fun f => (image db f.term).expand :=
  fun h hf => Rel.bodies (b := true) h hf

/-- a stack entry with a clear residue flag -/
def ent (t : TTerm) : TTerm × Bool := (t, false)

/-- the invariant of `exec_proof`'s loop against the verifier's state -/
structure Inv (db : DB) (goal : Term) (stack heap : List Stmt) (x : XSt) : Prop where
  phase : x.s.phase = .proof
  claims : x.s.claims = [image db goal]
  stack : ∃ T, x.s.stack = T.map ent ∧ Rel db stack T
  heap : Rel db heap x.mem
  memSub : ∀ t ∈ x.mem, t ∈ x.s.memory
  axioms : ∀ r ∈ db.rules, ∃ u ∈ x.s.memory, convT u = .proved (implChain db r.hyps r.concl).expand
  memF0 : ∀ u ∈ x.s.memory, u.body.F0 = true

theorem Inv.stF0 {db : DB} {goal : Term} {stack heap : List Stmt} {x : XSt}
    (h : Inv db goal stack heap x) : StF0 x.s := by
  obtain ⟨T, hT, hr⟩ := h.stack
  refine ⟨?_, h.memF0, ?_⟩
  · intro e he
    rw [hT] at he
    obtain ⟨t, ht, rfl⟩ := List.mem_map.mp he
    exact hr.F0 t ht
  · intro c hc
    rw [h.claims] at hc
    simp at hc; subst hc
    exact B0.toF0 _ (image_B0 db goal)

/-! ## runs of the tracker with some fuel -/

def ReachE (s : PySt) (cs : List Call) (s' : PySt) : Prop := ∃ n, Reach n s cs s'

theorem ReachE.single {s s' : PySt} {c : Call} (h : ∃ n, track1 n s c = some (some s')) :
    ReachE s [c] s' := by
  obtain ⟨n, h⟩ := h
  exact ⟨n, s', h, rfl⟩

theorem ReachE.append {s s1 s' : PySt} {cs1 cs2 : List Call} (h1 : ReachE s cs1 s1)
    (h2 : ReachE s1 cs2 s') : ReachE s (cs1 ++ cs2) s' := by
  obtain ⟨n1, h1⟩ := h1
  obtain ⟨n2, h2⟩ := h2
  exact ⟨max n1 n2, (reach_append _ cs1 cs2 s s').mpr
    ⟨s1, reach_mono (Nat.le_max_left n1 n2) h1, reach_mono (Nat.le_max_right n1 n2) h2⟩⟩

theorem doC_reach {n : Nat} {x : XSt} {cs : List Call} {s' : PySt} (h : Reach n x.s cs s') :
    x.doC n cs = some (some { x with s := s', calls := x.calls ++ cs }) := by
  simp only [XSt.doC, reach_doCalls n cs x.s x.calls s' h, Option.bind_eq_bind, Option.bind_some,
    Option.pure_def]

theorem doC_mono {n m : Nat} (h : n ≤ m) (x : XSt) (cs : List Call) :
    OLe (x.doC n cs) (x.doC m cs) :=
  OLe.of_step (fun n => x.doC n cs) (fun n => doC_step n x cs) h

theorem doC_total {x : XSt} {cs : List Call} {s' : PySt} (h : ReachE x.s cs s') :
    ∃ n, x.doC n cs = some (some { x with s := s', calls := x.calls ++ cs }) := by
  obtain ⟨n, h⟩ := h
  exact ⟨n, doC_reach h⟩

/-! ## the verifier, inverted -/

theorem applyAssertion_spec (mand : List Nat) (hyps : List Stmt) (concl : Stmt)
    (stack stack' : List Stmt) (h : applyAssertion ⟨mand, hyps, concl⟩ stack = some stack') :
    ∃ (es fs st2 : List Stmt), stack = es.reverse ++ (fs.reverse ++ st2) ∧ es.length = hyps.length ∧
      fs.length = mand.length ∧ (∀ f ∈ fs, f.thm = false) ∧
      es = hyps.map (fun h => ⟨h.thm, h.term.subst (mand.zip (fs.map (·.term)))⟩) ∧
      stack' = ⟨concl.thm, concl.term.subst (mand.zip (fs.map (·.term)))⟩ :: st2 := by
  simp only [applyAssertion, Option.bind_eq_bind, Option.bind_eq_some_iff] at h
  obtain ⟨⟨es, st1⟩, h1, ⟨fs, st2⟩, h2, h⟩ := h
  simp only [] at h
  obtain ⟨e1, l1⟩ := popN_spec _ _ _ _ h1
  obtain ⟨e2, l2⟩ := popN_spec _ _ _ _ h2
  by_cases hany : fs.any (·.thm) = true
  · simp [hany] at h
  · simp only [hany, Bool.false_eq_true, if_false, Option.pure_def, Option.bind_some] at h
    by_cases hne : (es != hyps.map fun h => ⟨h.thm, h.term.subst (mand.zip (fs.map (·.term)))⟩) = true
    · simp [hne] at h
    · simp only [hne, Bool.false_eq_true, if_false, Option.bind_some, Option.some.injEq] at h
      simp only [] at e2
      refine ⟨es, fs, st2, by rw [e1, e2], l1, l2, ?_, ?_, h.symm⟩
      · intro f hf
        have : ¬ (fs.any (·.thm) = true) := hany
        simp only [List.any_eq_true, not_exists, not_and, Bool.not_eq_true] at this
        exact this f hf
      · exact stmts_eq_of_not_bne _ _ (by simpa using hne)

/-! ## single calls, explicitly -/

theorem tr_save (n : Nat) (s : PySt) (t : TTerm) (b : Bool) (st : List (TTerm × Bool))
    (hs : s.stack = (t, b) :: st) :
    track1 n s .save = some (some { s with memory := s.memory ++ [t] }) := by
  simp [track1, hs]

theorem tr_pop (n : Nat) (s : PySt) (e : TTerm × Bool) (st : List (TTerm × Bool))
    (hs : s.stack = e :: st) : track1 n s .pop = some (some { s with stack := st }) := by
  simp [track1, hs]

theorem takePlugs_ents (plugs : List NPat) (rest : List (TTerm × Bool)) :
    takePlugs plugs.length ((plugs.reverse.map TTerm.pat).map ent ++ rest) = some (plugs, rest) := by
  have e : (plugs.reverse.map TTerm.pat).map ent = plugs.reverse.map entry := by
    rw [List.map_map]; rfl
  rw [e]
  simpa using takePlugs_rev plugs.reverse rest

theorem tr_instPattern (n : Nat) (s : PySt) (a : NPat) (plugs : List NPat) (keys : List Nat)
    (rest : List (TTerm × Bool)) (hlen : keys.length = plugs.length)
    (hs : s.stack = (.pat a, false) :: ((plugs.reverse.map TTerm.pat).map ent ++ rest)) :
    track1 n s (.instantiatePattern keys)
      = some (some { s with stack := (.pat (.inst a (keys.zip plugs)), false) :: rest }) := by
  simp only [track1, hs, hlen, takePlugs_ents]

theorem tr_instantiate (n : Nat) (s : PySt) (a c : NPat) (plugs : List NPat) (keys : List Nat)
    (rest : List (TTerm × Bool)) (hlen : keys.length = plugs.length) (hne : keys ≠ [])
    (hs : s.stack = (.proved a, false) :: ((plugs.reverse.map TTerm.pat).map ent ++ rest))
    (hc : instF n (keys.zip plugs) a = some c) :
    track1 n s (.instantiate keys) = some (some { s with stack := (.proved c, false) :: rest }) := by
  have : keys.isEmpty = false := by cases keys <;> simp at hne ⊢
  simp only [track1, hs, this, Bool.false_eq_true, if_false, hlen, takePlugs_ents, hc,
    Option.bind_eq_bind, Option.bind_some, Option.pure_def]

theorem tr_mp (n : Nat) (s : PySt) (l r c : NPat) (b1 b2 : Bool) (st : List (TTerm × Bool))
    (hs : s.stack = (.proved r, b1) :: (.proved l, b2) :: st) (hc : pyMP n l r = some (some c)) :
    track1 n s .mp = some (some { s with stack := (.proved c, false) :: st }) := by
  simp only [track1, hs, hc, Option.bind_eq_bind, Option.bind_some, Option.pure_def]

/-! ## re-establishing the invariant -/

theorem Inv.update {db : DB} {goal : Term} {stack heap : List Stmt} {x : XSt}
    (h : Inv db goal stack heap x) (x' : XSt) (stack' heap' : List Stmt)
    (hphase : x'.s.phase = x.s.phase) (hclaims : x'.s.claims = x.s.claims)
    (hstack : ∃ T, x'.s.stack = T.map ent ∧ Rel db stack' T)
    (hheap : Rel db heap' x'.mem)
    (hmemsub : ∀ t ∈ x'.mem, t ∈ x'.s.memory)
    (hext : ∃ e, x'.s.memory = x.s.memory ++ e ∧ ∀ u ∈ e, u.body.F0 = true) :
    Inv db goal stack' heap' x' := by
  obtain ⟨e, he, hF⟩ := hext
  refine ⟨by rw [hphase, h.phase], by rw [hclaims, h.claims], hstack, hheap, hmemsub, ?_, ?_⟩
  · intro r hr
    obtain ⟨u, hu, hc⟩ := h.axioms r hr
    exact ⟨u, by rw [he]; exact List.mem_append_left _ hu, hc⟩
  · intro u hu
    rw [he] at hu
    rcases List.mem_append.mp hu with hu | hu
    · exact h.memF0 u hu
    · exact hF u hu

theorem Inv.setStack {db : DB} {goal : Term} {stack heap stack' : List Stmt} {x : XSt}
    (h : Inv db goal stack heap x) (S : List (TTerm × Bool)) (a : List Call)
    (hS : ∃ T, S = T.map ent ∧ Rel db stack' T) :
    Inv db goal stack' heap ⟨{ x.s with stack := S }, a, x.mem⟩ :=
  ⟨h.phase, h.claims, hS, h.heap, h.memSub, h.axioms, h.memF0⟩

/-! ## the steps that do not apply an assertion -/

theorem sim_save (db : DB) (goal : Term) (stack heap : List Stmt) (x : XSt) (t : Stmt)
    (rest : List Stmt) (hinv : Inv db goal stack heap x) (hst : stack = t :: rest) :
    ∃ n x', xSave n x = some (some x') ∧ Inv db goal stack (heap ++ [t]) x' := by
  obtain ⟨T, hT, hr⟩ := hinv.stack
  subst hst
  cases T with
  | nil => exact hr.elim
  | cons tt T' =>
    have hstk : x.s.stack = (tt, false) :: T'.map ent := by rw [hT]; rfl
    have htop : top? x = some tt := by simp [top?, hstk]
    have hR : Reach 0 x.s [.save] { x.s with memory := x.s.memory ++ [tt] } :=
      ⟨_, tr_save 0 x.s tt false _ hstk, rfl⟩
    refine ⟨0, ⟨{ x.s with memory := x.s.memory ++ [tt] }, x.calls ++ [.save], x.mem ++ [tt]⟩,
      ?_, ?_⟩
    · simp only [xSave, htop, doC_reach hR, Option.bind_eq_bind, Option.bind_some, Option.pure_def]
    · refine hinv.update _ _ _ rfl rfl ⟨tt :: T', hstk, hr⟩ (Rel.snoc hinv.heap hr.1) ?_
        ⟨[tt], rfl, by simp; exact hr.1.F0⟩
      intro u hu
      simp only [List.mem_append, List.mem_singleton] at hu ⊢
      rcases hu with hu | hu
      · exact Or.inl (hinv.memSub u hu)
      · exact Or.inr hu

theorem sim_reuse (db : DB) (goal : Term) (stack heap : List Stmt) (x : XSt) (j : Nat) (t : Stmt)
    (hinv : Inv db goal stack heap x) (hj : heap[j]? = some t) :
    ∃ n x', xReuse n x j = some (some x') ∧ Inv db goal (t :: stack) heap x' := by
  obtain ⟨T, hT, hr⟩ := hinv.stack
  obtain ⟨tt, hm, he⟩ := hinv.heap.get j t hj
  have hmem : tt ∈ x.s.memory := hinv.memSub tt (List.mem_of_getElem? hm)
  obtain ⟨n, hl⟩ := load_total x.s tt hinv.stF0 he.F0 ⟨tt, hmem, rfl⟩
  refine ⟨n, { x with s := x.s.push tt, calls := x.calls ++ [.load tt] }, ?_, ?_⟩
  · simp only [xReuse, hm]
    exact doC_reach ⟨_, hl, rfl⟩
  · exact hinv.setStack _ _ ⟨tt :: T, by simp [hT, ent], he, hr⟩

theorem sim_float (db : DB) (goal : Term) (stack heap : List Stmt) (x : XSt) (v : Nat)
    (hinv : Inv db goal stack heap x) :
    ∃ n x', x.doC n [.metavar (db.mvId v) [] [] [] [] []] = some (some x') ∧
      Inv db goal (⟨false, .var v⟩ :: stack) heap x' := by
  obtain ⟨T, hT, hr⟩ := hinv.stack
  have hR : Reach 0 x.s [.metavar (db.mvId v) [] [] [] [] []] (x.s.push (.pat (PySt.phiN (db.mvId v)))) :=
    ⟨_, rfl, rfl⟩
  refine ⟨0, ⟨x.s.push (.pat (PySt.phiN (db.mvId v))),
    x.calls ++ [.metavar (db.mvId v) [] [] [] [] []], x.mem⟩, doC_reach hR, ?_⟩
  exact hinv.setStack _ _ ⟨.pat (PySt.phiN (db.mvId v)) :: T, by simp [hT, ent],
    ⟨PySt.phiN (db.mvId v), rfl, rfl, rfl⟩, hr⟩

/-! ## applying an assertion: the common part -/

theorem inv_split {db : DB} {goal : Term} {stack heap : List Stmt} {x : XSt}
    (hinv : Inv db goal stack heap x) (es fs st2 : List Stmt)
    (hstack : stack = es.reverse ++ (fs.reverse ++ st2)) (hfs : ∀ f ∈ fs, f.thm = false) :
    ∃ (TE : List TTerm) (plugs : List NPat) (T2 : List TTerm),
      x.s.stack = TE.map ent ++ ((plugs.reverse.map TTerm.pat).map ent ++ T2.map ent) ∧
      Rel db es.reverse TE ∧ Rel db st2 T2 ∧ plugs.length = fs.length ∧
      (∀ p ∈ plugs, p.F0 = true) ∧
      plugs.map NPat.expand = fs.map fun f => (image db f.term).expand := by
  obtain ⟨T, hT, hr⟩ := hinv.stack
  subst hstack
  obtain ⟨TE, T', rfl, hE, hr'⟩ := Rel.split _ hr
  obtain ⟨TF, T2, rfl, hF, h2⟩ := Rel.split _ hr'
  obtain ⟨ps, rfl, hps, hpe⟩ := hF.bodies (b := false) (fun f hf => hfs f (List.mem_reverse.mp hf))
  refine ⟨TE, ps.reverse, T2, by simp [hT], hE, h2, ?_, ?_, ?_⟩
  · have := congrArg List.length hpe
    simpa using this
  · intro p hp; exact hps p (List.mem_reverse.mp hp)
  · rw [List.map_reverse, hpe, List.map_reverse, List.reverse_reverse]

/-- an assertion without essential hypotheses consumes one pattern per mandatory variable -/
theorem inv_nohyps {db : DB} {goal : Term} {stack heap stack' : List Stmt} {x : XSt} {mand : List Nat}
    {concl : Stmt} (hinv : Inv db goal stack heap x)
    (h : applyAssertion ⟨mand, [], concl⟩ stack = some stack') :
    ∃ (fs st2 : List Stmt) (plugs : List NPat) (T2 : List TTerm),
      stack' = ⟨concl.thm, concl.term.subst (mand.zip (fs.map (·.term)))⟩ :: st2 ∧
      fs.length = mand.length ∧
      x.s.stack = (plugs.reverse.map TTerm.pat).map ent ++ T2.map ent ∧ Rel db st2 T2 ∧
      plugs.length = fs.length ∧ (∀ p ∈ plugs, p.F0 = true) ∧
      plugs.map NPat.expand = fs.map fun f => (image db f.term).expand := by
  obtain ⟨es, fs, st2, hst, hel, hfl, hfs, _, rfl⟩ := applyAssertion_spec _ _ _ _ _ h
  obtain rfl : es = [] := List.eq_nil_of_length_eq_zero hel
  obtain ⟨TE, plugs, T2, hS, hE, h2, hpl, hpF, hpe⟩ := inv_split hinv [] fs st2 hst hfs
  cases TE with
  | cons _ _ => exact hE.elim
  | nil => exact ⟨fs, st2, plugs, T2, rfl, hfl, hS, h2, hpl, hpF, hpe⟩

theorem agrees_of (db : DB) (g : Nat → Nat) (mand : List Nat)
    (fs : List Stmt) (plugs : List NPat) (hlen : fs.length = mand.length)
    (hexp : plugs.map NPat.expand = fs.map fun f => (image db f.term).expand)
    (hinj : ∀ v ∈ mand, ∀ w ∈ mand, g v = g w → v = w) :
    ∀ v ∈ mand, ∃ u, (mand.zip (fs.map (·.term))).lookup v = some u ∧
      Py.lookup (NPat.expand.expandMap ((mand.map g).zip plugs)) (g v) = some (image db u).expand := by
  intro v hv
  rw [expandMap_zip, hexp]
  have e : (fs.map fun f => (image db f.term).expand)
      = (fs.map (·.term)).map fun t => (image db t).expand := by rw [List.map_map]; rfl
  rw [e]
  exact zip_agree g (fun t => (image db t).expand) mand (fs.map (·.term)) (by simpa using hlen) hinj v hv

theorem agrees_mvId (db : DB) (ts : List Term)
    (fs : List Stmt) (plugs : List NPat) (hlen : fs.length = (db.mandOf ts).length)
    (hexp : plugs.map NPat.expand = fs.map fun f => (image db f.term).expand)
    (vs : List Nat) (hvs : ∀ v ∈ vs, v ∈ db.floats ∧ v ∈ Term.varsList ts) :
    Agrees db ((db.mandOf ts).zip (fs.map (·.term)))
      (Py.lookup (NPat.expand.expandMap ((db.deltaKeys ts).zip plugs))) vs := by
  intro v hv
  exact agrees_of db db.mvId (db.mandOf ts) fs plugs hlen hexp
    (fun a ha b hb e => mvId_inj db a b ((mem_mandOf db ts a).mp ha).1 e) v
    ((mem_mandOf db ts v).mpr (hvs v hv))

/-- `Interpreter.pattern` on the image of a term pushes it and keeps the rest of the invariant -/
theorem sim_pattern (cfg : Cfg) {db : DB} {goal : Term} {stack heap : List Stmt} {x : XSt}
    (hinv : Inv db goal stack heap x) (t : Term) :
    ∃ n s1 a1, patternF cfg n x.s (image db t) x.calls = some (some (s1, a1)) ∧
      s1.stack = (.pat (image db t), false) :: x.s.stack ∧
      Inv db goal stack heap ⟨{ s1 with stack := x.s.stack }, a1, x.mem⟩ := by
  obtain ⟨n, s1, a1, h1⟩ := patternF_term cfg (image db t) x.s x.calls (image_B0 db t) hinv.stF0
  obtain ⟨cs, _, _, hstk, hsf, hfr, _⟩ := patternF_tr cfg (Nat.le_refl n) (image_B0 db t) hinv.stF0 h1
  obtain ⟨e, he⟩ := hfr.2.2.1
  refine ⟨n, s1, a1, h1, hstk, hinv.update _ _ _ hfr.1 hfr.2.1 hinv.stack hinv.heap ?_ ⟨e, he, ?_⟩⟩
  · intro u hu
    show u ∈ s1.memory
    rw [he]; exact List.mem_append_left _ (hinv.memSub u hu)
  · intro u hu
    exact hsf.2.1 u (by rw [he]; exact List.mem_append_right _ hu)

/-- a `#Pattern` assertion without hypotheses, translated by `pattern` + `instantiate_pattern` -/
theorem sim_patAssert (cfg : Cfg) (db : DB) (goal : Term) (hwf : db.WF) (stack heap stack' : List Stmt)
    (x : XSt) (t : Term) (hvars : ∀ v ∈ Term.vars t, v ∈ db.floats) (hinv : Inv db goal stack heap x)
    (h : applyAssertion ⟨db.mandOf [t], [], ⟨false, t⟩⟩ stack = some stack') :
    ∃ n x', patThenInst cfg n x (image db t) (db.deltaKeys [t]) = some (some x') ∧
      Inv db goal stack' heap x' := by
  obtain ⟨fs, st2, plugs, T2, rfl, hfl, hS, h2, hpl, hpF, hpe⟩ := inv_nohyps hinv h
  obtain ⟨n, s1, a1, h1, hstk, hI⟩ := sim_pattern cfg hinv t
  have hR : Reach n s1 [.instantiatePattern (db.deltaKeys [t])]
      { s1 with stack := (.pat (.inst (image db t) ((db.deltaKeys [t]).zip plugs)), false) :: T2.map ent } :=
    ⟨_, tr_instPattern n s1 _ plugs _ _ (by simp [DB.deltaKeys, hpl, hfl]) (by rw [hstk, hS]), rfl⟩
  refine ⟨n, _, ?_, hI.setStack _ (a1 ++ [.instantiatePattern (db.deltaKeys [t])])
    ⟨.pat (.inst (image db t) ((db.deltaKeys [t]).zip plugs)) :: T2, rfl, ⟨_, rfl, ?_, ?_⟩, h2⟩⟩
  · simp only [patThenInst, h1, Option.bind_eq_bind, Option.bind_some]
    exact doC_reach (x := ⟨s1, a1, x.mem⟩) hR
  · simp [F0, B0.toF0 _ (image_B0 db t), F0Map_zip _ _ hpF]
  · simp only [NPat.expand]
    exact image_subst db hwf.tabMv _ _ t (agrees_mvId db [t] fs plugs hfl hpe _
      (fun v hv => ⟨hvars v hv, by simp [Term.varsList, hv]⟩))

theorem xCtor_eq (cfg : Cfg) (n : Nat) (db : DB) (x : XSt) (k : Nat) (c : Ctor)
    (hc : db.ctors[k]? = some c) :
    xCtor cfg n db x k =
      if (Term.vars (.con c.sym (c.args.map .var))).isEmpty then
        (patternF cfg n x.s (image db (.con c.sym (c.args.map .var))) x.calls).bind fun o =>
          match o with
          | none => pure none
          | some (s', c') => pure (some { x with s := s', calls := c' })
      else patThenInst cfg n x (image db (.con c.sym (c.args.map .var)))
        (db.deltaKeys [.con c.sym (c.args.map .var)]) := by
  unfold xCtor patThenInst
  simp only [hc, Option.bind_eq_bind]
  split
  · apply obind_congr rfl
    intro o
    rcases o with _ | ⟨s', c'⟩ <;> simp_all
  · apply obind_congr rfl
    intro o
    rcases o with _ | ⟨s', c'⟩ <;> simp_all

/-- `imp-is-pattern`, `app-is-pattern`: the axiom `mk a b` with image `mkN`, tracker call `c` -/
theorem sim_bin (cfg : Cfg) (db : DB) (goal : Term) (hwf : db.WF) (stack heap stack' : List Stmt) (x : XSt)
    (a b : Nat) (hab : a ≠ b) (hmem : a ∈ db.floats ∧ b ∈ db.floats)
    (mk : Term → Term → Term) (mkN : NPat → NPat → NPat) (c : Call)
    (hvars : Term.vars (mk (.var a) (.var b)) = [a, b])
    (hmk : ∀ σ u v, Term.subst σ (mk u v) = mk (Term.subst σ u) (Term.subst σ v))
    (hexp : ∀ u v p q, p.expand = (image db u).expand → q.expand = (image db v).expand →
      (mkN p q).expand = (image db (mk u v)).expand)
    (hF0 : ∀ p q, p.F0 = true → q.F0 = true → (mkN p q).F0 = true)
    (htr : ∀ (s : PySt) l r st, s.stack = (.pat r, false) :: (.pat l, false) :: st →
      track1 0 s c = some (some { s with stack := (.pat (mkN l r), false) :: st }))
    (hinv : Inv db goal stack heap x)
    (h : applyAssertion ⟨db.mandOf [mk (.var a) (.var b)], [], ⟨false, mk (.var a) (.var b)⟩⟩ stack
      = some stack') :
    ∃ n x', xBin cfg n db x (mk (.var a) (.var b)) [a, b] c = some (some x') ∧
      Inv db goal stack' heap x' := by
  by_cases hm : db.mandOf [mk (.var a) (.var b)] = [a, b]
  · -- the two mandatory variables in declaration order: one tracker call
    obtain ⟨fs, st2, plugs, T2, rfl, hfl, hS, h2, hpl, hpF, hpe⟩ := inv_nohyps hinv h
    rw [hm] at hfl ⊢
    match fs, hfl with
    | [f0, f1], _ =>
    match plugs, hpl with
    | [p0, p1], _ =>
    simp only [List.reverse_cons, List.reverse_nil, List.nil_append, List.map_cons, List.map_nil,
      List.cons_append, ent] at hS
    simp only [List.map_cons, List.map_nil, List.cons.injEq, and_true] at hpe
    refine ⟨0, _, ?_, hinv.setStack ((.pat (mkN p0 p1), false) :: T2.map ent) (x.calls ++ [c])
      ⟨_ :: T2, rfl, ⟨mkN p0 p1, rfl, hF0 _ _ (hpF p0 (by simp)) (hpF p1 (by simp)), ?_⟩, h2⟩⟩
    · have htp : topPats x 2 = true := by simp [topPats, hS, TTerm.isProved]
      simp only [xBin, hm, if_true, htp]
      exact doC_reach ⟨_, htr x.s p0 p1 _ hS, rfl⟩
    · have hba : (b == a) = false := by simp; exact fun e => hab e.symm
      simp only [hmk, Term.subst, List.map_cons, List.map_nil, List.zip_cons_cons, List.lookup_cons,
        beq_self_eq_true, hba, Option.getD_some]
      exact hexp _ _ _ _ hpe.1 hpe.2
  · obtain ⟨n, x', hx', hi⟩ := sim_patAssert cfg db goal hwf stack heap stack' x _
      (by
        rw [hvars]; intro v hv; simp at hv
        rcases hv with rfl | rfl
        · exact hmem.1
        · exact hmem.2) hinv h
    exact ⟨n, x', by simpa only [xBin, hm, if_false] using hx', hi⟩

theorem varsList_map_var (l : List Nat) : Term.varsList (l.map .var) = l := by
  induction l with
  | nil => rfl
  | cons a l ih => simp [Term.varsList, Term.vars, ih]

theorem sim_ctor (cfg : Cfg) (db : DB) (goal : Term) (hwf : db.WF) (stack heap stack' : List Stmt)
    (x : XSt) (k : Nat) (c : Ctor) (hc : db.ctors[k]? = some c) (hinv : Inv db goal stack heap x)
    (h : applyAssertion ⟨db.mandOf [.con c.sym (c.args.map .var)], [],
      ⟨false, .con c.sym (c.args.map .var)⟩⟩ stack = some stack') :
    ∃ n x', xCtor cfg n db x k = some (some x') ∧ Inv db goal stack' heap x' := by
  have hvars : Term.vars (.con c.sym (c.args.map .var)) = c.args := by
    simp [Term.vars, varsList_map_var]
  by_cases hemp : (Term.vars (.con c.sym (c.args.map .var))).isEmpty = true
  · obtain ⟨fs, st2, plugs, T2, rfl, hfl, hS, h2, hpl, hpF, hpe⟩ := inv_nohyps hinv h
    have hargs : c.args = [] := by rw [hvars] at hemp; simpa using hemp
    have hmand : db.mandOf [.con c.sym (c.args.map .var)] = [] := by
      simp [DB.mandOf, Term.varsList, Term.vars, hargs]
    rw [hmand] at hfl
    obtain rfl : fs = [] := List.eq_nil_of_length_eq_zero hfl
    obtain rfl : plugs = [] := List.eq_nil_of_length_eq_zero hpl
    obtain ⟨n, s1, a1, h1, hstk, hI⟩ := sim_pattern cfg hinv (.con c.sym (c.args.map .var))
    refine ⟨n, ⟨s1, a1, x.mem⟩, ?_, hI.setStack s1.stack a1
      ⟨_ :: T2, by rw [hstk, hS]; rfl, ⟨_, rfl, B0.toF0 _ (image_B0 db _), ?_⟩, h2⟩⟩
    · rw [xCtor_eq cfg n db x k c hc]
      simp only [hemp, if_true, h1, Option.bind_some, Option.pure_def]
    · simp [hargs, Term.subst, Term.substList]
  · obtain ⟨n, x', hx', hi⟩ := sim_patAssert cfg db goal hwf stack heap stack' x _
      (by rw [hvars]; exact (hwf.ctors c (List.mem_of_getElem? hc)).2) hinv h
    exact ⟨n, x', by rw [xCtor_eq cfg n db x k c hc]; simpa only [hemp, Bool.false_eq_true, if_false] using hx', hi⟩

/-! ## `instantiate` of a proved schema by the patterns below it -/

theorem sim_instantiate (x : XSt) (A : NPat) (hA : A.F0 = true) (plugs : List NPat)
    (hpF : ∀ p ∈ plugs, p.F0 = true) (rest : List (TTerm × Bool)) (keys : List Nat)
    (hkl : keys.length = plugs.length) (hne : keys ≠ [])
    (hstk : x.s.stack = (.proved A, false) :: ((plugs.reverse.map TTerm.pat).map ent ++ rest)) :
    ∃ n c, x.doC n [.instantiate keys] = some (some ⟨{ x.s with stack := (.proved c, false) :: rest },
        x.calls ++ [.instantiate keys], x.mem⟩) ∧ c.F0 = true ∧
      c.expand = Py.inst (Py.lookup (NPat.expand.expandMap (keys.zip plugs))) A.expand := by
  obtain ⟨n, c, hc, hcF, hce⟩ := instF_total (keys.zip plugs) A hA (F0Map_zip _ _ hpF)
  exact ⟨n, c, doC_reach ⟨_, tr_instantiate n x.s A c plugs keys rest hkl hne hstk hc, rfl⟩, hcF, hce⟩

/-- `proof-rule-prop-1`, `proof-rule-prop-2`: the rule `t` over the variables `roles` (position = the
metavariable of `schema`, which the call `c` pushes) -/
theorem sim_prop (db : DB) (goal : Term) (stack heap stack' : List Stmt) (x : XSt)
    (c : Call) (schema : NPat) (roles : List Nat) (t : Term) (hroles : roles.Nodup)
    (hmem : ∀ v ∈ roles, v ∈ db.floats) (hvars : ∀ v, v ∈ Term.vars t ↔ v ∈ roles) (hne : roles ≠ [])
    (htr : ∀ n s, track1 n s c = some (some (s.push (.proved schema)))) (hF : schema.F0 = true)
    (hexp : ∀ (σ : List (Nat × Term)) (δ : VId → Option Pat),
      (∀ v ∈ roles, ∃ u, σ.lookup v = some u ∧ δ (roles.idxOf v) = some (image db u).expand) →
      Py.inst δ schema.expand = (image db (t.subst σ)).expand)
    (hinv : Inv db goal stack heap x)
    (h : applyAssertion ⟨db.mandOf [t], [], ⟨true, t⟩⟩ stack = some stack') :
    ∃ n x', xProp n db x c roles = some (some x') ∧ Inv db goal stack' heap x' := by
  obtain ⟨fs, st2, plugs, T2, rfl, hfl, hS, h2, hpl, hpF, hpe⟩ := inv_nohyps hinv h
  have hmand : ∀ v, v ∈ db.mandOf [t] ↔ v ∈ roles := by
    intro v
    simp only [mem_mandOf, Term.varsList, List.append_nil, hvars]
    exact ⟨fun h => h.2, fun h => ⟨hmem v h, h⟩⟩
  have hkeys : ruleKeys db roles = some ((db.mandOf [t]).map (roles.idxOf ·)) := by
    have : db.floats.filter (roles.contains ·) = db.mandOf [t] :=
      List.filter_congr fun v _ => by simp [Term.varsList, hvars]
    simp only [ruleKeys, hroles, if_true, this]
  generalize db.mandOf [t] = mand at *
  have hne' : mand.map (roles.idxOf ·) ≠ [] := by
    obtain ⟨v, hv⟩ := List.exists_mem_of_ne_nil _ hne
    intro e
    have : mand = [] := by simpa using e
    rw [this] at hmand
    exact absurd ((hmand v).mpr hv) (by simp)
  obtain ⟨n, c', hc, hcF, hce⟩ := sim_instantiate ⟨x.s.push (.proved schema), x.calls ++ [c], x.mem⟩
    schema hF plugs hpF (T2.map ent) (mand.map (roles.idxOf ·)) (by simp [hpl, hfl]) hne'
    (by simp [PySt.push, hS])
  refine ⟨n, _, ?_, hinv.setStack ((.proved c', false) :: T2.map ent)
    (x.calls ++ [c] ++ [.instantiate (mand.map (roles.idxOf ·))]) ⟨.proved c' :: T2, rfl, ⟨c', rfl, hcF, ?_⟩, h2⟩⟩
  · have hR : Reach n x.s [c] (x.s.push (.proved schema)) := ⟨_, htr n x.s, rfl⟩
    simp only [xProp, doC_reach hR, hkeys, Option.bind_eq_bind, Option.bind_some]
    exact hc
  · rw [hce]
    exact hexp _ _ fun v hv => agrees_of db (roles.idxOf ·) mand fs plugs hfl hpe
      (fun a ha b _ e => idxOf_inj _ a b ((hmand a).mp ha) e) v ((hmand v).mpr hv)

theorem sim_p1 (db : DB) (goal : Term) (hwf : db.WF) (stack heap stack' : List Stmt)
    (x : XSt) (hinv : Inv db goal stack heap x)
    (h : applyAssertion ⟨db.mandOf [.imp (.var db.p1.1) (.imp (.var db.p1.2) (.var db.p1.1))], [],
      ⟨true, .imp (.var db.p1.1) (.imp (.var db.p1.2) (.var db.p1.1))⟩⟩ stack = some stack') :
    ∃ n x', xP1 n db x = some (some x') ∧ Inv db goal stack' heap x' := by
  refine sim_prop db goal stack heap stack' x .prop1 prop1N [db.p1.1, db.p1.2] _ (by simp [hwf.p1Ne])
    (by simp [hwf.p1Mem]) (by intro v; simp [Term.vars, or_comm]) (by simp) (fun _ _ => rfl) rfl ?_ hinv h
  intro σ δ hag
  obtain ⟨u1, hl1, hd1⟩ := hag db.p1.1 (by simp)
  obtain ⟨u2, hl2, hd2⟩ := hag db.p1.2 (by simp)
  have b12 : (db.p1.1 == db.p1.2) = false := by simpa using hwf.p1Ne
  simp only [List.idxOf_cons, beq_self_eq_true, b12, cond_true, cond_false, List.idxOf_nil] at hd1 hd2
  simp [prop1N, PySt.phiN, NPat.expand, Py.inst, hd1, hd2, image_imp, Term.subst, hl1, hl2]

theorem sim_p2 (db : DB) (goal : Term) (hwf : db.WF) (stack heap stack' : List Stmt)
    (x : XSt) (hinv : Inv db goal stack heap x)
    (h : applyAssertion ⟨db.mandOf [(Term.imp (.imp (.var db.p2.1) (.imp (.var db.p2.2.1) (.var db.p2.2.2))) (.imp (.imp (.var db.p2.1) (.var db.p2.2.1)) (.imp (.var db.p2.1) (.var db.p2.2.2))))], [], ⟨true, (Term.imp (.imp (.var db.p2.1) (.imp (.var db.p2.2.1) (.var db.p2.2.2))) (.imp (.imp (.var db.p2.1) (.var db.p2.2.1)) (.imp (.var db.p2.1) (.var db.p2.2.2))))⟩⟩ stack = some stack') :
    ∃ n x', xP2 n db x = some (some x') ∧ Inv db goal stack' heap x' := by
  have hn := hwf.p2Nodup
  simp only [List.nodup_cons, List.mem_cons, List.not_mem_nil, or_false, not_or, not_false_eq_true,
    List.nodup_nil, and_true] at hn
  obtain ⟨⟨h12, h13⟩, h23⟩ := hn
  refine sim_prop db goal stack heap stack' x .prop2 prop2N [db.p2.1, db.p2.2.1, db.p2.2.2] _
    hwf.p2Nodup (by simp [hwf.p2Mem]) ?_ (by simp) (fun _ _ => rfl) rfl ?_ hinv h
  · intro v
    simp only [Term.vars, List.mem_append, List.mem_cons, List.not_mem_nil, or_false]
    constructor
    · rintro ((h | h | h) | (h | h) | h | h) <;> simp [h]
    · rintro (h | h | h) <;> simp [h]
  · intro σ δ hag
    obtain ⟨u1, hl1, hd1⟩ := hag db.p2.1 (by simp)
    obtain ⟨u2, hl2, hd2⟩ := hag db.p2.2.1 (by simp)
    obtain ⟨u3, hl3, hd3⟩ := hag db.p2.2.2 (by simp)
    have b12 : (db.p2.1 == db.p2.2.1) = false := by simpa using h12
    have b13 : (db.p2.1 == db.p2.2.2) = false := by simpa using h13
    have b23 : (db.p2.2.1 == db.p2.2.2) = false := by simpa using h23
    simp only [List.idxOf_cons, beq_self_eq_true, b12, b13, b23, cond_true, cond_false, List.idxOf_nil]
      at hd1 hd2 hd3
    simp [prop2N, PySt.phiN, NPat.expand, Py.inst, hd1, hd2, hd3, image_imp, Term.subst, hl1, hl2, hl3]

theorem filter_length_two (l : List Nat) (hl : l.Nodup) (x y : Nat) (hxy : x ≠ y) (hx : x ∈ l)
    (hy : y ∈ l) (p : Nat → Bool) (hp : ∀ v, p v = true ↔ (v = x ∨ v = y)) :
    (l.filter p).length = 2 := by
  have h1 : (l.filter p).Nodup := List.Nodup.sublist List.filter_sublist hl
  have h2 : [x, y].Nodup := by simp [hxy]
  have := (List.perm_ext_iff_of_nodup h1 h2).mpr (by
    intro a
    simp only [List.mem_filter, hp, List.mem_cons, List.not_mem_nil, or_false]
    constructor
    · exact fun h => h.2
    · rintro (rfl | rfl)
      · exact ⟨hx, Or.inl rfl⟩
      · exact ⟨hy, Or.inr rfl⟩)
  simpa using this.length_eq

theorem mandOf_mp_length (db : DB) (hwf : db.WF) :
    (db.mandOf [.imp (.var db.mp.1) (.var db.mp.2), .var db.mp.1, .var db.mp.2]).length = 2 := by
  unfold DB.mandOf
  apply filter_length_two db.floats hwf.nodup db.mp.1 db.mp.2 hwf.mpNe hwf.mpMem.1 hwf.mpMem.2
  intro v
  simp only [Term.varsList, Term.vars, List.append_nil, List.contains_eq_mem, List.mem_cons,
    List.mem_append, List.not_mem_nil, or_false, decide_eq_true_eq]
  constructor
  · rintro ((h | h) | h | h) <;> simp [h]
  · rintro (h | h) <;> simp [h]

theorem sim_mp (db : DB) (goal : Term) (hwf : db.WF) (stack heap stack' : List Stmt)
    (x : XSt) (hinv : Inv db goal stack heap x)
    (h : applyAssertion ⟨db.mandOf [.imp (.var db.mp.1) (.var db.mp.2), .var db.mp.1, .var db.mp.2],
      [⟨true, .imp (.var db.mp.1) (.var db.mp.2)⟩, ⟨true, .var db.mp.1⟩], ⟨true, .var db.mp.2⟩⟩ stack
        = some stack') :
    ∃ n x', xMp n x = some (some x') ∧ Inv db goal stack' heap x' := by
  obtain ⟨es, fs, st2, hst, hel, hfl, hfs, hes, rfl⟩ := applyAssertion_spec _ _ _ _ _ h
  rw [mandOf_mp_length db hwf] at hfl
  generalize hσ : (db.mandOf [.imp (.var db.mp.1) (.var db.mp.2), .var db.mp.1, .var db.mp.2]).zip
    (fs.map (·.term)) = σ at *
  subst hes
  obtain ⟨TE, plugs, T2, hS, hE, h2, hpl, hpF, hpe⟩ := inv_split hinv _ fs st2 hst hfs
  simp only [List.map_cons, List.map_nil, List.reverse_cons, List.reverse_nil, List.nil_append,
    List.cons_append] at hE
  match TE, hE with
  | [t2, t1], hE =>
  obtain ⟨⟨q2, rfl, hq2F, hq2e⟩, ⟨q1, rfl, hq1F, hq1e⟩, _⟩ := hE
  simp only [Term.subst, if_true, image_var, image_imp, image_app, NPat.expand] at hq2e hq1e
  match plugs, (hpl.trans hfl) with
  | [p0, p1], _ =>
  simp only [List.map_cons, List.map_nil, List.reverse_cons, List.reverse_nil, List.nil_append,
    List.cons_append, ent, if_true] at hS
  -- modus ponens
  obtain ⟨n1, c, hc, hce, hcF⟩ := pyMP_total q1 q2 _ hq1F hq2F (by rw [hq1e, hq2e])
  have hR1 : Reach n1 x.s [.mp] { x.s with stack := (.proved c, false) :: (.pat p1, false) :: (.pat p0, false) :: T2.map ent } :=
    ⟨_, tr_mp n1 x.s q1 q2 c false false _ hS hc, rfl⟩
  -- save, pop the conclusion and the two patterns, load the conclusion
  have hsf4 : StF0 { x.s with stack := T2.map ent, memory := x.s.memory ++ [.proved c] } := by
    refine ⟨?_, ?_, hinv.stF0.2.2⟩
    · intro e he
      exact hinv.stF0.1 e (by rw [hS]; simp [he])
    · intro u hu
      rcases List.mem_append.mp hu with hu | hu
      · exact hinv.memF0 u hu
      · simp at hu; subst hu; exact hcF
  obtain ⟨n2, hl⟩ := load_total _ (.proved c) hsf4 hcF ⟨.proved c, by simp, rfl⟩
  have hR2 : Reach n2 { x.s with stack := (.proved c, false) :: (.pat p1, false) :: (.pat p0, false) :: T2.map ent }
      [.save, .pop, .pop, .pop, .load (.proved c)]
      { x.s with stack := (.proved c, false) :: T2.map ent, memory := x.s.memory ++ [.proved c] } :=
    ⟨_, tr_save n2 _ _ false _ rfl, _, tr_pop n2 _ _ _ rfl, _, tr_pop n2 _ _ _ rfl, _, tr_pop n2 _ _ _ rfl,
      _, hl, rfl⟩
  refine ⟨max n1 n2, ⟨{ x.s with stack := (.proved c, false) :: T2.map ent, memory := x.s.memory ++ [.proved c] }, (x.calls ++ [.mp]) ++ [.save, .pop, .pop, .pop, .load (.proved c)], x.mem⟩, ?_, ?_⟩
  · simp only [xMp, hS, Option.bind_eq_bind]
    rw [doC_reach (reach_mono (Nat.le_max_left n1 n2) hR1)]
    simp only [Option.bind_some, top?, List.head?_cons, Option.map_some]
    have h5 := doC_reach (x := ⟨{ x.s with stack := (.proved c, false) :: (.pat p1, false) :: (.pat p0, false) :: T2.map ent }, x.calls ++ [.mp], x.mem⟩)
      (reach_mono (Nat.le_max_right n1 n2) hR2)
    simpa using h5
  · refine hinv.update _ _ _ rfl rfl ⟨_ :: T2, rfl, ?_, h2⟩ hinv.heap ?_
      ⟨[.proved c], rfl, by simp; exact hcF⟩
    · exact ⟨c, rfl, hcF, by rw [hce]; simp [Term.subst]⟩
    · intro u hu
      exact List.mem_append_left _ (hinv.memSub u hu)

/-! ## an axiom with essential hypotheses -/

/-- the calls of the `save; pop` loop -/
def stashCalls : Nat → List Call
  | 0 => []
  | m + 1 => [.save, .pop] ++ stashCalls m

theorem stash_spec (n : Nat) : ∀ (E : List TTerm) (x : XSt) (saved : List TTerm)
    (rest : List (TTerm × Bool)), x.s.stack = E.map ent ++ rest →
    xstep.stash n x saved E.length = some (some
      (⟨{ x.s with stack := rest, memory := x.s.memory ++ E }, x.calls ++ stashCalls E.length, x.mem⟩,
        saved ++ E)) := by
  intro E
  induction E with
  | nil =>
    intro x saved rest hs
    simp only [List.map_nil, List.nil_append] at hs
    simp [xstep.stash, stashCalls, ← hs]
  | cons t E ih =>
    intro x saved rest hs
    have hs' : x.s.stack = (t, false) :: (E.map ent ++ rest) := by rw [hs]; rfl
    have hR : Reach n x.s [.save, .pop] { x.s with stack := E.map ent ++ rest, memory := x.s.memory ++ [t] } :=
      ⟨_, tr_save n x.s t false _ hs', _, tr_pop n _ _ _ hs', rfl⟩
    simp only [List.length_cons, xstep.stash, top?, hs', List.head?_cons, Option.map_some,
      doC_reach hR, Option.bind_eq_bind, Option.bind_some]
    rw [ih _ _ rest rfl]
    simp [stashCalls, List.append_assoc]

def chainP : List Pat → Pat → Pat
  | [], c => c
  | h :: hs, c => .imp h (chainP hs c)

theorem implChain_expand (db : DB) : ∀ (hs : List Term) (c : Term),
    (implChain db hs c).expand = chainP (hs.map fun h => (image db h).expand) (image db c).expand := by
  intro hs
  induction hs with
  | nil => intro c; rfl
  | cons h hs ih => intro c; simp [implChain, NPat.expand, chainP, ih]

theorem discharge_mono {n m : Nat} (h : n ≤ m) (x : XSt) (ts : List TTerm) :
    OLe (xstep.discharge n x ts) (xstep.discharge m x ts) :=
  OLe.of_step (fun n => xstep.discharge n x ts) (fun n => discharge_step n ts x) h

theorem discharge_total : ∀ (qs : List NPat) (x : XSt) (c : NPat) (C : Pat)
    (rest : List (TTerm × Bool)), x.s.stack = (.proved c, false) :: rest → c.F0 = true →
    (∀ q ∈ qs, q.F0 = true) → StF0 x.s → (∀ q ∈ qs, TTerm.proved q ∈ x.s.memory) →
    c.expand = chainP (qs.map NPat.expand) C →
    ∃ n c' cs, xstep.discharge n x (qs.map .proved) = some (some
        ⟨{ x.s with stack := (.proved c', false) :: rest }, x.calls ++ cs, x.mem⟩) ∧
      c'.F0 = true ∧ c'.expand = C := by
  intro qs
  induction qs with
  | nil =>
    intro x c C rest hs hc _ _ _ he
    refine ⟨0, c, [], ?_, hc, he⟩
    simp [xstep.discharge, ← hs]
  | cons q qs ih =>
    intro x c C rest hs hc hqs hsf hmem he
    have hq := hqs q (by simp)
    obtain ⟨n1, hl⟩ := load_total x.s (.proved q) hsf hq ⟨_, hmem q (by simp), rfl⟩
    simp only [List.map_cons, chainP] at he
    obtain ⟨n2, c1, hmp, hc1e, hc1F⟩ := pyMP_total c q _ hc hq he
    have hs1 : (x.s.push (.proved q)).stack = (.proved q, false) :: (.proved c, false) :: rest := by
      simp [PySt.push, hs]
    have hR2 : Reach n2 (x.s.push (.proved q)) [.mp] { x.s with stack := (.proved c1, false) :: rest } :=
      ⟨_, tr_mp n2 _ c q c1 false false rest hs1 hmp, rfl⟩
    obtain ⟨n3, c', cs, hd, hc'F, hc'e⟩ := ih
      ⟨{ x.s with stack := (.proved c1, false) :: rest }, (x.calls ++ [.load (.proved q)]) ++ [.mp], x.mem⟩
      c1 C rest rfl hc1F (fun q' hq' => hqs q' (List.mem_cons_of_mem _ hq'))
      (hsf.cons _ _ _ hc1F (fun e he' => by rw [hs]; exact List.mem_cons_of_mem _ he'))
      (fun q' hq' => hmem q' (List.mem_cons_of_mem _ hq')) hc1e
    refine ⟨max n1 (max n2 n3), c', [.load (.proved q), .mp] ++ cs, ?_, hc'F, hc'e⟩
    have hR1 : Reach (max n1 (max n2 n3)) x.s [.load (.proved q)] (x.s.push (.proved q)) :=
      ⟨_, track1_mono (Nat.le_max_left _ _) _ _ _ hl, rfl⟩
    have hR2' : Reach (max n1 (max n2 n3)) (x.s.push (.proved q)) [.mp]
        { x.s with stack := (.proved c1, false) :: rest } :=
      reach_mono (Nat.le_trans (Nat.le_max_left n2 n3) (Nat.le_max_right _ _)) hR2
    have hd' := discharge_mono (Nat.le_trans (Nat.le_max_right n2 n3) (Nat.le_max_right n1 _)) _ _ _ hd
    simp only [List.map_cons, xstep.discharge, Option.bind_eq_bind, doC_reach hR1, Option.bind_some, hs1]
    have h5 := doC_reach (x := ⟨x.s.push (.proved q), x.calls ++ [.load (.proved q)], x.mem⟩) hR2'
    simp only [] at h5
    rw [h5]
    simp only [Option.bind_some]
    rw [hd']
    simp [List.append_assoc]

theorem sim_rule (db : DB) (goal : Term) (hwf : db.WF) (stack heap stack' : List Stmt)
    (x : XSt) (k : Nat) (r : Rule) (hk : db.rules[k]? = some r) (hinv : Inv db goal stack heap x)
    (h : applyAssertion ⟨db.mandOf (r.hyps ++ [r.concl]), r.hyps.map (⟨true, ·⟩), ⟨true, r.concl⟩⟩ stack
        = some stack') :
    ∃ n x', xRule n db x k = some (some x') ∧ Inv db goal stack' heap x' := by
  obtain ⟨es, fs, st2, hst, hel, hfl, hfs, hes, rfl⟩ := applyAssertion_spec _ _ _ _ _ h
  have hrm : r ∈ db.rules := List.mem_of_getElem? hk
  simp only [xRule, hk]
  -- what the proof needs of the axiom `A` and of its variables
  have hAF : (implChain db r.hyps r.concl).F0 = true := B0.toF0 _ (implChain_B0 db _ _)
  obtain ⟨u, hu, huc⟩ := hinv.axioms r hrm
  have hvarsF : ∀ v ∈ Term.varsList (r.hyps ++ [r.concl]), v ∈ db.floats := hwf.rules r hrm
  have hsub := fun σ δ => implChain_subst db hwf.tabMv σ δ r.hyps r.concl
  generalize implChain db r.hyps r.concl = A at *
  generalize r.hyps ++ [r.concl] = ts at *
  generalize hσ : (db.mandOf ts).zip (fs.map (·.term)) = σ at *
  obtain ⟨TE, plugs, T2, hS, hE, h2, hpl, hpF, hpe⟩ := inv_split hinv es fs st2 hst hfs
  have hes' : es = r.hyps.map fun t => ⟨true, t.subst σ⟩ := by rw [hes, List.map_map]; rfl
  obtain ⟨qsr, rfl, hqF, hqe⟩ := hE.proofs (by
    intro f hf
    rw [hes'] at hf
    obtain ⟨t, _, rfl⟩ := List.mem_map.mp (List.mem_reverse.mp hf)
    rfl)
  have hlenE : (qsr.map TTerm.proved).length = r.hyps.length := by
    have := hE.length_eq
    simp only [List.length_reverse, List.length_map] at this ⊢
    rw [← this, hes']; simp
  -- stash
  have hstash := fun n => stash_spec n (qsr.map TTerm.proved) x []
    ((plugs.reverse.map TTerm.pat).map ent ++ T2.map ent) hS
  rw [hlenE] at hstash
  simp only [List.nil_append] at hstash
  generalize hx1 : (⟨{ x.s with stack := (plugs.reverse.map TTerm.pat).map ent ++ T2.map ent, memory := x.s.memory ++ qsr.map TTerm.proved }, x.calls ++ stashCalls r.hyps.length, x.mem⟩ : XSt) = x1 at hstash
  have hx1s : x1.s.stack = (plugs.reverse.map TTerm.pat).map ent ++ T2.map ent := by rw [← hx1]
  have hx1m : x1.s.memory = x.s.memory ++ qsr.map TTerm.proved := by rw [← hx1]
  have hx1mem : x1.mem = x.mem := by rw [← hx1]
  have hx1p : x1.s.phase = x.s.phase ∧ x1.s.claims = x.s.claims := by rw [← hx1]; exact ⟨rfl, rfl⟩
  have hsf1 : StF0 x1.s := by
    refine ⟨?_, ?_, by rw [hx1p.2]; exact hinv.stF0.2.2⟩
    · intro e he
      rw [hx1s] at he
      exact hinv.stF0.1 e (by rw [hS]; exact List.mem_append_right _ he)
    · intro u hu
      rw [hx1m] at hu
      rcases List.mem_append.mp hu with hu | hu
      · exact hinv.memF0 u hu
      · obtain ⟨q, hq, rfl⟩ := List.mem_map.mp hu
        exact hqF q hq
  -- load the axiom
  obtain ⟨n2, hl⟩ := load_total x1.s (.proved A) hsf1 hAF
    ⟨u, by rw [hx1m]; exact List.mem_append_left _ hu, by simpa [convT] using huc⟩
  generalize hx2 : (⟨x1.s.push (.proved A), x1.calls ++ [.load (.proved A)], x1.mem⟩ : XSt) = x2
  have hs2 : x2.s.stack = (.proved A, false) :: ((plugs.reverse.map TTerm.pat).map ent ++ T2.map ent) := by
    simp [← hx2, PySt.push, hx1s]
  -- instantiate, from some fuel on
  have hinst : ∃ n3 c x3, (∀ m, n3 ≤ m → (if (Term.varsList ts).isEmpty then some (some x2)
        else x2.doC m [.instantiate (db.deltaKeys ts)]) = some (some x3)) ∧
      x3.s = { x1.s with stack := (.proved c, false) :: T2.map ent } ∧ x3.mem = x1.mem ∧ c.F0 = true ∧
      c.expand = (implChain db (r.hyps.map (Term.subst σ)) (r.concl.subst σ)).expand := by
    by_cases hemp : (Term.varsList ts).isEmpty = true
    · have hvl : Term.varsList ts = [] := by simpa using hemp
      have hmand : db.mandOf ts = [] := by simp [DB.mandOf, hvl]
      rw [hmand] at hfl
      obtain rfl : fs = [] := List.eq_nil_of_length_eq_zero hfl
      obtain rfl : plugs = [] := List.eq_nil_of_length_eq_zero hpl
      refine ⟨0, A, x2, fun _ _ => by simp only [hemp, if_true], by simp [← hx2, PySt.push, hx1s],
        by rw [← hx2], hAF, ?_⟩
      rw [← hsub σ (fun _ => none) (by intro v hv; rw [hvl] at hv; cases hv),
        Py.inst_empty _ (NPat.shape_expand _ (F0.shape _ hAF))]
    · have hne : db.deltaKeys ts ≠ [] := by
        intro e
        have hv : Term.varsList ts ≠ [] := by simpa using hemp
        obtain ⟨v, hv'⟩ := List.exists_mem_of_ne_nil _ hv
        have : v ∈ db.mandOf ts := (mem_mandOf db _ v).mpr ⟨hvarsF v hv', hv'⟩
        have e' : db.mandOf ts = [] := by simpa [DB.deltaKeys] using e
        rw [e'] at this; cases this
      obtain ⟨n3, c, hc, hcF, hce⟩ := sim_instantiate x2 A hAF plugs hpF (T2.map ent) (db.deltaKeys ts)
        (by simp [DB.deltaKeys, hpl, hfl]) hne hs2
      refine ⟨n3, c, _, fun m hm => by simp only [hemp, if_false]; exact doC_mono hm _ _ _ hc,
        by simp [← hx2, PySt.push], by rw [← hx2], hcF, ?_⟩
      rw [hce, ← hσ]
      exact hsub _ _ (agrees_mvId db _ fs plugs hfl hpe _ (fun v hv => ⟨hvarsF v hv, hv⟩))
  obtain ⟨n3, c, x3, hx3, hx3s, hx3m, hcF, hce⟩ := hinst
  -- discharge
  have hx3stk : x3.s.stack = (.proved c, false) :: T2.map ent := by rw [hx3s]
  have hx3mem : x3.s.memory = x.s.memory ++ qsr.map TTerm.proved := by rw [hx3s]; exact hx1m
  have hsf3 : StF0 x3.s := by
    rw [hx3s]
    exact hsf1.cons _ _ _ hcF (fun e he => by rw [hx1s]; exact List.mem_append_right _ he)
  have hqe' : qsr.reverse.map NPat.expand = r.hyps.map fun t => (image db (t.subst σ)).expand := by
    rw [List.map_reverse, hqe, ← List.map_reverse, List.reverse_reverse, hes', List.map_map]
    rfl
  obtain ⟨n4, c', cs, hd, hc'F, hc'e⟩ := discharge_total qsr.reverse x3 c
    (image db (r.concl.subst σ)).expand (T2.map ent) hx3stk hcF
    (fun q hq => hqF q (List.mem_reverse.mp hq)) hsf3
    (fun q hq => by
      rw [hx3mem]
      exact List.mem_append_right _ (List.mem_map_of_mem (List.mem_reverse.mp hq)))
    (by rw [hce, implChain_expand, hqe', List.map_map]; rfl)
  -- one fuel for the three fuelled parts
  refine ⟨max n2 (max n3 n4), ?_, ?_, ?_⟩
  rotate_left
  · have hR : Reach (max n2 (max n3 n4)) x1.s [.load (.proved A)] (x1.s.push (.proved A)) :=
      ⟨_, track1_mono (Nat.le_max_left _ _) _ _ _ hl, rfl⟩
    simp only [Option.bind_eq_bind, hstash, Option.bind_some, doC_reach hR, hx2,
      hx3 _ (Nat.le_trans (Nat.le_max_left n3 n4) (Nat.le_max_right _ _))]
    have := discharge_mono (Nat.le_trans (Nat.le_max_right n3 n4) (Nat.le_max_right n2 _)) _ _ _ hd
    simp only [List.map_reverse] at this
    exact this
  · refine hinv.update _ _ _ (by simp [hx3s, hx1p.1]) (by simp [hx3s, hx1p.2])
      ⟨.proved c' :: T2, by simp [ent], ⟨c', rfl, hc'F, hc'e⟩, h2⟩ (by simp [hx3m, hx1mem]; exact hinv.heap) ?_
      ⟨qsr.map TTerm.proved, by simp [hx3mem], ?_⟩
    · intro u hu
      simp only [hx3m, hx1mem] at hu
      show u ∈ x3.s.memory
      rw [hx3mem]
      exact List.mem_append_left _ (hinv.memSub u hu)
    · intro u hu
      obtain ⟨q, hq, rfl⟩ := List.mem_map.mp hu
      exact hqF q hq

/-! ## one step, and the loop -/

theorem sim_label (cfg : Cfg) (db : DB) (goal : Term) (hwf : db.WF) (stack heap stack' : List Stmt)
    (x : XSt) (l : Lbl) (a : Assertion) (hinv : Inv db goal stack heap x) (hl : db.assertion l = some a)
    (ha : applyAssertion a stack = some stack') :
    ∃ n x', xLabel cfg n db x l = some (some x') ∧ Inv db goal stack' heap x' := by
  cases l with
  | float v => cases hl
  | impC =>
    cases hl
    exact sim_bin cfg db goal hwf stack heap stack' x _ _ hwf.impNe hwf.impMem Term.imp NPat.imp .implies
      (by simp [Term.vars]) (fun _ _ _ => by simp [Term.subst])
      (fun _ _ _ _ h1 h2 => by simp [image_imp, NPat.expand, h1, h2]) (fun _ _ h1 h2 => by simp [NPat.F0, h1, h2])
      (fun s l r st hs => by simp [track1, hs]) hinv ha
  | appC =>
    cases hl
    exact sim_bin cfg db goal hwf stack heap stack' x _ _ hwf.appNe hwf.appMem Term.app NPat.app .app
      (by simp [Term.vars]) (fun _ _ _ => by simp [Term.subst])
      (fun _ _ _ _ h1 h2 => by simp [image_app, NPat.expand, h1, h2]) (fun _ _ h1 h2 => by simp [NPat.F0, h1, h2])
      (fun s l r st hs => by simp [track1, hs]) hinv ha
  | ctor j =>
    simp only [DB.assertion, Option.map_eq_some_iff] at hl
    obtain ⟨c, hc, rfl⟩ := hl
    exact sim_ctor cfg db goal hwf stack heap _ x j c hc hinv ha
  | rule j =>
    simp only [DB.assertion, Option.map_eq_some_iff] at hl
    obtain ⟨r, hr, rfl⟩ := hl
    exact sim_rule db goal hwf stack heap _ x j r hr hinv ha
  | p1 => cases hl; exact sim_p1 db goal hwf stack heap _ x hinv ha
  | p2 => cases hl; exact sim_p2 db goal hwf stack heap _ x hinv ha
  | mp => cases hl; exact sim_mp db goal hwf stack heap _ x hinv ha

theorem sim_vstep (cfg : Cfg) (db : DB) (goal : Term) (hwf : db.WF) (labels : List Lbl)
    (stack heap stack' heap' : List Stmt) (x : XSt) (k : Nat) (hinv : Inv db goal stack heap x)
    (hv : vstep db labels (stack, heap) k = some (stack', heap')) :
    ∃ n x', xstep cfg n db labels x k = some (some x') ∧ Inv db goal stack' heap' x' := by
  simp only [xstep_eq]
  cases hres : resolve labels.length k with
  | save =>
    simp only [vstep, hres] at hv
    cases stack with
    | nil => cases hv
    | cons t rest =>
      cases hv
      exact sim_save db goal _ heap x t rest hinv rfl
  | reuse j =>
    simp only [vstep, hres, Option.map_eq_some_iff, Prod.mk.injEq] at hv
    obtain ⟨t, hj, rfl, rfl⟩ := hv
    exact sim_reuse db goal stack heap x j t hinv hj
  | label i =>
    simp only [vstep, hres, Option.bind_eq_bind, Option.bind_eq_some_iff] at hv
    obtain ⟨l, hl, hv⟩ := hv
    simp only [hl]
    cases l with
    | float v =>
      simp only [] at hv
      split at hv
      · cases hv
        exact sim_float db goal stack heap x v hinv
      · cases hv
    | _ =>
      simp only [Option.bind_eq_bind, Option.bind_eq_some_iff, Option.pure_def, Option.some.injEq,
        Prod.mk.injEq] at hv
      obtain ⟨a, hl', st, ha, rfl, rfl⟩ := hv
      exact sim_label cfg db goal hwf stack heap _ x _ a hinv hl' ha

theorem xstep_mono (cfg : Cfg) {n m : Nat} (h : n ≤ m) (db : DB) (labels : List Lbl) (x : XSt)
    (k : Nat) : OLe (xstep cfg n db labels x k) (xstep cfg m db labels x k) :=
  OLe.of_step (fun n => xstep cfg n db labels x k) (fun n => xstep_step cfg n db labels x k) h

theorem xrun_mono (cfg : Cfg) {n m : Nat} (h : n ≤ m) (db : DB) (labels : List Lbl) (x : XSt)
    (ks : List Nat) : OLe (xrun cfg n db labels x ks) (xrun cfg m db labels x ks) :=
  OLe.of_step (fun n => xrun cfg n db labels x ks) (fun n => xrun_step cfg n db labels ks x) h

theorem sim_vrun (cfg : Cfg) (db : DB) (goal : Term) (hwf : db.WF) (labels : List Lbl) :
    ∀ (ks : List Nat) (stack heap stack' heap' : List Stmt) (x : XSt), Inv db goal stack heap x →
    vrun db labels (stack, heap) ks = some (stack', heap') →
    ∃ n x', xrun cfg n db labels x ks = some (some x') ∧ Inv db goal stack' heap' x' := by
  intro ks
  induction ks with
  | nil =>
    intro stack heap stack' heap' x hinv hv
    simp only [vrun, Option.some.injEq, Prod.mk.injEq] at hv
    obtain ⟨rfl, rfl⟩ := hv
    exact ⟨0, x, rfl, hinv⟩
  | cons k ks ih =>
    intro stack heap stack' heap' x hinv hv
    simp only [vrun, Option.bind_eq_bind, Option.bind_eq_some_iff] at hv
    obtain ⟨⟨st1, hp1⟩, h1, hv⟩ := hv
    obtain ⟨n1, x1, hx1, hinv1⟩ := sim_vstep cfg db goal hwf labels stack heap st1 hp1 x k hinv h1
    obtain ⟨n2, x', hx2, hinv'⟩ := ih st1 hp1 stack' heap' x1 hinv1 hv
    refine ⟨max n1 n2, x', ?_, hinv'⟩
    simp only [xrun, Option.bind_eq_bind]
    rw [xstep_mono cfg (Nat.le_max_left n1 n2) _ _ _ _ _ hx1]
    simp only [Option.bind_some]
    exact xrun_mono cfg (Nat.le_max_right n1 n2) _ _ _ _ _ hx2

end MM
