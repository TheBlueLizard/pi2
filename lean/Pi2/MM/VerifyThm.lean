import Pi2.MM.Verify
import Pi2.MM.SliceThm
/-!
# Properties of the reference verifier (`Verify.lean`) used by the slice theorem

1. `runSteps_sim`: a proof run only depends on (a) the entries of the labels it cites, (b) the variable status of the
   tokens that occur in them, (c) the `$d` pairs between those variables.
2. `lookupLabel` as a lookup in one association list; labels are unique along a successful run (`runStmt_inv`).
3. `sim_stmt` / `sim_stmts`: running a statement made of `$d`, `$e`, `$a`, `$p`, `${ $}` in two contexts that agree on
   the statement's symbols produces the same assertions (same mandatory hypotheses in the same order, same
   conclusion, fewer `$d` conditions).
4. Where a run meets its target (`runStmts_append_done`, `runStmt_done`), which labels it uses (`runStmt_seen`).
5. `verifyLemma_of_verifyDb`: a database that verifies as a whole verifies lemma by lemma.
-/
namespace MM

/-! ## 1. proof runs -/

section ProofSim
variable (T : String → Prop)

/-- `e2` does what `e1` does, on stacks over the tokens `T` -/
def EntrySim : VEntry → VEntry → Prop
  | .f tc v, .f tc' v' => tc = tc' ∧ v = v' ∧ T tc ∧ T v
  | .e toks, .e toks' => toks = toks' ∧ ∀ x ∈ toks, T x
  | .a a1, .a a2 => a1.fhyps = a2.fhyps ∧ a1.ehyps = a2.ehyps ∧ a1.stmt = a2.stmt ∧
      (∀ p ∈ a2.dvs, p ∈ a1.dvs) ∧ ∀ x ∈ a1.stmt, T x
  | _, _ => False

variable {T}

theorem varsOf_congr {vars1 vars2 : List String} (hv : ∀ t, T t → (t ∈ vars1 ↔ t ∈ vars2))
    {toks : List String} (ht : ∀ x ∈ toks, T x) : varsOf vars1 toks = varsOf vars2 toks := by
  unfold varsOf
  apply List.filter_congr
  intro x hx
  simp [hv x (ht x hx)]

theorem mem_varsOf {vars toks : List String} {x : String} : x ∈ varsOf vars toks ↔ x ∈ toks ∧ x ∈ vars := by
  simp [varsOf, List.mem_filter]

/-- the substitution's range consists of tokens of the arguments -/
theorem mkSubst_range : ∀ (fs : List (String × String × String)) (args : List (List String)) (acc σ : VSubst),
    mkSubst fs args acc = some σ → (∀ a ∈ args, ∀ x ∈ a, T x) → (∀ p ∈ acc, ∀ x ∈ p.2, T x) →
    ∀ p ∈ σ, ∀ x ∈ p.2, T x
  | [], _, acc, σ, h, _, hacc => by
      simp only [mkSubst] at h; injection h with h; subst h; exact hacc
  | _ :: _, [], _, _, h, _, _ => by simp [mkSubst] at h
  | f :: fs, a :: as, acc, σ, h, hargs, hacc => by
      cases a with
      | nil => simp [mkSubst] at h
      | cons t rest =>
        simp only [mkSubst] at h
        split at h
        · refine mkSubst_range fs as _ σ h (fun a ha => hargs a (List.mem_cons_of_mem _ ha)) ?_
          intro p hp
          rcases List.mem_cons.1 hp with rfl | hp
          · intro x hx; exact hargs (t :: rest) (by simp) x (List.mem_cons_of_mem _ hx)
          · exact hacc p hp
        · cases h

theorem substToks_range {σ : VSubst} (hσ : ∀ p ∈ σ, ∀ x ∈ p.2, T x) {toks : List String}
    (ht : ∀ x ∈ toks, T x) : ∀ x ∈ substToks σ toks, T x := by
  intro x hx
  simp only [substToks, List.mem_flatMap] at hx
  obtain ⟨t, htm, hx⟩ := hx
  split at hx
  · next r hr => exact hσ _ (lookup_mem _ _ _ hr) x hx
  · simp at hx; rw [hx]; exact ht t htm

theorem dvOk_sim {vars1 vars2 : List String} {d1 d2 : List (String × String)}
    (hv : ∀ t, T t → (t ∈ vars1 ↔ t ∈ vars2))
    (hd : ∀ a b, T a → T b → a ∈ vars1 → b ∈ vars1 → (a, b) ∈ d1 → (a, b) ∈ d2)
    {σ : VSubst} (hσ : ∀ p ∈ σ, ∀ x ∈ p.2, T x) {p : String × String}
    (h : dvOk vars1 d1 σ p = true) : dvOk vars2 d2 σ p = true := by
  unfold dvOk at h ⊢
  split at h
  · next ex ey hx hy =>
    have hex := hσ _ (lookup_mem _ _ _ hx)
    have hey := hσ _ (lookup_mem _ _ _ hy)
    rw [← varsOf_congr hv hex, ← varsOf_congr hv hey]
    rw [List.all_eq_true] at h ⊢
    intro a ha
    have h' := h a ha
    rw [List.all_eq_true] at h' ⊢
    intro b hb
    have h'' := h' b hb
    simp only [Bool.and_eq_true, List.contains_iff_mem] at h'' ⊢
    refine ⟨h''.1, ?_⟩
    have ha' := mem_varsOf.1 ha
    have hb' := mem_varsOf.1 hb
    split
    · next hlt => rw [if_pos hlt] at h''; exact hd a b (hex a ha'.1) (hey b hb'.1) ha'.2 hb'.2 h''.2
    · next hlt => rw [if_neg hlt] at h''; exact hd b a (hey b hb'.1) (hex a ha'.1) hb'.2 ha'.2 h''.2
  · cases h

def StackOK (T : String → Prop) (st : List (List String)) : Prop := ∀ a ∈ st, ∀ x ∈ a, T x

theorem applyEntry_sim {vars1 vars2 : List String} {d1 d2 : List (String × String)}
    (hv : ∀ t, T t → (t ∈ vars1 ↔ t ∈ vars2))
    (hd : ∀ a b, T a → T b → a ∈ vars1 → b ∈ vars1 → (a, b) ∈ d1 → (a, b) ∈ d2)
    {e1 e2 : VEntry} (he : EntrySim T e1 e2) {stack r : List (List String)} (hs : StackOK T stack)
    (h : applyEntry vars1 d1 stack e1 = some r) : applyEntry vars2 d2 stack e2 = some r ∧ StackOK T r := by
  cases e1 <;> cases e2 <;> try exact he.elim
  case f.f tc v tc' v' =>
    obtain ⟨rfl, rfl, htc, hv'⟩ := he
    simp only [applyEntry] at h ⊢
    injection h with h; subst h
    exact ⟨rfl, List.forall_mem_cons.2 ⟨by simp [htc, hv'], hs⟩⟩
  case e.e toks toks' =>
    obtain ⟨rfl, ht⟩ := he
    simp only [applyEntry] at h ⊢
    injection h with h; subst h
    exact ⟨rfl, List.forall_mem_cons.2 ⟨ht, hs⟩⟩
  case a.a a1 a2 =>
    obtain ⟨hf, hee, hst, hdv, hT⟩ := he
    simp only [applyEntry] at h ⊢
    rw [← hf, ← hee, ← hst]
    split at h
    · cases h
    · next hlen =>
      rw [if_neg hlen]
      have hargs : ∀ a ∈ (stack.take (a1.fhyps.length + a1.ehyps.length)).reverse, ∀ x ∈ a, T x :=
        fun a ha => hs a (List.mem_of_mem_take (List.mem_reverse.1 ha))
      split at h
      · cases h
      · next σ hσ =>
        have hσr := mkSubst_range (T := T) _ _ _ _ hσ hargs (by intro p hp; cases hp)
        split at h
        · next hc =>
          injection h with h; subst h
          have hc2 : ((a1.ehyps.zip (List.drop a1.fhyps.length
              (stack.take (a1.fhyps.length + a1.ehyps.length)).reverse)).all
                (fun ea => substToks σ ea.1.2 == ea.2) && a2.dvs.all (dvOk vars2 d2 σ)) = true := by
            rw [Bool.and_eq_true] at hc ⊢
            refine ⟨hc.1, List.all_eq_true.2 fun p hp => ?_⟩
            exact dvOk_sim hv hd hσr (List.all_eq_true.1 hc.2 p (hdv p hp))
          rw [if_pos hc2]
          exact ⟨rfl, List.forall_mem_cons.2 ⟨substToks_range hσr hT, fun a ha => hs a (List.mem_of_mem_drop ha)⟩⟩
        · cases h

/-- the proof run: the same steps succeed with the same stack -/
theorem runSteps_sim {look1 look2 : String → Option VEntry} {vars1 vars2 : List String}
    {d1 d2 : List (String × String)}
    (hv : ∀ t, T t → (t ∈ vars1 ↔ t ∈ vars2))
    (hd : ∀ a b, T a → T b → a ∈ vars1 → b ∈ vars1 → (a, b) ∈ d1 → (a, b) ∈ d2) :
    ∀ (steps : List PStep) (stack saved r : List (List String)),
      (∀ l, PStep.lab l ∈ steps → ∃ e1 e2, look1 l = some e1 ∧ look2 l = some e2 ∧ EntrySim T e1 e2) →
      StackOK T stack → StackOK T saved →
      runSteps look1 vars1 d1 steps stack saved = some r → runSteps look2 vars2 d2 steps stack saved = some r
  | [], stack, saved, r, _, _, _, h => by simpa [runSteps] using h
  | .save :: rest, stack, saved, r, hl, hs, hsv, h => by
      cases stack with
      | nil => simp [runSteps] at h
      | cons top stack' =>
        simp only [runSteps] at h ⊢
        refine runSteps_sim hv hd rest _ _ r (fun l hl' => hl l (List.mem_cons_of_mem _ hl')) hs ?_ h
        intro a ha
        rcases List.mem_append.1 ha with ha | ha
        · exact hsv a ha
        · simp at ha; subst ha; exact hs _ (by simp)
  | .lab l :: rest, stack, saved, r, hl, hs, hsv, h => by
      obtain ⟨e1, e2, h1, h2, he⟩ := hl l (by simp)
      simp only [runSteps, h1, h2] at h ⊢
      split at h
      · cases h
      · next stack' hap =>
        obtain ⟨hap2, hs'⟩ := applyEntry_sim hv hd he hs hap
        rw [hap2]
        exact runSteps_sim hv hd rest _ _ r (fun l hl' => hl l (List.mem_cons_of_mem _ hl')) hs' hsv h
  | .load j :: rest, stack, saved, r, hl, hs, hsv, h => by
      simp only [runSteps] at h ⊢
      split at h
      · cases h
      · next x hx =>
        refine runSteps_sim hv hd rest _ _ r (fun l hl' => hl l (List.mem_cons_of_mem _ hl')) ?_ hsv h
        intro a ha
        rcases List.mem_cons.1 ha with rfl | ha
        · exact hsv _ (List.mem_of_getElem? hx)
        · exact hs a ha

end ProofSim

/-! ## 2. labels -/

/-- what the labels denote, as one association list -/
def entries (st : VState) : List (String × VEntry) :=
  st.ctx.f.map (fun f => (f.1, VEntry.f f.2.1 f.2.2)) ++ st.ctx.e.map (fun e => (e.1, VEntry.e e.2)) ++
  st.asserts.map (fun a => (a.1, VEntry.a a.2))

theorem lookup_map_find {α β : Type} (key : α → String) (g : α → β) (k : String) :
    ∀ l : List α, (l.map fun x => (key x, g x)).lookup k = (l.find? fun x => key x == k).map g
  | [] => rfl
  | x :: l => by
      simp only [List.map_cons, List.lookup_cons, List.find?_cons, BEq.comm (a := k), lookup_map_find key g k l]
      cases key x == k <;> rfl

theorem lookupLabel_eq (st : VState) (l : String) : lookupLabel st l = (entries st).lookup l := by
  unfold lookupLabel entries
  rw [List.lookup_append, List.lookup_append,
    lookup_map_find (fun f : String × String × String => f.1) (fun f => VEntry.f f.2.1 f.2.2),
    lookup_map_find (fun e : String × List String => e.1) (fun e => VEntry.e e.2)]
  cases h1 : st.ctx.f.find? (fun f => f.1 == l) with
  | some f => simp
  | none =>
    cases h2 : st.ctx.e.find? (fun e => e.1 == l) with
    | some e => simp
    | none =>
      simp only [Option.map_none, Option.none_or]
      induction st.asserts with
      | nil => rfl
      | cons a as ih =>
        obtain ⟨k, v⟩ := a
        simp only [List.map_cons, List.lookup_cons]
        split
        · rfl
        · exact ih

theorem mem_entries {st : VState} {p : String × VEntry} : p ∈ entries st ↔
    (∃ f ∈ st.ctx.f, p = (f.1, VEntry.f f.2.1 f.2.2)) ∨ (∃ e ∈ st.ctx.e, p = (e.1, VEntry.e e.2)) ∨
    (∃ a ∈ st.asserts, p = (a.1, VEntry.a a.2)) := by
  simp only [entries, List.mem_append, List.mem_map, or_assoc, @eq_comm _ p]

/-- a label denotes one thing -/
def Uniq (st : VState) : Prop := ∀ l e e', (l, e) ∈ entries st → (l, e') ∈ entries st → e = e'

def KeysSeen (st : VState) : Prop := ∀ p ∈ entries st, p.1 ∈ st.seen

def VInv (st : VState) : Prop := Uniq st ∧ KeysSeen st

theorem lookup_of_uniq {st : VState} (hu : Uniq st) {l : String} {e : VEntry} (h : (l, e) ∈ entries st) :
    lookupLabel st l = some e := by
  rw [lookupLabel_eq]
  cases hl : (entries st).lookup l with
  | none =>
    have := List.lookup_eq_none_iff.1 hl (l, e) h
    simp at this
  | some e' =>
    rw [hu l e e' h (lookup_mem _ _ _ hl)]

theorem mem_of_lookupLabel {st : VState} {l : String} {e : VEntry} (h : lookupLabel st l = some e) :
    (l, e) ∈ entries st := by
  rw [lookupLabel_eq] at h
  exact lookup_mem _ _ _ h

theorem lookupLabel_none {st : VState} (hk : KeysSeen st) {l : String} (h : l ∉ st.seen) :
    lookupLabel st l = none := by
  cases hl : lookupLabel st l with
  | none => rfl
  | some e => exact absurd (hk _ (mem_of_lookupLabel hl)) h

structure StMono (st st' : VState) : Prop where
  f : ∀ x ∈ st.ctx.f, x ∈ st'.ctx.f
  e : ∀ x ∈ st.ctx.e, x ∈ st'.ctx.e
  a : ∀ x ∈ st.asserts, x ∈ st'.asserts
  s : ∀ x ∈ st.seen, x ∈ st'.seen

theorem StMono.refl (st : VState) : StMono st st := ⟨fun _ h => h, fun _ h => h, fun _ h => h, fun _ h => h⟩

theorem StMono.trans {a b c : VState} (h1 : StMono a b) (h2 : StMono b c) : StMono a c :=
  ⟨fun x h => h2.f x (h1.f x h), fun x h => h2.e x (h1.e x h), fun x h => h2.a x (h1.a x h),
   fun x h => h2.s x (h1.s x h)⟩

theorem StMono.entries {st st' : VState} (h : StMono st st') : ∀ p ∈ entries st, p ∈ entries st' := by
  intro p hp
  rw [mem_entries] at hp ⊢
  exact hp.imp (fun ⟨f, hf, e⟩ => ⟨f, h.f f hf, e⟩)
    (Or.imp (fun ⟨e, he, q⟩ => ⟨e, h.e e he, q⟩) fun ⟨a, ha, q⟩ => ⟨a, h.a a ha, q⟩)

/-- a state whose entries and used labels are among those of a good state is good -/
theorem inv_sub {st st' : VState} (hi : VInv st) (he : ∀ p ∈ entries st', p ∈ entries st)
    (hs : ∀ x ∈ st.seen, x ∈ st'.seen) : VInv st' :=
  ⟨fun l e e' h1 h2 => hi.1 l e e' (he _ h1) (he _ h2), fun p hp => hs _ (hi.2 p (he p hp))⟩

/-- declaring a fresh label -/
theorem inv_add {st st' : VState} (hi : VInv st) {l : String} {e : VEntry} (hl : l ∉ st.seen)
    (he : ∀ p ∈ entries st', p ∈ entries st ∨ p = (l, e)) (hs : st'.seen = st.seen ++ [l]) : VInv st' := by
  constructor
  · intro k e1 e2 h1 h2
    rcases he _ h1 with h1 | h1 <;> rcases he _ h2 with h2 | h2
    · exact hi.1 k e1 e2 h1 h2
    · injection h2 with hk _; subst hk; exact absurd (hi.2 _ h1) hl
    · injection h1 with hk _; subst hk; exact absurd (hi.2 _ h2) hl
    · injection h1 with _ h1; injection h2 with _ h2; rw [h1, h2]
  · intro p hp
    rw [hs]
    rcases he p hp with h | rfl
    · exact List.mem_append_left _ (hi.2 p h)
    · simp

theorem not_mem_of_contains_false {l : String} {xs : List String} (h : xs.contains l = false) : l ∉ xs := by
  intro hmem
  rw [List.contains_iff_mem.2 hmem] at h
  cases h

/-- the state after a non-block statement that succeeds (`runStmt_leaf`) -/
def afterLeaf (st : VState) : MStmt → VState
  | .const cs => { st with ctx := { st.ctx with c := st.ctx.c ++ cs } }
  | .var vs => { st with ctx := { st.ctx with v := st.ctx.v ++ vs } }
  | .disj vs => { st with ctx := { st.ctx with d := st.ctx.d ++ disjPairs vs } }
  | .float l tc v => { st with ctx := { st.ctx with f := st.ctx.f ++ [(l, tc, v)] }, seen := st.seen ++ [l] }
  | .ess l ts => { st with ctx := { st.ctx with e := st.ctx.e ++ [(l, printTerms ts)] }, seen := st.seen ++ [l] }
  | .ax l ts => { st with asserts := st.asserts ++ [(l, makeAssertion st.ctx (printTerms ts))], seen := st.seen ++ [l] }
  | .prov l ts _ => { st with asserts := st.asserts ++ [(l, makeAssertion st.ctx (printTerms ts))], seen := st.seen ++ [l] }
  | .block _ => st

/-- a non-block statement that succeeds leaves `afterLeaf`, and its label (if it has one) was not in use -/
theorem runStmt_leaf {tgt : Option String} {st st' : VState} {s : MStmt} (hs : ∀ ss, s ≠ .block ss)
    (h : runStmt tgt st s = .ok st') : st' = afterLeaf st s ∧ ∀ l, stmtLabel? s = some l → l ∉ st.seen := by
  have fresh : ∀ {b : Bool} {l : String}, (b && !st.seen.contains l) = true → l ∉ st.seen := by
    intro b l hc
    simp only [Bool.and_eq_true, Bool.not_eq_true'] at hc
    exact not_mem_of_contains_false hc.2
  cases s with
  | block ss => exact absurd rfl (hs ss)
  | const cs | var vs =>
    simp only [runStmt] at h; injection h with h
    exact ⟨h.symm, fun l e => by cases e⟩
  | disj vs =>
    simp only [runStmt] at h
    split at h
    · injection h with h; exact ⟨h.symm, fun l e => by cases e⟩
    · cases h
  | float l tc v | ess l ts | ax l ts =>
    simp only [runStmt] at h
    split at h
    · next hc => injection h with h; exact ⟨h.symm, fun l' e => by cases e; exact fresh hc⟩
    · cases h
  | prov l ts pf =>
    simp only [runStmt] at h
    split at h
    · next hc =>
      refine ⟨?_, fun l' e => by cases e; exact fresh hc⟩
      split at h
      · split at h
        · injection h with h; exact h.symm
        · cases h
      · split at h
        · split at h <;> cases h
        · injection h with h; exact h.symm
    · cases h

/-- every component of `afterLeaf st s` is that of `st`, with something appended -/
theorem afterLeaf_mono (st : VState) (s : MStmt) : StMono st (afterLeaf st s) := by
  cases s <;> constructor <;> intro x hx <;> simp [afterLeaf, hx]

theorem afterLeaf_inv {st : VState} {s : MStmt} (hi : VInv st) (hl : ∀ l, stmtLabel? s = some l → l ∉ st.seen) :
    VInv (afterLeaf st s) := by
  cases s with
  | const cs | var vs | disj vs | block ss => exact inv_sub hi (fun p hp => hp) (fun x hx => hx)
  | float l tc v =>
    refine inv_add hi (e := .f tc v) (hl l rfl) (fun p hp => ?_) rfl
    simp only [entries, afterLeaf, List.map_append, List.map_cons, List.map_nil, List.mem_append, List.mem_singleton,
      or_assoc] at hp ⊢
    rcases hp with h | h | h | h <;> simp only [h, true_or, or_true]
  | ess l ts =>
    refine inv_add hi (e := .e (printTerms ts)) (hl l rfl) (fun p hp => ?_) rfl
    simp only [entries, afterLeaf, List.map_append, List.map_cons, List.map_nil, List.mem_append, List.mem_singleton,
      or_assoc] at hp ⊢
    rcases hp with h | h | h | h <;> simp only [h, true_or, or_true]
  | ax l ts | prov l ts pf =>
    refine inv_add hi (e := .a (makeAssertion st.ctx (printTerms ts))) (hl l rfl) (fun p hp => ?_) rfl
    simp only [entries, afterLeaf, List.map_append, List.map_cons, List.map_nil, List.mem_append, List.mem_singleton,
      or_assoc] at hp ⊢
    rcases hp with h | h | h | h <;> simp only [h, true_or, or_true]

mutual
/-- along a successful run labels stay unique and nothing that is visible disappears inside a scope -/
theorem runStmt_inv (tgt : Option String) : ∀ (s : MStmt) (st st' : VState),
    runStmt tgt st s = .ok st' → VInv st → VInv st' ∧ StMono st st'
  | .block ss, st, st', h, hi => by
      simp only [runStmt] at h
      split at h
      · next st'' h2 =>
        injection h with h; subst h
        obtain ⟨hi'', hm⟩ := runStmts_inv tgt ss st st'' h2 hi
        exact ⟨inv_sub hi'' (StMono.entries ⟨hm.f, hm.e, fun _ h => h, fun _ h => h⟩) (fun x hx => hx),
          ⟨fun _ h => h, fun _ h => h, hm.a, hm.s⟩⟩
      · cases h
      · cases h
  | .const _, st, st', h, hi | .var _, st, st', h, hi | .disj _, st, st', h, hi | .float _ _ _, st, st', h, hi
  | .ess _ _, st, st', h, hi | .ax _ _, st, st', h, hi | .prov _ _ _, st, st', h, hi => by
      obtain ⟨rfl, hl⟩ := runStmt_leaf (fun ss e => by cases e) h
      exact ⟨afterLeaf_inv hi hl, afterLeaf_mono st _⟩
theorem runStmts_inv (tgt : Option String) : ∀ (ss : List MStmt) (st st' : VState),
    runStmts tgt st ss = .ok st' → VInv st → VInv st' ∧ StMono st st'
  | [], st, st', h, hi => by
      simp only [runStmts] at h; injection h with h; subst h
      exact ⟨hi, StMono.refl _⟩
  | s :: ss, st, st', h, hi => by
      simp only [runStmts] at h
      split at h
      · next st1 h1 =>
        obtain ⟨hi1, hm1⟩ := runStmt_inv tgt s st st1 h1 hi
        obtain ⟨hi2, hm2⟩ := runStmts_inv tgt ss st1 st' h hi1
        exact ⟨hi2, hm1.trans hm2⟩
      · cases h
      · cases h
end

theorem inv_init : VInv {} := ⟨fun l e e' h => by simp [entries] at h, fun p hp => by simp [entries] at hp⟩

/-! ## 3. the same statement in two contexts -/

mutual
/-- the statements of a statement that are not blocks, in order -/
def flat : MStmt → List MStmt
  | .block ss => flatL ss
  | s => [s]
def flatL : List MStmt → List MStmt
  | [] => []
  | s :: ss => flat s ++ flatL ss
end

theorem flatL_append : ∀ (a b : List MStmt), flatL (a ++ b) = flatL a ++ flatL b
  | [], b => by simp [flatL]
  | s :: a, b => by simp [flatL, flatL_append a b]

theorem mem_flatL {x : MStmt} : ∀ {ss : List MStmt}, x ∈ flatL ss ↔ ∃ s ∈ ss, x ∈ flat s
  | [] => by simp [flatL]
  | s :: ss => by simp [flatL, mem_flatL (ss := ss)]

/-- the label under which an assertion is registered -/
def assertLabel? : MStmt → Option String
  | .ax l _ => some l
  | .prov l _ _ => some l
  | _ => none

def assertLabels (s : MStmt) : List String := (flat s).filterMap assertLabel?
def assertLabelsL (ss : List MStmt) : List String := (flatL ss).filterMap assertLabel?

theorem checkSymbols_iff {c : VCtx} {toks : List String} {nf : Bool} :
    checkSymbols c toks nf = true ↔
      (∃ x rest, toks = x :: rest ∧ x ∈ c.c) ∧
      ∀ x ∈ toks, ¬(x ∈ c.c ∧ x ∈ c.v) ∧ (x ∈ c.c ∨ x ∈ c.v) ∧
        (nf = true → x ∈ c.v → ∃ f ∈ c.f, f.2.2 = x) := by
  unfold checkSymbols
  rw [Bool.and_eq_true, List.all_eq_true]
  refine and_congr ?_ (forall₂_congr fun x _ => ?_)
  · cases toks <;> simp
  · simp [Decidable.imp_iff_not_or, and_assoc, or_assoc]

mutual
/-- the tokens of a printed term: parentheses, its constants, its metavariables -/
theorem mem_printTerm : ∀ (t : MTerm) (x : String), x ∈ printTerm t →
    x = "(" ∨ x = ")" ∨ x ∈ termConstants t ∨ x ∈ termMvs t
  | .mv n, x, h => by simp [printTerm] at h; subst h; simp [termMvs]
  | .app s [], x, h => by simp [printTerm] at h; subst h; simp [termConstants]
  | .app s (a :: as), x, h => by
      simp only [printTerm, List.mem_cons, List.mem_append, List.not_mem_nil, or_false] at h
      rcases h with h | h | h | h
      · exact Or.inl h
      · subst h; simp [termConstants]
      · rcases mem_printTerms (a :: as) x h with h | h | h | h <;> simp [termConstants, termMvs, h]
      · exact Or.inr (Or.inl h)
theorem mem_printTerms : ∀ (ts : List MTerm) (x : String), x ∈ printTerms ts →
    x = "(" ∨ x = ")" ∨ x ∈ termsConstants ts ∨ x ∈ termsMvs ts
  | [], x, h => by simp [printTerms] at h
  | t :: ts, x, h => by
      simp only [printTerms, List.mem_append] at h
      rcases h with h | h
      · rcases mem_printTerm t x h with h | h | h | h <;> simp [termsConstants, termsMvs, h]
      · rcases mem_printTerms ts x h with h | h | h | h <;> simp [termsConstants, termsMvs, h]
end

mutual
theorem mvs_sub_printTerm : ∀ (t : MTerm) (x : String), x ∈ termMvs t → x ∈ printTerm t
  | .mv n, x, h => by simpa [termMvs, printTerm] using h
  | .app s [], x, h => by simp [termMvs, termsMvs] at h
  | .app s (a :: as), x, h => by
      simp only [termMvs] at h
      simp only [printTerm, List.mem_cons, List.mem_append]
      exact Or.inr (Or.inr (Or.inl (mvs_sub_printTerms (a :: as) x h)))
theorem mvs_sub_printTerms : ∀ (ts : List MTerm) (x : String), x ∈ termsMvs ts → x ∈ printTerms ts
  | [], x, h => by simp [termsMvs] at h
  | t :: ts, x, h => by
      simp only [termsMvs, List.mem_append] at h
      simp only [printTerms, List.mem_append]
      rcases h with h | h
      · exact Or.inl (mvs_sub_printTerm t x h)
      · exact Or.inr (mvs_sub_printTerms ts x h)
end

/-- a `$p` that is not the target is run like a `$a` -/
theorem run_prov_eq_ax {t l : String} (hne : l ≠ t) (st : VState) (ts : List MTerm) (pf : List String) :
    runStmt (some t) st (.prov l ts pf) = runStmt (some t) st (.ax l ts) := by
  have hne' : ¬ t = l := fun e => hne e.symm
  simp only [runStmt, if_neg hne']

section Sim
set_option linter.unusedSectionVars false
variable (Vdb mvs C2 M : List String)

/-- a symbol of a kept statement: a kept variable, or a constant of the slice that is not a variable of the database -/
def TokGood (x : String) : Prop := x ∈ mvs ∨ (x ∈ C2 ∧ x ∉ Vdb)

/-- database context `c1`, slice context `c2`, inside a top-level statement whose metavariables are `M` -/
structure CtxRel (c1 c2 : VCtx) : Prop where
  vK : ∀ x, x ∈ c2.v ↔ x ∈ mvs
  vV : ∀ x ∈ c1.v, x ∈ Vdb
  cV : ∀ x ∈ c1.c, x ∉ Vdb
  cC : ∀ x, x ∈ c2.c ↔ x ∈ C2
  fF : c2.f = c1.f.filter fun f => mvs.contains f.2.2
  eE : c2.e = c1.e
  eM : ∀ e ∈ c1.e, ∀ x ∈ varsOf c1.v e.2, x ∈ M
  eV : ∀ e ∈ c1.e, varsOf c1.v e.2 = varsOf c2.v e.2
  eT : ∀ e ∈ c1.e, ∀ x ∈ e.2, x ∈ mvs ∨ (x ∈ C2 ∧ x ∉ Vdb)
  d21 : ∀ p ∈ c2.d, p.1 ∈ M → p.2 ∈ M → p ∈ c1.d
  d12 : ∀ p ∈ c1.d, p.1 ∈ mvs → p.2 ∈ mvs → p ∈ c2.d

/-- assertion of the database, assertion of the slice -/
def ASim (a1 a2 : VAssert) : Prop :=
  a1.fhyps = a2.fhyps ∧ a1.ehyps = a2.ehyps ∧ a1.stmt = a2.stmt ∧ (∀ p ∈ a2.dvs, p ∈ a1.dvs) ∧
    ∀ x ∈ a1.stmt, TokGood Vdb mvs C2 x

/-- the symbols of a kept statement: good tokens, the variables among them are metavariables of the top-level statement -/
def TermsOK (ts : List MTerm) : Prop :=
  (∀ x ∈ printTerms ts, TokGood Vdb mvs C2 x) ∧ ∀ x ∈ printTerms ts, x ∈ Vdb → x ∈ M

/-- what is asked of the non-block statements of a kept statement (`t`: the target lemma) -/
def LeafOK (t : String) : MStmt → Prop
  | .disj vs => ∀ x ∈ vs, x ∈ mvs
  | .ess _ ts => TermsOK Vdb mvs C2 M ts ∧ ∀ x ∈ termsMvs ts, x ∈ mvs
  | .ax _ ts => TermsOK Vdb mvs C2 M ts ∧ ∀ x ∈ termsMvs ts, x ∈ mvs
  | .prov l ts _ => l ≠ t ∧ TermsOK Vdb mvs C2 M ts ∧ ∀ x ∈ termsMvs ts, x ∈ mvs
  | _ => False

variable {Vdb mvs C2 M}
variable (kV : ∀ x ∈ mvs, x ∈ Vdb) (cV2 : ∀ x ∈ C2, x ∉ Vdb)
include kV cV2

theorem tok_var_iff {c1 c2 : VCtx} (hr : CtxRel Vdb mvs C2 M c1 c2) {x : String}
    (hg : TokGood Vdb mvs C2 x) (hc : x ∈ c1.c ∨ x ∈ c1.v) : x ∈ c1.v ↔ x ∈ c2.v := by
  constructor
  · intro h
    rcases hg with hg | hg
    · exact (hr.vK x).2 hg
    · exact absurd (hr.vV x h) hg.2
  · intro h
    have hm := (hr.vK x).1 h
    rcases hc with hc | hc
    · exact absurd (kV x hm) (hr.cV x hc)
    · exact hc

theorem varsOf_rel {c1 c2 : VCtx} (hr : CtxRel Vdb mvs C2 M c1 c2) {toks : List String}
    (hg : ∀ x ∈ toks, TokGood Vdb mvs C2 x) (hc : ∀ x ∈ toks, x ∈ c1.c ∨ x ∈ c1.v) :
    varsOf c1.v toks = varsOf c2.v toks :=
  varsOf_congr (T := fun x => TokGood Vdb mvs C2 x ∧ (x ∈ c1.c ∨ x ∈ c1.v))
    (fun _ ht => tok_var_iff kV cV2 hr ht.1 ht.2) fun x hx => ⟨hg x hx, hc x hx⟩

theorem check_rel {c1 c2 : VCtx} (hr : CtxRel Vdb mvs C2 M c1 c2) {toks : List String} {nf : Bool}
    (hg : ∀ x ∈ toks, TokGood Vdb mvs C2 x) (h : checkSymbols c1 toks nf = true) :
    checkSymbols c2 toks nf = true := by
  rw [checkSymbols_iff] at h ⊢
  obtain ⟨⟨x, rest, rfl, hx⟩, h2⟩ := h
  refine ⟨⟨x, rest, rfl, ?_⟩, ?_⟩
  · rcases hg x (by simp) with hgx | hgx
    · exact absurd (kV x hgx) (hr.cV x hx)
    · exact (hr.cC x).2 hgx.1
  · intro y hy
    obtain ⟨h3, h4, h5⟩ := h2 y hy
    rcases hg y hy with hgy | hgy
    · have hyv : y ∈ c2.v := (hr.vK y).2 hgy
      have hyc : y ∉ c2.c := fun hc => cV2 y ((hr.cC y).1 hc) (kV y hgy)
      refine ⟨fun hh => hyc hh.1, Or.inr hyv, ?_⟩
      intro hnf _
      have hy1 : y ∈ c1.v := by
        rcases h4 with h4 | h4
        · exact absurd (kV y hgy) (hr.cV y h4)
        · exact h4
      obtain ⟨f, hf, hfy⟩ := h5 hnf hy1
      refine ⟨f, ?_, hfy⟩
      rw [hr.fF, List.mem_filter]
      exact ⟨hf, by rw [hfy]; exact List.contains_iff_mem.2 hgy⟩
    · have hyc : y ∈ c2.c := (hr.cC y).2 hgy.1
      have hyv : y ∉ c2.v := fun hv => hgy.2 (kV y ((hr.vK y).1 hv))
      exact ⟨fun hh => hyv hh.2, Or.inl hyc, fun _ hv => absurd hv hyv⟩

theorem makeAssertion_rel {c1 c2 : VCtx} (hr : CtxRel Vdb mvs C2 M c1 c2) {toks : List String}
    (hg : ∀ x ∈ toks, TokGood Vdb mvs C2 x) (hM : ∀ x ∈ toks, x ∈ Vdb → x ∈ M)
    (hc : ∀ x ∈ toks, x ∈ c1.c ∨ x ∈ c1.v) :
    ASim Vdb mvs C2 (makeAssertion c1 toks) (makeAssertion c2 toks) := by
  have hv := varsOf_rel kV cV2 hr hg hc
  have hmand : varsOf c1.v toks ++ c1.e.flatMap (fun e => varsOf c1.v e.2) =
      varsOf c2.v toks ++ c2.e.flatMap (fun e => varsOf c2.v e.2) := by
    rw [hv, hr.eE, List.flatMap_def, List.flatMap_def, List.map_congr_left hr.eV]
  have hmandM : ∀ x ∈ varsOf c1.v toks ++ c1.e.flatMap (fun e => varsOf c1.v e.2), x ∈ M ∧ x ∈ mvs := by
    intro x hx
    have hx2 : x ∈ c2.v := by
      rw [hmand] at hx
      rcases List.mem_append.1 hx with hx | hx
      · exact (mem_varsOf.1 hx).2
      · obtain ⟨e, _, hx⟩ := List.mem_flatMap.1 hx
        exact (mem_varsOf.1 hx).2
    refine ⟨?_, (hr.vK x).1 hx2⟩
    rcases List.mem_append.1 hx with hx | hx
    · have := mem_varsOf.1 hx
      exact hM x this.1 (hr.vV x this.2)
    · obtain ⟨e, he, hx⟩ := List.mem_flatMap.1 hx
      exact hr.eM e he x hx
  refine ⟨?_, ?_, rfl, ?_, hg⟩
  · show c1.f.filter _ = c2.f.filter _
    rw [← hmand, hr.fF, List.filter_filter]
    apply List.filter_congr
    intro f _
    by_cases hf : (varsOf c1.v toks ++ c1.e.flatMap (fun e => varsOf c1.v e.2)).contains f.2.2 = true
    · rw [hf, List.contains_iff_mem.2 (hmandM _ (List.contains_iff_mem.1 hf)).2]; rfl
    · simp only [Bool.not_eq_true] at hf; rw [hf]; rfl
  · exact hr.eE.symm
  · intro p hp
    show p ∈ c1.d.filter _
    have hp' : p ∈ c2.d.filter _ := hp
    rw [← hmand] at hp'
    rw [List.mem_filter] at hp' ⊢
    simp only [Bool.and_eq_true, List.contains_iff_mem] at hp' ⊢
    exact ⟨hr.d21 p hp'.1 (hmandM _ hp'.2.1).1 (hmandM _ hp'.2.2).1, hp'.2⟩

/-- the outcome of running the same statement(s) on both sides -/
structure SimRes (labels mvl : List String) (st1 st1' st2 st2' : VState) : Prop where
  ctx : CtxRel Vdb mvs C2 M st1'.ctx st2'.ctx
  seen : ∀ x ∈ st2'.seen, x ∈ st1'.seen
  v1 : st1'.ctx.v = st1.ctx.v
  f1 : st1'.ctx.f = st1.ctx.f
  mv : ∀ x ∈ mvl, x ∈ st1.ctx.v
  asserts : ∃ n1 n2, st1'.asserts = st1.asserts ++ n1 ∧ st2'.asserts = st2.asserts ++ n2 ∧
    n1.map (·.1) = labels ∧ n2.map (·.1) = labels ∧
    ∀ l a2, (l, a2) ∈ n2 → ∃ a1, (l, a1) ∈ n1 ∧ ASim Vdb mvs C2 a1 a2

theorem terms_mv {c1 c2 : VCtx} (hr : CtxRel Vdb mvs C2 M c1 c2) {ts : List MTerm}
    (hmv : ∀ x ∈ termsMvs ts, x ∈ mvs) (hc : checkSymbols c1 (printTerms ts) true = true) :
    ∀ x ∈ termsMvs ts, x ∈ c1.v := by
  intro x hx
  rcases ((checkSymbols_iff.1 hc).2 x (mvs_sub_printTerms ts x hx)).2.1 with h | h
  · exact absurd (kV x (hmv x hx)) (hr.cV x h)
  · exact h

/-- the test of `$e`, `$a`, `$p` passes in the slice when it passes in the database -/
theorem guard_rel {st1 st2 : VState} (hr : CtxRel Vdb mvs C2 M st1.ctx st2.ctx)
    (hseen : ∀ x ∈ st2.seen, x ∈ st1.seen) {l : String} {toks : List String}
    (hg : ∀ x ∈ toks, TokGood Vdb mvs C2 x)
    (hc : (checkSymbols st1.ctx toks true && !st1.seen.contains l) = true) :
    (checkSymbols st2.ctx toks true && !st2.seen.contains l) = true := by
  simp only [Bool.and_eq_true, Bool.not_eq_true', List.contains_eq_mem, decide_eq_false_iff_not] at hc ⊢
  exact ⟨check_rel kV cV2 hr hg hc.1, fun h => hc.2 (hseen l h)⟩

omit kV cV2 in
theorem no_new_asserts (as1 as2 : List (String × VAssert)) :
    ∃ n1 n2, as1 = as1 ++ n1 ∧ as2 = as2 ++ n2 ∧ n1.map (·.1) = [] ∧ n2.map (·.1) = [] ∧
      ∀ l a2, (l, a2) ∈ n2 → ∃ a1, (l, a1) ∈ n1 ∧ ASim Vdb mvs C2 a1 a2 :=
  ⟨[], [], by simp, by simp, rfl, rfl, fun _ _ h => by cases h⟩

/-- a `$a` statement on both sides -/
theorem sim_ax (t l : String) (ts : List MTerm) {st1 st1' st2 : VState}
    (hok : TermsOK Vdb mvs C2 M ts ∧ ∀ x ∈ termsMvs ts, x ∈ mvs) (hr : CtxRel Vdb mvs C2 M st1.ctx st2.ctx)
    (hseen : ∀ x ∈ st2.seen, x ∈ st1.seen) (h : runStmt (some t) st1 (.ax l ts) = .ok st1') :
    ∃ st2', runStmt (some t) st2 (.ax l ts) = .ok st2' ∧
      SimRes (Vdb := Vdb) (mvs := mvs) (C2 := C2) (M := M) [l] (termsMvs ts) st1 st1' st2 st2' := by
  obtain ⟨⟨hg, hM⟩, hmv⟩ := hok
  simp only [runStmt] at h ⊢
  split at h
  · next hc =>
    injection h with h; subst h
    rw [if_pos (guard_rel kV cV2 hr hseen hg hc)]
    rw [Bool.and_eq_true] at hc
    refine ⟨_, rfl, {
      ctx := hr
      seen := fun x hx => List.mem_append.2 ((List.mem_append.1 hx).imp_left (hseen x))
      v1 := rfl
      f1 := rfl
      mv := terms_mv kV cV2 hr hmv hc.1
      asserts := ⟨[(l, makeAssertion st1.ctx (printTerms ts))], [(l, makeAssertion st2.ctx (printTerms ts))],
                rfl, rfl, rfl, rfl, ?_⟩ }⟩
    intro l' a2 h
    simp only [List.mem_singleton, Prod.mk.injEq] at h
    obtain ⟨rfl, rfl⟩ := h
    exact ⟨_, by simp, makeAssertion_rel kV cV2 hr hg hM fun x hx => ((checkSymbols_iff.1 hc.1).2 x hx).2.1⟩
  · cases h

mutual
theorem sim_stmt (t : String) : ∀ (s : MStmt) (st1 st1' st2 : VState),
    (∀ x ∈ flat s, LeafOK Vdb mvs C2 M t x) → CtxRel Vdb mvs C2 M st1.ctx st2.ctx →
    (∀ x ∈ st2.seen, x ∈ st1.seen) → runStmt (some t) st1 s = .ok st1' →
    ∃ st2', runStmt (some t) st2 s = .ok st2' ∧
      SimRes (Vdb := Vdb) (mvs := mvs) (C2 := C2) (M := M) (assertLabels s) (stmtMvs s) st1 st1' st2 st2'
  | .const cs, st1, st1', st2, hl, hr, hseen, h => False.elim (hl (.const cs) (by simp [flat]))
  | .var vs, st1, st1', st2, hl, hr, hseen, h => False.elim (hl (.var vs) (by simp [flat]))
  | .float l tc v, st1, st1', st2, hl, hr, hseen, h => False.elim (hl (.float l tc v) (by simp [flat]))
  | .disj vs, st1, st1', st2, hl, hr, hseen, h => by
      have hvs : ∀ x ∈ vs, x ∈ mvs := hl (.disj vs) (by simp [flat])
      simp only [runStmt] at h ⊢
      split at h
      · next hc1 =>
        injection h with h; subst h
        have : (vs.all fun t => st2.ctx.v.contains t) = true := by
          rw [List.all_eq_true]; intro x hx
          exact List.contains_iff_mem.2 ((hr.vK x).2 (hvs x hx))
        rw [if_pos this]
        exact ⟨_, rfl, {
          ctx := { hr with
            d21 := fun p hp h1 h2 => List.mem_append.2 ((List.mem_append.1 hp).imp_left fun hp => hr.d21 p hp h1 h2)
            d12 := fun p hp h1 h2 => List.mem_append.2 ((List.mem_append.1 hp).imp_left fun hp => hr.d12 p hp h1 h2) }
          seen := hseen
          v1 := rfl
          f1 := rfl
          mv := fun x hx => List.contains_iff_mem.1 (List.all_eq_true.1 hc1 x hx)
          asserts := no_new_asserts _ _ }⟩
      · cases h
  | .ess l ts, st1, st1', st2, hl, hr, hseen, h => by
      obtain ⟨⟨hg, hM⟩, hmv⟩ : TermsOK Vdb mvs C2 M ts ∧ ∀ x ∈ termsMvs ts, x ∈ mvs :=
        hl (.ess l ts) (by simp [flat])
      simp only [runStmt] at h ⊢
      split at h
      · next hc =>
        injection h with h; subst h
        rw [if_pos (guard_rel kV cV2 hr hseen hg hc)]
        rw [Bool.and_eq_true] at hc
        have hcm : ∀ x ∈ printTerms ts, x ∈ st1.ctx.c ∨ x ∈ st1.ctx.v :=
          fun x hx => ((checkSymbols_iff.1 hc.1).2 x hx).2.1
        exact ⟨_, rfl, {
          ctx := { hr with
            eE := by show st2.ctx.e ++ _ = st1.ctx.e ++ _; rw [hr.eE]
            eM := List.forall_mem_append.2 ⟨hr.eM, List.forall_mem_singleton.2 fun x hx =>
              hM x (mem_varsOf.1 hx).1 (hr.vV x (mem_varsOf.1 hx).2)⟩
            eV := List.forall_mem_append.2 ⟨hr.eV, List.forall_mem_singleton.2 (varsOf_rel kV cV2 hr hg hcm)⟩
            eT := List.forall_mem_append.2 ⟨hr.eT, List.forall_mem_singleton.2 hg⟩ }
          seen := fun x hx => List.mem_append.2 ((List.mem_append.1 hx).imp_left (hseen x))
          v1 := rfl
          f1 := rfl
          mv := terms_mv kV cV2 hr hmv hc.1
          asserts := no_new_asserts _ _ }⟩
      · cases h
  | .ax l ts, st1, st1', st2, hl, hr, hseen, h => sim_ax kV cV2 t l ts (hl (.ax l ts) (by simp [flat])) hr hseen h
  | .prov l ts pf, st1, st1', st2, hl, hr, hseen, h => by
      obtain ⟨hne, hok⟩ : l ≠ t ∧ _ := hl (.prov l ts pf) (by simp [flat])
      rw [run_prov_eq_ax hne] at h ⊢
      exact sim_ax kV cV2 t l ts hok hr hseen h
  | .block ss, st1, st1', st2, hl, hr, hseen, h => by
      simp only [runStmt] at h ⊢
      split at h
      · next st1'' h1 =>
        injection h with h; subst h
        obtain ⟨st2'', h2, hres⟩ := sim_stmts t ss st1 st1'' st2 (by simpa [flat] using hl) hr hseen h1
        rw [h2]
        exact ⟨_, rfl, { ctx := hr, seen := hres.seen, v1 := rfl, f1 := rfl, mv := hres.mv, asserts := hres.asserts }⟩
      · cases h
      · cases h
theorem sim_stmts (t : String) : ∀ (ss : List MStmt) (st1 st1' st2 : VState),
    (∀ x ∈ flatL ss, LeafOK Vdb mvs C2 M t x) → CtxRel Vdb mvs C2 M st1.ctx st2.ctx →
    (∀ x ∈ st2.seen, x ∈ st1.seen) → runStmts (some t) st1 ss = .ok st1' →
    ∃ st2', runStmts (some t) st2 ss = .ok st2' ∧
      SimRes (Vdb := Vdb) (mvs := mvs) (C2 := C2) (M := M) (assertLabelsL ss) (stmtsMvs ss) st1 st1' st2 st2'
  | [], st1, st1', st2, hl, hr, hseen, h => by
      simp only [runStmts] at h ⊢
      injection h with h; subst h
      exact ⟨_, rfl, {
        ctx := hr
        seen := hseen
        v1 := rfl
        f1 := rfl
        mv := by intro x hx; simp [stmtsMvs] at hx
        asserts := no_new_asserts _ _ }⟩
  | s :: ss, st1, st1', st2, hl, hr, hseen, h => by
      simp only [runStmts] at h ⊢
      split at h
      · next st1m h1 =>
        obtain ⟨st2m, h2, hres1⟩ := sim_stmt t s st1 st1m st2
          (fun x hx => hl x (by simp [flatL, hx])) hr hseen h1
        obtain ⟨st2', h2', hres2⟩ := sim_stmts t ss st1m st1' st2m
          (fun x hx => hl x (by simp [flatL, hx])) hres1.ctx hres1.seen h
        rw [h2]
        refine ⟨st2', h2', {
          ctx := hres2.ctx
          seen := hres2.seen
          v1 := by rw [hres2.v1, hres1.v1]
          f1 := by rw [hres2.f1, hres1.f1]
          mv := ?_
          asserts := ?_ }⟩
        · intro x hx
          simp only [stmtsMvs, List.mem_append] at hx
          rcases hx with hx | hx
          · exact hres1.mv x hx
          · have := hres2.mv x hx
            rw [hres1.v1] at this; exact this
        obtain ⟨n1, n2, e1, e2, k1, k2, hs⟩ := hres1.asserts
        obtain ⟨m1, m2, e1', e2', k1', k2', hs'⟩ := hres2.asserts
        refine ⟨n1 ++ m1, n2 ++ m2, by rw [e1', e1, List.append_assoc], by rw [e2', e2, List.append_assoc],
          ?_, ?_, ?_⟩
        · simp [assertLabelsL, flatL, List.filterMap_append, k1, k1', assertLabels]
        · simp [assertLabelsL, flatL, List.filterMap_append, k2, k2', assertLabels]
        · intro l a2 hm
          rcases List.mem_append.1 hm with hm | hm
          · obtain ⟨a1, h1, h2⟩ := hs l a2 hm
            exact ⟨a1, List.mem_append_left _ h1, h2⟩
          · obtain ⟨a1, h1, h2⟩ := hs' l a2 hm
            exact ⟨a1, List.mem_append_right _ h1, h2⟩
      · cases h
      · cases h
end

end Sim

/-! ## 4. more facts about runs -/

theorem runStmts_append (tgt : Option String) : ∀ (a b : List MStmt) (st : VState),
    runStmts tgt st (a ++ b) = match runStmts tgt st a with
      | .ok st' => runStmts tgt st' b
      | .done => .done
      | .fail => .fail
  | [], b, st => by simp [runStmts]
  | s :: a, b, st => by
      simp only [List.cons_append, runStmts]
      cases runStmt tgt st s with
      | ok st' => simp only []; exact runStmts_append tgt a b st'
      | done => rfl
      | fail => rfl

theorem runStmts_single (tgt : Option String) (st : VState) (s : MStmt) :
    runStmts tgt st [s] = runStmt tgt st s := by
  simp only [runStmts]
  cases runStmt tgt st s <;> rfl

/-- a run of `a ++ b` that meets the target meets it in `a`, or gets through `a` and meets it in `b` -/
theorem runStmts_append_done {tgt : Option String} {a b : List MStmt} {st : VState}
    (h : runStmts tgt st (a ++ b) = .done) :
    runStmts tgt st a = .done ∨ ∃ st', runStmts tgt st a = .ok st' ∧ runStmts tgt st' b = .done := by
  rw [runStmts_append] at h
  cases ha : runStmts tgt st a with
  | ok st' => rw [ha] at h; exact Or.inr ⟨st', rfl, h⟩
  | done => exact Or.inl rfl
  | fail => rw [ha] at h; cases h

theorem run_block_done_iff {tgt : Option String} {st : VState} {ss : List MStmt} :
    runStmt tgt st (.block ss) = .done ↔ runStmts tgt st ss = .done := by
  rw [runStmt]
  cases runStmts tgt st ss <;> simp

def allLabels (s : MStmt) : List String := (flat s).filterMap stmtLabel?
def allLabelsL (ss : List MStmt) : List String := (flatL ss).filterMap stmtLabel?

theorem allLabelsL_cons (s : MStmt) (ss : List MStmt) : allLabelsL (s :: ss) = allLabels s ++ allLabelsL ss := by
  simp [allLabelsL, allLabels, flatL, List.filterMap_append]

theorem allLabelsL_append (a b : List MStmt) : allLabelsL (a ++ b) = allLabelsL a ++ allLabelsL b := by
  simp [allLabelsL, flatL_append, List.filterMap_append]

mutual
/-- the labels a run uses are those of the statements -/
theorem runStmt_seen (tgt : Option String) : ∀ (s : MStmt) (st st' : VState),
    runStmt tgt st s = .ok st' → ∀ x ∈ st'.seen, x ∈ st.seen ∨ x ∈ allLabels s
  | .block ss, st, st', h => by
      simp only [runStmt] at h
      split at h
      · next st'' h2 =>
        injection h with h; subst h
        intro x hx
        have := runStmts_seen tgt ss st st'' h2 x hx
        simpa [allLabels, allLabelsL, flat] using this
      · cases h
      · cases h
  | .const _, st, st', h | .var _, st, st', h | .disj _, st, st', h => by
      obtain ⟨rfl, _⟩ := runStmt_leaf (fun ss e => by cases e) h
      exact fun x hx => Or.inl hx
  | .float l _ _, st, st', h | .ess l _, st, st', h | .ax l _, st, st', h | .prov l _ _, st, st', h => by
      obtain ⟨rfl, _⟩ := runStmt_leaf (fun ss e => by cases e) h
      intro x hx
      rcases List.mem_append.1 hx with hx | hx
      · exact Or.inl hx
      · right; simp at hx; subst hx; simp [allLabels, flat, stmtLabel?]
theorem runStmts_seen (tgt : Option String) : ∀ (ss : List MStmt) (st st' : VState),
    runStmts tgt st ss = .ok st' → ∀ x ∈ st'.seen, x ∈ st.seen ∨ x ∈ allLabelsL ss
  | [], st, st', h => by
      simp only [runStmts] at h; injection h with h; subst h; exact fun x hx => Or.inl hx
  | s :: ss, st, st', h => by
      simp only [runStmts] at h
      split at h
      · next st1 h1 =>
        intro x hx
        rw [allLabelsL_cons]
        rcases runStmts_seen tgt ss st1 st' h x hx with hx | hx
        · rcases runStmt_seen tgt s st st1 h1 x hx with hx | hx
          · exact Or.inl hx
          · exact Or.inr (List.mem_append_left _ hx)
        · exact Or.inr (List.mem_append_right _ hx)
      · cases h
      · cases h
end

mutual
/-- a run that stops with `done` has met the target -/
theorem runStmt_done (t : String) : ∀ (s : MStmt) (st : VState),
    runStmt (some t) st s = .done → ∃ ts pf, MStmt.prov t ts pf ∈ flat s
  | .const _, st, h | .var _, st, h => by simp [runStmt] at h
  | .disj _, st, h | .float _ _ _, st, h | .ess _ _, st, h | .ax _ _, st, h => by
      simp only [runStmt] at h; split at h <;> cases h
  | .prov l ts pf, st, h => by
      simp only [runStmt] at h
      split at h
      · split at h
        · next e => subst e; exact ⟨ts, pf, by simp [flat]⟩
        · cases h
      · cases h
  | .block ss, st, h => by
      simp only [runStmt] at h
      split at h
      · cases h
      · next h2 =>
        obtain ⟨ts, pf, hm⟩ := runStmts_done t ss st h2
        exact ⟨ts, pf, by simpa [flat] using hm⟩
      · cases h
theorem runStmts_done (t : String) : ∀ (ss : List MStmt) (st : VState),
    runStmts (some t) st ss = .done → ∃ ts pf, MStmt.prov t ts pf ∈ flatL ss
  | [], st, h => by simp [runStmts] at h
  | s :: ss, st, h => by
      simp only [runStmts] at h
      split at h
      · next st1 h1 =>
        obtain ⟨ts, pf, hm⟩ := runStmts_done t ss st1 h
        exact ⟨ts, pf, by simp [flatL, hm]⟩
      · next h1 =>
        obtain ⟨ts, pf, hm⟩ := runStmt_done t s st h1
        exact ⟨ts, pf, by simp [flatL, hm]⟩
      · cases h
end

/-- an assertion alone in a block -/
theorem run_block_single_ax (tgt : Option String) (st : VState) (l : String) (ts : List MTerm) :
    runStmt tgt st (.block [.ax l ts]) = runStmt tgt st (.ax l ts) := by
  simp only [runStmt, runStmts]
  by_cases h : (checkSymbols st.ctx (printTerms ts) true && !st.seen.contains l) = true
  · simp only [if_pos h]
  · simp only [if_neg h]

/-- `$a`, `$p` and blocks leave the context as it is -/
theorem run_ctx_eq {tgt : Option String} {st st' : VState} {s : MStmt}
    (hs : match s with | .ax .. => True | .prov .. => True | .block _ => True | _ => False)
    (h : runStmt tgt st s = .ok st') : st'.ctx = st.ctx := by
  cases s with
  | ax l ts | prov l ts pf =>
    obtain ⟨rfl, _⟩ := runStmt_leaf (fun ss e => by cases e) h
    rfl
  | block ss =>
    simp only [runStmt] at h
    split at h
    · injection h with h; subst h; rfl
    · cases h
    · cases h
  | _ => exact hs.elim

/-! ## 5. verifying everything verifies each lemma -/

mutual
theorem runStmt_all_target (t : String) : ∀ (s : MStmt) (st st' : VState), runStmt none st s = .ok st' →
    runStmt (some t) st s = .done ∨
      (runStmt (some t) st s = .ok st' ∧ ∀ ts pf, MStmt.prov t ts pf ∉ flat s)
  | .const _, st, st', h | .var _, st, st', h | .disj _, st, st', h | .float _ _ _, st, st', h
  | .ess _ _, st, st', h | .ax _ _, st, st', h => Or.inr ⟨by simpa [runStmt] using h, by simp [flat]⟩
  | .prov l ts pf, st, st', h => by
      rw [runStmt] at h ⊢
      split at h
      · next hc =>
        rw [if_pos hc]
        simp only at h ⊢
        split at h
        · next hv =>
          by_cases e : t = l
          · left; rw [if_pos e, if_pos hv]
          · right
            rw [if_neg e]
            refine ⟨h, ?_⟩
            intro ts' pf' hm
            simp only [flat, List.mem_singleton, MStmt.prov.injEq] at hm
            exact e hm.1
        · cases h
      · cases h
  | .block ss, st, st', h => by
      rw [runStmt] at h ⊢
      split at h
      · next st'' h2 =>
        injection h with h; subst h
        rcases runStmts_all_target t ss st st'' h2 with hd | ⟨ho, hn⟩
        · left; rw [hd]
        · right; rw [ho]; exact ⟨rfl, by simpa [flat] using hn⟩
      · cases h
      · cases h
theorem runStmts_all_target (t : String) : ∀ (ss : List MStmt) (st st' : VState), runStmts none st ss = .ok st' →
    runStmts (some t) st ss = .done ∨
      (runStmts (some t) st ss = .ok st' ∧ ∀ ts pf, MStmt.prov t ts pf ∉ flatL ss)
  | [], st, st', h => Or.inr ⟨by simpa [runStmts] using h, by simp [flatL]⟩
  | s :: ss, st, st', h => by
      rw [runStmts] at h ⊢
      split at h
      · next st1 h1 =>
        rcases runStmt_all_target t s st st1 h1 with hd | ⟨ho, hn⟩
        · left; rw [hd]
        · rw [ho]
          simp only
          rcases runStmts_all_target t ss st1 st' h with hd' | ⟨ho', hn'⟩
          · exact Or.inl hd'
          · refine Or.inr ⟨ho', ?_⟩
            intro ts pf hm
            simp only [flatL, List.mem_append] at hm
            rcases hm with hm | hm
            · exact hn ts pf hm
            · exact hn' ts pf hm
      · cases h
      · cases h
end

/-- a database that verifies as a whole verifies lemma by lemma -/
theorem verifyLemma_of_verifyDb {db : MDb} {l : String} (h : verifyDb db = true)
    (hl : ∃ ts pf, MStmt.prov l ts pf ∈ flatL db) : verifyLemma db l = true := by
  unfold verifyDb at h
  unfold verifyLemma
  cases hr : runStmts none {} db with
  | ok st =>
    rcases runStmts_all_target l db {} st hr with hd | ⟨_, hn⟩
    · rw [hd]
    · obtain ⟨ts, pf, hm⟩ := hl
      exact absurd hm (hn ts pf)
  | done => rw [hr] at h; cases h
  | fail => rw [hr] at h; cases h

end MM
