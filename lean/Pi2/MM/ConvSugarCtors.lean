import Pi2.MM.ConvSugarWf
/-!
# The constructor table of `dbOfCore`, statement by statement

For a database of the shape `CoreShape`, the constructor entries of the model database (`Spec.db.ctors`) are, in database order, the
constructor axioms `… $a #Pattern ( s v₁ … vₙ )` whose head is neither `\imp` nor `\app`: symbol = position of `s` among the constants,
arguments = positions of the `vᵢ` among the variables, no body (`ctors_of_core`).  And: the database without its `#Notation` statements
has the same constants, variables and constructor axioms (`namesOf_coreOf`, `ctorHeads_coreOf`).
-/
set_option linter.unusedSimpArgs false
set_option linter.unusedVariables false
set_option linter.unnecessarySimpa false
set_option linter.unusedSectionVars false
open MM SliceSup ConvSup Gen.MMConv

namespace ConvCoh
open ConvSpec ConvTie

/-! ## the database without its `#Notation` statements -/
theorem sugar_is_ax {st : MStmt} (h : isSugar st = true) : ∃ l tc n args body, st = .ax l [.app tc [], .app n args, body] := by
  unfold isSugar ConvSpec.sugarOf at h
  split at h
  · exact ⟨_, _, _, _, _, rfl⟩
  · cases h

theorem ctorHeadOf_sugar {st : MStmt} (h : isSugar st = true) : ctorHeadOf st = none := by
  obtain ⟨l, tc, n, args, body, rfl⟩ := sugar_is_ax h
  rfl

/-- a function of the database that skips `#Notation` statements and is computed statement by statement does not see `coreOf` -/
theorem coreOf_invariant {β : Type} (g : MDb → β) (hskip : ∀ st r, isSugar st = true → g (st :: r) = g r)
    (hcons : ∀ st r r', g r = g r' → g (st :: r) = g (st :: r')) : ∀ mdb : MDb, g (coreOf mdb) = g mdb
  | [] => rfl
  | st :: r => by
    unfold coreOf
    rw [List.filter_cons]
    cases h : isSugar st
    · exact hcons st _ r (coreOf_invariant g hskip hcons r)
    · exact (coreOf_invariant g hskip hcons r).trans (hskip st r h).symm

theorem constsOf_coreOf : ∀ mdb : MDb, constsOf (coreOf mdb) = constsOf mdb :=
  coreOf_invariant constsOf (fun st r h => by obtain ⟨l, tc, n, args, body, rfl⟩ := sugar_is_ax h; rfl)
    (fun st r r' h => by cases st <;> simp [constsOf, h])

theorem varsOf_coreOf : ∀ mdb : MDb, varsOf (coreOf mdb) = varsOf mdb :=
  coreOf_invariant varsOf (fun st r h => by obtain ⟨l, tc, n, args, body, rfl⟩ := sugar_is_ax h; rfl)
    (fun st r r' h => by cases st <;> simp [varsOf, h])

theorem namesOf_coreOf (mdb : MDb) : namesOf (coreOf mdb) = namesOf mdb := by
  simp [namesOf, constsOf_coreOf, varsOf_coreOf]

theorem ctorHeads_coreOf : ∀ mdb : MDb, (coreOf mdb).filterMap ctorHeadOf = mdb.filterMap ctorHeadOf :=
  coreOf_invariant (·.filterMap ctorHeadOf) (fun st r h => by simp [List.filterMap_cons, ctorHeadOf_sugar h])
    (fun st r r' h => by simp only [List.filterMap_cons] at h ⊢; rw [h])

/-! ## the constructor entry of a statement -/
def toC (nm : Names) (p : String × List MTerm) : Ctor :=
  { sym := nm.consts.idxOf p.1, args := ((mvNames p.2).getD []).map nm.vars.idxOf }

/-- the head is neither `\imp` nor `\app` -/
def plainP (p : String × List MTerm) : Bool := !(p.1 == "\\imp" || p.1 == "\\app")

def ctorEntry (nm : Names) (st : MStmt) : Option Ctor :=
  (ctorHeadOf st).bind fun p => if plainP p then some (toC nm p) else none

theorem ctorEntries_eq (nm : Names) : ∀ mdb : MDb,
    mdb.filterMap (ctorEntry nm) = ((mdb.filterMap ctorHeadOf).filter plainP).map (toC nm) := by
  intro mdb
  induction mdb with
  | nil => rfl
  | cons st r ih =>
    cases h : ctorHeadOf st with
    | none => simp [List.filterMap_cons, ctorEntry, h, ih]
    | some p => cases hp : plainP p <;> simp [List.filterMap_cons, ctorEntry, h, hp, ih]

theorem mvNames_map : ∀ vs : List String, mvNames (vs.map .mv) = some vs := by
  intro vs
  induction vs with
  | nil => rfl
  | cons v vs ih => simp [mvNames, ih]

theorem filterMap_of_mapM {α β γ : Type} (f : α → Option β) (g : β → Option γ) : ∀ (xs : List α) (ys : List β),
    xs.mapM f = some ys → ys.filterMap g = xs.filterMap fun x => (f x).bind g := by
  intro xs
  induction xs with
  | nil => intro ys h; simp at h; subst h; rfl
  | cons x xs ih =>
    intro ys h
    obtain ⟨y, ys', hy, hys', rfl⟩ := (mapM_cons_some f x xs ys).mp h
    simp only [List.filterMap_cons, hy, Option.bind_some, ih ys' hys']

theorem filterMap_congr_mem {α β : Type} (f g : α → Option β) : ∀ (xs : List α), (∀ x ∈ xs, f x = g x) →
    xs.filterMap f = xs.filterMap g := by
  intro xs
  induction xs with
  | nil => intro _; rfl
  | cons x xs ih =>
    intro h
    simp only [List.filterMap_cons, h x (by simp), ih (fun y hy => h y (by simp [hy]))]

section
variable (nm : Names) (fs : List String) (hfsV : ∀ v ∈ fs, v ∈ nm.vars) (hres : ∀ v ∈ fs, reserved v = false)
include hfsV

theorem ctor_of_syntax (l s : String) (args : List MTerm) (h : syntaxShape nm.consts fs l (.app s args) = true) :
    (roleOfStmt nm (.ax l [.app "#Pattern" [], .app s args])).bind ctorOf? =
      ctorEntry nm (.ax l [.app "#Pattern" [], .app s args]) := by
  simp only [syntaxShape] at h
  split at h
  · cases h
  · rename_i vs hvs
    have hargs := mvNames_spec args vs hvs
    subst hargs
    simp only [Bool.and_eq_true, List.all_eq_true, List.contains_eq_mem, decide_eq_true_eq] at h
    obtain ⟨⟨hvfs, hnd⟩, hcase⟩ := h
    have hvV : ∀ v ∈ vs, v ∈ nm.vars := fun v hv => hfsV v (hvfs v hv)
    by_cases hb : s = "\\imp" ∨ s = "\\app"
    · -- a built-in connective: a role that is no constructor entry
      have hlen : vs.length = 2 := by
        rcases hb with rfl | rfl <;> simp at hcase <;> exact hcase.2
      rcases vs with _ | ⟨x, _ | ⟨y, _ | _⟩⟩ <;> simp at hlen
      have hx := hvV x (by simp)
      have hy := hvV y (by simp)
      rcases hb with rfl | rfl <;>
        simp [roleOfStmt, declOf, typed, termOf, Names.var?, hx, hy, roleOf, ctorEntry, ctorHeadOf, plainP] <;>
        exact fun _ => rfl
    · rw [not_or] at hb
      obtain ⟨h1, h2⟩ := hb
      rw [if_neg h1, if_neg h2] at hcase
      simp only [Bool.and_eq_true, Bool.not_eq_true', List.contains_eq_mem, decide_eq_true_eq, bne_iff_ne, ne_eq] at hcase
      obtain ⟨⟨⟨⟨hres', hK⟩, hq⟩, hl1⟩, hl2⟩ := hcase
      have h3 : ¬ (s = "\\exists" ∨ s = "\\mu") := by
        simp only [reserved, Bool.or_eq_false_iff, beq_eq_false_iff_ne, ne_eq] at hres'
        exact fun h3 => h3.elim hres'.1.2 hres'.2
      have hT : termOf nm (.app s (vs.map .mv)) = some (.con (nm.consts.idxOf s) ((vs.map nm.vars.idxOf).map .var)) := by
        unfold termOf
        simp [h1, h2, h3, Names.con?, hK, termsOf_mvs nm vs hvV, List.map_map, Function.comp]
      have hl : ¬ (l = "imp-is-pattern" ∨ l = "app-is-pattern") := by simp [hl1, hl2]
      have hp : plainP (s, vs.map MTerm.mv) = true := by simp [plainP, h1, h2]
      simp only [roleOfStmt, declOf, typed, if_true, hT, Option.map_some, Option.bind_some, roleOf, hl, if_false, asVars_vars, ctorOf?,
        ctorEntry, ctorHeadOf, hp, toC, mvNames_map, Option.getD_some]

theorem item_not_ctor {st : MStmt} {r : Role} (hf : ItemFacts nm fs st r) (l : String) (h : axHeadOf st = some (l, "|-")) :
    ctorOf? r = none := by
  obtain ⟨pl, eh, l', tcs, t, T, Hs, _, _, _, hitem, _, _, _, _, hhead⟩ := hf.parts
  rw [h] at hhead
  simp only [Option.some.injEq, Prod.mk.injEq] at hhead
  obtain ⟨rfl, rfl⟩ := hhead
  cases r with
  | ctor _ _ => simp [roleItem] at hitem
  | _ => rfl

include hres in
/-- the constructor entry that the specification makes of a statement of the shape -/
theorem ctor_of_stmt (st : MStmt) (h : stmtShape nm.consts fs st = true) :
    (roleOfStmt nm st).bind ctorOf? = ctorEntry nm st := by
  cases st with
  | const cs => rfl
  | var vs => rfl
  | disj _ => exact (no_disj h).elim
  | ess _ _ => exact (no_ess h).elim
  | float l tc v =>
    simp only [roleOfStmt, declOf, ctorEntry, ctorHeadOf, Option.bind_none]
    split
    · cases nm.var? v <;> simp [roleOf, ctorOf?]
    · rfl
  | prov l ts pf =>
    obtain ⟨t, rfl, ht⟩ := prov_shape h
    obtain ⟨T, hT⟩ := termOf_of_shape nm fs hfsV t ht
    simp [roleOfStmt, declOf, typed, hT, roleOf, ctorOf?, ctorEntry, ctorHeadOf]
  | ax l ts =>
    obtain ⟨tc, t, rfl, hcase⟩ := ax_shape h
    rcases hcase with ⟨rfl, hsyn⟩ | ⟨rfl, ht, hrule⟩
    · cases t with
      | mv v => simp [syntaxShape] at hsyn
      | app s args => exact ctor_of_syntax nm fs hfsV l s args hsyn
    · obtain ⟨r, hr, hf⟩ := item_role nm fs hfsV hres _ h rfl
      rw [hr, Option.bind_some, item_not_ctor nm fs hfsV hf l rfl]
      cases t <;> simp [ctorEntry, ctorHeadOf]
  | block ss =>
    obtain ⟨l, t, hs, hlast, _⟩ := block_shape h
    obtain ⟨r, hr, hf⟩ := item_role nm fs hfsV hres _ h (by simp [isAxItem, hlast])
    rw [hr, Option.bind_some, item_not_ctor nm fs hfsV hf l (by simp [axHeadOf, hlast])]
    rfl

end

/-- what `dbOfCore` returns, part by part -/
theorem dbOfCore_parts {mdb : MDb} {target : String} {sp : Spec} (h : dbOfCore mdb target = some sp) :
    ∃ roles, mdb.mapM (roleOfStmt (namesOf mdb)) = some roles ∧ dbOfRoles roles = some sp.db ∧ sp.names = namesOf mdb := by
  rw [dbOfMDb_eq, mapM_comp] at h
  simp only [Option.bind_eq_some_iff, Option.some.injEq] at h
  obtain ⟨roles, h1, db, h2, _, _, _, _, _, _, _, _, rfl⟩ := h
  exact ⟨roles, h1, h2, rfl⟩

/-- **the constructor table of the core specification** -/
theorem ctors_of_core {mdb : MDb} {target : String} (hsh : CoreShape mdb target = true) {sp : Spec}
    (h : dbOfCore mdb target = some sp) :
    sp.names = namesOf mdb ∧
    sp.db.ctors = ((mdb.filterMap ctorHeadOf).filter plainP).map (toC (namesOf mdb)) ∧ (∀ k ∈ sp.db.ctors, k.body = none) := by
  have S := shaped_of hsh
  obtain ⟨roles, hmap, hdb, hnm⟩ := dbOfCore_parts h
  obtain ⟨imp, p1, p2, mp, _, _, _, _, hdbeq⟩ := dbOfRoles_some roles sp.db hdb
  have e3 : sp.db.ctors = roles.filterMap ctorOf? := by rw [hdbeq]
  have hct : sp.db.ctors = ((mdb.filterMap ctorHeadOf).filter plainP).map (toC (namesOf mdb)) := by
    rw [e3, filterMap_of_mapM _ ctorOf? mdb roles hmap, ← ctorEntries_eq]
    apply filterMap_congr_mem
    intro st hst
    exact ctor_of_stmt (namesOf mdb) _ (fs_declared S) (fs_unreserved S) st (S.stmts st hst)
  refine ⟨hnm, hct, ?_⟩
  intro k hk
  rw [hct] at hk
  obtain ⟨p, _, rfl⟩ := List.mem_map.mp hk
  rfl

/-- what the shape says of a constructor axiom: its arguments are variables with a `$f`; a head other than `\imp`, `\app` is a
declared constant that is no reserved word -/
theorem ctorHead_facts {mdb : MDb} {target : String} (S : Shaped mdb target) :
    ∀ p ∈ mdb.filterMap ctorHeadOf, ∃ vs, mvNames p.2 = some vs ∧ (∀ v ∈ vs, v ∈ (floatsOf mdb).map (·.2)) ∧
      (plainP p = true → p.1 ∈ constsOf mdb ∧ reserved p.1 = false) := by
  intro p hp
  obtain ⟨st, hst, hh⟩ := List.mem_filterMap.mp hp
  have hs := S.stmts st hst
  cases st with
  | ax l ts =>
    obtain ⟨tc, t, rfl, hcase⟩ := ax_shape hs
    rcases hcase with ⟨rfl, hsyn⟩ | ⟨rfl, _, _⟩
    · cases t with
      | mv v => simp [syntaxShape] at hsyn
      | app s args =>
        simp only [ctorHeadOf, if_true, Option.some.injEq] at hh
        subst hh
        simp only [syntaxShape] at hsyn
        split at hsyn
        · cases hsyn
        · rename_i vs hvs
          simp only [Bool.and_eq_true, List.all_eq_true, List.contains_eq_mem, decide_eq_true_eq] at hsyn
          obtain ⟨⟨hvfs, _⟩, hcase⟩ := hsyn
          refine ⟨vs, hvs, hvfs, ?_⟩
          intro hpl
          simp only [plainP, Bool.not_eq_true', Bool.or_eq_false_iff, beq_eq_false_iff_ne, ne_eq] at hpl
          rw [if_neg hpl.1, if_neg hpl.2] at hcase
          simp only [Bool.and_eq_true, Bool.not_eq_true', List.contains_eq_mem, decide_eq_true_eq] at hcase
          exact ⟨hcase.1.1.1.2, hcase.1.1.1.1⟩
    · cases t <;> simp [ctorHeadOf] at hh
  | _ => simp [ctorHeadOf] at hh

end ConvCoh
