import Pi2.MM.ConvBridge
import Pi2.XProofCongr
/-!
# The generated converter + the generated `exec_proof` on a database of the fragment = the model's `execProof` on `dbOfCore`

`convOf` packages the query methods of the generated converter (`Pi2/Gen/MMConv.lean`) as the abstract record `PyXProof.Conv` the
generated `exec_proof` (`Pi2/Gen/ExecProof.lean`) takes: a label `Lbl` is looked up by its name in the label table, a variable number
by its name among the declared variables.  `translation_tie` composes `ConvTie.converter_agrees` (through the congruence
`XProofCongr.exec_proof_congr`) with `XProofTie.exec_proof_tie`.
-/
set_option linter.unusedSimpArgs false
set_option linter.unusedVariables false
open MM SliceSup ConvSup Gen.MMConv PyXProof

namespace ConvTie
open ConvSpec XProofCongr

/-- the name of an `Lbl` in the label table -/
def nameOf (table : List (String × Lbl)) (l : Lbl) : Option String := (table.find? fun p => p.2 == l).map (·.1)

def axRecOf (nm : Names) (a : AxiomObj) : AxiomRec := ⟨a.pattern, a.metavars.map nm.vars.idxOf, a.antecedents?⟩

/-- the generated converter as the converter of the generated `exec_proof` -/
def convOf (σ : String → Nat) (fuel : Nat) (c : ConvObj) (sp : Spec) (target : String) : Conv :=
  { isPatternConstructor := fun l => match nameOf sp.table l with | some s => is_pattern_constructor σ fuel c s | none => false
    floating := fun l => match nameOf sp.table l with | some s => c._fp_label_to_pattern.lookup s | none => none
    isExportedAxiom := fun l => match nameOf sp.table l with | some s => (exported_axioms σ fuel c).contains s | none => false
    isProofRule := fun l => match nameOf sp.table l with | some s => is_proof_rule σ fuel c s | none => false
    axiom? := fun l => match nameOf sp.table l with
      | some s => (match get_axiom_by_name σ fuel c s with | .ok a => some (axRecOf sp.names a) | _ => none)
      | none => none
    metavarsInOrder := fun l => match nameOf sp.table l with
      | some s => (match get_metavars_in_order σ fuel c s with | .ok m => m.map sp.names.vars.idxOf | _ => [])
      | none => []
    resolveMetavar := fun n => match resolve_metavar σ fuel c (sp.names.vars.getD n "") with | .ok p => p | _ => .evar 0
    targetPattern := match get_lemma_by_name σ fuel c target with | .ok a => a.pattern | _ => .evar 0 }

theorem nameOf_eq (table : List (String × Lbl)) (hnd : (table.map (·.2)).Nodup) (s : String) (l : Lbl) (h : (s, l) ∈ table) :
    nameOf table l = some s := by
  induction table with
  | nil => simp at h
  | cons p table ih =>
    obtain ⟨s0, l0⟩ := p
    simp only [List.map_cons, List.nodup_cons] at hnd
    simp only [List.mem_cons, Prod.mk.injEq] at h
    rcases h with ⟨rfl, rfl⟩ | h
    · simp [nameOf, List.find?]
    · have hne : l0 ≠ l := fun e => hnd.1 (e ▸ List.mem_map.mpr ⟨(s, l), h, rfl⟩)
      have : (l0 == l) = false := by simp [hne]
      simp only [nameOf, List.find?, this]
      exact ih hnd.2 h

theorem mem_of_lookup {α : Type} (table : List (String × α)) (s : String) (l : α) (h : table.lookup s = some l) : (s, l) ∈ table := by
  obtain ⟨l₁, l₂, rfl, _⟩ := List.lookup_eq_some_iff.mp h
  simp

theorem exported_contains (σ : String → Nat) (fuel : Nat) (c : ConvObj) (s : String) :
    (exported_axioms σ fuel c).contains s = is_exported_axiom σ fuel c s := by
  simp only [exported_axioms, axioms, dictKeys]
  cases h : is_exported_axiom σ fuel c s
  · simp only [List.contains_eq_mem, decide_eq_false_iff_not, List.mem_filter, not_and]
    intro _; simp [h]
  · simp only [List.contains_eq_mem, decide_eq_true_eq, List.mem_filter]
    refine ⟨?_, h⟩
    simp only [is_exported_axiom, is_axiom, Bool.and_eq_true] at h
    exact (dictHas_iff _ _).mp h.1.1

/-- the answers of `convOf` about a label with a name in the table -/
theorem convOf_named (σ : String → Nat) (fuel : Nat) (c : ConvObj) (sp : Spec) (target : String) {l : Lbl} {s : String}
    (h : nameOf sp.table l = some s) :
    (convOf σ fuel c sp target).isPatternConstructor l = is_pattern_constructor σ fuel c s ∧
    (convOf σ fuel c sp target).floating l = c._fp_label_to_pattern.lookup s ∧
    (convOf σ fuel c sp target).isExportedAxiom l = is_exported_axiom σ fuel c s ∧
    (convOf σ fuel c sp target).isProofRule l = is_proof_rule σ fuel c s ∧
    (convOf σ fuel c sp target).axiom? l =
      (match get_axiom_by_name σ fuel c s with | .ok a => some (axRecOf sp.names a) | _ => none) ∧
    (convOf σ fuel c sp target).metavarsInOrder l =
      (match get_metavars_in_order σ fuel c s with | .ok m => m.map sp.names.vars.idxOf | _ => []) := by
  simp only [convOf, h, exported_contains, and_self]

/-- the additional decidable conditions on the specification's output that the composition uses -/
def tableOK (sp : Spec) (mdb : MDb) : Bool :=
  decide (sp.table.map (·.2)).Nodup &&
  sp.table.all fun p => ((floatPairs mdb).map (·.1)).contains p.1 || ((mdb.filter isAxItem).map axLabel).contains p.1

/-- the supported fragment for the composed statement: `InFragment`, the label table is one-to-one and only names `$f` and `$a`
labels, the target's label is not the label of a `$f` statement -/
def InFragmentX (mdb : MDb) (target : String) : Bool :=
  InFragment mdb target && !((floatPairs mdb).map (·.1)).contains target &&
  match dbOfCore mdb target with | some sp => tableOK sp mdb | none => false

theorem getD_idxOf (V : List String) (v : String) (h : v ∈ V) : V.getD (V.idxOf v) "" = v := by
  have hlt : V.idxOf v < V.length := List.idxOf_lt_length_of_mem h
  simp [List.getD, List.getElem?_eq_getElem hlt, List.getElem_idxOf hlt]

section
variable {fuel : Nat} {mdb : MDb} {target : String} {t : MTerm} {prf : List String} {pf : Gen.ImportProof.Proof} {c : ConvObj}

/-- the variables with a `$f` statement resolve alike -/
theorem convOf_resolve (sp : Spec) (hF : FragM mdb fuel target t prf) (hfin : Final sp.names.consts.idxOf mdb target t pf c)
    (hL : LabelsOK mdb) (hcf : coherentFloats sp mdb = true) (v : String) (hv : v ∈ (floatPairs mdb).map (·.2)) :
    (convOf sp.names.consts.idxOf fuel c sp target).resolveMetavar (sp.names.vars.idxOf v) =
      (XProofTie.ofDB sp.db sp.goal).resolveMetavar (sp.names.vars.idxOf v) := by
  obtain ⟨p, hp, rfl⟩ := List.mem_map.mp hv
  obtain ⟨l, v⟩ := p
  have hvV : v ∈ sp.names.vars := (numbering_of_coherent sp mdb hcf).declared v hv
  obtain ⟨_, _, hr, _⟩ := agree_float sp hF hfin hL hcf l v hp
  simp only [convOf, getD_idxOf _ v hvV, hr]

theorem convOf_agree_axiom (sp : Spec) (hF : FragM mdb fuel target t prf) (hfin : Final sp.names.consts.idxOf mdb target t pf c)
    (hL : LabelsOK mdb) (hcf : coherentFloats sp mdb = true) (hnd : (sp.table.map (·.2)).Nodup)
    (st : MStmt) (hst : st ∈ mdb.filter isAxItem) (hco : coherentItem sp st = true) (lbl : Lbl)
    (hlk : sp.table.lookup (axLabel st) = some lbl) :
    ConvAgree (convOf sp.names.consts.idxOf fuel c sp target) (XProofTie.ofDB sp.db sp.goal) lbl := by
  obtain ⟨pl, eh, l, tcs, t', hparts, _⟩ := hF.axioms st hst
  have hlab := (headLabel_eq_axLabel hparts).2
  rw [hlab] at hlk
  obtain ⟨l', lbl', hlab', hlk', hag⟩ := agree_axiom sp rfl hF hfin (numbering_of_coherent sp mdb hcf) st hst hco
  obtain rfl : l = l' := hlab.symm.trans hlab'
  obtain rfl : lbl' = lbl := Option.some.inj (hlk'.symm.trans hlk)
  have hname : nameOf sp.table lbl' = some l := nameOf_eq sp.table hnd l lbl' (mem_of_lookup _ _ _ hlk)
  obtain ⟨a, hget, _, hmio, _⟩ := q_get_axiom hF hfin st hst hparts
  obtain ⟨a', r, hget', hr, hpat, hant, hmv⟩ := hag.ax
  obtain rfl : a = a' := Res.ok.inj (hget.symm.trans hget')
  obtain ⟨m, hm, hmeq⟩ := hag.mio
  obtain rfl := Res.ok.inj (hmio.symm.trans hm)
  obtain ⟨epc, efl, eex, epr, eax, emio⟩ := convOf_named sp.names.consts.idxOf fuel c sp target hname
  refine ⟨epc.trans hag.pc, ?_, eex.trans hag.ex, epr.trans hag.pr, ?_, ?_, ?_⟩
  · -- an `Lbl` with an assertion is not that of a `$f` statement, and the label of an axiom is not a `$f` label
    have hnf : (XProofTie.ofDB sp.db sp.goal).floating lbl' = none := by
      cases lbl' with
      | float v => cases hr
      | _ => rfl
    have : l ∉ (fpOf (floatPairs mdb)).map (·.1) := by
      rw [fpOf_keys]
      exact fun hm => hL.disjoint l hm (List.mem_map.mpr ⟨st, hst, hlab⟩)
    rw [efl, hnf, hfin.fps]
    simpa [dictHas] using (dictHas_false_iff _ _).mpr this
  · rw [eax, hget, hr]
    refine ⟨hpat, hant, decide_eq_decide.mpr ?_⟩
    simp only [axRecOf, gt_iff_lt, List.length_pos_iff_exists_mem, hmv]
  · rw [emio, hmio]; exact hmeq
  · intro n hn
    rw [emio, hmio] at hn
    obtain ⟨v, hv, rfl⟩ := List.mem_map.mp hn
    exact convOf_resolve sp hF hfin hL hcf v (List.mem_filter.mp hv).1

theorem convOf_agree_float (sp : Spec) (hF : FragM mdb fuel target t prf) (hfin : Final sp.names.consts.idxOf mdb target t pf c)
    (hL : LabelsOK mdb) (hcf : coherentFloats sp mdb = true) (hnd : (sp.table.map (·.2)).Nodup)
    (l v : String) (hlv : (l, v) ∈ floatPairs mdb) (hlt : l ≠ target) :
    ConvAgree (convOf sp.names.consts.idxOf fuel c sp target) (XProofTie.ofDB sp.db sp.goal) (Lbl.float (sp.names.vars.idxOf v)) := by
  obtain ⟨htab, hfp, _, hpc⟩ := agree_float sp hF hfin hL hcf l v hlv
  have hname : nameOf sp.table (Lbl.float (sp.names.vars.idxOf v)) = some l := nameOf_eq sp.table hnd l _ (mem_of_lookup _ _ _ htab)
  have hlfl : l ∈ (floatPairs mdb).map (·.1) := List.mem_map.mpr ⟨(l, v), hlv, rfl⟩
  -- a `$f` label is not the label of an axiom
  have hnax : l ∉ c._axioms.map (·.1) := by
    rw [axList_keys _ _ _ _ hfin.axioms]
    exact hL.disjoint l hlfl
  have hhas : dictHas c._axioms l = false := (dictHas_false_iff _ _).mpr hnax
  have hpr : is_proof_rule sp.names.consts.idxOf fuel c l = false := by
    have := float_not_filtered hF hL hlv isPrItem
    rw [← hfin.prs l] at this
    simpa [is_proof_rule] using this
  have hmio : get_metavars_in_order sp.names.consts.idxOf fuel c l = .raise := by
    obtain ⟨a, hla, _⟩ := hfin.lemmas
    have hb : (l == target) = false := by simp [hlt]
    have : dictHas c._lemmas l = false := by simp [dictHas, hla, List.lookup, hb]
    simp [get_metavars_in_order, get_metavars, hhas, this, bind, Res.bind]
  have hax : get_axiom_by_name sp.names.consts.idxOf fuel c l = .raise := by
    simp [get_axiom_by_name, is_axiom, hhas, ConvSup.pyAssert, bind, Res.bind]
  obtain ⟨epc, efl, eex, epr, eax, emio⟩ := convOf_named sp.names.consts.idxOf fuel c sp target hname
  rw [hmio] at emio
  refine ⟨epc.trans hpc, efl.trans hfp, ?_, ?_, ?_, emio, ?_⟩
  · rw [eex, is_exported_axiom, is_axiom, hhas]; rfl
  · rw [epr, hpr]; rfl
  · rw [eax, hax]; trivial
  · intro n hn
    rw [emio] at hn
    cases hn

end

theorem mapM_lookup_mem {α β : Type} (f : α → Option β) : ∀ (xs : List α) (ys : List β), xs.mapM f = some ys →
    ∀ y ∈ ys, ∃ x ∈ xs, f x = some y
  | [], ys, h, y, hy => by simp at h; subst h; cases hy
  | x :: xs, ys, h, y, hy => by
    simp only [List.mapM_cons, Option.bind_eq_bind, Option.pure_def, Option.bind_eq_some_iff, Option.some.injEq] at h
    obtain ⟨b, hb, r, hr, rfl⟩ := h
    rcases List.mem_cons.mp hy with rfl | hy
    · exact ⟨x, by simp, hb⟩
    · obtain ⟨x', hx', hfx'⟩ := mapM_lookup_mem f xs r hr y hy
      exact ⟨x', by simp [hx'], hfx'⟩

/-- THE COMPOSITION: on a database of the fragment the generated `exec_proof`, run on the generated converter (through `convOf`) with
the label list and steps of the specification, is the model's `execProof` on the specification's database — same exception /
out-of-fuel / final tracker state and call history -/
theorem translation_tie (mdb : MDb) (target : String) (h : InFragmentX mdb target = true) :
    ∃ sp, dbOfCore mdb target = some sp ∧
      ∀ fuel, dbFuel mdb ≤ fuel → ∃ c, MetamathConverter_init sp.names.consts.idxOf fuel default mdb = .ok c ∧
        (∃ a pf, get_lemma_by_name sp.names.consts.idxOf fuel c target = .ok a ∧ a.proof? = some pf ∧ proofAgrees sp pf = true) ∧
        ∀ (cfg : PySt.Cfg) (n : Nat) (s : PySt) (acc : List Call), 5 ≤ n →
          XProofTie.outcome (Gen.XProof.exec_proof (convOf sp.names.consts.idxOf fuel c sp target) cfg n sp.labels sp.steps s acc) =
            execProof cfg n sp.db sp.goal sp.labels sp.steps s acc := by
  simp only [InFragmentX, Bool.and_eq_true, Bool.not_eq_true', List.contains_eq_mem, decide_eq_false_iff_not] at h
  obtain ⟨⟨hfrag, htgt⟩, htab⟩ := h
  obtain ⟨sp, t, prf, pf, hdb, hitems, hfloats, hgoal, hpa, hwf, hlem, hL, hrun⟩ := inFragment_parts hfrag
  simp only [hdb, tableOK, Bool.and_eq_true, decide_eq_true_eq, List.all_eq_true, Bool.or_eq_true, List.contains_eq_mem] at htab
  obtain ⟨hnd, hcov⟩ := htab
  refine ⟨sp, hdb, fun fuel hfuel => ?_⟩
  obtain ⟨hF, c, hc, hfin⟩ := hrun fuel hfuel
  obtain ⟨a, hla, hpat, hapf, _⟩ := agree_goal (fuel := fuel) sp rfl hfin hlem hfloats hgoal
  refine ⟨c, hc, ⟨a, pf, hla, hapf, hpa⟩, ?_⟩
  intro cfg n s acc hn
  have hagree : ∀ lbl ∈ sp.labels, ConvAgree (convOf sp.names.consts.idxOf fuel c sp target) (XProofTie.ofDB sp.db sp.goal) lbl := by
    intro lbl hlbl
    simp only [proofAgrees, Bool.and_eq_true, decide_eq_true_eq] at hpa
    obtain ⟨p, _, hp⟩ := mapM_lookup_mem _ _ _ hpa.1.2 lbl hlbl
    have hmem := mem_of_lookup _ _ _ hp
    rcases hcov _ hmem with hfl | hax
    · obtain ⟨q, hq, hq1⟩ := List.mem_map.mp hfl
      obtain ⟨l, v⟩ := q
      simp only [] at hq1
      obtain ⟨htl, _⟩ := agree_float sp hF hfin hL hfloats l v hq
      rw [← hq1, htl] at hp
      have := Option.some.inj hp
      subst this
      exact convOf_agree_float sp hF hfin hL hfloats hnd l v hq
        (fun e => htgt (e ▸ List.mem_map.mpr ⟨(l, v), hq, rfl⟩))
    · obtain ⟨st, hst, hlab⟩ := List.mem_map.mp hax
      exact convOf_agree_axiom sp hF hfin hL hfloats hnd st hst (hitems st hst) lbl (by rw [hlab]; exact hp)
  have htp : (convOf sp.names.consts.idxOf fuel c sp target).targetPattern = (XProofTie.ofDB sp.db sp.goal).targetPattern := by
    simp only [convOf, hla]; exact hpat
  rw [exec_proof_congr _ _ cfg n sp.labels sp.steps s acc hagree htp]
  exact XProofTie.exec_proof_tie sp.db sp.goal cfg n sp.labels sp.steps s acc (DB.wf_WF sp.db hwf) hn

end ConvTie

#print axioms ConvTie.translation_tie
