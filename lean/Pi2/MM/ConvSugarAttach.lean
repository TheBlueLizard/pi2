import Pi2.MM.ConvSugarCtors
/-!
# `dbOfMDb` on databases of the shape `FragmentShape`: `attachAll` succeeds and the result is well formed

`spec_wf`: for a database of the shape (its clause `headsPlain` — the `#Notation` heads are neither `\imp` nor `\app` — is used: a
`#Notation` statement for `\imp` is rejected by `attach`: `Pi2/Props/C16c.lean`, `notation_for_imp_rejected`), the
specification `dbOfMDb` is the core specification of the database without its `#Notation` statements, with another constructor table
`db.ctors` that differs in the bodies only, and `DB.wf` holds.
-/
set_option linter.unusedSimpArgs false
set_option linter.unusedVariables false
set_option linter.unnecessarySimpa false
set_option linter.unusedSectionVars false
open MM SliceSup ConvSup Gen.MMConv

namespace ConvCoh
open ConvSpec ConvTie

/-- (head, variables) of the constructor axioms, in order -/
def ctorPairs (mdb : MDb) : List (String × List String) := (mdb.filterMap ctorHeadOf).map fun p => (p.1, (mvNames p.2).getD [])

/-- what `sugarShape` says of the `#Notation` statements, as a predicate on their list -/
def SugOK (K heads : List String) (P : List (String × List String)) : List String → List Sugar → Prop
  | _, [] => True
  | seen, sg :: r => (∃ vs, mvNames sg.2.2.1 = some vs ∧ (sg.2.1, vs) ∈ P ∧ termShape K vs sg.2.2.2 = true) ∧
      (∀ h ∈ headsOf sg.2.2.2, h ∈ seen ∨ h ∉ heads) ∧ SugOK K heads P (seen ++ [sg.2.1]) r

theorem sugOK_of_shape (K heads : List String) (P : List (String × List String)) : ∀ (mdb : MDb) (cs : List (String × List String))
    (seen : List String), sugarShape K heads cs seen mdb = true → (∀ p ∈ cs, p ∈ P) → (∀ p ∈ ctorPairs mdb, p ∈ P) →
    SugOK K heads P seen (sugarsOf mdb) := by
  intro mdb
  induction mdb with
  | nil => intro _ _ _ _ _; trivial
  | cons st r ih =>
    intro cs seen h hcs hP
    unfold sugarShape at h
    cases hs : sugarOf st with
    | some sg =>
      obtain ⟨l, n, args, body⟩ := sg
      rw [hs] at h
      simp only [Bool.and_eq_true] at h
      obtain ⟨⟨h1, h2⟩, h3⟩ := h
      have hsug : sugarsOf (st :: r) = (l, n, args, body) :: sugarsOf r := by simp [sugarsOf, List.filterMap_cons, hs]
      have hpairs : ctorPairs (st :: r) = ctorPairs r := by
        simp [ctorPairs, List.filterMap_cons, ctorHeadOf_sugar (st := st) (by simp [isSugar, hs])]
      rw [hpairs] at hP
      rw [hsug]
      refine ⟨?_, ?_, ih cs _ h3 hcs hP⟩
      · cases hm : mvNames args with
        | none => simp [hm] at h1
        | some vs =>
          simp only [hm, Bool.and_eq_true, beq_iff_eq] at h1
          obtain ⟨q, hq, hq2⟩ := List.map_eq_singleton_iff.mp h1.1
          have hqm : q ∈ cs.filter (·.1 == n) := by rw [hq]; simp
          obtain ⟨hqcs, hqn⟩ := List.mem_filter.mp hqm
          have : q = (n, vs) := by
            have : q.1 = n := by simpa using hqn
            rw [← this, ← hq2]
          exact ⟨vs, rfl, hcs _ (this ▸ hqcs), h1.2⟩
      · intro hd hhd
        have := (List.all_eq_true.mp h2) hd hhd
        simpa using this
    | none =>
      rw [hs] at h
      have hsug : sugarsOf (st :: r) = sugarsOf r := by simp [sugarsOf, List.filterMap_cons, hs]
      rw [hsug]
      cases hc : ctorHeadOf st with
      | some p =>
        obtain ⟨s, args⟩ := p
        rw [hc] at h
        have hpairs : ctorPairs (st :: r) = (s, (mvNames args).getD []) :: ctorPairs r := by
          simp [ctorPairs, List.filterMap_cons, hc]
        rw [hpairs] at hP
        refine ih _ seen h ?_ (fun p hp => hP p (by simp [hp]))
        intro p hp
        rcases List.mem_append.mp hp with hp | hp
        · exact hcs p hp
        · simp only [List.mem_singleton] at hp
          subst hp
          exact hP _ (by simp)
      | none =>
        rw [hc] at h
        have hpairs : ctorPairs (st :: r) = ctorPairs r := by simp [ctorPairs, List.filterMap_cons, hc]
        rw [hpairs] at hP
        exact ih cs seen h hcs hP

/-! ## the symbols of a translated term -/
theorem syms_of_termOf (nm : Names) :
    (∀ t T, termOf nm t = some T → ∀ s ∈ T.syms, ∃ h ∈ headsOf t, h ∈ nm.consts ∧ s = nm.consts.idxOf h) ∧
    ∀ ts Ts, termsOf nm ts = some Ts → ∀ s ∈ Term.symsList Ts, ∃ h ∈ headsOfL ts, h ∈ nm.consts ∧ s = nm.consts.idxOf h := by
  have two : ∀ hd a b A B, (∀ s ∈ Term.syms A, ∃ h ∈ headsOf a, h ∈ nm.consts ∧ s = nm.consts.idxOf h) →
      (∀ s ∈ Term.syms B, ∃ h ∈ headsOf b, h ∈ nm.consts ∧ s = nm.consts.idxOf h) →
      ∀ s ∈ Term.syms A ++ Term.syms B, ∃ h ∈ headsOf (.app hd [a, b]), h ∈ nm.consts ∧ s = nm.consts.idxOf h := by
    intro hd a b A B ha hb s hs
    rcases List.mem_append.mp hs with hs | hs
    · obtain ⟨h, hh, hK⟩ := ha s hs
      exact ⟨h, by simp [headsOf, headsOfL, hh], hK⟩
    · obtain ⟨h, hh, hK⟩ := hb s hs
      exact ⟨h, by simp [headsOf, headsOfL, hh], hK⟩
  refine termOf_induct nm ?_ (two _) (two _) ?_ ?_ ?_
  · intro v _ s hs
    simp [Term.syms] at hs
  · intro s args Ts _ _ hK hq s' hs'
    rcases List.mem_cons.mp (by simpa only [Term.syms] using hs') with rfl | hs'
    · exact ⟨s, by simp [headsOf], hK, rfl⟩
    · obtain ⟨h, hh, hK'⟩ := hq s' hs'
      exact ⟨h, by simp [headsOf, hh], hK'⟩
  · intro s hs
    simp [Term.symsList] at hs
  · intro t ts T Ts _ hp hq s hs
    rcases List.mem_append.mp (by simpa only [Term.symsList] using hs) with hs | hs
    · obtain ⟨h, hh, hK⟩ := hp s hs
      exact ⟨h, by simp [headsOfL, hh], hK⟩
    · obtain ⟨h, hh, hK⟩ := hq s hs
      exact ⟨h, by simp [headsOfL, hh], hK⟩

theorem symsList_of_termsOf (nm : Names) : (ts : List MTerm) → (Ts : List MM.Term) → termsOf nm ts = some Ts →
    ∀ s ∈ Term.symsList Ts, ∃ h ∈ headsOfL ts, h ∈ nm.consts ∧ s = nm.consts.idxOf h :=
  (syms_of_termOf nm).2

/-! ## the translated `#Notation` statements -/
section
variable (nm : Names) (fs heads : List String) (L : List (String × List MTerm))
  (hfsV : ∀ v ∈ fs, v ∈ nm.vars) (hres : ∀ v ∈ fs, reserved v = false)
  (hL : ∀ p ∈ L, ∃ vs, mvNames p.2 = some vs ∧ (∀ v ∈ vs, v ∈ fs) ∧ (plainP p = true → p.1 ∈ nm.consts ∧ reserved p.1 = false))
  (hplain : ∀ n ∈ heads, n ≠ "\\imp" ∧ n ≠ "\\app")
include hfsV hres hL hplain

theorem entries_of_sugOK : ∀ (sgs : List Sugar) (seen : List String),
    SugOK nm.consts heads (L.map fun p => (p.1, (mvNames p.2).getD [])) seen sgs → (∀ sg ∈ sgs, sg.2.1 ∈ heads) →
    ∃ es, sgs.mapM (sugarEntry nm) = some es ∧ es.map (·.1) = (sgs.map (·.2.1)).map nm.consts.idxOf ∧
      (∀ e ∈ es, ∃ p ∈ L, plainP p = true ∧ p.1 ∈ heads ∧ (toC nm p).sym = e.1 ∧ (toC nm p).args = e.2.1) ∧
      (∀ e ∈ es, ∀ v ∈ e.2.2.vars, v ∈ e.2.1) ∧
      SymsOK (heads.map nm.consts.idxOf) (seen.map nm.consts.idxOf) (es.map fun e => (e.1, e.2.2)) := by
  intro sgs
  induction sgs with
  | nil => intro seen _ _; exact ⟨[], rfl, rfl, by simp, by simp, trivial⟩
  | cons sg sgs ih =>
    intro seen hok hheads
    obtain ⟨l, n, args, body⟩ := sg
    obtain ⟨⟨vs, hvs, hP, hts⟩, hhd, hrest⟩ := hok
    simp only at hvs hP hts hhd hrest
    have hnh : n ∈ heads := hheads (l, n, args, body) (by simp)
    obtain ⟨es, hes, hkeys, hents, hvars, hsyms⟩ := ih (seen ++ [n]) hrest (fun sg hsg => hheads sg (by simp [hsg]))
    obtain ⟨p, hpL, hpe⟩ := List.mem_map.mp hP
    simp only [Prod.mk.injEq] at hpe
    obtain ⟨hp1, hp2⟩ := hpe
    obtain ⟨vs', hvs', hvfs, hpl⟩ := hL p hpL
    have hpp : plainP p = true := by
      have := hplain n hnh
      simp [plainP, hp1, this.1, this.2]
    obtain ⟨hnK, hnres⟩ := hpl hpp
    rw [hp1] at hnK
    rw [hvs', Option.getD_some] at hp2
    subst hp2
    have hvV : ∀ v ∈ vs', v ∈ nm.vars := fun v hv => hfsV v (hvfs v hv)
    have hvR : ∀ v ∈ vs', reserved v = false := fun v hv => hres v (hvfs v hv)
    have hargs := mvNames_spec args vs' hvs
    obtain ⟨b, hb⟩ := termOf_of_shape nm vs' hvV body hts
    have hentry : sugarEntry nm (l, n, args, body) = some (nm.consts.idxOf n, vs'.map nm.vars.idxOf, b) := by
      have hmm : (vs'.map fun v => MM.Term.var (nm.vars.idxOf v)) = (vs'.map nm.vars.idxOf).map .var := by
        rw [List.map_map]; rfl
      simp only [sugarEntry, Names.con?, List.contains_eq_mem, hnK, decide_true, if_true, hargs, termsOf_mvs nm vs' hvV, hmm,
        asVars_vars, hb, Option.bind_eq_bind, Option.bind_some, Option.pure_def]
    refine ⟨(nm.consts.idxOf n, vs'.map nm.vars.idxOf, b) :: es, ?_, ?_, ?_, ?_, ?_⟩
    · exact (mapM_cons_some _ _ _ _).mpr ⟨_, es, hentry, hes, rfl⟩
    · simp [hkeys]
    · intro e he
      rcases List.mem_cons.mp he with rfl | he
      · exact ⟨p, hpL, hpp, hp1 ▸ hnh, by simp [toC, hp1], by simp [toC, hvs']⟩
      · exact hents e he
    · intro e he
      rcases List.mem_cons.mp he with rfl | he
      · intro v hv
        obtain ⟨e1, _⟩ := (vars_of_termOf nm).1 body b hb
        obtain ⟨_, hm⟩ := wfT_of_shape nm.consts vs' hvR body hts
        simp only at hv ⊢
        rw [e1] at hv
        obtain ⟨w, hw, rfl⟩ := List.mem_map.mp hv
        exact List.mem_map.mpr ⟨w, hm w hw, rfl⟩
      · exact hvars e he
    · simp only [List.map_cons]
      refine ⟨?_, by simpa using hsyms⟩
      intro s hs
      obtain ⟨h', hh', hK, rfl⟩ := (syms_of_termOf nm).1 body b hb s hs
      rcases hhd h' hh' with hsn | hnot
      · exact Or.inl (List.mem_map.mpr ⟨h', hsn, rfl⟩)
      · right
        intro hm
        obtain ⟨h'', hh'', he⟩ := List.mem_map.mp hm
        have := str_idxOf_inj nm.consts h' h'' hK he.symm
        exact hnot (this ▸ hh'')

end

/-! ## positions -/
theorem filter_map_idxOf (K A B : List String) (hA : ∀ a ∈ A, a ∈ K) :
    (A.map K.idxOf).filter (B.map K.idxOf).contains = (A.filter B.contains).map K.idxOf := by
  rw [List.filter_map]
  congr 1
  apply List.filter_congr
  intro a ha
  simp only [Function.comp, List.contains_eq_mem]
  by_cases hb : a ∈ B
  · have : K.idxOf a ∈ B.map K.idxOf := List.mem_map.mpr ⟨a, hb, rfl⟩
    simp [hb, this]
  · have : K.idxOf a ∉ B.map K.idxOf := by
      intro hm
      obtain ⟨b, hbB, he⟩ := List.mem_map.mp hm
      have := str_idxOf_inj K a b (hA a ha) he.symm
      exact hb (this ▸ hbB)
    simp [hb, this]

theorem wf0_ctors (db : DB) (f : Ctor → Ctor) (hf : ∀ k, (f k).args = k.args) :
    ({ db with ctors := db.ctors.map f } : DB).wf0 = db.wf0 := by
  unfold DB.wf0
  simp only [List.all_map, Function.comp_def, hf]

/-- **`dbOfMDb` on a database of the shape**: the core specification of the database without its `#Notation` statements, with a
constructor table that differs in the bodies only; the database is well formed -/
theorem spec_wf (mdb : MDb) (target : String) (h : FragmentShape mdb target = true) :
    ∃ sp0 db, dbOfCore (coreOf mdb) target = some sp0 ∧ Coherent (coreOf mdb) target sp0 ∧
      dbOfMDb mdb target = some { sp0 with db := db } ∧
      (∃ f : Ctor → Ctor, (∀ k, (f k).sym = k.sym ∧ (f k).args = k.args) ∧ db = { sp0.db with ctors := sp0.db.ctors.map f }) ∧
      db.wf = true := by
  have hp : headsPlain mdb = true := headsPlain_of_fragmentShape h
  simp only [FragmentShape, Bool.and_eq_true, decide_eq_true_eq, List.all_eq_true, beq_iff_eq] at h
  obtain ⟨⟨⟨⟨⟨⟨⟨hcore, _⟩, hhnd⟩, hcount⟩, hordS⟩, hsug⟩, _⟩, _⟩ := h
  obtain ⟨sp, hsp, hcoh, hwf⟩ := coherence (coreOf mdb) target hcore
  have S := shaped_of hcore
  obtain ⟨hnm, hct, hbodies⟩ := ctors_of_core hcore hsp
  rw [namesOf_coreOf] at hnm
  rw [ctorHeads_coreOf, namesOf_coreOf] at hct
  have hLf := ctorHead_facts S
  rw [ctorHeads_coreOf, constsOf_coreOf] at hLf
  generalize hLdef : mdb.filterMap ctorHeadOf = L at hct hLf hcount hordS
  generalize hfsdef : (floatsOf (coreOf mdb)).map (·.2) = fs at hLf
  have hfsV : ∀ v ∈ fs, v ∈ (namesOf mdb).vars := by
    intro v hv
    have := fs_declared S v (hfsdef ▸ hv)
    rwa [namesOf_coreOf] at this
  have hres : ∀ v ∈ fs, reserved v = false := fun v hv => fs_unreserved S v (hfsdef ▸ hv)
  have hplain : ∀ n ∈ (sugarsOf mdb).map (·.2.1), n ≠ "\\imp" ∧ n ≠ "\\app" := by
    intro n hn
    obtain ⟨sg, hsg, rfl⟩ := List.mem_map.mp hn
    have := (List.all_eq_true.mp hp) sg hsg
    simpa using this
  have hsok := sugOK_of_shape (constsOf mdb) ((sugarsOf mdb).map (·.2.1)) (ctorPairs mdb) mdb [] [] hsug (by simp) (fun p hp => hp)
  rw [ctorPairs, hLdef] at hsok
  obtain ⟨es, hes, hkeys, hents, hvars, hsyms⟩ := entries_of_sugOK (namesOf mdb) fs _ L hfsV hres hLf hplain (sugarsOf mdb) [] hsok
    (fun sg hsg => List.mem_map.mpr ⟨sg, hsg, rfl⟩)
  generalize hheads : (sugarsOf mdb).map (·.2.1) = heads at *
  generalize hK : (namesOf mdb).consts = K at *
  have hKc : constsOf mdb = K := hK
  -- the constructor table
  have hLpK : ∀ p ∈ L.filter plainP, p.1 ∈ K := by
    intro p hp
    obtain ⟨hpL, hpp⟩ := List.mem_filter.mp hp
    obtain ⟨_, _, _, hh⟩ := hLf p hpL
    exact hKc ▸ (hh hpp).1
  have hheadsK : ∀ n ∈ heads, n ∈ K ∧ (L.filter (·.1 == n)).length = 1 := by
    intro n hn
    have hc := hcount n hn
    rw [List.filter_map, List.length_map] at hc
    have hc' : (L.filter (·.1 == n)).length = 1 := hc
    refine ⟨?_, hc'⟩
    obtain ⟨q, hq⟩ := List.length_eq_one_iff.mp hc'
    have hqm : q ∈ L.filter (·.1 == n) := by rw [hq]; simp
    obtain ⟨hqL, hqn⟩ := List.mem_filter.mp hqm
    have hqn' : q.1 = n := by simpa using hqn
    have hqp : plainP q = true := by
      have := hplain n hn
      simp [plainP, hqn', this.1, this.2]
    exact hqn' ▸ hLpK q (List.mem_filter.mpr ⟨hqL, hqp⟩)
  have hfilt : ∀ n ∈ heads, sp.db.ctors.filter (·.sym == K.idxOf n) = (L.filter (·.1 == n)).map (toC (namesOf mdb)) := by
    intro n hn
    rw [hct, List.filter_map, List.filter_filter]
    congr 1
    apply List.filter_congr
    intro p hpL
    simp only [Function.comp, toC, hK]
    by_cases hpn : p.1 = n
    · have := hplain n hn
      simp [hpn, plainP, this.1, this.2]
    · have hb : (p.1 == n) = false := by simpa using hpn
      rw [hb]
      by_cases hpp : plainP p = true
      · have hpK := hLpK p (List.mem_filter.mpr ⟨hpL, hpp⟩)
        have : K.idxOf p.1 ≠ K.idxOf n := idx_ne K _ _ hpK hpn
        simp [this]
      · simp [hpp]
  have hone : ∀ e ∈ es, ∃ k, sp.db.ctors.filter (·.sym == e.1) = [k] ∧ k.args = e.2.1 ∧ k.body = none := by
    intro e he
    obtain ⟨p, hpL, hpp, hph, hs, ha⟩ := hents e he
    obtain ⟨_, hlen⟩ := hheadsK p.1 hph
    have hf := hfilt p.1 hph
    have hsym : e.1 = K.idxOf p.1 := by rw [← hs]; simp [toC, hK]
    rw [← hsym] at hf
    obtain ⟨q, hq⟩ := List.length_eq_one_iff.mp hlen
    have hpm : p ∈ L.filter (·.1 == p.1) := List.mem_filter.mpr ⟨hpL, by simp⟩
    rw [hq] at hpm
    simp only [List.mem_singleton] at hpm
    subst hpm
    rw [hq] at hf
    exact ⟨toC (namesOf mdb) p, hf, ha, rfl⟩
  have hkeys' : es.map (·.1) = heads.map K.idxOf := hkeys
  have hnd : (es.map (·.1)).Nodup := by
    rw [hkeys']
    exact nodup_map_idxOf K heads hhnd (fun n hn => (hheadsK n hn).1)
  have hatt := attachAll_spec (namesOf mdb) (sugarsOf mdb) es sp.db hes hnd hone
  generalize hN : (es.map fun e => (e.1, e.2.2)) = N at hatt hsyms
  have hNk : N.map (·.1) = heads.map K.idxOf := by
    rw [← hN, List.map_map, ← hkeys']
    rfl
  refine ⟨sp, { sp.db with ctors := sp.db.ctors.map (dress1 N) }, hsp, hcoh, ?_, ⟨dress1 N, fun k => ⟨dress1_sym N k, dress1_args N k⟩, rfl⟩, ?_⟩
  · unfold dbOfMDb
    rw [hsp]
    simp only [Option.bind_eq_bind, Option.bind_some, hnm, hatt, Option.pure_def]
  · unfold DB.wf
    rw [wf0_ctors _ _ (dress1_args N)]
    have hwf0 : sp.db.wf0 = true := by
      unfold DB.wf at hwf
      simp only [Bool.and_eq_true] at hwf
      exact hwf.1
    rw [hwf0, Bool.true_and]
    apply notOk_dress _ sp.db.ctors N rfl hbodies (by rw [hNk, ← hkeys']; exact hnd)
    · intro p hpN
      rw [← hN] at hpN
      obtain ⟨e, he, rfl⟩ := List.mem_map.mp hpN
      obtain ⟨k, hk, _, _⟩ := hone e he
      simp only [hk, List.length_singleton]
    · rw [hNk, hct]
      have : ((L.filter plainP).map (toC (namesOf mdb))).map (·.sym) = ((L.filter plainP).map (·.1)).map K.idxOf := by
        simp only [List.map_map]
        apply List.map_congr_left
        intro p _
        simp [toC, hK]
      rw [this, filter_map_idxOf K _ heads (by
        intro a ha
        obtain ⟨p, hp, rfl⟩ := List.mem_map.mp ha
        exact hLpK p hp)]
      congr 1
      have h2 : (L.filter plainP).map (·.1) = (L.map (·.1)).filter fun s => !(s == "\\imp" || s == "\\app") := by
        rw [List.filter_map]
        rfl
      rw [h2, List.filter_filter]
      refine Eq.trans ?_ hordS
      apply List.filter_congr
      intro s _
      by_cases hs : s ∈ heads
      · have := hplain s hs
        simp [hs, this.1, this.2]
      · simp [hs]
    · intro p hpN k hk hks v hv
      rw [← hN] at hpN
      obtain ⟨e, he, rfl⟩ := List.mem_map.mp hpN
      obtain ⟨k0, hk0, hargs, _⟩ := hone e he
      have : k ∈ sp.db.ctors.filter (·.sym == e.1) := List.mem_filter.mpr ⟨hk, by simpa using hks⟩
      rw [hk0] at this
      simp only [List.mem_singleton] at this
      subst this
      rw [hargs]
      exact hvars e he v hv
    · rw [hNk]
      simpa using hsyms

end ConvCoh
