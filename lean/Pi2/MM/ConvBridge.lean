import Pi2.MM.ConvTie
import Pi2.XProofTie
/-!
# From the converter's strings to the model's numbers: `patOf` is `image ∘ termOf`, `$f` order is `mandOf`
-/
set_option linter.unusedSimpArgs false
set_option linter.unusedVariables false
set_option linter.unusedSectionVars false
open MM SliceSup ConvSup Gen.MMConv

namespace ConvTie
open ConvSpec

theorem str_idxOf_inj (V : List String) (a b : String) (ha : a ∈ V) (h : V.idxOf a = V.idxOf b) : a = b := by
  have hlt := List.idxOf_lt_length_of_mem ha
  have e1 := List.getElem_idxOf hlt
  simp only [h] at e1
  exact e1.symm.trans (List.getElem_idxOf (h ▸ hlt))

/-- numbering the variables commutes with positions in a list of variables -/
theorem idxOf_map_idx (V : List String) (v : String) : ∀ (l : List String), (∀ x ∈ l, x ∈ V) →
    (l.map V.idxOf).idxOf (V.idxOf v) = l.idxOf v
  | [], _ => rfl
  | x :: l, hl => by
    have : (V.idxOf x == V.idxOf v) = (x == v) := by
      rw [Bool.eq_iff_iff, beq_iff_eq, beq_iff_eq]
      exact ⟨str_idxOf_inj V x v (hl x (by simp)), (· ▸ rfl)⟩
    simp only [List.map_cons, List.idxOf_cons, this, idxOf_map_idx V v l fun y hy => hl y (by simp [hy])]

theorem imageApp_foldl (db : DB) : ∀ (xs : List MM.Term) (acc : NPat),
    imageApp db acc xs = (xs.map (image db)).foldl (fun a p => NPat.app a p) acc
  | [], _ => imageApp_nil db _
  | x :: xs, acc => by simp only [imageApp_cons, List.map_cons, List.foldl_cons, imageApp_foldl db xs]

theorem termsOf_cons_some (nm : Names) (t : MTerm) (ts : List MTerm) (Ts : List MM.Term) :
    termsOf nm (t :: ts) = some Ts ↔ ∃ T Ts', termOf nm t = some T ∧ termsOf nm ts = some Ts' ∧ Ts = T :: Ts' := by
  simp only [termsOf, Option.bind_eq_bind, Option.pure_def, Option.bind_eq_some_iff, Option.some.injEq]
  constructor
  · rintro ⟨T, hT, Ts', hTs', rfl⟩; exact ⟨T, Ts', hT, hTs', rfl⟩
  · rintro ⟨T, Ts', hT, hTs', rfl⟩; exact ⟨T, hT, Ts', hTs', rfl⟩

section
variable (nm : Names) {P : MTerm → MM.Term → Prop} {Q : List MTerm → List MM.Term → Prop}
  (mv : ∀ v, v ∈ nm.vars → P (.mv v) (.var (nm.vars.idxOf v)))
  (imp : ∀ a b A B, P a A → P b B → P (.app "\\imp" [a, b]) (.imp A B))
  (app : ∀ a b A B, P a A → P b B → P (.app "\\app" [a, b]) (.app A B))
  (con : ∀ s args Ts, s ≠ "\\imp" → s ≠ "\\app" → s ∈ nm.consts → Q args Ts → P (.app s args) (.con (nm.consts.idxOf s) Ts))
  (nil : Q [] [])
  (cons : ∀ t ts T Ts, termOf nm t = some T → P t T → Q ts Ts → Q (t :: ts) (T :: Ts))
include mv imp app con nil cons

/-- Induction over the pairs (term, its translation): the four ways `termOf nm t = some T` comes about, and the two for `termsOf`.
The facts below about translated terms are instances. -/
theorem termOf_induct :
    (∀ t T, termOf nm t = some T → P t T) ∧ ∀ ts Ts, termsOf nm ts = some Ts → Q ts Ts := by
  have two : ∀ (a b : MTerm) (f : MM.Term → MM.Term → MM.Term) (T : MM.Term),
      (do pure (f (← termOf nm a) (← termOf nm b))) = some T → ∃ A B, termOf nm a = some A ∧ termOf nm b = some B ∧ T = f A B := by
    intro a b f T h
    simp only [Option.bind_eq_bind, Option.pure_def, Option.bind_eq_some_iff, Option.some.injEq] at h
    obtain ⟨A, hA, B, hB, rfl⟩ := h
    exact ⟨A, B, hA, hB, rfl⟩
  apply termOf.mutual_induct (motive_1 := fun t => ∀ T, termOf nm t = some T → P t T)
    (motive_2 := fun ts => ∀ Ts, termsOf nm ts = some Ts → Q ts Ts)
  · intro v T h
    simp only [termOf, Names.var?, Option.map_eq_some_iff] at h
    obtain ⟨n, hn, rfl⟩ := h
    split at hn
    · rename_i hv
      cases hn
      exact mv v (by simpa using hv)
    · cases hn
  · intro a b iha ihb T h
    simp only [termOf, if_true] at h
    obtain ⟨A, B, hA, hB, rfl⟩ := two a b _ T h
    exact imp a b A B (iha A hA) (ihb B hB)
  · intro args hne T h
    unfold termOf at h
    rw [if_pos rfl] at h
    split at h
    · exact (hne _ _ rfl).elim
    · cases h
  · intro a b hn iha ihb T h
    simp only [termOf, hn, if_false, if_true] at h
    obtain ⟨A, B, hA, hB, rfl⟩ := two a b _ T h
    exact app a b A B (iha A hA) (ihb B hB)
  · intro args hne hn T h
    unfold termOf at h
    rw [if_neg hn, if_pos rfl] at h
    split at h
    · exact (hne _ _ rfl).elim
    · cases h
  · intro s args h1 h2 h3 T h
    unfold termOf at h
    rw [if_neg h1, if_neg h2, if_pos h3] at h
    cases h
  · intro s args h1 h2 h3 ih T h
    unfold termOf at h
    rw [if_neg h1, if_neg h2, if_neg h3] at h
    simp only [Names.con?, Option.bind_eq_bind, Option.pure_def, Option.bind_eq_some_iff, Option.some.injEq] at h
    obtain ⟨c, hc, Ts, hTs, rfl⟩ := h
    split at hc
    · rename_i hK
      cases hc
      exact con s args Ts h1 h2 (by simpa using hK) (ih Ts hTs)
    · cases hc
  · intro Ts h
    cases h
    exact nil
  · intro t ts iht ihts Ts h
    obtain ⟨T, Ts', hT, hTs', rfl⟩ := (termsOf_cons_some nm t ts Ts).mp h
    exact cons t ts T Ts' hT (iht T hT) (ihts Ts' hTs')
end

/-- the numbering context: `fs` = the variables with a `$f` statement (names), all declared; the model's floats are their numbers;
the model database declares no notation (`dbOfCore` produces none) -/
structure Numbering (nm : Names) (fs : List String) (db : DB) : Prop where
  declared : ∀ x ∈ fs, x ∈ nm.vars
  floats : db.floats = fs.map nm.vars.idxOf
  plain : ∀ c ∈ db.ctors, c.body = none

theorem Numbering.mvId {nm : Names} {fs : List String} {db : DB} (h : Numbering nm fs db) (v : String) :
    db.mvId (nm.vars.idxOf v) = fs.idxOf v := by
  simp only [DB.mvId, h.floats, idxOf_map_idx nm.vars v fs h.declared]

theorem patOf_image (nm : Names) (fs : List String) (db : DB) (h : Numbering nm fs db) (t : MTerm) (T : MM.Term)
    (ht : termOf nm t = some T) : patOf nm.consts.idxOf (valOf fs) t = image db T := by
  refine (termOf_induct nm (P := fun t T => patOf nm.consts.idxOf (valOf fs) t = image db T)
    (Q := fun ts Ts => patsOf nm.consts.idxOf (valOf fs) ts = Ts.map (image db)) ?_ ?_ ?_ ?_ rfl ?_).1 t T ht
  · intro v _
    simp only [patOf, valOf, image_var, h.mvId]
    rfl
  · intro a b A B ha hb
    simp only [patOf, patsOf, if_true, image_imp, ha, hb]
  · intro a b A B ha hb
    have hne : ("\\app" : String) ≠ "\\imp" := by decide
    simp only [patOf, patsOf, hne, if_false, if_true, image_app, ha, hb]
  · intro s args Ts h1 h2 _ hq
    simp only [patOf, h1, h2, if_false, image_con_plain db h.plain, imageApp_foldl, hq]
  · intro t ts T Ts _ hp hq
    simp only [patsOf, List.map_cons, hp, hq]

theorem patsOf_image (nm : Names) (fs : List String) (db : DB) (h : Numbering nm fs db) : ∀ (ts : List MTerm) (Ts : List MM.Term),
    termsOf nm ts = some Ts → ts.map (patOf nm.consts.idxOf (valOf fs)) = Ts.map (image db)
  | [], Ts, hts => by cases hts; rfl
  | t :: ts, Ts, hts => by
    obtain ⟨T, Ts', hT, hTs', rfl⟩ := (termsOf_cons_some nm t ts Ts).mp hts
    simp only [List.map_cons, patOf_image nm fs db h t T hT, patsOf_image nm fs db h ts Ts' hTs']

/-- the variables of a translated term are the numbers of the term's variables, which are declared; and `termsOf` translates
position by position -/
theorem vars_of_termOf (nm : Names) :
    (∀ t T, termOf nm t = some T → Term.vars T = (termMvs t).map nm.vars.idxOf ∧ ∀ v ∈ termMvs t, v ∈ nm.vars) ∧
    ∀ ts Ts, termsOf nm ts = some Ts →
      Term.varsList Ts = (termsMvs ts).map nm.vars.idxOf ∧ (∀ v ∈ termsMvs ts, v ∈ nm.vars) ∧ Ts.length = ts.length ∧
        ∀ i (h : i < ts.length) (h' : i < Ts.length), termOf nm ts[i] = some Ts[i] := by
  have two : ∀ s a b A B, (Term.vars A = (termMvs a).map nm.vars.idxOf ∧ ∀ v ∈ termMvs a, v ∈ nm.vars) →
      (Term.vars B = (termMvs b).map nm.vars.idxOf ∧ ∀ v ∈ termMvs b, v ∈ nm.vars) →
      Term.vars A ++ Term.vars B = (termMvs (.app s [a, b])).map nm.vars.idxOf ∧ ∀ v ∈ termMvs (.app s [a, b]), v ∈ nm.vars := by
    intro s a b A B ⟨e1, m1⟩ ⟨e2, m2⟩
    simp only [termMvs, termsMvs, List.append_nil, List.map_append, e1, e2, List.mem_append, or_imp, forall_and, true_and]
    exact ⟨m1, m2⟩
  refine termOf_induct nm ?_ (two _) (two _) ?_ ?_ ?_
  · exact fun v hv => ⟨rfl, by simpa [termMvs] using hv⟩
  · exact fun s args Ts _ _ _ hq => ⟨hq.1, hq.2.1⟩
  · exact ⟨rfl, by simp [termsMvs], rfl, by intro i h; simp at h⟩
  · intro t ts T Ts hT ⟨e1, m1⟩ ⟨e2, m2, l2, g2⟩
    refine ⟨by simp [Term.varsList, termsMvs, e1, e2], ?_, by simp [l2], ?_⟩
    · simpa only [termsMvs, List.mem_append, or_imp, forall_and] using ⟨m1, m2⟩
    · intro i h h'
      cases i with
      | zero => exact hT
      | succ i => exact g2 i (by simpa using h) (by simpa using h')

theorem varsList_of_termsOf (nm : Names) : ∀ (ts : List MTerm) (Ts : List MM.Term), termsOf nm ts = some Ts →
    Term.varsList Ts = (termsMvs ts).map nm.vars.idxOf ∧ (∀ v ∈ termsMvs ts, v ∈ nm.vars) ∧ Ts.length = ts.length ∧
      ∀ i (h : i < ts.length) (h' : i < Ts.length), termOf nm ts[i] = some Ts[i] :=
  (vars_of_termOf nm).2

/-- the statement's variables in `$f` order, numbered, are the model's mandatory variables -/
theorem mandOf_eq (nm : Names) (fs : List String) (db : DB) (h : Numbering nm fs db) (ts : List MTerm) (Ts : List MM.Term)
    (hts : termsOf nm ts = some Ts) :
    db.mandOf Ts = (fs.filter fun v => (termsMvs ts).contains v).map nm.vars.idxOf := by
  obtain ⟨hv, hmem, _, _⟩ := varsList_of_termsOf nm ts Ts hts
  simp only [DB.mandOf, h.floats, hv, List.filter_map]
  congr 1
  apply List.filter_congr
  intro v hvfs
  simp only [Function.comp, List.contains_eq_mem, List.mem_map, decide_eq_decide]
  exact ⟨fun ⟨w, hw, e⟩ => str_idxOf_inj nm.vars w v (hmem w hw) e ▸ hw, fun hin => ⟨v, hin, rfl⟩⟩

/-! ## coherence of the specification's output with the statements (decidable, evaluated by the driver on every database) -/
def isPC : Lbl → Bool | .impC | .appC | .ctor _ => true | _ => false
def isPR : Lbl → Bool | .p1 | .p2 | .mp => true | _ => false
def isRuleL : Lbl → Bool | .rule _ => true | _ => false

theorem ofDB_pc (db : DB) (goal : MM.Term) (l : Lbl) : (XProofTie.ofDB db goal).isPatternConstructor l = isPC l := by cases l <;> rfl
theorem ofDB_pr (db : DB) (goal : MM.Term) (l : Lbl) : (XProofTie.ofDB db goal).isProofRule l = isPR l := by cases l <;> rfl
theorem ofDB_ex (db : DB) (goal : MM.Term) (l : Lbl) : (XProofTie.ofDB db goal).isExportedAxiom l = isRuleL l := by cases l <;> rfl

/-- the hypotheses of an assertion are the theorems `|- H` for the terms `Hs` -/
def hypsAre : List Stmt → List MM.Term → Bool
  | [], [] => true
  | h :: hs, H :: Hs => h.thm && Term.beq h.term H && hypsAre hs Hs
  | _, _ => false

theorem hypsAre_eq : ∀ (hs : List Stmt) (Hs : List MM.Term), hypsAre hs Hs = true → hs = Hs.map (⟨true, ·⟩)
  | [], [], _ => rfl
  | ⟨thm, term⟩ :: hs, H :: Hs, h => by
    simp only [hypsAre, Bool.and_eq_true] at h
    obtain ⟨⟨rfl, e⟩, h⟩ := h
    rw [Term.beq_eq _ _ e, hypsAre_eq hs Hs h]
    rfl

/-- the model database gives the label of the statement `l: tc t` (with hypotheses `eh`) the `Lbl` of the right kind, and to that
`Lbl` the assertion the statement itself states -/
def coherentItem (sp : Spec) (st : MStmt) : Bool :=
  match axParts st with
  | some (_, eh, l, tcs, t) =>
    match sp.table.lookup l, termOf sp.names t, termsOf sp.names (eh.map (·.2)) with
    | some lbl, some T, some Hs =>
      (match sp.db.assertion lbl with
       | some A => decide (A.mand = sp.db.mandOf (Hs ++ [T])) && hypsAre A.hyps Hs && (A.concl.thm == (tcs == "|-")) &&
           Term.beq A.concl.term T
       | none => false) &&
      (isPC lbl == (tcs == "#Pattern")) && (isPR lbl == (tcs != "#Pattern" && strStartsWith l "proof-rule-")) &&
      (isRuleL lbl == (tcs != "#Pattern" && !strStartsWith l "proof-rule-"))
    | _, _, _ => false
  | none => false

def coherentFloats0 (sp : Spec) (mdb : MDb) : Bool :=
  ((floatPairs mdb).all fun p => sp.names.vars.contains p.2 && decide (sp.table.lookup p.1 = some (Lbl.float (sp.names.vars.idxOf p.2)))) &&
  decide (sp.db.floats = ((floatPairs mdb).map (·.2)).map sp.names.vars.idxOf)

/-- the `$f` statements; and the model database declares no notation (`dbOfCore` never produces one: `Ctor.body = none`) -/
def coherentFloats (sp : Spec) (mdb : MDb) : Bool :=
  coherentFloats0 sp mdb && sp.db.ctors.all (·.body.isNone)

def coherentGoal (sp : Spec) (mdb : MDb) : Bool :=
  match lemmaOf mdb with
  | some (_, t, _) => (match termOf sp.names t with | some T => Term.beq T sp.goal | none => false)
  | none => false

/-- the decoded proof of the target (`_import_proof`: keys `1..k`, the labels of the mandatory `$f` hypotheses by their conventional
names `<v>-is-pattern` and then the cited labels; the step numbers) is the specification's label list and steps -/
def proofAgrees (sp : Spec) (pf : Gen.ImportProof.Proof) : Bool :=
  decide (pf.labels.map (·.1) = (List.range pf.labels.length).map (· + 1)) &&
  decide ((pf.labels.mapM fun p => sp.table.lookup (String.ofList p.2)) = some sp.labels) &&
  decide (pf.applied_lemmas = sp.steps)

def coherentProof (sp : Spec) (mdb : MDb) : Bool :=
  match lemmaOf mdb with
  | some (l, t, prf) =>
      (match callImportProof ((floatPairs mdb).map (·.2)) (.prov l [.app "|-" [], t] prf) with
       | .ok pf => proofAgrees sp pf
       | _ => false)
  | none => false

/-- the supported fragment -/
def InFragment (mdb : MDb) (target : String) : Bool :=
  InFragmentM mdb (dbFuel mdb) target &&
  match dbOfCore mdb target with
  | some sp => (mdb.filter isAxItem).all (coherentItem sp) && coherentFloats sp mdb && coherentGoal sp mdb && coherentProof sp mdb && sp.db.wf
  | none => false

theorem termsOf_append (nm : Names) : ∀ (as : List MTerm) (As : List MM.Term) (b : MTerm) (B : MM.Term), termsOf nm as = some As →
    termOf nm b = some B → termsOf nm (as ++ [b]) = some (As ++ [B])
  | [], As, b, B, h, hb => by cases h; simp [termsOf, hb]
  | a :: as, As, b, B, h, hb => by
    obtain ⟨A, As', hA, hAs', rfl⟩ := (termsOf_cons_some nm a as As).mp h
    simp [termsOf, hA, termsOf_append nm as As' b B hAs' hb]

/-- how the converter's `Axiom` object and metavariable order for a label relate to the model's answers for an `Lbl` -/
structure AgreeAxiom (σ : String → Nat) (fuel : Nat) (c : ConvObj) (nm : Names) (db : DB) (goal : MM.Term) (l : String) (lbl : Lbl) :
    Prop where
  pc : is_pattern_constructor σ fuel c l = (XProofTie.ofDB db goal).isPatternConstructor lbl
  pr : is_proof_rule σ fuel c l = (XProofTie.ofDB db goal).isProofRule lbl
  ex : is_exported_axiom σ fuel c l = (XProofTie.ofDB db goal).isExportedAxiom lbl
  ax : ∃ a r, get_axiom_by_name σ fuel c l = .ok a ∧ (XProofTie.ofDB db goal).axiom? lbl = some r ∧ a.pattern = r.pattern ∧
      a.antecedents? = r.antecedents ∧ (∀ n, n ∈ a.metavars.map nm.vars.idxOf ↔ n ∈ r.metavars)
  mio : ∃ m, get_metavars_in_order σ fuel c l = .ok m ∧ m.map nm.vars.idxOf = (XProofTie.ofDB db goal).metavarsInOrder lbl

theorem agree_axiom {σ : String → Nat} {fuel : Nat} {mdb : MDb} {target : String} {t : MTerm} {prf : List String}
    {pf : Gen.ImportProof.Proof} {c : ConvObj} (sp : Spec) (hσ : σ = sp.names.consts.idxOf)
    (hF : FragM mdb fuel target t prf) (hfin : Final σ mdb target t pf c)
    (hnum : Numbering sp.names ((floatPairs mdb).map (·.2)) sp.db)
    (st : MStmt) (hst : st ∈ mdb.filter isAxItem) (hco : coherentItem sp st = true) :
    ∃ l lbl, axLabel st = l ∧ sp.table.lookup l = some lbl ∧ AgreeAxiom σ fuel c sp.names sp.db sp.goal l lbl := by
  subst hσ
  obtain ⟨pl, eh, l, tcs, t', hparts, _⟩ := hF.axioms st hst
  simp only [coherentItem, hparts] at hco
  split at hco
  case h_2 => cases hco
  rename_i lbl T Hs hlk hT hHs
  simp only [Bool.and_eq_true, beq_iff_eq] at hco
  obtain ⟨⟨⟨hA, hpc⟩, hpr⟩, hrl⟩ := hco
  cases hass : sp.db.assertion lbl with
  | none => simp [hass] at hA
  | some A =>
    simp only [hass, Bool.and_eq_true, decide_eq_true_eq, beq_iff_eq] at hA
    obtain ⟨⟨⟨hmand, hhyps⟩, _⟩, hconcl⟩ := hA
    have hhyps' := hypsAre_eq _ _ hhyps
    have hconcl' := Term.beq_eq _ _ hconcl
    obtain ⟨a, hget, hentry, hmio, hisax⟩ := q_get_axiom hF hfin st hst hparts
    have hall := termsOf_append sp.names _ Hs t' T hHs hT
    have qpc := q_is_pattern_constructor hF hfin st hst hparts
    have qpr := q_is_proof_rule hF hfin st hst hparts
    refine ⟨l, lbl, (headLabel_eq_axLabel hparts).2, hlk, ?_, ?_, ?_, ?_, ?_⟩
    · rw [qpc, ofDB_pc, hpc]
    · rw [qpr, ofDB_pr, hpr]
    · simp only [is_exported_axiom, hisax, qpc, qpr, Bool.true_and, ofDB_ex, hrl, bne]
      cases (tcs == "#Pattern") <;> cases strStartsWith l "proof-rule-" <;> rfl
    · refine ⟨a, XProofTie.axiomRec sp.db A, hget, by simp [XProofTie.ofDB, hass], ?_, ?_, ?_⟩
      · rw [hentry.pattern, patOf_image sp.names _ sp.db hnum t' T hT, XProofTie.axiomRec, hconcl']
      · have hnil : eh.map (·.2) = [] ↔ Hs = [] := by
          rw [← List.length_eq_zero_iff, ← List.length_eq_zero_iff, (varsList_of_termsOf sp.names _ Hs hHs).2.2.1]
        simp [hentry.antecedents, XProofTie.axiomRec, hhyps', patsOf_image sp.names _ sp.db hnum _ Hs hHs, hnil, Function.comp_def]
      · intro n
        have hterms : (Hs.map (fun x => ({ thm := true, term := x } : Stmt))).map (·.term) = Hs := by
          rw [List.map_map]; exact List.map_id _
        simp only [XProofTie.axiomRec, hhyps', hconcl', hterms, (varsList_of_termsOf sp.names _ (Hs ++ [T]) hall).1, List.mem_map,
          hentry.metavars]
    · refine ⟨_, hmio, ?_⟩
      simp only [XProofTie.ofDB, hass, Option.map_some, Option.getD_some, hmand]
      exact (mandOf_eq sp.names _ sp.db hnum _ (Hs ++ [T]) hall).symm

theorem numbering_of_coherent (sp : Spec) (mdb : MDb) (h : coherentFloats sp mdb = true) :
    Numbering sp.names ((floatPairs mdb).map (·.2)) sp.db := by
  simp only [coherentFloats, Bool.and_eq_true] at h
  obtain ⟨h, hpl⟩ := h
  simp only [coherentFloats0, Bool.and_eq_true, List.all_eq_true, decide_eq_true_eq, List.contains_eq_mem] at h
  refine ⟨?_, h.2, ?_⟩
  · intro x hx
    obtain ⟨p, hp, rfl⟩ := List.mem_map.mp hx
    exact (h.1 p hp).1
  · intro c hc
    have := List.all_eq_true.mp hpl c hc
    simpa using this

/-- a `$f` label: the model's `Lbl.float`, the same `MetaVar`, not a pattern constructor -/
theorem agree_float {σ : String → Nat} {fuel : Nat} {mdb : MDb} {target : String} {t : MTerm} {prf : List String}
    {pf : Gen.ImportProof.Proof} {c : ConvObj} (sp : Spec)
    (hF : FragM mdb fuel target t prf) (hfin : Final σ mdb target t pf c) (hL : LabelsOK mdb) (hco : coherentFloats sp mdb = true)
    (l v : String) (hlv : (l, v) ∈ floatPairs mdb) :
    sp.table.lookup l = some (Lbl.float (sp.names.vars.idxOf v)) ∧
    c._fp_label_to_pattern.lookup l = (XProofTie.ofDB sp.db sp.goal).floating (Lbl.float (sp.names.vars.idxOf v)) ∧
    resolve_metavar σ fuel c v = .ok ((XProofTie.ofDB sp.db sp.goal).resolveMetavar (sp.names.vars.idxOf v)) ∧
    is_pattern_constructor σ fuel c l = (XProofTie.ofDB sp.db sp.goal).isPatternConstructor (Lbl.float (sp.names.vars.idxOf v)) := by
  have hnum := numbering_of_coherent sp mdb hco
  simp only [coherentFloats, coherentFloats0, Bool.and_eq_true, List.all_eq_true, decide_eq_true_eq, List.contains_eq_mem] at hco
  obtain ⟨hvV, htab⟩ := hco.1.1 (l, v) hlv
  obtain ⟨h1, h2, h3⟩ := q_floating hF hfin hL l v hlv
  have hidx := hnum.mvId v
  refine ⟨htab, ?_, ?_, ?_⟩
  · rw [h1]; simp only [XProofTie.ofDB, hidx]; rfl
  · rw [h2]; simp only [XProofTie.ofDB, hidx]; rfl
  · rw [h3]; rfl

/-- the target: `get_lemma_by_name(target).pattern` is the image of the goal -/
theorem agree_goal {σ : String → Nat} {fuel : Nat} {mdb : MDb} {target : String} {t : MTerm} {prf : List String}
    {pf : Gen.ImportProof.Proof} {c : ConvObj} (sp : Spec) (hσ : σ = sp.names.consts.idxOf)
    (hfin : Final σ mdb target t pf c) (hlem : lemmaOf mdb = some (target, t, prf))
    (hcf : coherentFloats sp mdb = true) (hcg : coherentGoal sp mdb = true) :
    ∃ a, get_lemma_by_name σ fuel c target = .ok a ∧ a.pattern = (XProofTie.ofDB sp.db sp.goal).targetPattern ∧ a.proof? = some pf ∧
      lemmas σ fuel c = [target] := by
  subst hσ
  obtain ⟨a, h1, h2, h3, h4⟩ := q_lemma (fuel := fuel) hfin
  refine ⟨a, h1, ?_, h3, h4⟩
  simp only [coherentGoal, hlem] at hcg
  cases hT : termOf sp.names t with
  | none => simp [hT] at hcg
  | some T =>
    simp only [hT] at hcg
    have hTg : T = sp.goal := Term.beq_eq _ _ hcg
    rw [h2, ← hTg]
    exact patOf_image sp.names _ sp.db (numbering_of_coherent sp mdb hcf) t T hT

/-- what `InFragment` says: the specification and its coherence conjuncts, the target, and the converter's run for every fuel
`≥ dbFuel` with its final state -/
theorem inFragment_parts {mdb : MDb} {target : String} (h : InFragment mdb target = true) :
    ∃ sp t prf pf, dbOfCore mdb target = some sp ∧ (∀ st ∈ mdb.filter isAxItem, coherentItem sp st = true) ∧
      coherentFloats sp mdb = true ∧ coherentGoal sp mdb = true ∧ proofAgrees sp pf = true ∧ sp.db.wf = true ∧
      lemmaOf mdb = some (target, t, prf) ∧ LabelsOK mdb ∧
      ∀ fuel, dbFuel mdb ≤ fuel → FragM mdb fuel target t prf ∧
        ∃ c, MetamathConverter_init sp.names.consts.idxOf fuel default mdb = .ok c ∧ Final sp.names.consts.idxOf mdb target t pf c := by
  simp only [InFragment, Bool.and_eq_true] at h
  obtain ⟨hM, hsp⟩ := h
  split at hsp
  case h_2 => cases hsp
  rename_i sp hdb
  simp only [Bool.and_eq_true, List.all_eq_true] at hsp
  obtain ⟨⟨⟨⟨hitems, hfloats⟩, hgoal⟩, hproof⟩, hwf⟩ := hsp
  obtain ⟨t, prf, pf, hlem, hL, hpf, hF⟩ := inFragmentM_sound hM
  simp only [coherentProof, hlem, hpf] at hproof
  exact ⟨sp, t, prf, pf, hdb, hitems, hfloats, hgoal, hproof, hwf, hlem, hL,
    fun fuel hfuel => ⟨hF fuel hfuel, init_ok sp.names.consts.idxOf fuel mdb target t prf pf (hF fuel hfuel) hpf⟩⟩

/-- THE TIE: on a database of the fragment, for every fuel `≥ dbFuel`, the generated converter returns a converter object that
answers every query about every `$f` label and every `$a` label as `XProofTie.ofDB (dbOfCore mdb)` answers it for the `Lbl` the
label table gives the label (symbols numbered by the `$c` positions, variables by the `$v` positions) -/
theorem converter_agrees (mdb : MDb) (target : String) (h : InFragment mdb target = true) :
    ∃ sp, dbOfCore mdb target = some sp ∧ sp.db.wf = true ∧
      ∀ fuel, dbFuel mdb ≤ fuel → ∃ c, MetamathConverter_init sp.names.consts.idxOf fuel default mdb = .ok c ∧
        (∀ l v, (l, v) ∈ floatPairs mdb →
          sp.table.lookup l = some (Lbl.float (sp.names.vars.idxOf v)) ∧
          c._fp_label_to_pattern.lookup l = (XProofTie.ofDB sp.db sp.goal).floating (Lbl.float (sp.names.vars.idxOf v)) ∧
          resolve_metavar sp.names.consts.idxOf fuel c v = .ok ((XProofTie.ofDB sp.db sp.goal).resolveMetavar (sp.names.vars.idxOf v)) ∧
          is_pattern_constructor sp.names.consts.idxOf fuel c l =
            (XProofTie.ofDB sp.db sp.goal).isPatternConstructor (Lbl.float (sp.names.vars.idxOf v))) ∧
        (∀ st ∈ mdb.filter isAxItem, ∃ l lbl, axLabel st = l ∧ sp.table.lookup l = some lbl ∧
          AgreeAxiom sp.names.consts.idxOf fuel c sp.names sp.db sp.goal l lbl) ∧
        (exported_axioms sp.names.consts.idxOf fuel c =
          ((mdb.filter isAxItem).filter fun st => !isPcItem st && !isPrItem st).map axLabel) ∧
        (∃ a pf, get_lemma_by_name sp.names.consts.idxOf fuel c target = .ok a ∧
          a.pattern = (XProofTie.ofDB sp.db sp.goal).targetPattern ∧ a.proof? = some pf ∧ proofAgrees sp pf = true ∧
          lemmas sp.names.consts.idxOf fuel c = [target]) := by
  obtain ⟨sp, t, prf, pf, hdb, hitems, hfloats, hgoal, hpa, hwf, hlem, hL, hrun⟩ := inFragment_parts h
  refine ⟨sp, hdb, hwf, fun fuel hfuel => ?_⟩
  obtain ⟨hF, c, hc, hfin⟩ := hrun fuel hfuel
  obtain ⟨a, h1, h2, h3, h4⟩ := agree_goal (fuel := fuel) sp rfl hfin hlem hfloats hgoal
  exact ⟨c, hc, fun l v hlv => agree_float sp hF hfin hL hfloats l v hlv,
    fun st hst => agree_axiom sp rfl hF hfin (numbering_of_coherent sp mdb hfloats) st hst (hitems st hst),
    q_exported hF hfin, a, pf, h1, h2, h3, hpa, h4⟩

end ConvTie

#print axioms ConvTie.converter_agrees
