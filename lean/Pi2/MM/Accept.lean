import Pi2.MM.Sim
/-!
# T2: the checker accepts the translation; the side conditions of every call are derived
-/
set_option linter.unusedSimpArgs false
set_option linter.unusedVariables false
open Pat PySt NPat

namespace MM

/-! ## the calls of the proof phase -/

/-- the calls `exec_proof` makes before `publish_proof` -/
def Allowed : Call → Prop
  | .metavar _ ef sf ps ns hs => ef = [] ∧ sf = [] ∧ ps = [] ∧ ns = [] ∧ hs = []
  | .implies => True | .app => True | .save => True | .pop => True
  | .prop1 => True | .prop2 => True | .mp => True
  | .instantiate keys => keys.Nodup
  | .instantiatePattern keys => keys.Nodup
  | .load t => t.body.F0 = true
  | _ => False

/-- the tracker's state in the proof phase: no residues, everything in the fragment -/
structure PInv (s : PySt) : Prop where
  phase : s.phase = .proof
  nores : ∀ e ∈ s.stack, e.2 = false
  sf : StF0 s

theorem PInv.setStack {s : PySt} (h : PInv s) (S : List (TTerm × Bool))
    (hS : ∀ e ∈ S, e.2 = false ∧ e.1.body.F0 = true) : PInv { s with stack := S } :=
  ⟨h.phase, fun e he => (hS e he).1, h.sf.setStack S (fun e he => (hS e he).2)⟩

theorem PInv.cons {s : PySt} (h : PInv s) (t : TTerm) (st : List (TTerm × Bool))
    (ht : t.body.F0 = true) (hst : ∀ e ∈ st, e ∈ s.stack) :
    PInv { s with stack := (t, false) :: st } := by
  apply h.setStack
  intro e he
  rcases List.mem_cons.mp he with rfl | he
  · exact ⟨rfl, ht⟩
  · exact ⟨h.nores e (hst e he), h.sf.1 e (hst e he)⟩

theorem takePlugs_len : ∀ (k : Nat) (st : List (TTerm × Bool)) (plugs : List NPat)
    (st' : List (TTerm × Bool)), takePlugs k st = some (plugs, st') → plugs.length = k := by
  intro k
  induction k with
  | zero =>
    intro st plugs st' h
    simp only [takePlugs, Option.some.injEq, Prod.mk.injEq] at h
    rw [← h.1]; rfl
  | succ k ih =>
    intro st plugs st' h
    cases st with
    | nil => simp [takePlugs] at h
    | cons e st1 =>
      obtain ⟨t, b⟩ := e
      cases t with
      | proved p => simp [takePlugs] at h
      | pat p =>
        simp only [takePlugs, Option.map_eq_some_iff] at h
        obtain ⟨⟨ps, st2⟩, h1, h2⟩ := h
        simp only [Prod.mk.injEq] at h2
        obtain ⟨rfl, rfl⟩ := h2
        simp [ih st1 ps st2 h1]

theorem nores_take {s : PySt} (h : PInv s) (t : TTerm × Bool) (st : List (TTerm × Bool))
    (hs : s.stack = t :: st) (k : Nat) : (st.take k).any (·.2) = false := by
  rw [List.any_eq_false]
  intro e he
  have : e ∈ s.stack := by rw [hs]; exact List.mem_cons_of_mem _ (List.mem_of_mem_take he)
  simp [h.nores e this]

/-- the top entry has no residue and lies in the fragment; so does what is below it -/
theorem PInv.uncons {s : PySt} (h : PInv s) {t : TTerm} {b : Bool} {st : List (TTerm × Bool)}
    (hs : s.stack = (t, b) :: st) : b = false ∧ t.body.F0 = true ∧ PInv { s with stack := st } :=
  have hm : (t, b) ∈ s.stack := by rw [hs]; exact List.mem_cons_self ..
  ⟨h.nores _ hm, h.sf.1 _ hm, h.setStack st fun e he =>
    have : e ∈ s.stack := by rw [hs]; exact List.mem_cons_of_mem _ he
    ⟨h.nores e this, h.sf.1 e this⟩⟩

/-- the patterns `takePlugs` finds below the top are in the fragment, and what it leaves was there -/
theorem PInv.plugs {s : PySt} (h : PInv s) (keys : List Nat) {k : Nat} {plugs : List NPat}
    {st' : List (TTerm × Bool)} (htp : takePlugs k s.stack = some (plugs, st')) :
    F0Map (keys.zip plugs) = true ∧ ∀ e ∈ st', e ∈ s.stack := by
  obtain ⟨hpm, hsub⟩ := takePlugs_mem _ _ _ _ htp
  refine ⟨F0Map_zip _ _ fun p hp => ?_, hsub⟩
  obtain ⟨b, hb⟩ := hpm p hp
  exact h.sf.1 _ hb

/-- one allowed call: its side conditions hold and the invariant is kept -/
theorem allowed_step (N : Nat) (s s' : PySt) (c : Call) (hI : PInv s) (hc : Allowed c)
    (ht : track1 N s c = some (some s')) : SideNS s c ∧ PInv s' ∧ c.quiet = true := by
  cases c with
  | metavar id ef sf ps ns hs =>
    obtain ⟨rfl, rfl, rfl, rfl, rfl⟩ := hc
    cases ht
    exact ⟨sideNS_mvclean s id, hI.cons _ _ (by rfl) (fun _ h => h), rfl⟩
  | implies | app =>
    simp only [track1] at ht
    split at ht
    · next r b1 l b2 st hs =>
      cases ht
      obtain ⟨rfl, hr, h1⟩ := hI.uncons hs
      obtain ⟨rfl, hl, h2⟩ := h1.uncons rfl
      exact ⟨sideNS_top2 s _ _ _ _ hs (by simp), h2.cons _ _ (Bool.and_eq_true _ _ ▸ ⟨hl, hr⟩) (fun _ h => h), rfl⟩
    · cases ht
  | save =>
    simp only [track1] at ht
    split at ht
    · next t b st hs =>
      cases ht
      obtain ⟨rfl, htF, _⟩ := hI.uncons hs
      exact ⟨sideNS_top1 s _ _ _ hs (Or.inl rfl), ⟨hI.phase, hI.nores, hI.sf.addMem t htF⟩, rfl⟩
    · cases ht
  | pop =>
    simp only [track1] at ht
    split at ht
    · next e st hs =>
      obtain ⟨t, b⟩ := e
      cases ht
      obtain ⟨rfl, _, h1⟩ := hI.uncons hs
      exact ⟨sideNS_top1 s _ _ _ hs (Or.inr (Or.inl rfl)), h1, rfl⟩
    · cases ht
  | prop1 | prop2 =>
    cases ht
    exact ⟨by first | exact sideNS_prop1 s | exact sideNS_prop2 s, hI.cons _ _ (by rfl) (fun _ h => h), rfl⟩
  | mp =>
    simp only [track1] at ht
    split at ht
    · next r b1 l b2 st hs =>
      obtain ⟨_ | c, hmp, ht⟩ := Option.bind_eq_some_iff.mp ht
      · cases ht
      · cases ht
        obtain ⟨rfl, _, h1⟩ := hI.uncons hs
        obtain ⟨rfl, hl, h2⟩ := h1.uncons rfl
        exact ⟨sideNS_top2 s _ _ _ _ hs (Or.inr (Or.inr rfl)), h2.cons _ _ (pyMP_F0 N l r c hl hmp) (fun _ h => h), rfl⟩
    · cases ht
  | load t =>
    cases track1_load_eq ht
    exact ⟨sideNS_load s t (F0.shape _ hc), hI.cons _ _ hc (fun _ h => h), rfl⟩
  | instantiatePattern keys =>
    simp only [track1] at ht
    split at ht
    · next a b1 st hs =>
      obtain ⟨rfl, ha, h1⟩ := hI.uncons hs
      split at ht
      · cases ht
      · next plugs st' htp =>
        cases ht
        obtain ⟨hpF, hsub⟩ := h1.plugs keys htp
        exact ⟨sideNS_inst s _ keys (Or.inr rfl) hc _ _ hs (nores_take hI _ _ hs _) ha,
          h1.cons _ _ (Bool.and_eq_true _ _ ▸ ⟨ha, hpF⟩) hsub, rfl⟩
    · cases ht
  | instantiate keys =>
    simp only [track1] at ht
    split at ht
    · next a b1 st hs =>
      obtain ⟨rfl, ha, h1⟩ := hI.uncons hs
      have hside := sideNS_inst s _ keys (Or.inl rfl) hc _ _ hs (nores_take hI _ _ hs _) ha
      split at ht
      · cases ht
        exact ⟨hside, h1.cons _ _ ha (fun _ h => h), rfl⟩
      · split at ht
        · cases ht
        · next plugs st' htp =>
          obtain ⟨c, hinst, ht⟩ := Option.bind_eq_some_iff.mp ht
          cases ht
          obtain ⟨hpF, hsub⟩ := h1.plugs keys htp
          exact ⟨hside, h1.cons _ _ (instF_F0 N _ a c ha hpF hinst) hsub, rfl⟩
    · cases ht
  | _ => exact hc.elim

theorem allowed_reach (N : Nat) : ∀ (cs : List Call) (s s' : PySt), PInv s →
    (∀ c ∈ cs, Allowed c) → Reach N s cs s' →
    Tr N s cs s' ∧ PInv s' ∧ ∀ c ∈ cs, c.quiet = true := by
  intro cs
  induction cs with
  | nil =>
    intro s s' hI _ hr
    simp only [Reach] at hr; subst hr
    exact ⟨Tr.nil N _, hI, by simp⟩
  | cons c cs ih =>
    intro s s' hI hall hr
    obtain ⟨s1, h1, hr⟩ := hr
    obtain ⟨hside, hI1, hq⟩ := allowed_step N s s1 c hI (hall c (by simp)) h1
    obtain ⟨htr, hI', hqs⟩ := ih s1 s' hI1 (fun x hx => hall x (List.mem_cons_of_mem _ hx)) hr
    refine ⟨Tr.cons h1 (Or.inr hside) htr, hI', ?_⟩
    intro x hx
    rcases List.mem_cons.mp hx with rfl | hx
    · exact hq
    · exact hqs x hx

/-- the translator's state in the proof phase -/
structure TInv (x : XSt) : Prop where
  pinv : PInv x.s
  memF0 : ∀ t ∈ x.mem, t.body.F0 = true

/-- a segment of the history: quiet calls with their side conditions -/
def Seg (N : Nat) (x x' : XSt) : Prop :=
  ∃ cs, x'.calls = x.calls ++ cs ∧ Tr N x.s cs x'.s ∧ ∀ c ∈ cs, c.quiet = true

theorem Seg.refl (N : Nat) (x : XSt) : Seg N x x := ⟨[], by simp, Tr.nil N x.s, by simp⟩

theorem Seg.trans {N : Nat} {x y z : XSt} (h1 : Seg N x y) (h2 : Seg N y z) : Seg N x z := by
  obtain ⟨c1, e1, t1, q1⟩ := h1
  obtain ⟨c2, e2, t2, q2⟩ := h2
  refine ⟨c1 ++ c2, by rw [e2, e1, List.append_assoc], t1.append t2, ?_⟩
  intro c hc
  rcases List.mem_append.mp hc with hc | hc
  · exact q1 c hc
  · exact q2 c hc

theorem doC_spec {k : Nat} {x x' : XSt} {cs : List Call} (h : x.doC k cs = some (some x')) :
    x'.calls = x.calls ++ cs ∧ Reach k x.s cs x'.s ∧ x'.mem = x.mem := by
  simp only [XSt.doC, Option.bind_eq_bind, Option.bind_eq_some_iff] at h
  obtain ⟨o, ho, h⟩ := h
  rcases o with _ | ⟨s', a'⟩
  · simp at h
  · simp only [Option.pure_def, Option.some.injEq] at h
    subst h
    obtain ⟨e, hr⟩ := doCalls_reach k cs x.s x.calls s' a' ho
    exact ⟨e, hr, rfl⟩

theorem bind_some_some {α β} {r : Option (Option α)} {f : Option α → Option (Option β)} {y : β}
    (h : r.bind f = some (some y)) (hf : f none = some none) :
    ∃ a, r = some (some a) ∧ f (some a) = some (some y) := by
  rcases r with _ | _ | a
  · cases h
  · rw [Option.bind_some, hf] at h; cases h
  · exact ⟨a, rfl, h⟩

/-- calls made directly by `exec_proof` -/
theorem doC_seg {N k : Nat} (hk : k ≤ N) {x x' : XSt} {cs : List Call} (hI : TInv x)
    (hall : ∀ c ∈ cs, Allowed c) (h : x.doC k cs = some (some x')) :
    Seg N x x' ∧ TInv x' ∧ x'.mem = x.mem := by
  obtain ⟨e, hr, hm⟩ := doC_spec h
  obtain ⟨htr, hI', hq⟩ := allowed_reach N cs x.s x'.s hI.pinv hall (reach_mono hk hr)
  exact ⟨⟨cs, e, htr, hq⟩, ⟨hI', by rw [hm]; exact hI.memF0⟩, hm⟩

theorem doC1_seg {N k : Nat} (hk : k ≤ N) {x x' : XSt} {c : Call} (hI : TInv x)
    (h : x.doC k [c] = some (some x')) (hc : Allowed c) : Seg N x x' ∧ TInv x' ∧ x'.mem = x.mem :=
  doC_seg hk hI (fun _ hc' => List.mem_singleton.mp hc' ▸ hc) h

/-- a pattern compiled by `exec_proof` -/
theorem pat_seg (cfg : Cfg) {N k : Nat} (hk : k ≤ N) {x : XSt} {p : NPat} {s' : PySt}
    {c' : List Call} (hI : TInv x) (hp : p.B0 = true)
    (h : patternF cfg k x.s p x.calls = some (some (s', c'))) :
    Seg N x ⟨s', c', x.mem⟩ ∧ TInv ⟨s', c', x.mem⟩ ∧ s'.stack = (.pat p, false) :: x.s.stack := by
  obtain ⟨cs, hcs, htr, hstk, hsf, hfr, hq⟩ := patternF_tr cfg hk hp hI.pinv.sf h
  simp only [List.singleton_append] at hstk
  refine ⟨⟨cs, hcs, htr, hq⟩, ⟨⟨hfr.1.trans hI.pinv.phase, ?_, hsf⟩, hI.memF0⟩, hstk⟩
  intro e he
  rw [hstk] at he
  rcases List.mem_cons.mp he with rfl | he
  · rfl
  · exact hI.pinv.nores e he

theorem top_F0 {x : XSt} (hI : TInv x) {t : TTerm} (h : top? x = some t) : t.body.F0 = true := by
  unfold top? at h
  cases hs : x.s.stack with
  | nil => simp [hs] at h
  | cons e st =>
    simp only [hs, List.head?_cons, Option.map_some, Option.some.injEq] at h
    subst h
    exact hI.pinv.sf.1 e (by rw [hs]; simp)

theorem mem_snoc_F0 {l : List TTerm} {t : TTerm} (hl : ∀ u ∈ l, u.body.F0 = true) (ht : t.body.F0 = true) :
    ∀ u ∈ l ++ [t], u.body.F0 = true := by
  intro u hu
  rcases List.mem_append.mp hu with hu | hu
  · exact hl u hu
  · exact List.mem_singleton.mp hu ▸ ht

/-! ## every case of `exec_proof`'s loop -/

theorem xSave_seg {N k : Nat} (hk : k ≤ N) {x x' : XSt} (hI : TInv x)
    (h : xSave k x = some (some x')) : Seg N x x' ∧ TInv x' := by
  unfold xSave at h
  split at h
  · cases h
  · next t htop =>
    obtain ⟨x1, ho, h⟩ := bind_some_some h rfl
    cases h
    obtain ⟨hseg, hI1, hm⟩ := doC1_seg hk hI ho trivial
    exact ⟨hseg, hI1.pinv, mem_snoc_F0 hI1.memF0 (top_F0 hI htop)⟩

theorem xReuse_seg {N k : Nat} (hk : k ≤ N) {x x' : XSt} {j : Nat} (hI : TInv x)
    (h : xReuse k x j = some (some x')) : Seg N x x' ∧ TInv x' := by
  unfold xReuse at h
  split at h
  · cases h
  · next t hj =>
    obtain ⟨hseg, hI1, _⟩ := doC1_seg hk hI h (hI.memF0 t (List.mem_of_getElem? hj))
    exact ⟨hseg, hI1⟩

theorem patThenInst_seg (cfg : Cfg) {N k : Nat} (hk : k ≤ N) {x x' : XSt} {p : NPat}
    {keys : List Nat} (hI : TInv x) (hp : p.B0 = true) (hkeys : keys.Nodup)
    (h : patThenInst cfg k x p keys = some (some x')) : Seg N x x' ∧ TInv x' := by
  unfold patThenInst at h
  obtain ⟨⟨s', c'⟩, ho, h⟩ := bind_some_some h rfl
  obtain ⟨hseg1, hI1, _⟩ := pat_seg cfg hk hI hp ho
  obtain ⟨hseg2, hI2, _⟩ := doC1_seg hk hI1 h hkeys
  exact ⟨hseg1.trans hseg2, hI2⟩

theorem xBin_seg (cfg : Cfg) {N k : Nat} (hk : k ≤ N) (db : DB) (hwf : db.WF) {x x' : XSt} {t : Term}
    {ab : List Nat} {c : Call} (hI : TInv x) (h : xBin cfg k db x t ab c = some (some x'))
    (hc : Allowed c) : Seg N x x' ∧ TInv x' := by
  unfold xBin at h
  split at h
  · split at h
    · obtain ⟨hseg, hI1, _⟩ := doC1_seg hk hI h hc
      exact ⟨hseg, hI1⟩
    · cases h
  · exact patThenInst_seg cfg hk hI (image_B0 db _) (deltaKeys_nodup db _ hwf.nodup) h

theorem xCtor_seg (cfg : Cfg) {N k : Nat} (hk : k ≤ N) (db : DB) (hwf : db.WF) {x x' : XSt}
    {j : Nat} (hI : TInv x) (h : xCtor cfg k db x j = some (some x')) : Seg N x x' ∧ TInv x' := by
  cases hc : db.ctors[j]? with
  | none => simp [xCtor, hc] at h
  | some c =>
    rw [xCtor_eq cfg k db x j c hc] at h
    split at h
    · obtain ⟨⟨s', c'⟩, ho, h⟩ := bind_some_some h rfl
      cases h
      obtain ⟨hseg1, hI1, _⟩ := pat_seg cfg hk hI (image_B0 db _) ho
      exact ⟨hseg1, hI1⟩
    · exact patThenInst_seg cfg hk hI (image_B0 db _) (deltaKeys_nodup db _ hwf.nodup) h

theorem xProp_seg {N k : Nat} (hk : k ≤ N) (db : DB) (hwf : db.WF) {x x' : XSt} {c : Call} {roles : List Nat}
    (hI : TInv x) (h : xProp k db x c roles = some (some x')) (hc : Allowed c) : Seg N x x' ∧ TInv x' := by
  obtain ⟨x1, ho, h⟩ := bind_some_some h rfl
  obtain ⟨hseg1, hI1, _⟩ := doC1_seg hk hI ho hc
  simp only [] at h
  split at h
  · cases h
  · next keys hkeys =>
    obtain ⟨hseg2, hI2, _⟩ := doC1_seg hk hI1 h (ruleKeys_nodup db _ keys hwf.nodup hkeys)
    exact ⟨hseg1.trans hseg2, hI2⟩

theorem xMp_seg {N k : Nat} (hk : k ≤ N) {x x' : XSt} (hI : TInv x)
    (h : xMp k x = some (some x')) : Seg N x x' ∧ TInv x' := by
  unfold xMp at h
  split at h
  · obtain ⟨x1, ho, h⟩ := bind_some_some h rfl
    obtain ⟨hseg1, hI1, _⟩ := doC1_seg hk hI ho trivial
    simp only [] at h
    split at h
    · cases h
    · next c hc =>
      obtain ⟨hseg2, hI2, _⟩ := doC_seg hk hI1 (by
        intro c' hc'
        simp only [List.mem_cons, List.not_mem_nil, or_false] at hc'
        rcases hc' with rfl | rfl | rfl | rfl | rfl <;> first | trivial | exact top_F0 hI1 hc) h
      exact ⟨hseg1.trans hseg2, hI2⟩
  · cases h

theorem stash_seg {N k : Nat} (hk : k ≤ N) (m : Nat) (x x' : XSt) (saved saved' : List TTerm)
    (hI : TInv x) (hs : ∀ t ∈ saved, t.body.F0 = true)
    (h : xstep.stash k x saved m = some (some (x', saved'))) :
    Seg N x x' ∧ TInv x' ∧ ∀ t ∈ saved', t.body.F0 = true := by
  induction m generalizing x saved with
  | zero =>
    cases h
    exact ⟨Seg.refl N _, hI, hs⟩
  | succ m ih =>
    unfold xstep.stash at h
    split at h
    · cases h
    · next t htop =>
      obtain ⟨x1, ho, h⟩ := bind_some_some h rfl
      obtain ⟨hseg1, hI1, _⟩ := doC_seg hk hI (by
        intro c hc
        simp only [List.mem_cons, List.not_mem_nil, or_false] at hc
        rcases hc with rfl | rfl <;> trivial) ho
      obtain ⟨hseg2, hI2, hs2⟩ := ih x1 _ hI1 (mem_snoc_F0 hs (top_F0 hI htop)) h
      exact ⟨hseg1.trans hseg2, hI2, hs2⟩

theorem discharge_seg {N k : Nat} (hk : k ≤ N) (ts : List TTerm) (x x' : XSt)
    (hI : TInv x) (hts : ∀ t ∈ ts, t.body.F0 = true) (h : xstep.discharge k x ts = some (some x')) :
    Seg N x x' ∧ TInv x' := by
  induction ts generalizing x with
  | nil =>
    cases h
    exact ⟨Seg.refl N _, hI⟩
  | cons t ts ih =>
    unfold xstep.discharge at h
    obtain ⟨x1, ho, h⟩ := bind_some_some h rfl
    obtain ⟨hseg1, hI1, _⟩ := doC1_seg hk hI ho (hts t (List.mem_cons_self ..))
    simp only [] at h
    split at h
    · obtain ⟨x2, ho2, h⟩ := bind_some_some h rfl
      obtain ⟨hseg2, hI2, _⟩ := doC1_seg hk hI1 ho2 trivial
      obtain ⟨hseg3, hI3⟩ := ih x2 hI2 (fun u hu => hts u (List.mem_cons_of_mem _ hu)) h
      exact ⟨(hseg1.trans hseg2).trans hseg3, hI3⟩
    · cases h

theorem xRule_seg {N k : Nat} (hk : k ≤ N) (db : DB) (hwf : db.WF) {x x' : XSt} {j : Nat}
    (hI : TInv x) (h : xRule k db x j = some (some x')) : Seg N x x' ∧ TInv x' := by
  unfold xRule at h
  split at h
  · cases h
  · next r hr =>
    obtain ⟨⟨x1, saved⟩, ho1, h⟩ := bind_some_some h rfl
    obtain ⟨hseg1, hI1, hsv⟩ := stash_seg hk _ x x1 [] saved hI (by simp) ho1
    obtain ⟨x2, ho2, h⟩ := bind_some_some h rfl
    obtain ⟨hseg2, hI2, _⟩ := doC1_seg hk hI1 ho2 (B0.toF0 _ (implChain_B0 db r.hyps r.concl))
    obtain ⟨x3, ho3, h⟩ := bind_some_some h rfl
    have h3 : Seg N x2 x3 ∧ TInv x3 := by
      split at ho3
      · cases ho3
        exact ⟨Seg.refl N x2, hI2⟩
      · obtain ⟨hseg, hI', _⟩ := doC1_seg hk hI2 ho3 (deltaKeys_nodup db _ hwf.nodup)
        exact ⟨hseg, hI'⟩
    obtain ⟨hseg4, hI4⟩ := discharge_seg hk saved.reverse x3 x' h3.2
      (fun t ht => hsv t (List.mem_reverse.mp ht)) h
    exact ⟨((hseg1.trans hseg2).trans h3.1).trans hseg4, hI4⟩

theorem xLabel_seg (cfg : Cfg) {N k : Nat} (hk : k ≤ N) (db : DB) (hwf : db.WF) {x x' : XSt}
    (l : Lbl) (hI : TInv x) (h : xLabel cfg k db x l = some (some x')) : Seg N x x' ∧ TInv x' := by
  cases l with
  | float v =>
    obtain ⟨hseg, hI1, _⟩ := doC1_seg hk hI h ⟨rfl, rfl, rfl, rfl, rfl⟩
    exact ⟨hseg, hI1⟩
  | impC | appC => exact xBin_seg cfg hk db hwf hI h trivial
  | ctor j => exact xCtor_seg cfg hk db hwf hI h
  | rule j => exact xRule_seg hk db hwf hI h
  | p1 | p2 => exact xProp_seg hk db hwf hI h trivial
  | mp => exact xMp_seg hk hI h

theorem xstep_seg (cfg : Cfg) {N k : Nat} (hk : k ≤ N) (db : DB) (hwf : db.WF) (labels : List Lbl)
    {x x' : XSt} (step : Nat) (hI : TInv x) (h : xstep cfg k db labels x step = some (some x')) :
    Seg N x x' ∧ TInv x' := by
  rw [xstep_eq] at h
  split at h
  · exact xSave_seg hk hI h
  · exact xReuse_seg hk hI h
  · split at h
    · cases h
    · exact xLabel_seg cfg hk db hwf _ hI h

theorem xrun_seg (cfg : Cfg) {N k : Nat} (hk : k ≤ N) (db : DB) (hwf : db.WF) (labels : List Lbl)
    (steps : List Nat) (x x' : XSt) (hI : TInv x) (h : xrun cfg k db labels x steps = some (some x')) :
    Seg N x x' ∧ TInv x' := by
  induction steps generalizing x with
  | nil =>
    cases h
    exact ⟨Seg.refl N _, hI⟩
  | cons st steps ih =>
    unfold xrun at h
    obtain ⟨x1, ho, h⟩ := bind_some_some h rfl
    obtain ⟨hseg1, hI1⟩ := xstep_seg cfg hk db hwf labels st hI ho
    obtain ⟨hseg2, hI2⟩ := ih x1 hI1 h
    exact ⟨hseg1.trans hseg2, hI2⟩

/-! ## the proof phase as a whole -/

theorem execProof_seg (cfg : Cfg) {N k : Nat} (hk : k ≤ N) (db : DB) (hwf : db.WF) (goal : Term)
    (labels : List Lbl) (steps : List Nat) (s : PySt) (acc : List Call) (s' : PySt)
    (a' : List Call) (hI : TInv ⟨s, acc, []⟩)
    (h : execProof cfg k db goal labels steps s acc = some (some (s', a'))) :
    ∃ cs, a' = acc ++ cs ∧ Tr N s cs s' ∧ ∀ c ∈ cs, c ≠ .intoClaim ∧ c ≠ .intoProof := by
  unfold execProof at h
  obtain ⟨x, ho, h⟩ := bind_some_some h rfl
  obtain ⟨⟨cs, hcs, htr, hq⟩, hIx⟩ := xrun_seg cfg hk db hwf labels steps _ x hI ho
  simp only [] at h
  split at h
  · next p b st hstk =>
    simp only [Option.bind_eq_bind, Option.bind_eq_some_iff] at h
    obtain ⟨e, _, h⟩ := h
    cases e with
    | false => simp at h
    | true =>
      obtain ⟨x2, ho2, h⟩ := bind_some_some h rfl
      cases h
      obtain ⟨e2, ⟨s2, ht, hr2⟩, _⟩ := doC_spec ho2
      simp only [Reach] at hr2
      subst hr2
      have hb : b = false := hIx.pinv.nores (TTerm.proved p, b) (by rw [hstk]; simp)
      subst hb
      refine ⟨cs ++ [.publishProof], by rw [e2, hcs]; simp, htr.append (Tr.single
        (track1_mono hk _ _ _ ht) (Or.inr (sideNS_top1 x.s _ _ _ hstk (Or.inr (Or.inr (Or.inl rfl)))))), ?_⟩
      intro c hc
      rcases List.mem_append.mp hc with hc | hc
      · exact quiet_noswitch (hq c hc)
      · simp at hc; subst hc; simp
  · simp at h

/-! ## the gamma and claim phases -/

theorem publish_spec {n : Nat} {s1 s2 : PySt} {c : Call} (hc : c = .publishAxiom ∨ c = .publishClaim)
    {a : NPat} {st : List (TTerm × Bool)} (hstk : s1.stack = (.pat a, false) :: st)
    (ht : track1 n s1 c = some (some s2)) :
    s2.stack = (.pat a, true) :: st ∧ s2.claims = s1.claims ∧
      (s2.memory = s1.memory ∨ s2.memory = s1.memory ++ [.proved a]) := by
  rcases hc with rfl | rfl <;> simp only [track1] at ht <;> split at ht
  all_goals first
    | (next a' b st' hph hs =>
        rw [hstk] at hs
        simp only [List.cons.injEq, Prod.mk.injEq, TTerm.pat.injEq] at hs
        obtain ⟨⟨rfl, rfl⟩, rfl⟩ := hs
        cases ht
        exact ⟨rfl, rfl, by simp⟩)
    | cases ht

theorem pub_seg (cfg : Cfg) {N k : Nat} (hk : k ≤ N) (c : Call)
    (hc : c = .publishAxiom ∨ c = .publishClaim) :
    ∀ (as : List NPat) (s : PySt) (acc : List Call) (s' : PySt) (a' : List Call),
    (∀ a ∈ as, a.B0 = true) → StF0 s →
    translateFull.pub cfg k s acc c as = some (some (s', a')) →
    ∃ cs, a' = acc ++ cs ∧ Tr N s cs s' ∧ published N s cs = as.map NPat.expand ∧ StF0 s' ∧
      ∀ x ∈ cs, x ≠ .intoClaim ∧ x ≠ .intoProof ∧ x ≠ .publishProof := by
  intro as
  induction as with
  | nil =>
    intro s acc s' a' _ hs h
    simp only [translateFull.pub, Option.some.injEq, Prod.mk.injEq] at h
    obtain ⟨rfl, rfl⟩ := h
    exact ⟨[], by simp, Tr.nil N _, rfl, hs, by simp⟩
  | cons a r ih =>
    intro s acc s' a' has hs h
    unfold translateFull.pub at h
    obtain ⟨⟨s1, a1⟩, hp, h⟩ := bind_some_some h rfl
    obtain ⟨⟨s2, a2⟩, hd, h⟩ := bind_some_some h rfl
    simp only [] at h
    obtain ⟨cs1, hcs1, htr1, hstk, hsf1, _, hq1⟩ := patternF_tr cfg hk (has a (by simp)) hs hp
    simp only [List.singleton_append] at hstk
    obtain ⟨ht, rfl⟩ := doCalls_one hd
    have htN := track1_mono hk _ _ _ ht
    obtain ⟨hstk2, hcl2, hmem2⟩ := publish_spec hc hstk htN
    have haF := B0.toF0 a (has a (by simp))
    have hsf2 : StF0 s2 := by
      refine ⟨?_, ?_, by rw [hcl2]; exact hsf1.2.2⟩
      · intro e he
        rw [hstk2] at he
        rcases List.mem_cons.mp he with rfl | he
        · exact haF
        · exact hs.1 e he
      · intro u hu
        rcases hmem2 with e | e
        · rw [e] at hu; exact hsf1.2.1 u hu
        · rw [e] at hu
          rcases List.mem_append.mp hu with hu | hu
          · exact hsf1.2.1 u hu
          · simp at hu; subst hu; exact haF
    obtain ⟨cs2, rfl, htr2, hpub2, hsf', hns2⟩ := ih s2 _ s' a'
      (fun x hx => has x (List.mem_cons_of_mem _ hx)) hsf2 h
    have hside : SideNS s1 c := sideNS_top1 s1 c _ _ hstk (by rcases hc with rfl | rfl <;> simp)
    refine ⟨cs1 ++ c :: cs2, by rw [hcs1]; simp, htr1.append (Tr.cons htN (Or.inr hside) htr2),
      ?_, hsf', ?_⟩
    · rw [published_append N cs1 (c :: cs2) s s1 htr1.1, published_quiet N cs1 s hq1]
      simp only [List.nil_append, published, htN, hpub2, List.map_cons]
      congr 1
      rcases hc with rfl | rfl <;> simp [pubOf, hstk]
    · intro x hx
      rcases List.mem_append.mp hx with hx | hx
      · exact ⟨(quiet_noswitch (hq1 x hx)).1, (quiet_noswitch (hq1 x hx)).2,
          quiet_nopublishProof (hq1 x hx)⟩
      · rcases List.mem_cons.mp hx with rfl | hx
        · rcases hc with rfl | rfl <;> simp
        · exact hns2 x hx

/-! ## three phases against the machine (the second half of `module_accepted`, for any proof phase) -/

theorem phases_accepted (n : Nat) (claims : List NPat) (G C P : List Call) (s : PySt)
    (g c p : List Instr) (axs : List Pat)
    (hclm : ∀ a ∈ claims, a.Shape = true)
    (hT : trackAll n (PySt.init claims) (G ++ .intoClaim :: (C ++ .intoProof :: P)) ([], [], [])
      = some (some (s, (g, c, p))))
    (hside : AllSideM n (PySt.init claims) (G ++ .intoClaim :: (C ++ .intoProof :: P)))
    (hnsG : ∀ x ∈ G, x ≠ .intoClaim ∧ x ≠ .intoProof ∧ x ≠ .publishProof)
    (hnsC : ∀ x ∈ C, x ≠ .intoClaim ∧ x ≠ .intoProof ∧ x ≠ .publishProof)
    (hPns : ∀ x ∈ P, x ≠ .intoClaim ∧ x ≠ .intoProof)
    (hpG : published n (PySt.init claims) G = axs)
    (hpC : ∀ t1 t2, Reach n (PySt.init claims) G t1 → track1 n t1 .intoClaim = some (some t2) →
      published n t2 C = claims.reverse.map NPat.expand)
    (hfin : s.claims = []) :
    verify g c p = some (axs, claims.reverse.map NPat.expand) := by
  have hS0 : ShapeSt (PySt.init claims) :=
    ⟨by simp [PySt.init], by simp [PySt.init], by simpa [PySt.init] using hclm⟩
  obtain ⟨t1, out1, hT1, hT⟩ := trackAll_append n G _ _ s _ _ hT
  have hr1 := trackAll_reach n G _ t1 _ _ hT1
  obtain ⟨hsideG, hside⟩ := allSideM_append n G _ _ t1 hside hr1
  obtain ⟨is0, t2, he0, hs0, hT⟩ := trackAll_cons n t1 s .intoClaim _ out1 _ hT
  simp only [emit1, Option.some.injEq] at he0
  subst he0
  rw [addOut_nil] at hT
  have hside := hside.2 t2 hs0
  obtain ⟨t3, out3, hT3, hT⟩ := trackAll_append n C _ t2 s _ _ hT
  have hr3 := trackAll_reach n C t2 t3 _ _ hT3
  obtain ⟨hsideC, hside⟩ := allSideM_append n C _ t2 t3 hside hr3
  obtain ⟨is1, t4, he1, hs1, hT⟩ := trackAll_cons n t3 s .intoProof _ out3 _ hT
  simp only [emit1, Option.some.injEq] at he1
  subst he1
  rw [addOut_nil] at hT
  have hsideP := hside.2 t4 hs1
  -- gamma
  have hR0 : R (PySt.init claims) ⟨[], [], []⟩ :=
    ⟨by simp [PySt.init, live], by simp [PySt.init], fun h => by simp [PySt.init] at h⟩
  obtain ⟨isG, m1, js1, hout1, hrun1, hR1, hSht1, hC1, hjs1, hph1⟩ :=
    trackAll_sim_pub n G _ t1 ⟨[], [], []⟩ _ out1 hR0 hS0 (by simp [PySt.init, CanonTab])
      (allSide_of n G _ hsideG (fun x hx => ⟨(hnsG x hx).1, (hnsG x hx).2.1⟩)) hT1
  -- into the claim phase
  have hR2 := sim_intoClaim n t1 t2 m1 hR1 hs0
  obtain ⟨_, ht2⟩ := intoClaim_spec n t1 t2 hs0
  have hph2 : t2.phase = .claim := by rw [ht2]
  have hSht2 : ShapeSt t2 := by rw [ht2]; exact ⟨by simp, hSht1.2.1, hSht1.2.2⟩
  have hsym2 : t2.symtab = t1.symtab := by rw [ht2]
  obtain ⟨isC, m2, js2, hout3, hrun2, hR3, hSht3, hC3, hjs2, hph3⟩ :=
    trackAll_sim_pub n C t2 t3 { m1 with stack := [] } out1 out3 hR2 hSht2 (by rw [hsym2]; exact hC1)
      (allSide_of n C t2 hsideC (fun x hx => ⟨(hnsC x hx).1, (hnsC x hx).2.1⟩)) hT3
  have hcl1 : m1.claims = [] := by
    have := (run_claims .gamma isG ⟨[], [], []⟩ m1 js1 (by simpa [PySt.init] using hrun1)).1 rfl
    simpa using this
  have hcl2 : m2.claims = js2.reverse := by
    have := (run_claims .claim isC { m1 with stack := [] } m2 js2
      (by rw [hph2] at hrun2; exact hrun2)).2 rfl
    simpa [hcl1] using this
  have htc1 : t1.claims = claims := by
    rw [reach_claims n G _ t1 hr1 (fun x hx => (hnsG x hx).2.2)]; rfl
  have htc2 : t2.claims = claims := by rw [ht2]; exact htc1
  have htc3 : t3.claims = claims := by
    rw [reach_claims n C t2 t3 hr3 (fun x hx => (hnsC x hx).2.2), htc2]
  have hpC' := hpC t1 t2 hr1 hs0
  have hclm2 : m2.claims = t3.claims.map NPat.expand := by
    rw [hcl2, hjs2, hpC', htc3]; simp [List.map_reverse]
  -- into the proof phase
  have hR4 := sim_intoProof n t3 t4 m2 hR3 hclm2 hs1
  obtain ⟨_, ht4⟩ := intoProof_spec n t3 t4 hs1
  have hph4 : t4.phase = .proof := by rw [ht4]
  have hSht4 : ShapeSt t4 := by rw [ht4]; exact ⟨by simp, hSht3.2.1, hSht3.2.2⟩
  have hsym4 : t4.symtab = t3.symtab := by rw [ht4]
  obtain ⟨isP, m3, js3, hout, hrun3, hR, _, _, _, hphs⟩ :=
    trackAll_sim_pub n P t4 s { m2 with stack := [] } out3 (g, c, p) hR4 hSht4
      (by rw [hsym4]; exact hC3) (allSide_of n P t4 hsideP hPns) hT
  have hcl3 : m3.claims = [] := by
    rw [hR.claims (by rw [hphs, hph4]), hfin]; rfl
  -- the three streams
  have hph0 : (PySt.init claims).phase = .gamma := rfl
  rw [hph0] at hout1 hrun1
  rw [hph2] at hout3 hrun2
  rw [hph4] at hout hrun3
  subst hout1
  subst hout3
  simp only [addOut, Prod.mk.injEq] at hout
  obtain ⟨rfl, rfl, rfl⟩ := hout
  simp [verify, hrun1, hrun2, hrun3, hcl3, hjs1, hpG, hjs2, hpC']

/-! ## the history of `translateFull` -/

theorem reach_det {n : Nat} : ∀ {cs : List Call} {s a b : PySt}, Reach n s cs a → Reach n s cs b → a = b := by
  intro cs
  induction cs with
  | nil => intro s a b ha hb; simp only [Reach] at ha hb; rw [ha, hb]
  | cons c cs ih =>
    intro s a b ha hb
    obtain ⟨s1, h1, ha⟩ := ha
    obtain ⟨s2, h2, hb⟩ := hb
    rw [h1] at h2
    cases h2
    exact ih ha hb

/-- the shape of the history: gamma calls, the switch, claim calls, the switch, proof calls; each
part with its side conditions (all but the symbol naming) and the journal of the first two -/
theorem translate_trace (cfg : Cfg) (n : Nat) (db : DB) (goal : Term) (labels : List Lbl)
    (steps : List Nat) (s : PySt) (calls : List Call) (hwf : db.WF)
    (hex : translateFull cfg n db goal labels steps = some (some (s, calls))) :
    ∃ G C P t1 t2 t3 t4, calls = G ++ .intoClaim :: (C ++ .intoProof :: P) ∧
      Tr n (PySt.init [image db goal]) G t1 ∧ track1 n t1 .intoClaim = some (some t2) ∧
      Tr n t2 C t3 ∧ track1 n t3 .intoProof = some (some t4) ∧ Tr n t4 P s ∧
      published n (PySt.init [image db goal]) G = db.axiomImages.map NPat.expand ∧
      published n t2 C = [image db goal].reverse.map NPat.expand ∧
      (∀ x ∈ G, x ≠ .intoClaim ∧ x ≠ .intoProof ∧ x ≠ .publishProof) ∧
      (∀ x ∈ C, x ≠ .intoClaim ∧ x ≠ .intoProof ∧ x ≠ .publishProof) ∧
      (∀ x ∈ P, x ≠ .intoClaim ∧ x ≠ .intoProof) := by
  have hg0 : (image db goal).F0 = true := B0.toF0 _ (image_B0 db goal)
  have hs0 : StF0 (PySt.init [image db goal]) :=
    ⟨by simp [PySt.init], by simp [PySt.init], by simp [PySt.init]; exact hg0⟩
  unfold translateFull at hex
  obtain ⟨⟨e1, a1⟩, hpub1, hex⟩ := bind_some_some hex rfl
  obtain ⟨⟨e2, a2⟩, hd1, hex⟩ := bind_some_some hex rfl
  obtain ⟨⟨e3, a3⟩, hpub2, hex⟩ := bind_some_some hex rfl
  obtain ⟨⟨e4, a4⟩, hd2, hex⟩ := bind_some_some hex rfl
  simp only [] at hex
  obtain ⟨G, hG, trG, hpG, hsf1, hnsG⟩ := pub_seg cfg (Nat.le_refl n) .publishAxiom (Or.inl rfl)
    db.axiomImages _ [] e1 a1 (implChain_mem_B0 db) hs0 hpub1
  simp only [List.nil_append] at hG
  subst hG
  obtain ⟨ht1, rfl⟩ := doCalls_one hd1
  obtain ⟨_, he2⟩ := intoClaim_spec n e1 e2 ht1
  have hsf2 : StF0 e2 := by rw [he2]; exact ⟨by simp, hsf1.2.1, hsf1.2.2⟩
  obtain ⟨C, hC, trC, hpC, hsf3, hnsC⟩ := pub_seg cfg (Nat.le_refl n) .publishClaim (Or.inr rfl)
    [image db goal].reverse e2 _ e3 a3 (by simp; exact image_B0 db goal) hsf2 hpub2
  subst hC
  obtain ⟨ht3, rfl⟩ := doCalls_one hd2
  obtain ⟨_, he4⟩ := intoProof_spec n e3 e4 ht3
  have hI4 : TInv ⟨e4, a1 ++ [.intoClaim] ++ C ++ [.intoProof], []⟩ := by
    refine ⟨⟨by rw [he4], by rw [he4]; simp, ?_⟩, by simp⟩
    rw [he4]; exact ⟨by simp, hsf3.2.1, hsf3.2.2⟩
  obtain ⟨P, hP, trP, hPns⟩ := execProof_seg cfg (Nat.le_refl n) db hwf goal labels steps e4 _ s calls
    hI4 hex
  exact ⟨a1, C, P, e1, e2, e3, e4, by rw [hP]; simp [List.append_assoc], trG, ht1, trC, ht3, trP, hpG,
    hpC, hnsG, hnsC, hPns⟩

/-- the whole history as one trace -/
theorem translate_tr (cfg : Cfg) (n : Nat) (db : DB) (goal : Term) (labels : List Lbl)
    (steps : List Nat) (s : PySt) (calls : List Call) (hwf : db.WF)
    (hex : translateFull cfg n db goal labels steps = some (some (s, calls))) :
    Tr n (PySt.init [image db goal]) calls s := by
  obtain ⟨G, C, P, t1, t2, t3, t4, rfl, trG, ht1, trC, ht3, trP, _⟩ :=
    translate_trace cfg n db goal labels steps s calls hwf hex
  exact trG.append (Tr.cons ht1 (Or.inl (Or.inl rfl)) (trC.append (Tr.cons ht3 (Or.inl (Or.inr rfl)) trP)))

/-- the side conditions of the whole history follow from well-formedness of the database and the
canonical naming of symbols -/
theorem translate_side (cfg : Cfg) (n : Nat) (db : DB) (goal : Term) (labels : List Lbl)
    (steps : List Nat) (s : PySt) (calls : List Call) (hwf : db.WF)
    (hex : translateFull cfg n db goal labels steps = some (some (s, calls)))
    (hcanon : CanonCalls [] calls) :
    AllSideM n (PySt.init [image db goal]) calls ∧ Reach n (PySt.init [image db goal]) calls s :=
  have htr := translate_tr cfg n db goal labels steps s calls hwf hex
  ⟨allSideM_of_NS n _ _ htr.2 hcanon, htr.1⟩

/-- the replay `hT` of T2 is derivable: the collected calls are accepted by `trackAll` -/
theorem emit1_of_track1 {n : Nat} {s s' : PySt} {c : Call} (h : track1 n s c = some (some s')) :
    ∃ is, emit1 n s c = some (some is) := by
  cases c with
  | load t =>
    simp only [track1, Option.bind_eq_bind, Option.bind_eq_some_iff] at h
    obtain ⟨oi, hi, h⟩ := h
    cases oi with
    | none => simp at h
    | some i => exact ⟨[.load i], by simp [emit1, hi]⟩
  | metavar id ef sf ps ns hs => simp only [emit1]; split <;> exact ⟨_, rfl⟩
  | _ => exact ⟨_, rfl⟩

theorem reach_trackAll {n : Nat} : ∀ (cs : List Call) (s s' : PySt)
    (out : List Instr × List Instr × List Instr), Reach n s cs s' →
    ∃ out', trackAll n s cs out = some (some (s', out')) := by
  intro cs
  induction cs with
  | nil =>
    intro s s' out h
    simp only [Reach] at h; subst h
    exact ⟨out, by simp [trackAll]⟩
  | cons c cs ih =>
    intro s s' out h
    obtain ⟨s1, h1, hr⟩ := h
    obtain ⟨is, he⟩ := emit1_of_track1 h1
    obtain ⟨g, cl, pf⟩ := out
    obtain ⟨out', ho⟩ := ih s1 s' (match s.phase with
        | .gamma => (g ++ is, cl, pf)
        | .claim => (g, cl ++ is, pf)
        | .proof => (g, cl, pf ++ is)) hr
    exact ⟨out', by simp only [trackAll, he, h1, Option.bind_eq_bind, Option.bind_some]; exact ho⟩

theorem translate_trackAll (cfg : Cfg) (n : Nat) (db : DB) (goal : Term) (labels : List Lbl)
    (steps : List Nat) (s : PySt) (calls : List Call) (hwf : db.wf = true)
    (hex : translateFull cfg n db goal labels steps = some (some (s, calls))) :
    ∃ g c p, PySt.trackAll n (PySt.init [image db goal]) calls ([], [], []) = some (some (s, (g, c, p))) := by
  obtain ⟨⟨g, c, p⟩, h⟩ := reach_trackAll _ _ s ([], [], [])
    (translate_tr cfg n db goal labels steps s calls (db.wf_WF hwf) hex).1
  exact ⟨g, c, p, h⟩

/-- T2. The checker accepts the serialised translation; the published theory is the structural image
of the database's axioms and the published claim the image of the goal.  No side condition is
assumed: they follow from `db.wf` and the canonical naming of symbols. -/
theorem translate_accepted_core (cfg : PySt.Cfg) (n : Nat) (db : DB) (goal : Term) (labels : List Lbl)
    (steps : List Nat) (s : PySt) (calls : List Call) (g c p : List Instr)
    (hwf : db.wf = true)
    (hex : translateFull cfg n db goal labels steps = some (some (s, calls)))
    (hT : PySt.trackAll n (PySt.init [image db goal]) calls ([], [], []) = some (some (s, (g, c, p))))
    (hcanon : CanonCalls [] calls) (hfin : s.claims = []) :
    verify g c p = some (db.axiomImages.map NPat.expand, [(image db goal).expand]) := by
  have hWF := db.wf_WF hwf
  obtain ⟨hside, _⟩ := translate_side cfg n db goal labels steps s calls hWF hex hcanon
  obtain ⟨G, C, P, t1, t2, t3, t4, rfl, trG, ht1, trC, ht3, trP, hpG, hpC, hnsG, hnsC, hPns⟩ :=
    translate_trace cfg n db goal labels steps s calls hWF hex
  have := phases_accepted n [image db goal] G C P s g c p (db.axiomImages.map NPat.expand)
    (by simp; exact F0.shape _ (B0.toF0 _ (image_B0 db goal))) hT hside hnsG hnsC hPns hpG
    (by
      intro t1' t2' hr1 hs1
      have e1 := reach_det hr1 trG.1
      subst e1
      rw [ht1] at hs1
      cases hs1
      exact hpC) hfin
  simpa using this

end MM
#print axioms MM.translate_accepted_core
#print axioms MM.translate_trackAll
