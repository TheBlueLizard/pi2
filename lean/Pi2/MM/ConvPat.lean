import Pi2.MM.ConvPass1
/-!
# `_resolve`, `_resolve_as_callable`, `_to_pattern`: the closure a term is converted to
-/
set_option linter.unusedSimpArgs false
set_option linter.unusedVariables false
open MM SliceSup ConvSup Gen.MMConv

namespace ConvTie

/-! ## the symbols seen so far -/
def symData (σ : String → Nat) (S : List String) : PyDict NPat := S.map fun s => (s, mkSymbol σ s)

/-- the converter with the symbols `S` registered (all of them through the "missing declaration" path of `_resolve`) -/
def withSyms (σ : String → Nat) (c : ConvObj) (S : List String) : ConvObj :=
  { c with _symbols := ⟨symData σ S, some PyType.Symbol⟩, _missing_declarations := S }

structure SymState (σ : String → Nat) (c : ConvObj) (S : List String) : Prop where
  syms : c._symbols = ⟨symData σ S, some PyType.Symbol⟩
  missing : c._missing_declarations = S

theorem withSyms_self (σ : String → Nat) (c : ConvObj) (S : List String) (h : SymState σ c S) : withSyms σ c S = c := by
  cases c
  simp only [withSyms]
  have h1 := h.syms
  have h2 := h.missing
  simp only [] at h1 h2
  simp [h1, h2]

theorem symState_withSyms (σ : String → Nat) (c : ConvObj) (S : List String) : SymState σ (withSyms σ c S) S := ⟨rfl, rfl⟩
theorem withSyms_withSyms (σ : String → Nat) (c : ConvObj) (S T : List String) : withSyms σ (withSyms σ c S) T = withSyms σ c T := rfl

theorem symData_keys (σ : String → Nat) (S : List String) : (symData σ S).map (·.1) = S := by
  simp [symData, Function.comp_def]

theorem symData_lookup (σ : String → Nat) (S : List String) (s : String) (h : s ∈ S) :
    (symData σ S).lookup s = some (mkSymbol σ s) := by
  induction S with
  | nil => simp at h
  | cons x S ih =>
    simp only [symData, List.map_cons, List.lookup]
    by_cases e : s = x
    · subst e; simp
    · have : (s == x) = false := by simp [e]
      simp only [this]
      exact ih (by simpa [e] using h)

theorem vdHas_symData (σ : String → Nat) (S : List String) (s : String) :
    vdHas ⟨symData σ S, some PyType.Symbol⟩ s = decide (s ∈ S) := by
  have := dictHas_iff (symData σ S) s
  rw [symData_keys] at this
  simp only [vdHas]
  by_cases h : s ∈ S
  · simp [h, this.mpr h]
  · simp only [h, decide_false]
    cases hh : dictHas (symData σ S) s
    · rfl
    · exact absurd (this.mp hh) h

/-- `_resolve` on a name that is (or becomes) a symbol -/
theorem resolve_const (σ : String → Nat) (fuel : Nat) (c : ConvObj) (S : List String) (scope : ScopeObj) (s : String)
    (hS : SymState σ c S) (hK : s ∈ c._declared_constants) :
    _resolve σ fuel c scope s = .ok (withSyms σ c (setAdd S s), mkSymbol σ s) := by
  by_cases hs : s ∈ S
  · rw [setAdd_mem S s hs, withSyms_self σ c S hS]
    simp [_resolve, _is_symbol, hS.syms, vdHas_symData, hs, vdGet, dictGet, ofOption, symData_lookup σ S s hs, bind, Res.bind, pure]
  · rw [setAdd_new S s hs]
    have hfit : vdFits (some PyType.Symbol) (mkSymbol σ s) = true := rfl
    have hnew : s ∉ (symData σ S).map (·.1) := by rw [symData_keys]; exact hs
    have hd : symData σ S ++ [(s, mkSymbol σ s)] = symData σ (S ++ [s]) := by simp [symData]
    have hl : (symData σ (S ++ [s])).lookup s = some (mkSymbol σ s) := symData_lookup σ _ s (by simp)
    have hK' : c._declared_constants.contains s = true := by simpa using hK
    simp [_resolve, _is_symbol, hS.syms, vdHas_symData, hs, hK, _add_symbol, vdSet, hfit, dictSet_new _ _ _ hnew, hd,
      vdGet, dictGet, ofOption, hl, bind, Res.bind, pure, withSyms, hS.missing, setAdd_new S s hs]

/-- `_resolve` on a name that is neither a symbol nor a constant: the scope decides -/
theorem resolve_var (σ : String → Nat) (fuel : Nat) (c : ConvObj) (S : List String) (scope : ScopeObj) (v : String)
    (hS : SymState σ c S) (hs : v ∉ S) (hK : v ∉ c._declared_constants) :
    _resolve σ fuel c scope v = (Scope_resolve σ fuel scope v >>= fun p => .ok (c, p)) := by
  simp [_resolve, _is_symbol, hS.syms, vdHas_symData, hs, hK, bind, Res.bind, pure]

theorem resolve_ro_var (σ : String → Nat) (fuel : Nat) (view : SelfView) (S : List String) (scope : ScopeObj) (v : String)
    (hS : view._symbols = ⟨symData σ S, some PyType.Symbol⟩) (hs : v ∉ S) (hK : v ∉ view._declared_constants) :
    _resolve_ro σ fuel view scope v = Scope_resolve σ fuel scope v := by
  simp [_resolve_ro, _is_symbol_ro, hS, vdHas_symData, hs, hK, bind, Res.bind, pure]

/-- `Scope.resolve` of a metavariable -/
theorem scope_resolve_mv (σ : String → Nat) (fuel : Nat) (scope : ScopeObj) (v : String) (p : NPat)
    (h : scope._metavars.data.lookup v = some p) : Scope_resolve σ fuel scope v = .ok p := by
  simp [Scope_resolve, vdHas, dictHas, h, vdGet, dictGet, ofOption, bind, Res.bind, pure]

/-! ## the built-in notations -/
structure GoodNotations (N : PyDict (List Notation)) : Prop where
  keys : ∀ s, dictHas N s = (s == "\\app" || s == "\\imp" || s == "\\exists" || s == "\\mu")
  imp : ∃ n : Notation, N.lookup "\\imp" = some [n] ∧
    ∀ view a b, n.type_check view [a, b] = .ok true ∧ n.callable view [a, b] = .ok (.imp a b)
  app : ∃ n : Notation, N.lookup "\\app" = some [n] ∧
    ∀ view a b, n.type_check view [a, b] = .ok true ∧ n.callable view [a, b] = .ok (.app a b)

theorem resolve_notation_single (σ : String → Nat) (fuel : Nat) (scope : ScopeObj) (name : String) (n : Notation) (args : List NPat)
    (h : scope._notations.lookup name = some [n]) : Scope_resolve_notation σ fuel scope name args = .ok n := by
  simp [Scope_resolve_notation, dictHas, h, dictGet, ofOption, bind, Res.bind, pure]

theorem notation_call_ok (σ : String → Nat) (fuel : Nat) (n : Notation) (view : SelfView) (args : List NPat) (p : NPat)
    (h1 : n.type_check view args = .ok true) (h2 : n.callable view args = .ok p) :
    Notation_call σ fuel n view args = .ok p := by
  simp [Notation_call, h1, h2, bind, Res.bind, pure]

/-! ## `_resolve_as_callable` -/
/-- what a closure computes: on arguments that give each variable of `names` its value, the pattern `P val` -/
def ClosureSpec (f : Closure) (names : List String) (P : (String → NPat) → NPat) : Prop :=
  ∀ (view : SelfView) (args : List NPat) (val : String → NPat),
    (∀ v ∈ names, args[names.idxOf v]? = some (val v)) → f view args = .ok (P val)

theorem resolve_as_callable_arg (σ : String → Nat) (fuel : Nat) (c : ConvObj) (ns : ScopeObj) (v : String) (hv : v ∈ ns._args) :
    ∃ f, _resolve_as_callable σ fuel c ns v = .ok (c, f) ∧ ClosureSpec f ns._args (fun val => val v) := by
  refine ⟨_, by simp [_resolve_as_callable, NotationScope_is_arg, hv, bind, Res.bind, pure]; rfl, ?_⟩
  intro view args val hval
  have h := hval v hv
  have hlt : ns._args.idxOf v < args.length := by
    rcases Nat.lt_or_ge (ns._args.idxOf v) args.length with h' | h'
    · exact h'
    · rw [List.getElem?_eq_none h'] at h; cases h
  simp [ConvSup.pyAssert, hlt, listGet, ofOption, h, bind, Res.bind, pure]
  rw [List.getElem?_eq_getElem hlt] at h
  exact Option.some.inj h

theorem resolve_as_callable_const (σ : String → Nat) (fuel : Nat) (c : ConvObj) (S : List String) (ns : ScopeObj) (s : String)
    (hS : SymState σ c S) (hK : s ∈ c._declared_constants) (hv : s ∉ ns._args) :
    ∃ f, _resolve_as_callable σ fuel c ns s = .ok (withSyms σ c (setAdd S s), f) ∧
      ∀ view args, f view args = .ok (mkSymbol σ s) := by
  refine ⟨_, by simp [_resolve_as_callable, NotationScope_is_arg, hv, bind, Res.bind, pure, resolve_const σ fuel c S ns s hS hK]; rfl, ?_⟩
  intro view args
  rfl

end ConvTie

namespace ConvTie

/-! ## `_to_pattern` -/
mutual
def tsize : MTerm → Nat
  | .mv _ => 1
  | .app _ args => 1 + tsizes args
def tsizes : List MTerm → Nat
  | [] => 0
  | t :: ts => tsize t + tsizes ts
end

theorem tsize_pos : ∀ t : MTerm, 0 < tsize t
  | .mv _ => by simp [tsize]
  | .app _ _ => by simp [tsize]; omega

theorem tsizes_ge_length : ∀ ts : List MTerm, ts.length ≤ tsizes ts
  | [] => by simp [tsizes]
  | t :: ts => by
      have := tsizes_ge_length ts
      have := tsize_pos t
      simp [tsizes]; omega

theorem tsize_le_tsizes {t : MTerm} : ∀ {ts : List MTerm}, t ∈ ts → tsize t ≤ tsizes ts
  | x :: xs, h => by
      simp only [List.mem_cons] at h
      simp only [tsizes]
      rcases h with rfl | h
      · omega
      · have := tsize_le_tsizes h; omega

def isBuiltin (s : String) : Bool := s == "\\app" || s == "\\imp" || s == "\\exists" || s == "\\mu"

mutual
/-- the constants `_resolve` meets while a term is converted, in that order -/
def symsOf : MTerm → List String
  | .mv _ => []
  | .app s args => if s = "\\imp" ∨ s = "\\app" then symsOfL args else s :: symsOfL args
def symsOfL : List MTerm → List String
  | [] => []
  | t :: ts => symsOf t ++ symsOfL ts
end

mutual
/-- a term of the fragment over the constants `K` and the variables `names` -/
def wfTerm (K names : List String) : MTerm → Bool
  | .mv v => names.contains v && !isBuiltin v
  | .app s args =>
      if s = "\\imp" ∨ s = "\\app" then args.length == 2 && wfTerms K names args
      else !isBuiltin s && K.contains s && !names.contains s && wfTerms K names args
def wfTerms (K names : List String) : List MTerm → Bool
  | [] => true
  | t :: ts => wfTerm K names t && wfTerms K names ts
end

mutual
/-- the pattern a term stands for, given the patterns of its variables -/
def patOf (σ : String → Nat) (val : String → NPat) : MTerm → NPat
  | .mv v => val v
  | .app s args =>
      if s = "\\imp" then
        (match patsOf σ val args with | [p, q] => .imp p q | _ => .evar 0)
      else if s = "\\app" then
        (match patsOf σ val args with | [p, q] => .app p q | _ => .evar 0)
      else (patsOf σ val args).foldl (fun acc p => .app acc p) (.sym (σ s))
def patsOf (σ : String → Nat) (val : String → NPat) : List MTerm → List NPat
  | [] => []
  | t :: ts => patOf σ val t :: patsOf σ val ts
end

theorem patsOf_length (σ : String → Nat) (val : String → NPat) : ∀ ts : List MTerm, (patsOf σ val ts).length = ts.length
  | [] => rfl
  | _ :: ts => by simp [patsOf, patsOf_length σ val ts]

theorem setUnion_append (S a b : List String) : setUnion (setUnion S a) b = setUnion S (a ++ b) := by
  simp [setUnion, List.foldl_append]

/-- a list of closures computes the patterns of a list of terms -/
inductive ClosuresSpec (σ : String → Nat) (names : List String) : List Closure → List MTerm → Prop
  | nil : ClosuresSpec σ names [] []
  | cons {f : Closure} {fs : List Closure} {t : MTerm} {ts : List MTerm} : ClosureSpec f names (fun val => patOf σ val t) →
      ClosuresSpec σ names fs ts → ClosuresSpec σ names (f :: fs) (t :: ts)

theorem ClosuresSpec.length_eq {σ : String → Nat} {names : List String} {fs : List Closure} {ts : List MTerm}
    (h : ClosuresSpec σ names fs ts) : fs.length = ts.length := by
  induction h with
  | nil => rfl
  | cons _ _ ih => simp [ih]

theorem mapR_closures (σ : String → Nat) (names : List String) (view : SelfView) (args : List NPat) (val : String → NPat)
    (hval : ∀ v ∈ names, args[names.idxOf v]? = some (val v)) :
    ∀ (fs : List Closure) (ts : List MTerm), ClosuresSpec σ names fs ts →
      mapR fs (fun f => f view args) = .ok (patsOf σ val ts) := by
  intro fs ts h
  induction h with
  | nil => rfl
  | cons hf _ ih =>
    simp only [mapR, List.mapM_cons, bind, Res.bind, pure, patsOf] at ih ⊢
    rw [hf view args val hval]
    simp only [ih]

theorem whileM_list {α β : Type} (cond : List α × β → Bool) (body : List α × β → Res (List α × β)) (R : List α → β → Prop)
    (hcond : ∀ xs b, cond (xs, b) = decide (xs.length > 0))
    (hstep : ∀ x xs b, R (x :: xs) b → ∃ b', body (x :: xs, b) = .ok (xs, b') ∧ R xs b') :
    ∀ (xs : List α) (b : β) (fuel : Nat), R xs b → fuel > xs.length →
      ∃ b', whileM cond body fuel (xs, b) = .ok ([], b') ∧ R [] b' := by
  intro xs
  induction xs with
  | nil =>
    intro b fuel hR hf
    cases fuel with
    | zero => omega
    | succ n => exact ⟨b, by simp [whileM, hcond], hR⟩
  | cons x xs ih =>
    intro b fuel hR hf
    cases fuel with
    | zero => omega
    | succ n =>
      obtain ⟨b', hb, hR'⟩ := hstep x xs b hR
      obtain ⟨b'', hw, hR''⟩ := ih b' n hR' (by simp at hf; omega)
      exact ⟨b'', by simp [whileM, hcond, hb, hw, bind, Res.bind], hR''⟩

end ConvTie

namespace ConvTie

/-- the loop of `_to_pattern` that applies a symbol to its converted arguments (`while len(converted_args) > 0:` with the local
function `resolve_as_app` inlined): the text of `Pi2/Gen/MMConv.lean`, checked by `rfl` where it is used -/
def appStep (σ : String → Nat) (fuel : Nat) (scope : ScopeObj) : List Closure × Closure → Res (List Closure × Closure) :=
  fun (converted_args, current_callable) => do
    let (next_one, converted_args) ← headRest converted_args
    let current_callable ← (do
      let app ← Scope_resolve_notation σ fuel scope "\\app" []
      let symbol_application : Closure := fun view args => do
        let real_args := [(← current_callable view args), (← next_one view args)]
        pure (← Notation_call σ fuel app view real_args)
      pure symbol_application)
    pure (converted_args, current_callable)

theorem is_notation_eq (σ : String → Nat) (fuel : Nat) (ns : ScopeObj) (hN : GoodNotations ns._notations) (s : String) :
    Scope_is_notation σ fuel ns s = isBuiltin s := by
  simp [Scope_is_notation, hN.keys, isBuiltin]

theorem to_pattern_ok (σ : String → Nat) (ns : ScopeObj) (hN : GoodNotations ns._notations) :
    ∀ (F : Nat) (t : MTerm) (c : ConvObj) (S : List String), tsize t < F → SymState σ c S →
      wfTerm c._declared_constants ns._args t = true →
      ∃ f, _to_pattern σ F c ns t = .ok (withSyms σ c (setUnion S (symsOf t)), f) ∧
        ClosureSpec f ns._args (fun val => patOf σ val t) := by
  intro F
  induction F with
  | zero => intro t _ _ h; omega
  | succ f ih =>
    -- the list version at fuel `f`
    have hlist : ∀ (ts : List MTerm) (c : ConvObj) (S : List String), (∀ t ∈ ts, tsize t < f) → SymState σ c S →
        wfTerms c._declared_constants ns._args ts = true →
        ∃ fs, mapS ts c (fun c a => _to_pattern σ f c ns a) = .ok (withSyms σ c (setUnion S (symsOfL ts)), fs) ∧
          ClosuresSpec σ ns._args fs ts := by
      intro ts
      induction ts with
      | nil =>
        intro c S _ hS _
        exact ⟨[], by simp [mapS, symsOfL, setUnion, withSyms_self σ c S hS], .nil⟩
      | cons t ts iht =>
        intro c S hsz hS hwf
        simp only [wfTerms, Bool.and_eq_true] at hwf
        obtain ⟨g, hg, hgs⟩ := ih t c S (hsz t (by simp)) hS hwf.1
        obtain ⟨gs, hgs1, hgs2⟩ := iht (withSyms σ c (setUnion S (symsOf t))) (setUnion S (symsOf t))
          (fun t' ht' => hsz t' (by simp [ht'])) (symState_withSyms σ c _) hwf.2
        refine ⟨g :: gs, ?_, .cons hgs hgs2⟩
        simp only [mapS, hg, hgs1, bind, Res.bind, pure, withSyms_withSyms, symsOfL, setUnion_append]
    intro t c S hsz hS hwf
    cases t with
    | mv v =>
      simp only [wfTerm, Bool.and_eq_true, List.contains_eq_mem, decide_eq_true_eq, Bool.not_eq_true'] at hwf
      obtain ⟨g, hg, hgs⟩ := resolve_as_callable_arg σ f c ns v hwf.1
      refine ⟨fun view args => g view args, ?_, hgs⟩
      simp [_to_pattern, is_notation_eq σ f ns hN, hwf.2, hg, bind, Res.bind, pure, symsOf, setUnion, withSyms_self σ c S hS]
    | app s args =>
      have hargs : ∀ t ∈ args, tsize t < f := by
        intro t ht
        have := tsize_le_tsizes ht
        simp only [tsize] at hsz
        omega
      by_cases hb : s = "\\imp" ∨ s = "\\app"
      · -- a built-in binary notation
        simp only [wfTerm, hb, if_true, Bool.and_eq_true, beq_iff_eq] at hwf
        obtain ⟨gs, hgs1, hgs2⟩ := hlist args c S hargs hS hwf.2
        have hbi : isBuiltin s = true := by rcases hb with rfl | rfl <;> decide
        refine ⟨_, by simp [_to_pattern, is_notation_eq σ f ns hN, hbi, hgs1, bind, Res.bind, pure, symsOf, hb]; rfl, ?_⟩
        intro view vargs val hval
        have hm := mapR_closures σ ns._args view vargs val hval gs args hgs2
        have hlen := patsOf_length σ val args
        rw [hwf.1] at hlen
        match hp : patsOf σ val args, hlen with
        | [p, q], _ =>
          rcases hb with rfl | rfl
          · obtain ⟨n, hn1, hn2⟩ := hN.imp
            simp [hm, hp, resolve_notation_single σ f ns _ n _ hn1, notation_call_ok σ f n view [p, q] _ (hn2 view p q).1 (hn2 view p q).2,
              bind, Res.bind, pure, patOf]
          · obtain ⟨n, hn1, hn2⟩ := hN.app
            have hne : ("\\app" : String) ≠ "\\imp" := by decide
            simp [hm, hp, resolve_notation_single σ f ns _ n _ hn1, notation_call_ok σ f n view [p, q] _ (hn2 view p q).1 (hn2 view p q).2,
              bind, Res.bind, pure, patOf, hne]
      · -- a constructor: its symbol applied to the arguments
        simp only [wfTerm, hb, if_false, Bool.and_eq_true, Bool.not_eq_true', List.contains_eq_mem, decide_eq_true_eq,
          decide_eq_false_iff_not] at hwf
        obtain ⟨⟨⟨hnb, hK⟩, hna⟩, hwfa⟩ := hwf
        obtain ⟨g, hg, hgc⟩ := resolve_as_callable_const σ f c S ns s hS hK hna
        have hmiss : (withSyms σ c (setAdd S s))._missing_declarations.contains s = true := by
          simp [withSyms, mem_setAdd]
        have hs1 : s ≠ "\\imp" := fun e => hb (Or.inl e)
        have hs2 : s ≠ "\\app" := fun e => hb (Or.inr e)
        cases hargs0 : args with
        | nil =>
          refine ⟨g, ?_, ?_⟩
          · simp [_to_pattern, is_notation_eq σ f ns hN, hnb, hg, bind, Res.bind, pure, symsOf, hb, symsOfL]
            rfl
          · intro view vargs val _
            simp [hgc, patOf, hs1, hs2, patsOf, mkSymbol]
        | cons a as =>
          rw [← hargs0]
          obtain ⟨gs, hgs1, hgs2⟩ := hlist args (withSyms σ c (setAdd S s)) (setAdd S s) hargs (symState_withSyms σ c _) hwfa
          -- the loop that applies the symbol to the converted arguments one by one
          let R : List Closure → Closure → Prop := fun fs cur =>
            ∃ (ts : List MTerm) (P : (String → NPat) → NPat), ClosuresSpec σ ns._args fs ts ∧ ClosureSpec cur ns._args P ∧
              (fun val => (patsOf σ val ts).foldl (fun acc p => NPat.app acc p) (P val)) =
                (fun val => (patsOf σ val args).foldl (fun acc p => NPat.app acc p) (NPat.sym (σ s)))
          obtain ⟨napp, hn1, hn2⟩ := hN.app
          have hlen : 0 < args.length := by rw [hargs0]; simp
          have hfuel : f > gs.length := by
            have h1 := hgs2.length_eq
            have := tsizes_ge_length args
            simp only [tsize] at hsz
            omega
          have hloop := whileM_list
            (fun (x : List Closure × Closure) => match x with | (converted_args, current_callable) => decide (converted_args.length > 0))
            (appStep σ f ns) R (fun xs b => rfl) ?_ gs g f
            ⟨args, fun _ => NPat.sym (σ s), hgs2, (fun view vargs val _ => by simp [hgc, mkSymbol]), rfl⟩ hfuel
          · obtain ⟨cur', hw, ts', P', hts', hP', hfin⟩ := hloop
            cases hts' with
            | nil =>
              refine ⟨cur', ?_, ?_⟩
              · have hgt : decide (args.length > 0) = true := by simpa using hlen
                simp only [_to_pattern, is_notation_eq σ f ns hN, hnb, hg, bind, Res.bind, pure, hmiss, hgt, Bool.and_self, if_true,
                  Bool.false_eq_true, if_false, hgs1, withSyms_withSyms]
                unfold appStep at hw
                simp only [bind, Res.bind, pure] at hw
                simp only [hw]
                simp [symsOf, hb, setUnion]
              · intro view vargs val hval
                rw [hP' view vargs val hval]
                have := congrFun hfin val
                simp only [patsOf, List.foldl_nil] at this
                simp [this, patOf, hs1, hs2]
          · -- one round of the loop
            intro x xs cur ⟨ts, P, hts, hP, hfin⟩
            cases hts with
            | @cons _ _ t ts ht hts =>
              refine ⟨_, by simp [appStep, headRest, resolve_notation_single σ f ns _ napp _ hn1, bind, Res.bind, pure]; rfl, ts,
                (fun val => NPat.app (P val) (patOf σ val t)), hts, ?_, ?_⟩
              · intro view vargs val hval
                simp [hP view vargs val hval, ht view vargs val hval,
                  notation_call_ok σ f napp view [P val, patOf σ val t] _ (hn2 view _ _).1 (hn2 view _ _).2, bind, Res.bind, pure]
              · rw [← hfin]
                funext val
                simp [patsOf]

end ConvTie
