import Pi2.MM.Translate
import Pi2.ModuleThm
import Pi2.Nary
import Pi2.Fuel
/-!
# Fuel monotonicity: more fuel, same answer
-/
set_option linter.unusedSimpArgs false
set_option linter.unusedVariables false
open Pat

namespace NPat

def MonoAll (n : Nat) : Prop :=
  (∀ δ p, OLe (instF n δ p) (instF (n + 1) δ p)) ∧
  (∀ δ m, OLe (mapF n δ m) (mapF (n + 1) δ m)) ∧
  (∀ p, OLe (metavarsF n p) (metavarsF (n + 1) p)) ∧
  (∀ x plug p, OLe (esubF n x plug p) (esubF (n + 1) x plug p)) ∧
  (∀ x plug p, OLe (ssubF n x plug p) (ssubF (n + 1) x plug p))

end NPat

theorem OLe.andThen {α β γ} {x x' : Option (Option (α × β))} {f f' : α → β → Option (Option γ)}
    (hx : OLe x x') (hf : ∀ a b, OLe (f a b) (f' a b)) : OLe (andThen x f) (andThen x' f') := by
  unfold _root_.andThen
  apply OLe.bind hx
  intro o
  rcases o with _ | ⟨a, b⟩
  · exact OLe.refl _
  · exact hf a b

macro_rules | `(tactic| mono_step1) => `(tactic| apply OLe.andThen)

namespace NPat

theorem monoAll_succ (n : Nat) (ih : MonoAll n) : MonoAll (n + 1) := by
  obtain ⟨hi, hm, hv, he, hs⟩ := ih
  refine ⟨fun δ p => ?_, fun δ m => ?_, fun p => ?_, fun x plug p => ?_, fun x plug p => ?_⟩
  · cases p <;> unfold instF <;> mono_step
  · rcases m with _ | ⟨⟨k, v⟩, r⟩ <;> unfold mapF <;> mono_step
  · cases p <;> unfold metavarsF <;> mono_step
  · cases p <;> unfold esubF <;> mono_step
  · cases p <;> unfold ssubF <;> mono_step

theorem monoAll (n : Nat) : MonoAll n := by
  induction n with
  | zero =>
    exact ⟨fun _ _ => .none _, fun _ _ => .none _, fun _ => .none _, fun _ _ _ => .none _, fun _ _ _ => .none _⟩
  | succ n ih => exact monoAll_succ n ih

theorem instF_step (n : Nat) : ∀ δ p, OLe (instF n δ p) (instF (n + 1) δ p) := (monoAll n).1

theorem instF_mono {n m : Nat} (h : n ≤ m) (δ : List (Nat × NPat)) (p : NPat) :
    OLe (instF n δ p) (instF m δ p) :=
  OLe.of_step (fun n => instF n δ p) (fun n => instF_step n δ p) h

theorem metavarsF_mono {n m : Nat} (h : n ≤ m) (p : NPat) :
    OLe (metavarsF n p) (metavarsF m p) :=
  OLe.of_step (fun n => metavarsF n p) (fun n => (monoAll n).2.2.1 p) h

theorem mapF_mono {n m : Nat} (h : n ≤ m) (δ m' : List (Nat × NPat)) :
    OLe (mapF n δ m') (mapF m δ m') :=
  OLe.of_step (fun n => mapF n δ m') (fun n => (monoAll n).2.1 δ m') h

theorem peqF_step (n : Nat) (a b : NPat) : OLe (peqF n a b) (peqF (n + 1) a b) := by
  have := instF_step
  induction n, a, b using peqF.induct <;> simp only [peqF] <;> mono_step

theorem peqF_mono {n m : Nat} (h : n ≤ m) (a b : NPat) : OLe (peqF n a b) (peqF m a b) :=
  OLe.of_step (fun n => peqF n a b) (fun n => peqF_step n a b) h

theorem headF_step (n : Nat) (a : NPat) : OLe (headF n a) (headF (n + 1) a) := by
  have := instF_step
  induction n, a using headF.induct <;> simp only [headF] <;> mono_step

theorem headF_mono {n m : Nat} (h : n ≤ m) (a : NPat) : OLe (headF n a) (headF m a) :=
  OLe.of_step (fun n => headF n a) (fun n => headF_step n a) h

theorem naryF_step (n : Nat) (a : NPat) : OLe (naryF n a) (naryF (n + 1) a) := by
  have := instF_step
  induction n, a using naryF.induct <;> simp only [naryF] <;> mono_step

/-- more fuel, same answer -/
theorem naryF_mono {n m : Nat} (h : n ≤ m) (p : NPat) (r : NPat × List NPat) (hr : naryF n p = some r) :
    naryF m p = some r :=
  OLe.of_step (fun n => naryF n p) (fun n => naryF_step n p) h r hr

theorem evarIsFreeF_step (n : Nat) (e : VId) (a : NPat) : OLe (evarIsFreeF n e a) (evarIsFreeF (n + 1) e a) := by
  have := instF_step
  induction n generalizing a with
  | zero => exact .none _
  | succ n ih => cases a <;> unfold evarIsFreeF <;> mono_step

theorem pyMP_step (n : Nat) (a b : NPat) : OLe (pyMP n a b) (pyMP (n + 1) a b) := by
  have := headF_step
  have := peqF_step
  unfold pyMP
  mono_step

theorem pyGen_step (n : Nat) (a : NPat) (x : VId) : OLe (pyGen n a x) (pyGen (n + 1) a x) := by
  have := headF_step
  have := evarIsFreeF_step
  unfold pyGen
  mono_step

end NPat

namespace PySt
open NPat

theorem teqF_step (n : Nat) (a b : TTerm) : OLe (teqF n a b) (teqF (n + 1) a b) := by
  have := peqF_step
  unfold teqF
  mono_step

theorem indexF_step (n : Nat) (t : TTerm) (mem : List TTerm) (i : Nat) :
    OLe (indexF n t mem i) (indexF (n + 1) t mem i) := by
  have := teqF_step
  induction mem generalizing i <;> unfold indexF <;> mono_step

theorem inMemoryF_step (n : Nat) (p : NPat) (mem : List TTerm) :
    OLe (inMemoryF n p mem) (inMemoryF (n + 1) p mem) := by
  have := teqF_step
  induction mem <;> unfold inMemoryF <;> mono_step

theorem track1_step (n : Nat) (s : PySt) (c : Call) : OLe (track1 n s c) (track1 (n + 1) s c) := by
  have := pyMP_step
  have := pyGen_step
  have := instF_step
  have := indexF_step
  have := peqF_step
  unfold track1
  mono_step

theorem track1_mono {n m : Nat} (h : n ≤ m) (s : PySt) (c : Call) :
    OLe (track1 n s c) (track1 m s c) :=
  OLe.of_step (fun n => track1 n s c) (fun n => track1_step n s c) h

theorem emit1_step (n : Nat) (s : PySt) (c : Call) : OLe (emit1 n s c) (emit1 (n + 1) s c) := by
  have := indexF_step
  unfold emit1
  mono_step

theorem doCalls_step (n : Nat) (cs : List Call) (s : PySt) (acc : List Call) :
    OLe (doCalls n s cs acc) (doCalls (n + 1) s cs acc) := by
  have := track1_step
  induction cs generalizing s acc <;> unfold doCalls <;> mono_step

theorem doCalls_mono {n m : Nat} (h : n ≤ m) (cs : List Call) (s : PySt) (acc : List Call) :
    OLe (doCalls n s cs acc) (doCalls m s cs acc) :=
  OLe.of_step (fun n => doCalls n s cs acc) (fun n => doCalls_step n cs s acc) h

end PySt

namespace PySt

def PatMono (cfg : Cfg) (n : Nat) : Prop :=
  (∀ s p acc, OLe (patternF cfg n s p acc) (patternF cfg (n + 1) s p acc)) ∧
  (∀ s ps acc, OLe (patternF.patternListF cfg n s ps acc) (patternF.patternListF cfg (n + 1) s ps acc))

theorem memoHitF_step (cfg : Cfg) (n : Nat) (p : NPat) (s : PySt) :
    OLe (memoHitF cfg n p s) (memoHitF cfg (n + 1) p s) := by
  have := inMemoryF_step
  unfold memoHitF
  mono_step

theorem saveF_step (cfg : Cfg) (n : Nat) (p : NPat) (s : PySt) (a : List Call) :
    OLe (saveF cfg n p s a) (saveF cfg (n + 1) p s a) := by
  have := doCalls_step
  unfold saveF
  mono_step

theorem buildF_step (cfg : Cfg) (n : Nat) (ih : PatMono cfg n) (s : PySt) (p : NPat)
    (acc : List Call) : OLe (buildF cfg n s p acc) (buildF cfg (n + 1) s p acc) := by
  obtain ⟨hp, hl⟩ := ih
  have := doCalls_step
  unfold buildF
  mono_step

theorem patMono (cfg : Cfg) (n : Nat) : PatMono cfg n := by
  have := doCalls_step
  have := memoHitF_step
  have := saveF_step
  induction n with
  | zero => exact ⟨fun _ _ _ => .none _, fun _ _ _ => .none _⟩
  | succ n ih =>
    have := buildF_step cfg n ih
    obtain ⟨hp, hl⟩ := ih
    refine ⟨fun s p acc => ?_, fun s ps acc => ?_⟩
    · rw [patternF_succ, patternF_succ]
      mono_step
    · cases ps with
      | nil => exact OLe.refl _
      | cons p ps =>
        rw [patternListF_cons, patternListF_cons]
        mono_step

theorem patternF_mono (cfg : Cfg) {n m : Nat} (h : n ≤ m) (s : PySt) (p : NPat) (acc : List Call) :
    OLe (patternF cfg n s p acc) (patternF cfg m s p acc) :=
  OLe.of_step (fun n => patternF cfg n s p acc) (fun n => (patMono cfg n).1 s p acc) h

end PySt
