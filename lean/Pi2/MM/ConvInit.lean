import Pi2.MM.ConvPass2
/-!
# `MetamathConverter.__init__` on a database of the fragment: the final state of the converter
-/
set_option linter.unusedSimpArgs false
set_option linter.unusedVariables false
open MM SliceSup ConvSup Gen.MMConv

namespace ConvTie

/-- the scope `GlobalScope()` creates -/
def scope0 : ScopeObj :=
  { _metavars := vdEmpty PyType.MetaVar, _element_vars := vdEmpty PyType.EVar, _set_vars := vdEmpty PyType.SVar, _notations := [],
    _ambiguous_vars := [], _args := [] }

/-- the converter before `_add_builtin_notations` -/
def blank (mdb : MDb) : ConvObj :=
  { parsed := mdb, _scope := scope0, _declared_constants := [], _declared_variables := [], _symbols := vdEmpty PyType.Symbol,
    _domain_values := [], _axioms := [], _pattern_constructors := [], _proof_rules := [], _ignored_axioms := [], _lemmas := [],
    _ignored_lemmas := [], _missing_declarations := [], _floating_patterns := [], _fp_label_to_pattern := [] }

theorem init_eq (σ : String → Nat) (fuel : Nat) (mdb : MDb) :
    MetamathConverter_init σ fuel default mdb = (_add_builtin_notations σ fuel (blank mdb) >>= fun c => _top_down σ fuel c) := by
  unfold MetamathConverter_init
  have h : GlobalScope_init σ fuel default = .ok scope0 := rfl
  simp only [h, bind_pure, Res.bind_ok, pure_bind, Res.pure_eq]
  rfl

theorem dictSet_last {α : Type} (d : PyDict α) (k : String) (v0 v : α) (h : k ∉ d.map (·.1)) :
    SliceSup.dictSet (d ++ [(k, v0)]) k v = d ++ [(k, v)] := by
  unfold SliceSup.dictSet
  have hany : (d ++ [(k, v0)]).any (·.1 == k) = true := by simp
  simp only [hany, if_true, List.map_append, List.map_cons, List.map_nil, beq_self_eq_true]
  congr 1
  have : d.map (fun (x : String × α) => match x with | (k', v') => if (k' == k) = true then (k', v) else (k', v')) = d.map id := by
    apply List.map_congr_left
    intro p hp
    obtain ⟨k', v'⟩ := p
    have : k' ≠ k := fun e => h (List.mem_map.mpr ⟨(k', v'), hp, e⟩)
    simp [this]
  rw [this, List.map_id]

theorem add_notation_new (σ : String → Nat) (fuel : Nat) (sc : ScopeObj) (n : Notation) (h : n.name ∉ sc._notations.map (·.1)) :
    Scope_add_notation σ fuel sc n = .ok { sc with _notations := sc._notations ++ [(n.name, [n])] } := by
  have h1 : dictHas sc._notations n.name = false := (dictHas_false_iff _ _).mpr h
  have h2 : dictGet (sc._notations ++ [(n.name, ([] : List Notation))]) n.name = .ok [] := by
    apply dictGet_ok
    rw [lookup_append_new _ _ _ _ h]; simp
  simp only [Scope_add_notation, dictSetDefault, h1, Bool.false_eq_true, if_false, h2, bind, Res.bind, pure, List.nil_append,
    dictSet_last _ _ _ _ h]

theorem builtin_ok (σ : String → Nat) (fuel : Nat) (mdb : MDb) :
    ∃ N, _add_builtin_notations σ fuel (blank mdb) = .ok { blank mdb with _scope := { scope0 with _notations := N } } ∧
      GoodNotations N := by
  refine ⟨?N, ?h1, ?h2⟩
  case h1 =>
    simp only [_add_builtin_notations, bind, Res.bind, pure]
    rw [add_notation_new _ _ _ _ (by simp [blank, scope0])]
    simp only []
    rw [add_notation_new _ _ _ _ (by simp [blank, scope0])]
    simp only []
    rw [add_notation_new _ _ _ _ (by simp [blank, scope0])]
    simp only []
    rw [add_notation_new _ _ _ _ (by simp [blank, scope0])]
    rfl
  case h2 =>
    refine ⟨?_, ⟨_, rfl, fun view a b => ⟨rfl, rfl⟩⟩, ⟨_, rfl, fun view a b => ⟨rfl, rfl⟩⟩⟩
    intro s
    simp only [dictHas_eq_contains, blank, scope0, List.nil_append, List.cons_append, List.map, List.contains_cons, List.contains_nil,
      Bool.or_false, Bool.or_assoc]

/-! ## what the first sweep leaves: closed forms over the database -/
/-- `(label, variable)` of the top-level `$f` statements, in order -/
def floatPairs : MDb → List (String × String)
  | [] => []
  | .float l _ v :: r => (l, v) :: floatPairs r
  | _ :: r => floatPairs r

/-- `_fp_label_to_pattern` -/
def fpOf (pairs : List (String × String)) : PyDict (List NPat) := pairs.zipIdx.map fun p => (p.1.1, [mkMetaVar p.2])

theorem fpOf_append (ps : List (String × String)) (l v : String) : fpOf (ps ++ [(l, v)]) = fpOf ps ++ [(l, [mkMetaVar ps.length])] := by
  simp [fpOf, List.zipIdx_append]

theorem fpOf_keys (ps : List (String × String)) : (fpOf ps).map (·.1) = ps.map (·.1) := by
  simp only [fpOf, List.map_map]
  have : ((fun (x : String × List NPat) => x.1) ∘ fun (p : (String × String) × Nat) => (p.1.1, [mkMetaVar p.2])) =
      (fun (q : String × String) => q.1) ∘ Prod.fst := by funext p; rfl
  rw [this, ← List.map_map, List.zipIdx_map_fst]

structure Fin1 (N : PyDict (List Notation)) (consts0 : List String) (done : MDb) (s : S1) : Prop where
  syms : s.1._symbols = vdEmpty PyType.Symbol
  missing : s.1._missing_declarations = []
  axioms : s.1._axioms = []
  lemmas : s.1._lemmas = []
  scope : s.1._scope = { scope0 with _notations := N, _metavars := ⟨mvData ((floatPairs done).map (·.2)), some PyType.MetaVar⟩ }
  floats : s.1._floating_patterns = (floatPairs done).map (·.2)
  fps : s.1._fp_label_to_pattern = fpOf (floatPairs done)
  consts : ∀ x, x ∈ s.1._declared_constants ↔ x ∈ consts0 ∨ x ∈ ConvSpec.constsOf done
  pcs : ∀ l, l ∈ s.1._pattern_constructors ↔ l ∈ ((done.filter isAxItem).filter isPcItem).map headLabel
  prs : ∀ l, l ∈ s.1._proof_rules ↔ l ∈ ((done.filter isAxItem).filter isPrItem).map headLabel
  axs : s.2.2.1 = done.filter isAxItem
  lems : s.2.2.2 = done.filter isLemItem

theorem floatPairs_append (a b : MDb) : floatPairs (a ++ b) = floatPairs a ++ floatPairs b := by
  induction a with
  | nil => rfl
  | cons x a ih => cases x <;> simp [floatPairs, ih]

theorem constsOf_append (a b : MDb) : ConvSpec.constsOf (a ++ b) = ConvSpec.constsOf a ++ ConvSpec.constsOf b := by
  induction a with
  | nil => rfl
  | cons x a ih => cases x <;> simp [ConvSpec.constsOf, ih]

/-- the conditions of the first sweep that are about labels: the labels of the `$f` statements are pairwise different -/
def floatLabelsNodup (mdb : MDb) : Prop := ((floatPairs mdb).map (·.1)).Nodup

theorem upd1_keeps (c : ConvObj) (st : MStmt) :
    (upd1 c st)._symbols = c._symbols ∧ (upd1 c st)._missing_declarations = c._missing_declarations ∧
    (upd1 c st)._axioms = c._axioms ∧ (upd1 c st)._lemmas = c._lemmas := by
  cases st <;> exact ⟨rfl, rfl, rfl, rfl⟩

theorem upd1_consts (c : ConvObj) (st : MStmt) (x : String) :
    x ∈ (upd1 c st)._declared_constants ↔ x ∈ c._declared_constants ∨ x ∈ ConvSpec.constsOf [st] := by
  cases st <;> simp [upd1, floatUpd, axUpd, ConvSpec.constsOf, mem_setUnion, mem_setOf]

theorem upd1_pcs (c : ConvObj) (st : MStmt) (x : String) :
    x ∈ (upd1 c st)._pattern_constructors ↔ x ∈ c._pattern_constructors ∨ (isPcItem st = true ∧ x = headLabel st) := by
  cases st with
  | ax _ _ | block _ => exact mem_ite_setAdd _ _ _ _
  | const _ | var _ | disj _ | float _ _ _ | ess _ _ | prov _ _ _ => simp [upd1, floatUpd, isPcItem, axHead]

theorem upd1_prs (c : ConvObj) (st : MStmt) (x : String) :
    x ∈ (upd1 c st)._proof_rules ↔ x ∈ c._proof_rules ∨ (isPrItem st = true ∧ x = headLabel st) := by
  cases st with
  | ax _ _ | block _ => exact mem_ite_setAdd _ _ _ _
  | const _ | var _ | disj _ | float _ _ _ | ess _ _ | prov _ _ _ => simp [upd1, floatUpd, isPrItem, axHead]

theorem isAxItem_eq (st : MStmt) : isAxItem st = (axHead st).isSome := by
  cases st with
  | block ss =>
    cases h : ss.getLast? with
    | none => simp [isAxItem, axHead, h]
    | some last => cases last <;> simp [isAxItem, axHead, h]
  | _ => rfl

theorem isAxItem_of_pc {st : MStmt} (h : isPcItem st = true) : isAxItem st = true := by
  rw [isAxItem_eq]; cases hh : axHead st <;> simp [isPcItem, hh] at h ⊢

theorem isAxItem_of_pr {st : MStmt} (h : isPrItem st = true) : isAxItem st = true := by
  rw [isAxItem_eq]; cases hh : axHead st <;> simp [isPrItem, hh] at h ⊢

theorem filter_append_singleton {α : Type} (p : α → Bool) (l : List α) (a : α) :
    (l ++ [a]).filter p = l.filter p ++ (if p a then [a] else []) := by
  simp [List.filter_append, List.filter_cons]

/-- the labels of the items of a class `p` of `axioms` (`isPcItem`, `isPrItem`), one statement later -/
theorem mem_items_snoc (p : MStmt → Bool) (hp : ∀ {st}, p st = true → isAxItem st = true) (done : MDb) (st : MStmt) (x : String) :
    x ∈ (((done ++ [st]).filter isAxItem).filter p).map headLabel ↔
      x ∈ ((done.filter isAxItem).filter p).map headLabel ∨ (p st = true ∧ x = headLabel st) := by
  rw [filter_append_singleton, List.filter_append, List.map_append, List.mem_append]
  apply or_congr Iff.rfl
  cases h : p st
  · cases isAxItem st <;> simp [h]
  · simp [h, hp h]

theorem fin1_step (N : PyDict (List Notation)) (consts0 : List String) (done : MDb) (s : S1) (st : MStmt)
    (h : Fin1 N consts0 done s) (hl : ((floatPairs (done ++ [st])).map (·.1)).Nodup) :
    Fin1 N consts0 (done ++ [st]) (step1 s st) := by
  obtain ⟨c, n, ax, lem⟩ := s
  obtain ⟨k1, k2, k3, k4⟩ := upd1_keeps c st
  have hsc : c._scope = _ := h.scope
  have hfs : c._floating_patterns = _ := h.floats
  have hfp : c._fp_label_to_pattern = _ := h.fps
  -- only a `$f` statement touches the scope, `_floating_patterns` and `_fp_label_to_pattern`
  have hfl : (upd1 c st)._scope =
        { scope0 with _notations := N, _metavars := ⟨mvData ((floatPairs (done ++ [st])).map (·.2)), some PyType.MetaVar⟩ } ∧
      (upd1 c st)._floating_patterns = (floatPairs (done ++ [st])).map (·.2) ∧
      (upd1 c st)._fp_label_to_pattern = fpOf (floatPairs (done ++ [st])) := by
    rw [floatPairs_append] at hl ⊢
    cases st with
    | float l tc v =>
      refine ⟨by simp [upd1, floatUpd, floatPairs, hsc, mvData_append, mvData_length], by simp [upd1, floatUpd, floatPairs, hfs], ?_⟩
      simp only [upd1, floatUpd, floatPairs, fpOf_append, hfp, hsc, mvData_length, List.length_map]
      refine dictSet_new _ _ _ fun hm => ?_
      rw [fpOf_keys] at hm
      exact (List.nodup_append.mp (by simpa [floatPairs] using hl)).2.2 l hm l (by simp) rfl
    | const _ | var _ | disj _ | ess _ _ | ax _ _ | prov _ _ _ | block _ =>
      simpa [floatPairs, upd1, axUpd] using ⟨hsc, hfs, hfp⟩
  exact ⟨k1.trans h.syms, k2.trans h.missing, k3.trans h.axioms, k4.trans h.lemmas, hfl.1, hfl.2.1, hfl.2.2,
    fun x => (upd1_consts c st x).trans (by rw [h.consts, constsOf_append, List.mem_append, or_assoc]),
    fun x => (upd1_pcs c st x).trans (by rw [h.pcs, mem_items_snoc _ isAxItem_of_pc]),
    fun x => (upd1_prs c st x).trans (by rw [h.prs, mem_items_snoc _ isAxItem_of_pr]),
    by rw [filter_append_singleton, ← h.axs]; rfl, by rw [filter_append_singleton, ← h.lems]; rfl⟩

theorem fin1_fold (N : PyDict (List Notation)) (consts0 : List String) : ∀ (rest done : MDb) (s : S1), Fin1 N consts0 done s →
    ((floatPairs (done ++ rest)).map (·.1)).Nodup → Fin1 N consts0 (done ++ rest) (rest.foldl step1 s) := by
  intro rest
  induction rest with
  | nil => intro done s h _; simpa using h
  | cons st rest ih =>
    intro done s h hl
    have h1 : ((floatPairs (done ++ [st])).map (·.1)).Nodup := by
      have : done ++ st :: rest = (done ++ [st]) ++ rest := by simp
      rw [this, floatPairs_append, List.map_append] at hl
      exact (List.nodup_append.mp hl).1
    have := ih (done ++ [st]) (step1 s st) (fin1_step N consts0 done s st h h1) (by simpa using hl)
    simpa using this

mutual
theorem wfT_congr (K K' : List String) (h : ∀ x, x ∈ K ↔ x ∈ K') : (t : MTerm) → wfT K t = wfT K' t
  | .mv v => rfl
  | .app s args => by
    have hc : K.contains s = K'.contains s := Bool.eq_iff_iff.mpr (by simpa using h s)
    simp only [wfT, wfTs_congr K K' h args, hc]
theorem wfTs_congr (K K' : List String) (h : ∀ x, x ∈ K ↔ x ∈ K') : (ts : List MTerm) → wfTs K ts = wfTs K' ts
  | [] => rfl
  | t :: ts => by simp only [wfTs, wfT_congr K K' h t, wfTs_congr K K' h ts]
end

theorem termOK_congr (K K' fs : List String) (fuel : Nat) (t : MTerm) (h : ∀ x, x ∈ K ↔ x ∈ K') (ht : TermOK K fs fuel t) :
    TermOK K' fs fuel t := ⟨ht.fuel, by rw [← wfT_congr K K' h t]; exact ht.wf, ht.vars⟩

theorem axParts_head {st : MStmt} {pl : Bool} {eh : List (String × MTerm)} {l tcs : String} {t : MTerm}
    (h : axParts st = some (pl, eh, l, tcs, t)) : axHead st = some (l, [.app tcs [], t]) ∧ isAxItem st = true := by
  obtain ⟨rfl, _⟩ := axParts_eq h
  cases pl
  · simp [mkAxStmt, axHead, isAxItem]
  · simp [mkAxStmt, axHead, isAxItem]

/-- the conditions of the fragment at the level of the parsed database (everything the converter's run depends on) -/
structure FragM (mdb : MDb) (fuel : Nat) (target : String) (t : MTerm) (prf : List String) : Prop where
  ok1 : ok1 (ConvSpec.constsOf mdb) [] [] mdb = true
  floatLabels : floatLabelsNodup mdb
  axioms : ∀ st ∈ mdb.filter isAxItem, ∃ pl eh l tcs t, axParts st = some (pl, eh, l, tcs, t) ∧ axOK [.app tcs [], t] = true ∧
    TermOK (ConvSpec.constsOf mdb) ((floatPairs mdb).map (·.2)) fuel t ∧
    (∀ p ∈ eh, TermOK (ConvSpec.constsOf mdb) ((floatPairs mdb).map (·.2)) fuel p.2)
  axLabels : ((mdb.filter isAxItem).map axLabel).Nodup
  lemma : mdb.filter isLemItem = [.prov target [.app "|-" [], t] prf]
  goal : TermOK (ConvSpec.constsOf mdb) ((floatPairs mdb).map (·.2)) fuel t

/-- the state of the converter after `__init__` -/
structure Final (σ : String → Nat) (mdb : MDb) (target : String) (t : MTerm) (pf : Gen.ImportProof.Proof) (c : ConvObj) : Prop where
  pcs : ∀ l, l ∈ c._pattern_constructors ↔ l ∈ ((mdb.filter isAxItem).filter isPcItem).map headLabel
  prs : ∀ l, l ∈ c._proof_rules ↔ l ∈ ((mdb.filter isAxItem).filter isPrItem).map headLabel
  floats : c._floating_patterns = (floatPairs mdb).map (·.2)
  fps : c._fp_label_to_pattern = fpOf (floatPairs mdb)
  scope : GoodScope c._scope ((floatPairs mdb).map (·.2))
  axioms : AxList σ ((floatPairs mdb).map (·.2)) c._axioms (mdb.filter isAxItem)
  lemmas : ∃ a, c._lemmas = [(target, [a])] ∧ AxiomOf σ ((floatPairs mdb).map (·.2)) target t a ∧ a.proof? = some pf

theorem ok1_floats_nodup (consts : List String) : ∀ (mdb : MDb) (vs fs : List String), ok1 consts vs fs mdb = true → fs.Nodup →
    (fs ++ (floatPairs mdb).map (·.2)).Nodup ∧ ∀ x ∈ (floatPairs mdb).map (·.2), x ∉ consts := by
  intro mdb
  induction mdb with
  | nil => intro vs fs _ h; simpa [floatPairs] using h
  | cons st mdb ih =>
    intro vs fs hok hnd
    cases st with
    | const _ | ax _ _ | block _ => exact ih vs fs (Bool.and_eq_true_iff.mp hok).2 hnd
    | var _ | prov _ _ _ => exact ih _ fs hok hnd
    | disj _ | ess _ _ => cases hok
    | float l tc v =>
      simp only [ok1, Bool.and_eq_true, beq_iff_eq, Bool.not_eq_true', List.contains_eq_mem, decide_eq_true_eq,
        decide_eq_false_iff_not] at hok
      obtain ⟨⟨⟨⟨_, _⟩, hf⟩, hc⟩, hrest⟩ := hok
      have hnd' : (fs ++ [v]).Nodup :=
        List.nodup_append.mpr ⟨hnd, by simp, by intro a ha b hb; simp at hb; subst hb; intro e; subst e; exact hf ha⟩
      obtain ⟨h1, h2⟩ := ih vs (fs ++ [v]) hrest hnd'
      refine ⟨by simpa [floatPairs] using h1, ?_⟩
      intro x hx
      simp only [floatPairs, List.map_cons, List.mem_cons] at hx
      rcases hx with rfl | hx
      · exact hc
      · exact h2 x hx

theorem init_ok (σ : String → Nat) (fuel : Nat) (mdb : MDb) (target : String) (t : MTerm) (prf : List String)
    (pf : Gen.ImportProof.Proof) (hF : FragM mdb fuel target t prf)
    (hpf : callImportProof ((floatPairs mdb).map (·.2)) (.prov target [.app "|-" [], t] prf) = .ok pf) :
    ∃ c, MetamathConverter_init σ fuel default mdb = .ok c ∧ Final σ mdb target t pf c := by
  obtain ⟨N, hN, hGN⟩ := builtin_ok σ fuel mdb
  let c0 : ConvObj := { blank mdb with _scope := { scope0 with _notations := N } }
  have hinv0 : Inv1 (ConvSpec.constsOf mdb) [] [] c0 :=
    ⟨by intro x hx; simp at hx, rfl, rfl, rfl, by intro x hx; simp [c0, blank] at hx⟩
  have hfin0 : Fin1 N [] [] (c0, [], [], []) :=
    ⟨rfl, rfl, rfl, rfl, rfl, rfl, rfl, by intro x; simp [c0, blank, ConvSpec.constsOf], by intro l; simp [c0, blank],
      by intro l; simp [c0, blank], rfl, rfl⟩
  have hfin := fin1_fold N [] mdb [] (c0, [], [], []) hfin0 (by simpa [floatLabelsNodup] using hF.floatLabels)
  simp only [List.nil_append] at hfin
  generalize hs1 : mdb.foldl step1 (c0, [], [], []) = s1 at hfin
  obtain ⟨c1, n1, ax1, lem1⟩ := s1
  have htd := top_down_eq σ fuel c0 (ConvSpec.constsOf mdb) [] [] hinv0 hF.ok1
  have hparsed : c0.parsed = mdb := rfl
  rw [hparsed, hs1] at htd
  simp only [] at htd
  -- facts about the state after the first sweep
  let fs := (floatPairs mdb).map (·.2)
  obtain ⟨hfsnd, hfsK⟩ := ok1_floats_nodup (ConvSpec.constsOf mdb) mdb [] [] hF.ok1 List.nodup_nil
  simp only [List.nil_append] at hfsnd
  have hK : ∀ x, x ∈ c1._declared_constants ↔ x ∈ ConvSpec.constsOf mdb := by
    intro x; have := hfin.consts x; simpa using this
  have hsc1 : GoodScope c1._scope fs := by
    have := hfin.scope
    simp only [] at this
    rw [this]
    exact ⟨rfl, rfl, rfl, hGN, rfl, hfsnd⟩
  have hS1 : SymState σ c1 [] := ⟨hfin.syms, hfin.missing⟩
  have hdis : ∀ x ∈ fs, x ∉ c1._declared_constants := fun x hx h => hfsK x hx ((hK x).mp h)
  have hax1 : ax1 = mdb.filter isAxItem := hfin.axs
  have hlem1 : lem1 = [.prov target [.app "|-" [], t] prf] := by rw [← hF.lemma]; exact hfin.lems
  -- the second sweep
  obtain ⟨S', A, hp2, hS'K, hA⟩ := pass2_ok σ fuel fs ax1 c1 [] hS1 hsc1 hdis (by intro s hs; simp at hs) (by
      intro st hst
      rw [hax1] at hst
      obtain ⟨pl, eh, l, tcs, t', hparts, haxok, ht', hts'⟩ := hF.axioms st hst
      refine ⟨pl, eh, l, tcs, t', hparts, haxok, termOK_congr _ _ _ _ _ (fun x => (hK x).symm) ht',
        fun p hp => termOK_congr _ _ _ _ _ (fun x => (hK x).symm) (hts' p hp), ?_, ?_⟩
      · exact fun hpc => (hfin.pcs _).mpr (List.mem_map.mpr ⟨st, List.mem_filter.mpr ⟨hst, hpc⟩, rfl⟩)
      · exact fun hpr => (hfin.prs _).mpr (List.mem_map.mpr ⟨st, List.mem_filter.mpr ⟨hst, hpr⟩, rfl⟩))
    (by rw [hax1]; exact hF.axLabels) (by intro st _; rw [hfin.axioms]; simp)
  have haxempty : c1._axioms = [] := hfin.axioms
  rw [haxempty, List.nil_append] at hp2
  -- the lemma
  let c2 : ConvObj := { withSyms σ c1 S' with _axioms := A }
  have hl1 : c1._lemmas = [] := hfin.lemmas
  obtain ⟨a, hla, haof, _, hapf⟩ := import_lemma_ok σ fuel c2 S' fs target t prf pf ⟨rfl, rfl⟩ hsc1
    (termOK_congr _ _ _ _ _ (fun x => (hK x).symm) hF.goal) hdis hS'K (by simp [c2, withSyms, hl1])
    (by
      have : c2._floating_patterns = fs := hfin.floats
      rw [this]; exact hpf)
  refine ⟨{ withSyms σ c2 (setUnion S' (symsOf t)) with _lemmas := c2._lemmas ++ [(target, [a])] }, ?_, ?_⟩
  · rw [init_eq, hN, Res.bind_ok, htd, hp2, Res.bind_ok, hlem1, forM'_cons]
    show (_import_lemma σ fuel c2 _ >>= _) = _
    rw [hla]
    rfl
  · refine ⟨hfin.pcs, hfin.prs, hfin.floats, hfin.fps, hsc1, hax1 ▸ hA, a, ?_, haof, hapf⟩
    simp [c2, withSyms, hl1]

end ConvTie
