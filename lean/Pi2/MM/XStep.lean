import Pi2.MM.Translate
/-!
# `xstep` case by case (definitional restatement)
-/
open Pat PySt
namespace MM

def xSave (n : Nat) (x : XSt) : Option (Option XSt) :=
      match top? x with
      | none => some none
      | some t => do
          match ← x.doC n [.save] with
          | none => pure none
          | some x' => pure (some { x' with mem := x'.mem ++ [t] })

def xReuse (n : Nat) (x : XSt) (j : Nat) : Option (Option XSt) :=
      match x.mem[j]? with
      | none => some none
      | some t => x.doC n [.load t]

/-- compile a pattern, then instantiate it by the patterns below it -/
def patThenInst (cfg : Cfg) (n : Nat) (x : XSt) (P : NPat) (keys : List Nat) :
    Option (Option XSt) := do
  match ← patternF cfg n x.s P x.calls with
  | none => pure none
  | some (s', c') => ({ x with s := s', calls := c' } : XSt).doC n [.instantiatePattern keys]

/-- `imp-is-pattern`, `app-is-pattern`: the axiom `t` over the variables `ab`; one tracker call `c` when `ab` is also
their `$f` order -/
def xBin (cfg : Cfg) (n : Nat) (db : DB) (x : XSt) (t : Term) (ab : List Nat) (c : Call) : Option (Option XSt) :=
  if db.mandOf [t] = ab then
    if topPats x 2 then x.doC n [c] else some none
  else patThenInst cfg n x (image db t) (db.deltaKeys [t])

def xImp (cfg : Cfg) (n : Nat) (db : DB) (x : XSt) : Option (Option XSt) :=
  xBin cfg n db x (.imp (.var db.impArgs.1) (.var db.impArgs.2)) [db.impArgs.1, db.impArgs.2] .implies

def xApp (cfg : Cfg) (n : Nat) (db : DB) (x : XSt) : Option (Option XSt) :=
  xBin cfg n db x (.app (.var db.appArgs.1) (.var db.appArgs.2)) [db.appArgs.1, db.appArgs.2] .app

def xCtor (cfg : Cfg) (n : Nat) (db : DB) (x : XSt) (k : Nat) : Option (Option XSt) :=
          match db.ctors[k]? with
          | none => some none
          | some c => do
            let t : Term := .con c.sym (c.args.map .var)
            match ← patternF cfg n x.s (image db t) x.calls with
            | none => pure none
            | some (s', c') =>
              let x' : XSt := { x with s := s', calls := c' }
              if (Term.vars t).isEmpty then pure (some x')
              else x'.doC n [.instantiatePattern (db.deltaKeys [t])]

def xRule (n : Nat) (db : DB) (x : XSt) (k : Nat) : Option (Option XSt) :=
          match db.rules[k]? with
          | none => some none
          | some r => do
            match ← xstep.stash n x [] r.hyps.length with
            | none => pure none
            | some (x1, saved) =>
            match ← x1.doC n [.load (.proved (implChain db r.hyps r.concl))] with
            | none => pure none
            | some x2 =>
            let ts := r.hyps ++ [r.concl]
            let inst : Option (Option XSt) :=
              if (Term.varsList ts).isEmpty then some (some x2)
              else x2.doC n [.instantiate (db.deltaKeys ts)]
            match ← inst with
            | none => pure none
            | some x3 =>
            xstep.discharge n x3 saved.reverse

/-- `proof-rule-prop-1`, `proof-rule-prop-2`: the call `c` pushes the schema, `roles` are the rule's variables -/
def xProp (n : Nat) (db : DB) (x : XSt) (c : Call) (roles : List Nat) : Option (Option XSt) := do
  match ← x.doC n [c] with
  | none => pure none
  | some x' =>
    match ruleKeys db roles with
    | none => pure none
    | some keys => x'.doC n [.instantiate keys]

def xP1 (n : Nat) (db : DB) (x : XSt) : Option (Option XSt) := xProp n db x .prop1 [db.p1.1, db.p1.2]

def xP2 (n : Nat) (db : DB) (x : XSt) : Option (Option XSt) :=
  xProp n db x .prop2 [db.p2.1, db.p2.2.1, db.p2.2.2]

def xMp (n : Nat) (x : XSt) : Option (Option XSt) :=
          match x.s.stack with
          | (.proved _, _) :: (.proved _, _) :: _ => do
            match ← x.doC n [.mp] with
            | none => pure none
            | some x' =>
              match top? x' with
              | none => pure none
              | some c => x'.doC n [.save, .pop, .pop, .pop, .load c]
          | _ => some none

def xLabel (cfg : Cfg) (n : Nat) (db : DB) (x : XSt) : Lbl → Option (Option XSt)
  | .float v => x.doC n [.metavar (db.mvId v) [] [] [] [] []]
  | .impC => xImp cfg n db x
  | .appC => xApp cfg n db x
  | .ctor k => xCtor cfg n db x k
  | .rule k => xRule n db x k
  | .p1 => xP1 n db x
  | .p2 => xP2 n db x
  | .mp => xMp n x

theorem xstep_eq (cfg : Cfg) (n : Nat) (db : DB) (labels : List Lbl) (x : XSt) (step : Nat) :
    xstep cfg n db labels x step =
      match resolve labels.length step with
      | .save => xSave n x
      | .reuse j => xReuse n x j
      | .label i =>
        match labels[i]? with
        | none => some none
        | some l => xLabel cfg n db x l := by
  unfold xstep
  split
  · next h => rw [h]; rfl
  · next h => rw [h]; rfl
  · next i h =>
    rw [h]
    simp only []
    split <;> (next hl => (rw [hl]; try rfl))
end MM
