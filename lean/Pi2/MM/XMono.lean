import Pi2.MM.Mono
import Pi2.MM.XStep
/-!
# Fuel monotonicity of the translator model
-/
set_option linter.unusedSimpArgs false
set_option linter.unusedVariables false
open Pat PySt

namespace MM

/-- sequencing of raising computations (one result) -/
def oseq {α β} (x : Option (Option α)) (f : α → Option (Option β)) : Option (Option β) :=
  x.bind fun o => match o with | none => pure none | some a => f a

theorem OLe.oseq {α β} {x x' : Option (Option α)} {f f' : α → Option (Option β)}
    (hx : OLe x x') (hf : ∀ a, OLe (f a) (f' a)) : OLe (oseq x f) (oseq x' f') := by
  unfold MM.oseq
  apply OLe.bind hx
  intro o
  cases o
  · exact OLe.refl _
  · exact hf _

theorem OLe.oseqL {α β} {x x' : Option (Option α)} {f : α → Option (Option β)}
    (hx : OLe x x') : OLe (x.bind fun o => match o with | none => pure none | some a => f a)
      (x'.bind fun o => match o with | none => pure none | some a => f a) := OLe.bindL hx

theorem doC_step (n : Nat) (x : XSt) (cs : List Call) : OLe (x.doC n cs) (x.doC (n + 1) cs) := by
  have := doCalls_step
  unfold XSt.doC
  mono_step

theorem stash_step (n m : Nat) (x : XSt) (saved : List TTerm) :
    OLe (xstep.stash n x saved m) (xstep.stash (n + 1) x saved m) := by
  have := doC_step
  induction m generalizing x saved <;> unfold xstep.stash <;> mono_step

theorem discharge_step (n : Nat) (ts : List TTerm) (x : XSt) :
    OLe (xstep.discharge n x ts) (xstep.discharge (n + 1) x ts) := by
  have := doC_step
  induction ts generalizing x <;> unfold xstep.discharge <;> mono_step

theorem xLabel_step (cfg : Cfg) (n : Nat) (db : DB) (x : XSt) (l : Lbl) :
    OLe (xLabel cfg n db x l) (xLabel cfg (n + 1) db x l) := by
  have := doC_step
  have := fun n => (patMono cfg n).1
  have := stash_step
  have := discharge_step
  unfold xLabel xImp xApp xBin patThenInst xCtor xRule xP1 xP2 xProp xMp
  mono_step

theorem xstep_step (cfg : Cfg) (n : Nat) (db : DB) (labels : List Lbl) (x : XSt) (step : Nat) :
    OLe (xstep cfg n db labels x step) (xstep cfg (n + 1) db labels x step) := by
  have := doC_step
  have := xLabel_step
  rw [xstep_eq, xstep_eq]
  unfold xSave xReuse
  mono_step

theorem xrun_step (cfg : Cfg) (n : Nat) (db : DB) (labels : List Lbl) (ks : List Nat) (x : XSt) :
    OLe (xrun cfg n db labels x ks) (xrun cfg (n + 1) db labels x ks) := by
  have := xstep_step
  induction ks generalizing x <;> unfold xrun <;> mono_step

theorem execProof_step (cfg : Cfg) (n : Nat) (db : DB) (goal : Term) (labels : List Lbl)
    (steps : List Nat) (s : PySt) (acc : List Call) :
    OLe (execProof cfg n db goal labels steps s acc) (execProof cfg (n + 1) db goal labels steps s acc) := by
  have := xrun_step
  have := NPat.peqF_step
  have := doC_step
  unfold execProof
  mono_step

theorem pub_step (cfg : Cfg) (n : Nat) (c : Call) (as : List NPat) (s : PySt) (acc : List Call) :
    OLe (translateFull.pub cfg n s acc c as) (translateFull.pub cfg (n + 1) s acc c as) := by
  have := fun n => (patMono cfg n).1
  have := doCalls_step
  induction as generalizing s acc <;> unfold translateFull.pub <;> mono_step

theorem translateFull_step (cfg : Cfg) (n : Nat) (db : DB) (goal : Term) (labels : List Lbl)
    (steps : List Nat) :
    OLe (translateFull cfg n db goal labels steps) (translateFull cfg (n + 1) db goal labels steps) := by
  have := pub_step
  have := doCalls_step
  have := execProof_step
  unfold translateFull
  mono_step

theorem translateFull_mono (cfg : Cfg) {n m : Nat} (h : n ≤ m) (db : DB) (goal : Term)
    (labels : List Lbl) (steps : List Nat) :
    OLe (translateFull cfg n db goal labels steps) (translateFull cfg m db goal labels steps) :=
  OLe.of_step (fun n => translateFull cfg n db goal labels steps)
    (fun n => translateFull_step cfg n db goal labels steps) h

end MM
