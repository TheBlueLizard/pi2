import Pi2.MM.Mono
/-!
# The simple fragment of notation patterns: symbols, clean metavariables, `imp`, `app`, and
`Instantiate` nodes over such patterns.  Closure under the notation operations and their termination.
-/
set_option linter.unusedSimpArgs false
set_option linter.unusedVariables false
open Pat

namespace NPat

mutual
def F0 : NPat → Bool
  | .sym _ => true
  | .mv _ ef sf ps ns hs => ef.isEmpty && sf.isEmpty && ps.isEmpty && ns.isEmpty && hs.isEmpty
  | .imp l r => l.F0 && r.F0
  | .app l r => l.F0 && r.F0
  | .inst p m => p.F0 && F0Map m
  | _ => false
def F0Map : List (Nat × NPat) → Bool
  | [] => true
  | (_, v) :: r => v.F0 && F0Map r
end

/-- no notation at all -/
def B0 : NPat → Bool
  | .sym _ => true
  | .mv _ ef sf ps ns hs => ef.isEmpty && sf.isEmpty && ps.isEmpty && ns.isEmpty && hs.isEmpty
  | .imp l r => l.B0 && r.B0
  | .app l r => l.B0 && r.B0
  | _ => false

theorem B0.ind {motive : (p : NPat) → p.B0 = true → Prop}
    (sym : ∀ s h, motive (.sym s) h) (mv : ∀ id h, motive (.mv id [] [] [] [] []) h)
    (imp : ∀ l r (hl : l.B0 = true) (hr : r.B0 = true) h, motive l hl → motive r hr → motive (.imp l r) h)
    (app : ∀ l r (hl : l.B0 = true) (hr : r.B0 = true) h, motive l hl → motive r hr → motive (.app l r) h) :
    (p : NPat) → (hp : p.B0 = true) → motive p hp
  | .sym s, h => sym s h
  | .mv id ef sf ps ns hs, h => by
    have h' := h
    simp only [B0, Bool.and_eq_true, List.isEmpty_iff] at h'
    obtain ⟨⟨⟨⟨rfl, rfl⟩, rfl⟩, rfl⟩, rfl⟩ := h'
    exact mv id h
  | .imp l r, h => by
    have h' := h
    simp only [B0, Bool.and_eq_true] at h'
    exact imp l r h'.1 h'.2 h (B0.ind sym mv imp app l h'.1) (B0.ind sym mv imp app r h'.2)
  | .app l r, h => by
    have h' := h
    simp only [B0, Bool.and_eq_true] at h'
    exact app l r h'.1 h'.2 h (B0.ind sym mv imp app l h'.1) (B0.ind sym mv imp app r h'.2)
  | .evar _, h | .svar _, h | .ex _ _, h | .mu _ _, h | .esub _ _ _, h | .ssub _ _ _, h | .inst _ _, h => by cases h

theorem B0.toF0 (p : NPat) (hp : p.B0 = true) : p.F0 = true := by
  induction p, hp using B0.ind with
  | sym | mv => rfl
  | imp l r _ _ _ ihl ihr | app l r _ _ _ ihl ihr => simp [F0, ihl, ihr]

theorem F0Map_iff (m : List (Nat × NPat)) : F0Map m = true ↔ ∀ kv ∈ m, kv.2.F0 = true := by
  induction m with
  | nil => simp [F0Map]
  | cons kv r ih => obtain ⟨k, v⟩ := kv; simp [F0Map, ih]

theorem F0Map_append (a b : List (Nat × NPat)) : F0Map (a ++ b) = (F0Map a && F0Map b) := by
  induction a with
  | nil => simp [F0Map]
  | cons kv r ih => obtain ⟨k, v⟩ := kv; simp [F0Map, ih, Bool.and_assoc]

mutual
theorem F0.shape : (p : NPat) → p.F0 = true → p.Shape = true
  | .sym _, _ => rfl
  | .mv _ _ _ _ _ _, h => by
    simp only [F0, Bool.and_eq_true] at h
    simp [Shape, h.1.1.1.1, h.1.1.1.2]
  | .imp l r, h | .app l r, h => by
    simp only [F0, Bool.and_eq_true] at h
    simp [Shape, F0.shape l h.1, F0.shape r h.2]
  | .inst p m, h => by
    simp only [F0, Bool.and_eq_true] at h
    simp [Shape, F0.shape p h.1, F0Map.shape m h.2]
  | .evar _, h | .svar _, h | .ex _ _, h | .mu _ _, h | .esub _ _ _, h | .ssub _ _ _, h => by cases h
theorem F0Map.shape : (m : List (Nat × NPat)) → F0Map m = true → ShapeMap m = true
  | [], _ => rfl
  | (_, v) :: r, h => by
    simp only [F0Map, Bool.and_eq_true] at h
    simp [ShapeMap, F0.shape v h.1, F0Map.shape r h.2]
end

theorem F0.cases {motive : (p : NPat) → p.F0 = true → Prop}
    (sym : ∀ s h, motive (.sym s) h)
    (mv : ∀ id ef sf ps ns hs h, motive (.mv id ef sf ps ns hs) h)
    (imp : ∀ l r (_ : l.F0 = true) (_ : r.F0 = true) h, motive (.imp l r) h)
    (app : ∀ l r (_ : l.F0 = true) (_ : r.F0 = true) h, motive (.app l r) h)
    (inst : ∀ q m (_ : q.F0 = true) (_ : F0Map m = true) h, motive (.inst q m) h)
    (p : NPat) (hp : p.F0 = true) : motive p hp := by
  have h := hp
  cases p with
  | sym s => exact sym s hp
  | mv => exact mv _ _ _ _ _ _ hp
  | imp l r => simp only [F0, Bool.and_eq_true] at h; exact imp l r h.1 h.2 hp
  | app l r => simp only [F0, Bool.and_eq_true] at h; exact app l r h.1 h.2 hp
  | inst q m => simp only [F0, Bool.and_eq_true] at h; exact inst q m h.1 h.2 hp
  | _ => cases hp

theorem F0_of_lookup (m : List (Nat × NPat)) (h : F0Map m = true) (i : Nat) (v : NPat)
    (hl : Py.lookup m i = some v) : v.F0 = true :=
  (F0Map_iff m).mp h _ (Py.lookup_mem _ _ _ hl)

theorem F0Map_zip (keys : List Nat) (plugs : List NPat) (h : ∀ p ∈ plugs, p.F0 = true) :
    F0Map (keys.zip plugs) = true := by
  rw [F0Map_iff]
  intro kv hkv
  obtain ⟨k, v⟩ := kv
  exact h v (List.of_mem_zip hkv).2

/-! ## a height that bounds the simplification recursion -/
mutual
def hgt : NPat → Nat
  | .imp l r => max (hgt l) (hgt r) + 1
  | .app l r => max (hgt l) (hgt r) + 1
  | .inst p m => hgt p + hgtMap m + 1
  | .ex _ p => hgt p + 1
  | .mu _ p => hgt p + 1
  | .esub p _ q => max (hgt p) (hgt q) + 1
  | .ssub p _ q => max (hgt p) (hgt q) + 1
  | _ => 0
def hgtMap : List (Nat × NPat) → Nat
  | [] => 0
  | (_, v) :: r => max (hgt v) (hgtMap r)
end

theorem hgtMap_le (m : List (Nat × NPat)) (B : Nat) :
    hgtMap m ≤ B ↔ ∀ kv ∈ m, hgt kv.2 ≤ B := by
  induction m with
  | nil => simp [hgtMap]
  | cons kv r ih =>
    obtain ⟨k, v⟩ := kv
    simp only [hgtMap, List.mem_cons, forall_eq_or_imp, ← ih]
    omega

theorem hgt_le_hgtMap (m : List (Nat × NPat)) (kv : Nat × NPat) (h : kv ∈ m) :
    hgt kv.2 ≤ hgtMap m := (hgtMap_le m _).mp (Nat.le_refl _) kv h

theorem hgtMap_append (a b : List (Nat × NPat)) : hgtMap (a ++ b) = max (hgtMap a) (hgtMap b) := by
  induction a with
  | nil => simp [hgtMap]
  | cons kv r ih => obtain ⟨k, v⟩ := kv; simp only [List.cons_append, hgtMap, ih]; omega

/-! ## `instF` keeps the fragment and raises the height by at most that of the substitution -/

theorem inst_keeps_step (n : Nat)
    (hi : ∀ δ p r, F0 p = true → F0Map δ = true → instF n δ p = some r →
      F0 r = true ∧ hgt r ≤ hgt p + hgtMap δ)
    (hm : ∀ δ m m', F0Map m = true → F0Map δ = true → mapF n δ m = some m' →
      F0Map m' = true ∧ hgtMap m' ≤ hgtMap m + hgtMap δ) :
    (∀ δ p r, F0 p = true → F0Map δ = true → instF (n + 1) δ p = some r →
      F0 r = true ∧ hgt r ≤ hgt p + hgtMap δ) ∧
    (∀ δ m m', F0Map m = true → F0Map δ = true → mapF (n + 1) δ m = some m' →
      F0Map m' = true ∧ hgtMap m' ≤ hgtMap m + hgtMap δ) := by
  constructor
  · intro δ p r hp hδ h
    cases p, hp using F0.cases with
    | sym x => simp only [instF, Option.some.injEq] at h; subst h; exact ⟨rfl, by simp [hgt]⟩
    | mv id ef sf ps ns hs hp =>
      simp only [instF, Option.some.injEq] at h; subst h
      cases hl : Py.lookup δ id with
      | none => exact ⟨by simpa using hp, by simp [hgt]⟩
      | some v =>
        have : hgt v ≤ hgtMap δ := hgt_le_hgtMap δ (id, v) (Py.lookup_mem _ _ _ hl)
        exact ⟨by simpa using F0_of_lookup δ hδ id v hl, by simp only [hgt]; omega⟩
    | imp l r' hl hr hp | app l r' hl hr hp =>
      simp only [instF] at h
      split at h
      · simp only [Option.some.injEq] at h; subst h; exact ⟨hp, by omega⟩
      · simp only [Option.bind_eq_bind, Option.pure_def, Option.bind_eq_some_iff,
          Option.some.injEq] at h
        obtain ⟨a, ha, b, hb, rfl⟩ := h
        have h1 := hi _ _ _ hl hδ ha
        have h2 := hi _ _ _ hr hδ hb
        exact ⟨by simp [F0, h1.1, h2.1], by simp only [hgt]; omega⟩
    | inst p' m hp' hpm =>
      simp only [instF, Option.bind_eq_bind, Option.pure_def, Option.bind_eq_some_iff,
        Option.some.injEq] at h
      obtain ⟨m', hm', mvs, hmvs, rfl⟩ := h
      have h1 := hm _ _ _ hpm hδ hm'
      -- the entries of `δ` that are kept
      have hsub : ∀ kv ∈ dedupKeys (δ.filter fun x => !(keys m).contains x.1 && mvs.contains x.1) [], kv ∈ δ :=
        fun kv hkv => (List.mem_filter.mp (mem_dedupKeys _ _ _ hkv)).1
      have h2 : F0Map (dedupKeys (δ.filter fun x => !(keys m).contains x.1 && mvs.contains x.1) []) = true := by
        rw [F0Map_iff] at hδ ⊢
        exact fun kv hkv => hδ kv (hsub kv hkv)
      have h3 : hgtMap (dedupKeys (δ.filter fun x => !(keys m).contains x.1 && mvs.contains x.1) [])
          ≤ hgtMap δ := (hgtMap_le _ _).mpr fun kv hkv => hgt_le_hgtMap δ kv (hsub kv hkv)
      exact ⟨by simp only [F0, hp', F0Map_append, h1.1, Bool.true_and]; exact h2,
        by simp only [hgt, hgtMap_append]; omega⟩
  · intro δ m m' hsm hδ h
    cases m with
    | nil => simp only [mapF, Option.some.injEq] at h; subst h; exact ⟨rfl, by simp [hgtMap]⟩
    | cons kv r =>
      obtain ⟨k, v⟩ := kv
      simp only [F0Map, Bool.and_eq_true] at hsm
      simp only [mapF, Option.bind_eq_bind, Option.pure_def, Option.bind_eq_some_iff,
        Option.some.injEq] at h
      obtain ⟨a, ha, b, hb, rfl⟩ := h
      have h1 := hi _ _ _ hsm.1 hδ ha
      have h2 := hm _ _ _ hsm.2 hδ hb
      exact ⟨by simp [F0Map, h1.1, h2.1], by simp only [hgtMap]; omega⟩

theorem inst_keeps (n : Nat) :
    (∀ δ p r, F0 p = true → F0Map δ = true → instF n δ p = some r →
      F0 r = true ∧ hgt r ≤ hgt p + hgtMap δ) ∧
    (∀ δ m m', F0Map m = true → F0Map δ = true → mapF n δ m = some m' →
      F0Map m' = true ∧ hgtMap m' ≤ hgtMap m + hgtMap δ) := by
  induction n with
  | zero =>
    constructor
    · intro δ p r _ _ h; simp [instF] at h
    · intro δ m m' _ _ h; simp [mapF] at h
  | succ n ih => exact inst_keeps_step n ih.1 ih.2

theorem instF_F0 (n : Nat) (δ : List (Nat × NPat)) (p r : NPat) (hp : F0 p = true)
    (hδ : F0Map δ = true) (h : instF n δ p = some r) : F0 r = true :=
  ((inst_keeps n).1 δ p r hp hδ h).1

theorem instF_hgt (n : Nat) (δ : List (Nat × NPat)) (p r : NPat) (hp : F0 p = true)
    (hδ : F0Map δ = true) (h : instF n δ p = some r) : hgt r ≤ hgt p + hgtMap δ :=
  ((inst_keeps n).1 δ p r hp hδ h).2

theorem headF_F0 (n : Nat) : ∀ (p q : NPat), F0 p = true → headF n p = some q →
    F0 q = true ∧ q.isInst = false := by
  induction n with
  | zero => intro p q _ h; simp [headF] at h
  | succ n ih =>
    intro p q hp h
    cases p with
    | inst p' m =>
      simp only [headF, Option.bind_eq_bind, Option.bind_eq_some_iff] at h
      obtain ⟨s, hs, hq⟩ := h
      simp only [F0, Bool.and_eq_true] at hp
      exact ih _ _ (instF_F0 _ _ _ _ hp.1 hp.2 hs) hq
    | _ =>
      simp only [headF, Option.some.injEq] at h; subst h
      exact ⟨hp, by simp [isInst]⟩

theorem pyMP_F0 (n : Nat) (a b c : NPat) (ha : F0 a = true) (h : pyMP n a b = some (some c)) :
    F0 c = true := by
  simp only [pyMP, Option.bind_eq_bind, Option.bind_eq_some_iff] at h
  obtain ⟨q, hh, h⟩ := h
  obtain ⟨hq, _⟩ := headF_F0 n a q ha hh
  cases q with
  | imp l r =>
    simp only [Option.bind_eq_some_iff, Option.pure_def, Option.some.injEq] at h
    obtain ⟨eq, _, h⟩ := h
    simp only [F0, Bool.and_eq_true] at hq
    cases eq with
    | false => simp at h
    | true => simp only [if_true, Option.some.injEq] at h; subst h; exact hq.2
  | _ => simp at h

end NPat

/-! ## termination on the fragment -/
namespace NPat

theorem mapF_term (δ : List (Nat × NPat)) (m : List (Nat × NPat))
    (h : ∀ kv ∈ m, ∃ n r, instF n δ kv.2 = some r) : ∃ n m', mapF n δ m = some m' := by
  induction m with
  | nil => exact ⟨1, [], rfl⟩
  | cons kv r ih =>
    obtain ⟨k, v⟩ := kv
    obtain ⟨n1, a, ha⟩ := h (k, v) (by simp)
    obtain ⟨n2, b, hb⟩ := ih (fun kv hkv => h kv (List.mem_cons_of_mem _ hkv))
    refine ⟨max n1 n2 + 1, (k, a) :: b, ?_⟩
    simp only [mapF, Option.bind_eq_bind, Option.pure_def]
    rw [instF_mono (Nat.le_max_left n1 n2) _ _ _ ha, mapF_mono (Nat.le_max_right n1 n2) _ _ _ hb]
    rfl

theorem term_all : ∀ (k : Nat) (p : NPat), hgt p < k → F0 p = true →
    (∀ δ, ∃ n r, instF n δ p = some r) ∧ (∃ n L, metavarsF n p = some L) := by
  intro k
  induction k with
  | zero => intro p h; omega
  | succ k ih =>
    intro p hk hp
    cases p, hp using F0.cases with
    | sym | mv => exact ⟨fun δ => ⟨1, _, rfl⟩, ⟨1, _, rfl⟩⟩
    | imp l r hl hr | app l r hl hr =>
      simp only [hgt] at hk
      obtain ⟨il, n1, a, ha⟩ := ih l (by omega) hl
      obtain ⟨ir, n2, b, hb⟩ := ih r (by omega) hr
      refine ⟨fun δ => ?_, max n1 n2 + 1, a ++ b, ?_⟩
      · obtain ⟨n1, a, ha⟩ := il δ
        obtain ⟨n2, b, hb⟩ := ir δ
        by_cases hδ : δ.isEmpty = true
        · exact ⟨1, _, by rw [instF, if_pos hδ]⟩
        · exact ⟨max n1 n2 + 1, _, by
            rw [instF, if_neg hδ, instF_mono (Nat.le_max_left n1 n2) _ _ _ ha,
              instF_mono (Nat.le_max_right n1 n2) _ _ _ hb]
            rfl⟩
      · simp only [metavarsF, Option.bind_eq_bind, Option.pure_def]
        rw [metavarsF_mono (Nat.le_max_left n1 n2) _ _ ha,
          metavarsF_mono (Nat.le_max_right n1 n2) _ _ hb]
        rfl
    | inst q m hq hm =>
      simp only [hgt] at hk
      obtain ⟨iq, mq⟩ := ih q (by omega) hq
      constructor
      · intro δ
        obtain ⟨n1, m', hm'⟩ := mapF_term δ m (by
          intro kv hkv
          have h1 := hgt_le_hgtMap m kv hkv
          exact (ih kv.2 (by omega) ((F0Map_iff m).mp hm kv hkv)).1 δ)
        obtain ⟨n2, mvs, hmvs⟩ := mq
        refine ⟨max n1 n2 + 1, .inst q (m' ++ dedupKeys
          (δ.filter fun x => !(keys m).contains x.1 && mvs.contains x.1) []), ?_⟩
        simp only [instF, Option.bind_eq_bind, Option.pure_def]
        rw [mapF_mono (Nat.le_max_left n1 n2) _ _ _ hm',
          metavarsF_mono (Nat.le_max_right n1 n2) _ _ hmvs]
        rfl
      · obtain ⟨n1, s, hs⟩ := iq m
        have hs0 := instF_F0 _ _ _ _ hq hm hs
        have hsh := instF_hgt _ _ _ _ hq hm hs
        obtain ⟨n2, L, hL⟩ := (ih s (by omega) hs0).2
        refine ⟨max n1 n2 + 1, L, ?_⟩
        simp only [metavarsF, Option.bind_eq_bind]
        rw [instF_mono (Nat.le_max_left n1 n2) _ _ _ hs]
        exact metavarsF_mono (Nat.le_max_right n1 n2) _ _ hL

/-- `instantiate` on the fragment terminates, stays in the fragment and is transparent -/
theorem instF_total (δ : List (Nat × NPat)) (p : NPat) (hp : F0 p = true) (hδ : F0Map δ = true) :
    ∃ n r, instF n δ p = some r ∧ F0 r = true ∧
      r.expand = Py.inst (Py.lookup (expand.expandMap δ)) p.expand := by
  obtain ⟨n, r, h⟩ := (term_all (hgt p + 1) p (by omega) hp).1 δ
  exact ⟨n, r, h, instF_F0 _ _ _ _ hp hδ h, (instF_expand _ _ _ _ (F0.shape p hp) (F0Map.shape δ hδ) h).1⟩

theorem headF_term : ∀ (k : Nat) (p : NPat), hgt p < k → F0 p = true → ∃ n q, headF n p = some q := by
  intro k
  induction k with
  | zero => intro p h; omega
  | succ k ih =>
    intro p hk hp
    cases p with
    | inst q m =>
      simp only [F0, Bool.and_eq_true] at hp
      simp only [hgt] at hk
      obtain ⟨n1, s, hs⟩ := (term_all (hgt q + 1) q (by omega) hp.1).1 m
      have hs0 := instF_F0 _ _ _ _ hp.1 hp.2 hs
      have hsh := instF_hgt _ _ _ _ hp.1 hp.2 hs
      obtain ⟨n2, r, hr⟩ := ih s (by omega) hs0
      refine ⟨max n1 n2 + 1, r, ?_⟩
      simp only [headF, Option.bind_eq_bind]
      rw [instF_mono (Nat.le_max_left n1 n2) _ _ _ hs]
      exact headF_mono (Nat.le_max_right n1 n2) _ _ hr
    | _ => exact ⟨1, _, rfl⟩

theorem peqF_term : ∀ (k : Nat) (a b : NPat), hgt a + hgt b < k → F0 a = true → F0 b = true →
    ∃ n r, peqF n a b = some r := by
  intro k
  induction k with
  | zero => intro a b h; omega
  | succ k ih =>
    intro a b hk ha hb
    -- a pattern `.inst q m` is compared through `q` instantiated by `m`
    have red : ∀ q m (c : NPat), F0 (.inst q m) = true → F0 c = true →
        hgt (.inst q m) + hgt c < k + 1 → ∃ n s r, instF n m q = some s ∧ peqF n s c = some r := by
      intro q m c hq hc hlt
      simp only [F0, Bool.and_eq_true] at hq
      simp only [hgt] at hlt
      obtain ⟨n1, s, hs⟩ := (term_all (hgt q + 1) q (by omega) hq.1).1 m
      have hs0 := instF_F0 _ _ _ _ hq.1 hq.2 hs
      have hsh := instF_hgt _ _ _ _ hq.1 hq.2 hs
      obtain ⟨n2, r, hr⟩ := ih s c (by omega) hs0 hc
      exact ⟨max n1 n2, s, r, instF_mono (Nat.le_max_left n1 n2) _ _ _ hs,
        peqF_mono (Nat.le_max_right n1 n2) _ _ _ hr⟩
    have right : ∀ (c : NPat) q m, c.isInst = false → F0 (.inst q m) = true → F0 c = true →
        hgt c + hgt (.inst q m) < k + 1 → ∃ n r, peqF n c (.inst q m) = some r := by
      intro c q m hci hq hc hlt
      obtain ⟨n, s, r, hs, hr⟩ := red q m c hq hc (by omega)
      have e : peqF (n + 1) c (.inst q m) = (instF n m q).bind fun s => peqF n s c := by
        cases c <;> first | rfl | simp [isInst] at hci
      exact ⟨n + 1, r, by rw [e, hs]; exact hr⟩
    have two : ∀ (l r l' r' : NPat), F0 l = true → F0 r = true → F0 l' = true → F0 r' = true →
        hgt l + hgt l' < k → hgt r + hgt r' < k →
        ∃ n res, ((peqF n l l').bind fun a => if a = true then peqF n r r' else pure false) = some res := by
      intro l r l' r' h1 h2 h3 h4 hl hr
      obtain ⟨n1, a1, e1⟩ := ih l l' hl h1 h3
      obtain ⟨n2, a2, e2⟩ := ih r r' hr h2 h4
      refine ⟨max n1 n2, if a1 = true then a2 else false, ?_⟩
      rw [peqF_mono (Nat.le_max_left n1 n2) _ _ _ e1]
      simp only [Option.bind_some]
      cases a1
      · simp
      · simpa using peqF_mono (Nat.le_max_right n1 n2) _ _ _ e2
    cases a, ha using F0.cases with
    | inst q m _ _ ha =>
      obtain ⟨n, s, r, hs, hr⟩ := red q m b ha hb hk
      exact ⟨n + 1, r, by simp only [peqF, Option.bind_eq_bind, hs, Option.bind_some]; exact hr⟩
    | sym _ ha | mv _ _ _ _ _ _ ha =>
      cases b, hb using F0.cases with
      | inst q m _ _ hb => exact right _ q m rfl hb ha hk
      | _ => exact ⟨1, _, rfl⟩
    | imp l r hl hr ha =>
      cases b, hb using F0.cases with
      | inst q m _ _ hb => exact right _ q m rfl hb ha hk
      | imp l' r' hl' hr' =>
        simp only [hgt] at hk
        obtain ⟨n, res, h⟩ := two l r l' r' hl hr hl' hr' (by omega) (by omega)
        exact ⟨n + 1, res, h⟩
      | _ => exact ⟨1, _, rfl⟩
    | app l r hl hr ha =>
      cases b, hb using F0.cases with
      | inst q m _ _ hb => exact right _ q m rfl hb ha hk
      | app l' r' hl' hr' =>
        simp only [hgt] at hk
        obtain ⟨n, res, h⟩ := two l r l' r' hl hr hl' hr' (by omega) (by omega)
        exact ⟨n + 1, res, h⟩
      | _ => exact ⟨1, _, rfl⟩

end NPat

namespace NPat

theorem peqF_total (a b : NPat) (ha : F0 a = true) (hb : F0 b = true) :
    ∃ n, peqF n a b = some (decide (a.expand = b.expand)) := by
  obtain ⟨n, r, h⟩ := peqF_term (hgt a + hgt b + 1) a b (by omega) ha hb
  have := peqF_expand n a b r (F0.shape a ha) (F0.shape b hb) h
  exact ⟨n, by rw [h, this]⟩

theorem headF_total (p : NPat) (hp : F0 p = true) :
    ∃ n q, headF n p = some q ∧ F0 q = true ∧ q.isInst = false ∧ q.expand = p.expand := by
  obtain ⟨n, q, h⟩ := headF_term (hgt p + 1) p (by omega) hp
  obtain ⟨h1, h2⟩ := headF_F0 n p q hp h
  exact ⟨n, q, h, h1, h2, (headF_expand n p q (F0.shape p hp) h).1⟩

theorem pyMP_total (a b : NPat) (C : Pat) (ha : F0 a = true) (hb : F0 b = true)
    (he : a.expand = .imp b.expand C) :
    ∃ n c, pyMP n a b = some (some c) ∧ c.expand = C ∧ F0 c = true := by
  obtain ⟨n1, q, hq, hq0, hqi, hqe⟩ := headF_total a ha
  rw [he] at hqe
  cases q with
  | imp l r =>
    simp only [F0, Bool.and_eq_true] at hq0
    simp only [expand, Pat.imp.injEq] at hqe
    obtain ⟨n2, hp⟩ := peqF_total l b hq0.1 hb
    rw [hqe.1] at hp
    simp only [decide_true] at hp
    refine ⟨max n1 n2, r, ?_, hqe.2, hq0.2⟩
    simp only [pyMP, Option.bind_eq_bind, Option.pure_def]
    rw [headF_mono (Nat.le_max_left n1 n2) _ _ hq]
    simp only [Option.bind_some]
    rw [peqF_mono (Nat.le_max_right n1 n2) _ _ _ hp]
    rfl
  | inst _ _ => simp [isInst] at hqi
  | sym _ | mv _ _ _ _ _ _ | app _ _ => simp [expand] at hqe
  | _ => cases hq0

end NPat

/-! ## the machine never rejects an instantiation of a simple pattern -/

/-- symbols, metavariables without constraints, `imp`, `app` -/
def Pat.Simple : Pat → Bool
  | .sym _ => true
  | .mv _ ef sf ps ns _ => ef.isEmpty && sf.isEmpty && ps.isEmpty && ns.isEmpty
  | .imp l r => l.Simple && r.Simple
  | .app l r => l.Simple && r.Simple
  | _ => false

theorem Pat.inst_simple (θ : VId → Option Pat) (p : Pat) (hp : p.Simple = true) :
    (Pat.inst θ p).isSome = true := by
  induction p with
  | sym _ => simp [Pat.inst]
  | mv id ef sf ps ns hs =>
    simp only [Pat.Simple, Bool.and_eq_true, List.isEmpty_iff] at hp
    obtain ⟨⟨⟨rfl, rfl⟩, rfl⟩, rfl⟩ := hp
    simp only [Pat.inst]
    cases θ id <;> simp [Pat.okPlug]
  | imp l r ihl ihr =>
    simp only [Pat.Simple, Bool.and_eq_true] at hp
    obtain ⟨a, ha⟩ := Option.isSome_iff_exists.mp (ihl hp.1)
    obtain ⟨b, hb⟩ := Option.isSome_iff_exists.mp (ihr hp.2)
    simp [Pat.inst, ha, hb]
  | app l r ihl ihr =>
    simp only [Pat.Simple, Bool.and_eq_true] at hp
    obtain ⟨a, ha⟩ := Option.isSome_iff_exists.mp (ihl hp.1)
    obtain ⟨b, hb⟩ := Option.isSome_iff_exists.mp (ihr hp.2)
    simp [Pat.inst, ha, hb]
  | _ => simp [Pat.Simple] at hp

theorem Py.inst_simple (δ : VId → Option Pat) (hδ : ∀ k v, δ k = some v → v.Simple = true)
    (q : Pat) (hq : q.Simple = true) : (Py.inst δ q).Simple = true := by
  induction q with
  | sym _ => simp [Py.inst, Pat.Simple]
  | mv id ef sf ps ns hs =>
    simp only [Py.inst]
    cases h : δ id with
    | none => simpa using hq
    | some v => simpa using hδ _ _ h
  | imp l r ihl ihr =>
    simp only [Pat.Simple, Bool.and_eq_true] at hq
    simp [Py.inst, Pat.Simple, ihl hq.1, ihr hq.2]
  | app l r ihl ihr =>
    simp only [Pat.Simple, Bool.and_eq_true] at hq
    simp [Py.inst, Pat.Simple, ihl hq.1, ihr hq.2]
  | _ => simp [Pat.Simple] at hq

namespace NPat

mutual
theorem F0.simple : (p : NPat) → p.F0 = true → p.expand.Simple = true
  | .sym _, _ => rfl
  | .mv _ _ _ _ _ _, h => by
    simp only [F0, Bool.and_eq_true] at h
    simp [expand, Pat.Simple, h.1.1.1.1, h.1.1.1.2, h.1.1.2, h.1.2]
  | .imp l r, h | .app l r, h => by
    simp only [F0, Bool.and_eq_true] at h
    simp [expand, Pat.Simple, F0.simple l h.1, F0.simple r h.2]
  | .inst p m, h => by
    simp only [F0, Bool.and_eq_true] at h
    simp only [expand]
    exact Py.inst_simple _ (F0Map.simple m h.2) _ (F0.simple p h.1)
  | .evar _, h | .svar _, h | .ex _ _, h | .mu _ _, h | .esub _ _ _, h | .ssub _ _ _, h => by cases h
theorem F0Map.simple : (m : List (Nat × NPat)) → F0Map m = true →
    ∀ k v, Py.lookup (expand.expandMap m) k = some v → v.Simple = true
  | [], _ => by simp [expand.expandMap, Py.lookup]
  | (k, v) :: r, h => by
    simp only [F0Map, Bool.and_eq_true] at h
    intro i w hw
    simp only [expand.expandMap, Py.lookup] at hw
    split at hw
    · cases hw; exact F0.simple v h.1
    · exact F0Map.simple r h.2 i w hw
end

end NPat
