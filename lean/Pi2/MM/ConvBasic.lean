import Pi2.Gen.MMConv
import Pi2.MM.ConvSpec
/-!
# Basic facts about the vocabulary of the generated converter (`Pi2/ConvSupport.lean`) and `_check_axiom`
-/
set_option linter.unusedSimpArgs false
set_option linter.unusedVariables false
open MM SliceSup ConvSup Gen.MMConv

namespace ConvTie

theorem bind_eq_ok {α β : Type} {r : Res α} {f : α → Res β} {b : β} (h : (r >>= f) = .ok b) : ∃ a, r = .ok a ∧ f a = .ok b := by
  cases r <;> simp_all [bind, Res.bind]

@[simp] theorem listGet_zero {α : Type} (a : α) (l : List α) : listGet (a :: l) 0 = .ok a := rfl
@[simp] theorem listGet_one {α : Type} (a b : α) (l : List α) : listGet (a :: b :: l) 1 = .ok b := rfl
@[simp] theorem listGet_two {α : Type} (a b c : α) (l : List α) : listGet (a :: b :: c :: l) 2 = .ok c := rfl

theorem listGet_ok {α : Type} (l : List α) (i : Nat) (h : i < l.length) : listGet l i = .ok l[i] := by
  simp [listGet, ofOption, List.getElem?_eq_getElem h]

@[simp] theorem listLast_concat {α : Type} (l : List α) (a : α) : listLast (l ++ [a]) = .ok a := by
  simp [listLast, ofOption]

theorem setAdd_mem (s : List String) (x : String) (h : x ∈ s) : setAdd s x = s := by
  simp [setAdd, h]
theorem setAdd_new (s : List String) (x : String) (h : x ∉ s) : setAdd s x = s ++ [x] := by
  simp [setAdd, h]
theorem mem_setAdd (s : List String) (x y : String) : y ∈ setAdd s x ↔ y ∈ s ∨ y = x := by
  by_cases h : x ∈ s
  · rw [setAdd_mem s x h]
    exact ⟨Or.inl, fun h' => h'.elim id (· ▸ h)⟩
  · rw [setAdd_new s x h]
    simp
theorem mem_ite_setAdd (b : Bool) (s : List String) (x y : String) :
    y ∈ (if b then setAdd s x else s) ↔ y ∈ s ∨ (b = true ∧ y = x) := by
  cases b <;> simp [mem_setAdd]
theorem mem_setUnion (t : List String) : ∀ (s : List String) (y : String), y ∈ setUnion s t ↔ y ∈ s ∨ y ∈ t := by
  induction t with
  | nil => intro s y; simp [setUnion]
  | cons x t ih =>
    intro s y
    have : setUnion s (x :: t) = setUnion (setAdd s x) t := rfl
    rw [this, ih, mem_setAdd, List.mem_cons, or_assoc]
theorem mem_setOf (t : List String) (y : String) : y ∈ setOf t ↔ y ∈ t := by
  simp [setOf, mem_setUnion]
theorem setAdd_nodup (s : List String) (x : String) (h : s.Nodup) : (setAdd s x).Nodup := by
  unfold setAdd
  split <;> rename_i hx
  · exact h
  · simp at hx
    exact List.nodup_append.mpr ⟨h, by simp, by intro a ha b hb; simp at hb; subst hb; intro e; subst e; exact hx ha⟩
theorem setUnion_nodup (t : List String) : ∀ (s : List String), s.Nodup → (setUnion s t).Nodup := by
  induction t with
  | nil => intro s h; exact h
  | cons x t ih => intro s h; exact ih _ (setAdd_nodup s x h)
theorem setUnion_subset_self (t : List String) : ∀ (s : List String), (∀ x ∈ t, x ∈ s) → setUnion s t = s := by
  induction t with
  | nil => intro s _; rfl
  | cons x t ih =>
    intro s h
    have : setUnion s (x :: t) = setUnion (setAdd s x) t := rfl
    rw [this, setAdd_mem s x (h x (by simp))]
    exact ih s (fun y hy => h y (by simp [hy]))

theorem dictHas_iff {α : Type} (d : PyDict α) (k : String) : dictHas d k = true ↔ k ∈ d.map (·.1) := by
  induction d with
  | nil => simp [dictHas, List.lookup]
  | cons p d ih =>
    obtain ⟨k', v⟩ := p
    simp only [dictHas, List.lookup, List.map_cons, List.mem_cons]
    by_cases h : k = k'
    · subst h; simp
    · have : (k == k') = false := by simp [h]
      simp only [this]
      simp only [dictHas] at ih
      rw [ih]
      simp [h]

theorem dictHas_eq_contains {α : Type} (d : PyDict α) (k : String) : dictHas d k = (d.map (·.1)).contains k :=
  Bool.eq_iff_iff.mpr (by simp [dictHas_iff])

theorem dictHas_false_iff {α : Type} (d : PyDict α) (k : String) : dictHas d k = false ↔ k ∉ d.map (·.1) := by
  rw [← dictHas_iff]; simp

theorem dictSet_new {α : Type} (d : PyDict α) (k : String) (v : α) (h : k ∉ d.map (·.1)) : SliceSup.dictSet d k v = d ++ [(k, v)] := by
  unfold SliceSup.dictSet
  have : d.any (·.1 == k) = false := by
    simp only [List.any_eq_false]
    intro p hp
    simp only [beq_iff_eq]
    intro e
    exact h (List.mem_map.mpr ⟨p, hp, e⟩)
  simp [this]

theorem lookup_append_new {α : Type} (d : PyDict α) (k k' : String) (v : α) (h : k' ∉ d.map (·.1)) :
    (d ++ [(k', v)]).lookup k = if k = k' then some v else d.lookup k := by
  rw [List.lookup_append]
  by_cases e : k = k'
  · subst e
    have : d.lookup k = none := by simpa [dictHas] using (dictHas_false_iff d k).mpr h
    simp [this, List.lookup]
  · have : (k == k') = false := by simpa using e
    simp [List.lookup, e, this]

theorem dictGet_ok {α : Type} (d : PyDict α) (k : String) (v : α) (h : d.lookup k = some v) : dictGet d k = .ok v := by
  simp [dictGet, ofOption, h]

theorem vdSet_ok (d : VarDict) (k : String) (v : NPat) (h : vdFits d.expected v = true) :
    vdSet d k v = .ok { d with data := SliceSup.dictSet d.data k v } := by
  simp [vdSet, h]

theorem vdOfDict_go (e : Option PyType) : ∀ (items acc : PyDict NPat), (∀ p ∈ items, vdFits e p.2 = true) →
    (items.map (·.1)).Nodup → (∀ p ∈ items, p.1 ∉ acc.map (·.1)) →
    items.foldlM (fun d (p : String × NPat) => vdSet d p.1 p.2) (⟨acc, e⟩ : VarDict) = .ok ⟨acc ++ items, e⟩ := by
  intro items
  induction items with
  | nil => intro acc _ _ _; simp [List.foldlM]
  | cons p items ih =>
    intro acc hf hnd hacc
    obtain ⟨k, v⟩ := p
    simp only [List.foldlM]
    have h1 : vdSet (⟨acc, e⟩ : VarDict) k v = .ok ⟨acc ++ [(k, v)], e⟩ := by
      rw [vdSet_ok _ _ _ (hf (k, v) (by simp))]
      simp [dictSet_new acc k v (hacc (k, v) (by simp))]
    simp only [h1, bind, Res.bind]
    have := ih (acc ++ [(k, v)]) (fun p hp => hf p (by simp [hp])) (by simp at hnd; exact hnd.2) (by
      intro p hp
      simp only [List.map_append, List.map_cons, List.map_nil, List.mem_append, List.mem_singleton, not_or]
      refine ⟨hacc p (by simp [hp]), ?_⟩
      simp at hnd
      intro e'
      exact hnd.1 p.2 (by rw [← e']; exact hp))
    simpa using this

theorem vdOfDict_ok (items : PyDict NPat) (e : Option PyType) (hf : ∀ p ∈ items, vdFits e p.2 = true)
    (hnd : (items.map (·.1)).Nodup) : vdOfDict items e = .ok ⟨items, e⟩ := by
  have := vdOfDict_go e items [] hf hnd (by simp)
  simpa [vdOfDict] using this

theorem vdCopy_ok (d : VarDict) (hf : ∀ p ∈ d.data, vdFits d.expected p.2 = true) (hnd : (d.data.map (·.1)).Nodup) :
    vdCopy d = .ok d := by
  unfold vdCopy
  rw [vdOfDict_ok _ _ hf hnd]

theorem lookup_map_val {α : Type} (f : String → α → α) (x : String) : ∀ d : PyDict α,
    (d.map fun p => (p.1, f p.1 p.2)).lookup x = (d.lookup x).map (f x)
  | [] => rfl
  | (k, v) :: d => by
    simp only [List.map_cons, List.lookup]
    cases h : x == k
    · exact lookup_map_val f x d
    · cases eq_of_beq h; rfl

/-- `d[k] = v` on a key that is there: the value changes in place -/
theorem dictSet_of_mem {α : Type} (d : PyDict α) (k : String) (v : α) (h : k ∈ d.map (·.1)) :
    SliceSup.dictSet d k v = d.map fun p => (p.1, if p.1 == k then v else p.2) := by
  have : d.any (·.1 == k) = true := by simpa using h
  unfold SliceSup.dictSet
  rw [if_pos this]
  apply List.map_congr_left
  intro p _
  obtain ⟨k', v'⟩ := p
  simp only []
  split <;> rfl

theorem lookup_dictSet {α : Type} (d : PyDict α) (k x : String) (v : α) :
    (SliceSup.dictSet d k v).lookup x = if x = k then some v else d.lookup x := by
  by_cases hk : k ∈ d.map (·.1)
  · rw [dictSet_of_mem d k v hk, lookup_map_val fun k' v' => if k' == k then v else v']
    by_cases hx : x = k
    · subst hx
      obtain ⟨w, hw⟩ := Option.isSome_iff_exists.mp ((dictHas_iff d x).mpr hk)
      simp [hw]
    · simp [hx]
  · rw [dictSet_new d k v hk]
    exact lookup_append_new d x k v hk

theorem dictSet_keys_of_mem {α : Type} (d : PyDict α) (k : String) (v : α) (h : k ∈ d.map (·.1)) :
    (SliceSup.dictSet d k v).map (·.1) = d.map (·.1) := by
  rw [dictSet_of_mem d k v h, List.map_map]
  rfl
end ConvTie

namespace ConvSup
instance : LawfulMonad Res := LawfulMonad.mk'
  (id_map := by intro α x; cases x <;> rfl)
  (pure_bind := by intros; rfl)
  (bind_assoc := by intro α β γ x f g; cases x <;> rfl)
  (bind_pure_comp := by intro α β f x; cases x <;> rfl)
end ConvSup

namespace ConvTie
/-- `Scope._metavars` after the `$f #Pattern` statements of the variables `fs`: `Scope.add_metavariable` numbers them in order -/
def mvData (fs : List String) : PyDict NPat := fs.zipIdx.map fun p => (p.1, mkMetaVar p.2)

theorem mvData_append (fs : List String) (v : String) : mvData (fs ++ [v]) = mvData fs ++ [(v, mkMetaVar fs.length)] := by
  simp [mvData, List.zipIdx_append]

theorem mvData_keys (fs : List String) : (mvData fs).map (·.1) = fs := by
  simp only [mvData, List.map_map]
  have : ((fun (x : String × NPat) => x.1) ∘ fun (p : String × Nat) => (p.1, mkMetaVar p.2)) = Prod.fst := by
    funext p; rfl
  rw [this, List.zipIdx_map_fst]

theorem mvData_length (fs : List String) : (mvData fs).length = fs.length := by simp [mvData]

theorem mvData_lookup_aux : ∀ (fs : List String) (k : Nat) (v : String), v ∈ fs →
    ((fs.zipIdx k).map fun p => (p.1, mkMetaVar p.2)).lookup v = some (mkMetaVar (k + fs.idxOf v)) := by
  intro fs
  induction fs with
  | nil => intro k v h; simp at h
  | cons w fs ih =>
    intro k v hv
    simp only [List.zipIdx_cons, List.map_cons, List.lookup]
    by_cases e : v = w
    · subst e; simp
    · have : (v == w) = false := by simp [e]
      simp only [this]
      have hin : v ∈ fs := by simpa [e] using hv
      rw [ih (k + 1) v hin]
      have hwv : (w == v) = false := by simp [Ne.symm e]
      simp only [List.idxOf_cons, hwv, cond_false]
      congr 2
      omega

theorem mvData_lookup (fs : List String) (v : String) (h : v ∈ fs) : (mvData fs).lookup v = some (mkMetaVar (fs.idxOf v)) := by
  have := mvData_lookup_aux fs 0 v h
  simpa [mvData] using this

theorem mvData_fits (fs : List String) : ∀ p ∈ mvData fs, vdFits (some PyType.MetaVar) p.2 = true := by
  intro p hp
  simp only [mvData, List.mem_map] at hp
  obtain ⟨q, _, rfl⟩ := hp
  rfl
end ConvTie
