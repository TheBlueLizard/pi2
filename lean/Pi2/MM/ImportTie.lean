import Pi2.Gen.ImportProof
import Pi2.MM.Compressed
/-!
# The generated `_import_proof` (`Pi2/Gen/ImportProof.lean`, character level) = the model `Pi2/MM/Compressed.lean` (token level)

`Pi2/Gen/ImportProof.lean` is regenerated from the text of `MetamathConverter._import_proof` (converter.py) by
`vlib/transimport.py`; it works on the CHARACTERS of `statement.proof`.  The hand-written model works on its TOKENS.

* `convert_to_number_eq`, `main_loop_eq`: the number decoder and the main loop are the model's, on EVERY input.
* `import_proof_layout`: on every string `<pre> ( <ws> label₁ s₁ … labelₙ sₙ ) <tail>` (`pre` without `(`, `ws` whitespace, labels
  non-empty without whitespace and `)`, every `sᵢ` ONE whitespace character) the whole function is the model on the tokens.
  `import_proof_parsed`: in particular on `' '.join(tokens)` — what the parser stores — for tokens `(`, labels, `)`, letters.
* `import_proof_none`, `import_proof_no_paren` (with `model_needs_open`): `None`, `''` and strings without `(`: both reject
  (Python: `AssertionError` / `UnboundLocalError` for the loop variable `_j` of a loop that never ran).
* everywhere else the character loops are MORE PERMISSIVE than the model (and than Metamath): `differ_*` (concrete strings,
  evaluated by the kernel and confirmed on the real code through the real parser), `import_proof_unterminated_chars`
  (a label list that is never closed is accepted, its last token dropped), `model_needs_open` / `model_needs_close`.
  Not producible by the parser: `differ_double_blank`, `differ_trailing_blank` (phantom empty labels).
-/
namespace ImportTie
open ImpSup Gen.ImportProof

theorem translated : Gen.ImportProof.translated = true := by decide

/-! ## the digit tables -/

/-- a table that maps exactly the characters `lo`‥`hi` to their code minus `off` is the arithmetic definition -/
theorem digit_table_eq (T : PyDict Char Nat) (lo hi off : Nat)
    (hin : ∀ n < hi + 1, lo ≤ n → dictGet T (Char.ofNat n) = some (n - off))
    (hout : ∀ p ∈ T, lo ≤ p.1.toNat ∧ p.1.toNat ≤ hi) (c : Char) :
    dictGet T c = if lo ≤ c.toNat ∧ c.toNat ≤ hi then some (c.toNat - off) else none := by
  split
  · next h =>
    have := hin c.toNat (by omega) h.1
    rwa [Char.ofNat_toNat] at this
  · next h =>
    cases hl : dictGet T c with
    | none => rfl
    | some d =>
      obtain ⟨l₁, l₂, rfl, _⟩ := List.lookup_eq_some_iff.1 hl
      exact absurd (hout (c, d) (by simp)) h

theorem lsdigit_eq (c : Char) : dictGet lsdigit c = MM.lsdigit c :=
  digit_table_eq lsdigit 65 84 64 (by decide) (by decide) c

theorem msdigit_eq (c : Char) : dictGet msdigit c = MM.msdigit c :=
  digit_table_eq msdigit 85 89 84 (by decide) (by decide) c

theorem dictHas_lsdigit (c : Char) : dictHas lsdigit c = (MM.lsdigit c).isSome := by
  have := lsdigit_eq c
  unfold dictGet at this
  unfold dictHas
  rw [this]

/-! ## `convert_to_number` -/

theorem convert_loop_eq (cs : List Char) (n e : Nat) :
    (convert_to_number_for1 cs n e).map (·.1) = MM.convLoop cs e n := by
  induction cs generalizing n e with
  | nil => simp [convert_to_number_for1, MM.convLoop]
  | cons c cs ih =>
    simp only [convert_to_number_for1, MM.convLoop, msdigit_eq, Option.bind_eq_bind]
    cases MM.msdigit c with
    | none => simp
    | some d => simp [ih]

/-- the generated `convert_to_number` is the model's `convertToNumber` on every word -/
theorem convert_to_number_eq (word : List Char) : convert_to_number word = MM.convertToNumber word := by
  unfold convert_to_number MM.convertToNumber
  cases word.reverse with
  | nil => simp [pyHeadRest]
  | cons first rest =>
    simp only [pyHeadRest, lsdigit_eq, Option.bind_eq_bind, Option.bind_some]
    cases MM.lsdigit first with
    | none => simp
    | some d =>
      simp only [Option.bind_some]
      rw [← convert_loop_eq]
      cases convert_to_number_for1 rest d 0 <;> simp

/-! ## the main loop of `_import_proof` -/

theorem main_loop_gen (cs : List Char) (d : PyDict Nat Str) (acc : List Nat) (buf : List Char) :
    (import_proof_for1 cs ⟨d, acc⟩ buf).map (·.1) = (MM.tokenize cs buf).map (fun st => ⟨d, acc ++ st⟩) := by
  induction cs generalizing acc buf with
  | nil => simp [import_proof_for1, MM.tokenize]
  | cons c cs ih =>
    simp only [import_proof_for1, MM.tokenize]
    by_cases hz : c = 'Z'
    · subst hz
      simp only [beq_self_eq_true, if_true]
      cases buf with
      | nil =>
        simp only [pyAssert, beq_self_eq_true, if_true, Option.bind_eq_bind, Option.bind_some, List.isEmpty_nil]
        rw [ih]
        cases MM.tokenize cs [] <;> simp
      | cons b bs => simp [pyAssert]
    · have hz' : (c == 'Z') = false := by simpa using hz
      simp only [hz', hz, if_false, Bool.false_eq_true, dictHas_lsdigit]
      by_cases hl : (MM.lsdigit c).isSome = true
      · simp only [hl, if_true, convert_to_number_eq, Option.bind_eq_bind]
        cases MM.convertToNumber (buf ++ [c]) with
        | none => simp
        | some n =>
          simp only [Option.bind_some]
          rw [ih]
          cases MM.tokenize cs [] <;> simp
      · simp only [hl, if_false, Bool.false_eq_true]
        rw [ih]

/-- the generated main loop (started with an empty buffer and no steps) is the model's `tokenize`, on every letter string -/
theorem main_loop_eq (letters : List Char) (d : PyDict Nat Str) :
    (import_proof_for1 letters ⟨d, []⟩ []).map (·.1) = (MM.tokenize letters []).map (Proof.mk d) := by
  rw [main_loop_gen]
  simp

/-! ## `parse_lemmas`: the three character loops -/

/-- loop 1 (`Skip to first (`) on a string with a `(`: `_i` = its offset -/
theorem for1_found (pre rest : List Char) (k : Nat) (o : Option Nat) (hpre : ∀ c ∈ pre, c ≠ '(') :
    parse_lemmas_for1 (pyEnumerateFrom k (pre ++ '(' :: rest)) o = some (some (k + pre.length)) := by
  induction pre generalizing k o with
  | nil => simp [pyEnumerateFrom, parse_lemmas_for1]
  | cons x pre ih =>
    have hx : (x == '(') = false := by simpa using hpre x (by simp)
    simp only [List.cons_append, pyEnumerateFrom, parse_lemmas_for1, hx, Bool.false_eq_true, if_false]
    rw [ih _ _ (fun c hc => hpre c (List.mem_cons_of_mem _ hc))]
    simp only [List.length_cons]
    congr 2; omega

/-- loop 1 on a string without `(`: `_i` = the offset of the LAST character (unbound on the empty string) -/
theorem for1_absent (s : List Char) (k : Nat) (o : Option Nat) (hs : ∀ c ∈ s, c ≠ '(') :
    parse_lemmas_for1 (pyEnumerateFrom k s) o = some (if s = [] then o else some (k + s.length - 1)) := by
  induction s generalizing k o with
  | nil => simp [pyEnumerateFrom, parse_lemmas_for1]
  | cons x s ih =>
    have hx : (x == '(') = false := by simpa using hs x (by simp)
    simp only [pyEnumerateFrom, parse_lemmas_for1, hx, Bool.false_eq_true, if_false]
    rw [ih _ _ (fun c hc => hs c (List.mem_cons_of_mem _ hc))]
    cases s with
    | nil => simp
    | cons y s => simp only [reduceCtorEq, if_false, List.length_cons]; congr 2; omega

/-- loop 2 (`Skip to first declared lemma`): `_j` = the number of whitespace characters skipped -/
theorem for2_found (ws rest : List Char) (c : Char) (k : Nat) (o : Option Nat)
    (hws : ∀ c ∈ ws, pyIsSpace c = true) (hc : pyIsSpace c = false) :
    parse_lemmas_for2 (pyEnumerateFrom k (ws ++ c :: rest)) o = some (some (k + ws.length)) := by
  induction ws generalizing k o with
  | nil => simp [pyEnumerateFrom, parse_lemmas_for2, hc]
  | cons x ws ih =>
    have hx := hws x (by simp)
    simp only [List.cons_append, pyEnumerateFrom, parse_lemmas_for2, hx, Bool.not_true, Bool.false_eq_true, if_false]
    rw [ih _ _ (fun c hc => hws c (List.mem_cons_of_mem _ hc))]
    simp only [List.length_cons]
    congr 2; omega

/-- loop 2 on whitespace only: `_j` = the offset of the LAST character (unbound on the empty string) -/
theorem for2_absent (ws : List Char) (k : Nat) (o : Option Nat) (hws : ∀ c ∈ ws, pyIsSpace c = true) :
    parse_lemmas_for2 (pyEnumerateFrom k ws) o = some (if ws = [] then o else some (k + ws.length - 1)) := by
  induction ws generalizing k o with
  | nil => simp [pyEnumerateFrom, parse_lemmas_for2]
  | cons x ws ih =>
    have hx := hws x (by simp)
    simp only [pyEnumerateFrom, parse_lemmas_for2, hx, Bool.not_true, Bool.false_eq_true, if_false]
    rw [ih _ _ (fun c hc => hws c (List.mem_cons_of_mem _ hc))]
    cases ws with
    | nil => simp
    | cons y s => simp only [reduceCtorEq, if_false, List.length_cons]; congr 2; omega

/-- the label table `{k: l₀, k+1: l₁, …}` -/
def numbered : Nat → List Str → PyDict Nat Str
  | _, [] => []
  | k, l :: ls => (k, l) :: numbered (k + 1) ls

theorem numbered_length (k : Nat) (xs : List Str) : dictLen (numbered k xs) = xs.length := by
  induction xs generalizing k with
  | nil => rfl
  | cons x xs ih => simp only [numbered, dictLen, List.length_cons] at ih ⊢; rw [ih]

/-- assigning to the next free number appends -/
theorem dictSet_numbered (k : Nat) (xs : List Str) (v : Str) :
    dictSet (numbered k xs) (k + xs.length) v = numbered k (xs ++ [v]) := by
  induction xs generalizing k with
  | nil => simp [numbered, dictSet]
  | cons x xs ih =>
    have hne : (k == k + (xs.length + 1)) = false := by
      simp only [beq_eq_false_iff_ne, ne_eq]; omega
    simp only [numbered, dictSet, List.length_cons, hne, List.cons_append, Bool.false_eq_true, if_false]
    rw [show k + (xs.length + 1) = k + 1 + xs.length by omega, ih]

/-- a label as `parse_lemmas` reads it: non-empty, without whitespace, without `)` -/
def LabelOK (l : Str) : Prop := l ≠ [] ∧ ∀ c ∈ l, pyIsSpace c = false ∧ c ≠ ')'
instance (l : Str) : Decidable (LabelOK l) := by unfold LabelOK; infer_instance

/-- the label list as characters: every label followed by ONE whitespace character -/
def flat (labels : List (Str × Char)) : List Char := labels.flatMap fun p => p.1 ++ [p.2]

/-- loop 3, one label with the whitespace character behind it -/
theorem for3_label (l : Str) (sep : Char) (r : List Char) (k : Nat) (o : Option Nat) (d : PyDict Nat Str) (n : Nat) (b : Str)
    (hl : ∀ c ∈ l, pyIsSpace c = false ∧ c ≠ ')') (hs : pyIsSpace sep = true) :
    parse_lemmas_for3 (pyEnumerateFrom k (l ++ sep :: r)) o d n b
      = parse_lemmas_for3 (pyEnumerateFrom (k + l.length + 1) r) (some (k + l.length)) (dictSet d n (b ++ l)) (n + 1) [] := by
  induction l generalizing k o b with
  | nil => simp [pyEnumerateFrom, parse_lemmas_for3, hs]
  | cons x l ih =>
    obtain ⟨hx1, hx2⟩ := hl x (by simp)
    have hx2' : (x == ')') = false := by simpa using hx2
    simp only [List.cons_append, pyEnumerateFrom, parse_lemmas_for3, hx1, hx2', Bool.false_eq_true, if_false]
    rw [ih _ _ _ (fun c hc => hl c (List.mem_cons_of_mem _ hc))]
    simp only [List.length_cons, List.append_assoc, List.cons_append, List.nil_append]
    rw [show k + 1 + l.length + 1 = k + (l.length + 1) + 1 by omega, show k + 1 + l.length = k + (l.length + 1) by omega]

/-- loop 3 (`Register each lemma`) over labels, each with one whitespace character behind it, in front of a further character:
the labels are registered under the next numbers and the loop goes on behind them (`_l` is assigned again there) -/
theorem for3_labels (labels : List (Str × Char)) (c : Char) (r : List Char) (k : Nat) (o o' : Option Nat) (xs : List Str)
    (hl : ∀ p ∈ labels, (∀ c ∈ p.1, pyIsSpace c = false ∧ c ≠ ')') ∧ pyIsSpace p.2 = true) :
    parse_lemmas_for3 (pyEnumerateFrom k (flat labels ++ c :: r)) o (numbered 1 xs) (xs.length + 1) []
      = parse_lemmas_for3 (pyEnumerateFrom (k + (flat labels).length) (c :: r)) o' (numbered 1 (xs ++ labels.map (·.1)))
          (xs.length + labels.length + 1) [] := by
  induction labels generalizing k o xs with
  | nil => simp [flat, pyEnumerateFrom, parse_lemmas_for3]
  | cons p labels ih =>
    obtain ⟨l, sep⟩ := p
    obtain ⟨hl1, hl2⟩ := hl (l, sep) (by simp)
    have e : flat ((l, sep) :: labels) ++ c :: r = l ++ sep :: (flat labels ++ c :: r) := by
      simp [flat]
    rw [e, for3_label l sep _ k o _ _ [] hl1 hl2]
    have hd : dictSet (numbered 1 xs) (xs.length + 1) ([] ++ l) = numbered 1 (xs ++ [l]) := by
      rw [Nat.add_comm, List.nil_append, dictSet_numbered]
    rw [hd]
    have := ih (k + l.length + 1) (some (k + l.length)) (xs ++ [l])
      (fun q hq => hl q (List.mem_cons_of_mem _ hq))
    simp only [List.length_append, List.length_cons, List.length_nil] at this
    rw [this]
    have hlen : (flat ((l, sep) :: labels)).length = l.length + 1 + (flat labels).length := by
      simp only [flat, List.flatMap_cons, List.length_append, List.length_cons, List.length_nil]
    rw [hlen]
    simp only [List.map_cons, List.append_assoc, List.cons_append, List.nil_append, List.length_cons]
    have a1 : k + l.length + 1 + (flat labels).length = k + (l.length + 1 + (flat labels).length) := by omega
    have a2 : xs.length + 1 + labels.length + 1 = xs.length + (labels.length + 1) + 1 := by omega
    rw [a1, a2]

theorem drop_append_len {α : Type} (a b : List α) (n : Nat) (h : n = a.length) : (a ++ b).drop n = b := by
  subst h; simp

theorem flat_head (labels : List (Str × Char)) (c : Char) (r : List Char) (hl : ∀ p ∈ labels, LabelOK p.1)
    (hc : pyIsSpace c = false) : ∃ c' rest, flat labels ++ c :: r = c' :: rest ∧ pyIsSpace c' = false := by
  cases labels with
  | nil => exact ⟨c, r, by simp [flat], hc⟩
  | cons p labels =>
    obtain ⟨hne, hp⟩ := hl p (by simp)
    cases e : p.1 with
    | nil => exact absurd e hne
    | cons x l => exact ⟨x, l ++ [p.2] ++ (flat labels ++ c :: r), by simp [flat, e], (hp x (by rw [e]; simp)).1⟩

/-- `parse_lemmas` on `<no '('> ( <whitespace> label₁␣label₂␣…labelₙ␣ c…` for a character `c` that is not whitespace: every label is
registered under the next number, and what is returned is decided by loop 3 on `c…` -/
theorem parse_lemmas_labels (pre ws r : List Char) (c : Char) (labels : List (Str × Char)) (xs : List Str)
    (hpre : ∀ c ∈ pre, c ≠ '(') (hws : ∀ c ∈ ws, pyIsSpace c = true)
    (hl : ∀ p ∈ labels, LabelOK p.1 ∧ pyIsSpace p.2 = true) (hc : pyIsSpace c = false)
    (l : Nat) (d : PyDict Nat Str) (n : Nat) (b : Str)
    (h3 : parse_lemmas_for3 (pyEnumerateFrom (flat labels).length (c :: r)) none (numbered 1 (xs ++ labels.map (·.1)))
      (xs.length + labels.length + 1) [] = some (some l, d, n, b)) :
    parse_lemmas (pre ++ '(' :: (ws ++ (flat labels ++ c :: r))) (numbered 1 xs)
      = some (pre.length + ws.length + l + 2, d) := by
  obtain ⟨c', rest, hcr, hc'⟩ := flat_head labels c r (fun p hp => (hl p hp).1) hc
  unfold parse_lemmas pyEnumerate pySliceFrom
  rw [for1_found pre _ 0 none hpre]
  simp only [Option.bind_eq_bind, Option.bind_some, Nat.zero_add]
  have e1 : (pre ++ '(' :: (ws ++ (flat labels ++ c :: r))).drop (pre.length + 1) = ws ++ (flat labels ++ c :: r) := by
    simp
  have e2 : (pre ++ '(' :: (ws ++ (flat labels ++ c :: r))).drop (pre.length + ws.length + 1) = flat labels ++ c :: r := by
    have := drop_append_len (pre ++ ['('] ++ ws) (flat labels ++ c :: r) (pre.length + ws.length + 1) (by simp; omega)
    simpa using this
  have h2 : parse_lemmas_for2 (pyEnumerateFrom 0 (ws ++ (flat labels ++ c :: r))) none = some (some ws.length) := by
    rw [hcr]; simpa using for2_found ws rest c' 0 none hws hc'
  rw [e1, h2]
  simp only [Option.bind_some, numbered_length]
  rw [e2, for3_labels labels c r 0 none none xs (fun p hp => ⟨(hl p hp).1.2, (hl p hp).2⟩), Nat.zero_add, h3]
  simp only [Option.bind_some, Option.pure_def]

/-- `parse_lemmas` on `<no '('> ( <whitespace> label₁␣label₂␣…labelₙ␣ ) <tail>`: the returned offset is the one of the first
character behind `)` -/
theorem parse_lemmas_layout (pre ws tail : List Char) (labels : List (Str × Char)) (xs : List Str)
    (hpre : ∀ c ∈ pre, c ≠ '(') (hws : ∀ c ∈ ws, pyIsSpace c = true)
    (hl : ∀ p ∈ labels, LabelOK p.1 ∧ pyIsSpace p.2 = true) :
    parse_lemmas (pre ++ '(' :: (ws ++ (flat labels ++ ')' :: tail))) (numbered 1 xs)
      = some (pre.length + ws.length + (flat labels).length + 2, numbered 1 (xs ++ labels.map (·.1))) :=
  parse_lemmas_labels pre ws tail ')' labels xs hpre hws hl (by decide) _ _ (xs.length + labels.length + 1) []
    (by simp [pyEnumerateFrom, parse_lemmas_for3, show pyIsSpace ')' = false by decide])

/-! ## `split_proof` and the whole `_import_proof`, character level -/

/-- `'-is-pattern'` -/
def isPatternSuffix : Str := ['-', 'i', 's', '-', 'p', 'a', 't', 't', 'e', 'r', 'n']

/-- the labels of the mandatory hypotheses in the order `split_proof` numbers them: the statement's metavariables that have a
`$f #Pattern` statement, in the order of these statements; then the others, sorted -/
def mandatory (self : Converter) (statement : ProvableStatement) : List Str :=
  ((self._floating_patterns.filter fun m => statement.get_metavariables.contains m) ++
    pySorted (statement.get_metavariables.filter fun m => !(self._floating_patterns.contains m))).map (· ++ isPatternSuffix)

theorem split_for1_eq (ordered xs : List Str) :
    split_proof_for1 ordered (numbered 1 xs) (xs.length + 1)
      = some (numbered 1 (xs ++ ordered.map (· ++ isPatternSuffix)), xs.length + ordered.length + 1) := by
  induction ordered generalizing xs with
  | nil => simp [split_proof_for1]
  | cons m ordered ih =>
    simp only [split_proof_for1]
    rw [Nat.add_comm xs.length 1, dictSet_numbered]
    have := ih (xs ++ [m ++ isPatternSuffix])
    simp only [List.length_append, List.length_cons, List.length_nil, Nat.zero_add] at this
    rw [Nat.add_comm 1 xs.length]
    simp only [isPatternSuffix] at this ⊢
    rw [this]
    simp only [List.map_cons, List.append_assoc, List.cons_append, List.nil_append, List.length_cons]
    congr 2
    omega

theorem split_for2_eq (cs : List Char) (acc : Str) :
    split_proof_for2 cs acc = some (acc ++ cs.filter (fun c => !pyIsSpace c)) := by
  induction cs generalizing acc with
  | nil => simp [split_proof_for2]
  | cons c cs ih =>
    simp only [split_proof_for2]
    by_cases h : pyIsSpace c = true
    · simp [h, ih]
    · have h' : pyIsSpace c = false := by simpa using h
      simp [h', ih]

/-- `_import_proof` behind the numbering of the mandatory hypotheses `M` -/
def afterMandatory (M : List Str) (proof : Option Str) : Option Proof := do
  let s ← pyAssertStr proof
  let (off, d) ← parse_lemmas s (numbered 1 M)
  let letters ← split_proof_for2 (pySliceFrom s off) []
  let (r, _) ← import_proof_for1 letters ⟨d, []⟩ []
  pure r

theorem import_proof_factor (self : Converter) (statement : ProvableStatement) :
    import_proof self statement = afterMandatory (mandatory self statement) statement.proof := by
  unfold import_proof split_proof afterMandatory
  cases pyAssertStr statement.proof with
  | none => simp
  | some s =>
    simp only [Option.bind_eq_bind, Option.bind_some]
    have h1 := split_for1_eq ((self._floating_patterns.filter fun m => statement.get_metavariables.contains m) ++
      pySorted (statement.get_metavariables.filter fun m => !(self._floating_patterns.contains m))) []
    simp only [numbered, List.length_nil, Nat.zero_add, List.nil_append] at h1
    rw [h1]
    simp only [Option.bind_some]
    unfold mandatory
    cases parse_lemmas s _ with
    | none => simp
    | some p =>
      simp only [Option.bind_some]
      cases split_proof_for2 _ _ <;> simp

/-- `assert proof` passes on a string with a `(` -/
theorem pyAssertStr_paren (pre rest : List Char) : pyAssertStr (some (pre ++ '(' :: rest)) = some (pre ++ '(' :: rest) := by
  cases pre <;> rfl

/-- the whole `_import_proof` on `<no '('> ( <whitespace> label₁␣…labelₙ␣ ) <tail>`: the table is the mandatory hypotheses followed
by the labels, the steps are the model's `tokenize` of the non-blank characters of the tail -/
theorem import_proof_layout_chars (self : Converter) (mvs : List Str) (pre ws tail : List Char) (labels : List (Str × Char))
    (hpre : ∀ c ∈ pre, c ≠ '(') (hws : ∀ c ∈ ws, pyIsSpace c = true)
    (hl : ∀ p ∈ labels, LabelOK p.1 ∧ pyIsSpace p.2 = true) :
    import_proof self ⟨mvs, some (pre ++ '(' :: (ws ++ (flat labels ++ ')' :: tail)))⟩
      = (MM.tokenize (tail.filter (fun c => !pyIsSpace c)) []).map
          (Proof.mk (numbered 1 (mandatory self ⟨mvs, some (pre ++ '(' :: (ws ++ (flat labels ++ ')' :: tail)))⟩ ++ labels.map (·.1)))) := by
  have e3 : (pre ++ '(' :: (ws ++ (flat labels ++ ')' :: tail))).drop (pre.length + ws.length + (flat labels).length + 2) = tail := by
    have := drop_append_len (pre ++ ['('] ++ ws ++ flat labels ++ [')']) tail (pre.length + ws.length + (flat labels).length + 2)
      (by simp; omega)
    simpa using this
  rw [import_proof_factor, ← main_loop_eq]
  simp only [afterMandatory, pyAssertStr_paren, parse_lemmas_layout pre ws tail labels _ hpre hws hl, pySliceFrom, e3, split_for2_eq,
    Option.bind_eq_bind, Option.bind_some, List.nil_append]
  cases import_proof_for1 _ _ _ <;> simp

/-- `_import_proof` raises when the proof is `None` or `''` (`assert proof`) -/
theorem import_proof_none (self : Converter) (mvs : List Str) :
    import_proof self ⟨mvs, none⟩ = none ∧ import_proof self ⟨mvs, some []⟩ = none := by
  constructor <;> simp [import_proof, split_proof, pyAssertStr]

/-- `parse_lemmas` raises (`UnboundLocalError`: `_i` on the empty string, else `_j`) on every string without the character `(` -/
theorem parse_lemmas_no_paren (s : List Char) (d : PyDict Nat Str) (hs : ∀ c ∈ s, c ≠ '(') : parse_lemmas s d = none := by
  cases s with
  | nil => simp [parse_lemmas, pyEnumerate, pyEnumerateFrom, parse_lemmas_for1]
  | cons x s =>
    have h1 := for1_absent (x :: s) 0 none hs
    simp only [reduceCtorEq, if_false, List.length_cons, Nat.zero_add, Nat.add_sub_cancel] at h1
    have e : (x :: s).drop (s.length + 1) = [] := by simp
    unfold parse_lemmas pyEnumerate pySliceFrom
    rw [h1]
    simp only [Option.bind_eq_bind, Option.bind_some]
    rw [e]
    simp [pyEnumerateFrom, parse_lemmas_for2]

/-- `_import_proof` raises (`UnboundLocalError: _j`) on every string without the character `(` -/
theorem import_proof_no_paren (self : Converter) (mvs : List Str) (s : List Char) (hs : ∀ c ∈ s, c ≠ '(') :
    import_proof self ⟨mvs, some s⟩ = none := by
  rw [import_proof_factor]
  cases s with
  | nil => rfl
  | cons x s => simp [afterMandatory, pyAssertStr, parse_lemmas_no_paren _ _ hs]

/-! ## from the characters to the tokens of the model -/

theorem parseLabels_cons {l : String} (h : l ≠ ")") (rest acc : List String) :
    MM.parseLabels (l :: rest) acc = MM.parseLabels rest (l :: acc) := by
  rw [MM.parseLabels]
  exact h

theorem parseLabels_spec (labels body acc : List String) (hl : ∀ l ∈ labels, l ≠ ")") :
    MM.parseLabels (labels ++ ")" :: body) acc = some (acc.reverse ++ labels, body) := by
  induction labels generalizing acc with
  | nil => simp [MM.parseLabels]
  | cons l labels ih =>
    rw [List.cons_append, parseLabels_cons (hl l (by simp)), ih _ (fun x hx => hl x (List.mem_cons_of_mem _ hx))]
    simp

/-- what the model returns, as the `Proof` object of the Python code: the table numbered from 1 -/
def ofModel (r : List String × List Nat) : Proof := ⟨numbered 1 (r.1.map String.toList), r.2⟩

theorem contains_toList (vars : List String) (v : String) :
    (vars.map String.toList).contains v.toList = vars.contains v := by
  induction vars with
  | nil => simp
  | cons x vars ih =>
    simp only [List.map_cons, List.contains_cons, ih]
    congr 1
    rw [Bool.beq_eq_decide_eq, Bool.beq_eq_decide_eq]
    exact decide_eq_decide.mpr String.toList_inj

theorem filter_toList (xs : List String) (p : String → Bool) (q : Str → Bool) (h : ∀ x, q x.toList = p x) :
    (xs.map String.toList).filter q = (xs.filter p).map String.toList := by
  induction xs with
  | nil => simp
  | cons x xs ih => simp only [List.map_cons, List.filter_cons, h, ih]; split <;> simp

theorem sorted_toList (xs : List String) :
    pySorted (xs.map String.toList) = (xs.mergeSort (fun a b => decide (a ≤ b))).map String.toList := by
  unfold pySorted
  rw [List.map_mergeSort]
  intro a _ b _
  exact decide_eq_decide.mpr Iff.rfl

/-- the mandatory hypotheses of the generated code are those of the model -/
theorem mandatory_eq (floats vars : List String) (pf : Option Str) :
    mandatory ⟨floats.map String.toList⟩ ⟨vars.map String.toList, pf⟩
      = (((floats.filter (vars.contains ·)) ++ ((vars.filter (!floats.contains ·)).mergeSort (fun a b => a ≤ b))).map
          (· ++ "-is-pattern")).map String.toList := by
  unfold mandatory
  simp only
  rw [filter_toList floats (vars.contains ·) _ (fun x => contains_toList vars x),
    filter_toList vars (!floats.contains ·) _ (fun x => by rw [contains_toList]), sorted_toList, ← List.map_append,
    List.map_map, List.map_map]
  apply List.map_congr_left
  intro v _
  simp only [Function.comp, String.toList_append]
  rfl

theorem label_ne_close (l : String) (h : LabelOK l.toList) : l ≠ ")" := by
  intro e
  subst e
  exact (h.2 ')' (by decide)).2 rfl

/-- **The whole `_import_proof` on the characters = the model on the tokens**, for every proof string of the shape
`<pre> ( <ws> label₁ s₁ label₂ s₂ … labelₙ sₙ ) <tail>` where `pre` has no `(`, `ws` is any (possibly empty) run of whitespace,
every label is non-empty, free of whitespace and of `)`, every `sᵢ` is ONE whitespace character (any of Python's), and `tail` is
arbitrary; the model gets the tokens `(`, the labels, `)` and any token list `body` whose concatenation is the tail with the
whitespace removed. -/
theorem import_proof_layout (floats vars : List String) (labels : List (String × Char)) (body : List String)
    (pre ws tail : List Char)
    (hpre : ∀ c ∈ pre, c ≠ '(') (hws : ∀ c ∈ ws, pyIsSpace c = true)
    (hl : ∀ p ∈ labels, LabelOK p.1.toList ∧ pyIsSpace p.2 = true)
    (hbody : body.flatMap String.toList = tail.filter (fun c => !pyIsSpace c)) :
    import_proof ⟨floats.map String.toList⟩ ⟨vars.map String.toList,
        some (pre ++ '(' :: (ws ++ (flat (labels.map fun p => (p.1.toList, p.2)) ++ ')' :: tail)))⟩
      = (MM.importProof floats vars ("(" :: labels.map (·.1) ++ ")" :: body)).map ofModel := by
  rw [import_proof_layout_chars _ _ pre ws tail _ hpre hws (by
    intro p hp
    obtain ⟨q, hq, rfl⟩ := List.mem_map.mp hp
    exact hl q hq)]
  have hl' : ∀ l ∈ labels.map (·.1), l ≠ ")" := by
    intro l hm
    obtain ⟨q, hq, rfl⟩ := List.mem_map.mp hm
    exact label_ne_close _ (hl q hq).1
  simp only [MM.importProof, List.cons_append, parseLabels_spec _ body [] hl', Option.bind_eq_bind, Option.bind_some,
    List.reverse_nil, List.nil_append, hbody, mandatory_eq]
  have hm : (labels.map fun p => (p.1.toList, p.2)).map (·.1) = (labels.map (·.1)).map String.toList := by
    simp only [List.map_map, Function.comp_def]
  rw [hm]
  cases MM.tokenize (tail.filter fun c => !pyIsSpace c) [] with
  | none => simp
  | some st => simp [ofModel]

/-! ## the strings the parser produces: `' '.join(tokens)` -/

/-- `' '.join(tokens)` -/
def joinToks : List Str → Str
  | [] => []
  | [t] => t
  | t :: u :: ts => t ++ ' ' :: joinToks (u :: ts)

/-- what follows a token in `' '.join(..)` -/
def tailOf : List Str → Str
  | [] => []
  | u :: ts => ' ' :: joinToks (u :: ts)

theorem joinToks_cons (t : Str) (ts : List Str) : joinToks (t :: ts) = t ++ tailOf ts := by
  cases ts <;> simp [joinToks, tailOf]

theorem tailOf_append_cons (ls : List Str) (c : Str) (bs : List Str) :
    tailOf (ls ++ c :: bs) = ' ' :: joinToks (ls ++ c :: bs) := by
  cases ls <;> rfl

theorem joinToks_labels (ls : List Str) (c : Str) (bs : List Str) :
    joinToks (ls ++ c :: bs) = flat (ls.map fun l => (l, ' ')) ++ (c ++ tailOf bs) := by
  induction ls with
  | nil => simp [flat, joinToks_cons]
  | cons l ls ih =>
    rw [List.cons_append, joinToks_cons, tailOf_append_cons, ih]
    simp [flat]

theorem tailOf_filter (bs : List Str) (hb : ∀ b ∈ bs, ∀ c ∈ b, pyIsSpace c = false) :
    (tailOf bs).filter (fun c => !pyIsSpace c) = bs.flatten := by
  have hf : ∀ b : Str, (∀ c ∈ b, pyIsSpace c = false) → b.filter (fun c => !pyIsSpace c) = b := by
    intro b h
    rw [List.filter_eq_self]
    intro c hc
    simp [h c hc]
  have hsp : pyIsSpace ' ' = true := by decide
  induction bs with
  | nil => simp [tailOf]
  | cons b bs ih =>
    have hb' : ∀ x ∈ bs, ∀ c ∈ x, pyIsSpace c = false := fun x hx => hb x (List.mem_cons_of_mem _ hx)
    show (' ' :: joinToks (b :: bs)).filter (fun c => !pyIsSpace c) = _
    rw [joinToks_cons]
    simp only [List.filter_cons, hsp, Bool.not_true, Bool.false_eq_true, if_false,
      List.filter_append, hf b (hb b (by simp)), ih hb', List.flatten_cons]

/-- **`_import_proof` on what the parser stores = the model on the tokens**: `statement.proof` is `' '.join(tokens)`
(`ASTTransformer.provable_stmt`); if the tokens are `(`, labels that are non-empty and free of whitespace and of the character `)`,
the token `)`, and then any tokens free of (Python-)whitespace, the generated code on the joined string is the model on the tokens. -/
theorem import_proof_parsed (floats vars labels body : List String)
    (hl : ∀ l ∈ labels, LabelOK l.toList) (hb : ∀ b ∈ body, ∀ c ∈ b.toList, pyIsSpace c = false) :
    import_proof ⟨floats.map String.toList⟩ ⟨vars.map String.toList,
        some (joinToks (("(" :: labels ++ ")" :: body).map String.toList))⟩
      = (MM.importProof floats vars ("(" :: labels ++ ")" :: body)).map ofModel := by
  have hsp : pyIsSpace ' ' = true := by decide
  have key := import_proof_layout floats vars (labels.map fun l => (l, ' ')) body [] [' ']
    (tailOf (body.map String.toList)) (by simp) (by simp [hsp]) (by
      intro p hp
      obtain ⟨l, hl', rfl⟩ := List.mem_map.mp hp
      exact ⟨hl l hl', hsp⟩) (by
      rw [tailOf_filter _ (by
        intro b hb'
        obtain ⟨x, hx, rfl⟩ := List.mem_map.mp hb'
        exact hb x hx)]
      simp [List.flatMap])
  have e1 : (labels.map fun l => (l, ' ')).map (·.1) = labels := by
    simp only [List.map_map, Function.comp_def, List.map_id']
  have e2 : (labels.map fun l => (l, ' ')).map (fun p => (p.1.toList, p.2))
      = (labels.map String.toList).map fun l => (l, ' ') := by
    simp only [List.map_map, Function.comp_def]
  rw [e1, e2] at key
  rw [← key]
  congr 3
  simp only [List.map_cons, List.map_append, List.cons_append]
  have hp1 : ("(" : String).toList = ['('] := by decide
  have hp2 : (")" : String).toList = [')'] := by decide
  rw [joinToks_cons, hp1, tailOf_append_cons, joinToks_labels, hp2]
  simp

/-! ## the corner cases of the character-level code

`import_proof_factor` reduces `_import_proof` to `parse_lemmas` and the two letter loops for an ARBITRARY proof string; the
concrete strings below are then evaluated by the kernel (`decide`).  Each string was also run through the real
`MetamathConverter._import_proof` (see the report): the results are the ones stated here. -/

theorem mandatory_nil (pf : Option Str) : mandatory ⟨[]⟩ ⟨[], pf⟩ = [] := by
  simp [mandatory, pySorted]

/-- the generated `_import_proof` of a statement without metavariables, on a proof string -/
def run (s : String) : Option Proof := import_proof ⟨[]⟩ ⟨[], some s.toList⟩
/-- the model on tokens, no metavariables -/
def model (toks : List String) : Option Proof := (MM.importProof [] [] toks).map ofModel

theorem run_eq (s : String) : run s = afterMandatory [] (some s.toList) := by
  unfold run; rw [import_proof_factor, mandatory_nil]

theorem model_eq (toks : List String) :
    model toks = match toks with
      | "(" :: rest => (MM.parseLabels rest []).bind fun p =>
          (MM.tokenize (p.2.flatMap String.toList) []).map fun st => ⟨numbered 1 (p.1.map String.toList), st⟩
      | _ => none := by
  unfold model MM.importProof
  split
  · next rest =>
    simp only [List.filter_nil, List.mergeSort_nil, List.append_nil, List.map_nil, List.nil_append, Option.bind_eq_bind,
      Option.pure_def]
    cases MM.parseLabels rest [] with
    | none => simp
    | some p =>
      simp only [Option.bind_some]
      cases MM.tokenize (p.2.flatMap String.toList) [] with
      | none => simp
      | some st => simp [ofModel]
  · next h =>
    split
    · next rest => exact absurd rfl (h rest)
    · simp

/-! ### where the two agree (instances of `import_proof_parsed` / `import_proof_no_paren`, evaluated) -/

theorem corner_wellformed :
    run "( a b ) ABZ" = some ⟨[(1, ['a']), (2, ['b'])], [1, 2, 0]⟩ ∧
    model ["(", "a", "b", ")", "ABZ"] = some ⟨[(1, ['a']), (2, ['b'])], [1, 2, 0]⟩ := by
  rw [run_eq, model_eq]; decide
theorem corner_empty_label_list :
    run "( ) AB" = some ⟨[], [1, 2]⟩ ∧ model ["(", ")", "AB"] = some ⟨[], [1, 2]⟩ := by
  rw [run_eq, model_eq]; decide
theorem corner_no_letters :
    run "( a )" = some ⟨[(1, ['a'])], []⟩ ∧ model ["(", "a", ")"] = some ⟨[(1, ['a'])], []⟩ := by
  rw [run_eq, model_eq]; decide
/-- any single whitespace character separates labels (here a newline), blanks inside / behind the letters are dropped -/
theorem corner_other_whitespace :
    run "(\n a\nb\t) U A " = some ⟨[(1, ['a']), (2, ['b'])], [21]⟩ ∧
    model ["(", "a", "b", ")", "U", "A"] = some ⟨[(1, ['a']), (2, ['b'])], [21]⟩ := by
  rw [run_eq, model_eq]; decide
/-- no `(` at all (an uncompressed proof): Python raises `UnboundLocalError` (`_j`), the model rejects -/
theorem corner_no_paren : run "a b c" = none ∧ model ["a", "b", "c"] = none := by
  rw [run_eq, model_eq]; decide
/-- nothing after `(`: Python raises `UnboundLocalError` (`_j`), the model rejects -/
theorem corner_only_open : run "(" = none ∧ model ["("] = none := by
  rw [run_eq, model_eq]; decide
/-- `assert proof` -/
theorem corner_empty : run "" = none ∧ model [] = none := by
  rw [run_eq, model_eq]; decide
/-- `assert buffer == ''`: a `Z` inside a number -/
theorem corner_Z_inside_number : run "( a ) UZ" = none ∧ model ["(", "a", ")", "UZ"] = none := by
  rw [run_eq, model_eq]; decide
/-- `KeyError`: a letter that is no digit in front of a closing digit -/
theorem corner_bad_letter : run "( a ) ?A" = none ∧ model ["(", "a", ")", "?A"] = none := by
  rw [run_eq, model_eq]; decide
/-- a trailing incomplete number is silently ignored by both -/
theorem corner_trailing_incomplete :
    run "( a ) AU" = some ⟨[(1, ['a'])], [1]⟩ ∧ model ["(", "a", ")", "AU"] = some ⟨[(1, ['a'])], [1]⟩ := by
  rw [run_eq, model_eq]; decide

/-! ### where they DIFFER, on strings the parser produces (each is `' '.join` of its tokens; checked through the real
`parse_database` + `MetamathConverter`): the Python code ACCEPTS ill-formed compressed proofs the model rejects -/

/-- tokens in front of `(` are skipped -/
theorem differ_prefix :
    run "x ( a ) AB" = some ⟨[(1, ['a'])], [1, 2]⟩ ∧ model ["x", "(", "a", ")", "AB"] = none := by
  rw [run_eq, model_eq]; decide
/-- a label list that is never closed: the last token is dropped, no steps -/
theorem differ_unterminated :
    run "( a b" = some ⟨[(1, ['a'])], []⟩ ∧ model ["(", "a", "b"] = none := by
  rw [run_eq, model_eq]; decide
theorem differ_unterminated_one : run "( a" = some ⟨[], []⟩ ∧ model ["(", "a"] = none := by
  rw [run_eq, model_eq]; decide
/-- `)` glued to a label: the label is dropped (it is only registered at a whitespace character) -/
theorem differ_close_glued :
    run "( a) AB" = some ⟨[], [1, 2]⟩ ∧ model ["(", "a)", "AB"] = none := by
  rw [run_eq, model_eq]; decide
/-- `(` glued to the first label -/
theorem differ_open_glued :
    run "(a b ) AB" = some ⟨[(1, ['a']), (2, ['b'])], [1, 2]⟩ ∧ model ["(a", "b", ")", "AB"] = none := by
  rw [run_eq, model_eq]; decide
theorem differ_open_close_glued : run "()" = some ⟨[], []⟩ ∧ model ["()"] = none := by
  rw [run_eq, model_eq]; decide
/-- a `)` inside a label ends the list there; both succeed, with different results -/
theorem differ_close_inside_label :
    run "( a)A )" = some ⟨[], [1]⟩ ∧ model ["(", "a)A", ")"] = some ⟨[(1, ['a', ')', 'A'])], []⟩ := by
  rw [run_eq, model_eq]; decide
/-- a character that is whitespace for `str.isspace` but not for the lexer (`TOKEN: /[^ \n\t\f\r\$]+/`), here U+00A0,
splits a label … -/
theorem differ_nbsp_in_label :
    run "( a\u00a0b ) A" = some ⟨[(1, ['a']), (2, ['b'])], [1]⟩ ∧
    model ["(", "a\u00a0b", ")", "A"] = some ⟨[(1, ['a', Char.ofNat 160, 'b'])], [1]⟩ := by
  rw [run_eq, model_eq]; decide
/-- … and disappears from the letters -/
theorem differ_nbsp_in_letters :
    run "( a ) A\u00a0B" = some ⟨[(1, ['a'])], [1, 2]⟩ ∧ model ["(", "a", ")", "A\u00a0B"] = none := by
  rw [run_eq, model_eq]; decide

/-! ### where they differ on strings the parser does NOT produce (the tokens are joined by single blanks, no blank at the end) -/

/-- two blanks between labels: a phantom empty label -/
theorem differ_double_blank :
    run "( a  b ) AB" = some ⟨[(1, ['a']), (2, []), (3, ['b'])], [1, 2]⟩ ∧
    model ["(", "a", "b", ")", "AB"] = some ⟨[(1, ['a']), (2, ['b'])], [1, 2]⟩ := by
  rw [run_eq, model_eq]; decide
/-- a blank behind `(` at the end of the string: a phantom empty label -/
theorem differ_trailing_blank : run "( " = some ⟨[(1, [])], []⟩ ∧ model ["("] = none := by
  rw [run_eq, model_eq]; decide

/-! ### the general form of two of the differences -/

/-- the model rejects whatever does not start with the token `(` … -/
theorem model_needs_open (floats vars : List String) (t : String) (ts : List String) (h : t ≠ "(") :
    MM.importProof floats vars (t :: ts) = none := by
  unfold MM.importProof
  split
  · next rest heq => simp only [List.cons.injEq] at heq; exact absurd heq.1 h
  · rfl

theorem parseLabels_none (toks acc : List String) (h : ∀ t ∈ toks, t ≠ ")") : MM.parseLabels toks acc = none := by
  induction toks generalizing acc with
  | nil => simp [MM.parseLabels]
  | cons t toks ih =>
    rw [parseLabels_cons (h t (by simp))]
    exact ih _ (fun x hx => h x (List.mem_cons_of_mem _ hx))

/-- … and whatever has no token `)` behind it -/
theorem model_needs_close (floats vars toks : List String) (h : ∀ t ∈ toks, t ≠ ")") :
    MM.importProof floats vars ("(" :: toks) = none := by
  simp [MM.importProof, parseLabels_none toks [] h]

/-- loop 3 on the characters of a last, unterminated label -/
theorem for3_tail (c : Char) (l : Str) (k : Nat) (o : Option Nat) (d : PyDict Nat Str) (n : Nat) (b : Str)
    (hl : ∀ x ∈ c :: l, pyIsSpace x = false ∧ x ≠ ')') :
    parse_lemmas_for3 (pyEnumerateFrom k (c :: l)) o d n b = some (some (k + l.length), d, n, b ++ c :: l) := by
  obtain ⟨h1, h2⟩ := hl c (by simp)
  induction l generalizing c k o b with
  | nil => simp [pyEnumerateFrom, parse_lemmas_for3, h1, h2]
  | cons y l ih =>
    have h2' : (c == ')') = false := by simpa using h2
    rw [pyEnumerateFrom, parse_lemmas_for3]
    simp only [h1, h2', Bool.false_eq_true, if_false]
    obtain ⟨h3, h4⟩ := hl y (by simp)
    rw [ih y (k + 1) _ _ (fun x hx => hl x (List.mem_cons_of_mem _ hx)) h3 h4]
    simp only [List.length_cons, List.append_assoc, List.cons_append, List.nil_append]
    congr 3; omega

/-- **An unterminated label list is accepted**: on `<pre> ( <ws> label₁ s₁ … labelₙ sₙ last` (no `)` anywhere behind `(`) the
Python code returns the table with the labels BUT THE LAST TOKEN and no steps, where the model (and Metamath) reject. -/
theorem import_proof_unterminated_chars (self : Converter) (mvs : List Str) (pre ws : List Char) (labels : List (Str × Char))
    (last : Str)
    (hpre : ∀ c ∈ pre, c ≠ '(') (hws : ∀ c ∈ ws, pyIsSpace c = true)
    (hl : ∀ p ∈ labels, LabelOK p.1 ∧ pyIsSpace p.2 = true) (hlast : LabelOK last) :
    import_proof self ⟨mvs, some (pre ++ '(' :: (ws ++ (flat labels ++ last)))⟩
      = some ⟨numbered 1 (mandatory self ⟨mvs, some (pre ++ '(' :: (ws ++ (flat labels ++ last)))⟩ ++ labels.map (·.1)), []⟩ := by
  obtain ⟨hne, hok⟩ := hlast
  cases last with
  | nil => exact absurd rfl hne
  | cons c l =>
    rw [import_proof_factor]
    unfold afterMandatory
    generalize mandatory self _ = M
    -- loop 3 runs to the end of the string, so the offset `parse_lemmas` returns is the length of the string
    have e : (pre ++ '(' :: (ws ++ (flat labels ++ c :: l))).drop (pre.length + ws.length + ((flat labels).length + l.length) + 2) = [] :=
      List.drop_eq_nil_of_le (by simp; omega)
    simp only [pyAssertStr_paren, Option.bind_eq_bind, Option.bind_some, pySliceFrom, e,
      parse_lemmas_labels pre ws l c labels M hpre hws hl (hok c (by simp)).1 _ _ _ _ (for3_tail c l _ none _ _ [] hok)]
    rfl

end ImportTie
