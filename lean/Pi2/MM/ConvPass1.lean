import Pi2.MM.ConvBasic
/-!
# `_check_axiom` on the statements of the fragment, and the first sweep of `_top_down`
-/
set_option linter.unusedSimpArgs false
set_option linter.unusedVariables false
open MM SliceSup ConvSup Gen.MMConv

namespace ConvTie

/-! ## `_check_axiom` -/
@[simp] theorem andR_ok_false' (b : Bool) : andR (.ok b) (fun _ => .ok false) = .ok false := by cases b <;> rfl

theorem check_axiom_pattern (σ : String → Nat) (fuel : Nat) (self : ConvObj) (scope : ScopeObj) (l s : String) (args : List MTerm)
    (hs : reConstantMatch s = false) :
    _check_axiom σ fuel self scope (.ax l [.app "#Pattern" [], .app s args]) =
      .ok ({ self with _pattern_constructors := setAdd self._pattern_constructors l }, AxiomType.Provable) := by
  simp [_check_axiom, MStmt.terms, MTerm.symbol, isApplication, isAxiomatic, isEssential, hs, MStmt.label, bind, Res.bind, pure, andR_ok_false']

theorem ite_ok {α : Type} (c : Prop) [Decidable c] (a b : α) : (if c then Res.ok a else Res.ok b) = Res.ok (if c then a else b) := by
  split <;> rfl
theorem ite_pair {α β : Type} (c : Prop) [Decidable c] (a b : α) (x : β) : (if c then (a, x) else (b, x)) = (if c then a else b, x) := by
  split <;> rfl

/-- a statement `|- t`, `$a` or `$e`: only an `$a` whose label starts with `proof-rule-` is recorded -/
theorem check_axiom_thm (σ : String → Nat) (fuel : Nat) (self : ConvObj) (scope : ScopeObj) (st : MStmt) (t : MTerm)
    (hterms : st.terms = [.app "|-" [], t]) :
    _check_axiom σ fuel self scope st =
      .ok (if isAxiomatic st && strStartsWith st.label "proof-rule-" then { self with _proof_rules := setAdd self._proof_rules st.label }
        else self, AxiomType.Provable) := by
  simp [_check_axiom, hterms, MTerm.symbol, isApplication, bind, Res.bind, pure, ite_ok, ite_pair]

/-! ## the statements of the first sweep -/
theorem import_constants_eq (σ : String → Nat) (fuel : Nat) (self : ConvObj) (cs : List String) :
    _import_constants σ fuel self (.const cs) =
      .ok { self with _declared_constants := setUnion self._declared_constants (setOf cs) } := rfl

theorem import_variables_eq (σ : String → Nat) (fuel : Nat) (vs : List String) : ∀ (self : ConvObj),
    _import_variables σ fuel self (.var vs) =
      .ok { self with _declared_variables := vs.foldl (fun d v => SliceSup.dictSet d v v) self._declared_variables } := by
  induction vs with
  | nil => intro self; rfl
  | cons v vs ih => intro self; exact ih { self with _declared_variables := SliceSup.dictSet self._declared_variables v v }

theorem import_floating_eq (σ : String → Nat) (fuel : Nat) (self : ConvObj) (l v : String)
    (hv : dictHas self._declared_variables v = true) (hsym : vdHas self._symbols v = false)
    (hc : v ∉ self._declared_constants) (hexp : self._scope._metavars.expected = some PyType.MetaVar)
    (hnew : v ∉ self._scope._metavars.data.map (·.1)) (hvv : self._declared_variables.lookup v = some v) :
    _import_floating σ fuel self (.float l "#Pattern" v) =
      .ok { self with
        _floating_patterns := self._floating_patterns ++ [v]
        _scope := { self._scope with _metavars := { self._scope._metavars with
                      data := self._scope._metavars.data ++ [(v, mkMetaVar self._scope._metavars.data.length)] } }
        _fp_label_to_pattern := SliceSup.dictSet self._fp_label_to_pattern l [mkMetaVar self._scope._metavars.data.length] } := by
  have hget : dictGet self._declared_variables v = .ok v := dictGet_ok _ _ _ hvv
  have hfit : vdFits self._scope._metavars.expected (mkMetaVar self._scope._metavars.data.length) = true := by
    rw [hexp]; rfl
  have hcc : self._declared_constants.contains v = false := by simpa using hc
  have hlk : ((self._scope._metavars.data ++ [(v, mkMetaVar self._scope._metavars.data.length)]).lookup v)
      = some (mkMetaVar self._scope._metavars.data.length) := by
    rw [lookup_append_new _ _ _ _ hnew]; simp
  have hsym' : (List.lookup v self._symbols.data).isSome = false := by simpa [vdHas, dictHas] using hsym
  simp only [_import_floating, MStmt.terms, MTerm.symbol, MTerm.name, isApplication, isMetavariable, hv, hget, MStmt.label, bind, Res.bind,
    pure, listGet_zero, listGet_one, andR_true, andR_false, beq_self_eq_true, if_true, ite_true]
  simp only [Scope_add_metavariable, vdSet_ok _ _ _ hfit, vdLen, bind, Res.bind, pure, dictSet_new _ _ _ hnew]
  simp [_resolve, _is_symbol, hcc, hc, Scope_resolve, vdHas, vdGet, dictHas, hlk, dictGet, ofOption, hsym', bind, Res.bind, pure]

/-! ## the first sweep as a fold -/
theorem forM'_foldl {α σ : Type} (g : σ → α → σ) (I : σ → List α → Prop) (body : σ → α → Res σ)
    (hstep : ∀ s x rest, I s (x :: rest) → body s x = .ok (g s x) ∧ I (g s x) rest) :
    ∀ xs s, I s xs → forM' xs s body = .ok (xs.foldl g s) := by
  intro xs
  induction xs with
  | nil => intro s _; rfl
  | cons x xs ih =>
    intro s hI
    obtain ⟨h1, h2⟩ := hstep s x xs hI
    simp only [forM'_cons, h1, Res.bind_ok, List.foldl_cons]
    exact ih _ h2

/-- the shape of an `$a` statement of the fragment: `#Pattern ( s … )` with `s` not of the form `"…"`, or `|- t` -/
def axOK (ts : List MTerm) : Bool :=
  match ts with
  | [.app tc [], t] =>
      (tc == "#Pattern" && (match t with | .app s _ => !reConstantMatch s | _ => false)) || tc == "|-"
  | _ => false

/-- is the statement put on the list `axioms` (given that `_check_axiom` says `Provable`)? -/
def isAxItem : MStmt → Bool
  | .ax _ _ => true
  | .block ss => (match ss.getLast? with | some (.ax _ _) => true | _ => false)
  | _ => false
def isLemItem : MStmt → Bool
  | .prov _ _ _ => true
  | .block ss => (match ss.getLast? with | some (.prov _ _ _) => true | _ => false)
  | _ => false

/-- the `$a` statement of an item of `axioms` -/
def axHead : MStmt → Option (String × List MTerm)
  | .ax l ts => some (l, ts)
  | .block ss => (match ss.getLast? with | some (.ax l ts) => some (l, ts) | _ => none)
  | _ => none

def isPcItem (st : MStmt) : Bool :=
  match axHead st with
  | some (_, [.app tc [], _]) => tc == "#Pattern"
  | _ => false
def isPrItem (st : MStmt) : Bool :=
  match axHead st with
  | some (l, [.app tc [], _]) => tc != "#Pattern" && strStartsWith l "proof-rule-"
  | _ => false
def headLabel (st : MStmt) : String := match axHead st with | some (l, _) => l | none => ""

/-- what `_check_axiom` does to the converter on the `$a` statement of an item of `axioms`: the label joins
`_pattern_constructors` or `_proof_rules` -/
def axUpd (c : ConvObj) (st : MStmt) : ConvObj :=
  { c with
    _pattern_constructors := if isPcItem st then setAdd c._pattern_constructors (headLabel st) else c._pattern_constructors
    _proof_rules := if isPrItem st then setAdd c._proof_rules (headLabel st) else c._proof_rules }

theorem check_axiom_ax (σ : String → Nat) (fuel : Nat) (c : ConvObj) (scope : ScopeObj) (st : MStmt) (l : String) (ts : List MTerm)
    (hst : axHead st = some (l, ts)) (h : axOK ts = true) :
    _check_axiom σ fuel c scope (.ax l ts) = .ok (axUpd c st, AxiomType.Provable) := by
  unfold axOK at h
  split at h
  · rename_i tc t
    simp only [Bool.or_eq_true, Bool.and_eq_true, beq_iff_eq] at h
    rcases h with ⟨rfl, ht⟩ | rfl
    · cases t with
      | mv _ => cases ht
      | app s args =>
        rw [check_axiom_pattern σ fuel c scope l s args (by simpa using ht)]
        simp [axUpd, isPcItem, isPrItem, headLabel, hst]
    · rw [check_axiom_thm σ fuel c scope (.ax l _) t rfl]
      cases hp : strStartsWith l "proof-rule-" <;> simp [axUpd, isPcItem, isPrItem, headLabel, hst, hp, isAxiomatic, MStmt.label]
  · cases h

/-- a `$e` statement of the fragment: `|- t` -/
def essOK : MStmt → Bool
  | .ess _ [.app tc [], _] => tc == "|-"
  | _ => false

theorem check_axiom_ess (σ : String → Nat) (fuel : Nat) (c : ConvObj) (scope : ScopeObj) (st : MStmt) (h : essOK st = true) :
    _check_axiom σ fuel c scope st = .ok (c, AxiomType.Provable) := by
  unfold essOK at h
  split at h
  · cases eq_of_beq h
    exact check_axiom_thm σ fuel c scope _ _ rfl
  · cases h

abbrev S1 := ConvObj × List MStmt × List MStmt × List MStmt

def floatUpd (c : ConvObj) (l v : String) : ConvObj :=
  { c with
    _floating_patterns := c._floating_patterns ++ [v]
    _scope := { c._scope with _metavars := { c._scope._metavars with
                  data := c._scope._metavars.data ++ [(v, mkMetaVar c._scope._metavars.data.length)] } }
    _fp_label_to_pattern := SliceSup.dictSet c._fp_label_to_pattern l [mkMetaVar c._scope._metavars.data.length] }

/-- what one statement of the first sweep does to the converter -/
def upd1 (c : ConvObj) (st : MStmt) : ConvObj :=
  match st with
  | .const cs => { c with _declared_constants := setUnion c._declared_constants (setOf cs) }
  | .var vs => { c with _declared_variables := vs.foldl (fun d v => SliceSup.dictSet d v v) c._declared_variables }
  | .float l _ v => floatUpd c l v
  | .ax _ _ | .block _ => axUpd c st
  | _ => c

/-- one statement of the first sweep: the converter, and the lists `notations`, `axioms`, `lemmas` -/
def step1 (s : S1) (st : MStmt) : S1 :=
  (upd1 s.1 st, s.2.1, s.2.2.1 ++ (if isAxItem st then [st] else []), s.2.2.2 ++ (if isLemItem st then [st] else []))

/-- the conditions of the fragment that the first sweep needs, statement by statement: `vs` = the variables declared so far,
`fs` = the variables with a `$f` so far; `consts` = ALL constants of the database -/
def ok1 (consts : List String) : List String → List String → MDb → Bool
  | _, _, [] => true
  | vs, fs, .const cs :: r => cs.all consts.contains && ok1 consts vs fs r
  | vs, fs, .var ws :: r => ok1 consts (vs ++ ws) fs r
  | vs, fs, .float _ tc v :: r => tc == "#Pattern" && vs.contains v && !fs.contains v && !consts.contains v && ok1 consts vs (fs ++ [v]) r
  | vs, fs, .ax _ ts :: r => axOK ts && ok1 consts vs fs r
  | vs, fs, .prov _ _ _ :: r => ok1 consts vs fs r
  | vs, fs, .block ss :: r =>
      (match ss.getLast? with
       | some (.ax _ ts) => axOK ts
       | some (.prov _ _ _) => true
       | _ => false) && ok1 consts vs fs r
  | _, _, _ => false

structure Inv1 (consts vs fs : List String) (c : ConvObj) : Prop where
  vars : ∀ x ∈ vs, c._declared_variables.lookup x = some x
  mv : c._scope._metavars.data = mvData fs
  mvExp : c._scope._metavars.expected = some PyType.MetaVar
  syms : c._symbols.data = []
  consts : ∀ x ∈ c._declared_constants, x ∈ consts

/-- `axUpd` touches none of the fields `Inv1` speaks of -/
theorem Inv1.axUpd {consts vs fs : List String} {c : ConvObj} (h : Inv1 consts vs fs c) (st : MStmt) :
    Inv1 consts vs fs (axUpd c st) := ⟨h.vars, h.mv, h.mvExp, h.syms, h.consts⟩

theorem foldl_dictSet_lookup (ws : List String) : ∀ (d : PyDict String) (x : String),
    (ws.foldl (fun d v => SliceSup.dictSet d v v) d).lookup x = if x ∈ ws then some x else d.lookup x := by
  induction ws with
  | nil => intro d x; simp
  | cons w ws ih =>
    intro d x
    simp only [List.foldl_cons, ih, lookup_dictSet, List.mem_cons]
    by_cases h1 : x ∈ ws
    · simp [h1]
    · by_cases h2 : x = w
      · subst h2; simp [h1]
      · simp [h1, h2]

theorem listLast_of_getLast? {α : Type} (l : List α) (a : α) (h : l.getLast? = some a) : listLast l = .ok a := by
  simp [listLast, ofOption, h]

theorem foldl_step1_notations (xs : List MStmt) : ∀ s : S1, (xs.foldl step1 s).2.1 = s.2.1 := by
  induction xs with
  | nil => intro s; rfl
  | cons x xs ih => intro s; exact ih (step1 s x)

/-- the first sweep of `_top_down` is the fold of `step1`; what remains is the second sweep -/
theorem top_down_eq (σ : String → Nat) (fuel : Nat) (c : ConvObj) (consts vs fs : List String)
    (hI : Inv1 consts vs fs c) (hok : ok1 consts vs fs c.parsed = true) :
    _top_down σ fuel c =
      (forM' (c.parsed.foldl step1 (c, [], [], [])).2.2.1 (c.parsed.foldl step1 (c, [], [], [])).1
          (fun self ax => _import_axiom σ fuel self ax) >>= fun self =>
        forM' (c.parsed.foldl step1 (c, [], [], [])).2.2.2 self (fun self lem => _import_lemma σ fuel self lem)) := by
  unfold _top_down
  simp only [bind_pure]
  let I : S1 → List MStmt → Prop := fun s rest => ∃ vs fs, Inv1 consts vs fs s.1 ∧ ok1 consts vs fs rest = true ∧ s.2.1 = []
  rw [forM'_foldl step1 I _ _ c.parsed (c, [], [], []) ⟨vs, fs, hI, hok, rfl⟩]
  · simp only [Res.bind_ok, foldl_step1_notations, forM'_nil]
  · intro s x rest ⟨vs, fs, hinv, hok, hn⟩
    obtain ⟨c, n, ax, lem⟩ := s
    simp only [] at hn
    subst hn
    cases x with
    | const cs =>
      simp only [ok1, Bool.and_eq_true] at hok
      refine ⟨by simp [isConstant, import_constants_eq, step1, upd1, isAxItem, isLemItem], vs, fs, ?_, hok.2, rfl⟩
      refine ⟨hinv.vars, hinv.mv, hinv.mvExp, hinv.syms, ?_⟩
      intro x hx
      simp only [step1, upd1, mem_setUnion, mem_setOf] at hx
      rcases hx with hx | hx
      · exact hinv.consts x hx
      · simpa using List.all_eq_true.mp hok.1 x hx
    | var ws =>
      simp only [ok1] at hok
      refine ⟨by simp [isConstant, isVariable, import_variables_eq, step1, upd1, isAxItem, isLemItem], vs ++ ws, fs, ?_, hok, rfl⟩
      refine ⟨?_, hinv.mv, hinv.mvExp, hinv.syms, hinv.consts⟩
      intro x hx
      simp only [step1, upd1, foldl_dictSet_lookup]
      split
      · rfl
      · rename_i hw
        exact hinv.vars x ((List.mem_append.mp hx).resolve_right hw)
    | disj _ | ess _ _ => simp [ok1] at hok
    | float l tc v =>
      simp only [ok1, Bool.and_eq_true, beq_iff_eq, Bool.not_eq_true', List.contains_eq_mem, decide_eq_true_eq,
        decide_eq_false_iff_not] at hok
      obtain ⟨⟨⟨⟨rfl, hv⟩, hf⟩, hc⟩, hrest⟩ := hok
      have hlk := hinv.vars v hv
      have hfl := import_floating_eq σ fuel c l v (by simp [dictHas, hlk]) (by have := hinv.syms; simp only [] at this; simp [vdHas, dictHas, this])
        (fun h => hc (hinv.consts v h)) hinv.mvExp (by rw [hinv.mv, mvData_keys]; exact hf) hlk
      refine ⟨by simp [isConstant, isVariable, isFloating, hfl, step1, upd1, floatUpd, isAxItem, isLemItem], vs, fs ++ [v], ?_, hrest, rfl⟩
      refine ⟨hinv.vars, ?_, hinv.mvExp, hinv.syms, hinv.consts⟩
      have hm := hinv.mv
      simp only [] at hm
      simp only [step1, upd1, floatUpd, hm, mvData_append, mvData_length]
    | ax l ts =>
      simp only [ok1, Bool.and_eq_true] at hok
      exact ⟨by simp [isConstant, isVariable, isFloating, isAxiomatic, check_axiom_ax σ fuel c c._scope (.ax l ts) l ts rfl hok.1,
        step1, upd1, isAxItem, isLemItem], vs, fs, hinv.axUpd _, hok.2, rfl⟩
    | prov l ts pf =>
      simp only [ok1] at hok
      exact ⟨by simp [isConstant, isVariable, isFloating, isAxiomatic, isProvable, step1, upd1, isAxItem, isLemItem], vs, fs, hinv, hok, rfl⟩
    | block ss =>
      simp only [ok1, Bool.and_eq_true] at hok
      cases hl : ss.getLast? with
      | none => simp [hl] at hok
      | some last =>
        have hlast := listLast_of_getLast? ss last hl
        cases last with
        | ax l ts =>
          simp only [hl] at hok
          exact ⟨by simp only [isConstant, Bool.false_eq_true, ↓reduceIte, isVariable, isFloating, isAxiomatic, isProvable,
            isBlock, MStmt.statements, hlast, beq_iff_eq, List.nil_append, Res.pure_eq, bind_assoc, Res.bind_ok,
            check_axiom_ax σ fuel c c._scope (.block ss) l ts (by simp [axHead, hl]) hok.1, reduceCtorEq, step1, upd1, isAxItem,
            hl, isLemItem, List.append_nil],
            vs, fs, hinv.axUpd _, hok.2, rfl⟩
        | prov l ts pf =>
          exact ⟨by simp only [isConstant, Bool.false_eq_true, ↓reduceIte, isVariable, isFloating, isAxiomatic, isProvable,
            isBlock, MStmt.statements, hlast, beq_iff_eq, List.nil_append, Res.pure_eq, bind_assoc, Res.bind_ok, step1, upd1,
            axUpd, isPcItem, axHead, hl, isPrItem, isAxItem, List.append_nil, isLemItem], vs, fs, hinv.axUpd _, hok.2, rfl⟩
        | const _ | var _ | disj _ | float _ _ _ | ess _ _ | block _ => simp [hl] at hok

end ConvTie
