import Pi2.KDefTieM9
/-!
# The finished several-module store answers `get_axiom` and holds the cached scopes like the rules the last module reaches
(`HintInv`, `Pi2/KDefTie.lean`); so `get_proof_hints` on it is `KDefSpec.traceStepsR` (`get_proof_hints_inv`)
-/
set_option linter.unusedVariables false
set_option linter.unusedSimpArgs false
namespace KDefTieM2
open PyI PyM PyK Kore Gen.PyKDef KDefSpec KDefTie KDefTieM

/-- the finished several-module store answers like the rules of `sigOfDefinitionM` -/
theorem hintInv_final (pL : Option Bool) {b : FSt} (hb : InvF b) (hord : OrdOK (projF b).1) (n : Nat) (hn : b.fin.length + 1 ≤ n) :
    HintInv n (projF b).1.sg (heapF pL b) ((projF b).1.rules.filter fun r => (mainOrdinals (projF b).2).contains r.ordinal) where
  sig := sigView_heapF pL b
  ax := get_axiom_final pL hb hord n hn
  cache := by
    intro o ru hf
    rw [cached_final]
    have hall := (List.mem_filter.1 (List.mem_of_find?_eq_some hf)).1
    have hruo : ru.ordinal = o := by simpa using List.find?_some hf
    rw [find?_of_mem (key := fun r : Rule => r.ordinal) (fun a ha b hb => ordOK_inj hord ha hb) hall hruo]
    rfl

#print axioms get_proof_hints_inv
#print axioms hintInv_final
end KDefTieM2
