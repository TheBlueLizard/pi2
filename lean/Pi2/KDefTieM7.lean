import Pi2.KDefTieM6
/-!
# From one module to the next: the invariant of the construction is kept when a module is finished and a new one (fresh name) is begun
-/
set_option linter.unusedVariables false
set_option linter.unusedSimpArgs false
namespace KDefTieM2
open PyI PyM PyK Kore Gen.PyKDef KDefSpec KDefTie KDefTieM

/-- `KModule(name, counter)` after `__enter__` -/
def newMod (name : Nat) : RMod :=
  { name := name, parsing := some true, imports := [], inames := [], cl := [], reach := [], sorts := [], symbols := [], rules := [] }

/-- the state when the module under construction is finished (`__exit__`) and the module `name` is begun -/
def nextModule (st : RStM) (name : Nat) : RStM :=
  { done := st.done ++ [{ st.cur with parsing := some false }], cur := newMod name, nAxioms := st.nAxioms }

theorem modOK_new (before : List RMod) (name : Nat) : ModOK before (newMod name) :=
  ⟨by simp [newMod], by simp [newMod], rfl, by simp [newMod]⟩

/-- the first module -/
theorem inv_first (name : Nat) : InvM { done := [], cur := newMod name, nAxioms := 0 } where
  distinct := by
    intro a b x y ha hb _
    have h1 := idx_lt ha; have h2 := idx_lt hb
    simp [RStM.mods] at h1 h2; omega
  doneOK := by intro i m hm; simp at hm
  curOK := modOK_new _ _
  parsing := rfl
  wf := by intro ru hru; simp [RStM.mods, newMod] at hru

theorem inv_next {st : RStM} (hinv : InvM st) (name : Nat) (hfresh : ∀ m ∈ st.mods, m.name ≠ name) : InvM (nextModule st name) where
  distinct := by
    refine distinct_snoc (distinctNames_congr (by simp [RStM.mods, nextModule]) hinv.distinct) fun m hm => ?_
    rcases List.mem_append.1 hm with h | h
    · exact hfresh m (List.mem_append_left _ h)
    · rw [List.mem_singleton.1 h]; exact hfresh st.cur (by simp [RStM.mods])
  doneOK := modOK_snoc hinv.doneOK hinv.curOK
  curOK := modOK_new _ _
  parsing := rfl
  wf := by
    intro ru hru
    apply hinv.wf ru
    simpa [nextModule, RStM.mods, newMod, List.flatMap_append] using hru

#print axioms inv_next
end KDefTieM2
