import Pi2.Machine
import Pi2.InstUThm
/-!
# The shape of the patterns the machine can build is an invariant

`Pat.instU` (the Rust `instantiate_internal`, with its "unchanged" optimisation) and `Pat.inst` (the model the soundness
proof is about) agree on `Pat.RShape` patterns (`Pi2.InstUThm`: "re-applying the substitution of a node to its unchanged
children rebuilds the node").  `Pat.Shape` of `Pi2.NotationThm` (all `mv` have empty freshness lists) implies it but is not
an invariant of the machine: `MetaVar` pushes metavariables with arbitrary constraint lists.  `RShape` holds for the axioms
and every instruction preserves it (`step_RShape`): so it holds for every term the machine ever has on its stack or in its
memory (`run_RShape`), starting from the empty state of `verify`.
-/
open Pat
namespace Pat

theorem RShape_applyESubst (x : VId) (q : Pat) (hq : q.RShape = true) (p : Pat) (hp : p.RShape = true) :
    ∀ r, applyESubst x q p = some r → r.RShape = true := by
  induction p with
  | evar y => intro r h; simp only [applyESubst] at h; split at h <;> cases h <;> first | exact hq | rfl
  | svar y | sym y => intro r h; cases h; rfl
  | mv id ef sf ps ns hs =>
    intro r h; simp only [applyESubst] at h
    split at h <;> cases h
    · rfl
    · simp_all [RShape, rebuildE]
  | imp l r ihl ihr | app l r ihl ihr =>
    intro t h
    simp only [RShape, Bool.and_eq_true] at hp
    simp only [applyESubst, Option.bind_eq_bind, Option.bind_eq_some_iff, Option.pure_def, Option.some.injEq] at h
    obtain ⟨l', hl, r', hr, rfl⟩ := h
    simp only [RShape, ihl hp.1 l' hl, ihr hp.2 r' hr, Bool.and_self]
  | ex y p ih =>
    intro t h
    simp only [applyESubst] at h
    split at h
    · cases h; exact hp
    · split at h
      · simp only [Option.bind_eq_bind, Option.bind_eq_some_iff, Option.pure_def, Option.some.injEq] at h
        obtain ⟨p', hp', rfl⟩ := h
        exact ih hp p' hp'
      · cases h
  | mu y p ih =>
    intro t h
    simp only [applyESubst] at h
    split at h
    · simp only [Option.bind_eq_bind, Option.bind_eq_some_iff, Option.pure_def, Option.some.injEq] at h
      obtain ⟨p', hp', rfl⟩ := h
      exact ih hp p' hp'
    · cases h
  | esub p y r _ _ | ssub p y r _ _ => intro t h; cases h; rw [RShape, hp, hq]; rfl

theorem RShape_applySSubst (X : VId) (q : Pat) (hq : q.RShape = true) (p : Pat) (hp : p.RShape = true) :
    ∀ r, applySSubst X q p = some r → r.RShape = true := by
  induction p with
  | svar y => intro r h; simp only [applySSubst] at h; split at h <;> cases h <;> first | exact hq | rfl
  | evar y | sym y => intro r h; cases h; rfl
  | mv id ef sf ps ns hs =>
    intro r h; simp only [applySSubst] at h
    split at h <;> cases h
    · rfl
    · simp_all [RShape, rebuildS]
  | imp l r ihl ihr | app l r ihl ihr =>
    intro t h
    simp only [RShape, Bool.and_eq_true] at hp
    simp only [applySSubst, Option.bind_eq_bind, Option.bind_eq_some_iff, Option.pure_def, Option.some.injEq] at h
    obtain ⟨l', hl, r', hr, rfl⟩ := h
    simp only [RShape, ihl hp.1 l' hl, ihr hp.2 r' hr, Bool.and_self]
  | mu y p ih =>
    intro t h
    simp only [applySSubst] at h
    split at h
    · cases h; exact hp
    · split at h
      · simp only [Option.bind_eq_bind, Option.bind_eq_some_iff, Option.pure_def, Option.some.injEq] at h
        obtain ⟨p', hp', rfl⟩ := h
        exact ih hp p' hp'
      · cases h
  | ex y p ih =>
    intro t h
    simp only [applySSubst] at h
    split at h
    · simp only [Option.bind_eq_bind, Option.bind_eq_some_iff, Option.pure_def, Option.some.injEq] at h
      obtain ⟨p', hp', rfl⟩ := h
      exact ih hp p' hp'
    · cases h
  | esub p y r _ _ | ssub p y r _ _ => intro t h; cases h; rw [RShape, hp, hq]; rfl

theorem RShape_inst (θ : VId → Option Pat) (hθ : ∀ k v, θ k = some v → v.RShape = true) (p : Pat)
    (hp : p.RShape = true) : ∀ r, inst θ p = some r → r.RShape = true := by
  induction p with
  | evar y | svar y | sym y => intro r h; cases h; rfl
  | mv id ef sf ps ns hs =>
    intro r h; simp only [inst] at h
    split at h
    · cases h; rfl
    · rename_i v hk
      split at h <;> cases h
      exact hθ id _ hk
  | imp l r ihl ihr | app l r ihl ihr =>
    intro t h
    simp only [RShape, Bool.and_eq_true] at hp
    simp only [inst, Option.bind_eq_bind, Option.bind_eq_some_iff, Option.pure_def, Option.some.injEq] at h
    obtain ⟨l', hl, r', hr, rfl⟩ := h
    simp only [RShape, ihl hp.1 l' hl, ihr hp.2 r' hr, Bool.and_self]
  | ex y p ih | mu y p ih =>
    intro t h
    simp only [inst, Option.bind_eq_bind, Option.bind_eq_some_iff, Option.pure_def, Option.some.injEq] at h
    obtain ⟨p', hp', rfl⟩ := h
    exact ih hp p' hp'
  | esub p y q ihp ihq =>
    intro t h
    simp only [RShape, Bool.and_eq_true] at hp
    simp only [inst, Option.bind_eq_bind, Option.bind_eq_some_iff] at h
    obtain ⟨p', hp', q', hq', h⟩ := h
    exact RShape_applyESubst y q' (ihq hp.2 q' hq') p' (ihp hp.1.2 p' hp') t h
  | ssub p y q ihp ihq =>
    intro t h
    simp only [RShape, Bool.and_eq_true] at hp
    simp only [inst, Option.bind_eq_bind, Option.bind_eq_some_iff] at h
    obtain ⟨p', hp', q', hq', h⟩ := h
    exact RShape_applySSubst y q' (ihq hp.2 q' hq') p' (ihp hp.1.2 p' hp') t h

theorem lookupPlug_mem : ∀ (ids : List VId) (plugs : List Pat) (k : VId) (v : Pat),
    lookupPlug ids plugs k = some v → v ∈ plugs := by
  intro ids
  induction ids with
  | nil => intro plugs k v h; simp [lookupPlug] at h
  | cons i is ih =>
    intro plugs k v h
    cases plugs with
    | nil => simp [lookupPlug] at h
    | cons p ps =>
      simp only [lookupPlug] at h
      split at h
      · simp at h; subst h; simp
      · exact List.mem_cons_of_mem _ (ih ps k v h)

end Pat

/-! ## the machine invariant -/

def Term.RShape : Term → Bool
  | .pat p => p.RShape
  | .proved p => p.RShape

theorem Term.RShape_pat (p : Pat) : (Term.pat p).RShape = p.RShape := rfl
theorem Term.RShape_proved (p : Pat) : (Term.proved p).RShape = p.RShape := rfl

/-- every term on the stack and in the memory is `RShape` (the claims are only ever compared) -/
def St.RShape (s : St) : Bool := s.stack.all Term.RShape && s.memory.all Term.RShape

theorem St.RShape_empty : St.RShape ⟨[], [], []⟩ = true := rfl

theorem St.RShape_clear {s : St} (h : s.RShape = true) : St.RShape { s with stack := [] } = true := by
  simp only [St.RShape, Bool.and_eq_true] at h ⊢; exact ⟨by simp, h.2⟩

theorem popPats_RShape : ∀ (n : Nat) (st : List Term) (ps : List Pat) (st' : List Term),
    popPats n st = some (ps, st') → st.all Term.RShape = true →
    ps.all Pat.RShape = true ∧ st'.all Term.RShape = true ∧ ps.length = n := by
  intro n
  induction n with
  | zero => intro st ps st' h hst; simp [popPats] at h; obtain ⟨rfl, rfl⟩ := h; simp; simpa using hst
  | succ n ih =>
    intro st ps st' h hst
    cases st with
    | nil => simp [popPats] at h
    | cons t ts =>
      cases t with
      | proved q => simp [popPats] at h
      | pat q =>
        simp only [popPats, Option.map_eq_some_iff] at h
        obtain ⟨⟨ps0, st0⟩, h0, heq⟩ := h
        simp at heq; obtain ⟨rfl, rfl⟩ := heq
        simp only [List.all_cons, Bool.and_eq_true, Term.RShape] at hst
        have ⟨h1, h2, h3⟩ := ih ts ps0 st0 h0 hst.2
        simp [h1, h2, h3, hst.1]

theorem axioms_RShape : prop1P.RShape = true ∧ prop2P.RShape = true ∧ prop3P.RShape = true ∧
    quantP.RShape = true ∧ existP.RShape = true := by decide

/-- the side condition of `ESubst` / `SSubst`: a meta head that is not declared fresh is rebuilt -/
theorem rebuild_of_not_fresh (x : VId) (p : Pat) (hm : p.isMeta = true) :
    (p.eFresh x = false → p.rebuildE x = true) ∧ (p.sFresh x = false → p.rebuildS x = true) := by
  cases p with
  | mv id ef sf ps ns holes => simp [Pat.rebuildE, Pat.rebuildS, Pat.eFresh, Pat.sFresh]
  | esub p y q | ssub p y q => exact ⟨fun _ => rfl, fun _ => rfl⟩
  | _ => cases hm

/-- every instruction preserves the invariant -/
theorem step_RShape (ph : Phase) (s s' : St) (i : Instr) (j : Option Pat)
    (h : step ph s i = some (s', j)) (hs : s.RShape = true) : s'.RShape = true := by
  obtain ⟨stk, mem, cl⟩ := s
  simp only [St.RShape, Bool.and_eq_true] at hs
  obtain ⟨hstk, hmem⟩ := hs
  cases i <;> dsimp only [step] at h
  case subst x =>
    split at h <;> try cases h
    rename_i p plug st
    simp only [List.all_cons, Bool.and_eq_true, Term.RShape_pat, Term.RShape_proved] at hstk
    cases hr : Pat.applySSubst x plug p <;> rw [hr] at h <;> cases h
    have := Pat.RShape_applySSubst x plug hstk.2.1 p hstk.1 _ hr
    simp only [St.RShape, List.all_cons, Term.RShape_proved, this, hstk.2.2, hmem, Bool.and_self]
  case instantiate ids =>
    split at h
    case h_3 => cases h
    all_goals
      rename_i p st
      simp only [List.all_cons, Bool.and_eq_true, Term.RShape_pat, Term.RShape_proved] at hstk
      simp only [Option.bind_eq_bind, Option.bind_eq_some_iff, Option.pure_def, Option.some.injEq] at h
      obtain ⟨⟨plugs, st'⟩, hpp, r, hi, h⟩ := h
      cases h
      have ⟨h1, h2, _⟩ := popPats_RShape _ _ _ _ hpp hstk.2
      have := Pat.RShape_inst _ (fun k v hk => List.all_eq_true.mp h1 v (Pat.lookupPlug_mem ids plugs k v hk)) p hstk.1 r hi
      simp only [St.RShape, List.all_cons, Term.RShape_pat, Term.RShape_proved, this, h2, hmem, Bool.and_self]
  case load i =>
    cases ht : mem[i]? <;> rw [ht] at h <;> cases h
    have := List.all_eq_true.mp hmem _ (List.mem_of_getElem? ht)
    simp only [St.RShape, List.all_cons, this, hstk, hmem, Bool.and_self]
  case esubst x | ssubst x =>
    split at h <;> try cases h
    split at h <;> cases h
    rename_i p plug st hc
    simp only [Bool.and_eq_true, Bool.not_eq_true'] at hc
    simp_all only [St.RShape, List.all_cons, Term.RShape_pat, Pat.RShape, Bool.and_eq_true,
      rebuild_of_not_fresh x p hc.1.1, and_self]
  all_goals
    repeat' split at h
    all_goals cases h
    all_goals simp_all only [St.RShape, List.all_cons, List.all_append, List.all_nil, Term.RShape_pat, Term.RShape_proved,
      Pat.RShape, Bool.and_eq_true, Bool.and_true, axioms_RShape]

theorem run_RShape (ph : Phase) : ∀ (is : List Instr) (s s' : St) (js : List Pat),
    run ph s is = some (s', js) → s.RShape = true → s'.RShape = true := by
  intro is
  induction is with
  | nil => intro s s' js h hs; simp [run] at h; obtain ⟨rfl, _⟩ := h; exact hs
  | cons i is ih =>
    intro s s' js h hs
    simp only [run] at h
    cases h1 : step ph s i with
    | none => simp [h1] at h
    | some r1 =>
      obtain ⟨s1, j⟩ := r1
      cases h2 : run ph s1 is with
      | none => simp [h1, h2] at h
      | some r2 =>
        obtain ⟨s2, js2⟩ := r2
        simp [h1, h2] at h; obtain ⟨rfl, _⟩ := h
        exact ih s1 s2 js2 h2 (step_RShape ph s s1 i j h1 hs)
