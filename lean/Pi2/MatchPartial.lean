import Pi2.MatchThm
/-!
# Completeness of matching for *partial* instantiations

`matchF_complete` is stated for a substitution θ that is defined on every metavariable id of the
pattern.  `pattern.instantiate(θ)` of the toolkit also accepts a θ that leaves some ids alone; the
instance then keeps those metavariable nodes.  Matching is still complete in that case *provided*
every id that θ leaves alone occurs in the pattern with one constraint record only
(`Py.Consistent`): θ is extended by "the id's own record" and `matchF_complete` applies.  Without
the proviso completeness fails — `C13.match_incomplete_two_lists` is the concrete witness, the open
finding KF-C13-two-lists.
-/
open Pat

namespace Py

/-- the metavariable nodes of a pattern, in order of occurrence -/
def mvRecs : Pat → List Pat
  | .evar _ => [] | .svar _ => [] | .sym _ => []
  | .mv id ef sf ps ns hs => [.mv id ef sf ps ns hs]
  | .imp l r => mvRecs l ++ mvRecs r
  | .app l r => mvRecs l ++ mvRecs r
  | .ex _ p => mvRecs p | .mu _ p => mvRecs p
  | .esub p _ q => mvRecs p ++ mvRecs q
  | .ssub p _ q => mvRecs p ++ mvRecs q

def mvId : Pat → Option VId
  | .mv id .. => some id
  | _ => none

/-- the first record of id `k` -/
def recOf (rs : List Pat) (k : VId) : Option Pat := rs.find? (fun m => mvId m == some k)

/-- θ extended by "an id that θ leaves alone is mapped to its own record" -/
def extend (θ : VId → Option Pat) (rs : List Pat) : VId → Option Pat := fun k =>
  match θ k with
  | some v => some v
  | none => recOf rs k

/-- every id that θ leaves alone has one record only -/
def Consistent (θ : VId → Option Pat) (rs : List Pat) : Prop :=
  ∀ m1 ∈ rs, ∀ m2 ∈ rs, ∀ k, mvId m1 = some k → mvId m2 = some k → θ k = none → m1 = m2

theorem mem_mvRecs_id (p : Pat) : ∀ k ∈ metavars p, ∃ m ∈ mvRecs p, mvId m = some k := by
  induction p with
  | evar x | svar x | sym x => intro k h; simp [metavars] at h
  | mv id ef sf ps ns hs =>
    intro k h; simp [metavars] at h; subst h
    exact ⟨.mv k ef sf ps ns hs, by simp [mvRecs], by simp [mvId]⟩
  | imp l r ihl ihr | app l r ihl ihr =>
    intro k h; simp only [metavars, List.mem_append] at h
    rcases h with h | h
    · obtain ⟨m, hm, hid⟩ := ihl k h; exact ⟨m, by simp [mvRecs, hm], hid⟩
    · obtain ⟨m, hm, hid⟩ := ihr k h; exact ⟨m, by simp [mvRecs, hm], hid⟩
  | ex x p ih | mu x p ih => intro k h; simp only [metavars] at h; obtain ⟨m, hm, hid⟩ := ih k h; exact ⟨m, by simpa [mvRecs] using hm, hid⟩
  | esub p x q ihp ihq | ssub p x q ihp ihq =>
    intro k h; simp only [metavars, List.mem_append] at h
    rcases h with h | h
    · obtain ⟨m, hm, hid⟩ := ihp k h; exact ⟨m, by simp [mvRecs, hm], hid⟩
    · obtain ⟨m, hm, hid⟩ := ihq k h; exact ⟨m, by simp [mvRecs, hm], hid⟩

theorem recOf_mem (rs : List Pat) (k : VId) (m : Pat) (h : recOf rs k = some m) : m ∈ rs ∧ mvId m = some k := by
  unfold recOf at h
  refine ⟨List.mem_of_find?_eq_some h, ?_⟩
  have := List.find?_some h
  simpa using this

theorem recOf_isSome (rs : List Pat) (k : VId) (m : Pat) (hm : m ∈ rs) (hid : mvId m = some k) :
    (recOf rs k).isSome = true := by
  unfold recOf
  rw [List.find?_isSome]
  exact ⟨m, hm, by simp [hid]⟩

/-- on a substitution-free pattern whose records are all in `rs`, the extension changes nothing -/
theorem inst_extend (θ : VId → Option Pat) (rs : List Pat) (hc : Consistent θ rs) (q : Pat) :
    q.SubstFree = true → (∀ m ∈ mvRecs q, m ∈ rs) → inst (extend θ rs) q = inst θ q := by
  induction q with
  | evar x | svar x | sym x => intro _ _; simp [inst]
  | mv id ef sf ps ns hs =>
    intro _ hsub
    have hin : Pat.mv id ef sf ps ns hs ∈ rs := hsub _ (by simp [mvRecs])
    simp only [inst, extend]
    cases hθ : θ id with
    | some v => rfl
    | none =>
      simp only []
      have hs := recOf_isSome rs id _ hin (by simp [mvId])
      cases hr : recOf rs id with
      | none => simp [hr] at hs
      | some m =>
        obtain ⟨hm, hid⟩ := recOf_mem rs id m hr
        have := hc m hm _ hin id hid (by simp [mvId]) hθ
        simp [this]
  | imp l r ihl ihr | app l r ihl ihr =>
    intro hsf hsub
    simp only [Pat.SubstFree, Bool.and_eq_true] at hsf
    simp only [inst]
    rw [ihl hsf.1 (fun m hm => hsub m (by simp [mvRecs, hm])), ihr hsf.2 (fun m hm => hsub m (by simp [mvRecs, hm]))]
  | ex x p ih | mu x p ih =>
    intro hsf hsub
    simp only [Pat.SubstFree] at hsf
    simp only [inst]
    rw [ih hsf (fun m hm => hsub m (by simpa [mvRecs] using hm))]
  | esub p x q _ _ | ssub p x q _ _ => intro hsf; simp [Pat.SubstFree] at hsf

end Py

namespace NPat

/-- **completeness for partial instantiations**: θ may leave metavariable ids of the pattern alone,
as long as each such id has one constraint record in the pattern -/
theorem matchF_complete_partial (n : Nat) (p i : NPat) (s : NPat.Subst) (θ : VId → Option Pat)
    (r : Option NPat.Subst)
    (hp : p.Shape = true) (hi : i.Shape = true) (hs : NPat.ShapeMap s = true) (hsf : p.expand.SubstFree = true)
    (hc : Py.Consistent θ (Py.mvRecs p.expand)) (hinst : i.expand = Py.inst θ p.expand)
    (hseed : ∀ k v, Py.lookup s k = some v → θ k = some v.expand)
    (h : NPat.matchF n p i s = some r) :
    ∃ s', r = some s' ∧ (∀ k v, Py.lookup s' k = some v → Py.extend θ (Py.mvRecs p.expand) k = some v.expand) := by
  refine matchF_complete n p i s (Py.extend θ (Py.mvRecs p.expand)) r hp hi hs hsf ?_ ?_ ?_ h
  · intro k hk
    obtain ⟨m, hm, hid⟩ := Py.mem_mvRecs_id p.expand k hk
    unfold Py.extend
    cases hθ : θ k with
    | some v => rfl
    | none => exact Py.recOf_isSome _ k m hm hid
  · rw [Py.inst_extend θ _ hc p.expand hsf (fun m hm => hm)]; exact hinst
  · intro k v hl
    unfold Py.extend
    rw [hseed k v hl]

end NPat
