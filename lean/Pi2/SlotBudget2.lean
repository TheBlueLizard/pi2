import Pi2.SlotBudget
import Pi2.NotTie
import Pi2.NotationTotal
/-!
# The slot budget, continued: the remaining hypotheses of `Props/C03b.lean`

* Part A (`collect_frame`, `reachable_frame`): the recording calls of the counting pass write `_pattern_usage` only.
* Part B (`RunReach`): the counting RUN — recording calls and the inherited `publish_axiom` — and its memory.
* Part C (`seq_facts`): on patterns whose argument maps have distinct keys (`NotTie.DK`) the structural comparison
  `NPat.seq` (hash + field equality) implies `==` (equal expansions), transports `Shape`, and preserves the nesting depth.
* Part D: `SlotBudget.executeFull_matched` for EVERY configuration (`memo = none`: the run the analyser sees; `memo = some S`)
  under a condition on `S` that the set returned by `finalize` does satisfy (`Canon2`), for modules whose argument maps
  have distinct keys (`ModDK`).
-/
set_option linter.unusedVariables false
set_option linter.unusedSimpArgs false
set_option linter.unusedSectionVars false

namespace SlotBudget2

/-! ## Part A: the recording calls write `_pattern_usage` only -/
section frame
open CountSup Gen.PyCount CountDet
variable {K : Type} [DecidableEq K] [PyPattern K]

/-- `s'` differs from `s` in `_pattern_usage` at most -/
def Frame (s s' : Self K) : Prop :=
  s'.memory = s.memory ∧ s'._max_allowed_slots = s._max_allowed_slots ∧ s'._finalized = s._finalized ∧
  s'._saved_by_implementation = s._saved_by_implementation ∧
  s'._suggested_for_memoization = s._suggested_for_memoization

theorem Frame.rfl' (s : Self K) : Frame s s := ⟨rfl, rfl, rfl, rfl, rfl⟩

theorem Frame.withU (s : Self K) (U : UD K) : Frame s { s with _pattern_usage := U } := ⟨rfl, rfl, rfl, rfl, rfl⟩

/-- **frame lemma**: `_collect_patterns` (hence each of the sixteen recording methods, `recording_methods_collect`) writes
`_pattern_usage` only -/
theorem collect_frame (fuel : Nat) (self self' : Self K) (p : K) (h : _collect_patterns fuel self p = some self') :
    Frame self self' := by
  rw [(collect_records fuel self self' p h).1]
  exact Frame.withU self _

/-- every analyser state the recording phase can reach (`CountDet.Reachable`: `__init__`, recorded patterns, any memory)
has suggested nothing, holds the budget 256, and is not finalised -/
theorem reachable_frame {σ : Self K} (h : Reachable σ) :
    σ._suggested_for_memoization = [] ∧ σ._max_allowed_slots = 256 ∧ σ._finalized = false := by
  induction h with
  | init => exact ⟨rfl, rfl, rfl⟩
  | collect fuel p _ hc ih =>
    obtain ⟨_, h2, h3, _, h5⟩ := collect_frame fuel _ _ p hc
    exact ⟨h5.trans ih.1, h2.trans ih.2.1, h3.trans ih.2.2⟩
  | memory mem _ ih => exact ih

/-! ## Part B: the counting run -/

/-- the counting RUN: `__init__`, the recording calls (`_collect_patterns` of the value the inherited method returns) and
the inherited `StatefulInterpreter.publish_axiom` (`self.memory.append(Proved(axiom))`; `CountingInterpreter` does not
override it, so it is not in the translated text); the index lists the published axioms -/
inductive RunReach : List K → Self K → Prop
  | init : RunReach [] (init : Self K)
  | collect {k : List K} {σ σ' : Self K} (fuel : Nat) (p : K) :
      RunReach k σ → _collect_patterns fuel σ p = some σ' → RunReach k σ'
  | publish {k : List K} {σ : Self K} (a : K) :
      RunReach k σ → RunReach (k ++ [a]) { σ with memory := σ.memory ++ [MemItem.proved ⟨a⟩] }

theorem RunReach.reachable {k : List K} {σ : Self K} (h : RunReach k σ) : Reachable σ := by
  induction h with
  | init => exact Reachable.init
  | collect fuel p _ hc ih => exact Reachable.collect fuel p ih hc
  | publish a _ ih => exact Reachable.memory _ ih

/-- in a counting run the memory holds exactly the published axioms, one entry per `publish_axiom` -/
theorem RunReach.memory_eq {k : List K} {σ : Self K} (h : RunReach k σ) :
    σ.memory = k.map fun a => MemItem.proved ⟨a⟩ := by
  induction h with
  | init => rfl
  | collect fuel p _ hc ih => exact (collect_frame fuel _ _ p hc).1.trans ih
  | publish a _ ih => simp [ih]

theorem RunReach.memory_length {k : List K} {σ : Self K} (h : RunReach k σ) : σ.memory.length = k.length := by
  rw [h.memory_eq, List.length_map]

end frame

/-! ## Part C: `seq ⊆ ==` on patterns whose argument maps have distinct keys -/
section seqfacts
open NPat NotTie

theorem depMap_le_iff (m : List (Nat × NPat)) (n : Nat) : depMap m ≤ n ↔ ∀ kv ∈ m, dep kv.2 ≤ n := by
  induction m with
  | nil => simp [depMap]
  | cons kv r ih => obtain ⟨k, v⟩ := kv; simp [depMap, Nat.max_le, ih]

theorem ShapeMap_iff (m : List (Nat × NPat)) : ShapeMap m = true ↔ ∀ kv ∈ m, kv.2.Shape = true := by
  induction m with
  | nil => simp [ShapeMap]
  | cons kv r ih => obtain ⟨k, v⟩ := kv; simp [ShapeMap, ih]

theorem lookup_of_mem_nodup {α} (m : List (Nat × α)) (hn : (m.map (·.1)).Nodup) {k : Nat} {v : α}
    (h : (k, v) ∈ m) : Py.lookup m k = some v := by
  induction m with
  | nil => cases h
  | cons kv r ih =>
    obtain ⟨k', v'⟩ := kv
    simp only [List.map_cons, List.nodup_cons] at hn
    rcases List.mem_cons.mp h with he | he
    · cases he; simp [Py.lookup]
    · have hne : k' ≠ k := by
        intro e; subst e
        exact hn.1 (List.mem_map.mpr ⟨(k', v), he, rfl⟩)
      simp only [Py.lookup, hne, if_false]
      exact ih hn.2 he

/-- pigeonhole: a duplicate-free list inside a list that is not longer contains it -/
theorem subset_of_nodup_length {α} [DecidableEq α] {l l' : List α} (hn : l.Nodup) (hs : l ⊆ l')
    (hl : l'.length ≤ l.length) : l' ⊆ l := by
  intro x hx
  by_cases hin : x ∈ l
  · exact hin
  · have h1 : (x :: l).Nodup := List.nodup_cons.mpr ⟨hin, hn⟩
    have h2 : (x :: l) ⊆ l' := by
      intro y hy
      rcases List.mem_cons.mp hy with rfl | hy
      · exact hx
      · exact hs hy
    have := List.Nodup.length_le_of_subset h1 h2
    simp at this; omega

/-- two argument maps of the same length with distinct keys, every entry of the first matched (`SeqP`) by the entry of the
second under the same key: the keys are the same (pigeonhole), hence equal expansions as finite maps and equal depth -/
theorem seqMap_facts (m m' : List (Nat × NPat))
    (hpart : ∀ kv ∈ m, ∃ v', Py.lookup m' kv.1 = some v' ∧ SeqP kv.2 v')
    (hl : m.length = m'.length) (hn : (keys m).Nodup) (hn' : (keys m').Nodup) :
    ShapeMap m = true ∧ (∀ k, Py.lookup (expand.expandMap m) k = Py.lookup (expand.expandMap m') k) ∧
      depMap m = depMap m' := by
  have hsub : keys m ⊆ keys m' := by
    intro k hk
    obtain ⟨kv, hkv, rfl⟩ := List.mem_map.mp hk
    obtain ⟨v', hv', _⟩ := hpart kv hkv
    exact List.mem_map.mpr ⟨_, Py.lookup_mem _ _ _ hv', rfl⟩
  have hsub' : keys m' ⊆ keys m :=
    subset_of_nodup_length hn hsub (by simp [keys, hl])
  refine ⟨?_, ?_, ?_⟩
  · exact (ShapeMap_iff m).mpr fun kv hkv => by
      obtain ⟨v', _, h⟩ := hpart kv hkv; exact h.1
  · intro k
    rw [lookup_expandMap, lookup_expandMap]
    cases hk : Py.lookup m k with
    | some v =>
      obtain ⟨v', hv', h⟩ := hpart (k, v) (Py.lookup_mem _ _ _ hk)
      simp only at hv'
      rw [hv']; simp [h.2.1]
    | none =>
      have h1 : (keys m).contains k = false := lookup_none_keys m k hk
      have h2 : (keys m').contains k = false := by
        cases hc : (keys m').contains k with
        | false => rfl
        | true =>
          have : k ∈ keys m := hsub' (by simpa using hc)
          simp at h1; exact absurd this h1
      rw [lookup_none_of_not_keys m' k h2]
  · apply Nat.le_antisymm
    · refine (depMap_le_iff m _).mpr fun kv hkv => ?_
      obtain ⟨v', hv', h⟩ := hpart kv hkv
      rw [h.2.2]
      exact (depMap_le_iff m' _).mp (Nat.le_refl _) _ (Py.lookup_mem _ _ _ hv')
    · refine (depMap_le_iff m' _).mpr fun kv' hkv' => ?_
      obtain ⟨k', v'⟩ := kv'
      have hk' : k' ∈ keys m := hsub' (List.mem_map.mpr ⟨_, hkv', rfl⟩)
      obtain ⟨kv, hkv, hkk⟩ := List.mem_map.mp hk'
      obtain ⟨w, hw, h⟩ := hpart kv hkv
      have hw' : Py.lookup m' k' = some v' := lookup_of_mem_nodup m' hn' hkv'
      rw [hkk, hw'] at hw
      cases hw
      show dep v' ≤ depMap m
      rw [← h.2.2]
      exact (depMap_le_iff m _).mp (Nat.le_refl _) _ hkv

/-- `seq` matches equal head constructors only -/
theorem seq_isMetaN {a c : NPat} (h : seq a c = true) : a.isMetaN = c.isMetaN := by
  fun_cases seq a c
  case case12 => rw [seq] at h <;> first | cases h | assumption
  all_goals rfl

/-- **`seq ⊆ ==`**: when every argument map of `a` and of `c` has distinct keys (`NotTie.DK`: the maps are `frozendict`s) and
`c` is shaped, a structural match `seq a c` (hash and field equality) gives: `a` is shaped, `a` and `c` have the same
expansion (so `a == c`, `seq_peq`), and the same nesting depth.  By the induction principle of `seq` (the cases are numbered
as in `SlotBudget.seq_eq_of_noInst`); for the argument maps: every entry of the first is matched by the entry of the second
under the same key. -/
theorem seq_facts (c a : NPat) : seq a c = true → DK a = true → DK c = true → c.Shape = true → SeqP a c := by
  apply seq.induct
    (motive1 := fun m m' => seq.seqMap m m' = true → DKMap m = true → DKMap m' = true → ShapeMap m' = true →
      ∀ kv ∈ m, ∃ v', Py.lookup m' kv.1 = some v' ∧ SeqP kv.2 v')
    (motive2 := fun v k m' => seq.seqAt v k m' = true → DK v = true → DKMap m' = true → ShapeMap m' = true →
      ∃ v', Py.lookup m' k = some v' ∧ SeqP v v')
    (motive3 := fun a c => seq a c = true → DK a = true → DK c = true → c.Shape = true → SeqP a c)
  case case1 => intro _ _ _ _ _ kv hkv; cases hkv
  case case2 =>
    intro k v r m' ihv ihr h ha hc hs kv hkv
    simp only [seq.seqMap, DKMap, Bool.and_eq_true] at h ha
    rcases List.mem_cons.mp hkv with rfl | hkv
    · exact ihv h.1 ha.1 hc hs
    · exact ihr h.2 ha.2 hc hs kv hkv
  case case3 => intro v k h; simp [seq.seqAt] at h
  case case4 =>
    intro v k v' r ih h ha hc hs
    simp only [seq.seqAt, if_true, DKMap, ShapeMap, Bool.and_eq_true] at h hc hs
    exact ⟨v', by simp [Py.lookup], ih h ha hc.1 hs.1⟩
  case case5 =>
    intro v k k' v' r hne ih h ha hc hs
    simp only [seq.seqAt, hne, if_false, DKMap, ShapeMap, Bool.and_eq_true] at h hc hs
    obtain ⟨w, hw, hsw⟩ := ih h ha hc.2 hs.2
    exact ⟨w, by simp [Py.lookup, hne, hw], hsw⟩
  case case6 | case7 | case8 => intro a b h _ _ _; simp [seq] at h; subst h; exact ⟨rfl, rfl, rfl⟩
  case case9 | case10 =>
    intro a b c d ih1 ih2 h ha hc hs
    simp only [seq, DK, Shape, Bool.and_eq_true] at h ha hc hs
    obtain ⟨s1, e1, d1⟩ := ih1 h.1 ha.1 hc.1 hs.1
    obtain ⟨s2, e2, d2⟩ := ih2 h.2 ha.2 hc.2 hs.2
    exact ⟨by simp [Shape, s1, s2], by simp [expand, e1, e2], by simp [dep, d1, d2]⟩
  case case11 | case12 =>
    intro x a y b ih h ha hc hs
    simp only [seq, DK, Shape, Bool.and_eq_true, beq_iff_eq] at h ha hc hs
    obtain ⟨s1, e1, d1⟩ := ih h.2 ha hc hs
    exact ⟨by simp [Shape, s1], by simp [expand, e1, h.1], by simp [dep, d1]⟩
  case case13 =>
    intro a b c d e f a' b' c' d' e' f' h _ _ hs
    simp only [seq, Bool.and_eq_true, beq_iff_eq] at h
    obtain ⟨⟨⟨⟨⟨rfl, rfl⟩, rfl⟩, rfl⟩, rfl⟩, rfl⟩ := h
    exact ⟨hs, rfl, rfl⟩
  case case14 | case15 =>
    intro p x q p' x' q' ih1 ih2 h ha hc hs
    simp only [seq, DK, Shape, Bool.and_eq_true, beq_iff_eq] at h ha hc hs
    obtain ⟨s1, e1, d1⟩ := ih1 h.1.1 ha.1 hc.1 hs.1.2
    obtain ⟨s2, e2, d2⟩ := ih2 h.2 ha.2 hc.2 hs.2
    exact ⟨by simp [Shape, s1, s2, seq_isMetaN h.1.1, hs.1.1], by simp [expand, e1, e2, h.1.2], by simp [dep, d1, d2]⟩
  case case16 =>
    intro p m p' m' ihp ihm h ha hc hs
    simp only [seq, DK, Shape, Bool.and_eq_true, beq_iff_eq, decide_eq_true_eq] at h ha hc hs
    obtain ⟨s1, e1, d1⟩ := ihp h.1.1 ha.1.1 hc.1.1 hs.1
    obtain ⟨s2, e2, d2⟩ := seqMap_facts m m' (ihm h.2 ha.1.2 hc.1.2 hs.2) h.1.2 ha.2 hc.2
    refine ⟨by simp [Shape, s1, s2], ?_, by simp [dep, d1, d2]⟩
    simp only [expand, e1]
    exact Py.inst_congr _ _ _ (fun k _ => e2 k)
  case case17 =>
    intro a c h1 h2 h3 h4 h5 h6 h7 h8 h9 h10 h11 h
    rw [seq] at h <;> first | cases h | assumption

theorem seq_factsMap : (m' : List (Nat × NPat)) → ∀ kv ∈ m', ∀ a, seq a kv.2 = true → DK a = true →
    DK kv.2 = true → kv.2.Shape = true → SeqP a kv.2 :=
  fun _ kv _ => seq_facts kv.2

/-- … hence `a == c` is `True` (at any fuel at which it returns) -/
theorem seq_peq {a c : NPat} (h : seq a c = true) (ha : DK a = true) (hc : DK c = true) (hs : c.Shape = true)
    (n : Nat) (hn : peqBound a c ≤ n) : peqF n a c = some true := by
  obtain ⟨s1, e1, _⟩ := seq_facts c a h ha hc hs
  rw [peqF_decides a c s1 hs n hn]; simp [e1]

end seqfacts

/-! ## Part D: the run of a module on the stateful family, any configuration -/
section memo2
open PySt SlotBudget NPat NotTie

/-- what is asked of the suggestion list: its elements are shaped and their argument maps have distinct keys
(`frozendict`s).  Unlike `Canonical`, nothing is asked about patterns outside the list, and the list may even contain two
members that are `==` or repeated. -/
structure Canon2 (S : List NPat) : Prop where
  shape : ∀ c ∈ S, c.Shape = true
  dk : ∀ c ∈ S, DK c = true

theorem Canon2.nil : Canon2 [] := ⟨by simp, by simp⟩

theorem Canon2.seqOK {S : List NPat} (hS : Canon2 S) : SeqOK (DK · = true) S :=
  fun c hc a ha h => seq_facts c a h ha (hS.dk c hc) (hS.shape c hc)

/-- the saved patterns are structurally matched (`seq`) with pairwise DIFFERENT suggestions -/
def MemInv2 (S : List NPat) (mem : List TTerm) : Prop := Matched (DK · = true) S mem

theorem DK_kids (p : NPat) (h : DK p = true) : ∀ q ∈ kids p, DK q = true := by
  cases p <;> simp only [kids, DK, Bool.and_eq_true, List.mem_cons, List.mem_map] at h ⊢
  case inst q m =>
    rintro v (rfl | ⟨kv, hkv, rfl⟩)
    · exact h.1.1
    · exact (DKMap_iff m).mp h.1.2 kv hkv
  all_goals simp_all

/-- the argument maps of the instantiations in a proof expression have values with distinct keys -/
def PfDK : Pf → Bool
  | .mp l r => PfDK l && PfDK r
  | .gen p _ => PfDK p
  | .dynInst p δ => PfDK p && DKMap δ
  | _ => true

theorem PfDK_plugs : (pf : Pf) → PfDK pf = true → ∀ q ∈ plugsOf pf, DK q = true
  | .mp l r, h, q, hq => by
    simp only [PfDK, Bool.and_eq_true] at h
    rcases List.mem_append.mp hq with hq | hq
    · exact PfDK_plugs l h.1 q hq
    · exact PfDK_plugs r h.2 q hq
  | .gen p _, h, q, hq => PfDK_plugs p h q hq
  | .dynInst p δ, h, q, hq => by
    simp only [PfDK, Bool.and_eq_true] at h
    rcases List.mem_append.mp hq with hq | hq
    · exact PfDK_plugs p h.1 q hq
    · obtain ⟨kv, hkv, rfl⟩ := List.mem_map.mp hq
      exact (DKMap_iff δ).mp h.2 kv hkv
  | .prop1, _, _, hq | .prop2, _, _, hq | .prop3, _, _, hq | .quantifier, _, _, hq | .loadAxiom _, _, _, hq => by cases hq

/-- the patterns of a module come from Python objects: every argument map is a `dict` / `frozendict` (distinct keys) -/
structure ModDK (m : PModule) : Prop where
  ax : ∀ a ∈ m.gammaAxioms, DK a = true
  cl : ∀ a ∈ m.claimsOf, DK a = true
  pf : ∀ pf ∈ m.proofsOf, PfDK pf = true

/-- **the memory of a run, any configuration**: the `Pattern` entries are `seq`-matched with pairwise different
suggestions; the `Proved` entries are exactly the published axioms -/
theorem executeFull_memory2 (cfg : Cfg) (hS : Canon2 (suggOf cfg)) (n : Nat) (m : PModule) (hm : ModDK m) (s : PySt)
    (calls : List Call) (h : PModule.executeFull cfg n m = some (some (s, calls))) :
    MemInv2 (suggOf cfg) s.memory ∧ provedOf s.memory = m.gammaAxioms :=
  executeFull_matched DK_kids cfg hS.seqOK n m hm.ax hm.cl (fun pf hpf => PfDK_plugs pf (hm.pf pf hpf)) s calls h

theorem memInv2_length {S : List NPat} (hS : Canon2 S) {mem : List TTerm} (h : MemInv2 S mem) :
    (patsOf mem).length ≤ S.length := by
  obtain ⟨pc, hfst, hnd, hall⟩ := h
  have h1 : pc.map (·.2) ⊆ S := by
    intro x hx
    obtain ⟨y, hy, rfl⟩ := List.mem_map.mp hx
    exact (hall y hy).1
  have := List.Nodup.length_le_of_subset hnd h1
  rw [← hfst]
  simpa using this

/-- the number of slots of a memoising run -/
theorem executeFull_memory_length2 (S : List NPat) (hS : Canon2 S) (n : Nat) (m : PModule) (hm : ModDK m) (s : PySt)
    (calls : List Call) (h : PModule.executeFull { memo := some S } n m = some (some (s, calls))) :
    s.memory.length ≤ S.length + m.gammaAxioms.length := by
  obtain ⟨hI, hk⟩ := executeFull_memory2 { memo := some S } hS n m hm s calls h
  rw [length_split, hk]
  exact Nat.add_le_add_right (memInv2_length hS hI) _

/-- the plain run (`memo = none`: what every interpreter of the stateful family, the analyser included, does to its
memory): the memory holds exactly the published axioms -/
theorem executeFull_plain_memory (n : Nat) (m : PModule) (hm : ModDK m) (s : PySt) (calls : List Call)
    (h : PModule.executeFull {} n m = some (some (s, calls))) :
    patsOf s.memory = [] ∧ provedOf s.memory = m.gammaAxioms ∧ s.memory.length = m.gammaAxioms.length := by
  obtain ⟨hI, hk⟩ := executeFull_memory2 {} Canon2.nil n m hm s calls h
  have h0 : patsOf s.memory = [] := by
    have := memInv2_length Canon2.nil hI
    simpa using this
  exact ⟨h0, hk, by rw [length_split, h0, hk]; simp⟩

end memo2

end SlotBudget2
