import Pi2.ModuleMOKAccept
/-!
# `PModule.MOK` is exactly the side conditions, on modules that run

For a module whose axioms and claims are shaped and machine-OK and whose `execute_full` run returns (under any
configuration): `PModule.MOK m = true` ⇔ every proof has its patterns in order and the machine accepts its
instantiations (`PfOK`) and there is one proof per claim (⇔ no claim is left).  So `MOK` loses nothing: the checks it
makes on `mp` (premises match), `gen` (freshness) and `loadAxiom` (declared) are consequences of the run itself.
-/
set_option linter.unusedSimpArgs false
set_option linter.unusedVariables false
open Pat PySt

namespace KMod
open NPat

theorem patsOK_shaped : ∀ (pf : Pf), pf.patsOK = true → pf.Shaped := by
  intro pf
  induction pf with
  | prop1 => intro _; trivial
  | prop2 => intro _; trivial
  | prop3 => intro _; trivial
  | quantifier => intro _; trivial
  | loadAxiom a => intro h; exact h
  | mp l r ihl ihr =>
    intro h
    simp only [Pf.patsOK, Bool.and_eq_true] at h
    exact ⟨ihl h.1, ihr h.2⟩
  | gen p x ih => intro h; exact ih h
  | dynInst p δ ih =>
    intro h
    simp only [Pf.patsOK, Bool.and_eq_true, decide_eq_true_eq] at h
    exact ⟨ih h.1.1.1, h.1.2⟩

theorem declared_of_axOK (ax : List NPat) : ∀ (pf : Pf), pf.AxOK ax → pf.declared ax = true := by
  intro pf
  induction pf with
  | prop1 => intro _; rfl
  | prop2 => intro _; rfl
  | prop3 => intro _; rfl
  | quantifier => intro _; rfl
  | loadAxiom a =>
    intro h
    obtain ⟨x, hx, he⟩ := h a (by simp [Pf.loadedAxioms])
    simp only [Pf.declared, List.any_eq_true, beq_iff_eq]
    exact ⟨x, hx, he⟩
  | mp l r ihl ihr =>
    intro h
    simp only [Pf.declared, Bool.and_eq_true]
    exact ⟨ihl fun a ha => h a (by simp [Pf.loadedAxioms, ha]), ihr fun a ha => h a (by simp [Pf.loadedAxioms, ha])⟩
  | gen p x ih => intro h; exact ih fun a ha => h a (by simpa [Pf.loadedAxioms] using ha)
  | dynInst p δ ih => intro h; exact ih fun a ha => h a (by simpa [Pf.loadedAxioms] using ha)

theorem checkF_conc {ax : List NPat} {k : Nat} {pf : Pf} {s' s1 : PySt} {a' a1 : List Call} {c : NPat}
    (h : checkF ax k pf s' a' = some (some (s1, a1, c))) : ∃ adv, Pf.concF ax k pf = some (some adv) := by
  simp only [checkF] at h
  split at h
  · simp only [Option.bind_eq_some_iff] at h
    obtain ⟨o, ho, h⟩ := h
    cases o with
    | none => simp at h
    | some adv => exact ⟨adv, ho⟩
  · simp at h

/-- a run that returns under the side conditions certifies `Pf.MOK` -/
theorem mok_of_run {cfg : Cfg} {k : Nat} {ax : List NPat} {pf : Pf} {s s1 : PySt} {acc a1 : List Call} {c : NPat}
    (hax : AxShaped ax) (hpf : PfOK pf)
    (h : Pf.runF cfg ax k s pf acc = some (some (s1, a1, c))) : Pf.MOK ax pf = true := by
  obtain ⟨_, _, _, hS, _⟩ := runG (A := fun p => p.Shape = true) (Memoable.shape cfg) peq_shape (Nat.le_refl k) ax h
    hpf.1 hpf.2 (within_of_patsOK pf hpf.1)
  have hc := concM_of_sem hS hpf.1 hpf.2
  cases k with
  | zero => simp [Pf.runF] at h
  | succ k =>
    rw [runF_succ] at h
    obtain ⟨s3, a3, _, hchk⟩ := andThen_some h
    obtain ⟨adv, hadv⟩ := checkF_conc hchk
    have hok := concF_axok ax hax k pf adv (patsOK_shaped pf hpf.1) hadv
    simp [Pf.MOK, hpf.1, declared_of_axOK ax pf hok, hc]

theorem proofs_runs {cfg : Cfg} {M : PModule} {n : Nat} :
    ∀ (pfs : List Pf) (s : PySt) (acc : List Call) (s' : PySt) (a' : List Call),
    PModule.executeFull.proofs cfg M n s acc pfs = some (some (s', a')) →
    ∀ pf ∈ pfs, ∃ s0 acc0 s1 a1 c, Pf.runF cfg M.axiomsOf n s0 pf acc0 = some (some (s1, a1, c)) := by
  intro pfs
  induction pfs with
  | nil => intro _ _ _ _ _ pf hpf; cases hpf
  | cons pf r ih =>
    intro s acc s' a' h x hx
    obtain ⟨s1, a1, c, s2, a2, hrun, hpub, hrest⟩ := proofs_cons_inv h
    rcases List.mem_cons.mp hx with rfl | hx
    · exact ⟨s, acc, s1, a1, c, hrun⟩
    · exact ih s2 a2 s' a' hrest x hx

/-- no claim is left iff there is one proof per claim -/
theorem module_len_iff {cfg : Cfg} {n : Nat} (M : PModule) (s : PySt) (calls : List Call)
    (hgam : ∀ a ∈ M.gammaAxioms, a.SM = true) (hclm : ∀ a ∈ M.claimsOf, a.SM = true)
    (hpfs : ∀ pf ∈ M.proofsOf, PfOK pf)
    (hex : PModule.executeFull cfg n M = some (some (s, calls))) :
    s.claims = [] ↔ M.claimsOf.length = M.proofsOf.length := by
  obtain ⟨e4, a4, hP, hinv, hcl⟩ := module_proof_startG (Memoable.shape cfg) M s calls
    (fun a ha => SM.spec (hgam a ha)) (fun a ha => SM.spec (hclm a ha)) hex
  obtain ⟨_, this, _⟩ := proofsG (Memoable.shape cfg) peq_shape M.proofsOf e4 a4 s calls hP
    (fun pf hpf => (hpfs pf hpf).pfG) hinv
  rw [hcl] at this
  constructor
  · intro h; rw [h] at this; simpa using this
  · intro h; rw [h] at this
    exact List.length_eq_zero_iff.mp (by omega)

/-- **the side conditions, on a module that runs, are `PModule.MOK`** -/
theorem module_mok_of_run {cfg : Cfg} {n : Nat} (M : PModule) (s : PySt) (calls : List Call)
    (hgam : ∀ a ∈ M.gammaAxioms, a.SM = true) (hclm : ∀ a ∈ M.claimsOf, a.SM = true)
    (hpfs : ∀ pf ∈ M.proofsOf, PfOK pf) (hfin : s.claims = [])
    (hex : PModule.executeFull cfg n M = some (some (s, calls))) : M.MOK = true := by
  have hlen := (module_len_iff M s calls hgam hclm hpfs hex).mp hfin
  obtain ⟨_, _, _, _, _, _, _, _, hP⟩ := executeFull_inv hex
  have hax : AxShaped M.axiomsOf := by
    intro a ha
    have := hgam a (axiomsOf_sub_gamma M a ha)
    simp only [NPat.SM, Bool.and_eq_true] at this
    exact this.1
  simp only [PModule.MOK, Bool.and_eq_true, List.all_eq_true, beq_iff_eq]
  refine ⟨⟨⟨hgam, hclm⟩, ?_⟩, hlen⟩
  intro pf hpf
  obtain ⟨s0, acc0, s1, a1, c, hrun⟩ := proofs_runs M.proofsOf _ _ s calls hP pf hpf
  exact mok_of_run hax (hpfs pf hpf) hrun

end KMod
