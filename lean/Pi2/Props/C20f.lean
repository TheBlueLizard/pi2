import Pi2.KDefTieM8
import Pi2.KDefTieM9
import Pi2.KDefTieM10
import Pi2.Props.C20e
/-!
# C20 — the GENERAL several-module tie: `from_kore_definition` as translated IS `sigOfDefinitionM`

`kore_definition_text_is_the_model_multi`: for EVERY definition `d` of the decidable fragment `InFragmentM` (no module imports itself; every
sort name and every symbol name is declared at most once in the whole definition — NOT strengthened: imports of later / unknown modules,
duplicate module names, duplicate imports, sorts that are not visible are refused by the specification exactly as by the text), EVERY valid
set order `so`, every fuel `n ≥ (number of modules) + 1` (so in particular `≥ … + 2`): the generated `from_kore_definition` raises exactly
when `sigOfDefinitionM d` refuses; otherwise it returns a store `h` whose signature is `sigOfDefinitionM`'s (the declarations of ALL modules),
on which `get_axiom ordinal` is exactly the rule with that ordinal among those the main (= last) module reaches (`mainOrdinals`; `ValueError`
for every other ordinal), whose cached scope per ordinal is the scope of the rule with that ordinal among the rules of ALL modules
(`allRulesOfDefinition`: also of those `get_axiom` does not find), and on which `get_sort`, `get_symbol`, `resolve_to_ksymbol` are the lookups
in the signature.  Same shape as the one-module `C20.kore_definition_text_is_the_model`.

Built from `Pi2/KDefTieM8.lean` (the outer step: `LanguageSemantics.module`, `__enter__` / `__exit__`, the loop over the modules against
`addModules`; the generated function is literally that loop around `sentenceBody`, by `rfl`) and `Pi2/KDefTieM9.lean` (the queries on the
finished store from the `Found` lemmas: `cl` against `reach`, ordinal uniqueness, global symbol-name uniqueness).
`kore_definition_representsM` / `proof_hints_text_is_the_model_multi` / `k_pipeline_text_is_the_model_multi` (`Pi2/KDefTieM10.lean`): the
returned store stands for `sigOfDefinitionM d` in the sense `RepresentsM` (answers `get_axiom`, holds the cached scopes, has the signature),
`get_proof_hints` on such a store is `traceStepsR` and keeps `RepresentsM`, and the whole pipeline ends in the model's `traceF`.
`diamond_tie`, `island_tie`, `diamond_hints`: the theorems instantiated on the diamond of four modules and on the variant with an unreachable rule, for EVERY valid
set order (non-vacuity: both are in the fragment and accepted).
-/
namespace C20
section MultiFinal
open PyI PyM PyK Kore Gen.PyKDef KDefSpec KDefTie KDefTieM KDefTieM2

theorem notSelf_of_fragment {d : KDefinition} (hf : InFragmentM d) :
    ∀ m ∈ d.modules, ∀ s ∈ m.sentences, NotSelfImport m.name s := by
  unfold InFragmentM inFragmentM at hf
  simp only [Bool.and_eq_true, List.all_eq_true, decide_eq_true_eq] at hf
  obtain ⟨⟨h1, _⟩, _⟩ := hf
  intro m hm s hs
  have := h1 m hm s hs
  cases s <;> simp [selfImport, NotSelfImport] at this ⊢
  exact this

theorem symbols_nodup_of_fragment {d : KDefinition} (hf : InFragmentM d) : (declaredSymbols d).Nodup := by
  unfold InFragmentM inFragmentM at hf
  simp only [Bool.and_eq_true, decide_eq_true_eq] at hf
  exact hf.2

/-- `LanguageSemantics.from_kore_definition`, as translated from the source text, on ANY definition of the several-module fragment, for every
valid set order and every fuel `≥` (number of modules) `+ 1` -/
theorem kore_definition_text_is_the_model_multi (so : SetOrder) (hso : so.Valid) (n : Nat) (d : KDefinition) (hf : InFragmentM d)
    (hn : d.modules.length + 1 ≤ n) :
    Gen.PyKDef.translated = true ∧
    match sigOfDefinitionM d with
    | none => LanguageSemantics.from_kore_definition so n d = raise
    | some ds => ∃ h allRules, LanguageSemantics.from_kore_definition so n d = ret h ∧
        allRulesOfDefinition d = some allRules ∧
        sigView h = ds.sg ∧
        (∀ o, LanguageSemantics.get_axiom n h o = some ((ds.rule? o).map axiomOf)) ∧
        (∀ o, h._cached_axiom_scopes.lookup o = (allRules.find? (·.ordinal == o)).map fun ru => scopeObj ru.scope) ∧
        (∀ k, (LanguageSemantics.get_sort so n h k).map (Option.map fun s => s.name)
            = some (if ds.sg.sorts.contains k then some k else none)) ∧
        (∀ k, (LanguageSemantics.get_symbol so n h k).map (Option.map symDeclOf) = some (ds.sg.symbols.find? (·.name == k))) ∧
        (∀ s, (LanguageSemantics.resolve_to_ksymbol so n h (.sym s)).map (Option.map (Option.map symDeclOf))
            = ret (if s ≥ 2001 ∧ s < 100000 ∧ (s - 2001) % 2 = 0 then ds.sg.symbols.find? (·.name == (s - 2001) / 2) else none)) := by
  refine ⟨KDefTie.translated, ?_⟩
  have h1 := from_kore_definition_modules so hso n d (notSelf_of_fragment hf) hn
  unfold sigOfDefinitionM allRulesOfDefinition
  cases hm : modulesOfDefinition d with
  | none => rw [hm] at h1; exact h1
  | some a =>
    rw [hm] at h1
    obtain ⟨b, hb, hp, hl, he⟩ := h1
    obtain ⟨hsyms, hord⟩ := modulesOfDefinition_facts hm
    subst hp
    have hnodup : ((projF b).1.sg.symbols.map (·.name)).Nodup := by rw [hsyms]; exact symbols_nodup_of_fragment hf
    have hn' : b.fin.length + 1 ≤ n := by omega
    exact ⟨heapF (some false) b, (projF b).1.rules, he, rfl, sigView_heapF _ b, get_axiom_final _ hb hord n hn', cached_final _ b,
      get_sort_final so hso _ hb n hn', get_symbol_final' so hso _ hb hnodup n hn', resolve_final so hso _ hb hnodup n hn'⟩

/-- the statement with the fuel bound of the task: fuel `≥` (number of modules) `+ 2` -/
theorem kore_definition_text_is_the_model_multi' (so : SetOrder) (hso : so.Valid) (n : Nat) (d : KDefinition) (hf : InFragmentM d) :
    match sigOfDefinitionM d with
    | none => LanguageSemantics.from_kore_definition so (n + d.modules.length + 2) d = raise
    | some ds => ∃ h, LanguageSemantics.from_kore_definition so (n + d.modules.length + 2) d = ret h ∧ sigView h = ds.sg ∧
        ∀ o, LanguageSemantics.get_axiom (n + d.modules.length + 2) h o = some ((ds.rule? o).map axiomOf) := by
  have h := (kore_definition_text_is_the_model_multi so hso (n + d.modules.length + 2) d hf (by omega)).2
  cases hs : sigOfDefinitionM d with
  | none => rw [hs] at h; exact h
  | some ds =>
    rw [hs] at h
    obtain ⟨h', _, h1, _, h2, h3, _⟩ := h
    exact ⟨h', h1, h2, h3⟩

/-- the (finished) store `h` answers `get_axiom` and holds the cached scopes like the rules of `ds`, and has its signature — what
`get_proof_hints` needs of a semantics (the several-module counterpart of `KDefTie.Represents`; it is kept by `get_proof_hints`) -/
def RepresentsM (n : Nat) (h : PyLS) (ds : DefSem) : Prop := HintInv n ds.sg h ds.rules

/-- `from_kore_definition` returns a semantics that stands for `sigOfDefinitionM d` -/
theorem kore_definition_representsM (so : SetOrder) (hso : so.Valid) (n : Nat) (d : KDefinition) (hf : InFragmentM d)
    (hn : d.modules.length + 1 ≤ n) :
    match sigOfDefinitionM d with
    | none => LanguageSemantics.from_kore_definition so n d = raise
    | some ds => ∃ h, LanguageSemantics.from_kore_definition so n d = ret h ∧ RepresentsM n h ds := by
  have h1 := from_kore_definition_modules so hso n d (notSelf_of_fragment hf) hn
  unfold sigOfDefinitionM
  cases hm : modulesOfDefinition d with
  | none => rw [hm] at h1; exact h1
  | some a =>
    rw [hm] at h1
    obtain ⟨b, hb, hp, hl, he⟩ := h1
    obtain ⟨_, hord⟩ := modulesOfDefinition_facts hm
    subst hp
    exact ⟨heapF (some false) b, he, hintInv_final _ hb hord n (by omega)⟩

/-- `get_proof_hints`, as translated, on a several-module semantics that stands for `ds`: it raises exactly when `traceStepsR` has no steps
for the trace; otherwise it yields the hints of the steps and leaves a semantics that stands for `ds` with the extended scopes -/
theorem proof_hints_text_is_the_model_multi (n : Nat) (h : PyLS) (ds : DefSem) (hr : RepresentsM n h ds) (tr : PyLLVMTrace) :
    match traceStepsR ds tr with
    | none => get_proof_hints n h tr = raise
    | some (_, rules', steps) =>
        ∃ h', get_proof_hints n h tr = ret (h', steps.map hintOf) ∧ RepresentsM n h' { ds with rules := rules' } :=
  get_proof_hints_inv n h ds hr tr

/-- END TO END for several modules, all from translated text (shape of `k_pipeline_text_is_the_model`) -/
theorem k_pipeline_text_is_the_model_multi (so : SetOrder) (hso : so.Valid) (n k : Nat) (d : KDefinition) (hf : InFragmentM d)
    (hn : d.modules.length + 1 ≤ n) (ds : DefSem)
    (hd : sigOfDefinitionM d = some ds) (tr : PyLLVMTrace) (init : NPat) (s0 : Step) (ss : List Step)
    (ht : traceSteps ds tr = some (init, s0 :: ss)) (hrw : ∀ s ∈ s0 :: ss, s.rule.kind = .rewrite) :
    ∃ ls ls' hints,
      LanguageSemantics.from_kore_definition so n d = ret ls ∧
      get_proof_hints n ls tr = ret (ls', hints) ∧
      sigView ls' = ds.sg ∧
      (Gen.PyKore.ExecutionProofExp.from_proof_hints k hints (semView ls')
          = (match traceF ds.sg k (initSt init) (modelSteps (s0 :: ss)) with
             | none => none
             | some none => some none
             | some (some st) => ret (some (KoreTie.withSt (Gen.PyKore.ExecutionProofExp.__init__ (semView ls') init) st)))
        ∨ (traceF ds.sg k (initSt init) (modelSteps (s0 :: ss)) = none
            ∧ Gen.PyKore.ExecutionProofExp.from_proof_hints k hints (semView ls') = some none)) := by
  have h1 := kore_definition_representsM so hso n d hf hn
  rw [hd] at h1
  obtain ⟨ls, hls, hrep⟩ := h1
  have h2 := proof_hints_text_is_the_model_multi n ls ds hrep tr
  simp only [traceSteps] at ht
  cases htr : traceStepsR ds tr with
  | none => simp [htr] at ht
  | some x =>
    obtain ⟨init', rules', steps⟩ := x
    simp [htr] at ht
    obtain ⟨rfl, rfl⟩ := ht
    rw [htr] at h2
    obtain ⟨ls', hg, hrep'⟩ := h2
    have hsig : sigView ls' = ds.sg := hrep'.sig
    refine ⟨ls, ls', _, hls, hg, hsig, ?_⟩
    have hbefore : s0.before = init' := by
      simp only [traceStepsR, Option.bind_eq_bind, Option.bind_eq_some_iff] at htr
      obtain ⟨i, _, y, hy, he⟩ := htr
      simp at he
      obtain ⟨rfl, rfl, hs⟩ := he
      obtain ⟨y1, y2⟩ := y
      simp only at hs; subst hs
      exact stepsF_first hy
    have hall := allRewriting_hints (s0 :: ss) hrw
    have := KoreTie.from_proof_hints_eq k (semView ls') (hintOf s0) (ss.map hintOf) hall
    have hsteps : ((hintOf s0 :: ss.map hintOf).map KoreTie.stepOf) = modelSteps (s0 :: ss) := by
      simp [modelSteps, stepOf_hintOf, Function.comp_def]
    have hsg : (semView ls').sg = ds.sg := hsig
    have hcb : (hintOf s0).configuration_before = init' := hbefore
    rw [hsteps, hsg, hcb] at this
    exact this

end MultiFinal

/-! ## non-vacuity: the diamond of four modules, EVERY valid set order -/
namespace ExampleMulti
open PyI PyM PyK Kore Gen.PyKDef KDefSpec KDefTie KDefTieM KDefTieM2

theorem island_in_fragment : InFragmentM island := by decide +kernel
theorem diamond_accepted : (sigOfDefinitionM diamond).isSome = true := by decide +kernel
theorem island_accepted : (sigOfDefinitionM island).isSome = true := by decide +kernel

/-- the general theorem on the diamond: for EVERY valid set order (fuel 5) the generated builder returns a store with the specification's
signature and `get_axiom` -/
theorem diamond_tie (so : SetOrder) (hso : so.Valid) :
    ∃ ds h, sigOfDefinitionM diamond = some ds ∧ LanguageSemantics.from_kore_definition so 5 diamond = ret h ∧ sigView h = ds.sg ∧
      (∀ o, LanguageSemantics.get_axiom 5 h o = some ((ds.rule? o).map axiomOf)) ∧
      (∀ k, (LanguageSemantics.get_symbol so 5 h k).map (Option.map symDeclOf) = some (ds.sg.symbols.find? (·.name == k))) := by
  have h := (kore_definition_text_is_the_model_multi so hso 5 diamond diamond_in_fragment (by decide)).2
  cases hs : sigOfDefinitionM diamond with
  | none => have := diamond_accepted; rw [hs] at this; cases this
  | some ds =>
    rw [hs] at h
    obtain ⟨h', _, h1, _, h2, h3, _, _, h6, _⟩ := h
    exact ⟨ds, h', rfl, h1, h2, h3, h6⟩

/-- the pipeline on the diamond and the hint stream `b =[2]=> f(a) =[1, X ↦ a]=> a`, for EVERY valid set order: the specification has steps
(`decide`), so the generated `from_kore_definition` and `get_proof_hints` return, and `from_proof_hints` is the model's `traceF` -/
theorem diamond_hints (so : SetOrder) (hso : so.Valid) :
    ∃ ds ls ls' hints, sigOfDefinitionM diamond = some ds ∧ LanguageSemantics.from_kore_definition so 5 diamond = ret ls ∧
      get_proof_hints 5 ls trace = ret (ls', hints) ∧ hints.length = 2 ∧ sigView ls' = ds.sg := by
  have h1 := kore_definition_representsM so hso 5 diamond diamond_in_fragment (by decide)
  cases hs : sigOfDefinitionM diamond with
  | none => have := diamond_accepted; rw [hs] at this; cases this
  | some ds =>
    rw [hs] at h1
    obtain ⟨ls, hls, hrep⟩ := h1
    have h2 := proof_hints_text_is_the_model_multi 5 ls ds hrep trace
    have hlen : ((sigOfDefinitionM diamond).bind fun ds => (traceStepsR ds trace).map fun x => x.2.2.length) = some 2 := by decide +kernel
    rw [hs] at hlen
    cases htr : traceStepsR ds trace with
    | none => simp [htr] at hlen
    | some x =>
      obtain ⟨i, r, st⟩ := x
      rw [htr] at h2
      simp [htr] at hlen
      obtain ⟨ls', hg, hrep'⟩ := h2
      exact ⟨ds, ls, ls', _, rfl, hls, hg, by simp [hlen], hrep'.sig⟩

/-- on `island` (the main module does not import module 2): for every valid set order `get_axiom 1` raises `ValueError` although the scope of rule 1 is cached -/
theorem island_tie (so : SetOrder) (hso : so.Valid) :
    ∃ h, LanguageSemantics.from_kore_definition so 5 island = ret h ∧ LanguageSemantics.get_axiom 5 h 1 = raise ∧
      (h._cached_axiom_scopes.lookup 1).isSome = true ∧ (LanguageSemantics.get_axiom 5 h 2).map Option.isSome = some true := by
  have h := (kore_definition_text_is_the_model_multi so hso 5 island island_in_fragment (by decide)).2
  cases hs : sigOfDefinitionM island with
  | none => have := island_accepted; rw [hs] at this; cases this
  | some ds =>
    rw [hs] at h
    obtain ⟨h', allRules, h1, har, _, h3, h4, _⟩ := h
    have ev : ((sigOfDefinitionM island).map fun ds => ((ds.rule? 1).isSome, (ds.rule? 2).isSome)) = some (false, true) ∧
        ((allRulesOfDefinition island).map fun rs => (rs.find? (·.ordinal == 1)).isSome) = some true := by
      decide +kernel
    rw [hs, har] at ev
    simp only [Option.map_some, Option.some.injEq, Prod.mk.injEq] at ev
    obtain ⟨⟨e1, e2⟩, e3⟩ := ev
    refine ⟨h', h1, ?_, ?_, ?_⟩
    · rw [h3]; cases hr : ds.rule? 1 with
      | none => rfl
      | some x => rw [hr] at e1; cases e1
    · rw [h4]; simpa using e3
    · rw [h3]; cases hr : ds.rule? 2 with
      | none => rw [hr] at e2; cases e2
      | some x => rfl

end ExampleMulti
end C20

#print axioms C20.kore_definition_text_is_the_model_multi
#print axioms C20.kore_definition_text_is_the_model_multi'
#print axioms C20.kore_definition_representsM
#print axioms C20.proof_hints_text_is_the_model_multi
#print axioms C20.k_pipeline_text_is_the_model_multi
#print axioms C20.ExampleMulti.diamond_hints
#print axioms C20.ExampleMulti.diamond_tie
#print axioms C20.ExampleMulti.island_tie
