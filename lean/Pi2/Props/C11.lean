import Pi2.NotationThm
import Pi2.Sound.Inst
import Pi2.RustTie
import Pi2.PyTie
import Pi2.InstUThm
import Pi2.RustInstTie
import Pi2.RustExecInv
/-!
# C11 — substitution and instantiation obey their algebra

`substE/substS` are an independent textbook definition on *concrete* patterns (no metavariables,
no pending substitutions).  The checker's functions (`applyESubst`, partial because of the capture
check) and the generator's (`Py.esub`, total, capture-unaware) agree with it; both are the identity
when the variable is judged fresh; both defer on metavariables; instantiation is simultaneous,
distributes over every constructor and resolves pending substitutions; and the semantic
substitution lemma holds.  Composition of instantiations and the notation layer are in
`Pi2.NotationThm` (imported by C12).
-/
set_option linter.unusedVariables false
open Pat
namespace C11

/-- concrete = no metavariable and no pending substitution -/
def concrete : Pat → Bool
  | evar _ => true | svar _ => true | sym _ => true
  | imp l r => concrete l && concrete r
  | app l r => concrete l && concrete r
  | ex _ p => concrete p | mu _ p => concrete p
  | mv .. => false | esub .. => false | ssub .. => false

/-- textbook element-variable substitution: replace the free occurrences -/
def substE (x : VId) (plug : Pat) : Pat → Pat
  | evar y => if y = x then plug else evar y
  | imp l r => imp (substE x plug l) (substE x plug r)
  | app l r => app (substE x plug l) (substE x plug r)
  | ex y p => if y = x then ex y p else ex y (substE x plug p)
  | mu Y p => mu Y (substE x plug p)
  | q => q

def substS (X : VId) (plug : Pat) : Pat → Pat
  | svar Y => if Y = X then plug else svar Y
  | imp l r => imp (substS X plug l) (substS X plug r)
  | app l r => app (substS X plug l) (substS X plug r)
  | ex y p => ex y (substS X plug p)
  | mu Y p => if Y = X then mu Y p else mu Y (substS X plug p)
  | q => q

/-- the generator's substitution coincides with the checker's whenever the checker accepts — for
**all** patterns (the checker only adds the capture checks) -/
theorem py_esubst_eq_rust (x : VId) (plug : Pat) : ∀ (p r : Pat),
    applyESubst x plug p = some r → Py.esub x plug p = r := by
  intro p
  induction p with
  | imp l r ihl ihr | app l r ihl ihr =>
    intro q h
    simp only [applyESubst, Option.bind_eq_bind, Option.bind_eq_some_iff, Option.pure_def, Option.some.injEq] at h
    obtain ⟨l', hl, r', hr, rfl⟩ := h
    simp only [Py.esub, ihl l' hl, ihr r' hr]
  | ex y p ih =>
    intro q h; simp only [applyESubst] at h; simp only [Py.esub]
    split at h
    · rename_i hy; cases h; exact if_pos hy
    · rename_i hy
      split at h <;> try cases h
      simp only [Option.bind_eq_bind, Option.bind_eq_some_iff, Option.pure_def, Option.some.injEq] at h
      obtain ⟨p', hp, rfl⟩ := h
      rw [ih p' hp]; exact if_neg hy
  | mu Y p ih =>
    intro q h; simp only [applyESubst] at h
    split at h <;> try cases h
    simp only [Option.bind_eq_bind, Option.bind_eq_some_iff, Option.pure_def, Option.some.injEq] at h
    obtain ⟨p', hp, rfl⟩ := h
    simp only [Py.esub, ih p' hp]
  | evar y =>
    intro r h; simp only [applyESubst] at h; simp only [Py.esub]
    split at h <;> cases h <;> simp only [*, if_true, if_false]
  | mv id ef sf ps ns hs =>
    intro r h; simp only [applyESubst] at h; simp only [Py.esub]
    split at h <;> cases h <;> simp only [*, if_true, Bool.false_eq_true, if_false]
  | _ => intro r h; cases h; rfl

theorem py_ssubst_eq_rust (X : VId) (plug : Pat) : ∀ (p r : Pat),
    applySSubst X plug p = some r → Py.ssub X plug p = r := by
  intro p
  induction p with
  | imp l r ihl ihr | app l r ihl ihr =>
    intro q h
    simp only [applySSubst, Option.bind_eq_bind, Option.bind_eq_some_iff, Option.pure_def, Option.some.injEq] at h
    obtain ⟨l', hl, r', hr, rfl⟩ := h
    simp only [Py.ssub, ihl l' hl, ihr r' hr]
  | mu y p ih =>
    intro q h; simp only [applySSubst] at h; simp only [Py.ssub]
    split at h
    · rename_i hy; cases h; exact if_pos hy
    · rename_i hy
      split at h <;> try cases h
      simp only [Option.bind_eq_bind, Option.bind_eq_some_iff, Option.pure_def, Option.some.injEq] at h
      obtain ⟨p', hp, rfl⟩ := h
      rw [ih p' hp]; exact if_neg hy
  | ex Y p ih =>
    intro q h; simp only [applySSubst] at h
    split at h <;> try cases h
    simp only [Option.bind_eq_bind, Option.bind_eq_some_iff, Option.pure_def, Option.some.injEq] at h
    obtain ⟨p', hp, rfl⟩ := h
    simp only [Py.ssub, ih p' hp]
  | svar y =>
    intro r h; simp only [applySSubst] at h; simp only [Py.ssub]
    split at h <;> cases h <;> simp only [*, if_true, if_false]
  | mv id ef sf ps ns hs =>
    intro r h; simp only [applySSubst] at h; simp only [Py.ssub]
    split at h <;> cases h <;> simp only [*, if_true, Bool.false_eq_true, if_false]
  | _ => intro r h; cases h; rfl

/-- the generator's `apply_esubst` is the textbook substitution on concrete patterns -/
theorem py_esubst_textbook (x : VId) (plug : Pat) : ∀ p : Pat, concrete p = true → Py.esub x plug p = substE x plug p := by
  intro p; induction p with
  | imp l r ihl ihr | app l r ihl ihr =>
    intro hc; simp only [concrete, Bool.and_eq_true] at hc
    simp only [Py.esub, substE, ihl hc.1, ihr hc.2]
  | ex y p ih | mu y p ih => intro hc; simp only [Py.esub, substE, ih hc]
  | mv | esub | ssub => intro hc; cases hc
  | _ => intro _; rfl

theorem py_ssubst_textbook (X : VId) (plug : Pat) : ∀ p : Pat, concrete p = true → Py.ssub X plug p = substS X plug p := by
  intro p; induction p with
  | imp l r ihl ihr | app l r ihl ihr =>
    intro hc; simp only [concrete, Bool.and_eq_true] at hc
    simp only [Py.ssub, substS, ihl hc.1, ihr hc.2]
  | ex y p ih | mu y p ih => intro hc; simp only [Py.ssub, substS, ih hc]
  | mv | esub | ssub => intro hc; cases hc
  | _ => intro _; rfl

/-- the checker's `apply_esubst`, whenever it does not reject, is the textbook substitution -/
theorem rust_esubst_textbook (x : VId) (plug : Pat) : ∀ (p r : Pat), concrete p = true →
    applyESubst x plug p = some r → r = substE x plug p :=
  fun p r hc h => (py_esubst_eq_rust x plug p r h).symm.trans (py_esubst_textbook x plug p hc)

theorem rust_ssubst_textbook (X : VId) (plug : Pat) : ∀ (p r : Pat), concrete p = true →
    applySSubst X plug p = some r → r = substS X plug p :=
  fun p r hc h => (py_ssubst_eq_rust X plug p r h).symm.trans (py_ssubst_textbook X plug p hc)

/-- identity when the variable does not occur free (judged fresh), on concrete patterns -/
theorem substE_id_of_fresh (x : VId) (plug : Pat) : ∀ p : Pat, concrete p = true → p.eFresh x = true → substE x plug p = p := by
  intro p; induction p with
  | evar y => intro _ h; simp [eFresh] at h; simp [substE, h]
  | ex y p ih =>
    intro hc h; simp [concrete] at hc; simp [eFresh] at h; simp only [substE]
    split
    · rfl
    · rename_i hy; rcases h with h | h
      · exact absurd h.symm hy
      · rw [ih hc h]
  | imp l r ihl ihr | app l r ihl ihr => intro hc h; simp [concrete] at hc; simp [eFresh] at h; simp [substE, ihl hc.1 h.1, ihr hc.2 h.2]
  | mu Y p ih => intro hc h; simp [concrete] at hc; simp [eFresh] at h; simp [substE, ih hc h]
  | _ => intros; simp [substE]

theorem substS_id_of_fresh (X : VId) (plug : Pat) : ∀ p : Pat, concrete p = true → p.sFresh X = true → substS X plug p = p := by
  intro p; induction p with
  | svar y => intro _ h; simp [sFresh] at h; simp [substS, h]
  | mu Y p ih =>
    intro hc h; simp [concrete] at hc; simp [sFresh] at h; simp only [substS]
    split
    · rfl
    · rename_i hy; rcases h with h | h
      · exact absurd h.symm hy
      · rw [ih hc h]
  | imp l r ihl ihr | app l r ihl ihr => intro hc h; simp [concrete] at hc; simp [sFresh] at h; simp [substS, ihl hc.1 h.1, ihr hc.2 h.2]
  | ex y p ih => intro hc h; simp [concrete] at hc; simp [sFresh] at h; simp [substS, ih hc h]
  | _ => intros; simp [substS]

/-- deferred on metavariables — unless the metavariable declares the variable fresh, in which case
the substitution is the identity; both implementations agree (F12 aligned the checker) -/
theorem esubst_deferred_on_mv (x : VId) (plug : Pat) (id : VId) (ef sf ps ns hs : List VId) :
    applyESubst x plug (mv id ef sf ps ns hs) = some (Py.esub x plug (mv id ef sf ps ns hs)) ∧
    (ef.contains x = false → Py.esub x plug (mv id ef sf ps ns hs) = esub (mv id ef sf ps ns hs) x plug) ∧
    (ef.contains x = true → Py.esub x plug (mv id ef sf ps ns hs) = mv id ef sf ps ns hs) := by
  refine ⟨?_, ?_, ?_⟩
  · simp only [applyESubst, Py.esub]; split <;> rfl
  · intro h; simp only [Py.esub, h]; rfl
  · intro h; simp only [Py.esub, h]; rfl

theorem ssubst_deferred_on_mv (X : VId) (plug : Pat) (id : VId) (ef sf ps ns hs : List VId) :
    applySSubst X plug (mv id ef sf ps ns hs) = some (Py.ssub X plug (mv id ef sf ps ns hs)) ∧
    (sf.contains X = false → Py.ssub X plug (mv id ef sf ps ns hs) = ssub (mv id ef sf ps ns hs) X plug) ∧
    (sf.contains X = true → Py.ssub X plug (mv id ef sf ps ns hs) = mv id ef sf ps ns hs) := by
  refine ⟨?_, ?_, ?_⟩
  · simp only [applySSubst, Py.ssub]; split <;> rfl
  · intro h; simp only [Py.ssub, h]; rfl
  · intro h; simp only [Py.ssub, h]; rfl

/-- instantiation is simultaneous: the value put for a metavariable is not instantiated again -/
theorem inst_simultaneous (δ : VId → Option Pat) (id : VId) (q : Pat) (h : δ id = some q) :
    Py.inst δ (mv id [] [] [] [] []) = q ∧ inst δ (mv id [] [] [] [] []) = some q := by
  simp [Py.inst, inst, h, okPlug]

/-- instantiation distributes over every constructor and resolves pending substitutions -/
theorem inst_distrib (δ : VId → Option Pat) (l r p : Pat) (x : VId) :
    Py.inst δ (imp l r) = imp (Py.inst δ l) (Py.inst δ r) ∧
    Py.inst δ (app l r) = app (Py.inst δ l) (Py.inst δ r) ∧
    Py.inst δ (ex x p) = ex x (Py.inst δ p) ∧
    Py.inst δ (mu x p) = mu x (Py.inst δ p) ∧
    Py.inst δ (esub p x r) = Py.esub x (Py.inst δ r) (Py.inst δ p) ∧
    Py.inst δ (ssub p x r) = Py.ssub x (Py.inst δ r) (Py.inst δ p) := by
  simp [Py.inst]

/-- the substitution lemma of the semantics (checker side) -/
theorem substitution_lemma_E (𝔐 : Model) (σ : MVKey → Sem 𝔐.M) (hσ : AllAdm σ) (x : VId) (plug p r : Pat)
    (h : applyESubst x plug p = some r) (ρ : Val 𝔐.M) :
    eval 𝔐 σ r ρ = eval 𝔐 σ p (ρ.setE x (eval 𝔐 σ plug ρ)) :=
  applyESubst_sem 𝔐 σ hσ.1 hσ.2.1 x plug p r h ρ

theorem substitution_lemma_S (𝔐 : Model) (σ : MVKey → Sem 𝔐.M) (hσ : AllAdm σ) (X : VId) (plug p r : Pat)
    (h : applySSubst X plug p = some r) (ρ : Val 𝔐.M) :
    eval 𝔐 σ r ρ = eval 𝔐 σ p (ρ.setS X (eval 𝔐 σ plug ρ)) :=
  applySSubst_sem 𝔐 σ hσ.1 hσ.2.1 X plug p r h ρ

/-- hence the checker's instantiation, whenever it accepts, is the generator's instantiation -/
theorem py_inst_eq_rust (θ : VId → Option Pat) : ∀ (p r : Pat), inst θ p = some r → Py.inst θ p = r := by
  intro p
  induction p with
  | evar _ | svar _ | sym _ => intro r h; simp [inst] at h; simp [Py.inst, h]
  | mv id ef sf ps ns hs =>
    intro r h; simp only [inst] at h; simp only [Py.inst]
    cases hθ : θ id with
    | none => simp [hθ] at h; simp [h]
    | some q => simp only [hθ] at h; split at h <;> simp_all
  | imp l r ihl ihr | app l r ihl ihr =>
    intro q h; simp only [inst] at h
    cases hl : inst θ l with
    | none => simp [hl] at h
    | some l' =>
      cases hr : inst θ r with
      | none => simp [hl, hr] at h
      | some r' => simp [hl, hr] at h; subst h; simp [Py.inst, ihl l' hl, ihr r' hr]
  | ex x p ih | mu x p ih =>
    intro q h; simp only [inst] at h
    cases hp : inst θ p with
    | none => simp [hp] at h
    | some p' => simp [hp] at h; subst h; simp [Py.inst, ih p' hp]
  | esub p x plug ihp ihq =>
    intro r h; simp only [inst] at h
    cases hp : inst θ p with
    | none => simp [hp] at h
    | some p' =>
      cases hq : inst θ plug with
      | none => simp [hp, hq] at h
      | some q' =>
        simp [hp, hq] at h
        simp only [Py.inst, ihp p' hp, ihq q' hq]
        exact py_esubst_eq_rust x q' p' r h
  | ssub p x plug ihp ihq =>
    intro r h; simp only [inst] at h
    cases hp : inst θ p with
    | none => simp [hp] at h
    | some p' =>
      cases hq : inst θ plug with
      | none => simp [hp, hq] at h
      | some q' =>
        simp [hp, hq] at h
        simp only [Py.inst, ihp p' hp, ihq q' hq]
        exact py_ssubst_eq_rust x q' p' r h

/-- instantiation composes: instantiating twice equals instantiating once with the composed map
(shaped patterns: see `Pat.Shape`; outside, `MetaVar.apply_esubst`'s e_fresh shortcut breaks it) -/
theorem inst_compose (δ₁ δ₂ : VId → Option Pat) (q : Pat) (hδ : ∀ k v, δ₁ k = some v → v.Shape = true)
    (hq : q.Shape = true) :
    Py.inst δ₂ (Py.inst δ₁ q) = Py.inst (fun k => match δ₁ k with | some v => some (Py.inst δ₂ v) | none => δ₂ k) q :=
  Py.inst_comp δ₁ δ₂ hδ q hq

/-- instantiation commutes with substitution (shaped patterns) -/
theorem inst_esubst_commute (δ : VId → Option Pat) (x : VId) (plug q : Pat) (hq : q.Shape = true) :
    Py.inst δ (Py.esub x plug q) = Py.esub x (Py.inst δ plug) (Py.inst δ q) := Py.inst_esub_comm δ x plug q hq

/-- on patterns with notation: `expand (p.instantiate δ) = (expand p).instantiate (expand ∘ δ)` -/
theorem notation_instantiate (n : Nat) (δ : List (Nat × NPat)) (p r : NPat) (hp : p.Shape = true)
    (hδ : NPat.ShapeMap δ = true) (h : NPat.instF n δ p = some r) :
    r.expand = Py.inst (Py.lookup (NPat.expand.expandMap δ)) p.expand := (NPat.instF_expand n δ p r hp hδ h).1

/-! Non-vacuity -/
example : applyESubst 0 (evar 1) (ex 2 (imp (evar 0) (evar 2))) = some (ex 2 (imp (evar 1) (evar 2))) := by decide
example : applyESubst 0 (evar 2) (ex 2 (imp (evar 0) (evar 2))) = none := by decide   -- capture is rejected
example : Py.esub 0 (evar 2) (ex 2 (imp (evar 0) (evar 2))) = ex 2 (imp (evar 2) (evar 2)) := by decide

/-- the Rust substitution functions as written in the source (translated on every run) are the model's: the laws above
hold of `apply_esubst` / `apply_ssubst` of `rust/src/lib.rs` -/
theorem rust_substitution_is_the_model :
    Gen.Rust.substTranslated = true ∧
    (∀ p x plug, Gen.Rust.apply_esubst p x plug = Pat.applyESubst x plug p) ∧
    (∀ p x plug, Gen.Rust.apply_ssubst p x plug = Pat.applySSubst x plug p) :=
  ⟨RustTie.substTranslated, RustTie.apply_esubst_eq, RustTie.apply_ssubst_eq⟩

/-- the Python pattern operations as written in `pattern.py` (translated on every run, `Pi2/Gen/PyPattern.lean`) are the
hand-written Python semantics on notation-free patterns that the theorems above are stated about -/
theorem python_pattern_operations_are_the_model :
    Gen.Py.translated = true ∧
    (∀ p e, Gen.Py.evar_is_free p e = Pat.eFresh e p) ∧
    (∀ p, Gen.Py.metavars p = Py.metavars p) ∧
    (∀ p x plug, Gen.Py.apply_esubst p x plug = Py.esub x plug p) ∧
    (∀ p x plug, Gen.Py.apply_ssubst p x plug = Py.ssub x plug p) ∧
    (∀ p, Gen.Py.instantiate p [] = p) ∧
    (∀ p δ, δ ≠ [] → Gen.Py.instantiate p δ = Py.inst (Py.lookup δ) p) :=
  ⟨PyTie.translated, PyTie.evar_is_free_eq, PyTie.metavars_eq, PyTie.apply_esubst_eq, PyTie.apply_ssubst_eq,
   PyTie.instantiate_nil, PyTie.instantiate_eq⟩

/-- `instantiate_in_place` as the Rust code computes it (`Pat.instU`: arm by arm with the "unchanged" optimisation; the
correspondence compares the real checker with it on ALL patterns) is the simple model `inst`, about which the laws above
and the soundness proof are stated, on every pattern the machine can build: `RShape` (every substitution node is one
that `apply_esubst` / `apply_ssubst` rebuild; implied by `Shape`) holds of every term of every reachable machine state
(`machine_states_reachable_shape`) -/
theorem rust_instantiate_is_the_model (vars : List VId) (plugs : List Pat) (hlen : vars.length = plugs.length)
    (p : Pat) (hs : p.RShape = true) :
    (Pat.instU vars plugs p).map (·.getD p) = Pat.inst (Pat.lookupPlug vars plugs) p :=
  Pat.instU_eq_inst_RShape vars plugs hlen p hs

/-- every term on the stack and in the memory of every machine state reachable from the empty state is `RShape` -/
theorem machine_states_reachable_shape (ph : Phase) (is : List Instr) (s s' : St) (js : List Pat)
    (h : run ph s is = some (s', js)) (hs : s.RShape = true) : s'.RShape = true :=
  run_RShape ph is s s' js h hs

/-- the hypothesis is needed: outside `RShape` (a state no instruction sequence builds) the "unchanged" optimisation
of the Rust code is visible -/
theorem instantiate_unchanged_visible_outside_shape :
    (Pat.instU [] [] (.esub (.evar 0) 0 (.evar 1))).map (·.getD (.esub (.evar 0) 0 (.evar 1))) = some (.esub (.evar 0) 0 (.evar 1)) ∧
    Pat.inst (Pat.lookupPlug [] []) (.esub (.evar 0) 0 (.evar 1)) = some (.evar 1) := by
  constructor <;> rfl

/-- `instantiate_internal` / `instantiate_in_place` as written in `rust/src/lib.rs` (translated statement by statement on
every run, `Pi2/Gen/RustInst.lean`; outer `none` = panic, inner `none` = Rust `None`) are the hand-written `Pat.instU`, on
ALL inputs (no length or shape hypothesis) -/
theorem rust_instantiate_text_is_instU :
    Gen.Rust.instTranslated = true ∧
    (∀ vars plugs p, Gen.Rust.instantiate_internal vars plugs p = Pat.instU vars plugs p) ∧
    (∀ vars plugs p, Gen.Rust.instantiate_in_place vars plugs p = (Pat.instU vars plugs p).map (·.getD p)) :=
  ⟨RustInstTie.instTranslated, RustInstTie.instantiate_internal_eq, RustInstTie.instantiate_in_place_eq⟩

/-- hence the Rust text of `instantiate_in_place` computes the simple model `inst` on every pattern the machine can build -/
theorem rust_instantiate_text_is_the_model (vars : List VId) (plugs : List Pat) (hlen : vars.length = plugs.length)
    (p : Pat) (hs : p.RShape = true) :
    Gen.Rust.instantiate_in_place vars plugs p = Pat.inst (Pat.lookupPlug vars plugs) p :=
  (RustInstTie.instantiate_in_place_eq vars plugs p).trans (rust_instantiate_is_the_model vars plugs hlen p hs)

/-! ## "exactly the free occurrences": nothing of the variable is left, nothing else is touched, idempotence -/

/-- "replaces EXACTLY the free occurrences", first half: after the substitution no free occurrence of the variable is left
(when the plug has none) — the judgement `e_fresh` of the checker accepts the result -/
theorem substE_eliminates (x : VId) (plug : Pat) (hp : plug.eFresh x = true) :
    ∀ p : Pat, concrete p = true → (substE x plug p).eFresh x = true := by
  intro p; induction p with
  | evar y => intro _; simp only [substE]; split
              · exact hp
              · rename_i h; simp [eFresh, h]
  | ex y p ih => intro hc; simp [concrete] at hc; simp only [substE]; split
                 · rename_i h; simp [eFresh, h]
                 · simp [eFresh, ih hc]
  | imp l r ihl ihr | app l r ihl ihr => intro hc; simp [concrete] at hc; simp [substE, eFresh, ihl hc.1, ihr hc.2]
  | mu Y p ih => intro hc; simp [concrete] at hc; simp [substE, eFresh, ih hc]
  | svar _ | sym _ => intro _; simp [substE, eFresh]
  | _ => intro hc; simp [concrete] at hc

theorem substS_eliminates (X : VId) (plug : Pat) (hp : plug.sFresh X = true) :
    ∀ p : Pat, concrete p = true → (substS X plug p).sFresh X = true := by
  intro p; induction p with
  | svar y => intro _; simp only [substS]; split
              · exact hp
              · rename_i h; simp [sFresh, h]
  | mu y p ih => intro hc; simp [concrete] at hc; simp only [substS]; split
                 · rename_i h; simp [sFresh, h]
                 · simp [sFresh, ih hc]
  | imp l r ihl ihr | app l r ihl ihr => intro hc; simp [concrete] at hc; simp [substS, sFresh, ihl hc.1, ihr hc.2]
  | ex Y p ih => intro hc; simp [concrete] at hc; simp [substS, sFresh, ih hc]
  | evar _ | sym _ => intro _; simp [substS, sFresh]
  | _ => intro hc; simp [concrete] at hc

/-- second half: nothing else is touched — a variable that is fresh in the pattern and in the plug is fresh in the result -/
theorem substE_preserves_eFresh (x y : VId) (plug : Pat) (hp : plug.eFresh y = true) :
    ∀ p : Pat, p.eFresh y = true → (substE x plug p).eFresh y = true := by
  intro p; induction p with
  | evar z => intro h; simp only [substE]; split
              · exact hp
              · exact h
  | ex z p ih => intro h; simp only [substE]; split
                 · exact h
                 · simp [eFresh] at h ⊢; rcases h with h | h
                   · exact Or.inl h
                   · exact Or.inr (ih h)
  | imp l r ihl ihr | app l r ihl ihr => intro h; simp [eFresh] at h; simp [substE, eFresh, ihl h.1, ihr h.2]
  | mu Y p ih => intro h; simp [eFresh] at h; simp [substE, eFresh, ih h]
  | _ => intro h; simpa [substE] using h

theorem substS_preserves_sFresh (X Y : VId) (plug : Pat) (hp : plug.sFresh Y = true) :
    ∀ p : Pat, p.sFresh Y = true → (substS X plug p).sFresh Y = true := by
  intro p; induction p with
  | svar z => intro h; simp only [substS]; split
              · exact hp
              · exact h
  | mu z p ih => intro h; simp only [substS]; split
                 · exact h
                 · simp [sFresh] at h ⊢; rcases h with h | h
                   · exact Or.inl h
                   · exact Or.inr (ih h)
  | imp l r ihl ihr | app l r ihl ihr => intro h; simp [sFresh] at h; simp [substS, sFresh, ihl h.1, ihr h.2]
  | ex Y p ih => intro h; simp [sFresh] at h; simp [substS, sFresh, ih h]
  | _ => intro h; simpa [substS] using h

/-- an element substitution never changes which set variables are free beyond what the plug brings, and vice versa -/
theorem substE_preserves_sFresh (x Y : VId) (plug : Pat) (hp : plug.sFresh Y = true) :
    ∀ p : Pat, p.sFresh Y = true → (substE x plug p).sFresh Y = true := by
  intro p; induction p with
  | evar z => intro h; simp only [substE]; split
              · exact hp
              · exact h
  | ex z p ih => intro h; simp only [substE]; split
                 · exact h
                 · simp [sFresh] at h ⊢; exact ih h
  | mu Z p ih => intro h; simp [sFresh] at h; simp only [substE, sFresh]; rcases h with h | h
                 · simp [h]
                 · simp [ih h]
  | imp l r ihl ihr | app l r ihl ihr => intro h; simp [sFresh] at h; simp [substE, sFresh, ihl h.1, ihr h.2]
  | _ => intro h; simpa [substE] using h

/-- the textbook substitution keeps concrete patterns concrete (given a concrete plug) -/
theorem substE_concrete (x : VId) (plug : Pat) (hp : concrete plug = true) :
    ∀ p : Pat, concrete p = true → concrete (substE x plug p) = true := by
  intro p; induction p with
  | evar y => intro _; simp only [substE]; split
              · exact hp
              · rfl
  | ex y p ih => intro hc; simp [concrete] at hc; simp only [substE]; split
                 · simpa [concrete] using hc
                 · simp [concrete, ih hc]
  | imp l r ihl ihr | app l r ihl ihr => intro hc; simp [concrete] at hc; simp [substE, concrete, ihl hc.1, ihr hc.2]
  | mu Y p ih => intro hc; simp [concrete] at hc; simp [substE, concrete, ih hc]
  | _ => intro hc; simpa [substE] using hc

theorem substS_concrete (X : VId) (plug : Pat) (hp : concrete plug = true) :
    ∀ p : Pat, concrete p = true → concrete (substS X plug p) = true := by
  intro p; induction p with
  | svar y => intro _; simp only [substS]; split
              · exact hp
              · rfl
  | mu y p ih => intro hc; simp [concrete] at hc; simp only [substS]; split
                 · simpa [concrete] using hc
                 · simp [concrete, ih hc]
  | imp l r ihl ihr | app l r ihl ihr => intro hc; simp [concrete] at hc; simp [substS, concrete, ihl hc.1, ihr hc.2]
  | ex Y p ih => intro hc; simp [concrete] at hc; simp [substS, concrete, ih hc]
  | _ => intro hc; simpa [substS] using hc

/-- hence substituting twice is substituting once (plug without the variable): all free occurrences were replaced the first time -/
theorem substE_idempotent (x : VId) (plug p : Pat) (hpc : concrete plug = true) (hp : plug.eFresh x = true)
    (hc : concrete p = true) : substE x plug (substE x plug p) = substE x plug p :=
  substE_id_of_fresh x plug _ (substE_concrete x plug hpc p hc) (substE_eliminates x plug hp p hc)

theorem substS_idempotent (X : VId) (plug p : Pat) (hpc : concrete plug = true) (hp : plug.sFresh X = true)
    (hc : concrete p = true) : substS X plug (substS X plug p) = substS X plug p :=
  substS_id_of_fresh X plug _ (substS_concrete X plug hpc p hc) (substS_eliminates X plug hp p hc)

/-- the same facts for the checker's own functions: whenever `apply_esubst` / `apply_ssubst` of `rust/src/lib.rs` do not
reject, the variable is judged fresh (by the checker's own `e_fresh` / `s_fresh`) in what they return, and applying them
again returns the same pattern or rejects -/
theorem rust_esubst_eliminates (x : VId) (plug p r : Pat) (hp : plug.eFresh x = true) (hc : concrete p = true)
    (h : applyESubst x plug p = some r) : r.eFresh x = true := by
  rw [rust_esubst_textbook x plug p r hc h]; exact substE_eliminates x plug hp p hc

theorem rust_ssubst_eliminates (X : VId) (plug p r : Pat) (hp : plug.sFresh X = true) (hc : concrete p = true)
    (h : applySSubst X plug p = some r) : r.sFresh X = true := by
  rw [rust_ssubst_textbook X plug p r hc h]; exact substS_eliminates X plug hp p hc

theorem rust_esubst_idempotent (x : VId) (plug p r r' : Pat) (hpc : concrete plug = true) (hp : plug.eFresh x = true)
    (hc : concrete p = true) (h : applyESubst x plug p = some r) (h' : applyESubst x plug r = some r') : r' = r := by
  have e := rust_esubst_textbook x plug p r hc h
  have e' := rust_esubst_textbook x plug r r' (e ▸ substE_concrete x plug hpc p hc) h'
  rw [e', e]; exact substE_idempotent x plug p hpc hp hc

theorem rust_ssubst_idempotent (X : VId) (plug p r r' : Pat) (hpc : concrete plug = true) (hp : plug.sFresh X = true)
    (hc : concrete p = true) (h : applySSubst X plug p = some r) (h' : applySSubst X plug r = some r') : r' = r := by
  have e := rust_ssubst_textbook X plug p r hc h
  have e' := rust_ssubst_textbook X plug r r' (e ▸ substS_concrete X plug hpc p hc) h'
  rw [e', e]; exact substS_idempotent X plug p hpc hp hc

/-- the hypotheses are satisfiable on a pattern with a bound and a free occurrence, and the plug-freshness hypothesis is
needed: with the variable in the plug a free occurrence is left -/
example : substE 0 (.sym 7) (.app (.evar 0) (.ex 0 (.evar 0))) = .app (.sym 7) (.ex 0 (.evar 0)) ∧
    concrete (.app (.evar 0) (.ex 0 (.evar 0))) = true ∧ (Pat.sym 7).eFresh 0 = true := by decide
theorem eliminates_needs_fresh_plug :
    (substE 0 (.app (.evar 0) (.evar 0)) (.evar 0)).eFresh 0 = false ∧
    substE 0 (.app (.evar 0) (.evar 0)) (substE 0 (.app (.evar 0) (.evar 0)) (.evar 0)) ≠ substE 0 (.app (.evar 0) (.evar 0)) (.evar 0) := by
  decide


/-! ## the judgements on a pending substitution are sound for the resolved pattern -/

theorem substS_preserves_eFresh (X y : VId) (plug : Pat) (hp : plug.eFresh y = true) :
    ∀ p : Pat, p.eFresh y = true → (substS X plug p).eFresh y = true := by
  intro p; induction p with
  | svar z => intro h; simp only [substS]; split
              · exact hp
              · exact h
  | mu z p ih => intro h; simp only [substS]; split
                 · exact h
                 · simp [eFresh] at h ⊢; exact ih h
  | ex Z p ih => intro h; simp [eFresh] at h; simp only [substS, eFresh]; rcases h with h | h
                 · simp [h]
                 · simp [ih h]
  | imp l r ihl ihr | app l r ihl ihr => intro h; simp [eFresh] at h; simp [substS, eFresh, ihl h.1, ihr h.2]
  | _ => intro h; simpa [substS] using h

/-- the checker judges a PENDING substitution (`ESubst`/`SSubst` node, `e_fresh`/`s_fresh` arms of lib.rs:136-215) no more
generously than the RESOLVED pattern: whenever the judgement holds of the deferred node it holds of the textbook result.
(Syntactic counterpart of C06's semantic soundness, for concrete bodies.) -/
theorem pending_esubst_eFresh_sound (e x : VId) (plug p : Pat) (hc : concrete p = true)
    (h : (esub p x plug).eFresh e = true) : (substE x plug p).eFresh e = true := by
  simp only [eFresh] at h
  split at h
  · rename_i hex; have : e = x := by simpa using hex
    subst this; exact substE_eliminates e plug h p hc
  · simp at h; exact substE_preserves_eFresh x e plug h.2 p h.1

theorem pending_ssubst_sFresh_sound (s X : VId) (plug p : Pat) (hc : concrete p = true)
    (h : (ssub p X plug).sFresh s = true) : (substS X plug p).sFresh s = true := by
  simp only [sFresh] at h
  split at h
  · rename_i hex; have : s = X := by simpa using hex
    subst this; exact substS_eliminates s plug h p hc
  · simp at h; exact substS_preserves_sFresh X s plug h.2 p h.1

theorem pending_esubst_sFresh_sound (s x : VId) (plug p : Pat)
    (h : (esub p x plug).sFresh s = true) : (substE x plug p).sFresh s = true := by
  simp [sFresh] at h; exact substE_preserves_sFresh x s plug h.2 p h.1

theorem pending_ssubst_eFresh_sound (e X : VId) (plug p : Pat)
    (h : (ssub p X plug).eFresh e = true) : (substS X plug p).eFresh e = true := by
  simp [eFresh] at h; exact substS_preserves_eFresh X e plug h.2 p h.1

/-- the converse fails, by design: the judgement on the pending node is the more cautious one — evar 0 is not judged fresh in the
deferred `(sym 0)[evar 0 / evar 1]` although the resolved pattern `sym 0` does not contain it -/
theorem pending_judgement_is_conservative :
    (esub (.sym 0) 1 (.evar 0)).eFresh 0 = false ∧ (substE 1 (.evar 0) (.sym 0)).eFresh 0 = true := by decide


/-! ## polarity: the positivity / negativity judgements on a pending substitution are sound for the resolved pattern -/

/-- on concrete patterns a set variable that does not occur free occurs neither negatively nor positively -/
theorem pos_ng_of_sFresh (s : VId) : ∀ q : Pat, concrete q = true → q.sFresh s = true → q.pos s = true ∧ q.ng s = true := by
  intro q; induction q with
  | imp l r ihl ihr | app l r ihl ihr =>
                       intro hc h; simp [concrete] at hc; simp [sFresh] at h
                       have a := ihl hc.1 h.1; have b := ihr hc.2 h.2; simp [pos, ng, a, b]
  | ex y p ih => intro hc h; simp [concrete] at hc; simp [sFresh] at h; have a := ih hc h; simp [pos, ng, a]
  | mu Y p ih => intro hc h; simp [concrete] at hc; simp [sFresh] at h
                 rcases h with h | h
                 · simp [pos, ng, h]
                 · have a := ih hc h; simp [pos, ng, a]
  | svar Y => intro _ h; simp [sFresh] at h; simp [pos, ng, h]
  | evar _ | sym _ => intro _ _; simp [pos, ng]
  | _ => intro hc; simp [concrete] at hc

/-- MONOTONICITY, the reason behind the `SSubst` arms of `positive`/`negative` (lib.rs:217-281): whenever the checker judges
`s` positive (negative) in the deferred `p[plug/X]`, `s` is positive (negative) in the resolved textbook pattern -/
theorem pending_ssubst_pos_ng_sound (s X : VId) (plug : Pat) (hpc : concrete plug = true) :
    ∀ p : Pat, concrete p = true →
      ((ssub p X plug).pos s = true → (substS X plug p).pos s = true) ∧
      ((ssub p X plug).ng s = true → (substS X plug p).ng s = true) := by
  have hf : plug.sFresh s = true → plug.pos s = true ∧ plug.ng s = true := pos_ng_of_sFresh s plug hpc
  intro p; induction p with
  | evar _ | sym _ => intro _; simp [substS, pos, ng]
  | svar Y =>
    intro _; simp only [substS]
    by_cases hY : Y = X
    · subst hY; simp only [if_true]; simp [pos, ng]; grind
    · simp only [hY, if_false]; simp [pos, ng]; grind
  | imp l r ihl ihr | app l r ihl ihr =>
    intro hc; simp [concrete] at hc
    have a := ihl hc.1; have b := ihr hc.2
    simp only [pos, ng, substS, Bool.ite_eq_true_distrib, Bool.and_eq_true, Bool.or_eq_true, beq_iff_eq] at a b ⊢; grind
  | ex y q ih =>
    intro hc; simp [concrete] at hc
    have a := ih hc
    simp only [pos, ng, substS, Bool.ite_eq_true_distrib, Bool.and_eq_true, Bool.or_eq_true, beq_iff_eq] at a ⊢; grind
  | mu Y q ih =>
    intro hc; simp [concrete] at hc
    have a := ih hc
    simp only [substS]
    by_cases hY : Y = X
    · subst hY; simp [pos, ng]; grind
    · simp only [hY, if_false, pos, ng, Bool.ite_eq_true_distrib, Bool.and_eq_true, Bool.or_eq_true, beq_iff_eq] at a ⊢; grind
  | _ => intro hc; simp [concrete] at hc

/-- the `ESubst` arms of `positive`/`negative`: the plug must not contain `s` at all, and then polarity is kept -/
theorem pending_esubst_pos_ng_sound (s x : VId) (plug : Pat) (hpc : concrete plug = true) :
    ∀ p : Pat, concrete p = true →
      ((esub p x plug).pos s = true → (substE x plug p).pos s = true) ∧
      ((esub p x plug).ng s = true → (substE x plug p).ng s = true) := by
  have hf : plug.sFresh s = true → plug.pos s = true ∧ plug.ng s = true := pos_ng_of_sFresh s plug hpc
  intro p; induction p with
  | evar y =>
    intro _; simp only [substE]
    by_cases hy : y = x
    · subst hy; simp only [if_true]; simp [pos, ng]; grind
    · simp only [hy, if_false]; simp [pos, ng]
  | sym _ => intro _; simp [substE, pos, ng]
  | svar Y => intro _; simp [substE, pos, ng]; grind
  | imp l r ihl ihr | app l r ihl ihr =>
    intro hc; simp [concrete] at hc
    have a := ihl hc.1; have b := ihr hc.2
    simp only [pos, ng, substE, Bool.ite_eq_true_distrib, Bool.and_eq_true, Bool.or_eq_true, beq_iff_eq] at a b ⊢; grind
  | mu Y q ih =>
    intro hc; simp [concrete] at hc
    have a := ih hc
    simp only [pos, ng, substE, Bool.ite_eq_true_distrib, Bool.and_eq_true, Bool.or_eq_true, beq_iff_eq] at a ⊢; grind
  | ex y q ih =>
    intro hc; simp [concrete] at hc
    have a := ih hc
    simp only [substE]
    by_cases hy : y = x
    · subst hy; simp [pos, ng]; grind
    · simp only [hy, if_false, pos, ng, Bool.ite_eq_true_distrib, Bool.and_eq_true, Bool.or_eq_true, beq_iff_eq] at a ⊢; grind
  | _ => intro hc; simp [concrete] at hc

/-- non-vacuity: the polarity hypothesis is met by μ-bodies the generator really builds (X positive in `(X → ⊥) → ⊥`-style
nesting), and needed: substituting a negative occurrence of s for a positive X must not be judged positive -/
example : (ssub (.imp (.imp (.svar 0) (.sym 0)) (.sym 0)) 0 (.svar 1)).pos 1 = true ∧
    (substS 0 (.svar 1) (.imp (.imp (.svar 0) (.sym 0)) (.sym 0))).pos 1 = true := by decide
theorem polarity_flip_is_rejected :
    (ssub (.imp (.svar 0) (.sym 0)) 0 (.svar 1)).pos 1 = false ∧
    (substS 0 (.svar 1) (.imp (.svar 0) (.sym 0))).pos 1 = false := by decide


/-! ## substitutions for different variables commute -/

/-- substitutions for two different variables commute when neither plug mentions the other variable (the syntactic
substitution lemma, special case used by the proof rules that substitute twice) -/
theorem substE_comm (x y : VId) (hxy : x ≠ y) (a b : Pat) (hac : concrete a = true) (hbc : concrete b = true)
    (ha : a.eFresh y = true) (hb : b.eFresh x = true) :
    ∀ p : Pat, substE x a (substE y b p) = substE y b (substE x a p) := by
  intro p; induction p with
  | evar z =>
    by_cases hzx : z = x
    · subst hzx
      have hzy : ¬ z = y := hxy
      simp only [substE, hzy, if_false, if_true]
      exact (substE_id_of_fresh y b a hac ha).symm
    · by_cases hzy : z = y
      · subst hzy
        simp only [substE, hzx, if_false, if_true]
        exact substE_id_of_fresh x a b hbc hb
      · simp only [substE, hzx, hzy, if_false]
  | ex z q ih =>
    by_cases hzx : z = x
    · subst hzx
      have hzy : ¬ z = y := hxy
      simp only [substE, hzy, if_false, if_true]
    · by_cases hzy : z = y
      · subst hzy; simp only [substE, hzx, if_false, if_true]
      · simp only [substE, hzx, hzy, if_false, ih]
  | imp l r ihl ihr | app l r ihl ihr => simp only [substE, ihl, ihr]
  | mu Y q ih => simp only [substE, ih]
  | _ => rfl

theorem substS_comm (X Y : VId) (hxy : X ≠ Y) (a b : Pat) (hac : concrete a = true) (hbc : concrete b = true)
    (ha : a.sFresh Y = true) (hb : b.sFresh X = true) :
    ∀ p : Pat, substS X a (substS Y b p) = substS Y b (substS X a p) := by
  intro p; induction p with
  | svar z =>
    by_cases hzx : z = X
    · subst hzx
      have hzy : ¬ z = Y := hxy
      simp only [substS, hzy, if_false, if_true]
      exact (substS_id_of_fresh Y b a hac ha).symm
    · by_cases hzy : z = Y
      · subst hzy
        simp only [substS, hzx, if_false, if_true]
        exact substS_id_of_fresh X a b hbc hb
      · simp only [substS, hzx, hzy, if_false]
  | mu z q ih =>
    by_cases hzx : z = X
    · subst hzx
      have hzy : ¬ z = Y := hxy
      simp only [substS, hzy, if_false, if_true]
    · by_cases hzy : z = Y
      · subst hzy; simp only [substS, hzx, if_false, if_true]
      · simp only [substS, hzx, hzy, if_false, ih]
  | imp l r ihl ihr | app l r ihl ihr => simp only [substS, ihl, ihr]
  | ex y q ih => simp only [substS, ih]
  | _ => rfl

/-- the side conditions are needed: with the other variable in a plug the order is visible -/
theorem subst_comm_needs_fresh_plugs :
    substE 0 (.evar 1) (substE 1 (.sym 5) (.evar 0)) ≠ substE 1 (.sym 5) (substE 0 (.evar 1) (.evar 0)) := by decide


/-! ## instantiation is the identity where there is no metavariable -/

/-- instantiation only touches metavariables: on a pattern without metavariables (and hence without pending substitutions)
both implementations return the pattern itself, for every map -/
theorem inst_id_of_concrete (θ : VId → Option Pat) : ∀ p : Pat, concrete p = true → inst θ p = some p := by
  intro p; induction p with
  | imp l r ihl ihr | app l r ihl ihr => intro hc; simp [concrete] at hc; simp [inst, ihl hc.1, ihr hc.2]
  | ex x q ih | mu X q ih => intro hc; simp [concrete] at hc; simp [inst, ih hc]
  | evar _ | svar _ | sym _ => intro _; simp [inst]
  | _ => intro hc; simp [concrete] at hc

theorem py_inst_id_of_concrete (θ : VId → Option Pat) (p : Pat) (hc : concrete p = true) : Py.inst θ p = p :=
  py_inst_eq_rust θ p p (inst_id_of_concrete θ p hc)

/-- and the Rust text of `instantiate_in_place` leaves such a pattern as it is, whatever the variable and plug lists -/
theorem RShape_of_concrete : ∀ p : Pat, concrete p = true → p.RShape = true := by
  intro p; induction p with
  | imp l r ihl ihr | app l r ihl ihr => intro hc; simp [concrete] at hc; simp [RShape, ihl hc.1, ihr hc.2]
  | ex x q ih | mu X q ih => intro hc; simp [concrete] at hc; simp [RShape, ih hc]
  | evar _ | svar _ | sym _ => intro _; simp [RShape]
  | _ => intro hc; simp [concrete] at hc

theorem rust_instantiate_text_id_of_concrete (vars : List VId) (plugs : List Pat) (hlen : vars.length = plugs.length)
    (p : Pat) (hc : concrete p = true) :
    Gen.Rust.instantiate_in_place vars plugs p = some p := by
  rw [rust_instantiate_text_is_the_model vars plugs hlen p (RShape_of_concrete p hc)]; exact inst_id_of_concrete _ p hc


/-! ## exactness for the generator's functions -/

/-- the same exactness facts for the generator's `apply_esubst` / `apply_ssubst` (pattern.py, translated text tied to
`Py.esub`/`Py.ssub` by `python_pattern_operations_are_the_model`) -/
theorem py_esubst_eliminates (x : VId) (plug p : Pat) (hp : plug.eFresh x = true) (hc : concrete p = true) :
    (Py.esub x plug p).eFresh x = true := by
  rw [py_esubst_textbook x plug p hc]; exact substE_eliminates x plug hp p hc

theorem py_ssubst_eliminates (X : VId) (plug p : Pat) (hp : plug.sFresh X = true) (hc : concrete p = true) :
    (Py.ssub X plug p).sFresh X = true := by
  rw [py_ssubst_textbook X plug p hc]; exact substS_eliminates X plug hp p hc

theorem py_esubst_idempotent (x : VId) (plug p : Pat) (hpc : concrete plug = true) (hp : plug.eFresh x = true)
    (hc : concrete p = true) : Py.esub x plug (Py.esub x plug p) = Py.esub x plug p := by
  rw [py_esubst_textbook x plug p hc, py_esubst_textbook x plug _ (substE_concrete x plug hpc p hc)]
  exact substE_idempotent x plug p hpc hp hc

theorem py_ssubst_idempotent (X : VId) (plug p : Pat) (hpc : concrete plug = true) (hp : plug.sFresh X = true)
    (hc : concrete p = true) : Py.ssub X plug (Py.ssub X plug p) = Py.ssub X plug p := by
  rw [py_ssubst_textbook X plug p hc, py_ssubst_textbook X plug _ (substS_concrete X plug hpc p hc)]
  exact substS_idempotent X plug p hpc hp hc

theorem py_esubst_comm (x y : VId) (hxy : x ≠ y) (a b p : Pat) (hac : concrete a = true) (hbc : concrete b = true)
    (ha : a.eFresh y = true) (hb : b.eFresh x = true) (hc : concrete p = true) :
    Py.esub x a (Py.esub y b p) = Py.esub y b (Py.esub x a p) := by
  rw [py_esubst_textbook y b p hc, py_esubst_textbook x a p hc,
      py_esubst_textbook x a _ (substE_concrete y b hbc p hc), py_esubst_textbook y b _ (substE_concrete x a hac p hc)]
  exact substE_comm x y hxy a b hac hbc ha hb p

theorem py_ssubst_comm (X Y : VId) (hxy : X ≠ Y) (a b p : Pat) (hac : concrete a = true) (hbc : concrete b = true)
    (ha : a.sFresh Y = true) (hb : b.sFresh X = true) (hc : concrete p = true) :
    Py.ssub X a (Py.ssub Y b p) = Py.ssub Y b (Py.ssub X a p) := by
  rw [py_ssubst_textbook Y b p hc, py_ssubst_textbook X a p hc,
      py_ssubst_textbook X a _ (substS_concrete Y b hbc p hc), py_ssubst_textbook Y b _ (substS_concrete X a hac p hc)]
  exact substS_comm X Y hxy a b hac hbc ha hb p


end C11
