import Pi2.EndToEnd
import Pi2.Props.C02b
import Pi2.Props.C05
import Pi2.Props.C08b
/-!
# C02 (end to end) — generated text → bytes → checker text

The chain, every link a theorem that exists already, composed here for the propositional fragment
(`NPat.PF`, `Pf.PF`: where `propositional.py`, `tautology.py` and the Metamath translations live):

1. `ProofExp.execute_full` **as written** (`Gen/PyProof.lean`) running on `StatefulInterpreter` **as written**
   (`Gen/PyInterp.lean`), plain or under `MemoizingInterpreter` as written, returns a state and a history of calls
   ⇒ the model `PModule.executeFull` returns them (`C03.phases_text_on_stateful_text_is_the_model`, text → model,
   unconditional for dicts with distinct keys);
2. ⇒ the history replays on the tracker/serializer model (`trackAll`) to three instruction lists `g`, `c`, `p` which the
   reference machine accepts, publishing the declaration (`C02.propositional_module_accepted`);
3. the bytes the serializer methods **as written** (`Gen/Serializer.lean`, `Gen.Ser.w_*`) write along that history are
   `encode g`, `encode c`, `encode p` (`EndToEnd.writeAll_of_trackAll`, from `SerTie.emit_is_serializer`);
4. `decode (encode is) = some is`, so the model checker on bytes accepts them (`verifyBytes`);
5. ⇒ `verify` of `rust/src/lib.rs` **as written** (`Gen/RustExec.lean`) accepts them (`RustExecTie.verify_eq`,
   i.e. `C05.rust_verify_is_the_model`), from every initial content of its registers;
6. ⇒ (`C01.rust_verify_text_sound`) every claim is valid in every model of the axioms.

## The wire-format hypothesis

The model's bytes are natural numbers; `decode`/`encode`, `verifyBytes` and the translated Rust `verify` are total on
`List Nat`, so acceptance (`*_bytes_accepted`, `*_text_accepted`) needs **no** hypothesis on the size of the ids.
`Wire` (every number written is `< 256`: ids of metavariables/variables, key lists and their lengths, memory indices
of `load`, symbol numbers) is what makes the three streams *byte strings*, i.e. images of `List UInt8`; it is the
hypothesis of the `*_u8_accepted` variants and is kept explicit and decidable.  At the excluded point — e.g. an
axiom `φ256` — the serializer writes `[137, 256, 30]`; Python's `bytes([...])` raises `ValueError`, so the toolkit
generates no module, whereas the `Nat` model goes on and accepts (`wire_excluded_point` below).
-/
set_option linter.unusedVariables false
namespace C02
open PySt PyI Gen.PyProof ProofTie ComposeTie EndToEnd

/-- the conclusion of the end-to-end theorems: the history `calls` replays from the initial state of module `m` to
the state `s` and three instruction lists; the translated serializer methods write their encodings; the model checker
on bytes accepts these and publishes the declaration; the translated Rust `verify` accepts them -/
def BytesAccepted (n : Nat) (m : PModule) (s : PySt) (calls : List Call) (g c p : List Instr) : Prop :=
  PySt.trackAll n (PySt.init m.claimsOf) calls ([], [], []) = some (some (s, (g, c, p))) ∧
  writeAll n (PySt.init m.claimsOf) calls ([], [], []) = some (some (s, (encode g, encode c, encode p))) ∧
  verifyBytes (encode g) (encode c) (encode p)
    = some (m.gammaAxioms.map NPat.expand, m.claimsOf.reverse.map NPat.expand) ∧
  Gen.Rust.execTranslated = true ∧
  ∀ r0 : RustExec.RSt, (Gen.Rust.verify (encode g) (encode c) (encode p) r0).isSome = true

/-- **1. model run → bytes → both checkers.**  Under the hypotheses of `propositional_module_accepted` (and nothing
else): the three byte streams the translated serializer writes along the run are `encode g`, `encode c`, `encode p`;
the model `verifyBytes` accepts them and publishes the declaration; `verify` of `lib.rs` as translated accepts them. -/
theorem propositional_module_bytes_accepted (cfg : PySt.Cfg) (n : Nat) (m : PModule) (s : PySt) (calls : List Call)
    (hgam : ∀ a ∈ m.gammaAxioms, a.PF = true) (hclm : ∀ a ∈ m.claimsOf, a.PF = true)
    (hpfs : ∀ pf ∈ m.proofsOf, pf.PF = true)
    (hex : PModule.executeFull cfg n m = some (some (s, calls)))
    (hcanon : MM.CanonCalls [] calls) (hfin : s.claims = []) :
    ∃ g c p, BytesAccepted n m s calls g c p := by
  obtain ⟨g, c, p, hT, hv⟩ := propositional_module_accepted cfg n m s calls hgam hclm hpfs hex hcanon hfin
  refine ⟨g, c, p, hT, writeAll_of_trackAll_init n calls _ s g c p hT, ?_, (C05.rust_verify_is_the_model [] [] [] default).1,
    fun r0 => rust_accepts_encode g c p _ hv r0⟩
  rw [verifyBytes_encode, hv]

/-- the same for any replay of the history (`trackAll` with any fuel that suffices): the streams are unique -/
theorem propositional_module_bytes_accepted' (cfg : PySt.Cfg) (n : Nat) (m : PModule) (s : PySt) (calls : List Call)
    (hgam : ∀ a ∈ m.gammaAxioms, a.PF = true) (hclm : ∀ a ∈ m.claimsOf, a.PF = true)
    (hpfs : ∀ pf ∈ m.proofsOf, pf.PF = true)
    (hex : PModule.executeFull cfg n m = some (some (s, calls)))
    (hcanon : MM.CanonCalls [] calls) (hfin : s.claims = [])
    (n' : Nat) (s' : PySt) (g c p : List Instr)
    (hT : PySt.trackAll n' (PySt.init m.claimsOf) calls ([], [], []) = some (some (s', (g, c, p)))) :
    BytesAccepted n' m s' calls g c p := by
  obtain ⟨g0, c0, p0, hT0, _, hvb, htr, hr⟩ :=
    propositional_module_bytes_accepted cfg n m s calls hgam hclm hpfs hex hcanon hfin
  have := trackAll_fuel_irrelevant hT0 hT
  simp only [Option.some.injEq, Prod.mk.injEq] at this
  obtain ⟨rfl, rfl, rfl, rfl⟩ := this
  exact ⟨hT, writeAll_of_trackAll_init n' calls _ _ _ _ _ hT, hvb, htr, hr⟩

/-- **1 (bytes proper).**  If moreover the three streams are wire byte strings (`Wire`: every number written fits in
a byte — decidable), they are the images of three `List UInt8`, accepted by both checkers. -/
theorem propositional_module_u8_accepted (cfg : PySt.Cfg) (n : Nat) (m : PModule) (s : PySt) (calls : List Call)
    (hgam : ∀ a ∈ m.gammaAxioms, a.PF = true) (hclm : ∀ a ∈ m.claimsOf, a.PF = true)
    (hpfs : ∀ pf ∈ m.proofsOf, pf.PF = true)
    (hex : PModule.executeFull cfg n m = some (some (s, calls)))
    (hcanon : MM.CanonCalls [] calls) (hfin : s.claims = [])
    (n' : Nat) (s' : PySt) (g c p : List Instr)
    (hT : PySt.trackAll n' (PySt.init m.claimsOf) calls ([], [], []) = some (some (s', (g, c, p))))
    (hw : Wire (encode g) ∧ Wire (encode c) ∧ Wire (encode p)) :
    ∃ gb cb pb : List UInt8,
      gb.map UInt8.toNat = encode g ∧ cb.map UInt8.toNat = encode c ∧ pb.map UInt8.toNat = encode p ∧
      writeAll n' (PySt.init m.claimsOf) calls ([], [], [])
        = some (some (s', (gb.map UInt8.toNat, cb.map UInt8.toNat, pb.map UInt8.toNat))) ∧
      verifyBytes (gb.map UInt8.toNat) (cb.map UInt8.toNat) (pb.map UInt8.toNat)
        = some (m.gammaAxioms.map NPat.expand, m.claimsOf.reverse.map NPat.expand) ∧
      ∀ r0 : RustExec.RSt,
        (Gen.Rust.verify (gb.map UInt8.toNat) (cb.map UInt8.toNat) (pb.map UInt8.toNat) r0).isSome = true := by
  obtain ⟨_, hW, hvb, _, hr⟩ :=
    propositional_module_bytes_accepted' cfg n m s calls hgam hclm hpfs hex hcanon hfin n' s' g c p hT
  obtain ⟨gb, hg⟩ := wire_is_u8 _ hw.1
  obtain ⟨cb, hc⟩ := wire_is_u8 _ hw.2.1
  obtain ⟨pb, hp⟩ := wire_is_u8 _ hw.2.2
  refine ⟨gb, cb, pb, hg, hc, hp, ?_, ?_, ?_⟩
  · rw [hg, hc, hp]; exact hW
  · rw [hg, hc, hp]; exact hvb
  · rw [hg, hc, hp]; exact hr

/-- the excluded point of `Wire`: the axiom `φ256`.  The serializer model writes `[137, 256, 30]` to the gamma
file — not a byte string (Python: `bytes([137, 256, 30])` raises `ValueError`, no module is generated) — while the
`Nat` model of the checker reads it and accepts. -/
theorem wire_excluded_point :
    (PySt.trackAll 5 (PySt.init []) [.metavar 256 [] [] [] [] [], .publishAxiom, .intoClaim, .intoProof]
      ([], [], [])).map (Option.map (·.2)) = some (some ([.cleanmv 256, .publish], [], [])) ∧
    encode [.cleanmv 256, .publish] = [137, 256, 30] ∧ ¬ Wire [137, 256, 30] ∧
    (∀ us : List UInt8, us.map UInt8.toNat ≠ [137, 256, 30]) ∧
    verifyBytes [137, 256, 30] [] [] = some ([phi 256], []) := by
  refine ⟨by decide, by decide, by decide, ?_, by decide⟩
  intro us h
  have := u8_is_wire us
  rw [h] at this
  exact absurd this (by decide)

/-! ## 2. from the text side -/

theorem keysNodup_of_PF (m : PModule) (hpfs : ∀ pf ∈ m.proofsOf, pf.PF = true) :
    ∀ pf ∈ m.proofsOf, KeysNodup pf := fun pf h => Pf.PF.keysNodup pf (hpfs pf h)

/-- **2. generated text → bytes → checker text** (plain serialisation).  If `ProofExp.execute_full` as written, on the
`ProofExp` of a module of the propositional fragment (its thunks built by the rule constructors as written,
`buildAll`), running on `StatefulInterpreter` as written, returns the state `s` and the history `calls` — every claim
discharged, symbols named canonically — then for some fuel the history replays to three instruction lists whose
encodings are what the serializer as written writes, and `verify` of `lib.rs` as written accepts these bytes (as does
the model `verifyBytes`, publishing the declaration). -/
theorem propositional_module_text_accepted (N : Nat) (m : PModule)
    (thunks : List (ProofThunk ProofTie.St)) (f : PModule → List (ProofThunk ProofTie.St)) (s : PySt) (calls : List Call)
    (hgam : ∀ a ∈ m.gammaAxioms, a.PF = true) (hclm : ∀ a ∈ m.claimsOf, a.PF = true)
    (hpfs : ∀ pf ∈ m.proofsOf, pf.PF = true)
    (hb : buildAll N m.axiomsOf m.proofsOf = some (some thunks))
    (htext : ProofExp.execute_full N (expOf thunks f m) (statefulK N N) (PySt.init m.claimsOf, [])
      = some (some (s, calls)))
    (hcanon : MM.CanonCalls [] calls) (hfin : s.claims = []) :
    ∃ n g c p, BytesAccepted n m s calls g c p := by
  obtain ⟨n, hex⟩ :=
    (C03.phases_text_on_stateful_text_is_the_model N m (keysNodup_of_PF m hpfs)).2 thunks f (s, calls) hb htext
  obtain ⟨g, c, p, h⟩ := propositional_module_bytes_accepted {} n m s calls hgam hclm hpfs hex hcanon hfin
  exact ⟨n, g, c, p, h⟩

/-- **2 (memoising).**  The same through `MemoizingInterpreter(StatefulInterpreter, S)` as written — the object
`serialize(optimize=True)` builds —, for every suggestion set `S`; `τ.sub` is the state of the wrapped interpreter
and the history it received. -/
theorem propositional_module_memo_text_accepted (N : Nat) (S : List NPat) (m : PModule)
    (thunks : List (ProofThunk (TrSt ProofTie.St))) (f : PModule → List (ProofThunk (TrSt ProofTie.St)))
    (τ : TrSt ProofTie.St)
    (hgam : ∀ a ∈ m.gammaAxioms, a.PF = true) (hclm : ∀ a ∈ m.claimsOf, a.PF = true)
    (hpfs : ∀ pf ∈ m.proofsOf, pf.PF = true)
    (hb : buildAll N m.axiomsOf m.proofsOf = some (some thunks))
    (htext : ProofExp.execute_full N (expOf thunks f m) (statefulMemoK N N S) (embM (PySt.init m.claimsOf, []))
      = some (some τ))
    (hcanon : MM.CanonCalls [] τ.sub.2) (hfin : τ.sub.1.claims = []) :
    ∃ n g c p, BytesAccepted n m τ.sub.1 τ.sub.2 g c p := by
  obtain ⟨n, s, calls, hex, rfl⟩ :=
    (C03.memo_phases_text_on_stateful_text_is_the_model N S m (keysNodup_of_PF m hpfs)).1.2 thunks f τ hb htext
  obtain ⟨g, c, p, h⟩ :=
    propositional_module_bytes_accepted { memo := some S } n m s calls hgam hclm hpfs hex hcanon hfin
  exact ⟨n, g, c, p, h⟩

/-- **2 (bytes proper).**  Any replay of the history the text returned gives the same three streams; if they are
wire byte strings they are three `List UInt8` which the serializer as written writes and `verify` of `lib.rs` as
written accepts. -/
theorem propositional_module_text_u8_accepted (N : Nat) (m : PModule)
    (thunks : List (ProofThunk ProofTie.St)) (f : PModule → List (ProofThunk ProofTie.St)) (s : PySt) (calls : List Call)
    (hgam : ∀ a ∈ m.gammaAxioms, a.PF = true) (hclm : ∀ a ∈ m.claimsOf, a.PF = true)
    (hpfs : ∀ pf ∈ m.proofsOf, pf.PF = true)
    (hb : buildAll N m.axiomsOf m.proofsOf = some (some thunks))
    (htext : ProofExp.execute_full N (expOf thunks f m) (statefulK N N) (PySt.init m.claimsOf, [])
      = some (some (s, calls)))
    (hcanon : MM.CanonCalls [] calls) (hfin : s.claims = [])
    (n' : Nat) (s' : PySt) (g c p : List Instr)
    (hT : PySt.trackAll n' (PySt.init m.claimsOf) calls ([], [], []) = some (some (s', (g, c, p))))
    (hw : Wire (encode g) ∧ Wire (encode c) ∧ Wire (encode p)) :
    ∃ gb cb pb : List UInt8,
      gb.map UInt8.toNat = encode g ∧ cb.map UInt8.toNat = encode c ∧ pb.map UInt8.toNat = encode p ∧
      writeAll n' (PySt.init m.claimsOf) calls ([], [], [])
        = some (some (s', (gb.map UInt8.toNat, cb.map UInt8.toNat, pb.map UInt8.toNat))) ∧
      verifyBytes (gb.map UInt8.toNat) (cb.map UInt8.toNat) (pb.map UInt8.toNat)
        = some (m.gammaAxioms.map NPat.expand, m.claimsOf.reverse.map NPat.expand) ∧
      ∀ r0 : RustExec.RSt,
        (Gen.Rust.verify (gb.map UInt8.toNat) (cb.map UInt8.toNat) (pb.map UInt8.toNat) r0).isSome = true := by
  obtain ⟨n, hex⟩ :=
    (C03.phases_text_on_stateful_text_is_the_model N m (keysNodup_of_PF m hpfs)).2 thunks f (s, calls) hb htext
  exact propositional_module_u8_accepted {} n m s calls hgam hclm hpfs hex hcanon hfin n' s' g c p hT hw

/-- the memoising variant of `propositional_module_text_u8_accepted` -/
theorem propositional_module_memo_text_u8_accepted (N : Nat) (S : List NPat) (m : PModule)
    (thunks : List (ProofThunk (TrSt ProofTie.St))) (f : PModule → List (ProofThunk (TrSt ProofTie.St)))
    (τ : TrSt ProofTie.St)
    (hgam : ∀ a ∈ m.gammaAxioms, a.PF = true) (hclm : ∀ a ∈ m.claimsOf, a.PF = true)
    (hpfs : ∀ pf ∈ m.proofsOf, pf.PF = true)
    (hb : buildAll N m.axiomsOf m.proofsOf = some (some thunks))
    (htext : ProofExp.execute_full N (expOf thunks f m) (statefulMemoK N N S) (embM (PySt.init m.claimsOf, []))
      = some (some τ))
    (hcanon : MM.CanonCalls [] τ.sub.2) (hfin : τ.sub.1.claims = [])
    (n' : Nat) (s' : PySt) (g c p : List Instr)
    (hT : PySt.trackAll n' (PySt.init m.claimsOf) τ.sub.2 ([], [], []) = some (some (s', (g, c, p))))
    (hw : Wire (encode g) ∧ Wire (encode c) ∧ Wire (encode p)) :
    ∃ gb cb pb : List UInt8,
      gb.map UInt8.toNat = encode g ∧ cb.map UInt8.toNat = encode c ∧ pb.map UInt8.toNat = encode p ∧
      writeAll n' (PySt.init m.claimsOf) τ.sub.2 ([], [], [])
        = some (some (s', (gb.map UInt8.toNat, cb.map UInt8.toNat, pb.map UInt8.toNat))) ∧
      verifyBytes (gb.map UInt8.toNat) (cb.map UInt8.toNat) (pb.map UInt8.toNat)
        = some (m.gammaAxioms.map NPat.expand, m.claimsOf.reverse.map NPat.expand) ∧
      ∀ r0 : RustExec.RSt,
        (Gen.Rust.verify (gb.map UInt8.toNat) (cb.map UInt8.toNat) (pb.map UInt8.toNat) r0).isSome = true := by
  obtain ⟨n, s, calls, hex, rfl⟩ :=
    (C03.memo_phases_text_on_stateful_text_is_the_model N S m (keysNodup_of_PF m hpfs)).1.2 thunks f τ hb htext
  exact propositional_module_u8_accepted { memo := some S } n m s calls hgam hclm hpfs hex hcanon hfin n' s' g c p hT hw

/-! ## 3. soundness, through the checker as written -/

/-- what acceptance by the Rust text gives, with `C01.rust_verify_text_sound`: the claims of the declaration are valid
in every model of its axioms -/
theorem sound_of_bytesAccepted {n : Nat} {m : PModule} {s : PySt} {calls : List Call} {g c p : List Instr}
    (h : BytesAccepted n m s calls g c p) (𝔐 : Model) (hΓ : ∀ a ∈ m.gammaAxioms, ValidM 𝔐 a.expand) :
    ∀ q ∈ m.claimsOf, ValidM 𝔐 q.expand := by
  obtain ⟨_, _, hvb, _, hr⟩ := h
  obtain ⟨_, axs, cls, hv, hsound⟩ := C01.rust_verify_text_sound (encode g) (encode c) (encode p) default (hr default)
  rw [hvb] at hv
  simp only [Option.some.injEq, Prod.mk.injEq] at hv
  obtain ⟨rfl, rfl⟩ := hv
  intro q hq
  apply hsound 𝔐
  · intro a ha
    simp only [List.mem_map] at ha
    obtain ⟨a0, h0, rfl⟩ := ha
    exact hΓ a0 h0
  · simp only [List.mem_map, List.mem_reverse]
    exact ⟨q, hq, rfl⟩

/-- **3. generated text ⇒ validity**, through the bytes and `verify` of `lib.rs` as written: every claim of a module
of the propositional fragment on which `execute_full` as written returns (every claim discharged) is valid in every
model of the module's axioms (imported modules' axioms included). -/
theorem propositional_module_text_sound (N : Nat) (m : PModule)
    (thunks : List (ProofThunk ProofTie.St)) (f : PModule → List (ProofThunk ProofTie.St)) (s : PySt) (calls : List Call)
    (hgam : ∀ a ∈ m.gammaAxioms, a.PF = true) (hclm : ∀ a ∈ m.claimsOf, a.PF = true)
    (hpfs : ∀ pf ∈ m.proofsOf, pf.PF = true)
    (hb : buildAll N m.axiomsOf m.proofsOf = some (some thunks))
    (htext : ProofExp.execute_full N (expOf thunks f m) (statefulK N N) (PySt.init m.claimsOf, [])
      = some (some (s, calls)))
    (hcanon : MM.CanonCalls [] calls) (hfin : s.claims = [])
    (𝔐 : Model) (hΓ : ∀ a ∈ m.gammaAxioms, ValidM 𝔐 a.expand) :
    ∀ q ∈ m.claimsOf, ValidM 𝔐 q.expand := by
  obtain ⟨n, g, c, p, h⟩ :=
    propositional_module_text_accepted N m thunks f s calls hgam hclm hpfs hb htext hcanon hfin
  exact sound_of_bytesAccepted h 𝔐 hΓ

/-- the memoising variant -/
theorem propositional_module_memo_text_sound (N : Nat) (S : List NPat) (m : PModule)
    (thunks : List (ProofThunk (TrSt ProofTie.St))) (f : PModule → List (ProofThunk (TrSt ProofTie.St)))
    (τ : TrSt ProofTie.St)
    (hgam : ∀ a ∈ m.gammaAxioms, a.PF = true) (hclm : ∀ a ∈ m.claimsOf, a.PF = true)
    (hpfs : ∀ pf ∈ m.proofsOf, pf.PF = true)
    (hb : buildAll N m.axiomsOf m.proofsOf = some (some thunks))
    (htext : ProofExp.execute_full N (expOf thunks f m) (statefulMemoK N N S) (embM (PySt.init m.claimsOf, []))
      = some (some τ))
    (hcanon : MM.CanonCalls [] τ.sub.2) (hfin : τ.sub.1.claims = [])
    (𝔐 : Model) (hΓ : ∀ a ∈ m.gammaAxioms, ValidM 𝔐 a.expand) :
    ∀ q ∈ m.claimsOf, ValidM 𝔐 q.expand := by
  obtain ⟨n, g, c, p, h⟩ :=
    propositional_module_memo_text_accepted N S m thunks f τ hgam hclm hpfs hb htext hcanon hfin
  exact sound_of_bytesAccepted h 𝔐 hΓ

/-! ## 4. non-vacuity: `PFExample.mod` (axiom `s0 → s1 → ⊥`; claims `φ0 → φ0` by `imp_refl` of `propositional.py`, and
the axiom by `load_axiom`) satisfies every hypothesis, on the text side -/

namespace EndToEndExample
open PFExample

/-- the translated `execute_full` on the translated `StatefulInterpreter` returns for `mod` (fuel 40), with every
claim discharged, canonical symbol names and wire byte streams -/
theorem mod_text : textCheck 40 mod = true := by decide +kernel

/-- … and through the translated `MemoizingInterpreter` (empty suggestion set: `NPat.seq` is defined by well-founded
recursion, so the kernel cannot evaluate a run that consults a non-empty one) -/
theorem mod_text_memo : textCheckM 40 [] mod = true := by decide +kernel

/-- all hypotheses of `propositional_module_text_accepted` and of `propositional_module_text_u8_accepted` hold for
`mod`: three `List UInt8`, written by the serializer as written, accepted by `verify` of `lib.rs` as written -/
theorem mod_accepted :
    ∃ (n : Nat) (s : PySt) (calls : List Call) (gb cb pb : List UInt8),
      writeAll n (PySt.init mod.claimsOf) calls ([], [], [])
        = some (some (s, (gb.map UInt8.toNat, cb.map UInt8.toNat, pb.map UInt8.toNat))) ∧
      verifyBytes (gb.map UInt8.toNat) (cb.map UInt8.toNat) (pb.map UInt8.toNat)
        = some (mod.gammaAxioms.map NPat.expand, mod.claimsOf.reverse.map NPat.expand) ∧
      ∀ r0 : RustExec.RSt,
        (Gen.Rust.verify (gb.map UInt8.toNat) (cb.map UInt8.toNat) (pb.map UInt8.toNat) r0).isSome = true := by
  obtain ⟨thunks, s, calls, hb, hx, hcanon, hfin, hwc⟩ := textCheck_sound mod_text
  obtain ⟨n, g, c, p, hacc⟩ :=
    propositional_module_text_accepted 40 mod thunks _ s calls mod_gamma mod_claims mod_proofs hb hx hcanon hfin
  obtain ⟨gb, cb, pb, _, _, _, hW, hv, hr⟩ :=
    propositional_module_text_u8_accepted 40 mod thunks _ s calls mod_gamma mod_claims mod_proofs hb hx hcanon hfin
      n s g c p hacc.1 (wireCheck_sound hwc hacc.1)
  exact ⟨n, s, calls, gb, cb, pb, hW, hv, hr⟩

/-- the same through the memoising interpreter -/
theorem mod_accepted_memo :
    ∃ (n : Nat) (s : PySt) (calls : List Call) (gb cb pb : List UInt8),
      writeAll n (PySt.init mod.claimsOf) calls ([], [], [])
        = some (some (s, (gb.map UInt8.toNat, cb.map UInt8.toNat, pb.map UInt8.toNat))) ∧
      verifyBytes (gb.map UInt8.toNat) (cb.map UInt8.toNat) (pb.map UInt8.toNat)
        = some (mod.gammaAxioms.map NPat.expand, mod.claimsOf.reverse.map NPat.expand) ∧
      ∀ r0 : RustExec.RSt,
        (Gen.Rust.verify (gb.map UInt8.toNat) (cb.map UInt8.toNat) (pb.map UInt8.toNat) r0).isSome = true := by
  obtain ⟨thunks, τ, hb, hx, hcanon, hfin, hwc⟩ := textCheckM_sound mod_text_memo
  obtain ⟨n, g, c, p, hacc⟩ :=
    propositional_module_memo_text_accepted 40 [] mod thunks _ τ mod_gamma mod_claims mod_proofs hb hx hcanon hfin
  obtain ⟨gb, cb, pb, _, _, _, hW, hv, hr⟩ :=
    propositional_module_memo_text_u8_accepted 40 [] mod thunks _ τ mod_gamma mod_claims mod_proofs hb hx hcanon hfin
      n τ.sub.1 g c p hacc.1 (wireCheck_sound hwc hacc.1)
  exact ⟨n, τ.sub.1, τ.sub.2, gb, cb, pb, hW, hv, hr⟩

/-- and, through the text, the bytes and the Rust text: `φ0 → φ0` is valid in every model of the axiom -/
theorem mod_sound (𝔐 : Model) (hΓ : ValidM 𝔐 ax.expand) : ValidM 𝔐 (NPat.imp (phiN 0) (phiN 0)).expand := by
  obtain ⟨thunks, s, calls, hb, hx, hcanon, hfin, _⟩ := textCheck_sound mod_text
  exact propositional_module_text_sound 40 mod thunks _ s calls mod_gamma mod_claims mod_proofs hb hx hcanon hfin 𝔐
    (by intro a ha; simp [mod, PModule.gammaAxioms, PModule.gammaAxioms.gammaList] at ha; subst ha; exact hΓ)
    _ (by simp [mod, PModule.claimsOf])

/-- the concrete bytes of the plain serialisation of `mod` (model run at fuel 40): what the files contain -/
theorem mod_bytes :
    (PModule.executeFull {} 40 mod).bind (fun o => o.bind fun sc =>
      (writeAll 40 (PySt.init mod.claimsOf) sc.2 ([], [], [])).bind fun o => o.map (·.2)) =
    some ([4, 0, 4, 1, 3, 0, 7, 0, 26, 0, 5, 5, 30],
          [4, 0, 4, 1, 3, 0, 7, 0, 26, 0, 5, 5, 30, 137, 0, 137, 0, 5, 30],
          [137, 0, 137, 0, 5, 137, 0, 13, 26, 2, 2, 1, 137, 0, 137, 0, 5, 12, 26, 1, 1, 21, 137, 0, 12, 26, 1, 1, 21,
           30, 29, 0, 30]) := by
  decide +kernel

end EndToEndExample

end C02

#print axioms C02.propositional_module_bytes_accepted
#print axioms C02.propositional_module_bytes_accepted'
#print axioms C02.propositional_module_u8_accepted
#print axioms C02.wire_excluded_point
#print axioms C02.propositional_module_text_accepted
#print axioms C02.propositional_module_memo_text_accepted
#print axioms C02.propositional_module_text_u8_accepted
#print axioms C02.propositional_module_memo_text_u8_accepted
#print axioms C02.propositional_module_text_sound
#print axioms C02.propositional_module_memo_text_sound
#print axioms C02.EndToEndExample.mod_text
#print axioms C02.EndToEndExample.mod_text_memo
#print axioms C02.EndToEndExample.mod_accepted
#print axioms C02.EndToEndExample.mod_accepted_memo
#print axioms C02.EndToEndExample.mod_sound
#print axioms C02.EndToEndExample.mod_bytes
