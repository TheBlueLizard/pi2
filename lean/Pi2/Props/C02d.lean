import Pi2.ModuleMOKConv
import Pi2.KoreModule
import Pi2.Props.C01
import Pi2.Props.C02c
import Pi2.Props.C05
import Pi2.KModMemoEx
/-!
# C02 at full strength on a DECIDABLE class of modules: the side conditions are a Boolean function of the module text

`PModule.MOK m` (`Pi2/ModuleMOK.lean`) is evaluated on the text of a module, before anything runs:

* every declared axiom (imports included) and every claim is shaped (`NPat.Shape`: metavariables carry no e-fresh /
  s-fresh list, substitution nodes are meta-headed) and machine-OK (`NPat.MOK`: positivity under `mu` — positivity and
  negativity constraints of metavariables included —, well-formed metavariables, non-redundant meta-headed `esub` /
  `ssub`, notation nodes whose `Instantiate` the machine accepts, distinct keys);
* there is one proof per claim;
* every proof expression is `Pf.MOK`: the plugs of every `dynInst` are shaped, machine-OK, with distinct keys; loaded
  axioms are shaped and declared; and `Pf.concM` — the conclusion computed with the MACHINE's rules on expansions — is
  defined: `mp` premises match, `gen` is fresh by `Pat.eFresh`, and `Pat.inst` (constraint checks `eFresh / sFresh /
  pos / ng` on the plugs, capture checks of `apply_esubst / apply_ssubst`) accepts every instantiation.

All proof forms of `Pf` are covered (`prop1-3`, `quantifier`, `mp`, `gen`, `dynInst`, `loadAxiom`), nested at will.

`generated_module_accepted_mok`: `m.MOK = true` and `execute_full` (plain serialisation) returns ⇒ every claim is
discharged, every call satisfies the machine's side conditions (`KMod.AllSideK`, DERIVED), the history replays to three
instruction lists, and the checker accepts them and publishes the declaration — imports first, claims reversed — with
every symbol named by its position in the serializer's table (`ρ`; no canonical-names hypothesis).  Then bytes, the
translated Rust `verify`, and soundness.

Converse: `mok_iff_side_conditions` (on shaped machine-OK axioms/claims and a run that returns, `MOK` IS the side
conditions — nothing is lost by the syntactic checks on `mp`, `gen`, `loadAxiom`), and one module per open-finding class
with `MOK = false` that the toolkit model accepts and the machine rejects.

What is NOT covered (stated, not hidden): (1) patterns with e-fresh / s-fresh metavariable lists (`Shape` fails): there
the tracker's lazy notation (`Instantiate.instantiate` composes maps) and the machine's eager substitution can reach
DIFFERENT patterns (KF-C12-constraints), so `==` on the tracker no longer tells what the machine holds; this is why the
K modules of C20b (whose imported `func_subst_axiom` has `phi0{e_fresh x0}`) are not an instance
(`k_import_not_shaped`) and keep their own theorem; (2) the memoising serialisation.
-/
set_option linter.unusedVariables false
namespace C02
open PySt EndToEnd KMod

/-! ## 2. acceptance -/

/-- **C02 on machine-OK modules**, for every naming `ρ` that agrees with the final symbol table -/
theorem generated_module_accepted_mok (n : Nat) (m : PModule) (s : PySt) (calls : List Call)
    (hmok : m.MOK = true) (hex : PModule.executeFull {} n m = some (some (s, calls)))
    (ρ : Nat → Nat) (hag : Agree ρ s.symtab) :
    s.claims = [] ∧ AllSideK n (PySt.init m.claimsOf) calls ∧
    ∃ g c p, PySt.trackAll n (PySt.init m.claimsOf) calls ([], [], []) = some (some (s, (g, c, p))) ∧
      verify g c p = some (m.gammaAxioms.map (fun a => Pat.ren ρ a.expand),
        m.claimsOf.reverse.map (fun a => Pat.ren ρ a.expand)) := by
  obtain ⟨hgam, hclm, hpfs, hlen⟩ := PModule.MOK.spec hmok
  exact module_acceptedM m s calls hgam hclm (fun pf hpf => Pf.MOK.pfOK (hpfs pf hpf)) hlen hex ρ hag

/-- the naming the serializer uses: position in its symbol table -/
theorem generated_module_accepted_mok_idx (n : Nat) (m : PModule) (s : PySt) (calls : List Call)
    (hmok : m.MOK = true) (hex : PModule.executeFull {} n m = some (some (s, calls))) :
    s.claims = [] ∧
    ∃ g c p, PySt.trackAll n (PySt.init m.claimsOf) calls ([], [], []) = some (some (s, (g, c, p))) ∧
      verify g c p = some (m.gammaAxioms.map (fun a => Pat.ren (fun nm => s.symtab.idxOf nm) a.expand),
        m.claimsOf.reverse.map (fun a => Pat.ren (fun nm => s.symtab.idxOf nm) a.expand)) := by
  obtain ⟨h1, _, h3⟩ := generated_module_accepted_mok n m s calls hmok hex _ (agree_idxOf _)
  exact ⟨h1, h3⟩

/-- the side conditions `AllSideM` of `generated_module_accepted_partial` are derived (in the form `AllSideK`: the
machine's checks hold, no publish residue is touched, keys are distinct) -/
theorem generated_module_side_mok (n : Nat) (m : PModule) (s : PySt) (calls : List Call)
    (hmok : m.MOK = true) (hex : PModule.executeFull {} n m = some (some (s, calls))) :
    AllSideK n (PySt.init m.claimsOf) calls :=
  (generated_module_accepted_mok n m s calls hmok hex _ (agree_idxOf _)).2.1

/-- the same under the side conditions as propositions (`KMod.PfOK`: patterns in order, the machine accepts every
instantiation of the documented conclusions) instead of the Boolean `Pf.MOK` -/
theorem generated_module_accepted_sideconds (n : Nat) (m : PModule) (s : PySt) (calls : List Call)
    (hgam : ∀ a ∈ m.gammaAxioms, a.SM = true) (hclm : ∀ a ∈ m.claimsOf, a.SM = true)
    (hpfs : ∀ pf ∈ m.proofsOf, PfOK pf) (hlen : m.claimsOf.length = m.proofsOf.length)
    (hex : PModule.executeFull {} n m = some (some (s, calls)))
    (ρ : Nat → Nat) (hag : Agree ρ s.symtab) :
    s.claims = [] ∧ AllSideK n (PySt.init m.claimsOf) calls ∧
    ∃ g c p, PySt.trackAll n (PySt.init m.claimsOf) calls ([], [], []) = some (some (s, (g, c, p))) ∧
      verify g c p = some (m.gammaAxioms.map (fun a => Pat.ren ρ a.expand),
        m.claimsOf.reverse.map (fun a => Pat.ren ρ a.expand)) :=
  module_acceptedM m s calls hgam hclm hpfs hlen hex ρ hag

/-- **bytes.** the bytes the translated serializer writes along the run are the encodings of the three instruction
lists; `verifyBytes` accepts them and publishes the declaration; `verify` of `rust/src/lib.rs` as translated accepts
them from every initial content of its registers -/
theorem generated_module_bytes_accepted_mok (n : Nat) (m : PModule) (s : PySt) (calls : List Call)
    (hmok : m.MOK = true) (hex : PModule.executeFull {} n m = some (some (s, calls))) :
    ∃ g c p, PySt.trackAll n (PySt.init m.claimsOf) calls ([], [], []) = some (some (s, (g, c, p))) ∧
      writeAll n (PySt.init m.claimsOf) calls ([], [], []) = some (some (s, (encode g, encode c, encode p))) ∧
      verifyBytes (encode g) (encode c) (encode p)
        = some (m.gammaAxioms.map (fun a => Pat.ren (fun nm => s.symtab.idxOf nm) a.expand),
            m.claimsOf.reverse.map (fun a => Pat.ren (fun nm => s.symtab.idxOf nm) a.expand)) ∧
      Gen.Rust.execTranslated = true ∧
      ∀ r0 : RustExec.RSt, (Gen.Rust.verify (encode g) (encode c) (encode p) r0).isSome = true := by
  obtain ⟨_, g, c, p, hT, hv⟩ := generated_module_accepted_mok_idx n m s calls hmok hex
  refine ⟨g, c, p, hT, writeAll_of_trackAll_init n calls _ s g c p hT, ?_,
    (C05.rust_verify_is_the_model [] [] [] default).1, fun r0 => rust_accepts_encode g c p _ hv r0⟩
  rw [verifyBytes_encode, hv]

/-- **bytes proper**: if the three streams are wire byte strings (`wireCheck`, decidable) they are the images of three
`List UInt8`, accepted by both checkers -/
theorem generated_module_u8_accepted_mok (n : Nat) (m : PModule) (s : PySt) (calls : List Call)
    (hmok : m.MOK = true) (hex : PModule.executeFull {} n m = some (some (s, calls)))
    (hw : wireCheck n m.claimsOf calls = true) :
    ∃ gb cb pb : List UInt8,
      writeAll n (PySt.init m.claimsOf) calls ([], [], [])
        = some (some (s, (gb.map UInt8.toNat, cb.map UInt8.toNat, pb.map UInt8.toNat))) ∧
      verifyBytes (gb.map UInt8.toNat) (cb.map UInt8.toNat) (pb.map UInt8.toNat)
        = some (m.gammaAxioms.map (fun a => Pat.ren (fun nm => s.symtab.idxOf nm) a.expand),
            m.claimsOf.reverse.map (fun a => Pat.ren (fun nm => s.symtab.idxOf nm) a.expand)) ∧
      ∀ r0 : RustExec.RSt,
        (Gen.Rust.verify (gb.map UInt8.toNat) (cb.map UInt8.toNat) (pb.map UInt8.toNat) r0).isSome = true := by
  obtain ⟨g, c, p, hT, hW, hvb, _, hr⟩ := generated_module_bytes_accepted_mok n m s calls hmok hex
  obtain ⟨w1, w2, w3⟩ := wireCheck_sound hw hT
  obtain ⟨gb, hg⟩ := wire_is_u8 _ w1
  obtain ⟨cb, hc⟩ := wire_is_u8 _ w2
  obtain ⟨pb, hp⟩ := wire_is_u8 _ w3
  refine ⟨gb, cb, pb, ?_, ?_, ?_⟩
  · rw [hg, hc, hp]; exact hW
  · rw [hg, hc, hp]; exact hvb
  · rw [hg, hc, hp]; exact hr

/-- **soundness** (through the checker as written, `C01.rust_verify_text_sound`): every claim of a machine-OK module
whose `execute_full` run returns holds in every model of its declared axioms (the naming of the symbols is undone by an
injective choice of `ρ`) -/
theorem generated_module_sound_mok (n : Nat) (m : PModule) (s : PySt) (calls : List Call)
    (hmok : m.MOK = true) (hex : PModule.executeFull {} n m = some (some (s, calls)))
    (𝔐 : Model) (hΓ : ∀ a ∈ m.gammaAxioms, ValidM 𝔐 a.expand) :
    ∀ q ∈ m.claimsOf, ValidM 𝔐 q.expand := by
  obtain ⟨_, _, g, c, p, _, hv⟩ :=
    generated_module_accepted_mok n m s calls hmok hex (rhoInj s.symtab) (rhoInj_agree _)
  have hr := rust_accepts_encode g c p _ hv default
  obtain ⟨_, axs, cls, hvb, hsound⟩ := C01.rust_verify_text_sound _ _ _ default hr
  rw [verifyBytes_encode, hv] at hvb
  simp only [Option.some.injEq, Prod.mk.injEq] at hvb
  obtain ⟨rfl, rfl⟩ := hvb
  intro q hq
  rw [← validM_rhoInj 𝔐 s.symtab]
  apply hsound ⟨𝔐.M, fun t => 𝔐.sym (rhoInv s.symtab t), 𝔐.app⟩
  · intro a ha
    simp only [List.mem_map] at ha
    obtain ⟨a0, h0, rfl⟩ := ha
    exact (validM_rhoInj 𝔐 s.symtab _).mpr (hΓ a0 h0)
  · simp only [List.mem_map, List.mem_reverse]
    exact ⟨q, hq, rfl⟩

/-! ## 3. the converse -/

/-- on a module with shaped machine-OK axioms and claims whose run returns with no claim left, `PModule.MOK` holds
EXACTLY when every proof satisfies the side conditions: the syntactic predicate loses nothing -/
theorem mok_iff_side_conditions (n : Nat) (m : PModule) (s : PySt) (calls : List Call)
    (hgam : ∀ a ∈ m.gammaAxioms, a.SM = true) (hclm : ∀ a ∈ m.claimsOf, a.SM = true)
    (hex : PModule.executeFull {} n m = some (some (s, calls))) (hfin : s.claims = []) :
    m.MOK = true ↔ ∀ pf ∈ m.proofsOf, PfOK pf := by
  constructor
  · intro h pf hpf
    exact Pf.MOK.pfOK ((PModule.MOK.spec h).2.2.1 pf hpf)
  · intro h
    exact module_mok_of_run m s calls hgam hclm h hfin hex

/-- `concM` is the documented conclusion (`Pf.Sem`) whenever it is defined … -/
theorem concM_is_documented (pf : Pf) (C : Pat) (h : Pf.concM pf = some C) (hp : pf.patsOK = true) : Pf.Sem pf C :=
  (concM_sem pf C h hp).1

/-- … and it is defined on every expression that runs under the side conditions -/
theorem run_certifies_mok (k : Nat) (ax : List NPat) (pf : Pf) (s s1 : PySt) (acc a1 : List Call) (c : NPat)
    (hax : ∀ x ∈ ax, x.Shape = true) (hpf : PfOK pf)
    (h : Pf.runF {} ax k s pf acc = some (some (s1, a1, c))) : Pf.MOK ax pf = true ∧ Pf.concM pf = some c.expand := by
  refine ⟨mok_of_run hax hpf h, ?_⟩
  obtain ⟨_, _, hS, _⟩ := runC (Nat.le_refl k) ax h hpf.1 hpf.2
  exact concM_of_sem hS hpf.1 hpf.2

/-- does the model machine reject the serialisation of a module the toolkit model accepts? -/
def rejected (N : Nat) (m : PModule) : Bool :=
  match PModule.executeFull {} N m with
  | some (some (_, calls)) =>
    match PySt.trackAll N (PySt.init m.claimsOf) calls ([], [], []) with
    | some (some (_, (g, c, p))) => (verify g c p).isNone
    | _ => false
  | _ => false

theorem rejected_spec {N : Nat} {m : PModule} (h : rejected N m = true) :
    ∃ s calls s' g c p, PModule.executeFull {} N m = some (some (s, calls)) ∧
      PySt.trackAll N (PySt.init m.claimsOf) calls ([], [], []) = some (some (s', (g, c, p))) ∧
      verify g c p = none := by
  unfold rejected at h
  split at h
  · next s calls hex =>
    split at h
    · next s' g c p hT => exact ⟨s, calls, s', g, c, p, hex, hT, by simpa using h⟩
    · cases h
  · cases h

/-! ### one witness per open-finding class: `MOK = false`, the toolkit model accepts, the machine rejects -/
namespace Witness

/-- muNotPositive: the axiom `μX0.(X0 → ⊥)` -/
def muMod : PModule := .mk [.mu 0 (.imp (.svar 0) botN)] [] [] []

/-- constraint: the axiom `phi0{positive X0}` instantiated with `X0 → ⊥` (negative in `X0`) -/
def posMv : NPat := .mv 0 [] [] [0] [] []
def negPlug : NPat := .imp (.svar 0) botN
def conMod : PModule := .mk [posMv] [negPlug] [.dynInst (.loadAxiom posMv) [(0, negPlug)]] []

/-- capture: `Quantifier` instantiated with `phi0 := ∃x1.x0`; the pending `[x1/x0]` captures `x1` -/
def capMod : PModule :=
  .mk [] [.imp (.ex 1 (.evar 1)) (.ex 0 (.ex 1 (.evar 0)))] [.dynInst .quantifier [(0, .ex 1 (.evar 0))]] []

/-- redundantSubst: the axiom `phi0[x0/x0]`, and `phi0{s_fresh X1}[σ3/X1]` -/
def redMod : PModule := .mk [.esub (phiN 0) 0 (.evar 0)] [] [] []
def redMod2 : PModule := .mk [.ssub (.mv 0 [] [1] [] [] []) 1 (.sym 3)] [] [] []

/-- mvWF: the axiom `phi0{e_fresh x0, app_ctx_holes x0}` -/
def wfMod : PModule := .mk [.mv 0 [0] [] [] [] [0]] [] [] []

/-- substWF: the axiom `σ0[x1/x0]` (head of the substitution is a symbol) -/
def swfMod : PModule := .mk [.esub (.sym 0) 0 (.evar 1)] [] [] []

theorem muNotPositive : muMod.MOK = false ∧ rejected 40 muMod = true := by decide +kernel
theorem constraint : conMod.MOK = false ∧ rejected 40 conMod = true := by decide +kernel
theorem capture : capMod.MOK = false ∧ rejected 40 capMod = true := by decide +kernel
theorem redundantSubst : redMod.MOK = false ∧ rejected 40 redMod = true ∧
    redMod2.MOK = false ∧ rejected 40 redMod2 = true := by decide +kernel
theorem mvWF : wfMod.MOK = false ∧ rejected 40 wfMod = true := by decide +kernel

/-- substWF cannot be a successful run of the MODEL of the toolkit: the model's tracker follows the declared API type
`pattern: MetaVar | ESubst | SSubst` of `esubst` (DESIGN.md C04: the harness refuses ill-typed calls), so the run raises;
the instructions the serializer would have written are rejected by the machine -/
theorem substWF : swfMod.MOK = false ∧ PModule.executeFull {} 40 swfMod = some none ∧
    run .gamma ⟨[], [], []⟩ [.evar 1, .sym 0, .esubst 0] = none := by
  have h : swfMod.MOK = false ∧ (PModule.executeFull {} 40 swfMod).map Option.isNone = some true ∧
      (run .gamma ⟨[], [], []⟩ [.evar 1, .sym 0, .esubst 0]).isNone = true := by decide +kernel
  refine ⟨h.1, ?_, by simpa using h.2.2⟩
  have h2 := h.2.1
  cases hx : PModule.executeFull {} 40 swfMod with
  | none => rw [hx] at h2; simp at h2
  | some o =>
    cases o with
    | none => rfl
    | some r => rw [hx] at h2; simp at h2

end Witness

/-- **3. the converse on the open-finding classes**: for each class a module with `PModule.MOK = false` whose
`execute_full` run returns and whose serialisation the machine rejects -/
theorem findings_outside_mok :
    ∀ m ∈ [Witness.muMod, Witness.conMod, Witness.capMod, Witness.redMod, Witness.redMod2, Witness.wfMod],
      m.MOK = false ∧ ∃ s calls s' g c p, PModule.executeFull {} 40 m = some (some (s, calls)) ∧
        PySt.trackAll 40 (PySt.init m.claimsOf) calls ([], [], []) = some (some (s', (g, c, p))) ∧
        verify g c p = none := by
  intro m hm
  simp only [List.mem_cons, List.not_mem_nil, or_false] at hm
  rcases hm with rfl | rfl | rfl | rfl | rfl | rfl
  · exact ⟨Witness.muNotPositive.1, rejected_spec Witness.muNotPositive.2⟩
  · exact ⟨Witness.constraint.1, rejected_spec Witness.constraint.2⟩
  · exact ⟨Witness.capture.1, rejected_spec Witness.capture.2⟩
  · exact ⟨Witness.redundantSubst.1, rejected_spec Witness.redundantSubst.2.1⟩
  · exact ⟨Witness.redundantSubst.2.2.1, rejected_spec Witness.redundantSubst.2.2.2⟩
  · exact ⟨Witness.mvWF.1, rejected_spec Witness.mvWF.2⟩

/-! ## 4. corollaries -/

/-- **propositional ⊆ MOK**, on patterns … -/
theorem propositional_pattern_mok (p : NPat) (h : p.PF = true) : p.SM = true := by
  simp [NPat.SM, NPat.PF.shape p h, KMod.PF.mok p h]

/-- … on proof expressions (as side conditions; `Pf.PF` does not check that `mp` premises match, the run does) … -/
theorem propositional_proof_sideconds (pf : Pf) (h : pf.PF = true) : PfOK pf := (Pf.PF.pfOK pf h).1

/-- … and on modules that run: a module of the propositional fragment whose `execute_full` run returns with no claim
left is machine-OK -/
theorem propositional_module_mok (n : Nat) (m : PModule) (s : PySt) (calls : List Call)
    (hgam : ∀ a ∈ m.gammaAxioms, a.PF = true) (hclm : ∀ a ∈ m.claimsOf, a.PF = true)
    (hpfs : ∀ pf ∈ m.proofsOf, pf.PF = true)
    (hex : PModule.executeFull {} n m = some (some (s, calls))) (hfin : s.claims = []) : m.MOK = true :=
  module_mok_of_run m s calls (fun a ha => propositional_pattern_mok a (hgam a ha))
    (fun a ha => propositional_pattern_mok a (hclm a ha))
    (fun pf hpf => propositional_proof_sideconds pf (hpfs pf hpf)) hfin hex

/-- `C02.propositional_module_accepted` (plain serialisation) re-derived WITHOUT the canonical-names hypothesis
`CanonCalls`: the journal is the declaration with every symbol named by its position in the serializer's table -/
theorem propositional_module_accepted_rho (n : Nat) (m : PModule) (s : PySt) (calls : List Call)
    (hgam : ∀ a ∈ m.gammaAxioms, a.PF = true) (hclm : ∀ a ∈ m.claimsOf, a.PF = true)
    (hpfs : ∀ pf ∈ m.proofsOf, pf.PF = true)
    (hex : PModule.executeFull {} n m = some (some (s, calls))) (hfin : s.claims = [])
    (ρ : Nat → Nat) (hag : Agree ρ s.symtab) :
    ∃ g c p, PySt.trackAll n (PySt.init m.claimsOf) calls ([], [], []) = some (some (s, (g, c, p))) ∧
      verify g c p = some (m.gammaAxioms.map (fun a => Pat.ren ρ a.expand),
        m.claimsOf.reverse.map (fun a => Pat.ren ρ a.expand)) :=
  (generated_module_accepted_mok n m s calls (propositional_module_mok n m s calls hgam hclm hpfs hex hfin) hex ρ
    hag).2.2

/-- … and its soundness corollary, without `CanonCalls` -/
theorem propositional_module_sound_rho (n : Nat) (m : PModule) (s : PySt) (calls : List Call)
    (hgam : ∀ a ∈ m.gammaAxioms, a.PF = true) (hclm : ∀ a ∈ m.claimsOf, a.PF = true)
    (hpfs : ∀ pf ∈ m.proofsOf, pf.PF = true)
    (hex : PModule.executeFull {} n m = some (some (s, calls))) (hfin : s.claims = [])
    (𝔐 : Model) (hΓ : ∀ a ∈ m.gammaAxioms, ValidM 𝔐 a.expand) : ∀ q ∈ m.claimsOf, ValidM 𝔐 q.expand :=
  generated_module_sound_mok n m s calls (propositional_module_mok n m s calls hgam hclm hpfs hex hfin) hex 𝔐 hΓ

/-- the K modules of C20b are NOT an instance: the imported `func_subst_axiom` carries `phi0{e_fresh x0}`, which is not
shaped (it is machine-OK); they keep their own theorem `C20.k_module_accepted` -/
theorem k_import_not_shaped : KMod.funcSubstAxiom.MOK = true ∧ KMod.funcSubstAxiom.Shape = false ∧
    (∀ (st : Kore.ExecSt), (st.module).MOK = false) := by
  have h : KMod.funcSubstAxiom.MOK = true ∧ KMod.funcSubstAxiom.Shape = false := by decide +kernel
  refine ⟨h.1, h.2, ?_⟩
  intro st
  have : (st.module).gammaAxioms.all NPat.SM = false := by
    rw [List.all_eq_false]
    refine ⟨KMod.funcSubstAxiom, ?_, by simp [NPat.SM, h.2]⟩
    rw [KMod.module_gamma, KMod.kImports_gamma]
    simp
  simp [PModule.MOK, this]

/-! ## 5. non-vacuity: a machine-OK module outside the propositional fragment -/
namespace Example

/-- `μX0.phi1{positive X0} → phi2[x1/x0]`: a `mu`, a constrained metavariable, an `esub` -/
def axA : NPat := .imp (.mu 0 (.mv 1 [] [] [0] [] [])) (.esub (phiN 2) 0 (.evar 1))
/-- `∃x3.σ7` -/
def axB : NPat := .ex 3 (.sym 7)
/-- a notation node whose plug must satisfy a positivity constraint -/
def axC : NPat := .inst (.mu 0 (.mv 1 [] [] [0] [] [])) [(1, .svar 0)]
def cl1 : NPat := .imp (.ex 2 (.app (.sym 5) (.evar 1))) (.ex 0 (.ex 2 (.app (.sym 5) (.evar 0))))
def cl2 : NPat := .imp (.ex 3 (.sym 7)) (.imp (.sym 8) (.sym 7))
def cl3 : NPat := .imp (.mu 0 (.svar 0)) (.app (.sym 5) (.evar 1))
def cl4 : NPat := .imp (.sym 8) (.sym 7)
/-- `Quantifier` instantiated UNDER A BINDER: `phi0 := ∃x2.σ5 x0`; the machine pushes `[x1/x0]` under `∃x2` -/
def pf1 : Pf := .dynInst .quantifier [(0, .ex 2 (.app (.sym 5) (.evar 0)))]
/-- `gen` over an instance of `prop1` -/
def pf2 : Pf := .gen (.dynInst .prop1 [(0, .sym 7), (1, .sym 8)]) 3
/-- the constrained metavariable and the `esub` of `axA` instantiated -/
def pf3 : Pf := .dynInst (.loadAxiom axA) [(1, .svar 0), (2, .app (.sym 5) (.evar 0))]
def pf4 : Pf := .mp pf2 (.loadAxiom axB)
def mod : PModule := .mk [axA, axB, axC] [cl1, cl2, cl3, cl4] [pf1, pf2, pf3, pf4] []

/-- what `execute_full` returns for `mod` -/
def run : PySt × List Call := KMod.runVal {} (fun _ => false) 60 mod

theorem evaluated : mod.MOK = true ∧ KMod.returns (KMod.executeFullR {} (fun _ => false) 60 mod) = true ∧
    KMod.wireCalls 60 (PySt.init mod.claimsOf) run.2 = true ∧ run.1.symtab = [7, 8, 5] := by
  decide +kernel

/-- the module is machine-OK, its run returns, the streams are byte strings, and the symbols are NOT named by position
(`σ7 ↦ 0`, `σ8 ↦ 1`, `σ5 ↦ 2`) -/
theorem hypotheses_hold : mod.MOK = true ∧ ∃ s calls, PModule.executeFull {} 60 mod = some (some (s, calls)) ∧
    EndToEnd.wireCheck 60 mod.claimsOf calls = true ∧ s.symtab = [7, 8, 5] :=
  let ⟨hm, h1, h2, h3⟩ := evaluated
  ⟨hm, run.1, run.2, KMod.executeFull_runVal KMod.suggOf_plain h1, KMod.wireCheck_of_calls h2, h3⟩

/-- it is outside the propositional fragment (axioms, claims and proofs) -/
theorem outside_PF : axA.PF = false ∧ axB.PF = false ∧ cl1.PF = false ∧ cl3.PF = false ∧
    pf1.PF = false ∧ pf2.PF = false ∧ pf3.PF = false ∧ pf4.PF = false := by decide +kernel

/-- hence (by the theorem) the checker accepts it and publishes the declaration up to the naming … -/
theorem accepted : ∃ (s : PySt) (g c p : List Instr),
    verify g c p = some (mod.gammaAxioms.map (fun a => Pat.ren (fun nm => s.symtab.idxOf nm) a.expand),
      mod.claimsOf.reverse.map (fun a => Pat.ren (fun nm => s.symtab.idxOf nm) a.expand)) ∧
    s.symtab = [7, 8, 5] ∧
    ∀ r0 : RustExec.RSt, (Gen.Rust.verify (encode g) (encode c) (encode p) r0).isSome = true := by
  obtain ⟨hm, s, calls, hex, _, hsym⟩ := hypotheses_hold
  obtain ⟨g, c, p, _, _, hvb, _, hr⟩ := generated_module_bytes_accepted_mok 60 mod s calls hm hex
  rw [EndToEnd.verifyBytes_encode] at hvb
  exact ⟨s, g, c, p, hvb, hsym, hr⟩

/-- … as byte strings proper … -/
theorem accepted_u8 : ∃ gb cb pb : List UInt8, ∀ r0 : RustExec.RSt,
    (Gen.Rust.verify (gb.map UInt8.toNat) (cb.map UInt8.toNat) (pb.map UInt8.toNat) r0).isSome = true := by
  obtain ⟨hm, s, calls, hex, hw, _⟩ := hypotheses_hold
  obtain ⟨gb, cb, pb, _, _, hr⟩ := generated_module_u8_accepted_mok 60 mod s calls hm hex hw
  exact ⟨gb, cb, pb, hr⟩

/-- … and its four claims hold in every model of its three axioms -/
theorem sound (𝔐 : Model) (hΓ : ∀ a ∈ mod.gammaAxioms, ValidM 𝔐 a.expand) : ∀ q ∈ mod.claimsOf, ValidM 𝔐 q.expand := by
  obtain ⟨hm, s, calls, hex, _, _⟩ := hypotheses_hold
  exact generated_module_sound_mok 60 mod s calls hm hex 𝔐 hΓ

end Example

end C02

#print axioms C02.generated_module_accepted_mok
#print axioms C02.generated_module_accepted_mok_idx
#print axioms C02.generated_module_side_mok
#print axioms C02.generated_module_accepted_sideconds
#print axioms C02.generated_module_bytes_accepted_mok
#print axioms C02.generated_module_u8_accepted_mok
#print axioms C02.generated_module_sound_mok
#print axioms C02.mok_iff_side_conditions
#print axioms C02.concM_is_documented
#print axioms C02.run_certifies_mok
#print axioms C02.Witness.muNotPositive
#print axioms C02.Witness.constraint
#print axioms C02.Witness.capture
#print axioms C02.Witness.redundantSubst
#print axioms C02.Witness.mvWF
#print axioms C02.Witness.substWF
#print axioms C02.findings_outside_mok
#print axioms C02.propositional_pattern_mok
#print axioms C02.propositional_proof_sideconds
#print axioms C02.propositional_module_mok
#print axioms C02.propositional_module_accepted_rho
#print axioms C02.propositional_module_sound_rho
#print axioms C02.k_import_not_shaped
#print axioms C02.Example.hypotheses_hold
#print axioms C02.Example.outside_PF
#print axioms C02.Example.accepted
#print axioms C02.Example.accepted_u8
#print axioms C02.Example.sound
