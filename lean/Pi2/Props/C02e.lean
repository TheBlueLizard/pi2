import Pi2.Props.C02d
import Pi2.ModuleMOKMemo
import Pi2.KModMemoEx
/-!
# C02 on machine-OK modules for the MEMOISING serialisation (and any other configuration)

`C02.generated_module_accepted_mok` (`Pi2/Props/C02d.lean`) is stated for the plain configuration `cfg = {}`; its header
lists "(2) the memoising serialisation" as not covered.  Here it is covered, for EVERY suggestion list `S` — there is
no hypothesis on `S` at all: `MemoizingInterpreter.pattern(p)` only `save`s patterns it has just built and only `load`s
an entry that is `==` to the pattern asked for; every pattern a machine-OK module passes to `pattern` is shaped
(`NPat.Shape`), and `==` is truthful on shaped patterns (`NPat.peqF_expand`, as `KMod.peq_shape`), so the entry found
has the expansion of the pattern asked for — the hypothesis of `KMod.load_sg` (`Pi2/KModCompile.lean`) —, whatever `S`
is (`S` only decides WHETHER a pattern is saved).

The run is proved once, for an arbitrary `cfg : PySt.Cfg` and any class of patterns that may be memoised under it
(`KMod.Memoable`, `KMod.module_acceptedG` in `Pi2/KModRun.lean`); the shaped patterns are such a class
(`KMod.Memoable.shape`), and `Pi2/ModuleMOKMemo.lean` states the result with the configuration explicit.  The theorems
below are stated for `{ memo := some S }` and, where it costs nothing, for any `cfg`.

`generated_module_accepted_mok_memo`: `m.MOK = true` and `execute_full` through the memoising interpreter returns ⇒
every claim is discharged, every call satisfies the machine's side conditions (DERIVED), the history replays to three
instruction lists, and the checker accepts them and publishes the declaration — imports first, claims reversed — up to
the naming `ρ`.  Then bytes, the translated Rust `verify`, soundness; `propositional_module_accepted_rho` re-derived for
the memoising configuration; non-vacuity on `C02.Example.mod` with a suggestion list that makes the run `save` and
`load` (a symbol and a compound pattern).
-/
set_option linter.unusedVariables false
namespace C02
open PySt EndToEnd KMod

/-! ## acceptance, any configuration -/

/-- **C02 on machine-OK modules, any configuration** (plain or memoising, any suggestion list), for every naming `ρ`
that agrees with the final symbol table -/
theorem generated_module_accepted_mok_cfg (cfg : Cfg) (n : Nat) (m : PModule) (s : PySt) (calls : List Call)
    (hmok : m.MOK = true) (hex : PModule.executeFull cfg n m = some (some (s, calls)))
    (ρ : Nat → Nat) (hag : Agree ρ s.symtab) :
    s.claims = [] ∧ AllSideK n (PySt.init m.claimsOf) calls ∧
    ∃ g c p, PySt.trackAll n (PySt.init m.claimsOf) calls ([], [], []) = some (some (s, (g, c, p))) ∧
      verify g c p = some (m.gammaAxioms.map (fun a => Pat.ren ρ a.expand),
        m.claimsOf.reverse.map (fun a => Pat.ren ρ a.expand)) := by
  obtain ⟨hgam, hclm, hpfs, hlen⟩ := PModule.MOK.spec hmok
  exact module_acceptedMS cfg m s calls hgam hclm (fun pf hpf => Pf.MOK.pfOK (hpfs pf hpf)) hlen hex ρ hag

/-- **C02 on machine-OK modules for the memoising serialisation**: NO hypothesis on the suggestion list `S` -/
theorem generated_module_accepted_mok_memo (S : List NPat) (n : Nat) (m : PModule) (s : PySt) (calls : List Call)
    (hmok : m.MOK = true) (hex : PModule.executeFull { memo := some S } n m = some (some (s, calls)))
    (ρ : Nat → Nat) (hag : Agree ρ s.symtab) :
    s.claims = [] ∧ AllSideK n (PySt.init m.claimsOf) calls ∧
    ∃ g c p, PySt.trackAll n (PySt.init m.claimsOf) calls ([], [], []) = some (some (s, (g, c, p))) ∧
      verify g c p = some (m.gammaAxioms.map (fun a => Pat.ren ρ a.expand),
        m.claimsOf.reverse.map (fun a => Pat.ren ρ a.expand)) :=
  generated_module_accepted_mok_cfg { memo := some S } n m s calls hmok hex ρ hag

/-- the naming the serializer uses: position in its symbol table -/
theorem generated_module_accepted_mok_memo_idx (S : List NPat) (n : Nat) (m : PModule) (s : PySt)
    (calls : List Call) (hmok : m.MOK = true)
    (hex : PModule.executeFull { memo := some S } n m = some (some (s, calls))) :
    s.claims = [] ∧
    ∃ g c p, PySt.trackAll n (PySt.init m.claimsOf) calls ([], [], []) = some (some (s, (g, c, p))) ∧
      verify g c p = some (m.gammaAxioms.map (fun a => Pat.ren (fun nm => s.symtab.idxOf nm) a.expand),
        m.claimsOf.reverse.map (fun a => Pat.ren (fun nm => s.symtab.idxOf nm) a.expand)) := by
  obtain ⟨h1, _, h3⟩ := generated_module_accepted_mok_memo S n m s calls hmok hex _ (agree_idxOf _)
  exact ⟨h1, h3⟩

/-- the side conditions are derived (the `save` / `load` calls included) -/
theorem generated_module_side_mok_memo (S : List NPat) (n : Nat) (m : PModule) (s : PySt) (calls : List Call)
    (hmok : m.MOK = true) (hex : PModule.executeFull { memo := some S } n m = some (some (s, calls))) :
    AllSideK n (PySt.init m.claimsOf) calls :=
  (generated_module_accepted_mok_memo S n m s calls hmok hex _ (agree_idxOf _)).2.1

/-- the same under the side conditions as propositions (`KMod.PfOK`) instead of the Boolean `Pf.MOK` -/
theorem generated_module_accepted_sideconds_memo (S : List NPat) (n : Nat) (m : PModule) (s : PySt)
    (calls : List Call)
    (hgam : ∀ a ∈ m.gammaAxioms, a.SM = true) (hclm : ∀ a ∈ m.claimsOf, a.SM = true)
    (hpfs : ∀ pf ∈ m.proofsOf, PfOK pf) (hlen : m.claimsOf.length = m.proofsOf.length)
    (hex : PModule.executeFull { memo := some S } n m = some (some (s, calls)))
    (ρ : Nat → Nat) (hag : Agree ρ s.symtab) :
    s.claims = [] ∧ AllSideK n (PySt.init m.claimsOf) calls ∧
    ∃ g c p, PySt.trackAll n (PySt.init m.claimsOf) calls ([], [], []) = some (some (s, (g, c, p))) ∧
      verify g c p = some (m.gammaAxioms.map (fun a => Pat.ren ρ a.expand),
        m.claimsOf.reverse.map (fun a => Pat.ren ρ a.expand)) :=
  module_acceptedMS _ m s calls hgam hclm hpfs hlen hex ρ hag

/-- **bytes.** the bytes the translated serializer writes along the memoising run are the encodings of the three
instruction lists; `verifyBytes` accepts them and publishes the declaration; `verify` of `rust/src/lib.rs` as
translated accepts them from every initial content of its registers -/
theorem generated_module_bytes_accepted_mok_memo (S : List NPat) (n : Nat) (m : PModule) (s : PySt)
    (calls : List Call) (hmok : m.MOK = true)
    (hex : PModule.executeFull { memo := some S } n m = some (some (s, calls))) :
    ∃ g c p, PySt.trackAll n (PySt.init m.claimsOf) calls ([], [], []) = some (some (s, (g, c, p))) ∧
      writeAll n (PySt.init m.claimsOf) calls ([], [], []) = some (some (s, (encode g, encode c, encode p))) ∧
      verifyBytes (encode g) (encode c) (encode p)
        = some (m.gammaAxioms.map (fun a => Pat.ren (fun nm => s.symtab.idxOf nm) a.expand),
            m.claimsOf.reverse.map (fun a => Pat.ren (fun nm => s.symtab.idxOf nm) a.expand)) ∧
      Gen.Rust.execTranslated = true ∧
      ∀ r0 : RustExec.RSt, (Gen.Rust.verify (encode g) (encode c) (encode p) r0).isSome = true := by
  obtain ⟨_, g, c, p, hT, hv⟩ := generated_module_accepted_mok_memo_idx S n m s calls hmok hex
  refine ⟨g, c, p, hT, writeAll_of_trackAll_init n calls _ s g c p hT, ?_,
    (C05.rust_verify_is_the_model [] [] [] default).1, fun r0 => rust_accepts_encode g c p _ hv r0⟩
  rw [verifyBytes_encode, hv]

/-- **bytes proper**: if the three streams are wire byte strings (`wireCheck`, decidable) they are the images of three
`List UInt8`, accepted by both checkers -/
theorem generated_module_u8_accepted_mok_memo (S : List NPat) (n : Nat) (m : PModule) (s : PySt)
    (calls : List Call) (hmok : m.MOK = true)
    (hex : PModule.executeFull { memo := some S } n m = some (some (s, calls)))
    (hw : wireCheck n m.claimsOf calls = true) :
    ∃ gb cb pb : List UInt8,
      writeAll n (PySt.init m.claimsOf) calls ([], [], [])
        = some (some (s, (gb.map UInt8.toNat, cb.map UInt8.toNat, pb.map UInt8.toNat))) ∧
      verifyBytes (gb.map UInt8.toNat) (cb.map UInt8.toNat) (pb.map UInt8.toNat)
        = some (m.gammaAxioms.map (fun a => Pat.ren (fun nm => s.symtab.idxOf nm) a.expand),
            m.claimsOf.reverse.map (fun a => Pat.ren (fun nm => s.symtab.idxOf nm) a.expand)) ∧
      ∀ r0 : RustExec.RSt,
        (Gen.Rust.verify (gb.map UInt8.toNat) (cb.map UInt8.toNat) (pb.map UInt8.toNat) r0).isSome = true := by
  obtain ⟨g, c, p, hT, hW, hvb, _, hr⟩ := generated_module_bytes_accepted_mok_memo S n m s calls hmok hex
  obtain ⟨w1, w2, w3⟩ := wireCheck_sound hw hT
  obtain ⟨gb, hg⟩ := wire_is_u8 _ w1
  obtain ⟨cb, hc⟩ := wire_is_u8 _ w2
  obtain ⟨pb, hp⟩ := wire_is_u8 _ w3
  refine ⟨gb, cb, pb, ?_, ?_, ?_⟩
  · rw [hg, hc, hp]; exact hW
  · rw [hg, hc, hp]; exact hvb
  · rw [hg, hc, hp]; exact hr

/-- **soundness** (through the checker as written, `C01.rust_verify_text_sound`): every claim of a machine-OK module
whose memoising `execute_full` run returns holds in every model of its declared axioms -/
theorem generated_module_sound_mok_memo (S : List NPat) (n : Nat) (m : PModule) (s : PySt) (calls : List Call)
    (hmok : m.MOK = true) (hex : PModule.executeFull { memo := some S } n m = some (some (s, calls)))
    (𝔐 : Model) (hΓ : ∀ a ∈ m.gammaAxioms, ValidM 𝔐 a.expand) :
    ∀ q ∈ m.claimsOf, ValidM 𝔐 q.expand := by
  obtain ⟨_, _, g, c, p, _, hv⟩ :=
    generated_module_accepted_mok_memo S n m s calls hmok hex (rhoInj s.symtab) (rhoInj_agree _)
  have hr := rust_accepts_encode g c p _ hv default
  obtain ⟨_, axs, cls, hvb, hsound⟩ := C01.rust_verify_text_sound _ _ _ default hr
  rw [verifyBytes_encode, hv] at hvb
  simp only [Option.some.injEq, Prod.mk.injEq] at hvb
  obtain ⟨rfl, rfl⟩ := hvb
  intro q hq
  rw [← validM_rhoInj 𝔐 s.symtab]
  apply hsound ⟨𝔐.M, fun t => 𝔐.sym (rhoInv s.symtab t), 𝔐.app⟩
  · intro a ha
    simp only [List.mem_map] at ha
    obtain ⟨a0, h0, rfl⟩ := ha
    exact (validM_rhoInj 𝔐 s.symtab _).mpr (hΓ a0 h0)
  · simp only [List.mem_map, List.mem_reverse]
    exact ⟨q, hq, rfl⟩

/-- one proof expression, any configuration: the run certifies the documented conclusion -/
theorem run_certifies_sem_cfg (cfg : Cfg) (k : Nat) (ax : List NPat) (pf : Pf) (s s1 : PySt) (acc a1 : List Call)
    (c : NPat) (hpf : PfOK pf) (hM : MemOKS s.memory)
    (h : Pf.runF cfg ax k s pf acc = some (some (s1, a1, c))) :
    c.Shape = true ∧ Pf.Sem pf c.expand ∧ Pf.concM pf = some c.expand ∧ MemOKS s1.memory := by
  obtain ⟨P, hc, hS, _⟩ := runCS cfg (Nat.le_refl k) ax h hpf.1 hpf.2 hM
  exact ⟨hc, hS, concM_of_sem hS hpf.1 hpf.2, P.memory hM⟩

/-- on a module with shaped machine-OK axioms and claims and proofs under the side conditions whose memoising run
returns: no claim is left iff there is one proof per claim -/
theorem module_len_iff_memo (S : List NPat) (n : Nat) (m : PModule) (s : PySt) (calls : List Call)
    (hgam : ∀ a ∈ m.gammaAxioms, a.SM = true) (hclm : ∀ a ∈ m.claimsOf, a.SM = true)
    (hpfs : ∀ pf ∈ m.proofsOf, PfOK pf)
    (hex : PModule.executeFull { memo := some S } n m = some (some (s, calls))) :
    s.claims = [] ↔ m.claimsOf.length = m.proofsOf.length :=
  module_len_iffS _ m s calls hgam hclm hpfs hex

/-- **the converse, memoising**: on a module with shaped machine-OK axioms and claims whose memoising run returns with
no claim left, `PModule.MOK` holds EXACTLY when every proof satisfies the side conditions -/
theorem mok_iff_side_conditions_memo (S : List NPat) (n : Nat) (m : PModule) (s : PySt) (calls : List Call)
    (hgam : ∀ a ∈ m.gammaAxioms, a.SM = true) (hclm : ∀ a ∈ m.claimsOf, a.SM = true)
    (hex : PModule.executeFull { memo := some S } n m = some (some (s, calls))) (hfin : s.claims = []) :
    m.MOK = true ↔ ∀ pf ∈ m.proofsOf, PfOK pf := by
  constructor
  · intro h pf hpf
    exact Pf.MOK.pfOK ((PModule.MOK.spec h).2.2.1 pf hpf)
  · intro h
    exact module_mok_of_runS _ m s calls hgam hclm h hfin hex

/-! ## the propositional fragment, memoising -/

/-- a module of the propositional fragment whose memoising `execute_full` run returns with no claim left is
machine-OK -/
theorem propositional_module_mok_memo (S : List NPat) (n : Nat) (m : PModule) (s : PySt) (calls : List Call)
    (hgam : ∀ a ∈ m.gammaAxioms, a.PF = true) (hclm : ∀ a ∈ m.claimsOf, a.PF = true)
    (hpfs : ∀ pf ∈ m.proofsOf, pf.PF = true)
    (hex : PModule.executeFull { memo := some S } n m = some (some (s, calls))) (hfin : s.claims = []) :
    m.MOK = true :=
  module_mok_of_runS _ m s calls (fun a ha => propositional_pattern_mok a (hgam a ha))
    (fun a ha => propositional_pattern_mok a (hclm a ha))
    (fun pf hpf => propositional_proof_sideconds pf (hpfs pf hpf)) hfin hex

/-- `C02.propositional_module_accepted_rho` for the memoising configuration (any suggestion list), WITHOUT the
canonical-names hypothesis `CanonCalls` -/
theorem propositional_module_accepted_rho_memo (S : List NPat) (n : Nat) (m : PModule) (s : PySt)
    (calls : List Call)
    (hgam : ∀ a ∈ m.gammaAxioms, a.PF = true) (hclm : ∀ a ∈ m.claimsOf, a.PF = true)
    (hpfs : ∀ pf ∈ m.proofsOf, pf.PF = true)
    (hex : PModule.executeFull { memo := some S } n m = some (some (s, calls))) (hfin : s.claims = [])
    (ρ : Nat → Nat) (hag : Agree ρ s.symtab) :
    AllSideK n (PySt.init m.claimsOf) calls ∧
    ∃ g c p, PySt.trackAll n (PySt.init m.claimsOf) calls ([], [], []) = some (some (s, (g, c, p))) ∧
      verify g c p = some (m.gammaAxioms.map (fun a => Pat.ren ρ a.expand),
        m.claimsOf.reverse.map (fun a => Pat.ren ρ a.expand)) := by
  have hg := fun a ha => propositional_pattern_mok a (hgam a ha)
  have hc := fun a ha => propositional_pattern_mok a (hclm a ha)
  have hp := fun pf hpf => propositional_proof_sideconds pf (hpfs pf hpf)
  have hlen := (module_len_iffS _ m s calls hg hc hp hex).mp hfin
  exact (module_acceptedMS _ m s calls hg hc hp hlen hex ρ hag).2

/-- … and its soundness corollary -/
theorem propositional_module_sound_rho_memo (S : List NPat) (n : Nat) (m : PModule) (s : PySt)
    (calls : List Call)
    (hgam : ∀ a ∈ m.gammaAxioms, a.PF = true) (hclm : ∀ a ∈ m.claimsOf, a.PF = true)
    (hpfs : ∀ pf ∈ m.proofsOf, pf.PF = true)
    (hex : PModule.executeFull { memo := some S } n m = some (some (s, calls))) (hfin : s.claims = [])
    (𝔐 : Model) (hΓ : ∀ a ∈ m.gammaAxioms, ValidM 𝔐 a.expand) : ∀ q ∈ m.claimsOf, ValidM 𝔐 q.expand := by
  obtain ⟨_, g, c, p, _, hv⟩ :=
    propositional_module_accepted_rho_memo S n m s calls hgam hclm hpfs hex hfin (rhoInj s.symtab) (rhoInj_agree _)
  have hr := rust_accepts_encode g c p _ hv default
  obtain ⟨_, axs, cls, hvb, hsound⟩ := C01.rust_verify_text_sound _ _ _ default hr
  rw [verifyBytes_encode, hv] at hvb
  simp only [Option.some.injEq, Prod.mk.injEq] at hvb
  obtain ⟨rfl, rfl⟩ := hvb
  intro q hq
  rw [← validM_rhoInj 𝔐 s.symtab]
  apply hsound ⟨𝔐.M, fun t => 𝔐.sym (rhoInv s.symtab t), 𝔐.app⟩
  · intro a ha
    simp only [List.mem_map] at ha
    obtain ⟨a0, h0, rfl⟩ := ha
    exact (validM_rhoInj 𝔐 s.symtab _).mpr (hΓ a0 h0)
  · simp only [List.mem_map, List.mem_reverse]
    exact ⟨q, hq, rfl⟩

/-! ## non-vacuity: `C02.Example.mod` through the memoising interpreter -/
namespace ExampleMemo
open Example

/-- the suggestion list: the symbol `σ7` (in `axB`, `cl2`, `cl4`, and a plug of `pf2`) and the compound `σ5 x0` (in
`cl1` and in plugs of `pf1`, `pf3`) -/
def S : List NPat := [.sym 7, .app (.sym 5) (.evar 0)]

/-- membership in `S` up to `NPat.seq`, in a form the kernel evaluates -/
def sugg : NPat → Bool
  | .sym a => a == 7
  | .app (.sym a) (.evar b) => a == 5 && b == 0
  | _ => false

theorem seq_S (p : NPat) : S.any (NPat.seq p) = sugg p := by
  simp only [S, List.any, KMod.seq_sym, KMod.seq_app, KMod.seq_evar]
  cases p with
  | app l r =>
    cases l with
    | sym a => cases r <;> simp [sugg]
    | _ => rfl
  | _ => simp [sugg]

def isSave (c : Call) : Bool := match c with | .save => true | _ => false
def isLoadPat (c : Call) : Bool := match c with | .load (.pat _) => true | _ => false

/-- what the memoising run of `mod` returns -/
def memoRun : PySt × List Call := KMod.runVal { memo := some S } sugg 60 mod

theorem evaluated : KMod.returns (KMod.executeFullR { memo := some S } sugg 60 mod) = true ∧
    KMod.wireCalls 60 (PySt.init mod.claimsOf) memoRun.2 = true ∧ memoRun.1.symtab = [7, 8, 5] ∧
    2 ≤ (memoRun.2.filter isSave).length ∧ 2 ≤ (memoRun.2.filter isLoadPat).length := by
  decide +kernel

/-- the memoising run of the machine-OK module returns, the streams are byte strings, the symbols are not named by
position, and the run really memoises: at least two `save`s and two `load`s of saved patterns -/
theorem hypotheses_hold : mod.MOK = true ∧
    ∃ s calls, PModule.executeFull { memo := some S } 60 mod = some (some (s, calls)) ∧
    EndToEnd.wireCheck 60 mod.claimsOf calls = true ∧ s.symtab = [7, 8, 5] ∧
    2 ≤ (calls.filter isSave).length ∧ 2 ≤ (calls.filter isLoadPat).length :=
  let ⟨h1, h2, h3⟩ := evaluated
  ⟨Example.hypotheses_hold.1, memoRun.1, memoRun.2, KMod.executeFull_runVal (cfg := { memo := some S }) seq_S h1,
    KMod.wireCheck_of_calls h2, h3⟩

/-- hence (by the theorem) the checker accepts the memoised streams and publishes the declaration up to the naming -/
theorem accepted : ∃ (s : PySt) (g c p : List Instr),
    verify g c p = some (mod.gammaAxioms.map (fun a => Pat.ren (fun nm => s.symtab.idxOf nm) a.expand),
      mod.claimsOf.reverse.map (fun a => Pat.ren (fun nm => s.symtab.idxOf nm) a.expand)) ∧
    s.symtab = [7, 8, 5] ∧
    ∀ r0 : RustExec.RSt, (Gen.Rust.verify (encode g) (encode c) (encode p) r0).isSome = true := by
  obtain ⟨hm, s, calls, hex, _, hsym, _⟩ := hypotheses_hold
  obtain ⟨g, c, p, _, _, hvb, _, hr⟩ := generated_module_bytes_accepted_mok_memo S 60 mod s calls hm hex
  rw [EndToEnd.verifyBytes_encode] at hvb
  exact ⟨s, g, c, p, hvb, hsym, hr⟩

/-- … as byte strings proper -/
theorem accepted_u8 : ∃ gb cb pb : List UInt8, ∀ r0 : RustExec.RSt,
    (Gen.Rust.verify (gb.map UInt8.toNat) (cb.map UInt8.toNat) (pb.map UInt8.toNat) r0).isSome = true := by
  obtain ⟨hm, s, calls, hex, hw, _⟩ := hypotheses_hold
  obtain ⟨gb, cb, pb, _, _, hr⟩ := generated_module_u8_accepted_mok_memo S 60 mod s calls hm hex hw
  exact ⟨gb, cb, pb, hr⟩

end ExampleMemo

end C02

#print axioms C02.generated_module_accepted_mok_cfg
#print axioms C02.generated_module_accepted_mok_memo
#print axioms C02.generated_module_accepted_mok_memo_idx
#print axioms C02.generated_module_side_mok_memo
#print axioms C02.generated_module_accepted_sideconds_memo
#print axioms C02.generated_module_bytes_accepted_mok_memo
#print axioms C02.generated_module_u8_accepted_mok_memo
#print axioms C02.generated_module_sound_mok_memo
#print axioms C02.run_certifies_sem_cfg
#print axioms C02.module_len_iff_memo
#print axioms C02.mok_iff_side_conditions_memo
#print axioms C02.propositional_module_mok_memo
#print axioms C02.propositional_module_accepted_rho_memo
#print axioms C02.propositional_module_sound_rho_memo
#print axioms C02.ExampleMemo.seq_S
#print axioms C02.ExampleMemo.hypotheses_hold
#print axioms C02.ExampleMemo.accepted
#print axioms C02.ExampleMemo.accepted_u8
