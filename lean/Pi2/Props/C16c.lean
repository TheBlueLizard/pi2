import Pi2.MM.ConvSugarAttach
import Pi2.Props.C16b
/-!
# C16 — the converter's SPECIFICATION on databases WITH declared notations, as a theorem about every database of the shape

`C16.spec_notation_example` evaluates `dbOfMDb` on ONE database with `#Notation` statements (kernel), and the driver evaluates `DB.wf`
on every generated database at run time.  Here, for EVERY database of the shape `MM.ConvSpec.FragmentShape` (a predicate on the
statements alone, `Pi2/MM/ConvShape.lean`):

* `spec_wf_of_shape_with_notations`: `dbOfMDb` accepts it and the model database is well formed (`DB.wf`, incl. `notOk`): every
  `#Notation` statement finds its one constructor entry, over the same variables, without a body so far, its body is a term
  (`attachAll` succeeds: `ConvSpec.attachAll_spec`), and the table with the bodies satisfies `notOk` (`ConvSpec.notOk_dress`: the order
  clause of `FragmentShape` = the order of the constructor entries gives "earlier notations only"); `wf0` is that of the core
  specification (`ConvCoh.coherence` on `coreOf mdb`), `attach` changes nothing but `Ctor.body`.
* `spec_of_shape_with_notations`: the same with what `dbOfMDb` returns: the core specification of `coreOf mdb` (coherent with every
  statement of `coreOf mdb`: `ConvCoh.Coherent`) with another constructor table, same symbols and variables entry by entry.
* `spec_coherent_with_notations`: the conjuncts of `ConvCoh.Coherent` that still make sense transfer: goal, decoded proof, label
  table, `$f` statements and numbering (`coherentFloats0`; the clause "no bodies" of `coherentFloats` is of course false now), every
  `$a` statement of `coreOf mdb` (`coherentItem`: `DB.assertion` does not read the bodies).
* `translation_of_shaped_notation_database`: if moreover the Metamath verifier accepts the target's proof, `translation_succeeds`,
  `translation_accepted` and `translation_bytes_accepted_by_rust_text` apply: the model translation succeeds, the checker model accepts
  with the journal (images of the axioms, image of the target) — NOTATIONS EXPANDED (`MM.image` reads `DB.notTab`) —, and the bytes
  are accepted by the translated Rust `verify`.  This is a statement about the SPECIFICATION `dbOfMDb` and the model translation; the
  converter TEXT (`vlib/transconv.py` → `Pi2/Gen/MMConv.lean`) is NOT involved: its tie is for databases without `#Notation`
  statements (`MetamathConverter._add_notation` is outside the translated fragment).

**The clause `headsPlain`.**  Without it `l $a #Notation ( \imp x y ) BODY` would pass the other clauses of `FragmentShape` (the one
"constructor axiom" of the head is `imp-is-pattern`), but `attach` finds no constructor entry (`imp-is-pattern` is `Role.imp`, not
`Role.ctor`) and `dbOfMDb` answers `none`.  With the clause `MM.ConvSpec.headsPlain` (no `#Notation` statement for `\imp` / `\app`;
`headsPlain_of_shape`) the theorems below need no extra hypothesis; the witness `dbImpSugar` is outside the shape:
`notation_for_imp_rejected`.
-/
set_option linter.unusedVariables false
namespace C16
open MM PySt EndToEnd MM.ConvSpec

/-- `ConvSpec.Example.db` with a `#Notation` statement for `\imp` -/
def dbImpSugar : MDb := [
  .const ["#Pattern", "|-", "(", ")", "\\imp", "\\app", "c", "#Notation"],
  .var ["x", "y", "z"],
  .float "y-is-pattern" "#Pattern" "y",
  .float "z-is-pattern" "#Pattern" "z",
  .float "x-is-pattern" "#Pattern" "x",
  .ax "imp-is-pattern" [.app "#Pattern" [], .app "\\imp" [.mv "x", .mv "y"]],
  .ax "imp-is-sugar" [.app "#Notation" [], .app "\\imp" [.mv "x", .mv "y"], .app "\\app" [.mv "x", .mv "y"]],
  .ax "app-is-pattern" [.app "#Pattern" [], .app "\\app" [.mv "y", .mv "x"]],
  .ax "c-is-pattern" [.app "#Pattern" [], .app "c" []],
  .ax "proof-rule-prop-1" [.app "|-" [], Example.imp (.mv "x") (Example.imp (.mv "y") (.mv "x"))],
  .ax "proof-rule-prop-2" [.app "|-" [], Example.imp (Example.imp (.mv "x") (Example.imp (.mv "y") (.mv "z")))
    (Example.imp (Example.imp (.mv "x") (.mv "y")) (Example.imp (.mv "x") (.mv "z")))],
  .block [.ess "proof-rule-mp.0" [.app "|-" [], Example.imp (.mv "y") (.mv "x")], .ess "proof-rule-mp.1" [.app "|-" [], .mv "y"],
          .ax "proof-rule-mp" [.app "|-" [], .mv "x"]],
  .prov "goal" [.app "|-" [], Example.imp (.app "c" []) (Example.imp (.app "c" []) (.app "c" []))]
    ["(", "c-is-pattern", "proof-rule-prop-1", ")", "AAB"]]

/-- a `#Notation` statement for `\imp` is OUTSIDE the shape (clause `headsPlain`, the only one that fails), and rightly so: the
specification rejects the database, while it accepts the database without the statement -/
theorem notation_for_imp_rejected :
    FragmentShape dbImpSugar "goal" = false ∧ (dbOfMDb dbImpSugar "goal").isSome = false ∧
    (dbOfCore (coreOf dbImpSugar) "goal").isSome = true ∧ headsPlain dbImpSugar = false := by decide +kernel

/-- the clause is the only one that fails on `dbImpSugar`: without the `#Notation` statement the database is of the shape -/
theorem notation_for_imp_core_in_shape : FragmentShape (coreOf dbImpSugar) "goal" = true := by decide +kernel

/-- **the clause `headsPlain` of the shape**: no `#Notation` statement of a database of the shape has the head `\imp` or `\app` -/
theorem headsPlain_of_shape (mdb : MDb) (target : String) (h : FragmentShape mdb target = true) : headsPlain mdb = true :=
  headsPlain_of_fragmentShape h

/-- **1'. what `dbOfMDb` returns on a database of the shape**: the core specification `sp0` of the database without its `#Notation`
statements — coherent with every statement of that database — with a constructor table that has the same symbols and variables
entry by entry; the model database is well formed -/
theorem spec_of_shape_with_notations (mdb : MDb) (target : String) (h : FragmentShape mdb target = true) :
    ∃ sp0 db, dbOfCore (coreOf mdb) target = some sp0 ∧ ConvCoh.Coherent (coreOf mdb) target sp0 ∧
      dbOfMDb mdb target = some { sp0 with db := db } ∧
      (∃ f : Ctor → Ctor, (∀ k, (f k).sym = k.sym ∧ (f k).args = k.args) ∧ db = { sp0.db with ctors := sp0.db.ctors.map f }) ∧
      db.wf = true :=
  ConvCoh.spec_wf mdb target h

/-- **1. `dbOfMDb` accepts every database of the shape, and the model database is well formed** (`DB.wf`: `wf0` and, for the declared
notations, `notOk`) -/
theorem spec_wf_of_shape_with_notations (mdb : MDb) (target : String) (h : FragmentShape mdb target = true) :
    ∃ sp, dbOfMDb mdb target = some sp ∧ sp.db.wf = true := by
  obtain ⟨sp0, db, _, _, hsp, _, hwf⟩ := ConvCoh.spec_wf mdb target h
  exact ⟨_, hsp, hwf⟩

/-- `DB.assertion` does not read the bodies -/
theorem assertion_ctors (db : DB) (f : Ctor → Ctor) (hf : ∀ k, (f k).sym = k.sym ∧ (f k).args = k.args) (l : Lbl) :
    ({ db with ctors := db.ctors.map f } : DB).assertion l = db.assertion l := by
  cases l with
  | ctor i =>
    simp only [DB.assertion, List.getElem?_map, Option.map_map]
    congr 1
    funext c
    simp only [Function.comp, (hf c).1, (hf c).2]
    rfl
  | _ => rfl

/-- **3. coherence with the statements, for databases with notations**: of `ConvCoh.Coherent` everything but "no constructor entry has
a body": every `$a` statement of the database without its `#Notation` statements has in the label table an `Lbl` of the right kind
whose assertion in the model database is the statement's own content; `$f` statements and numbering; goal; decoded proof; the label
table is one-to-one and names `$f` / `$a` statements only; the target is no `$f` label. -/
theorem spec_coherent_with_notations (mdb : MDb) (target : String) (h : FragmentShape mdb target = true) :
    ∃ sp, dbOfMDb mdb target = some sp ∧ sp.db.wf = true ∧
      (∀ st ∈ (coreOf mdb).filter ConvTie.isAxItem, ConvTie.coherentItem sp st = true) ∧
      ConvTie.coherentFloats0 sp (coreOf mdb) = true ∧ ConvTie.coherentGoal sp (coreOf mdb) = true ∧
      ConvTie.coherentProof sp (coreOf mdb) = true ∧ ConvTie.tableOK sp (coreOf mdb) = true ∧
      target ∉ (ConvTie.floatPairs (coreOf mdb)).map (·.1) := by
  obtain ⟨sp0, db, _, hcoh, hsp, ⟨f, hf, hdb⟩, hwf⟩ := ConvCoh.spec_wf mdb target h
  obtain ⟨hitems, hfl, hgoal, hproof, htab, htgt⟩ := hcoh
  refine ⟨_, hsp, hwf, ?_, ?_, hgoal, hproof, htab, htgt⟩
  · intro st hst
    have := hitems st hst
    subst hdb
    simp only [ConvTie.coherentItem, assertion_ctors sp0.db f hf] at this ⊢
    exact this
  · simp only [ConvTie.coherentFloats, Bool.and_eq_true] at hfl
    subst hdb
    exact hfl.1

/-- **2. the specification-level end-to-end statement for databases with notations.**  A database of the shape whose target's proof
the Metamath verifier accepts (on the model database of the specification): the model translation succeeds with every claim
discharged; the checker model accepts its history with the journal (images of the axioms, image of the target), notations expanded;
the bytes the serializer writes are accepted by the model `verifyBytes` and by `verify` of `lib.rs` as translated, and the image of
the target is valid in every model of the images of the axioms.  (About `dbOfMDb`, NOT about the converter's text.) -/
theorem translation_of_shaped_notation_database (cfg : Cfg) (mdb : MDb) (target : String) (h : FragmentShape mdb target = true) :
    ∃ sp, dbOfMDb mdb target = some sp ∧ sp.db.wf = true ∧
      (mmVerify sp.db sp.goal sp.labels sp.steps = true →
        (∃ n s calls, translateFull cfg n sp.db sp.goal sp.labels sp.steps = some (some (s, calls)) ∧ s.claims = []) ∧
        (∃ n s calls g c p,
          translateFull cfg n sp.db sp.goal sp.labels sp.steps = some (some (s, calls)) ∧
          PySt.trackAll n (PySt.init [image sp.db sp.goal]) calls ([], [], []) = some (some (s, (g, c, p))) ∧
          writeAll n (PySt.init [image sp.db sp.goal]) calls ([], [], []) = some (some (s, (encode g, encode c, encode p))) ∧
          (CanonCalls [] calls →
            verify g c p = some (sp.db.axiomImages.map NPat.expand, [(image sp.db sp.goal).expand]) ∧
            verifyBytes (encode g) (encode c) (encode p)
              = some (sp.db.axiomImages.map NPat.expand, [(image sp.db sp.goal).expand]) ∧
            Gen.Rust.execTranslated = true ∧
            (∀ r0 : RustExec.RSt, (Gen.Rust.verify (encode g) (encode c) (encode p) r0).isSome = true) ∧
            ∀ 𝔐 : Model, (∀ a ∈ sp.db.axiomImages, ValidM 𝔐 a.expand) → ValidM 𝔐 (image sp.db sp.goal).expand))) := by
  obtain ⟨sp, hsp, hwf⟩ := spec_wf_of_shape_with_notations mdb target h
  refine ⟨sp, hsp, hwf, fun hv => ⟨translation_succeeds cfg sp.db sp.goal sp.labels sp.steps hwf hv, ?_⟩⟩
  obtain ⟨n, s, calls, g, c, p, hex, hT, hacc⟩ := translation_accepted cfg sp.db sp.goal sp.labels sp.steps hwf hv
  refine ⟨n, s, calls, g, c, p, hex, hT, writeAll_of_trackAll_init n calls _ s g c p hT, fun hcanon => ?_⟩
  have hB := bytesAccepted_of_verify hT (hacc hcanon)
  exact ⟨hacc hcanon, hB.2.2.1, hB.2.2.2.1, hB.2.2.2.2, fun 𝔐 hΓ => sound_of_translationBytesAccepted hB 𝔐 hΓ⟩

/-! ## 4. non-vacuity: `MM.ConvSpec.Example.dbN` (two notations, the second over the first) -/

theorem dbN_headsPlain : headsPlain Example.dbN = true := headsPlain_of_shape _ _ Example.dbN_in_fragment

/-- the theorem on the example (by the general theorem, not by evaluation of `dbOfMDb`) -/
theorem spec_wf_notation_example : ∃ sp, dbOfMDb Example.dbN "goal" = some sp ∧ sp.db.wf = true :=
  spec_wf_of_shape_with_notations _ _ Example.dbN_in_fragment

theorem spec_coherent_notation_example :
    ∃ sp, dbOfMDb Example.dbN "goal" = some sp ∧ sp.db.wf = true ∧
      (∀ st ∈ (coreOf Example.dbN).filter ConvTie.isAxItem, ConvTie.coherentItem sp st = true) ∧
      ConvTie.coherentFloats0 sp (coreOf Example.dbN) = true ∧ ConvTie.coherentGoal sp (coreOf Example.dbN) = true ∧
      ConvTie.coherentProof sp (coreOf Example.dbN) = true ∧ ConvTie.tableOK sp (coreOf Example.dbN) = true ∧
      "goal" ∉ (ConvTie.floatPairs (coreOf Example.dbN)).map (·.1) :=
  spec_coherent_with_notations _ _ Example.dbN_in_fragment

/-- the end-to-end statement on the example: its hypothesis `mmVerify … = true` holds (`Example.dbN_spec`) -/
theorem translation_notation_example (cfg : Cfg) :
    ∃ sp, dbOfMDb Example.dbN "goal" = some sp ∧ sp.db.wf = true ∧ mmVerify sp.db sp.goal sp.labels sp.steps = true ∧
      (∃ n s calls, translateFull cfg n sp.db sp.goal sp.labels sp.steps = some (some (s, calls)) ∧ s.claims = []) ∧
      ∃ n s calls g c p,
        translateFull cfg n sp.db sp.goal sp.labels sp.steps = some (some (s, calls)) ∧
        PySt.trackAll n (PySt.init [image sp.db sp.goal]) calls ([], [], []) = some (some (s, (g, c, p))) ∧
        writeAll n (PySt.init [image sp.db sp.goal]) calls ([], [], []) = some (some (s, (encode g, encode c, encode p))) ∧
        (CanonCalls [] calls →
          verify g c p = some (sp.db.axiomImages.map NPat.expand, [(image sp.db sp.goal).expand]) ∧
          verifyBytes (encode g) (encode c) (encode p)
            = some (sp.db.axiomImages.map NPat.expand, [(image sp.db sp.goal).expand]) ∧
          Gen.Rust.execTranslated = true ∧
          (∀ r0 : RustExec.RSt, (Gen.Rust.verify (encode g) (encode c) (encode p) r0).isSome = true) ∧
          ∀ 𝔐 : Model, (∀ a ∈ sp.db.axiomImages, ValidM 𝔐 a.expand) → ValidM 𝔐 (image sp.db sp.goal).expand) := by
  obtain ⟨sp, hsp, hwf, himp⟩ := translation_of_shaped_notation_database cfg _ _ Example.dbN_in_fragment
  have hv : mmVerify sp.db sp.goal sp.labels sp.steps = true := by
    have := Example.dbN_spec
    rw [hsp] at this
    simp only [Bool.and_eq_true] at this
    exact this.1.1.2
  exact ⟨sp, hsp, hwf, hv, (himp hv).1, (himp hv).2⟩

end C16

#print axioms C16.notation_for_imp_rejected
#print axioms C16.headsPlain_of_shape
#print axioms C16.spec_of_shape_with_notations
#print axioms C16.spec_wf_of_shape_with_notations
#print axioms C16.spec_coherent_with_notations
#print axioms C16.translation_of_shaped_notation_database
#print axioms C16.spec_wf_notation_example
#print axioms C16.spec_coherent_notation_example
#print axioms C16.translation_notation_example
