import Pi2.KoreModule
import Pi2.KModMemoEx
import Pi2.Props.C20
import Pi2.Props.C01
import Pi2.Props.C05
/-!
# C20 (last clause) — the proof module generated from a K execution trace is accepted by the checker

`ExecSt.module st` (`Pi2/KoreModule.lean`): the axioms, claims and proof expressions `ExecutionProofExp` has
accumulated, with the modules it imports (`Substitution()`, `KoreLemmas()`; of an imported module `execute_full`
publishes the axioms only: `func_subst_axiom` and `ceil(x0)`).

The fragment (`KMod.KSteps`, decidable, on converted inputs): every rule and every value of a substitution is in the
propositional fragment `NPat.PF` (notation nodes over symbols, unconstrained metavariables, `→`, application, `⊥`),
the keys of a substitution are distinct, and `x0` is fresh in every value.  `_convert_pattern` produces exactly such
patterns (`conv_in_fragment`), closed ones for ground terms (`conv_ground_closed`), and `convert_substitutions`
distinct keys (`converted_step_in_fragment`).

For a state reached by `from_proof_hints` on such steps, whenever `execute_full` (plain serialisation) returns:

* `k_module_side`: every call satisfies the checker's side conditions (`KMod.SideK`: the checks of the machine that
  the tracker lacks — positivity, well-formed metavariables, the constraint checks of `instantiate` on the plugs — hold;
  no publish residue is touched; keys are distinct).  The only constrained metavariable is `phi0` with `x0` fresh in the
  definition of `functional` (and in `func_subst_axiom`, where it is never instantiated); it receives a closed plug;
* `k_module_accepted`: the history replays to three instruction lists that the reference machine accepts, every claim
  is discharged, and the journal is the declaration — imported axioms, own axioms, claims reversed — with every
  symbol named by its position in the serializer's symbol table (`ρ`: that is what the serializer writes; the model's
  symbol names `ksym_<n> ↦ 2001+2n` … are not positions, so the hypothesis `CanonCalls` of C02 would be vacuous here);
* `k_module_bytes_accepted`: the bytes the translated serializer writes are accepted by `verifyBytes` and by `verify` of
  `rust/src/lib.rs` as translated;
* `k_module_sound`: every claim holds in every model of the axioms (through `C01.rust_verify_text_sound`; the naming
  is undone by an injective choice of `ρ`).

Not covered: the memoising serialisation (`MemoizingInterpreter`), whose `load` of sub-patterns would need `==` on the
constrained metavariable to be truthful.
-/
set_option linter.unusedVariables false
namespace C20
open Kore KMod PySt EndToEnd

/-- `_convert_pattern` lands in the propositional fragment (notation nodes over unconstrained metavariables, symbols,
sort symbols) -/
theorem conv_in_fragment (sg : Sig) (sc sc' : Scope) (t : KTerm) (p : NPat) (h : conv sg sc t = some (sc', p)) :
    p.PF = true := KMod.conv_PF sg sc sc' t p h

/-- the conversion of a ground Kore term is closed: its expansion has no metavariable and no free variable (`PFG`),
so every element variable is fresh in it -/
theorem conv_ground_closed (sg : Sig) (sc sc' : Scope) (t : KTerm) (p : NPat) (hg : t.ground = true)
    (h : conv sg sc t = some (sc', p)) :
    p.PF = true ∧ PFG p.expand = true ∧ ∀ e, p.expand.eFresh e = true :=
  KMod.conv_ground_closed sg sc sc' t p hg h

/-- a converted rule with a converted ground substitution is a step of the fragment -/
theorem converted_step_in_fragment (sg : Sig) (r : KTerm) (σ : List (Nat × KTerm)) (sc1 sc1' : Scope) (rule : NPat)
    (δ : List (Nat × NPat)) (hr : conv sg {} r = some (sc1, rule))
    (hground : ∀ x t, (x, t) ∈ σ → t.ground = true) (hδ : convertSubst sg sc1 σ [] = some (sc1', δ)) :
    stepOK (rule, δ) = true :=
  (convertSubst_ok sg σ sc1 sc1' [] δ hground ⟨by simp, by simp⟩ hδ).stepOK (KMod.conv_PF sg _ _ r rule hr)

/-- the functional assumption of a closed value passes every check of the machine: its constrained metavariable
(`phi0` with `x0` fresh) receives a plug in which `x0` is fresh -/
theorem functional_assumption_ok (v f : NPat) (hv : v.PF = true) (hfr : v.expand.eFresh 0 = true)
    (hf : functionalOf v = some f) : f.MOK = true := by
  rw [functionalOf_eq] at hf
  cases hf
  exact functional_MOK v hv hfr

/-- the excluded point of "`x0` fresh in every value": a value with a (Kore) variable — the conversion of a non-ground
term, here the metavariable `phi5` — is not `x0`-fresh; its functional assumption is refused by the machine
(`Instantiate` checks the constraint of `phi0`), which the tracker does not notice.  Substitutions of execution traces
are ground, so this point is not reached from real inputs. -/
theorem nonground_value_refused :
    (NPat.mv 5 [] [] [] [] []).expand.eFresh 0 = false ∧
    (NPat.inst fnDef [(0, .mv 5 [] [] [] [] [])]).MOK = false := by decide +kernel

/-- **3. side conditions.** every call of `execute_full` on the module of a trace of the fragment satisfies the
checker's side conditions -/
theorem k_module_side (sg : Sig) (n0 n : Nat) (init : NPat) (steps : List (NPat × List (Nat × NPat)))
    (st : ExecSt) (s : PySt) (calls : List Call)
    (htrace : traceF sg n0 (initSt init) steps = some (some st)) (hfrag : KSteps steps = true)
    (hex : PModule.executeFull {} n st.module = some (some (s, calls))) :
    AllSideK n (PySt.init st.claims) calls :=
  (k_module_core sg n0 n init steps st kImports s calls htrace hfrag kImports_gax hex _ (agree_idxOf _)).2.1

/-- **4. acceptance.** the run of `execute_full` replays to three instruction lists; every claim is discharged; the
machine accepts and publishes the declaration, symbols named by their position in the serializer's table -/
theorem k_module_accepted (sg : Sig) (n0 n : Nat) (init : NPat) (steps : List (NPat × List (Nat × NPat)))
    (st : ExecSt) (s : PySt) (calls : List Call)
    (htrace : traceF sg n0 (initSt init) steps = some (some st)) (hfrag : KSteps steps = true)
    (hex : PModule.executeFull {} n st.module = some (some (s, calls))) :
    s.claims = [] ∧
    ∃ g c p, PySt.trackAll n (PySt.init st.claims) calls ([], [], []) = some (some (s, (g, c, p))) ∧
      verify g c p = some (st.module.gammaAxioms.map (fun a => Pat.ren (fun nm => s.symtab.idxOf nm) a.expand),
        st.claims.reverse.map (fun a => Pat.ren (fun nm => s.symtab.idxOf nm) a.expand)) := by
  obtain ⟨h1, _, h3⟩ :=
    k_module_core sg n0 n init steps st kImports s calls htrace hfrag kImports_gax hex _ (agree_idxOf _)
  exact ⟨h1, h3⟩

/-- the same for any imported modules whose axioms are machine-OK and truthfully compared (`KMod.GAx`), and any naming
that agrees with the final symbol table -/
theorem k_module_accepted_general (sg : Sig) (n0 n : Nat) (init : NPat) (steps : List (NPat × List (Nat × NPat)))
    (st : ExecSt) (subs : List PModule) (s : PySt) (calls : List Call)
    (htrace : traceF sg n0 (initSt init) steps = some (some st)) (hfrag : KSteps steps = true)
    (hsubs : ∀ a ∈ PModule.gammaAxioms.gammaList subs, GAx a)
    (hex : PModule.executeFull {} n (st.module subs) = some (some (s, calls)))
    (ρ : Nat → Nat) (hag : Agree ρ s.symtab) :
    s.claims = [] ∧ AllSideK n (PySt.init st.claims) calls ∧
    ∃ g c p, PySt.trackAll n (PySt.init st.claims) calls ([], [], []) = some (some (s, (g, c, p))) ∧
      verify g c p = some ((st.module subs).gammaAxioms.map (fun a => Pat.ren ρ a.expand),
        st.claims.reverse.map (fun a => Pat.ren ρ a.expand)) :=
  k_module_core sg n0 n init steps st subs s calls htrace hfrag hsubs hex ρ hag

/-- **4 (bytes).** the bytes the translated serializer methods write along the run are the encodings of the three
instruction lists; the model `verifyBytes` accepts them and publishes the declaration; `verify` of `rust/src/lib.rs` as
translated accepts them from every initial content of its registers -/
theorem k_module_bytes_accepted (sg : Sig) (n0 n : Nat) (init : NPat) (steps : List (NPat × List (Nat × NPat)))
    (st : ExecSt) (s : PySt) (calls : List Call)
    (htrace : traceF sg n0 (initSt init) steps = some (some st)) (hfrag : KSteps steps = true)
    (hex : PModule.executeFull {} n st.module = some (some (s, calls))) :
    ∃ g c p, PySt.trackAll n (PySt.init st.claims) calls ([], [], []) = some (some (s, (g, c, p))) ∧
      writeAll n (PySt.init st.claims) calls ([], [], []) = some (some (s, (encode g, encode c, encode p))) ∧
      verifyBytes (encode g) (encode c) (encode p)
        = some (st.module.gammaAxioms.map (fun a => Pat.ren (fun nm => s.symtab.idxOf nm) a.expand),
            st.claims.reverse.map (fun a => Pat.ren (fun nm => s.symtab.idxOf nm) a.expand)) ∧
      Gen.Rust.execTranslated = true ∧
      ∀ r0 : RustExec.RSt, (Gen.Rust.verify (encode g) (encode c) (encode p) r0).isSome = true := by
  obtain ⟨_, g, c, p, hT, hv⟩ := k_module_accepted sg n0 n init steps st s calls htrace hfrag hex
  refine ⟨g, c, p, hT, writeAll_of_trackAll_init n calls _ s g c p hT, ?_,
    (C05.rust_verify_is_the_model [] [] [] default).1, fun r0 => rust_accepts_encode g c p _ hv r0⟩
  rw [verifyBytes_encode, hv]

/-- the encodings of streams that pass `wireCheck` are the images of three `List UInt8` -/
theorem wire_u8 {n n' : Nat} {claims : List NPat} {calls : List Call} {s : PySt} {g c p : List Instr}
    (hw : wireCheck n claims calls = true)
    (hT : PySt.trackAll n' (PySt.init claims) calls ([], [], []) = some (some (s, (g, c, p)))) :
    ∃ gb cb pb : List UInt8, gb.map UInt8.toNat = encode g ∧ cb.map UInt8.toNat = encode c ∧
      pb.map UInt8.toNat = encode p := by
  obtain ⟨w1, w2, w3⟩ := wireCheck_sound hw hT
  obtain ⟨gb, hg⟩ := wire_is_u8 _ w1
  obtain ⟨cb, hc⟩ := wire_is_u8 _ w2
  obtain ⟨pb, hp⟩ := wire_is_u8 _ w3
  exact ⟨gb, cb, pb, hg, hc, hp⟩

/-- **4 (bytes proper).** if moreover the three streams are wire byte strings (`Wire`: every number written — ids,
key lists and their lengths, memory indices, symbol positions — fits in a byte; decidable), they are the images of
three `List UInt8`, accepted by both checkers -/
theorem k_module_u8_accepted (sg : Sig) (n0 n : Nat) (init : NPat) (steps : List (NPat × List (Nat × NPat)))
    (st : ExecSt) (s : PySt) (calls : List Call)
    (htrace : traceF sg n0 (initSt init) steps = some (some st)) (hfrag : KSteps steps = true)
    (hex : PModule.executeFull {} n st.module = some (some (s, calls)))
    (hw : wireCheck n st.claims calls = true) :
    ∃ gb cb pb : List UInt8,
      writeAll n (PySt.init st.claims) calls ([], [], [])
        = some (some (s, (gb.map UInt8.toNat, cb.map UInt8.toNat, pb.map UInt8.toNat))) ∧
      verifyBytes (gb.map UInt8.toNat) (cb.map UInt8.toNat) (pb.map UInt8.toNat)
        = some (st.module.gammaAxioms.map (fun a => Pat.ren (fun nm => s.symtab.idxOf nm) a.expand),
            st.claims.reverse.map (fun a => Pat.ren (fun nm => s.symtab.idxOf nm) a.expand)) ∧
      ∀ r0 : RustExec.RSt,
        (Gen.Rust.verify (gb.map UInt8.toNat) (cb.map UInt8.toNat) (pb.map UInt8.toNat) r0).isSome = true := by
  obtain ⟨g, c, p, hT, hW, hvb, _, hr⟩ := k_module_bytes_accepted sg n0 n init steps st s calls htrace hfrag hex
  obtain ⟨gb, cb, pb, hg, hc, hp⟩ := wire_u8 hw hT
  rw [← hg, ← hc, ← hp] at hW hvb hr
  exact ⟨gb, cb, pb, hW, hvb, hr⟩

/-- soundness from acceptance (through the checker as written, `C01.rust_verify_text_sound`): if the reference machine
accepts three streams and publishes the axioms and claims of a module under the injective naming `rhoInj`, the claims
hold in every model of the axioms — the naming is undone by `rhoInv` -/
theorem sound_of_verify {axs cls : List NPat} {tab : List Nat} {g c p : List Instr}
    (hv : verify g c p = some (axs.map (fun a => Pat.ren (rhoInj tab) a.expand),
      cls.reverse.map (fun a => Pat.ren (rhoInj tab) a.expand)))
    (𝔐 : Model) (hΓ : ∀ a ∈ axs, ValidM 𝔐 a.expand) : ∀ q ∈ cls, ValidM 𝔐 q.expand := by
  have hr := rust_accepts_encode g c p _ hv default
  obtain ⟨_, axs', cls', hvb, hsound⟩ := C01.rust_verify_text_sound _ _ _ default hr
  rw [verifyBytes_encode, hv] at hvb
  simp only [Option.some.injEq, Prod.mk.injEq] at hvb
  obtain ⟨rfl, rfl⟩ := hvb
  intro q hq
  rw [← validM_rhoInj 𝔐 tab]
  apply hsound ⟨𝔐.M, fun t => 𝔐.sym (rhoInv tab t), 𝔐.app⟩
  · intro a ha
    simp only [List.mem_map] at ha
    obtain ⟨a0, h0, rfl⟩ := ha
    exact (validM_rhoInj 𝔐 tab _).mpr (hΓ a0 h0)
  · simp only [List.mem_map, List.mem_reverse]
    exact ⟨q, hq, rfl⟩

/-- **soundness composition** (through the checker as written, `C01.rust_verify_text_sound`): every claim of the module
of a trace of the fragment whose `execute_full` run returns holds in every model of its axioms — the imported ones
(`func_subst_axiom`, `ceil(x0)`), the rules, and the functional assumptions -/
theorem k_module_sound (sg : Sig) (n0 n : Nat) (init : NPat) (steps : List (NPat × List (Nat × NPat)))
    (st : ExecSt) (s : PySt) (calls : List Call)
    (htrace : traceF sg n0 (initSt init) steps = some (some st)) (hfrag : KSteps steps = true)
    (hex : PModule.executeFull {} n st.module = some (some (s, calls)))
    (𝔐 : Model) (hΓ : ∀ a ∈ st.module.gammaAxioms, ValidM 𝔐 a.expand) :
    ∀ q ∈ st.claims, ValidM 𝔐 q.expand := by
  obtain ⟨_, _, g, c, p, _, hv⟩ := k_module_core sg n0 n init steps st kImports s calls htrace hfrag
    kImports_gax hex (rhoInj s.symtab) (rhoInj_agree _)
  exact sound_of_verify hv 𝔐 hΓ

open ProofTie in
theorem executeFull_mono (cfg : Cfg) (m : PModule) : Mono (fun n => PModule.executeFull cfg n m) := by
  simp only [executeFull_eq]
  exact mono_andThen (pub_mono cfg _ _ _ _) fun s1 a1 => mono_andThen (mono_doCalls s1 _ a1) fun s2 a2 =>
    mono_andThen (pub_mono cfg _ _ s2 a2) fun s3 a3 => mono_andThen (mono_doCalls s3 _ a3) fun s4 a4 =>
    proofs_mono cfg m _ s4 a4

theorem executeFull_fuel_irrelevant {cfg : Cfg} {m : PModule} {n n' : Nat} {r r' : Option (PySt × List Call)}
    (h : PModule.executeFull cfg n m = some r) (h' : PModule.executeFull cfg n' m = some r') : r = r' := by
  have h1 := executeFull_mono cfg m _ _ (Nat.le_max_left n n') _ h
  have h2 := executeFull_mono cfg m _ _ (Nat.le_max_right n n') _ h'
  rw [h1] at h2
  exact Option.some.inj h2

end C20

/-! ## 5. non-vacuity: a concrete signature, rules, ground substitution and two-step trace -/
namespace C20.Example
open Kore KMod PySt EndToEnd

/-- one sort; a cell `k(_)` and three functional constants `a`, `b`, `c` -/
def sg : Sig := { sorts := [0], symbols := [
  { name := 0, nSortParams := 0, nInputs := 1, isCell := true },
  { name := 1, nSortParams := 0, nInputs := 0, isFunctional := true },
  { name := 2, nSortParams := 0, nInputs := 0, isFunctional := true },
  { name := 3, nSortParams := 0, nInputs := 0, isFunctional := true }] }

def S : KSort := .app 0
def cell (t : KTerm) : KTerm := .app 0 [] [t]
def a : KTerm := .app 1 [] []
def b : KTerm := .app 2 [] []
def c : KTerm := .app 3 [] []

/-- `k(X) => k(b)` and `k(b) => k(c)` -/
def rule1K : KTerm := .rewrites S (cell (.evar 7)) (cell b)
def rule2K : KTerm := .rewrites S (cell b) (cell c)

def conv1 : Option (Scope × NPat) := conv sg {} rule1K
def rule1 : NPat := (conv1.map (·.2)).getD (.sym 0)
def sc1 : Scope := (conv1.map (·.1)).getD {}
def rule2 : NPat := (convertPattern sg rule2K).getD (.sym 0)
def sub1 : Option (Scope × List (Nat × NPat)) := convertSubst sg sc1 [(7, a)] []
/-- the converted substitution `X ↦ a` of the first step -/
def σ1 : List (Nat × NPat) := (sub1.map (·.2)).getD []
/-- the initial configuration `k(a)` -/
def init : NPat := (convertPattern sg (cell a)).getD (.sym 0)
/-- `k(a) =[rule1, X ↦ a]=> k(b) =[rule2]=> k(c)` -/
def steps : List (NPat × List (Nat × NPat)) := [(rule1, σ1), (rule2, [])]

/-- the state `from_proof_hints` reaches, and what `execute_full` returns for its module -/
def traceSt : ExecSt := retVal (traceF sg 100 (initSt init) steps)
def plainRun : PySt × List Call := runVal {} (fun _ => false) 100 traceSt.module

/-- evaluated once: the trace is accepted by `from_proof_hints`, its steps are in the fragment, the first step adds the
functional assumption `functional(a)` (three axioms), `execute_full` returns, the streams are wire byte strings, and
the symbols of the history are not named by position -/
theorem plain_evaluated : returns (traceF sg 100 (initSt init) steps) = true ∧ KSteps steps = true ∧
    traceSt.axioms.length = 3 ∧ returns (executeFullR {} (fun _ => false) 100 traceSt.module) = true ∧
    wireCalls 100 (PySt.init traceSt.claims) plainRun.2 = true ∧ ¬ PFExample.canonB [] plainRun.2 = true := by
  decide +kernel

theorem trace_eq : traceF sg 100 (initSt init) steps = some (some traceSt) := eq_retVal plain_evaluated.1

theorem plainRun_eq : PModule.executeFull {} 100 traceSt.module = some (some (plainRun.1, plainRun.2)) :=
  executeFull_runVal suggOf_plain plain_evaluated.2.2.2.1

theorem plainRun_wire : wireCheck 100 traceSt.claims plainRun.2 = true :=
  wireCheck_of_calls plain_evaluated.2.2.2.2.1

/-- **all hypotheses of the theorems hold** -/
theorem hypotheses_hold : ∃ st s calls, traceF sg 100 (initSt init) steps = some (some st) ∧
    KSteps steps = true ∧ st.axioms.length = 3 ∧
    PModule.executeFull {} 100 st.module = some (some (s, calls)) ∧ wireCheck 100 st.claims calls = true :=
  ⟨traceSt, plainRun.1, plainRun.2, trace_eq, plain_evaluated.2.1, plain_evaluated.2.2.1, plainRun_eq, plainRun_wire⟩

/-- the steps are in the fragment also by the conversion theorems: the rules are conversions, the substitution is the
conversion of a ground substitution -/
theorem steps_by_conversion : stepOK (rule1, σ1) = true := by
  have h1 : conv1.isSome = true := by decide +kernel
  have h2 : sub1.isSome = true := by decide +kernel
  obtain ⟨⟨sc, p⟩, hp⟩ := Option.isSome_iff_exists.mp h1
  obtain ⟨⟨sc', δ⟩, hδ⟩ := Option.isSome_iff_exists.mp h2
  have e1 : rule1 = p := by simp [rule1, hp]
  have e2 : sc1 = sc := by simp [sc1, hp]
  have e3 : σ1 = δ := by simp [σ1, hδ]
  rw [e1, e3]
  refine converted_step_in_fragment sg rule1K [(7, a)] sc sc' p δ hp ?_ (by rw [← e2]; exact hδ)
  intro x t hxt
  simp only [List.mem_singleton, Prod.mk.injEq] at hxt
  obtain ⟨_, rfl⟩ := hxt
  rfl

/-- hence the checker (model and `lib.rs` as translated) accepts the bytes of this module … -/
theorem accepted : ∃ (st : ExecSt) (s : PySt) (g c p : List Instr),
    verifyBytes (encode g) (encode c) (encode p)
      = some (st.module.gammaAxioms.map (fun a => Pat.ren (fun nm => s.symtab.idxOf nm) a.expand),
          st.claims.reverse.map (fun a => Pat.ren (fun nm => s.symtab.idxOf nm) a.expand)) ∧
    st.module.gammaAxioms.length = 5 ∧
    ∀ r0 : RustExec.RSt, (Gen.Rust.verify (encode g) (encode c) (encode p) r0).isSome = true := by
  obtain ⟨st, s, calls, ht, hk, hl, hex, _⟩ := hypotheses_hold
  obtain ⟨g, c, p, _, _, hv, _, hr⟩ := k_module_bytes_accepted sg 100 100 init steps st s calls ht hk hex
  refine ⟨st, s, g, c, p, hv, ?_, hr⟩
  rw [module_gamma, kImports_gamma]
  simp [hl]

/-- … as byte strings proper … -/
theorem accepted_u8 : ∃ gb cb pb : List UInt8, ∀ r0 : RustExec.RSt,
    (Gen.Rust.verify (gb.map UInt8.toNat) (cb.map UInt8.toNat) (pb.map UInt8.toNat) r0).isSome = true := by
  obtain ⟨st, s, calls, ht, hk, hl, hex, hw⟩ := hypotheses_hold
  obtain ⟨gb, cb, pb, _, _, hr⟩ := k_module_u8_accepted sg 100 100 init steps st s calls ht hk hex hw
  exact ⟨gb, cb, pb, hr⟩

theorem canonB_complete : ∀ (cs : List Call) (tab : List Nat), MM.CanonCalls tab cs →
    PFExample.canonB tab cs = true := by
  intro cs
  induction cs with
  | nil => intro tab _; rfl
  | cons c cs ih =>
    intro tab h
    cases c with
    | symbol nm =>
      simp only [PFExample.canonB, Bool.and_eq_true, decide_eq_true_eq]
      exact ⟨h.1, ih _ h.2⟩
    | _ => exact ih tab h

/-- why the journal is stated up to the naming `ρ`: the symbols of a K module (`⌈_⌉ ↦ 1000`, `ksym_<n> ↦ 2001+2n`, …) are
not named by their position in the serializer's table, so the hypothesis `CanonCalls` under which C02 identifies the
journal with the declaration itself FAILS for the run of this module (as for every K module) -/
theorem not_canonical : ∃ st s calls, traceF sg 100 (initSt init) steps = some (some st) ∧
    PModule.executeFull {} 100 st.module = some (some (s, calls)) ∧ ¬ MM.CanonCalls [] calls :=
  ⟨traceSt, plainRun.1, plainRun.2, trace_eq, plainRun_eq, mt (canonB_complete _ _) plain_evaluated.2.2.2.2.2⟩

/-- … and its claims hold in every model of its five axioms -/
theorem sound : ∃ st : ExecSt, st.claims.length = 2 ∧
    ∀ 𝔐 : Model, (∀ a ∈ st.module.gammaAxioms, ValidM 𝔐 a.expand) → ∀ q ∈ st.claims, ValidM 𝔐 q.expand := by
  obtain ⟨st, s, calls, ht, hk, hl, hex, _⟩ := hypotheses_hold
  refine ⟨st, ?_, fun 𝔐 hΓ => k_module_sound sg 100 100 init steps st s calls ht hk hex 𝔐 hΓ⟩
  obtain ⟨insts, hc, hlen, _⟩ := C20.chain_claims sg 100 steps _ st ht
  rw [hc]; simp [initSt, hlen, steps]

end C20.Example

#print axioms C20.conv_in_fragment
#print axioms C20.conv_ground_closed
#print axioms C20.converted_step_in_fragment
#print axioms C20.functional_assumption_ok
#print axioms C20.nonground_value_refused
#print axioms C20.k_module_side
#print axioms C20.k_module_accepted
#print axioms C20.k_module_accepted_general
#print axioms C20.k_module_bytes_accepted
#print axioms C20.k_module_u8_accepted
#print axioms C20.k_module_sound
#print axioms C20.Example.hypotheses_hold
#print axioms C20.Example.steps_by_conversion
#print axioms C20.Example.accepted
#print axioms C20.Example.accepted_u8
#print axioms C20.Example.not_canonical
#print axioms C20.Example.sound
