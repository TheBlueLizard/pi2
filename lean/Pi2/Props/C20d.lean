import Pi2.KDefTieM
import Pi2.Props.C20c
/-!
# C20 — Kore definitions with SEVERAL modules

The specification `KDefSpec.sigOfDefinitionM` (`Pi2/KDefSpec.lean`, section "definitions with SEVERAL modules") says what a
definition of any number of modules means; it was written after probing the real `LanguageSemantics.from_kore_definition`
(`vlib/try_kdef.py` compares specification / generated text / real code on generated several-module definitions on every run).

PROVED here:
* `multi_spec_is_the_one_module_spec`: on every one-module definition `sigOfDefinitionM` is `sigOfDefinition`;
* `kore_definition_text_is_the_model_multi_one`, `k_pipeline_text_is_the_model_multi_one`: the tie theorems of `Pi2/Props/C20.lean`
  restated with the several-module specification (one module that does not import itself, every valid set order, fuel ≥ 2);
* `multi_spec_one_counter`, `multi_spec_signature_of_all_modules`: the ordinals of `sigOfDefinitionM` run on across the modules; its
  signature is that of all modules, its rules those the main module reaches;
* `Example` (non-vacuity, `decide +kernel`): a diamond of four modules (0; 1 and 2 import 0; 3 imports 1 and 2; rules in 2 and 3
  that use symbols of three modules; an axiom that is not a rule in 1) is in `InFragmentM`, the specification accepts it, and the
  GENERATED `from_kore_definition` — for the identity set order and for the reversing one — returns a store with the
  specification's signature, counter, `get_axiom`, cached scopes, `get_sort` / `get_symbol`; `island`: a rule in a module that the
  main module does not import is converted (its scope is cached) but `get_axiom` does not find it, in the specification and in the
  generated text.
NOT proved: the tie for ALL definitions of `InFragmentM` and ALL valid set orders (the general several-module store).
-/
namespace C20
section Multi
open PyI PyM PyK Kore Gen.PyKDef KDefSpec KDefTie KDefTieM

/-- on every one-module definition (accepted or refused) the several-module specification is the one-module one -/
theorem multi_spec_is_the_one_module_spec (m : KModuleDef) : sigOfDefinitionM ⟨[m]⟩ = sigOfDefinition ⟨[m]⟩ :=
  sigOfDefinitionM_one m

/-- `kore_definition_text_is_the_model` with the several-module specification, on the one-module fragment -/
theorem kore_definition_text_is_the_model_multi_one (so : SetOrder) (hso : so.Valid) (n : Nat) (d : KDefinition) (hf : InFragment d) :
    Gen.PyKDef.translated = true ∧
    match sigOfDefinitionM d with
    | none => LanguageSemantics.from_kore_definition so (n + 2) d = raise
    | some ds => ∃ h, LanguageSemantics.from_kore_definition so (n + 2) d = ret h ∧
        sigView h = ds.sg ∧
        (∀ o, LanguageSemantics.get_axiom (n + 2) h o = some ((ds.rule? o).map axiomOf)) ∧
        (∀ o, h._cached_axiom_scopes.lookup o = (ds.rule? o).map fun ru => scopeObj ru.scope) ∧
        (∀ k, (LanguageSemantics.get_sort so (n + 2) h k).map (Option.map fun s => s.name)
            = some (if ds.sg.sorts.contains k then some k else none)) ∧
        (∀ k, (LanguageSemantics.get_symbol so (n + 2) h k).map (Option.map symDeclOf) = some (ds.sg.symbols.find? (·.name == k))) ∧
        (∀ s, (LanguageSemantics.resolve_to_ksymbol so (n + 2) h (.sym s)).map (Option.map (Option.map symDeclOf))
            = ret (if s ≥ 2001 ∧ s < 100000 ∧ (s - 2001) % 2 = 0 then ds.sg.symbols.find? (·.name == (s - 2001) / 2) else none)) := by
  obtain ⟨m, rfl⟩ := inFragment_one hf
  rw [sigOfDefinitionM_one]
  exact kore_definition_text_is_the_model so hso n _ hf

/-- `k_pipeline_text_is_the_model` with the several-module specification, on the one-module fragment -/
theorem k_pipeline_text_is_the_model_multi_one (so : SetOrder) (hso : so.Valid) (n k : Nat) (d : KDefinition) (hf : InFragment d)
    (ds : DefSem) (hd : sigOfDefinitionM d = some ds) (tr : PyLLVMTrace) (init : NPat) (s0 : Step) (ss : List Step)
    (ht : traceSteps ds tr = some (init, s0 :: ss)) (hrw : ∀ s ∈ s0 :: ss, s.rule.kind = .rewrite) :
    ∃ ls ls' hints,
      LanguageSemantics.from_kore_definition so (n + 2) d = ret ls ∧
      get_proof_hints (n + 2) ls tr = ret (ls', hints) ∧
      sigView ls' = ds.sg ∧
      (Gen.PyKore.ExecutionProofExp.from_proof_hints k hints (semView ls')
          = (match traceF ds.sg k (initSt init) (modelSteps (s0 :: ss)) with
             | none => none
             | some none => some none
             | some (some st) => ret (some (KoreTie.withSt (Gen.PyKore.ExecutionProofExp.__init__ (semView ls') init) st)))
        ∨ (traceF ds.sg k (initSt init) (modelSteps (s0 :: ss)) = none
            ∧ Gen.PyKore.ExecutionProofExp.from_proof_hints k hints (semView ls') = some none)) := by
  obtain ⟨m, rfl⟩ := inFragment_one hf
  rw [sigOfDefinitionM_one] at hd
  exact k_pipeline_text_is_the_model so hso n k _ hf ds hd tr init s0 ss ht hrw

/-- ONE counter in the specification: a sentence of ANY module that is accepted leaves the counter or (an `Axiom`) raises it by
one, and a rule it adds has the counter's value as its ordinal — the ordinals never restart at a module boundary
(`addModule` hands the counter on: `modulesOfDefinition`) -/
theorem multi_spec_one_counter {d d' : DefSemM} {s : KSentence} (h : addSentenceM d s = some d') :
    d'.all.nAxioms = d.all.nAxioms + (match s with | .«axiom» _ => 1 | _ => 0) ∧
    (d'.all.rules = d.all.rules ∨ ∃ ru, d'.all.rules = d.all.rules ++ [ru] ∧ ru.ordinal = d.all.nAxioms) :=
  ⟨addSentenceM_counter h, addSentenceM_rules h⟩

/-- the signature and the axiom count of `sigOfDefinitionM` are those of ALL modules; its rules are the rules of all modules cut
down to the ordinals the main (= last) module reaches -/
theorem multi_spec_signature_of_all_modules (d : KDefinition) (ds : DefSem) (h : sigOfDefinitionM d = some ds) :
    ∃ all ms, modulesOfDefinition d = some (all, ms) ∧ ds.sg = all.sg ∧ ds.nAxioms = all.nAxioms ∧
      ds.rules = all.rules.filter fun r => (mainOrdinals ms).contains r.ordinal :=
  sigOfDefinitionM_sig d ds h

end Multi

/-! ## non-vacuity: a diamond of modules -/
namespace ExampleMulti
open PyI PyM PyK Kore Gen.PyKDef KDefSpec KDefTie KDefTieM

def S : KSort := .app 1
def a : KTerm := .app 10 [] []
def b : KTerm := .app 11 [] []
def f (t : KTerm) : KTerm := .app 13 [] [t]
def rw (l r : KTerm) : KSentence := .«axiom» (.rewrites S (.and S l (.top S)) (.and S r (.top S)))

/-- 0: sort, `a`;  1 imports 0: `b`, an axiom that is not a rule;  2 imports 0: `f`, the rule `f(X) => a` (ordinal 1);
3 imports 1 and 2: the rule `b => f(a)` (ordinal 2) -/
def diamond : KDefinition :=
  ⟨[⟨0, [.sortDecl 1 false, .symbolDecl 10 [] [] S []]⟩,
    ⟨1, [.«import» 0, .symbolDecl 11 [] [] S [], .«axiom» (.top S)]⟩,
    ⟨2, [.«import» 0, .symbolDecl 13 [] [S] S [.app 1000001 [] []], rw (f (.evar 7)) a]⟩,
    ⟨3, [.«import» 1, .«import» 2, rw b (f a)]⟩]⟩

/-- like `diamond`, but the last module imports only 1: the rule of module 2 is not reachable from the main module -/
def island : KDefinition :=
  ⟨[⟨0, [.sortDecl 1 false, .symbolDecl 10 [] [] S []]⟩,
    ⟨1, [.«import» 0, .symbolDecl 11 [] [] S [], .«axiom» (.top S)]⟩,
    ⟨2, [.«import» 0, .symbolDecl 13 [] [S] S [], rw (f (.evar 7)) a]⟩,
    ⟨3, [.«import» 1, rw b (f a)]⟩]⟩

/-- syntactic equality of patterns (ordered maps), by structural recursion: the kernel evaluates it -/
def peq : NPat → NPat → Bool
  | .evar x, .evar y => x == y | .svar x, .svar y => x == y | .sym x, .sym y => x == y
  | .imp l r, .imp l' r' => peq l l' && peq r r'
  | .app l r, .app l' r' => peq l l' && peq r r'
  | .ex x p, .ex y q => x == y && peq p q
  | .mu x p, .mu y q => x == y && peq p q
  | .mv i e s po ne ho, .mv i' e' s' po' ne' ho' => i == i' && e == e' && s == s' && po == po' && ne == ne' && ho == ho'
  | .esub p x q, .esub p' x' q' => peq p p' && x == x' && peq q q'
  | .ssub p x q, .ssub p' x' q' => peq p p' && x == x' && peq q q'
  | .inst p m, .inst p' m' => peq p p' && peqL m m'
  | _, _ => false
where
  peqL : List (Nat × NPat) → List (Nat × NPat) → Bool
    | [], [] => true
    | (k, p) :: r, (k', p') :: r' => k == k' && peq p p' && peqL r r'
    | _, _ => false

def axEq : Option PyAxiom → Option PyAxiom → Bool
  | none, none => true
  | some (.rewriting x), some (.rewriting y) => x.ordinal == y.ordinal && peq x.pattern y.pattern
  | some (.equational x), some (.equational y) => x.ordinal == y.ordinal && peq x.pattern y.pattern
  | _, _ => false

def scopeKeys (s : PyScope) : List Nat × List Nat := (s._metavars.map (·.1), s._sort_param_metavars.map (·.1))
def declKey (d : SymDecl) : Nat × Nat × Nat × Bool × Bool × Bool := (d.name, d.nSortParams, d.nInputs, d.isCell, d.isFunctional, d.isKseq)

/-- the generated builder under the set order `so` against the meaning `ds` (and the rules `allRules` of all modules) -/
def tieOK (so : SetOrder) (d : KDefinition) (ds : DefSem) (allRules : List Rule) : Bool :=
  match LanguageSemantics.from_kore_definition so 20 d with
  | some (some h) =>
      (sigView h).sorts == ds.sg.sorts && (sigView h).symbols.map declKey == ds.sg.symbols.map declKey &&
      h.counters == [ds.nAxioms] &&
      (List.range (ds.nAxioms + 2)).all (fun o =>
        (match LanguageSemantics.get_axiom 20 h o with
         | some r => axEq r ((ds.rule? o).map axiomOf)
         | none => false) &&
        (h._cached_axiom_scopes.lookup o).map scopeKeys == ((allRules.find? (·.ordinal == o)).map fun ru => scopeKeys (scopeObj ru.scope))) &&
      [1, 2, 10, 11, 13, 14].all (fun k =>
        (LanguageSemantics.get_sort so 20 h k).map (Option.map fun s => s.name) == some (if ds.sg.sorts.contains k then some k else none) &&
        (LanguageSemantics.get_symbol so 20 h k).map (Option.map fun s => declKey (symDeclOf s))
          == some ((ds.sg.symbols.find? (·.name == k)).map declKey))
  | _ => false

def checkDef (d : KDefinition) (ordinals allOrdinals : List Nat) : Bool :=
  inFragmentM d &&
  match sigOfDefinitionM d, allRulesOfDefinition d with
  | some ds, some allRules =>
      ds.sg.sorts == [1] && ds.sg.symbols.map (·.name) == [10, 11, 13] && ds.nAxioms == 3 &&
      ds.rules.map (·.ordinal) == ordinals && allRules.map (·.ordinal) == allOrdinals &&
      tieOK id d ds allRules && tieOK List.reverse d ds allRules
  | _, _ => false

/-- a hint stream over the diamond: `b =[2]=> f(a) =[1, X ↦ a]=> a` -/
def trace : PyLLVMTrace := { initial_config := b, trace := [.rule 2 [], .config (f a), .rule 1 [(7, a)], .config a] }

def checkTrace : Bool :=
  match sigOfDefinitionM diamond, LanguageSemantics.from_kore_definition id 20 diamond with
  | some ds, some (some h) =>
      (match traceStepsR ds trace, get_proof_hints 20 h trace with
       | some (_, _, steps), some (some (_, hints)) =>
           steps.length == 2 && hints.length == 2 &&
           (steps.zip hints).all fun (s, hn) => axEq (some (axiomOf s.rule)) (some hn.«axiom») &&
             peq s.before hn.configuration_before && peq s.after hn.configuration_after
       | _, _ => false) &&
      -- over `island` the same stream is refused on both sides: the rule 1 is not reachable from the main module
      (match sigOfDefinitionM island, LanguageSemantics.from_kore_definition id 20 island with
       | some ds', some (some h') => (traceStepsR ds' trace).isNone && (get_proof_hints 20 h' trace matches some none)
       | _, _ => false)
  | _, _ => false

theorem diamond_ok : checkDef diamond [1, 2] [1, 2] = true := by decide +kernel

theorem island_ok : checkDef island [2] [1, 2] = true := by decide +kernel

theorem trace_ok : checkTrace = true := by decide +kernel

theorem diamond_in_fragment : InFragmentM diamond := by decide +kernel

theorem reverse_valid : SetOrder.Valid List.reverse := fun l => List.reverse_perm l

/-- broken several-module definitions are refused by the specification: an import of a later module, a module name used twice, a
module imported twice, a symbol over a sort of a module that is not imported -/
theorem refusals :
    sigOfDefinitionM ⟨[⟨0, [.«import» 1]⟩, ⟨1, []⟩]⟩ = none ∧
    sigOfDefinitionM ⟨[⟨0, []⟩, ⟨0, []⟩]⟩ = none ∧
    sigOfDefinitionM ⟨[⟨0, []⟩, ⟨1, [.«import» 0, .«import» 0]⟩]⟩ = none ∧
    sigOfDefinitionM ⟨[⟨0, [.sortDecl 1 false]⟩, ⟨1, [.symbolDecl 10 [] [] S []]⟩]⟩ = none ∧
    (sigOfDefinitionM ⟨[⟨0, [.sortDecl 1 false]⟩, ⟨1, [.«import» 0, .symbolDecl 10 [] [] S []]⟩]⟩).isSome = true := by
  decide +kernel

end ExampleMulti
end C20

#print axioms C20.multi_spec_is_the_one_module_spec
#print axioms C20.kore_definition_text_is_the_model_multi_one
#print axioms C20.k_pipeline_text_is_the_model_multi_one
#print axioms C20.multi_spec_one_counter
#print axioms C20.multi_spec_signature_of_all_modules
#print axioms C20.ExampleMulti.diamond_ok
#print axioms C20.ExampleMulti.island_ok
#print axioms C20.ExampleMulti.trace_ok
#print axioms C20.ExampleMulti.refusals
