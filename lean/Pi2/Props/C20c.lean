import Pi2.KoreText
import Pi2.KModMemo
import Pi2.KModMemoEx
import Pi2.Props.C20b
import Pi2.Props.C08b
/-!
# C20 (acceptance, from the TEXTS) — the module the translated generator builds is accepted by the translated checker

The hypotheses `traceF … = some (some st)` and `PModule.executeFull {} n st.module = some (some (s, calls))` of
`k_module_bytes_accepted` / `k_module_sound` (`Pi2/Props/C20b.lean`) are replaced by their text-side counterparts:

* `ExecutionProofExp.from_proof_hints` **as translated** (`Pi2/Gen/PyKore.lean`) returns the object `e'`
  (text → model: `KoreTie.from_proof_hints_eq`, packaged as `KMod.from_proof_hints_model`; the hypothesis
  `AllRewriting` of that tie is itself derived from the text returning, `KMod.allRewriting_of_text`);
* `ProofExp.execute_full` **as translated** (`Pi2/Gen/PyProof.lean`), on the `ProofExp` of the module of `e'` (its thunks
  built by the translated rule constructors, `buildAll`), running on `StatefulInterpreter` **as translated**
  (`Pi2/Gen/PyInterp.lean`), returns the state `s` and the history `calls`
  (text → model: `C03.phases_text_on_stateful_text_is_the_model`, unconditional for dicts with distinct keys).

**The module of the Python object.** `KMod.execModule e' = PModule.mk e'._axioms e'._claims e'._proof_expressions kImports`:
the three `ProofExp` fields `rewrite_event` fills, and the modules `ExecutionProofExp.__init__` imports (`kImports`:
`Substitution()` with `func_subst_axiom`, `KoreLemmas()` → `Definedness()` with `ceil(x0)`).  The tie gives
`e' = withSt (ExecutionProofExp.__init__ sem c₀) st` for the model state `st`, so `execModule e' = st.module`
definitionally (`KMod.execModule_withSt`) and `e'._claims = st.claims`.

The only remaining hypothesis that is not about a text returning is the decidable fragment condition `KSteps` on the
steps of the hints (rules and substitution values in the propositional fragment, distinct keys, `x0` fresh in the
values); `k_pipeline_text_module_accepted` starts one step earlier, at a Kore definition and an LLVM hint stream, and
`k_pipeline_ground_text_module_accepted` DERIVES the fragment condition there from the stream being ground.

**B. the memoising serialisation** (`k_module_memo_accepted`, `…_bytes_accepted`, `…_u8_accepted`, `…_sound`,
`k_trace_text_module_memo_accepted`): for EVERY suggestion set.  The obstacle named in `Pi2/Props/C20b.lean` — `load`
needs `==` to be truthful on the constrained metavariable — is removed by `NPat.peqF_expand_QF` (`Pi2/KModEq.lean`):
`==` decides equality of expansions on every pattern whose substitution nodes are meta-headed and outside notation nodes,
whatever the metavariables' constraints (`eq_truthful_on_quiet`; boundary: `Example.quiet_boundary`).  The compilation of
patterns and the three loops of `execute_full` are redone for an arbitrary configuration in `Pi2/KModMemo.lean`.

**Non-vacuity** (`C20.Example`, all by `decide +kernel`): the two-step trace from the texts (`text_accepted`, `text_sound`),
from a Kore definition and a hint stream (`pipeline_accepted`, `pipeline_ground_accepted`), through the memoising
serialiser with `S = ∅` and with `S = {phi0 with x0 fresh}` — one `Save` and two `Load`s of the constrained
metavariable (`memo_accepted`; evaluated through `KMod.executeFullR`, `Pi2/KModMemoEx.lean`, because `NPat.seq` is
defined by well-founded recursion) — and through the translated `MemoizingInterpreter` (`text_memo_accepted`).
-/
set_option linter.unusedVariables false
namespace C20
open Kore KMod PySt EndToEnd PyI PyK Gen.PyProof ProofTie ComposeTie KoreTie

/-- what acceptance means for the module of the object `e'` and a run `(s, calls)` of `execute_full` on it: the history
replays to three instruction lists, the translated serializer writes their encodings, the model checker on bytes accepts
them and publishes the declaration — every symbol named by its position in the serializer's table —, `verify` of
`rust/src/lib.rs` as translated accepts them from every initial content of its registers; every claim is discharged -/
def KAccepted (n : Nat) (e' : PyExec) (s : PySt) (calls : List Call) (g c p : List Instr) : Prop :=
  s.claims = [] ∧
  PySt.trackAll n (PySt.init e'._claims) calls ([], [], []) = some (some (s, (g, c, p))) ∧
  writeAll n (PySt.init e'._claims) calls ([], [], []) = some (some (s, (encode g, encode c, encode p))) ∧
  verifyBytes (encode g) (encode c) (encode p)
    = some ((execModule e').gammaAxioms.map (fun a => Pat.ren (fun nm => s.symtab.idxOf nm) a.expand),
        e'._claims.reverse.map (fun a => Pat.ren (fun nm => s.symtab.idxOf nm) a.expand)) ∧
  Gen.Rust.execTranslated = true ∧
  ∀ r0 : RustExec.RSt, (Gen.Rust.verify (encode g) (encode c) (encode p) r0).isSome = true

/-- the model facts behind the text hypotheses: the state of the trace, whose module is the module of the object; the
dicts of its proof expressions have distinct keys (the fragment invariant) -/
theorem text_to_model (n0 : Nat) (sem : PySem) (hints : List PyHint) (e' : PyExec)
    (htrace : Gen.PyKore.ExecutionProofExp.from_proof_hints n0 hints sem = some (some (some e')))
    (hfrag : KSteps (hints.map stepOf) = true) :
    ∃ h0 hs st, hints = h0 :: hs ∧
      traceF sem.sg n0 (initSt h0.configuration_before) (hints.map stepOf) = some (some st) ∧
      execModule e' = st.module ∧ e'._claims = st.claims ∧ ∀ pf ∈ (execModule e').proofsOf, KeysNodup pf := by
  obtain ⟨h0, hs, rfl⟩ := hints_ne_nil_of_text n0 sem hints e' htrace
  have hall := allRewriting_of_text n0 sem _ _ htrace
  obtain ⟨st, hst, rfl⟩ := from_proof_hints_model n0 sem h0 hs hall e' htrace
  exact ⟨h0, hs, st, rfl, hst, rfl, rfl, fun pf hpf =>
    ((trace_inv sem.sg n0 _ _ st hfrag (kinv_init _) hst).proofs pf hpf).keysNodup⟩

/-- **1. from the texts** (plain serialisation).  If the translated `from_proof_hints` returns the object `e'` for a
hint list whose steps are in the fragment, and the translated `execute_full` on the translated `StatefulInterpreter`
returns `(s, calls)` for the module of `e'`, then for some fuel the history replays to three instruction lists whose
encodings the translated serializer writes and which `verifyBytes` and the translated Rust `verify` accept, publishing
the declaration of the module; every claim is discharged -/
theorem k_trace_text_module_accepted (n0 N : Nat) (sem : PySem) (hints : List PyHint) (e' : PyExec)
    (htrace : Gen.PyKore.ExecutionProofExp.from_proof_hints n0 hints sem = some (some (some e')))
    (hfrag : KSteps (hints.map stepOf) = true)
    (thunks : List (ProofThunk ProofTie.St)) (f : PModule → List (ProofThunk ProofTie.St)) (s : PySt) (calls : List Call)
    (hb : buildAll N e'._axioms e'._proof_expressions = some (some thunks))
    (hx : ProofExp.execute_full N (expOf thunks f (execModule e')) (statefulK N N) (PySt.init e'._claims, [])
      = some (some (s, calls))) :
    ∃ n g c p, KAccepted n e' s calls g c p := by
  obtain ⟨h0, hs, st, rfl, hst, hm, hc, hk⟩ := text_to_model n0 sem hints e' htrace hfrag
  obtain ⟨n, hex⟩ := (C03.phases_text_on_stateful_text_is_the_model N (execModule e') hk).2 thunks f (s, calls) hb hx
  rw [hm] at hex
  obtain ⟨hfin, _⟩ := k_module_accepted sem.sg n0 n _ _ st s calls hst hfrag hex
  obtain ⟨g, c, p, hT, hW, hv, htr, hr⟩ := k_module_bytes_accepted sem.sg n0 n _ _ st s calls hst hfrag hex
  refine ⟨n, g, c, p, hfin, ?_, ?_, ?_, htr, hr⟩
  · rw [hc]; exact hT
  · rw [hc]; exact hW
  · rw [hm, hc]; exact hv

/-- **1 (bytes proper).** if moreover the three streams are wire byte strings (decidable `wireCheck`), they are three
`List UInt8` which the serializer as translated writes and `verify` of `lib.rs` as translated accepts -/
theorem k_trace_text_module_u8_accepted (n0 N : Nat) (sem : PySem) (hints : List PyHint) (e' : PyExec)
    (htrace : Gen.PyKore.ExecutionProofExp.from_proof_hints n0 hints sem = some (some (some e')))
    (hfrag : KSteps (hints.map stepOf) = true)
    (thunks : List (ProofThunk ProofTie.St)) (f : PModule → List (ProofThunk ProofTie.St)) (s : PySt) (calls : List Call)
    (hb : buildAll N e'._axioms e'._proof_expressions = some (some thunks))
    (hx : ProofExp.execute_full N (expOf thunks f (execModule e')) (statefulK N N) (PySt.init e'._claims, [])
      = some (some (s, calls)))
    (n' : Nat) (hw : wireCheck n' e'._claims calls = true) :
    ∃ (n : Nat) (gb cb pb : List UInt8),
      writeAll n (PySt.init e'._claims) calls ([], [], [])
        = some (some (s, (gb.map UInt8.toNat, cb.map UInt8.toNat, pb.map UInt8.toNat))) ∧
      verifyBytes (gb.map UInt8.toNat) (cb.map UInt8.toNat) (pb.map UInt8.toNat)
        = some ((execModule e').gammaAxioms.map (fun a => Pat.ren (fun nm => s.symtab.idxOf nm) a.expand),
            e'._claims.reverse.map (fun a => Pat.ren (fun nm => s.symtab.idxOf nm) a.expand)) ∧
      ∀ r0 : RustExec.RSt,
        (Gen.Rust.verify (gb.map UInt8.toNat) (cb.map UInt8.toNat) (pb.map UInt8.toNat) r0).isSome = true := by
  obtain ⟨n, g, c, p, _, hT, hW, hvb, _, hr⟩ :=
    k_trace_text_module_accepted n0 N sem hints e' htrace hfrag thunks f s calls hb hx
  obtain ⟨gb, cb, pb, hg, hc, hp⟩ := wire_u8 hw hT
  rw [← hg, ← hc, ← hp] at hW hvb hr
  exact ⟨n, gb, cb, pb, hW, hvb, hr⟩

/-- **1 (soundness).** under the same text hypotheses, every claim of the object holds in every model of the axioms of
its module — the imported ones (`func_subst_axiom`, `ceil(x0)`), the rules and the functional assumptions — through the
bytes and `verify` of `lib.rs` as translated (`C01.rust_verify_text_sound`) -/
theorem k_trace_text_module_sound (n0 N : Nat) (sem : PySem) (hints : List PyHint) (e' : PyExec)
    (htrace : Gen.PyKore.ExecutionProofExp.from_proof_hints n0 hints sem = some (some (some e')))
    (hfrag : KSteps (hints.map stepOf) = true)
    (thunks : List (ProofThunk ProofTie.St)) (f : PModule → List (ProofThunk ProofTie.St)) (s : PySt) (calls : List Call)
    (hb : buildAll N e'._axioms e'._proof_expressions = some (some thunks))
    (hx : ProofExp.execute_full N (expOf thunks f (execModule e')) (statefulK N N) (PySt.init e'._claims, [])
      = some (some (s, calls)))
    (𝔐 : Model) (hΓ : ∀ a ∈ (execModule e').gammaAxioms, ValidM 𝔐 a.expand) :
    ∀ q ∈ e'._claims, ValidM 𝔐 q.expand := by
  obtain ⟨h0, hs, st, rfl, hst, hm, hc, hk⟩ := text_to_model n0 sem hints e' htrace hfrag
  obtain ⟨n, hex⟩ := (C03.phases_text_on_stateful_text_is_the_model N (execModule e') hk).2 thunks f (s, calls) hb hx
  rw [hm] at hex hΓ
  rw [hc]
  exact k_module_sound sem.sg n0 n _ _ st s calls hst hfrag hex 𝔐 hΓ

/-! ## 2. one step earlier: a Kore definition and an LLVM hint stream -/
section Pipeline
open PyM Gen.PyKDef KDefSpec KDefTie

/-- **2. from a Kore definition and a hint stream, all translated text.**  If `LanguageSemantics.from_kore_definition`
returns a semantics `ls` for a definition of the one-module fragment, `get_proof_hints` turns the stream into the hints
(leaving the semantics `ls'`), `ExecutionProofExp.from_proof_hints` on them returns the object `e'`, and `execute_full`
on the translated `StatefulInterpreter` returns for the module of `e'`, then the bytes are accepted by both checkers.
The steps of the fragment condition are the specification's steps of the stream (`traceStepsR`), which the hints are. -/
theorem k_pipeline_text_module_accepted (so : SetOrder) (hso : so.Valid) (n n0 N : Nat) (d : KDefinition)
    (hf : InFragment d) (tr : PyLLVMTrace) (ls ls' : PyLS) (hints : List PyHint) (e' : PyExec)
    (h1 : LanguageSemantics.from_kore_definition so (n + 2) d = ret ls)
    (h2 : get_proof_hints (n + 2) ls tr = ret (ls', hints))
    (htrace : Gen.PyKore.ExecutionProofExp.from_proof_hints n0 hints (semView ls') = some (some (some e')))
    (hfrag : KSteps (hints.map stepOf) = true)
    (thunks : List (ProofThunk ProofTie.St)) (f : PModule → List (ProofThunk ProofTie.St)) (s : PySt) (calls : List Call)
    (hb : buildAll N e'._axioms e'._proof_expressions = some (some thunks))
    (hx : ProofExp.execute_full N (expOf thunks f (execModule e')) (statefulK N N) (PySt.init e'._claims, [])
      = some (some (s, calls))) :
    (∃ ds init rules' steps, sigOfDefinition d = some ds ∧ traceStepsR ds tr = some (init, rules', steps) ∧
      hints = steps.map hintOf ∧ (semView ls').sg = ds.sg ∧ hints.map stepOf = modelSteps steps ∧
      ∃ st, traceF ds.sg n0 (initSt init) (modelSteps steps) = some (some st) ∧ execModule e' = st.module) ∧
    ∃ m g c p, KAccepted m e' s calls g c p := by
  refine ⟨?_, k_trace_text_module_accepted n0 N _ hints e' htrace hfrag thunks f s calls hb hx⟩
  obtain ⟨ds, init, rules', steps, hd, ht, hh, hsg, hms⟩ := pipeline_model so hso n d hf tr ls ls' hints h1 h2
  refine ⟨ds, init, rules', steps, hd, ht, hh, hsg, hms, ?_⟩
  obtain ⟨h0, hs, st, he, hst, hm, _⟩ := text_to_model n0 _ hints e' htrace hfrag
  refine ⟨st, ?_, hm⟩
  have hsg' : (semView ls').sg = ds.sg := hsg
  rw [hsg', hms] at hst
  -- the configuration before the first hint is the initial configuration of the stream
  cases steps with
  | nil => rw [hh] at he; cases he
  | cons s0 ss =>
    have hinit : h0.configuration_before = init := by
      rw [hh] at he
      simp only [List.map_cons, List.cons.injEq] at he
      rw [← he.1]
      simp only [traceStepsR, Option.bind_eq_bind, Option.bind_eq_some_iff, Option.pure_def, Option.some.injEq,
        Prod.mk.injEq] at ht
      obtain ⟨i0, _, ⟨rs, sts⟩, hsf, rfl, rfl, rfl⟩ := ht
      exact stepsF_first hsf
    rw [hinit] at hst
    exact hst

/-- **2 (no fragment hypothesis).**  The same with the fragment condition DERIVED: if the substitutions of the rule events of
the stream are ground (`GroundStream`: what an execution trace records), the steps are in the fragment — the rules
because they are conversions (`conv_PF`), the substitutions because they are conversions of ground substitutions
(`convertSubst_ok`).  Every remaining hypothesis says that a translated function returns. -/
theorem k_pipeline_ground_text_module_accepted (so : SetOrder) (hso : so.Valid) (n n0 N : Nat) (d : KDefinition)
    (hf : InFragment d) (tr : PyLLVMTrace) (ls ls' : PyLS) (hints : List PyHint) (e' : PyExec)
    (h1 : LanguageSemantics.from_kore_definition so (n + 2) d = ret ls)
    (h2 : get_proof_hints (n + 2) ls tr = ret (ls', hints))
    (htrace : Gen.PyKore.ExecutionProofExp.from_proof_hints n0 hints (semView ls') = some (some (some e')))
    (hg : GroundStream tr)
    (thunks : List (ProofThunk ProofTie.St)) (f : PModule → List (ProofThunk ProofTie.St)) (s : PySt) (calls : List Call)
    (hb : buildAll N e'._axioms e'._proof_expressions = some (some thunks))
    (hx : ProofExp.execute_full N (expOf thunks f (execModule e')) (statefulK N N) (PySt.init e'._claims, [])
      = some (some (s, calls))) :
    (∃ m g c p, KAccepted m e' s calls g c p) ∧
    ∀ 𝔐 : Model, (∀ a ∈ (execModule e').gammaAxioms, ValidM 𝔐 a.expand) → ∀ q ∈ e'._claims, ValidM 𝔐 q.expand := by
  obtain ⟨ds, init, rules', steps, hd, ht, hh, hsg, hms⟩ := pipeline_model so hso n d hf tr ls ls' hints h1 h2
  have hfrag : KSteps (hints.map stepOf) = true := by
    rw [hms]; exact ksteps_of_ground d ds tr init rules' steps hd ht hg
  exact ⟨k_trace_text_module_accepted n0 N _ hints e' htrace hfrag thunks f s calls hb hx,
    fun 𝔐 hΓ => k_trace_text_module_sound n0 N _ hints e' htrace hfrag thunks f s calls hb hx 𝔐 hΓ⟩

end Pipeline

/-! ## B. the memoising serialisation

`serialize(optimize=True)` runs `execute_full` on `MemoizingInterpreter(serializer, S)`: a pattern that is `==` to a
memory entry is `load`ed, a pattern of the suggestion set `S` is `save`d after it has been built.  The entry found has to
have the expansion of the pattern asked for; `==` (`NPat.peqF`) was known to be truthful on *shaped* patterns only, and
the metavariable `phi0` with `x0` fresh of `functional` / `func_subst_axiom` is not shaped.

`NPat.peqF_expand_QF` (`Pi2/KModEq.lean`): `==` is truthful on *quiet* patterns (`NPat.QF`) — substitution nodes
meta-headed and OUTSIDE notation nodes, no condition at all on metavariables.  Every pattern that `execute_full` of a K
module hands to `pattern` is quiet (`KMod.KAx.gaxq`, `KMod.kImports_gaxq`, `KMod.PF.qf`), so NO hypothesis on `S` is
needed: the theorems hold for every suggestion set. -/

/-- Python's `==` on quiet patterns decides equality of the expansions — whatever the constraints of the
metavariables; in particular on every sub-pattern of `functional(v)` and of `func_subst_axiom` -/
theorem eq_truthful_on_quiet (n : Nat) (a b : NPat) (r : Bool) (ha : a.QF = true) (hb : b.QF = true)
    (h : NPat.peqF n a b = some r) : r = decide (a.expand = b.expand) :=
  NPat.peqF_expand_QF n a b r ha hb h

/-- the patterns of a K module are quiet; the constrained metavariable and the definition of `functional` are not
shaped (so `NPat.peqF_expand` does not apply to them) -/
theorem k_patterns_quiet :
    (∀ p : NPat, p.PF = true → p.QF = true) ∧
    (∀ v : NPat, v.PF = true → (NPat.inst fnDef [(0, v)]).QF = true) ∧
    funcSubstAxiom.QF = true ∧ definednessAxiom.QF = true ∧
    (NPat.mv 0 [0] [] [] [] []).QF = true ∧ (NPat.mv 0 [0] [] [] [] []).Shape = false ∧
    fnDef.Shape = false ∧ funcSubstAxiom.Shape = false := by
  refine ⟨fun p hp => PF.qf hp, fun v hv => ?_, imports_qf.1, imports_qf.2.1, rfl, rfl, ?_, ?_⟩
  · simp [NPat.QF, imports_qf.2.2, NPat.SubFreeMap, PF.subFree v hv]
  · decide +kernel
  · decide +kernel

/-- **B (side conditions, acceptance).** for every configuration `cfg` of the serialiser — plain, or memoising with ANY
suggestion set — the run of `execute_full` on the module of a trace of the fragment satisfies the checker's side
conditions, replays to three instruction lists that the reference machine accepts, discharges every claim, and the
journal is the declaration (symbols named by position) -/
theorem k_module_cfg_accepted (cfg : PySt.Cfg) (sg : Sig) (n0 n : Nat) (init : NPat)
    (steps : List (NPat × List (Nat × NPat))) (st : ExecSt) (s : PySt) (calls : List Call)
    (htrace : traceF sg n0 (initSt init) steps = some (some st)) (hfrag : KSteps steps = true)
    (hex : PModule.executeFull cfg n st.module = some (some (s, calls))) :
    s.claims = [] ∧ AllSideK n (PySt.init st.claims) calls ∧
    ∃ g c p, PySt.trackAll n (PySt.init st.claims) calls ([], [], []) = some (some (s, (g, c, p))) ∧
      verify g c p = some (st.module.gammaAxioms.map (fun a => Pat.ren (fun nm => s.symtab.idxOf nm) a.expand),
        st.claims.reverse.map (fun a => Pat.ren (fun nm => s.symtab.idxOf nm) a.expand)) :=
  k_module_memo_core cfg sg n0 n init steps st kImports s calls htrace hfrag kImports_gaxq hex _ (agree_idxOf _)

/-- **B.** the memoising serialisation with suggestion set `S` (any) of the K module is accepted -/
theorem k_module_memo_accepted (S : List NPat) (sg : Sig) (n0 n : Nat) (init : NPat)
    (steps : List (NPat × List (Nat × NPat))) (st : ExecSt) (s : PySt) (calls : List Call)
    (htrace : traceF sg n0 (initSt init) steps = some (some st)) (hfrag : KSteps steps = true)
    (hex : PModule.executeFull { memo := some S } n st.module = some (some (s, calls))) :
    s.claims = [] ∧ AllSideK n (PySt.init st.claims) calls ∧
    ∃ g c p, PySt.trackAll n (PySt.init st.claims) calls ([], [], []) = some (some (s, (g, c, p))) ∧
      verify g c p = some (st.module.gammaAxioms.map (fun a => Pat.ren (fun nm => s.symtab.idxOf nm) a.expand),
        st.claims.reverse.map (fun a => Pat.ren (fun nm => s.symtab.idxOf nm) a.expand)) :=
  k_module_cfg_accepted { memo := some S } sg n0 n init steps st s calls htrace hfrag hex

/-- **B (bytes).** the bytes the translated serializer writes along the memoising run are accepted by `verifyBytes` and
by `verify` of `rust/src/lib.rs` as translated -/
theorem k_module_cfg_bytes_accepted (cfg : PySt.Cfg) (sg : Sig) (n0 n : Nat) (init : NPat)
    (steps : List (NPat × List (Nat × NPat))) (st : ExecSt) (s : PySt) (calls : List Call)
    (htrace : traceF sg n0 (initSt init) steps = some (some st)) (hfrag : KSteps steps = true)
    (hex : PModule.executeFull cfg n st.module = some (some (s, calls))) :
    ∃ g c p, PySt.trackAll n (PySt.init st.claims) calls ([], [], []) = some (some (s, (g, c, p))) ∧
      writeAll n (PySt.init st.claims) calls ([], [], []) = some (some (s, (encode g, encode c, encode p))) ∧
      verifyBytes (encode g) (encode c) (encode p)
        = some (st.module.gammaAxioms.map (fun a => Pat.ren (fun nm => s.symtab.idxOf nm) a.expand),
            st.claims.reverse.map (fun a => Pat.ren (fun nm => s.symtab.idxOf nm) a.expand)) ∧
      Gen.Rust.execTranslated = true ∧
      ∀ r0 : RustExec.RSt, (Gen.Rust.verify (encode g) (encode c) (encode p) r0).isSome = true := by
  obtain ⟨_, _, g, c, p, hT, hv⟩ := k_module_cfg_accepted cfg sg n0 n init steps st s calls htrace hfrag hex
  refine ⟨g, c, p, hT, writeAll_of_trackAll_init n calls _ s g c p hT, ?_,
    (C05.rust_verify_is_the_model [] [] [] default).1, fun r0 => rust_accepts_encode g c p _ hv r0⟩
  rw [verifyBytes_encode, hv]

theorem k_module_memo_bytes_accepted (S : List NPat) (sg : Sig) (n0 n : Nat) (init : NPat)
    (steps : List (NPat × List (Nat × NPat))) (st : ExecSt) (s : PySt) (calls : List Call)
    (htrace : traceF sg n0 (initSt init) steps = some (some st)) (hfrag : KSteps steps = true)
    (hex : PModule.executeFull { memo := some S } n st.module = some (some (s, calls))) :
    ∃ g c p, PySt.trackAll n (PySt.init st.claims) calls ([], [], []) = some (some (s, (g, c, p))) ∧
      writeAll n (PySt.init st.claims) calls ([], [], []) = some (some (s, (encode g, encode c, encode p))) ∧
      verifyBytes (encode g) (encode c) (encode p)
        = some (st.module.gammaAxioms.map (fun a => Pat.ren (fun nm => s.symtab.idxOf nm) a.expand),
            st.claims.reverse.map (fun a => Pat.ren (fun nm => s.symtab.idxOf nm) a.expand)) ∧
      Gen.Rust.execTranslated = true ∧
      ∀ r0 : RustExec.RSt, (Gen.Rust.verify (encode g) (encode c) (encode p) r0).isSome = true :=
  k_module_cfg_bytes_accepted { memo := some S } sg n0 n init steps st s calls htrace hfrag hex

/-- **B (bytes proper).** if the three streams are wire byte strings, they are three `List UInt8`, accepted -/
theorem k_module_memo_u8_accepted (S : List NPat) (sg : Sig) (n0 n : Nat) (init : NPat)
    (steps : List (NPat × List (Nat × NPat))) (st : ExecSt) (s : PySt) (calls : List Call)
    (htrace : traceF sg n0 (initSt init) steps = some (some st)) (hfrag : KSteps steps = true)
    (hex : PModule.executeFull { memo := some S } n st.module = some (some (s, calls)))
    (hw : wireCheck n st.claims calls = true) :
    ∃ gb cb pb : List UInt8,
      writeAll n (PySt.init st.claims) calls ([], [], [])
        = some (some (s, (gb.map UInt8.toNat, cb.map UInt8.toNat, pb.map UInt8.toNat))) ∧
      verifyBytes (gb.map UInt8.toNat) (cb.map UInt8.toNat) (pb.map UInt8.toNat)
        = some (st.module.gammaAxioms.map (fun a => Pat.ren (fun nm => s.symtab.idxOf nm) a.expand),
            st.claims.reverse.map (fun a => Pat.ren (fun nm => s.symtab.idxOf nm) a.expand)) ∧
      ∀ r0 : RustExec.RSt,
        (Gen.Rust.verify (gb.map UInt8.toNat) (cb.map UInt8.toNat) (pb.map UInt8.toNat) r0).isSome = true := by
  obtain ⟨g, c, p, hT, hW, hvb, _, hr⟩ := k_module_memo_bytes_accepted S sg n0 n init steps st s calls htrace hfrag hex
  obtain ⟨gb, cb, pb, hg, hc, hp⟩ := wire_u8 hw hT
  rw [← hg, ← hc, ← hp] at hW hvb hr
  exact ⟨gb, cb, pb, hW, hvb, hr⟩

/-- **B (soundness).** every claim of the module holds in every model of its axioms, through the bytes of the
memoising serialisation and the checker as written -/
theorem k_module_cfg_sound (cfg : PySt.Cfg) (sg : Sig) (n0 n : Nat) (init : NPat)
    (steps : List (NPat × List (Nat × NPat))) (st : ExecSt) (s : PySt) (calls : List Call)
    (htrace : traceF sg n0 (initSt init) steps = some (some st)) (hfrag : KSteps steps = true)
    (hex : PModule.executeFull cfg n st.module = some (some (s, calls)))
    (𝔐 : Model) (hΓ : ∀ a ∈ st.module.gammaAxioms, ValidM 𝔐 a.expand) :
    ∀ q ∈ st.claims, ValidM 𝔐 q.expand := by
  obtain ⟨_, _, g, c, p, _, hv⟩ := k_module_memo_core cfg sg n0 n init steps st kImports s calls htrace hfrag
    kImports_gaxq hex (rhoInj s.symtab) (rhoInj_agree _)
  exact sound_of_verify hv 𝔐 hΓ

theorem k_module_memo_sound (S : List NPat) (sg : Sig) (n0 n : Nat) (init : NPat)
    (steps : List (NPat × List (Nat × NPat))) (st : ExecSt) (s : PySt) (calls : List Call)
    (htrace : traceF sg n0 (initSt init) steps = some (some st)) (hfrag : KSteps steps = true)
    (hex : PModule.executeFull { memo := some S } n st.module = some (some (s, calls)))
    (𝔐 : Model) (hΓ : ∀ a ∈ st.module.gammaAxioms, ValidM 𝔐 a.expand) :
    ∀ q ∈ st.claims, ValidM 𝔐 q.expand :=
  k_module_cfg_sound { memo := some S } sg n0 n init steps st s calls htrace hfrag hex 𝔐 hΓ

/-! ### B, from the texts: `MemoizingInterpreter(StatefulInterpreter, S)` as translated -/

/-- **A + B.** If the translated `from_proof_hints` returns the object `e'` (steps in the fragment) and the translated
`execute_full`, running on the translated `MemoizingInterpreter` over the translated `StatefulInterpreter` with ANY
suggestion set `S` — the object `serialize(optimize=True)` builds —, returns the state `τ` (`τ.sub` = the state of the
wrapped interpreter and the history it received), then the bytes are accepted by both checkers and every claim is
discharged -/
theorem k_trace_text_module_memo_accepted (n0 N : Nat) (S : List NPat) (sem : PySem) (hints : List PyHint) (e' : PyExec)
    (htrace : Gen.PyKore.ExecutionProofExp.from_proof_hints n0 hints sem = some (some (some e')))
    (hfrag : KSteps (hints.map stepOf) = true)
    (thunks : List (ProofThunk (TrSt ProofTie.St))) (f : PModule → List (ProofThunk (TrSt ProofTie.St)))
    (τ : TrSt ProofTie.St)
    (hb : buildAll N e'._axioms e'._proof_expressions = some (some thunks))
    (hx : ProofExp.execute_full N (expOf thunks f (execModule e')) (statefulMemoK N N S)
      (embM (PySt.init e'._claims, [])) = some (some τ)) :
    ∃ n g c p, KAccepted n e' τ.sub.1 τ.sub.2 g c p := by
  obtain ⟨h0, hs, st, rfl, hst, hm, hc, hk⟩ := text_to_model n0 sem hints e' htrace hfrag
  obtain ⟨n, s, calls, hex, rfl⟩ :=
    (C03.memo_phases_text_on_stateful_text_is_the_model N S (execModule e') hk).1.2 thunks f τ hb hx
  rw [hm] at hex
  obtain ⟨hfin, _⟩ := k_module_memo_accepted S sem.sg n0 n _ _ st s calls hst hfrag hex
  obtain ⟨g, c, p, hT, hW, hv, htr, hr⟩ := k_module_memo_bytes_accepted S sem.sg n0 n _ _ st s calls hst hfrag hex
  refine ⟨n, g, c, p, hfin, ?_, ?_, ?_, htr, hr⟩
  · rw [hc]; exact hT
  · rw [hc]; exact hW
  · rw [hm, hc]; exact hv

/-- **A + B (soundness).** -/
theorem k_trace_text_module_memo_sound (n0 N : Nat) (S : List NPat) (sem : PySem) (hints : List PyHint) (e' : PyExec)
    (htrace : Gen.PyKore.ExecutionProofExp.from_proof_hints n0 hints sem = some (some (some e')))
    (hfrag : KSteps (hints.map stepOf) = true)
    (thunks : List (ProofThunk (TrSt ProofTie.St))) (f : PModule → List (ProofThunk (TrSt ProofTie.St)))
    (τ : TrSt ProofTie.St)
    (hb : buildAll N e'._axioms e'._proof_expressions = some (some thunks))
    (hx : ProofExp.execute_full N (expOf thunks f (execModule e')) (statefulMemoK N N S)
      (embM (PySt.init e'._claims, [])) = some (some τ))
    (𝔐 : Model) (hΓ : ∀ a ∈ (execModule e').gammaAxioms, ValidM 𝔐 a.expand) :
    ∀ q ∈ e'._claims, ValidM 𝔐 q.expand := by
  obtain ⟨h0, hs, st, rfl, hst, hm, hc, hk⟩ := text_to_model n0 sem hints e' htrace hfrag
  obtain ⟨n, s, calls, hex, rfl⟩ :=
    (C03.memo_phases_text_on_stateful_text_is_the_model N S (execModule e') hk).1.2 thunks f τ hb hx
  rw [hm] at hex hΓ
  rw [hc]
  exact k_module_memo_sound S sem.sg n0 n _ _ st s calls hst hfrag hex 𝔐 hΓ

end C20


/-! ## non-vacuity: the two-step trace of `C20.Example`, from the texts and through the memoising serialisations -/
namespace C20.Example
open Kore KMod PySt EndToEnd PyI PyK Gen.PyProof ProofTie ComposeTie KoreTie

/-- the semantics object: the signature of the example, no cached scope -/
def sem : PySem := { sg := sg, _cached_axiom_scopes := [] }
def after1 : NPat := (convertPattern sg (cell b)).getD (.sym 0)
def after2 : NPat := (convertPattern sg (cell c)).getD (.sym 0)
/-- the two hints `k(a) =[rule1, X ↦ a]=> k(b) =[rule2]=> k(c)` as `RewriteStepExpression` objects -/
def hints : List PyHint :=
  [{ configuration_before := init, configuration_after := after1, «axiom» := .rewriting ⟨0, rule1⟩, substitutions := σ1 },
   { configuration_before := after1, configuration_after := after2, «axiom» := .rewriting ⟨1, rule2⟩, substitutions := [] }]

/-- the stages from the texts, each translated function applied to what the one before returned: `from_proof_hints`
builds the object `obj`; the rule constructors build the thunks of its proof expressions; `execute_full` runs on its
module, on the `StatefulInterpreter` and on the `MemoizingInterpreter` over it (empty suggestion set: the translated
membership test is `NPat.seq` too) -/
def objPy : Py (Option PyExec) := Gen.PyKore.ExecutionProofExp.from_proof_hints 100 hints sem
def obj : PyExec := (retVal objPy).getD default
def thunksPy (τ : Type) : Py (List (ProofThunk τ)) := buildAll 100 obj._axioms obj._proof_expressions
def textRunPy : Py ProofTie.St :=
  ProofExp.execute_full 100 (expOf (retVal (thunksPy _)) (fun _ => []) (execModule obj)) (statefulK 100 100)
    (PySt.init obj._claims, [])
instance : Inhabited (TrSt ProofTie.St) := ⟨embM default⟩
def textMemoRunPy : Py (TrSt ProofTie.St) :=
  ProofExp.execute_full 100 (expOf (retVal (thunksPy _)) (fun _ => []) (execModule obj)) (statefulMemoK 100 100 [])
    (embM (PySt.init obj._claims, []))

/-- evaluated once: every stage returns, the steps of the hints are in the fragment, the module has five axioms -/
theorem text_evaluated : returns objPy = true ∧ (retVal objPy).isSome = true ∧ KSteps (hints.map stepOf) = true ∧
    (execModule obj).gammaAxioms.length = 5 ∧ returns (thunksPy ProofTie.St) = true ∧ returns textRunPy = true ∧
    returns (thunksPy (TrSt ProofTie.St)) = true ∧ returns textMemoRunPy = true := by
  decide +kernel

/-- the hints are the steps of `Pi2/Props/C20b.lean`: whatever object `from_proof_hints` returns for them carries the
module of `traceSt`, and a run from the texts on it is a run of the model
(`C03.phases_text_on_stateful_text_is_the_model`), hence `plainRun`, whose streams are wire byte strings -/
theorem text_run_wire (e' : PyExec) (thunks : List (ProofThunk ProofTie.St)) (s : PySt) (calls : List Call)
    (he : Gen.PyKore.ExecutionProofExp.from_proof_hints 100 hints sem = some (some (some e')))
    (hks : KSteps (hints.map stepOf) = true)
    (hb : buildAll 100 e'._axioms e'._proof_expressions = some (some thunks))
    (hx : ProofExp.execute_full 100 (expOf thunks (fun _ => []) (execModule e')) (statefulK 100 100)
      (PySt.init e'._claims, []) = some (some (s, calls))) : wireCheck 100 e'._claims calls = true := by
  obtain ⟨h0, hs, st, hh, hst, hm, hc, hk⟩ := text_to_model 100 sem hints e' he hks
  cases hh
  have hsteps : hints.map stepOf = steps := by simp only [hints, steps, List.map, stepOf]
  rw [hsteps] at hst
  obtain rfl : traceSt = st := Option.some.inj (Option.some.inj (trace_eq.symm.trans hst))
  obtain ⟨n, hex⟩ := (C03.phases_text_on_stateful_text_is_the_model 100 (execModule e') hk).2 _ _ _ hb hx
  rw [hm] at hex
  have h := executeFull_fuel_irrelevant hex plainRun_eq
  simp only [Option.some.injEq, Prod.mk.injEq] at h
  rw [hc, h.2]
  exact plainRun_wire

/-- **all hypotheses of the text theorems hold** for the example -/
theorem text_hypotheses_hold : ∃ (e' : PyExec) (thunks : List (ProofThunk ProofTie.St)) (s : PySt) (calls : List Call),
    Gen.PyKore.ExecutionProofExp.from_proof_hints 100 hints sem = some (some (some e')) ∧
    KSteps (hints.map stepOf) = true ∧ (execModule e').gammaAxioms.length = 5 ∧
    buildAll 100 e'._axioms e'._proof_expressions = some (some thunks) ∧
    ProofExp.execute_full 100 (expOf thunks (fun _ => []) (execModule e')) (statefulK 100 100)
      (PySt.init e'._claims, []) = some (some (s, calls)) ∧
    wireCheck 100 e'._claims calls = true := by
  obtain ⟨h1, h2, hks, hl, h3, h4, _⟩ := text_evaluated
  have he : objPy = some (some (some obj)) := eq_retVal_some h1 h2
  have hb : thunksPy ProofTie.St = _ := eq_retVal h3
  have hx : textRunPy = _ := eq_retVal_pair h4
  exact ⟨obj, _, _, _, he, hks, hl, hb, hx, text_run_wire obj _ _ _ he hks hb hx⟩

/-- hence, from the texts: the bytes of the module are accepted by both checkers … -/
theorem text_accepted : ∃ (e' : PyExec) (s : PySt) (calls : List Call) (n : Nat) (g c p : List Instr),
    KAccepted n e' s calls g c p ∧ (execModule e').gammaAxioms.length = 5 := by
  obtain ⟨e', thunks, s, calls, he, hk, hl, hb, hx, _⟩ := text_hypotheses_hold
  obtain ⟨n, g, c, p, h⟩ := k_trace_text_module_accepted 100 100 sem hints e' he hk thunks _ s calls hb hx
  exact ⟨e', s, calls, n, g, c, p, h, hl⟩

/-- … as byte strings proper … -/
theorem text_accepted_u8 : ∃ gb cb pb : List UInt8, ∀ r0 : RustExec.RSt,
    (Gen.Rust.verify (gb.map UInt8.toNat) (cb.map UInt8.toNat) (pb.map UInt8.toNat) r0).isSome = true := by
  obtain ⟨e', thunks, s, calls, he, hk, hl, hb, hx, hw⟩ := text_hypotheses_hold
  obtain ⟨n, gb, cb, pb, _, _, hr⟩ :=
    k_trace_text_module_u8_accepted 100 100 sem hints e' he hk thunks _ s calls hb hx 100 hw
  exact ⟨gb, cb, pb, hr⟩

/-- … and its two claims hold in every model of its five axioms -/
theorem text_sound : ∃ e' : PyExec, e'._claims.length = 2 ∧
    ∀ 𝔐 : Model, (∀ a ∈ (execModule e').gammaAxioms, ValidM 𝔐 a.expand) → ∀ q ∈ e'._claims, ValidM 𝔐 q.expand := by
  obtain ⟨e', thunks, s, calls, he, hk, hl, hb, hx, _⟩ := text_hypotheses_hold
  refine ⟨e', ?_, fun 𝔐 hΓ => k_trace_text_module_sound 100 100 sem hints e' he hk thunks _ s calls hb hx 𝔐 hΓ⟩
  obtain ⟨h0, hs, st, hh, hst, _, hc, _⟩ := text_to_model 100 sem hints e' he hk
  obtain ⟨insts, hcl, hlen, _⟩ := C20.chain_claims sem.sg 100 _ _ st hst
  rw [hc, hcl]; simp [initSt, hlen, hints]

/-! ### one step earlier: a Kore definition and an LLVM hint stream -/
section Pipeline
open KDefSpec KDefTie

/-- the definition: sort `S`; the cell `k(_)`, the functional constants `a`, `b`, `c`; the rules
`k(X) ∧ ⊤ => k(b) ∧ ⊤` (ordinal 0) and `k(b) ∧ ⊤ => k(c) ∧ ⊤` (ordinal 1) -/
def kdef : KDefinition := ⟨[⟨0, [
  .sortDecl 0 false,
  .symbolDecl 0 [] [S] S [.app (strName "cell") [] []],
  .symbolDecl 1 [] [] S [.app (strName "functional") [] []],
  .symbolDecl 2 [] [] S [.app (strName "functional") [] []],
  .symbolDecl 3 [] [] S [.app (strName "functional") [] []],
  .«axiom» (.rewrites S (.and S (cell (.evar 7)) (.top S)) (.and S (cell b) (.top S))),
  .«axiom» (.rewrites S (.and S (cell b) (.top S)) (.and S (cell c) (.top S)))]⟩]⟩

/-- the hint stream: `k(a)`, rule 0 with `X ↦ a`, `k(b)`, rule 1, `k(c)` -/
def ktrace : PyLLVMTrace :=
  { initial_config := cell a, trace := [.rule 0 [(7, a)], .config (cell b), .rule 1 [], .config (cell c)] }

/-- the stages of the pipeline on `kdef` and `ktrace`, each translated function applied to what the one before returned -/
def pipeLsPy : Py PyLS := Gen.PyKDef.LanguageSemantics.from_kore_definition id 5 kdef
def pipeHintsPy : Py (PyLS × List PyHint) := Gen.PyKDef.get_proof_hints 5 (retVal pipeLsPy) ktrace
def pipeObjPy : Py (Option PyExec) :=
  Gen.PyKore.ExecutionProofExp.from_proof_hints 100 (retVal pipeHintsPy).2 (semView (retVal pipeHintsPy).1)
def pipeObj : PyExec := (retVal pipeObjPy).getD default
def pipeThunksPy : Py (List (ProofThunk ProofTie.St)) := buildAll 100 pipeObj._axioms pipeObj._proof_expressions
def pipeRunPy : Py ProofTie.St :=
  ProofExp.execute_full 100 (expOf (retVal pipeThunksPy) (fun _ => []) (execModule pipeObj)) (statefulK 100 100)
    (PySt.init pipeObj._claims, [])

/-- evaluated once: every stage returns, the steps of the hints are in the fragment, the object has two claims -/
theorem pipe_evaluated : returns pipeLsPy = true ∧ returns pipeHintsPy = true ∧ returns pipeObjPy = true ∧
    (retVal pipeObjPy).isSome = true ∧ KSteps ((retVal pipeHintsPy).2.map stepOf) = true ∧
    pipeObj._claims.length = 2 ∧ returns pipeThunksPy = true ∧ returns pipeRunPy = true := by
  decide +kernel

theorem kdef_inFragment : InFragment kdef := by
  refine ⟨_, rfl, ?_⟩
  intro s hs
  simp only [List.mem_cons, List.not_mem_nil, or_false] at hs
  rcases hs with rfl | rfl | rfl | rfl | rfl | rfl | rfl <;> trivial

/-- **all hypotheses of `k_pipeline_text_module_accepted` hold**: the translated `from_kore_definition` builds the
semantics, the translated `get_proof_hints` reads the stream, the translated `from_proof_hints` builds the object (two
claims), the translated `execute_full` returns — and so the bytes are accepted by both checkers -/
theorem pipeline_accepted : ∃ (e' : PyExec) (s : PySt) (calls : List Call) (n : Nat) (g c p : List Instr),
    KAccepted n e' s calls g c p ∧ e'._claims.length = 2 := by
  obtain ⟨h1, h2, h3, h3', hk, hl, h4, h5⟩ := pipe_evaluated
  obtain ⟨_, n, g, c, p, hacc⟩ := k_pipeline_text_module_accepted id (fun l => List.Perm.refl l) 3 100 100 kdef
    kdef_inFragment ktrace _ _ _ pipeObj (eq_retVal h1 : pipeLsPy = _) (eq_retVal_pair h2 : pipeHintsPy = _)
    (eq_retVal_some h3 h3' : pipeObjPy = _) hk _ _ _ _ (eq_retVal h4 : pipeThunksPy = _) (eq_retVal_pair h5 : pipeRunPy = _)
  exact ⟨pipeObj, _, _, n, g, c, p, hacc, hl⟩

theorem ktrace_ground : GroundStream ktrace := by
  intro it hit
  simp only [ktrace, List.mem_cons, List.not_mem_nil, or_false] at hit
  rcases hit with rfl | rfl | rfl | rfl
  · intro kv hkv
    simp only [List.mem_singleton] at hkv
    subst hkv; rfl
  · trivial
  · intro kv hkv; cases hkv
  · trivial

/-- the same through `k_pipeline_ground_text_module_accepted`: no fragment hypothesis, the stream is ground -/
theorem pipeline_ground_accepted : ∃ (e' : PyExec) (s : PySt) (calls : List Call),
    (∃ n g c p, KAccepted n e' s calls g c p) ∧ e'._claims.length = 2 ∧
    ∀ 𝔐 : Model, (∀ a ∈ (execModule e').gammaAxioms, ValidM 𝔐 a.expand) → ∀ q ∈ e'._claims, ValidM 𝔐 q.expand := by
  obtain ⟨h1, h2, h3, h3', _, hl, h4, h5⟩ := pipe_evaluated
  obtain ⟨hacc, hsound⟩ := k_pipeline_ground_text_module_accepted id (fun l => List.Perm.refl l) 3 100 100 kdef
    kdef_inFragment ktrace _ _ _ pipeObj (eq_retVal h1 : pipeLsPy = _) (eq_retVal_pair h2 : pipeHintsPy = _)
    (eq_retVal_some h3 h3' : pipeObjPy = _) ktrace_ground _ _ _ _ (eq_retVal h4 : pipeThunksPy = _)
    (eq_retVal_pair h5 : pipeRunPy = _)
  exact ⟨pipeObj, _, _, hacc, hl, hsound⟩

end Pipeline

/-! ### the memoising serialisations -/

def loadsX (c : Call) : Bool := match c with | .load (.pat p) => isX p | _ => false
def isSave (c : Call) : Bool := match c with | .save => true | _ => false

/-- what `execute_full` returns on the memoising serialiser with the empty suggestion set, and with the suggestion set
`{phi0 with x0 fresh}` -/
def memoRun0 : PySt × List Call := runVal { memo := some [] } (fun _ => false) 100 traceSt.module
def memoRunX : PySt × List Call := runVal { memo := some [phiX] } isX 100 traceSt.module

/-- evaluated once: both runs return and their streams are wire byte strings; with the suggestion set
`{phi0 with x0 fresh}` the constrained metavariable is `save`d once and `load`ed twice -/
theorem memo_evaluated : returns (executeFullR { memo := some [] } (fun _ => false) 100 traceSt.module) = true ∧
    wireCalls 100 (PySt.init traceSt.claims) memoRun0.2 = true ∧
    returns (executeFullR { memo := some [phiX] } isX 100 traceSt.module) = true ∧
    wireCalls 100 (PySt.init traceSt.claims) memoRunX.2 = true ∧
    (memoRunX.2.filter loadsX).length = 2 ∧ (memoRunX.2.filter isSave).length = 1 := by
  decide +kernel

/-- **all hypotheses of the memoising theorems hold**, for the empty suggestion set and for the suggestion set
`{phi0 with x0 fresh}` — in whose run the constrained metavariable, the one pattern outside `Shape`, is saved once and
loaded twice (`memory.index` answers by `phi0 == phi0`) -/
theorem memo_hypotheses_hold : ∃ st, traceF sg 100 (initSt init) steps = some (some st) ∧ KSteps steps = true ∧
    (∃ s calls, PModule.executeFull { memo := some [] } 100 st.module = some (some (s, calls)) ∧
      wireCheck 100 st.claims calls = true) ∧
    (∃ s calls, PModule.executeFull { memo := some [phiX] } 100 st.module = some (some (s, calls)) ∧
      wireCheck 100 st.claims calls = true ∧ (calls.filter loadsX).length = 2 ∧ (calls.filter isSave).length = 1) :=
  let ⟨h1, h2, h3, h4, h5⟩ := memo_evaluated
  ⟨traceSt, trace_eq, plain_evaluated.2.1,
    ⟨memoRun0.1, memoRun0.2, executeFull_runVal suggOf_nil h1, wireCheck_of_calls h2⟩,
    memoRunX.1, memoRunX.2, executeFull_runVal (cfg := { memo := some [phiX] }) seq_X h3, wireCheck_of_calls h4, h5⟩

/-- hence the bytes of the memoising serialisation with `S = {phi0 with x0 fresh}` — with its `Save` and its two `Load`s
of the constrained metavariable — are accepted by the model checker and by `verify` of `lib.rs` as translated … -/
theorem memo_accepted : ∃ (st : ExecSt) (s : PySt) (calls : List Call) (gb cb pb : List UInt8),
    PModule.executeFull { memo := some [phiX] } 100 st.module = some (some (s, calls)) ∧
    (calls.filter loadsX).length = 2 ∧
    verifyBytes (gb.map UInt8.toNat) (cb.map UInt8.toNat) (pb.map UInt8.toNat)
      = some (st.module.gammaAxioms.map (fun a => Pat.ren (fun nm => s.symtab.idxOf nm) a.expand),
          st.claims.reverse.map (fun a => Pat.ren (fun nm => s.symtab.idxOf nm) a.expand)) ∧
    ∀ r0 : RustExec.RSt,
      (Gen.Rust.verify (gb.map UInt8.toNat) (cb.map UInt8.toNat) (pb.map UInt8.toNat) r0).isSome = true := by
  obtain ⟨st, ht, hk, _, s, calls, hex, hw, hl, _⟩ := memo_hypotheses_hold
  obtain ⟨gb, cb, pb, _, hv, hr⟩ := k_module_memo_u8_accepted [phiX] sg 100 100 init steps st s calls ht hk hex hw
  exact ⟨st, s, calls, gb, cb, pb, hex, hl, hv, hr⟩

/-- … and the claims hold in every model of the axioms -/
theorem memo_sound : ∃ st : ExecSt, st.claims.length = 2 ∧
    ∀ 𝔐 : Model, (∀ a ∈ st.module.gammaAxioms, ValidM 𝔐 a.expand) → ∀ q ∈ st.claims, ValidM 𝔐 q.expand := by
  obtain ⟨st, ht, hk, _, s, calls, hex, _⟩ := memo_hypotheses_hold
  refine ⟨st, ?_, fun 𝔐 hΓ => k_module_memo_sound [phiX] sg 100 100 init steps st s calls ht hk hex 𝔐 hΓ⟩
  obtain ⟨insts, hc, hlen, _⟩ := C20.chain_claims sg 100 steps _ st ht
  rw [hc]; simp [initSt, hlen, steps]

/-- from the texts, through the memoising interpreter as translated: accepted -/
theorem text_memo_accepted : ∃ (e' : PyExec) (τ : TrSt ProofTie.St) (n : Nat) (g c p : List Instr),
    KAccepted n e' τ.sub.1 τ.sub.2 g c p := by
  obtain ⟨h1, h2, hks, _, _, _, h3, h4⟩ := text_evaluated
  obtain ⟨n, g, c, p, hacc⟩ := k_trace_text_module_memo_accepted 100 100 [] sem hints obj (eq_retVal_some h1 h2 : objPy = _)
    hks _ _ _ (eq_retVal h3 : thunksPy _ = _) (eq_retVal h4 : textMemoRunPy = _)
  exact ⟨obj, _, n, g, c, p, hacc⟩

/-- the boundary of "quiet": a substitution node INSIDE a notation node.  `Instantiate.simplify` of the empty map returns
the body `phi5[x1/x0]` as it is, which is `==` to the substitution node itself; but the expansion of the notation node
is the result of the substitution, `phi5` (where `x0` is fresh) — `==` answers `True` on patterns with different
expansions.  (No K module contains such a pattern; the machine refuses the substitution node.) -/
theorem quiet_boundary :
    let body : NPat := .esub (.mv 5 [0] [] [] [] []) 0 (.evar 1)
    (NPat.inst body []).QF = false ∧ body.QF = true ∧
    NPat.peqF 5 (NPat.inst body []) body = some true ∧ (NPat.inst body []).expand ≠ body.expand ∧ body.MOK = false := by
  decide +kernel

end C20.Example

#print axioms C20.k_trace_text_module_accepted
#print axioms C20.k_trace_text_module_u8_accepted
#print axioms C20.k_trace_text_module_sound
#print axioms C20.k_pipeline_text_module_accepted
#print axioms C20.k_pipeline_ground_text_module_accepted
#print axioms C20.eq_truthful_on_quiet
#print axioms C20.k_patterns_quiet
#print axioms C20.k_module_cfg_accepted
#print axioms C20.k_module_memo_accepted
#print axioms C20.k_module_memo_bytes_accepted
#print axioms C20.k_module_memo_u8_accepted
#print axioms C20.k_module_memo_sound
#print axioms C20.k_trace_text_module_memo_accepted
#print axioms C20.k_trace_text_module_memo_sound
#print axioms C20.Example.text_hypotheses_hold
#print axioms C20.Example.text_accepted
#print axioms C20.Example.text_accepted_u8
#print axioms C20.Example.text_sound
#print axioms C20.Example.pipeline_accepted
#print axioms C20.Example.pipeline_ground_accepted
#print axioms C20.Example.memo_hypotheses_hold
#print axioms C20.Example.memo_accepted
#print axioms C20.Example.memo_sound
#print axioms C20.Example.text_memo_accepted
#print axioms C20.Example.quiet_boundary
