import Pi2.PrettyOperands2
import Pi2.Props.C19b
/-!
# C19 (part) — the operands of a pretty `MetaVar` step, read back from its text; all 26 calls

`Pi2/Props/C19b.lean` (`pretty_step_operands_match_binary`) carried the hypothesis `callIsMetaVar c = false`: the text
of a `metavar` step was described (`pretty_metavar_text`) and one block read back, but not the whole text.  Here
(`Pi2/PrettyOperands2.lean`) the text `MetaVar <id><block>…` — the id is NOT separated from the first block; a block
`name, len=k i1 i2 … \n` is written only for a NON-EMPTY list — is split at the newlines, the id is the leading decimal
of the first line, and a name without a block is the empty list.  The reader is total on these texts, for all ids and
all five lists; so the format is injective and the hypothesis is dropped.
-/
set_option linter.unusedVariables false
open PySt PrettyOperands
namespace C19

/-- **the text of a `metavar` step shows the id and the five lists**, for all ids and all lists, empty ones included
(an empty list has no block; the reader answers `[]` for it).  `afterFirst ' '` is the text after `MetaVar `. -/
theorem pretty_metavar_text_shows_operands (σ : Nat → String) (id : Nat) (ef sf ps ns hs : List Nat) :
    PrettyTie.stepText σ (.metavar id ef sf ps ns hs) = prettyMetaVarText id ef sf ps ns hs ∧
      readMetaVar (afterFirst ' ' (prettyMetaVarText id ef sf ps ns hs).toList) = some (.lists id ef sf ps ns hs) :=
  ⟨metavar_text σ id ef sf ps ns hs, readMetaVar_prettyMetaVarText id ef sf ps ns hs⟩

/-- **the text format of `metavar` is injective**: two `metavar` calls that write the same text have the same id and
the same five lists (no list name is a prefix of another in a way that confuses the reader; the decimal of the id
does not run into the first name, which starts with a letter; the last item of a block is closed by a space) -/
theorem pretty_metavar_text_injective (σ : Nat → String) (id id' : Nat) (ef sf ps ns hs ef' sf' ps' ns' hs' : List Nat)
    (h : PrettyTie.stepText σ (.metavar id ef sf ps ns hs) = PrettyTie.stepText σ (.metavar id' ef' sf' ps' ns' hs')) :
    id = id' ∧ ef = ef' ∧ sf = sf' ∧ ps = ps' ∧ ns = ns' ∧ hs = hs' := by
  rw [metavar_text, metavar_text] at h
  exact prettyMetaVarText_inj id id' ef sf ps ns hs ef' sf' ps' ns' hs' h

/-- **every step line shows the operand of the call** — all decorated methods, `metavar` included; no assumption on
the free strings (symbol name, `load` id) -/
theorem pretty_line_shows_operand_all (σ : Nat → String) (c : Gen.PyPretty.PCall) :
    readOperand (PrettyTie.stepText σ c).toList = some (pcallOperand c) :=
  readOperand_stepText_all σ c

/-- **the step lines carry the operands of the binary instructions — every call.**  The statement of
`pretty_step_operands_match_binary` without the hypothesis `callIsMetaVar c = false`: for every call `c` the serializer
answers with `is` and the tracker accepts in state `s`, the operands read from the text of the step lines
`PrettyPrintingInterpreter` writes for `c` in `s` are the operands of `is`, one line per instruction, in order
(`metavar`: the id and the five lists of `MetaVar`, five empty lists for `CleanMetaVar`). -/
theorem pretty_step_operands_match_binary_all (n : Nat) (s s' : PySt) (c : Call) (is : List Instr)
    (h : emit1 n s c = some (some is)) (ht : track1 n s c = some (some s'))
    (σ symName : Nat → String) (saveId loadId : String) :
    (pcallIn n s symName saveId loadId c).toList.map (fun pc => readOperand (PrettyTie.stepText σ pc).toList) =
      is.map (instrOperand symName s'.symtab) := by
  rw [← pcall_operands_match_emitted n s s' c is h ht symName saveId loadId]
  cases hp : pcallIn n s symName saveId loadId c with
  | none => rfl
  | some pc => simp [readOperand_stepText_all σ pc]

/-- **the `len=k` field of a block is the length of the list**: in the block written for a non-empty list `l`, the
second space-separated piece is `len=` and the decimal of `l.length` -/
theorem pretty_metavar_len_field (p : String) (pc : Char) (hp : p.toList = [pc]) (nm : String)
    (hnm : ' ' ∉ nm.toList) (l : List Nat) (hl : l ≠ []) :
    (prettyBlock p nm l).toList = blockBody pc nm.toList l ++ ['\n'] ∧
      readLen (blockBody pc nm.toList l) = some l.length :=
  ⟨prettyBlock_toList p pc hp nm l hl, readLen_body pc nm.toList hnm l⟩

/-- the reader that checks the `len=` field accepts only blocks whose field is the number of items it reads, and
agrees with the unchecked reader there -/
theorem checked_block_reader_sound (l : List Char) (r : List Char × List Nat) (h : readBlockChecked l = some r) :
    readBlock l = some r ∧ readLen l = some r.2.length :=
  readBlockChecked_sound l r h

/-- **every step line shows the operand of the call, also to the reader that checks `len=`** -/
theorem pretty_line_shows_operand_checked (σ : Nat → String) (c : Gen.PyPretty.PCall) :
    readOperandChecked (PrettyTie.stepText σ c).toList = some (pcallOperand c) :=
  readOperandChecked_stepText σ c

/-- `pretty_step_operands_match_binary_all` for the reader that checks the `len=` field of every `MetaVar` block -/
theorem pretty_step_operands_match_binary_checked (n : Nat) (s s' : PySt) (c : Call) (is : List Instr)
    (h : emit1 n s c = some (some is)) (ht : track1 n s c = some (some s'))
    (σ symName : Nat → String) (saveId loadId : String) :
    (pcallIn n s symName saveId loadId c).toList.map (fun pc => readOperandChecked (PrettyTie.stepText σ pc).toList) =
      is.map (instrOperand symName s'.symtab) := by
  rw [← pcall_operands_match_emitted n s s' c is h ht symName saveId loadId]
  cases hp : pcallIn n s symName saveId loadId c with
  | none => rfl
  | some pc => simp [readOperandChecked_stepText σ pc]

/-! ## Non-vacuity: a constrained metavariable -/
namespace Constrained

/-- `phi3` with `eFresh = [1, 2]`, `neg = [7]`, `appctx = [10]` (two lists empty, one two-digit item) -/
def call : Call := .metavar 3 [1, 2] [] [] [7] [10]

/-- the translated printer writes this text for it … -/
theorem text : PrettyTie.stepText (fun _ => "") (.metavar 3 [1, 2] [] [] [7] [10]) =
    "MetaVar 3eFresh, len=2 x1 x2 \nneg, len=1 X7 \nappctx, len=1 x10 \n" := by decide +kernel

/-- … both readers read the id and the five lists back from it … -/
theorem read : readOperand "MetaVar 3eFresh, len=2 x1 x2 \nneg, len=1 X7 \nappctx, len=1 x10 \n".toList =
      some (.lists 3 [1, 2] [] [] [7] [10]) ∧
    readOperandChecked "MetaVar 3eFresh, len=2 x1 x2 \nneg, len=1 X7 \nappctx, len=1 x10 \n".toList =
      some (.lists 3 [1, 2] [] [] [7] [10]) := by
  -- the characters of the literal by `toList_ofList`: evaluating `toList` would decode its UTF-8 bytes in the kernel
  rw [String.toList_ofList]
  decide +kernel

/-- … the serializer answers the call in the initial state with one `MetaVar` instruction, the tracker accepts it
(the hypotheses of `pretty_step_operands_match_binary_all` hold of it) … -/
theorem answered : emit1 5 (init []) call = some (some [.metavar 3 [1, 2] [] [] [7] [10]]) ∧
    (track1 5 (init []) call).isSome = true ∧ callIsMetaVar call = true := by decide +kernel

/-- … and the two sides of `pretty_step_operands_match_binary_all` (the left one is `text`, read back by `read`) -/
theorem both_sides :
    (pcallIn 5 (init []) (fun _ => "") "" "" call).toList.map
        (fun pc => readOperand (PrettyTie.stepText (fun _ => "") pc).toList) =
      [some (.lists 3 [1, 2] [] [] [7] [10])] ∧
    [Instr.metavar 3 [1, 2] [] [] [7] [10]].map (instrOperand (fun _ => "") []) =
      [some (.lists 3 [1, 2] [] [] [7] [10])] := by
  have hp : pcallIn 5 (init []) (fun _ => "") "" "" call = some (.metavar 3 [1, 2] [] [] [7] [10]) := rfl
  refine ⟨?_, rfl⟩
  rw [hp, Option.toList, List.map, List.map, text, read.1]

/-- a wrong `len=` field: the unchecked reader does not see it, the checked reader refuses the line -/
theorem wrong_len : readOperand "MetaVar 3eFresh, len=5 x1 x2 \n".toList = some (.lists 3 [1, 2] [] [] [] []) ∧
    readOperandChecked "MetaVar 3eFresh, len=5 x1 x2 \n".toList = none := by
  rw [String.toList_ofList]
  decide +kernel

/-- different constraints, different texts (instances of injectivity): moving an id from one list to another, and
splitting `12` into `1, 2` -/
theorem different_texts (σ : Nat → String) :
    PrettyTie.stepText σ (.metavar 0 [1] [] [] [] []) ≠ PrettyTie.stepText σ (.metavar 0 [] [] [] [] [1]) ∧
    PrettyTie.stepText σ (.metavar 0 [12] [] [] [] []) ≠ PrettyTie.stepText σ (.metavar 0 [1, 2] [] [] [] []) := by
  refine ⟨fun h => ?_, fun h => ?_⟩
  · exact absurd (pretty_metavar_text_injective σ _ _ _ _ _ _ _ _ _ _ _ _ h).2.1 (by decide)
  · exact absurd (pretty_metavar_text_injective σ _ _ _ _ _ _ _ _ _ _ _ _ h).2.1 (by decide)

end Constrained

#print axioms pretty_metavar_text_shows_operands
#print axioms pretty_metavar_text_injective
#print axioms pretty_line_shows_operand_all
#print axioms pretty_step_operands_match_binary_all
#print axioms pretty_metavar_len_field
#print axioms checked_block_reader_sound
#print axioms pretty_line_shows_operand_checked
#print axioms pretty_step_operands_match_binary_checked
#print axioms Constrained.text
#print axioms Constrained.read
#print axioms Constrained.answered
#print axioms Constrained.both_sides
#print axioms Constrained.wrong_len
#print axioms Constrained.different_texts

end C19
