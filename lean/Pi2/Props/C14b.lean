import Pi2.EndToEnd2
import Pi2.Props.C14
/-!
# C14 (end to end) — the binary round trip on the TEXTS

The chain, composed here from existing theorems (helpers in `Pi2/EndToEnd2.lean`):

1. a history of interpreter calls that the tracker accepts (`PySt.trackAll` returns a state and three instruction lists);
2. the bytes the serializer methods **as written** (`Gen/Serializer.lean`, `Gen.Ser.w_*`) write along it are the encodings of
   these lists (`EndToEnd.writeAll_of_trackAll`, from `SerTie.emit_is_serializer`);
3. `deserialize_instructions` **as written** (`Gen/Deserializer.lean`: `Gen.Deser.step`, one branch per opcode, and the loop
   `Gen.Deser.run`) on these bytes, phase by phase, from a fresh interpreter — the interpreter calls it makes being made
   * on the tracker `track1` (`Gen.Deser.deserialize`, the form of `C14.deserializer_text_is_the_model`), or
   * on the methods of `StatefulInterpreter` **as written** (`Gen/PyInterp.lean`), called with the stack's own terms
     (`EndToEnd.deserializeI`: `InterpTie.pyCall` in place of `track1`; tie `InterpTie.pyCall_sound`),
   the phase switches being `StatefulInterpreter.into_claim_phase` / `into_proof_phase` as written
   (`InterpTie.into_claim_phase_tie`);
4. whenever that run returns (outer `some`: no comparison ran out of fuel, no call outside the modelled interface), it returns a
   state — not an exception — equal to the history's final state up to notation: phase, stack, memory, claims after expansion,
   and the symbol table (`StEqX`, the equality of `C14.deserialize_replays_history`; symbols are numbered by first occurrence —
   `CanonTab` / `CallOK` — so the serializer's renumbering is the identity).

## Hypotheses

* `ShapeSt`, `CanonTab`, `CallsOK` (per phase: `ModOK`): those of `C14.deserialize_replays_history`; decidable on a concrete
  history (`EndToEnd.modOKB`).
* `Call.keysNodup` for every call of the history (decidable): the keys of an `instantiate` / `instantiate_pattern` are pairwise
  different — they are the keys of a Python `dict`.  Forced: `keys_excluded_point` (the model's `Call` can repeat a key, Python's
  `dict(..)` in the deserialiser merges the entries; `C14.deserializer_duplicate_keys_outside_model`).
* NOT a hypothesis: `DeserTie.PrecheckAlong` of `C14.deserializer_text_is_the_model` (the deserialiser's own claim test
  `claims[0].pattern != theorem.conclusion` agrees with the tracker's `conclusion == claim`).  On a serialised history the proof
  on the stack proves the claim, so a run that gets past a `Publish` without running out of fuel has had both comparisons
  answer `True` (`EndToEnd.precheck_of_exec`, `EndToEnd.pubOKAlong_emit`).
-/
set_option linter.unusedVariables false
namespace C14
open PySt EndToEnd

/-! ## 1. one phase -/

/-- **round trip for a phase, on the texts.**  A history `cs` of one phase that the tracker accepts from `s` (hypotheses of
`deserialize_replays_history`, and pairwise different `instantiate` keys): the serializer as written writes `encode is` to the
stream of the phase (appending to what it held: `out`), and `deserialize_instructions` as written, run on these bytes from
`s` — on the tracker or on `StatefulInterpreter` as written — ends, whenever it returns, in the history's final state `s'` up
to notation. -/
theorem roundtrip_text_phase (n k : Nat) (cs : List Call) (s s' : PySt) (g c p g' c' p' : List Instr)
    (hS : ShapeSt s) (hT : CanonTab s.symtab) (hok : CallsOK n s cs) (hkeys : ∀ x ∈ cs, x.keysNodup = true)
    (h : PySt.trackAll n s cs (g, c, p) = some (some (s', (g', c', p')))) :
    ∃ is, (g', c', p') = addOut s.phase (g, c, p) is ∧
      writeAll n s cs (encode g, encode c, encode p) = some (some (s', (encode g', encode c', encode p'))) ∧
      (∀ r, Gen.Deser.deserialize k s (encode is) = some r → ∃ t', r = some t' ∧ StEqX s' t') ∧
      (∀ r, deserializeI k s (encode is) = some r → ∃ t', r = some t' ∧ StEqX s' t') := by
  obtain ⟨is, hout, _, _, hrt⟩ := roundtrip_phaseG n k (PyDeser.exec k) (execSound_exec k) cs s s s' _ _
    (StEqG.refl true s) hS hS hT hok hkeys h
  obtain ⟨is', hout', _, _, hrtI⟩ := roundtrip_phaseG n k (execI k) (execI_sound k) cs s s s' _ _
    (StEqG.refl true s) hS hS hT hok hkeys h
  have : is' = is := by
    rw [hout] at hout'
    cases hph : s.phase <;> simp only [hph, addOut, Prod.mk.injEq, List.append_cancel_left_eq] at hout'
    · exact hout'.1.symm
    · exact hout'.2.1.symm
    · exact hout'.2.2.symm
  subst this
  refine ⟨is', hout, writeAll_of_trackAll n cs s s' g c p g' c' p' h, fun r hr => ?_, fun r hr => ?_⟩
  · rw [deserialize_eq_runWith] at hr
    obtain ⟨t', rfl, hE, _⟩ := hrt r hr
    exact ⟨t', rfl, hE.toX⟩
  · obtain ⟨t', rfl, hE, _⟩ := hrtI r hr
    exact ⟨t', rfl, hE.toX⟩

/-! ## 2. a whole module, phase by phase -/

/-- **round trip, on the texts** (C14).  A module's history — Γ phase `gs`, `into_claim_phase`, claim phase `cls`,
`into_proof_phase`, proof phase `pfs` — that the tracker accepts from the initial state (hypotheses of
`deserialize_replays_history` per phase: `ModOK`; well-shaped claims; pairwise different `instantiate` keys):

* the serializer as written (`writeAll`: the bytes of `Gen.Ser.w_*` call by call) writes `encode g`, `encode c`, `encode p`;
* these three byte streams, fed phase by phase to `deserialize_instructions` as written running on a fresh interpreter — the
  tracker (`deserMod`) or `StatefulInterpreter` as written (`deserModI`), switching phases by `into_claim_phase` /
  `into_proof_phase` as written —, end, whenever the run returns, not in an exception but in a state equal to the history's
  final state up to notation: same phase, stack, memory and claims after expansion, same symbol table (`StEqX`). -/
theorem roundtrip_text (n k : Nat) (claims : List NPat) (gs cls pfs : List Call) (s' : PySt) (g c p : List Instr)
    (hclaims : ∀ q ∈ claims, q.Shape = true)
    (hok : ModOK n claims gs cls pfs)
    (hkeys : ∀ x ∈ gs ++ cls ++ pfs, x.keysNodup = true)
    (hT : PySt.trackAll n (PySt.init claims) (gs ++ .intoClaim :: (cls ++ .intoProof :: pfs)) ([], [], [])
      = some (some (s', (g, c, p)))) :
    writeAll n (PySt.init claims) (gs ++ .intoClaim :: (cls ++ .intoProof :: pfs)) ([], [], [])
      = some (some (s', (encode g, encode c, encode p))) ∧
    (Gen.Ser.translated = true ∧ Gen.Deser.translated = true ∧ Gen.PyInterp.translated = true) ∧
    (∀ r, deserMod k (PySt.init claims) (encode g) (encode c) (encode p) = some r → ∃ t', r = some t' ∧ StEqX s' t') ∧
    (∀ r, deserModI k (PySt.init claims) (encode g) (encode c) (encode p) = some r → ∃ t', r = some t' ∧ StEqX s' t') := by
  refine ⟨writeAll_of_trackAll_init n _ _ s' g c p hT, ⟨SerTie.translated, DeserTie.translated, InterpTie.translated⟩,
    fun r hr => ?_, fun r hr => ?_⟩
  · obtain ⟨t', rfl, hE, _⟩ := roundtrip_modG n k (PyDeser.exec k) (execSound_exec k) claims gs cls pfs s' g c p hclaims hok
      hkeys hT r hr
    exact ⟨t', rfl, hE.toX⟩
  · obtain ⟨t', rfl, hE, _⟩ := roundtrip_modG n k (execI k) (execI_sound k) claims gs cls pfs s' g c p hclaims hok
      hkeys hT r hr
    exact ⟨t', rfl, hE.toX⟩

/-- what `deserMod` is: `Gen.Deser.deserialize` (the object of `deserializer_text_is_the_model`) per phase -/
theorem deserMod_is_deserialize (k : Nat) (t : PySt) (gb cb pb : List Nat) :
    deserMod k t gb cb pb =
      PyI.call (Gen.Deser.deserialize k t gb) fun t1 =>
      PyI.call (Gen.PyInterp.Stateful.into_claim_phase t1) fun t1' =>
      PyI.call (Gen.Deser.deserialize k t1' cb) fun t2 =>
      PyI.call (Gen.PyInterp.Stateful.into_proof_phase t2) fun t2' =>
      Gen.Deser.deserialize k t2' pb := deserMod_eq k t gb cb pb

/-! ## 3. truncated or unknown input is an error in the texts -/

/-- an undecodable stream: the loop as written — on the tracker and on `StatefulInterpreter` as written — never completes;
it raises (`some none`) or, in the fuelled model of `==`, runs out of fuel in a call made for the decodable head -/
theorem undecodable_text (n : Nat) (s : PySt) (bs : List Nat) (hd : decode bs = none) :
    (Gen.Deser.deserialize n s bs = some none ∨ Gen.Deser.deserialize n s bs = none) ∧
    (deserializeI n s bs = some none ∨ deserializeI n s bs = none) :=
  ⟨(deserializer_text_undecodable n s bs hd).2,
    runWith_undecodable n (execI n) (execReads_execI n) bs.length s bs (Nat.le_refl _) hd⟩

/-- a stream that ends inside an instruction is never deserialised to a state: not skipped -/
theorem truncated_is_error_text (n : Nat) (s : PySt) (pre : List Instr) (i : Instr) (cut suf : List Nat)
    (h : encode1 i = cut ++ suf) (hcut : cut ≠ []) (hsuf : suf ≠ []) :
    (∀ t, Gen.Deser.deserialize n s (encode pre ++ cut) ≠ some (some t)) ∧
    (∀ t, deserializeI n s (encode pre ++ cut) ≠ some (some t)) := by
  obtain ⟨h1, h2⟩ := undecodable_text n s _ (C05.truncated_rejected pre i cut suf h hcut hsuf)
  exact ⟨fun t e => by rcases h1 with h1 | h1 <;> simp [h1] at e, fun t e => by rcases h2 with h2 | h2 <;> simp [h2] at e⟩

/-- a stream with an unknown opcode byte is never deserialised to a state: not skipped -/
theorem unknown_is_error_text (n : Nat) (s : PySt) (pre : List Instr) (b : Nat) (rest : List Nat) (h : b ∉ validOps) :
    (∀ t, Gen.Deser.deserialize n s (encode pre ++ b :: rest) ≠ some (some t)) ∧
    (∀ t, deserializeI n s (encode pre ++ b :: rest) ≠ some (some t)) := by
  obtain ⟨h1, h2⟩ := undecodable_text n s _ (C05.unknown_opcode_rejected pre b rest h)
  exact ⟨fun t e => by rcases h1 with h1 | h1 <;> simp [h1] at e, fun t e => by rcases h2 with h2 | h2 <;> simp [h2] at e⟩

/-- an unknown opcode byte at the head of the stream raises at once, in both -/
theorem unknown_head_raises_text (n : Nat) (s : PySt) (b : Nat) (rest : List Nat) (h : b ∉ validOps) :
    Gen.Deser.deserialize n s (b :: rest) = some none ∧ deserializeI n s (b :: rest) = some none := by
  have hd : decode1 (b :: rest) = none := _root_.decode1_badOpcode b rest h
  have hr := DeserTie.step_reads n s b rest
  rw [hd] at hr
  simp only [DeserTie.reads] at hr
  constructor
  · simp [Gen.Deser.deserialize, Gen.Deser.run, hr, PyDeser.exec]
  · simp [deserializeI, runWith, hr, execI]

/-! ## 4. the excluded point of `keysNodup` -/

/-- the history `metavar 0; metavar 1; metavar 2; instantiate_pattern [2, 2]` (a key repeated: not a Python `dict`) is accepted
by the tracker model, the serializer writes `DeserTie.dupKeys`, and the deserialiser as written ends with two stack entries
where the history ended with one: without `keysNodup` the round trip fails -/
theorem keys_excluded_point :
    let cs : List Call := [.metavar 0 [] [] [] [] [], .metavar 1 [] [] [] [] [], .metavar 2 [] [] [] [] [],
      .instantiatePattern [2, 2]]
    (cs.all Call.keysNodup = false) ∧ callsOKB 5 (PySt.init []) cs = true ∧
    ((writeAll 5 (PySt.init []) cs ([], [], [])).bind id).map (fun r => (r.1.stack.length, r.2.1)) = some (1, DeserTie.dupKeys) ∧
    ((Gen.Deser.deserialize 5 (PySt.init []) DeserTie.dupKeys).bind id).map (·.stack.length) = some 2 := by
  decide +kernel

/-! ## 5. non-vacuity: the history of `PFExample.mod` (the module of `C02.EndToEndExample`) -/

namespace RoundTripExample
open PFExample

/-- Γ phase of the history `PModule.executeFull {} 40 mod` returns: the axiom `s0 → s1 → ⊥` -/
def gs : List Call := [.symbol 0, .symbol 1, .svar 0, .mu 0, .instantiatePattern [], .implies, .implies, .publishAxiom]
/-- claim phase: the axiom again and `φ0 → φ0` -/
def cls : List Call := [.symbol 0, .symbol 1, .svar 0, .mu 0, .instantiatePattern [], .implies, .implies, .publishClaim,
  .metavar 0 [] [] [] [] [], .metavar 0 [] [] [] [] [], .implies, .publishClaim]
/-- proof phase: `imp_refl` (two `instantiate` with non-empty dicts, two `modus_ponens`), then the axiom by `load` -/
def pfs : List Call := [.metavar 0 [] [] [] [] [], .metavar 0 [] [] [] [] [], .implies, .metavar 0 [] [] [] [] [], .prop2,
  .instantiate [1, 2], .metavar 0 [] [] [] [] [], .metavar 0 [] [] [] [] [], .implies, .prop1, .instantiate [1], .mp,
  .metavar 0 [] [] [] [] [], .prop1, .instantiate [1], .mp, .publishProof,
  .load (.proved (.imp (.sym 0) (.imp (.sym 1) (.inst (.mu 0 (.svar 0)) [])))), .publishProof]

def calls : List Call := gs ++ .intoClaim :: (cls ++ .intoProof :: pfs)

/-- it is the history the model run of `mod` returns (the one `C02.EndToEndExample` serialises) -/
theorem calls_is_mod : (PModule.executeFull {} 40 mod).map (·.map (·.2)) = some (some calls) := by rfl

/-- the bytes the serializer writes along it are those of `C02.EndToEndExample.mod_bytes` -/
theorem calls_bytes :
    ((writeAll 40 (PySt.init mod.claimsOf) calls ([], [], [])).bind id).map (·.2) =
    some ([4, 0, 4, 1, 3, 0, 7, 0, 26, 0, 5, 5, 30],
          [4, 0, 4, 1, 3, 0, 7, 0, 26, 0, 5, 5, 30, 137, 0, 137, 0, 5, 30],
          [137, 0, 137, 0, 5, 137, 0, 13, 26, 2, 2, 1, 137, 0, 137, 0, 5, 12, 26, 1, 1, 21, 137, 0, 12, 26, 1, 1, 21,
           30, 29, 0, 30]) := by
  decide +kernel

/-- every hypothesis of `roundtrip_text` in decidable form, and both runs of the deserialiser return a state (so the
conclusion is not vacuous either): fuel 40 on both sides -/
def check : Bool :=
  mod.claimsOf.all NPat.Shape && modOKB 40 mod.claimsOf gs cls pfs && (gs ++ cls ++ pfs).all Call.keysNodup &&
  (match PySt.trackAll 40 (PySt.init mod.claimsOf) calls ([], [], []) with
   | some (some (_, (g, c, p))) =>
     (match deserMod 40 (PySt.init mod.claimsOf) (encode g) (encode c) (encode p) with
      | some (some _) => true | _ => false) &&
     (match deserModI 40 (PySt.init mod.claimsOf) (encode g) (encode c) (encode p) with
      | some (some _) => true | _ => false)
   | _ => false)

theorem check_true : check = true := by decide +kernel

/-- **all hypotheses of `roundtrip_text` hold of the history of `mod`**, and both deserialisations return: the bytes the
serializer as written wrote, deserialised as written on a fresh tracker / a fresh `StatefulInterpreter` as written, end in the
history's final state up to notation -/
theorem mod_roundtrip :
    ∃ (s' : PySt) (gb cb pb : List Nat) (t tI : PySt),
      writeAll 40 (PySt.init mod.claimsOf) calls ([], [], []) = some (some (s', (gb, cb, pb))) ∧
      deserMod 40 (PySt.init mod.claimsOf) gb cb pb = some (some t) ∧ StEqX s' t ∧
      deserModI 40 (PySt.init mod.claimsOf) gb cb pb = some (some tI) ∧ StEqX s' tI := by
  have h := check_true
  simp only [check, Bool.and_eq_true, List.all_eq_true] at h
  obtain ⟨⟨⟨hsh, hok⟩, hkeys⟩, hrun⟩ := h
  split at hrun
  · rename_i s' g c p hT
    simp only [Bool.and_eq_true] at hrun
    obtain ⟨hW, _, hD, hDI⟩ := roundtrip_text 40 40 mod.claimsOf gs cls pfs s' g c p hsh
      (modOKB_sound 40 _ gs cls pfs hok) hkeys hT
    obtain ⟨h1, h2⟩ := hrun
    split at h1
    · rename_i t ht
      split at h2
      · rename_i tI htI
        obtain ⟨t', e, hx⟩ := hD _ ht
        cases e
        obtain ⟨tI', e, hxI⟩ := hDI _ htI
        cases e
        exact ⟨s', encode g, encode c, encode p, t, tI, hW, ht, hx, htI, hxI⟩
      · exact absurd h2 (by simp)
    · exact absurd h1 (by simp)
  · exact absurd hrun (by simp)

end RoundTripExample

end C14

#print axioms C14.roundtrip_text_phase
#print axioms C14.roundtrip_text
#print axioms C14.deserMod_is_deserialize
#print axioms C14.undecodable_text
#print axioms C14.truncated_is_error_text
#print axioms C14.unknown_is_error_text
#print axioms C14.unknown_head_raises_text
#print axioms C14.keys_excluded_point
#print axioms C14.RoundTripExample.calls_is_mod
#print axioms C14.RoundTripExample.calls_bytes
#print axioms C14.RoundTripExample.check_true
#print axioms C14.RoundTripExample.mod_roundtrip
