import Pi2.SlotBudget
import Pi2.KModMemoEx
/-!
# C03 / C08 — the slot budget: an optimised serialisation never needs a memory slot beyond 255

The binary format addresses a memory slot with ONE byte.  `ProofExp.serialize(optimize=True)` runs the counting pass, whose
`finalize()` first executes `self._max_allowed_slots -= len(self.memory)` (the analyser's memory holds the published axioms)
and then suggests at most that many patterns; the memoising pass saves every suggested pattern at most once and every axiom
takes one further slot when it is published.  Two seeded changes broke exactly this arithmetic (dropping the subtraction; a
checker that refuses slot 255).  The budget is a parameter `B` of the statements (`B = 256` in the code).

* `finalize_budget` — the counting pass (the translated `finalize`, `Pi2/Gen/PyCount.lean`);
* `memo_run_memory_bound` — the memoising pass (`PModule.executeFull { memo := some S }`, every `Pf`: the language of
  proof expressions has no `save`, only the patterns compiled for `dynInst` can be saved);
* `optimized_run_fits`, `optimized_slots_fit_in_a_byte` — the two together;
* `budget_attained` — the bound is attained (129 axioms: 256 entries, last slot 255).
-/
set_option linter.unusedVariables false
namespace C03
open PySt SlotBudget CountSup Gen.PyCount

/-! ## 1. the counting pass -/

/-- **`finalize` respects the budget.**  Hypotheses: the call succeeds (in particular `assert not self._finalized` passed:
first conjunct), nothing was suggested before (`_suggested_for_memoization` is only written by `finalize`), and the budget
field still holds `B` (`__init__`: 256; only `finalize` writes it).  Then the returned set has at most `B − len(memory)`
elements, without repetitions. -/
theorem finalize_budget {K : Type} [DecidableEq K] [PyPattern K] (B : Nat) (o : Orders K) (t : Nat) (σ : Self K)
    {R : PySet K} {σ' : Self K} {t' : Nat} (h : finalize o t σ = some (R, σ', t'))
    (hsug : σ._suggested_for_memoization = []) (hmax : σ._max_allowed_slots = (B : Int)) :
    σ._finalized = false ∧ R.length ≤ B - σ.memory.length ∧ R.Nodup := by
  obtain ⟨hf, hlen, hnd⟩ := finalize_length o t σ h
  rw [hsug, hmax] at hlen
  refine ⟨hf, ?_, hnd (by rw [hsug]; exact List.nodup_nil)⟩
  simp only [List.length_nil, Nat.zero_add] at hlen
  omega

/-- the general form: old suggestions plus at most `_max_allowed_slots − len(memory)` new ones -/
theorem finalize_budget_general {K : Type} [DecidableEq K] [PyPattern K] (o : Orders K) (t : Nat) (σ : Self K)
    {R : PySet K} {σ' : Self K} {t' : Nat} (h : finalize o t σ = some (R, σ', t')) :
    R.length ≤ σ._suggested_for_memoization.length + (σ._max_allowed_slots - (σ.memory.length : Int)).toNat :=
  (finalize_length o t σ h).2.1

/-! ## 2. the memoising pass -/

/-- **the memory of a memoising run.**  `S` is the suggestion list handed to `MemoizingInterpreter`; `Canonical S`: its
elements are shaped and are matched by the set-membership test (`NPat.seq`) only by themselves (`canonical_of_noInst`:
true when they contain no notation node).  The module and its proof expressions are arbitrary: `Pf` has no `save`
constructor, so a proof can write to the memory only through the memoiser (the patterns of a `dynInst`).  If
`execute_full` succeeds then the `Pattern` entries of the final memory are pairwise different elements of `S` and the
`Proved` entries are exactly `gammaAxioms` (own and imported axioms, one slot per occurrence); hence the number of slots. -/
theorem memo_run_memory_bound (S : List NPat) (hS : Canonical S) (n : Nat) (m : PModule) (s : PySt) (calls : List Call)
    (h : PModule.executeFull { memo := some S } n m = some (some (s, calls))) :
    (patsOf s.memory).Nodup ∧ (∀ p ∈ patsOf s.memory, p ∈ S) ∧ provedOf s.memory = m.gammaAxioms ∧
    s.memory.length = (patsOf s.memory).length + m.gammaAxioms.length ∧
    s.memory.length ≤ S.length + m.gammaAxioms.length := by
  obtain ⟨⟨hnd, hsub⟩, hk⟩ := executeFull_memory S hS n m s calls h
  refine ⟨hnd, hsub, hk, by rw [length_split, hk], executeFull_memory_length S hS n m s calls h⟩

/-- suggestion lists without notation nodes are `Canonical` -/
theorem canonical_plain (S : List NPat) (hs : ∀ c ∈ S, c.Shape = true) (hn : ∀ c ∈ S, noInst c = true) : Canonical S :=
  canonical_of_noInst S hs hn

/-! ## 1 + 2: the optimised serialisation fits -/

/-- **the optimised run stays within the budget.**  The counting state `σ` (keys `K`, `repr` maps a key to the model
pattern) has suggested nothing yet, its budget is `B`, and its memory holds the published axioms of the module
(`len(memory) = |gammaAxioms|`); the module has at most `B` axioms (otherwise already the axioms do not fit and the
serializer refuses, C03).  `L` lists the set `finalize` returns (any order).  Then the memoising run needs at most `B`
slots. -/
theorem optimized_run_fits {K : Type} [DecidableEq K] [PyPattern K] (repr : K → NPat) (B : Nat) (o : Orders K) (t : Nat)
    (σ : Self K) {R : PySet K} {σ' : Self K} {t' : Nat} (m : PModule)
    (hfin : finalize o t σ = some (R, σ', t'))
    (hsug : σ._suggested_for_memoization = []) (hmax : σ._max_allowed_slots = (B : Int))
    (hmem : σ.memory.length = m.gammaAxioms.length) (hax : m.gammaAxioms.length ≤ B)
    (L : List NPat) (hL : L.Perm (R.map repr)) (hC : Canonical L)
    (n : Nat) (s : PySt) (calls : List Call)
    (h : PModule.executeFull { memo := some L } n m = some (some (s, calls))) :
    s.memory.length ≤ B := by
  obtain ⟨_, hlen, _⟩ := finalize_budget B o t σ hfin hsug hmax
  have h1 := executeFull_memory_length L hC n m s calls h
  have h2 : L.length = R.length := by rw [hL.length_eq, List.length_map]
  omega

/-- … hence every slot operand the serializer writes for that run is below `B`: with `B = 256` every `Load i` is a
one-byte operand (`Wire`); the serialisation is the replay `trackAll` of the calls, as in `module_accepted`; a `Save` writes no operand (its slot is the current length of the memory, below the final
length).  Ids of variables and symbols are a separate matter (`ids_fit_in_a_byte`). -/
theorem optimized_slots_fit_in_a_byte {K : Type} [DecidableEq K] [PyPattern K] (repr : K → NPat) (o : Orders K) (t : Nat)
    (σ : Self K) {R : PySet K} {σ' : Self K} {t' : Nat} (m : PModule)
    (hfin : finalize o t σ = some (R, σ', t'))
    (hsug : σ._suggested_for_memoization = []) (hmax : σ._max_allowed_slots = 256)
    (hmem : σ.memory.length = m.gammaAxioms.length) (hax : m.gammaAxioms.length ≤ 256)
    (L : List NPat) (hL : L.Perm (R.map repr)) (hC : Canonical L)
    (n : Nat) (s : PySt) (calls : List Call)
    (h : PModule.executeFull { memo := some L } n m = some (some (s, calls)))
    (g c p : List Instr)
    (hT : PySt.trackAll n (PySt.init m.claimsOf) calls ([], [], []) = some (some (s, (g, c, p)))) :
    ∀ i, (Instr.load i ∈ g ∨ Instr.load i ∈ c ∨ Instr.load i ∈ p) → i ≤ 255 ∧ Wire (encode [Instr.load i]) := by
  have hB := optimized_run_fits repr 256 o t σ m hfin hsug hmax hmem hax L hL hC n s calls h
  obtain ⟨_, hg, hc, hp⟩ := trackAll_slots n calls _ s _ _ hT (AllBelow.nil _)
  intro i hi
  have : i < 256 := by
    rcases hi with hi | hi | hi
    · exact Nat.lt_of_lt_of_le (hg i hi) hB
    · exact Nat.lt_of_lt_of_le (hc i hi) hB
    · exact Nat.lt_of_lt_of_le (hp i hi) hB
  exact ⟨by omega, wire_load i this⟩

/-- the serializer's own replay (`trackAll`, any fuel) of ANY history writes only `Load` operands below the final number
of slots -/
theorem load_operands_below_memory (k : Nat) (cl : List NPat) (calls : List Call) (s' : PySt) (g c p : List Instr)
    (hT : PySt.trackAll k (PySt.init cl) calls ([], [], []) = some (some (s', (g, c, p)))) :
    ∀ i, (Instr.load i ∈ g ∨ Instr.load i ∈ c ∨ Instr.load i ∈ p) → i < s'.memory.length := by
  obtain ⟨_, hg, hc, hp⟩ := trackAll_slots k calls _ s' _ _ hT (AllBelow.nil _)
  intro i hi
  rcases hi with hi | hi | hi
  · exact hg i hi
  · exact hc i hi
  · exact hp i hi

/-! ## 3. the bound is attained

The module the seeded change was caught with: `k` axioms (symbols `0 … k−1`), each also a claim, each proved by
`load_axiom`.  The counting run records every axiom twice (gamma and claim phase) and its memory holds the `k` published
axioms, so `finalize` suggests `B − k` of them (`counting_suggests`); the memoising run saves each suggested axiom and
publishes all `k`: `(B − k) + k = B` entries, and the last proof is `Load (B − 1)`.  With `B = 256`, `k = 129`: 256 entries,
last slot 255.  `attained_all` follows the run phase by phase: the memory after the gamma phase is `memR j 0 k`, the claim
and proof phases leave it alone, and the serializer's replay (`Rep`) is carried along call by call.  (`attained` is written with
`KMod.executeFullP`, the run with the membership test as a parameter, which unlike `NPat.seq` the kernel can also evaluate;
`executeFullP_eq` transports to `execute_full`.) -/

def axs (k : Nat) : List NPat := (List.range k).map NPat.sym
def budgetModule (k : Nat) : PModule := .mk (axs k) (axs k) ((axs k).map Pf.loadAxiom) []
def sugg (j : Nat) : NPat → Bool
  | .sym i => decide (i < j)
  | _ => false

theorem seq_axs (j : Nat) (p : NPat) : (axs j).any (NPat.seq p) = sugg j p := by
  simp only [axs, List.any_map, Function.comp_def, KMod.seq_sym]
  cases p with
  | sym s =>
    rw [Bool.eq_iff_iff]
    simp [List.any_eq_true, sugg]
  | _ => simp [sugg]

theorem canonical_axs (j : Nat) : Canonical (axs j) := by
  apply canonical_of_noInst <;>
  · intro c hc
    simp only [axs, List.mem_map] at hc
    obtain ⟨i, _, rfl⟩ := hc
    simp [NPat.Shape, noInst]

/-- the memoising run of `budgetModule k` with the first `j` axioms suggested ends with `B` memory entries, and its proof
stream contains `Load (B − 1)` -/
def attained (B j k : Nat) : Bool :=
  match KMod.executeFullP (sugg j) 5 (budgetModule k) with
  | some (some (s, calls)) =>
      s.memory.length == B &&
      (match PySt.trackAll 5 (PySt.init (budgetModule k).claimsOf) calls ([], [], []) with
       | some (some (_, (_, _, p))) => p.contains (Instr.load (B - 1))
       | _ => false)
  | _ => false

/-- what `attained B j k = true` says, for any `B j k` (so that nothing is evaluated when it is used) -/
theorem attained_spec {B j k : Nat} (h : attained B j k = true) :
    ∃ s calls, KMod.executeFullP (sugg j) 5 (budgetModule k) = some (some (s, calls)) ∧ s.memory.length = B ∧
      ∃ s' g c p, PySt.trackAll 5 (PySt.init (budgetModule k).claimsOf) calls ([], [], []) = some (some (s', (g, c, p))) ∧
        Instr.load (B - 1) ∈ p := by
  unfold attained at h
  split at h
  · rename_i s calls heq
    simp only [Bool.and_eq_true, beq_iff_eq] at h
    refine ⟨s, calls, heq, h.1, ?_⟩
    have h2 := h.2
    split at h2
    · rename_i s' g c p heq2
      exact ⟨s', g, c, p, heq2, by simpa using h2⟩
    · cases h2
  · cases h

section
open KMod

/-- the slots axiom `t` takes: a suggested one is saved before it is published -/
def slot (j t : Nat) : List TTerm :=
  if t < j then [.pat (.sym t), .proved (.sym t)] else [.proved (.sym t)]

/-- the memory after axioms `a … a+m-1` -/
def memR (j a m : Nat) : List TTerm := (List.range' a m).flatMap (slot j)

theorem memR_succ (j a m : Nat) : memR j a (m + 1) = slot j a ++ memR j (a + 1) m := by
  simp [memR, List.range'_succ]

theorem memR_concat (j a m : Nat) : memR j a (m + 1) = memR j a m ++ slot j (a + m) := by
  simp [memR, List.range'_concat]

theorem memR_length (j a m : Nat) (h : j ≤ a + m) : (memR j a m).length = m + (j - a) := by
  induction m generalizing a with
  | zero => simp [memR]; omega
  | succ m ih =>
    rw [memR_succ, List.length_append, ih _ (by omega), slot]
    split <;> simp only [List.length_cons, List.length_nil] <;> omega

theorem inMemoryF_memR (n j i : Nat) : ∀ m a, i < a ∨ a + m ≤ i ∨ j ≤ i →
    inMemoryF (n + 1) (.sym i) (memR j a m) = some false := by
  intro m
  induction m with
  | zero => intro a _; rfl
  | succ m ih =>
    intro a h
    rw [memR_succ, slot]
    split
    · have : (a == i) = false := by simp; omega
      simp [inMemoryF, teqF, NPat.peqF, this, ih (a + 1) (by omega)]
    · simp [inMemoryF, teqF, ih (a + 1) (by omega)]

/-- looking for the published axiom `i` across the slots of axiom `a` -/
theorem indexF_slot (n j i a b : Nat) (r : List TTerm) :
    indexF (n + 1) (.proved (.sym i)) (slot j a ++ r) b =
      if a = i then some (some (b + if a < j then 1 else 0))
      else indexF (n + 1) (.proved (.sym i)) r (b + if a < j then 2 else 1) := by
  unfold slot
  by_cases h : a = i
  · subst h
    by_cases hj : a < j <;> simp [indexF, teqF, NPat.peqF, hj]
  · by_cases hj : a < j <;> simp [indexF, teqF, NPat.peqF, h, hj]

theorem indexF_memR (n j i : Nat) : ∀ m a b, a ≤ i → i < a + m →
    indexF (n + 1) (.proved (.sym i)) (memR j a m) b = some (some (b + (i - a) + (min (i + 1) j - min a j))) := by
  intro m
  induction m with
  | zero => intro a b h1 h2; omega
  | succ m ih =>
    intro a b h1 h2
    rw [memR_succ, indexF_slot]
    -- `min a j`, `min (a + 1) j` are settled by the side of `j` on which `a` lies, before `omega` sees them
    split
    · next h =>
      subst h
      congr 2
      split
      · next hj =>
        rw [Nat.min_eq_left hj, Nat.min_eq_left (Nat.le_of_lt hj)]
        omega
      · next hj =>
        rw [Nat.min_eq_right (by omega : j ≤ a + 1), Nat.min_eq_right (Nat.le_of_not_lt hj)]
        omega
    · rw [ih _ _ (by omega) (by omega)]
      congr 2
      split
      · next hj =>
        rw [Nat.min_eq_left hj, Nat.min_eq_left (Nat.le_of_lt hj)]
        omega
      · next hj =>
        rw [Nat.min_eq_right (by omega : j ≤ a + 1), Nat.min_eq_right (Nat.le_of_not_lt hj),
          Nat.min_eq_right (by omega : j ≤ i + 1)]
        omega

theorem indexF_pat_memR (n j i : Nat) (hj : i < j) : ∀ m a b, a ≤ i → i < a + m →
    indexF (n + 1) (.pat (.sym i)) (memR j a m) b = some (some (b + 2 * (i - a))) := by
  intro m
  induction m with
  | zero => intro a b h1 h2; omega
  | succ m ih =>
    intro a b h1 h2
    rw [memR_succ, slot]
    by_cases h : a = i
    · subst h
      simp [indexF, teqF, NPat.peqF, hj]
    · have h3 : (a == i) = false := by simpa using h
      have h4 : a < j := by omega
      simp [indexF, teqF, NPat.peqF, h3, h4]; rw [ih _ _ (by omega) (by omega)]; simp; omega

theorem inMemoryF_indexF (n : Nat) (p : NPat) : ∀ mem a,
    inMemoryF n p mem = (indexF n (.pat p) mem a).map Option.isSome := by
  intro mem
  induction mem with
  | nil => intro a; rfl
  | cons u r ih =>
    intro a
    simp only [inMemoryF, indexF, Option.bind_eq_bind]
    cases teqF n u (.pat p) with
    | none => rfl
    | some b => cases b <;> simp [ih (a + 1)]

theorem concF_mem (n i : Nat) : ∀ l : List Nat, i ∈ l → Pf.concF.mem (.sym i) (n + 1) (l.map .sym) = some true := by
  intro l
  induction l with
  | nil => intro h; cases h
  | cons x r ih =>
    intro h
    by_cases hx : x = i
    · subst hx; simp [Pf.concF.mem, NPat.peqF]
    · have : i ∈ r := by simpa [Ne.symm hx] using h
      simp [Pf.concF.mem, NPat.peqF, ih this]

/-- the serializer's replay of the calls `acc` made so far leads from the initial state to `s` and writes `out` -/
def Rep (cl : List NPat) (acc : List Call) (s : PySt) (out : List Instr × List Instr × List Instr) : Prop :=
  trackAll 5 (init cl) acc ([], [], []) = some (some (s, out))

/-- one call the tracker accepts: what the generator returns for it (any fuel), and the replay one call further -/
theorem Rep.call {cl acc s out c s' is} (h : Rep cl acc s out) (n : Nat)
    (ht : ∀ n, track1 (n + 1) s c = some (some s')) (he : emit1 5 s c = some (some is)) :
    doCalls (n + 1) s [c] acc = some (some (s', acc ++ [c])) ∧ Rep cl (acc ++ [c]) s' (addOut s.phase out is) := by
  refine ⟨doCalls_ok _ _ _ _ _ (ht n), ?_⟩
  unfold Rep
  rw [trackAll_append_eq _ _ _ _ _ _ h, trackAll_cons_eq [] out he (ht 4)]
  rfl

/-- `Rep` when the streams do not matter (gamma and claim phase) -/
def Ok (cl : List NPat) (s : PySt) (acc : List Call) : Prop := ∃ out, Rep cl acc s out

theorem Ok.call {cl acc s c s' is} (h : Ok cl s acc) (n : Nat)
    (ht : ∀ n, track1 (n + 1) s c = some (some s')) (he : emit1 5 s c = some (some is)) :
    doCalls (n + 1) s [c] acc = some (some (s', acc ++ [c])) ∧ Ok cl s' (acc ++ [c]) := by
  obtain ⟨out, h⟩ := h
  exact ⟨(h.call n ht he).1, _, (h.call n ht he).2⟩

theorem pattern_sym_new (j i n : Nat) {cl acc ph st mem cl' tab}
    (h : Ok cl ⟨ph, st, mem, cl', tab⟩ acc) (hm : inMemoryF (n + 1) (.sym i) mem = some false) :
    ∃ tab' acc', patternP (sugg j) (n + 2) ⟨ph, st, mem, cl', tab⟩ (.sym i) acc
        = some (some (⟨ph, (.pat (.sym i), false) :: st, if i < j then mem ++ [.pat (.sym i)] else mem, cl', tab'⟩, acc')) ∧
      Ok cl ⟨ph, (.pat (.sym i), false) :: st, if i < j then mem ++ [.pat (.sym i)] else mem, cl', tab'⟩ acc' := by
  have h1 := h.call n (c := .symbol i) (s' := ⟨ph, (.pat (.sym i), false) :: st, mem, cl', _⟩) (fun _ => rfl) rfl
  simp only [patternP, hm, h1.1, sugg, Option.bind_eq_bind, Option.bind_some, Option.pure_def, Bool.false_eq_true, if_false]
  by_cases hj : i < j
  · have h2 := h1.2.call n (c := .save) (s' := ⟨ph, (.pat (.sym i), false) :: st, mem ++ [.pat (.sym i)], cl', _⟩)
      (fun _ => rfl) rfl
    simp only [hj, decide_true, if_true]
    exact ⟨_, _, h2⟩
  · simp only [hj, decide_false, if_false, Bool.false_eq_true]
    exact ⟨_, _, rfl, h1.2⟩

theorem load_ok {cl acc s out t x} (h : Rep cl acc s out) (n : Nat)
    (hi : ∀ n, indexF (n + 1) t s.memory 0 = some (some x)) :
    doCalls (n + 1) s [.load t] acc = some (some (s.push t, acc ++ [.load t])) ∧
      Rep cl (acc ++ [.load t]) (s.push t) (addOut s.phase out [.load x]) :=
  h.call n (fun n => by simp [track1, hi n]) (by simp [emit1, hi 4])

theorem pattern_sym_old (j i n : Nat) {cl acc ph st mem cl' tab}
    (h : Ok cl ⟨ph, st, mem, cl', tab⟩ acc) {x : Nat} (hx : ∀ n, indexF (n + 1) (.pat (.sym i)) mem 0 = some (some x)) :
    ∃ acc', patternP (sugg j) (n + 2) ⟨ph, st, mem, cl', tab⟩ (.sym i) acc
        = some (some (⟨ph, (.pat (.sym i), false) :: st, mem, cl', tab⟩, acc')) ∧
      Ok cl ⟨ph, (.pat (.sym i), false) :: st, mem, cl', tab⟩ acc' := by
  obtain ⟨out, h⟩ := h
  have h1 := load_ok h n hx
  simp only [patternP, inMemoryF_indexF (n + 1) _ mem 0, hx, h1.1, Option.map_some, Option.isSome_some, Option.bind_eq_bind,
    Option.bind_some, if_true]
  exact ⟨_, rfl, _, h1.2⟩

theorem pub_cons {sg : NPat → Bool} {n s acc c a r s1 a1 s2 a2} (h1 : patternP sg n s a acc = some (some (s1, a1)))
    (h2 : doCalls n s1 [c] a1 = some (some (s2, a2))) :
    executeFullP.pub sg n s acc c (a :: r) = executeFullP.pub sg n s2 a2 c r := by
  simp only [executeFullP.pub, h1, h2, Option.bind_eq_bind, Option.bind_some]

/-- the gamma phase: axiom `i` is built, saved if suggested, and published -/
theorem gamma_run (j : Nat) {cl cl' : List NPat} : ∀ m i st tab acc, Ok cl ⟨.gamma, st, memR j 0 i, cl', tab⟩ acc →
    ∃ st' tab' acc', executeFullP.pub (sugg j) 5 ⟨.gamma, st, memR j 0 i, cl', tab⟩ acc .publishAxiom
          ((List.range' i m).map .sym) = some (some (⟨.gamma, st', memR j 0 (i + m), cl', tab'⟩, acc')) ∧
      Ok cl ⟨.gamma, st', memR j 0 (i + m), cl', tab'⟩ acc' := by
  intro m
  induction m with
  | zero => intro i st tab acc h; exact ⟨st, tab, acc, rfl, h⟩
  | succ m ih =>
    intro i st tab acc h
    obtain ⟨tab1, acc1, h1, ok1⟩ := pattern_sym_new j i 3 h (inMemoryF_memR 3 j i i 0 (by omega))
    have h2 := ok1.call 4 (c := .publishAxiom) (s' := ⟨.gamma, (.pat (.sym i), true) :: st, memR j 0 (i + 1), cl', tab1⟩)
      (fun _ => by simp [track1, memR_concat, slot]; split <;> simp) rfl
    rw [List.range'_succ, List.map_cons, pub_cons h1 h2.1, show i + (m + 1) = i + 1 + m by omega]
    exact ih _ _ _ _ h2.2

/-- the claim phase: a suggested axiom is found in the memory and loaded, the others are built again -/
theorem claim_run (j k : Nat) {cl cl' : List NPat} : ∀ l : List Nat, (∀ t ∈ l, t < k) → ∀ st tab acc,
    Ok cl ⟨.claim, st, memR j 0 k, cl', tab⟩ acc →
    ∃ st' tab' acc', executeFullP.pub (sugg j) 5 ⟨.claim, st, memR j 0 k, cl', tab⟩ acc .publishClaim (l.map .sym)
          = some (some (⟨.claim, st', memR j 0 k, cl', tab'⟩, acc')) ∧
      Ok cl ⟨.claim, st', memR j 0 k, cl', tab'⟩ acc' := by
  intro l
  induction l with
  | nil => intro _ st tab acc h; exact ⟨st, tab, acc, rfl, h⟩
  | cons i l ih =>
    intro hl st tab acc h
    have hi : i < k := hl i (by simp)
    have : ∃ tab1 acc1, patternP (sugg j) 5 ⟨.claim, st, memR j 0 k, cl', tab⟩ (.sym i) acc
          = some (some (⟨.claim, (.pat (.sym i), false) :: st, memR j 0 k, cl', tab1⟩, acc1)) ∧
        Ok cl ⟨.claim, (.pat (.sym i), false) :: st, memR j 0 k, cl', tab1⟩ acc1 := by
      by_cases hj : i < j
      · obtain ⟨acc1, h1⟩ := pattern_sym_old j i 3 h (fun n => indexF_pat_memR n j i hj k 0 0 (by omega) (by omega))
        exact ⟨_, _, h1⟩
      · have := pattern_sym_new j i 3 h (inMemoryF_memR 3 j i k 0 (by omega))
        simpa only [hj, if_false] using this
    obtain ⟨tab1, acc1, h1, ok1⟩ := this
    have h2 := ok1.call 4 (c := .publishClaim) (s' := ⟨.claim, (.pat (.sym i), true) :: st, memR j 0 k, cl', tab1⟩)
      (fun _ => rfl) rfl
    rw [List.map_cons, pub_cons h1 h2.1]
    exact ih (fun t ht => hl t (by simp [ht])) _ _ _ h2.2

theorem proofs_cons {sg : NPat → Bool} {M : PModule} {n s acc pf r s1 a1 c s2 a2}
    (h1 : runP sg M.axiomsOf n s pf acc = some (some (s1, a1, c)))
    (h2 : doCalls n s1 [.publishProof] a1 = some (some (s2, a2))) :
    executeFullP.proofs sg M n s acc (pf :: r) = executeFullP.proofs sg M n s2 a2 r := by
  simp only [executeFullP.proofs, h1, h2, Option.bind_eq_bind, Option.bind_some]

/-- the proof phase: proof `i` loads the published axiom `i` from its slot `i + min (i + 1) j` and is published -/
theorem proof_run (j k : Nat) {cl : List NPat} : ∀ m i st tab acc out, i + m = k →
    Rep cl acc ⟨.proof, st, memR j 0 k, (List.range' i m).map .sym, tab⟩ out →
    ∃ st' acc' out', executeFullP.proofs (sugg j) (budgetModule k) 5
          ⟨.proof, st, memR j 0 k, (List.range' i m).map .sym, tab⟩ acc
          ((List.range' i m).map fun t => Pf.loadAxiom (.sym t)) = some (some (⟨.proof, st', memR j 0 k, [], tab⟩, acc')) ∧
      Rep cl acc' ⟨.proof, st', memR j 0 k, [], tab⟩ out' ∧
      ∀ I, (I ∈ out.2.2 ∨ ∃ t, i ≤ t ∧ t < k ∧ I = .load (t + min (t + 1) j)) → I ∈ out'.2.2 := by
  intro m
  induction m with
  | zero => intro i st tab acc out hk h; exact ⟨st, acc, out, rfl, h, fun I hI => hI.elim id fun ⟨t, h1, h2, _⟩ => by omega⟩
  | succ m ih =>
    intro i st tab acc out hk h
    simp only [List.range'_succ, List.map_cons] at h ⊢
    have h1 := load_ok h 3 (t := .proved (.sym i)) (x := i + min (i + 1) j) (fun n => by
      rw [indexF_memR n j i k 0 0 (by omega) (by omega)]; simp)
    have hr : runP (sugg j) (budgetModule k).axiomsOf 5 ⟨.proof, st, memR j 0 k, .sym i :: (List.range' (i + 1) m).map .sym, tab⟩
        (.loadAxiom (.sym i)) acc = some (some (⟨.proof, (.proved (.sym i), false) :: st, memR j 0 k,
          .sym i :: (List.range' (i + 1) m).map .sym, tab⟩, acc ++ [.load (.proved (.sym i))], .sym i)) := by
      simp only [runP, h1.1, PySt.push, Pf.concF, budgetModule, PModule.axiomsOf, axs,
        concF_mem 2 i (List.range k) (by simp; omega), NPat.peqF, Option.bind_eq_bind, Option.bind_some, Option.pure_def,
        beq_self_eq_true, if_true]
    have h2 := h1.2.call 4 (c := .publishProof)
      (s' := ⟨.proof, (.proved (.sym i), true) :: st, memR j 0 k, (List.range' (i + 1) m).map .sym, tab⟩)
      (fun _ => by simp [track1, PySt.push, NPat.peqF]) rfl
    rw [proofs_cons hr h2.1]
    obtain ⟨st', acc', out', e, hR, hout⟩ := ih (i + 1) _ tab _ _ (by omega) h2.2
    refine ⟨st', acc', out', e, hR, fun I hI => hout I ?_⟩
    rcases hI with hI | ⟨t, h3, h4, rfl⟩
    · exact .inl (by simp [addOut, PySt.push, hI])
    · by_cases ht : t = i
      · subst ht; exact .inl (by simp [addOut, PySt.push])
      · exact .inr ⟨t, by omega, h4, rfl⟩

/-- **the bound is attained for every budget**: `k ≥ 1` axioms of which the first `j ≤ k` are suggested fill exactly
`j + k` slots, and the last proof loads slot `j + k − 1` -/
theorem attained_all (j k : Nat) (hj : j ≤ k) (hk : 0 < k) : attained (j + k) j k = true := by
  have hax : axs k = (List.range' 0 k).map .sym := by rw [axs, List.range_eq_range']
  have ok0 : Ok (axs k) ⟨.gamma, [], memR j 0 0, axs k, []⟩ [] := ⟨_, rfl⟩
  obtain ⟨st1, tab1, acc1, e1, ok1⟩ := gamma_run j k 0 _ _ _ ok0
  rw [Nat.zero_add] at e1 ok1
  have c1 := ok1.call 4 (c := .intoClaim) (s' := ⟨.claim, [], memR j 0 k, axs k, tab1⟩) (fun _ => rfl) rfl
  obtain ⟨st2, tab2, acc2, e2, ok2⟩ := claim_run j k (List.range k).reverse (by simp) _ _ _ c1.2
  have c2 := ok2.call 4 (c := .intoProof) (s' := ⟨.proof, [], memR j 0 k, axs k, tab2⟩) (fun _ => rfl) rfl
  obtain ⟨out, hR⟩ := c2.2
  rw [hax] at hR
  obtain ⟨st3, acc3, out3, e3, hR3, hout⟩ := proof_run j k k 0 _ _ _ _ (Nat.zero_add k) hR
  have hrun : executeFullP (sugg j) 5 (budgetModule k) = some (some (⟨.proof, st3, memR j 0 k, [], tab2⟩, acc3)) := by
    have hg : (budgetModule k).gammaAxioms = (List.range' 0 k).map .sym := by
      simp [budgetModule, PModule.gammaAxioms, PModule.gammaAxioms.gammaList, hax]
    have hc : (budgetModule k).claimsOf.reverse = (List.range k).reverse.map .sym := by
      simp [budgetModule, PModule.claimsOf, axs]
    have hp : (budgetModule k).proofsOf = (List.range' 0 k).map fun t => Pf.loadAxiom (.sym t) := by
      simp [budgetModule, PModule.proofsOf, hax]
    have hi : PySt.init (budgetModule k).claimsOf = ⟨.gamma, [], memR j 0 0, axs k, []⟩ := rfl
    simp only [executeFullP, hg, hc, hp, hi, e1, c1.1, e2, c2.1, Option.bind_eq_bind, Option.bind_some]
    rw [hax]; exact e3
  have hT : trackAll 5 (PySt.init (budgetModule k).claimsOf) acc3 ([], [], [])
      = some (some (⟨.proof, st3, memR j 0 k, [], tab2⟩, out3)) := by
    rw [← hax] at hR3; exact hR3
  have hl : Instr.load (j + k - 1) ∈ out3.2.2 :=
    hout _ (.inr ⟨k - 1, by omega, by omega, by rw [show k - 1 + 1 = k by omega, Nat.min_eq_right hj]; congr 1; omega⟩)
  simp [attained, hrun, hT, memR_length j 0 k (by omega), hl]
  omega
end

theorem attained_8 : attained 8 3 5 = true := attained_all 3 5 (by decide) (by decide)

/-- the memoising run of `k ≥ 1` axioms with the first `j ≤ k` suggested, in the terms of `execute_full` -/
theorem budget_attained_all (j k : Nat) (hj : j ≤ k) (hk : 0 < k) :
    ∃ s calls, PModule.executeFull { memo := some (axs j) } 5 (budgetModule k) = some (some (s, calls)) ∧
      s.memory.length = j + k ∧
      ∃ s' g c p, PySt.trackAll 5 (PySt.init (budgetModule k).claimsOf) calls ([], [], []) = some (some (s', (g, c, p))) ∧
        Instr.load (j + k - 1) ∈ p := by
  rw [KMod.executeFullP_eq (axs j) (sugg j) (seq_axs j)]
  exact attained_spec (attained_all j k hj hk)

/-- **the budget is attained**: 129 axioms, 127 suggestions — the run succeeds with exactly 256 memory entries (so
`memo_run_memory_bound` is sharp: `127 + 129`), and the serializer writes `Load 255` -/
theorem budget_attained : ∃ s calls, PModule.executeFull { memo := some (axs 127) } 5 (budgetModule 129) = some (some (s, calls)) ∧
    s.memory.length = 256 ∧ s.memory.length = (axs 127).length + (budgetModule 129).gammaAxioms.length ∧
    ∃ s' g c p, PySt.trackAll 5 (PySt.init (budgetModule 129).claimsOf) calls ([], [], []) = some (some (s', (g, c, p))) ∧
      Instr.load 255 ∈ p := by
  obtain ⟨s, calls, hrun, hlen, hT⟩ := budget_attained_all 127 129 (by decide) (by decide)
  refine ⟨s, calls, hrun, hlen, ?_, hT⟩
  rw [hlen]; simp [axs, budgetModule, PModule.gammaAxioms, PModule.gammaAxioms.gammaList]

/-! ### … and the suggestions are what the counting pass returns -/

/-- the keys of the counting pass for this module: the symbol numbers -/
instance : PyPattern Nat where
  isImplies _ := false
  isApp _ := false
  isExists _ := false
  isMu _ := false
  left := id
  right := id
  subpattern := id
  size _ := 0
  left_lt := by intro p h; simp at h
  right_lt := by intro p h; simp at h
  subpattern_lt := by intro p h; simp at h

/-- the counting state after the counting run on `budgetModule k`: every axiom recorded twice (`symbol` in the gamma and
in the claim phase), the `k` published axioms in the memory; budget `B` -/
def countState (B k : Nat) : Option (Self Nat) :=
  ((List.range k ++ List.range k).foldlM (fun σ i => _collect_patterns 2 σ i) (init : Self Nat)).map fun σ =>
    { σ with memory := (List.range k).map fun i => MemItem.proved ⟨i⟩, _max_allowed_slots := B }

/-- `finalize` on that state returns the first `B − k` axioms -/
def counted (B k : Nat) : Bool :=
  match countState B k with
  | some σ => (match finalize (fun _ l => l) 0 σ with
      | some (R, _, _) => R == List.range (B - k)
      | none => false)
  | none => false

/-- scaled instance (budget 8, 5 axioms: the 3 suggestions of `attained_8`); the instance `counted 256 129` evaluates to
`true` with `#eval` but exceeds the default heartbeats under `decide +kernel` -/
theorem counting_suggests : counted 8 5 = true ∧ (List.range (8 - 5)).map NPat.sym = axs 3 := by
  constructor
  · decide +kernel
  · rfl

end C03

#print axioms C03.finalize_budget
#print axioms C03.finalize_budget_general
#print axioms C03.memo_run_memory_bound
#print axioms C03.canonical_plain
#print axioms C03.optimized_run_fits
#print axioms C03.optimized_slots_fit_in_a_byte
#print axioms C03.load_operands_below_memory
#print axioms C03.budget_attained
#print axioms C03.counting_suggests
