import Pi2.PrettyPat
import Pi2.NotationThm
import Pi2.PrettyThm
import Pi2.PrettyTie
/-!
# C19 — pretty-printed notation shows the arguments it depends on; the steps of the pretty files are the
instructions of the binary files

First half: theorems about the model `PP.pretty` / `Fmt.render` and the regenerated notation table, and (below,
`pretty_text_is_the_model`) the tie of the model to the `pretty` methods as written in `pattern.py`.
Second half (`pretty_steps_*`): the step lines `PrettyPrintingInterpreter` writes, as written in
`pretty_printing_interpreter.py`, against the instructions the serializer writes (`Pi2/PrettyTie.lean`).
-/
set_option linter.unusedVariables false
namespace C19

/-- the format string of a table entry parses, and shows every metavariable the expansion of the
definition contains -/
def entryOK (e : Gen.NotationEntry) : Bool :=
  match Fmt.parseFmt e.format.toList with
  | none => false
  | some segs => (Py.metavars e.definition.expand).all fun i => (Fmt.holes segs).contains i

/-- **table theorem** over `Gen.notations` (regenerated from the source on every run): every shipped
notation prints every argument its definition depends on -/
theorem shipped_notations_show_their_arguments : Gen.notations.all entryOK = true := by decide +kernel

/-- …every metavariable of a definition is below the arity (so it is bound by a full application), and
every definition except `functional` (whose metavariable declares `e_fresh x0`) is shaped, i.e. inside
the domain of the transparency theorems of C12 -/
theorem shipped_notations_arity :
    Gen.notations.all (fun e => (Py.metavars e.definition.expand).all (· < e.arity)) = true := by
  decide +kernel

theorem shipped_notations_shaped :
    Gen.notations.all (fun e => e.definition.Shape || e.label == "functional") = true := by
  decide +kernel

/-- if two applications of the same definition denote different patterns, some argument that the
definition depends on differs (contrapositive of `Py.inst_congr`) -/
theorem different_denotation_different_argument (d : Pat) (δ₁ δ₂ : VId → Option Pat)
    (h : Py.inst δ₁ d ≠ Py.inst δ₂ d) : ∃ k ∈ Py.metavars d, δ₁ k ≠ δ₂ k := by
  apply Classical.byContradiction
  intro hn
  apply h
  apply Py.inst_congr
  intro k hk
  apply Classical.byContradiction
  intro hne
  exact hn ⟨k, hk, hne⟩

/-- an argument the format string shows makes a visible difference: two argument tuples that differ in
exactly one shown position are rendered differently -/
theorem shown_argument_is_visible (segs : List Seg) (i : Nat) (A B : List (List Char)) (a b ra rb : List Char)
    (hi : i ∈ Fmt.holes segs) (hagree : ∀ j, j ≠ i → A[j]? = B[j]?) (ha : A[i]? = some a) (hb : B[i]? = some b)
    (hne : a ≠ b) (hra : Fmt.render segs A = some ra) (hrb : Fmt.render segs B = some rb) : ra ≠ rb :=
  Fmt.render_injective_at segs i A B a b ra rb hi hagree ha hb hne hra hrb

/-- an argument the format string does not mention cannot influence the output -/
theorem unshown_argument_is_invisible (segs : List Seg) (A B : List (List Char))
    (h : ∀ n ∈ Fmt.holes segs, A[n]? = B[n]?) : Fmt.render segs A = Fmt.render segs B :=
  Fmt.render_congr segs A B h

/-! Non-vacuity: `equiv`'s format string after the repair shows both arguments -/
example : (Fmt.parseFmt "({0} <-> {1})".toList).map Fmt.holes = some [0, 1] := by decide +kernel
example : (Fmt.parseFmt "(0 <-> 1)".toList).map Fmt.holes = some [] := by decide +kernel   -- the pinned f-string

/-! ## the source text (`Pi2/Gen/PyPretty.lean`, regenerated by `vlib/transpretty.py` on every run) -/

/-- every `pretty` / `__str__` method, `Notation.print_instantiation`, `PrettyOptions`, the decorator and every decorated
method of `PrettyPrintingInterpreter` is covered by the translator -/
theorem pretty_printer_translated : Gen.PyPretty.translated = true := PrettyTie.translated

/-- **`pretty()` as written is the model.**  For a model term `p` (notation nodes = applications of shipped notations)
and the Python object `q` it stands for (`PrettyTie.obj`: `napp idx args` is the `Instantiate` object
`Gen.notations[idx](*args)`), with `opts.notations` = the shipped table keyed by definition: the translated
`Pattern.pretty` — dispatch over the eleven classes, the lookup of `self.pattern` in `opts.notations`,
`print_instantiation`'s assertion, comprehension and `format_str.format(*pretty_opts)` — returns `PP.pretty p`
(`none` = the `ValueError` of a malformed format string) at every fuel above `depth p + K`.  `str.format` itself is
library code: `Fmt.parseFmt` / `Fmt.render` on both sides. -/
theorem pretty_text_is_the_model (σ : Nat → String) (code : String → Nat) (hσ : ∀ s, σ (code s) = s)
    (p : PP) (q : NPat) (hq : PrettyTie.obj code p = some q) (n : Nat) (hn : PrettyTie.depth p + PrettyTie.K < n) :
    Gen.PyPretty.pretty σ n q PrettyTie.tableOpts = some p.pretty :=
  PrettyTie.pretty_is_model σ code hσ p q hq n hn

/-- … and at *every* fuel the translated `pretty` either runs out of fuel or answers what the model answers -/
theorem pretty_text_sound_at_every_fuel (σ : Nat → String) (code : String → Nat) (hσ : ∀ s, σ (code s) = s)
    (n : Nat) (p : PP) (q : NPat) (hq : PrettyTie.obj code p = some q) :
    Gen.PyPretty.pretty σ n q PrettyTie.tableOpts = none ∨ Gen.PyPretty.pretty σ n q PrettyTie.tableOpts = some p.pretty :=
  PrettyTie.pretty_sound_any_fuel σ code hσ n p q hq

/-- a model term stands for no Python object only if it applies a notation index outside the table; the model then
answers `none` -/
theorem pretty_outside_table (code : String → Nat) (p : PP) (h : PrettyTie.obj code p = none) : p.pretty = none :=
  PrettyTie.obj_none code p h

/-- what the tie needs of the table, decided on the regenerated table: every shipped definition, looked up in the
dictionary keyed by definition, finds a notation with its own format string whose definition is `==` to it; and the
keys are pairwise different, so the dictionary has exactly the table's entries -/
theorem pretty_table_lookup :
    Gen.notations.all PrettyTie.entryFound = true ∧ PrettyTie.keysDistinct Gen.notations = true :=
  ⟨PrettyTie.table_lookup, PrettyTie.table_keys_distinct⟩

/-- `str(p)` is `p.pretty(PrettyOptions())` for every class -/
theorem str_is_pretty_default (σ : Nat → String) (n : Nat) (q : NPat) :
    Gen.PyPretty.toStr σ n q = Gen.PyPretty.pretty σ n q Gen.PyPretty.PrettyOptions_default :=
  PrettyTie.toStr_is_pretty_default σ n q

/-- **one pretty step per binary instruction, same kind, same order** (against the model serializer): for every call
of the tracker model that the serializer answers with the instructions `is`, the keywords read off the step lines the
pretty-printing interpreter writes for the same call are the names of `is` — exactly one line for each of the 24
interface methods (`metavar` ↦ `MetaVar` for both `MetaVar` and `CleanMetaVar`; `instantiate`, `instantiate_pattern`
↦ `Instantiate`; `publish_proof / _axiom / _claim` ↦ `Publish`), none for the two phase changes -/
theorem pretty_steps_match_binary_instructions (n : Nat) (s : PySt) (c : Call) (is : List Instr)
    (h : PySt.emit1 n s c = some (some is)) (σ symName : Nat → String) (saveId loadId : String) (memIdx : Nat) :
    (PrettyTie.pcallOf symName saveId loadId memIdx c).toList.map
        (fun pc => PrettyTie.keywordOf (PrettyTie.stepText σ pc).toList) =
      is.map (fun i => some (PrettyTie.instrName i)) :=
  PrettyTie.steps_match_emitted n s c is h σ symName saveId loadId memIdx

/-- … and against the translated serializer: the first byte `SerializingInterpreter` writes for the call is the opcode
the keyword names (`CleanMetaVar` when the five lists of a `MetaVar` line are empty); it writes nothing exactly for the
calls that write no step -/
theorem pretty_steps_match_serializer_bytes (s : PySt) (c : Call) (symName : Nat → String) (saveId loadId : String)
    (memIdx : Nat) :
    (SerTie.bytesOfCall s memIdx c).head? = (PrettyTie.pcallOf symName saveId loadId memIdx c).map PrettyTie.stepOpcode :=
  PrettyTie.steps_match_serializer s c symName saveId loadId memIdx

/-- the decorator as written: the tracker method of the same name runs first, then the function's text, then one
newline, then the stack dump unless the method is `save` / `publish_*` -/
theorem pretty_wrapper_shape (σ : Nat → String) (c : Gen.PyPretty.PCall) :
    c.events σ = [PyP.Ev.super_ c.method] ++ (c.writes σ).map PyP.Ev.out ++ [PyP.Ev.out "\n"] ++
      (if c.printStack then [PyP.Ev.printStack] else []) :=
  PrettyTie.events_shape σ c

/-- **exactly one step line per call**: the text of a decorated call, read the way the check reads a pretty file,
is the one step named by the method's keyword (free strings — symbol name, `load` id — without newline) -/
theorem pretty_one_step_line_per_call (σ : Nat → String) (c : Gen.PyPretty.PCall) (hc : PrettyTie.Clean c) :
    PrettyTie.stepsOfText ((PrettyTie.stepText σ c).toList ++ ['\n']) = [PrettyTie.kw c] :=
  PrettyTie.one_step_line_per_call σ c hc

/-- the keyword is the whole first word of the step line: alone, or followed by a space and the arguments -/
theorem pretty_step_keyword_is_a_word (σ : Nat → String) (c : Gen.PyPretty.PCall) :
    PrettyTie.startsWithWord (PrettyTie.kw c).toList (PrettyTie.stepText σ c).toList = true :=
  PrettyTie.step_keyword_is_a_word σ c

/-- the stack dump consists of complete indented lines (renderings without newline): none is read as a step -/
theorem pretty_stack_dump_indented (σ : Nat → String) (n : Nat) (stack : List TTerm) (opts : PyP.PrettyOptions)
    (out : List String) (h : Gen.PyPretty.print_stack σ n stack opts = some (some out))
    (hnl : ∀ item ∈ stack, ∀ t, Gen.PyPretty.pretty σ n item.body opts = some (some t) → '\n' ∉ t.toList) :
    out.length = stack.length + 1 ∧ ∀ s ∈ out, PrettyTie.QuietLine s.toList :=
  PrettyTie.print_stack_quiet σ n stack opts out h hnl

/-- **a pretty file lists its calls**: the steps read off a file are the keywords of the decorated calls that wrote
it, one per call, in order -/
theorem pretty_file_lists_the_calls (σ : Nat → String) (cs : List (Gen.PyPretty.PCall × List String))
    (hclean : ∀ c ∈ cs, PrettyTie.Clean c.1) (hdump : ∀ c ∈ cs, ∀ s ∈ c.2, PrettyTie.QuietLine s.toList) :
    PrettyTie.stepsOfText (cs.map fun c => PrettyTie.callText σ c.1 c.2).flatten = cs.map fun c => PrettyTie.kw c.1 :=
  PrettyTie.file_steps σ cs hclean hdump

end C19
