import Pi2.MM.TranslateThm
import Pi2.Props.C15
import Pi2.XProofTie
import Pi2.MM.ConvCompose
import Pi2.MM.ConvCoherence
import Pi2.MM.ConvSugar
/-!
# C16 — valid Metamath proofs translate to checkable proofs of the same statement

Model: `Pi2/MM/Translate.lean` — a Metamath verifier for fragment F0 written from the Metamath book
(`mmVerify`), the converter's image of terms (`image`; DECLARED NOTATIONS `$a #Notation ( n args ) body` are part of the
model: `Ctor.body`, expanded by `image` as the converter's closures do — `plug`, `DB.notTab` — and constructors like any
other for `mmVerify`; `DB.wf` asks that a notation symbol has one constructor axiom and that a body mentions the
notation's own variables and, of the notation symbols, earlier ones only), and `exec_proof` + the gamma/claim phases of
`ProofExp.execute_full` (`translateFull`, tree after the `fix:` commit F13), for any memoisation
configuration (`--optimize` or not).  Compressed-proof decoding is C15.

* `translation_succeeds`: every compressed proof the verifier accepts over a well-formed database is
  translated without an exception (enough fuel), and its claim is discharged.
* `translation_accepted`: the checker accepts the three serialised streams and publishes exactly the
  images of the database's axioms and rules (Γ) and the image of the target (claim).
  Hypothesis `CanonCalls`: symbols are named in the order of their first serialisation (names are
  arbitrary labels; the correspondence harness compares bytes, which do not depend on names).
* `layout_independent`: two proofs of the same target — with or without reuse marks, optimised or
  not — give the same outcome.
* `exec_proof_translated`, `exec_proof_step_text_is_the_model`, `exec_proof_text_is_the_model`: `exec_proof` as written in
  `metamath/translate.py` (`Pi2/Gen/ExecProof.lean`, regenerated from the source on every run by `vlib/transxproof.py`:
  closures, branch order, stack indices, `save`/`pop`/`instantiate` sequences, `memory_offset`, the `Z` mark) is the model
  `xstep` / `execProof` the theorems above are stated about — for the converter of a well-formed database
  (`XProofTie.ofDB`) and fuel `≥ 5` (both needed: `XProofTie.wf_needed`, `XProofTie.fuel_needed`); `Pi2/XProofTie.lean`.
* `converter_translated`, `converter_text_state`, `converter_text_is_the_model`: `MetamathConverter` as written in
  `metamath/converter/converter.py` + `scope.py` + `representation.py` (`Pi2/Gen/MMConv.lean`, regenerated from the source on every
  run by `vlib/transconv.py`: `__init__`, `_top_down` with `sort_axiom`, the five `get_*` tests of `_import_floating`, the ten
  predicates of `_check_axiom` in the order they are tried, `_import_axiom` / `_import_lemma` with blocks, `_to_pattern`,
  `_convert_antecedents`, the query methods) on every database of the fragment `ConvTie.InFragment` (decidable; evaluated by the
  driver on every generated database) returns, and answers every query of `exec_proof` about every `$f` and `$a` label exactly as
  `XProofTie.ofDB` of the SPECIFICATION `MM.ConvSpec.dbOfMDb` (`Pi2/MM/ConvSpec.lean`: the model database, label table, numbering
  and target read off the Metamath meaning of the statements) answers it for the label's `Lbl`; `exported_axioms` are the `|-`
  axioms that are not proof rules, in database order; the target's pattern is the image of the goal and its decoded proof is the
  specification's label list and steps.  (`Pi2/MM/ConvTie.lean`, `Pi2/MM/ConvBridge.lean`.)
* `translation_text_is_the_model`: the composition — the generated converter (packaged as the `Conv` of the generated `exec_proof`:
  `ConvTie.convOf`, labels by their names in the label table) + the generated `exec_proof` on a database of the fragment
  (`ConvTie.InFragmentX`) = the model's `execProof` on `dbOfMDb`, the model the theorems at the top of this file are about
  (`Pi2/MM/ConvCompose.lean`, through `XProofCongr.exec_proof_congr` and `XProofTie.exec_proof_tie`).
* `converter_text_is_the_model_of_shape`, `translation_text_is_the_model_of_shape`: the two theorems above WITHOUT a hypothesis
  about the output of `dbOfMDb` or the converter's run: for every database that satisfies `MM.ConvSpec.FragmentShape`
  (`Pi2/MM/ConvShape.lean`) — a decidable predicate on the STATEMENTS alone, written from their Metamath meaning: `$c`/`$v`;
  `v-is-pattern $f #Pattern v` after the `$v` of `v`; pattern-constructor axioms over pairwise different variables, `\imp` / `\app`
  exactly under the labels `imp-is-pattern` / `app-is-pattern`; `|-` axioms and `${ $e … $a $}` rules over declared constants and
  variables with a `$f`; the three proof rules under their names; pairwise different labels; one top-level `$p`, the target, with a
  compressed proof that cites `$f` / `$a` labels.  `ConvCoh.coherence` (`Pi2/MM/ConvCoherence.lean`) proves that `dbOfMDb` accepts
  every such database and that its output is coherent with every statement; `ConvCoh.inFragmentM_of_shape` derives the run
  conditions.  `fragment_shape_example`: the predicate holds of a concrete database (kernel evaluation), so the theorems are not
  vacuous; the driver evaluates it on every generated database.
* `notation_axiom_is_body_image`: what `exec_proof` pushes for a step that cites the constructor axiom of a declared
  notation (`axiom.pattern` = the image of `( n v₁ … vₖ )`) is the image of the notation's body;
  `notation_example`: a concrete database with a declared notation (kernel evaluation).
* The three theorems at the top hold for every well-formed database, with or without declared notations.  The TEXT ties
  (`exec_proof_*` hold for every well-formed database; `converter_*`, `translation_text_*`) go through `dbOfMDb`.
* `#Notation` statements in the SPECIFICATION: `dbOfMDb` = the core specification `dbOfCore` of the database without its
  `#Notation` statements + the bodies at the constructor entries of their heads (`Ctor.body`; numbering and label table unchanged);
  `FragmentShape` = `CoreShape` of the database without them + `sugarShape` (after the constructor axiom of the head, same
  variables; body over those variables and EARLIER notations; one statement per head, in the order of the constructor axioms;
  heads applied to exactly their number of arguments everywhere; labels pairwise different; no `#Notation` statement for `\imp` /
  `\app`: `headsPlain`, Props/C16c).  `spec_without_notations`,
  `core_shape_of_sugarFree`, `sugarFree_of_spec_core`; `fragment_shape_notation_example`, `spec_notation_example`,
  `forward_notation_not_in_shape` (kernel evaluation).  The CONVERTER TEXT ties (`converter_*`, `translation_text_*`, Props/C16b
  `translation_*text*`) are for databases WITHOUT `#Notation` statements (hypothesis `ConvTie.InFragment(X)`, which implies it, resp.
  `FragmentShape` + `sugarFree`): `MetamathConverter._add_notation` is outside the translated fragment of `vlib/transconv.py`
  (`Pi2/Gen/MMConv.lean` answers `Res.outside` on a sugar axiom); the converter's notation paths are tied to the model by the
  byte-for-byte comparison of `vlib/props/c16.py` only.
* NOT covered by a theorem: the byte limits of the wire format (a proof that needs more than 256
  memory slots cannot be serialised: recorded finding KF-C16-slots).
-/
namespace C16
open MM PySt

theorem translation_succeeds (cfg : Cfg) (db : DB) (goal : MM.Term) (labels : List Lbl) (steps : List Nat)
    (hwf : db.wf = true) (hv : mmVerify db goal labels steps = true) :
    ∃ n s calls, translateFull cfg n db goal labels steps = some (some (s, calls)) ∧ s.claims = [] :=
  MM.translate_succeeds cfg db goal labels steps hwf hv

theorem translation_accepted (cfg : Cfg) (db : DB) (goal : MM.Term) (labels : List Lbl) (steps : List Nat)
    (hwf : db.wf = true) (hv : mmVerify db goal labels steps = true) :
    ∃ n s calls g c p,
      translateFull cfg n db goal labels steps = some (some (s, calls)) ∧
      PySt.trackAll n (PySt.init [image db goal]) calls ([], [], []) = some (some (s, (g, c, p))) ∧
      (CanonCalls [] calls →
        verify g c p = some (db.axiomImages.map NPat.expand, [(image db goal).expand])) :=
  MM.translate_verifies cfg db goal labels steps hwf hv

/-- the same for any successful translation, valid Metamath proof or not: what the checker accepts is
always the image of the database and of the target (no other statement can be smuggled in) -/
theorem accepted_translation_claims_the_target (cfg : Cfg) (n : Nat) (db : DB) (goal : MM.Term) (labels : List Lbl)
    (steps : List Nat) (s : PySt) (calls : List Call) (hwf : db.wf = true)
    (hex : translateFull cfg n db goal labels steps = some (some (s, calls)))
    (hcanon : CanonCalls [] calls) (hfin : s.claims = []) :
    ∃ g c p,
      PySt.trackAll n (PySt.init [image db goal]) calls ([], [], []) = some (some (s, (g, c, p))) ∧
      verify g c p = some (db.axiomImages.map NPat.expand, [(image db goal).expand]) :=
  MM.translate_accepted' cfg n db goal labels steps s calls hwf hex hcanon hfin

theorem layout_independent (cfg₁ cfg₂ : Cfg) (n₁ n₂ : Nat) (db : DB) (goal : MM.Term)
    (labels₁ labels₂ : List Lbl) (steps₁ steps₂ : List Nat)
    (s₁ s₂ : PySt) (calls₁ calls₂ : List Call) (g₁ c₁ p₁ g₂ c₂ p₂ : List Instr)
    (hwf : db.wf = true)
    (hex₁ : translateFull cfg₁ n₁ db goal labels₁ steps₁ = some (some (s₁, calls₁)))
    (hT₁ : PySt.trackAll n₁ (PySt.init [image db goal]) calls₁ ([], [], []) = some (some (s₁, (g₁, c₁, p₁))))
    (hcanon₁ : CanonCalls [] calls₁) (hfin₁ : s₁.claims = [])
    (hex₂ : translateFull cfg₂ n₂ db goal labels₂ steps₂ = some (some (s₂, calls₂)))
    (hT₂ : PySt.trackAll n₂ (PySt.init [image db goal]) calls₂ ([], [], []) = some (some (s₂, (g₂, c₂, p₂))))
    (hcanon₂ : CanonCalls [] calls₂) (hfin₂ : s₂.claims = []) :
    verify g₁ c₁ p₁ = verify g₂ c₂ p₂ ∧
      verify g₁ c₁ p₁ = some (db.axiomImages.map NPat.expand, [(image db goal).expand]) :=
  MM.translate_layout_independent cfg₁ cfg₂ n₁ n₂ db goal labels₁ labels₂ steps₁ steps₂ s₁ s₂ calls₁ calls₂
    g₁ c₁ p₁ g₂ c₂ p₂ hwf hex₁ hT₁ hcanon₁ hfin₁ hex₂ hT₂ hcanon₂ hfin₂

/-- every statement of `exec_proof`, its closures and `convert_to_implication` is covered by the translator -/
theorem exec_proof_translated : Gen.XProof.translated = true := XProofTie.translated

/-- one iteration of the loop of `exec_proof` as written (label lookup, dispatch in source order, the interpreter calls of
the branch with their stack positions and deltas, what is appended to `mm_memory`) is `xstep`, for every state, step
number and continuation -/
theorem exec_proof_step_text_is_the_model (cfg : Cfg) (n : Nat) (db : DB) (goal : MM.Term) (labels : List Lbl) (x : XSt)
    (step : Nat) (k : XSt → PyXProof.R) (hwf : db.wf = true) (hn : 5 ≤ n) :
    Gen.XProof.step (XProofTie.ofDB db goal) cfg n labels labels.length x step k =
      PyXProof.bindR (xstep cfg n db labels x step) k :=
  XProofTie.step_tie db goal cfg n labels x step k (DB.wf_WF db hwf) hn

/-- `exec_proof` as written — `mm_memory = []`, `memory_offset = len(labels)`, the loop, the final comparison with the
target's pattern, `publish_proof` — is `execProof`: same exception / out-of-fuel / final tracker state and call history -/
theorem exec_proof_text_is_the_model (cfg : Cfg) (n : Nat) (db : DB) (goal : MM.Term) (labels : List Lbl) (steps : List Nat)
    (s : PySt) (acc : List Call) (hwf : db.wf = true) (hn : 5 ≤ n) :
    XProofTie.outcome (Gen.XProof.exec_proof (XProofTie.ofDB db goal) cfg n labels steps s acc) =
      execProof cfg n db goal labels steps s acc :=
  XProofTie.exec_proof_tie db goal cfg n labels steps s acc (DB.wf_WF db hwf) hn

/-- every statement of the converter paths the fragment exercises is covered by the translator (`vlib/transconv.py`) -/
theorem converter_translated : Gen.MMConv.translated = true := ConvTie.translated

/-- on a database that satisfies the decidable conditions `InFragmentM` the converter as written returns — no exception, no path
outside the modelled fragment, enough fuel — and its final state is `ConvTie.Final`: pattern constructors, proof rules, `_axioms` in
database order with the structural images, `$f` order, the target lemma with its decoded proof -/
theorem converter_text_state (σ : String → Nat) (mdb : MDb) (fuel0 : Nat) (target : String)
    (h : ConvTie.InFragmentM mdb fuel0 target = true) :
    ∃ t prf pf, ConvTie.lemmaOf mdb = some (target, t, prf) ∧
      ConvSup.callImportProof ((ConvTie.floatPairs mdb).map (·.2)) (.prov target [.app "|-" [], t] prf) = .ok pf ∧
      ∀ fuel, fuel0 ≤ fuel → ∃ c, Gen.MMConv.MetamathConverter_init σ fuel default mdb = .ok c ∧ ConvTie.Final σ mdb target t pf c :=
  ConvTie.converter_state σ mdb fuel0 target h

/-- the converter as written is the model: on every database of the fragment it answers the queries of `exec_proof`
(`pattern_constructors`, `_fp_label_to_pattern`, `exported_axioms`, `proof_rules`, `get_axiom_by_name`, `get_metavars_in_order`,
`resolve_metavar`, `get_lemma_by_name`) as `XProofTie.ofDB (dbOfMDb mdb)` does -/
theorem converter_text_is_the_model (mdb : MDb) (target : String) (h : ConvTie.InFragment mdb target = true) :
    ∃ sp, MM.ConvSpec.dbOfMDb mdb target = some sp ∧ sp.db.wf = true ∧
      ∀ fuel, ConvTie.dbFuel mdb ≤ fuel → ∃ c, Gen.MMConv.MetamathConverter_init sp.names.consts.idxOf fuel default mdb = .ok c ∧
        (∀ l v, (l, v) ∈ ConvTie.floatPairs mdb →
          sp.table.lookup l = some (Lbl.float (sp.names.vars.idxOf v)) ∧
          c._fp_label_to_pattern.lookup l = (XProofTie.ofDB sp.db sp.goal).floating (Lbl.float (sp.names.vars.idxOf v)) ∧
          Gen.MMConv.resolve_metavar sp.names.consts.idxOf fuel c v =
            .ok ((XProofTie.ofDB sp.db sp.goal).resolveMetavar (sp.names.vars.idxOf v)) ∧
          Gen.MMConv.is_pattern_constructor sp.names.consts.idxOf fuel c l =
            (XProofTie.ofDB sp.db sp.goal).isPatternConstructor (Lbl.float (sp.names.vars.idxOf v))) ∧
        (∀ st ∈ mdb.filter ConvTie.isAxItem, ∃ l lbl, ConvTie.axLabel st = l ∧ sp.table.lookup l = some lbl ∧
          ConvTie.AgreeAxiom sp.names.consts.idxOf fuel c sp.names sp.db sp.goal l lbl) ∧
        (Gen.MMConv.exported_axioms sp.names.consts.idxOf fuel c =
          ((mdb.filter ConvTie.isAxItem).filter fun st => !ConvTie.isPcItem st && !ConvTie.isPrItem st).map ConvTie.axLabel) ∧
        (∃ a pf, Gen.MMConv.get_lemma_by_name sp.names.consts.idxOf fuel c target = .ok a ∧
          a.pattern = (XProofTie.ofDB sp.db sp.goal).targetPattern ∧ a.proof? = some pf ∧ ConvTie.proofAgrees sp pf = true ∧
          Gen.MMConv.lemmas sp.names.consts.idxOf fuel c = [target]) :=
  let ⟨sp, h1, rest⟩ := ConvTie.converter_agrees mdb target h
  ⟨sp, MM.ConvSpec.dbOfMDb_of_dbOfCore h1, rest⟩

/-- the translation as written is the model: converter text + `exec_proof` text on a database of the fragment = `execProof` on the
specification's database, label list and steps (fuel `≥ dbFuel` for the converter, `≥ 5` for `exec_proof`) -/
theorem translation_text_is_the_model (mdb : MDb) (target : String) (h : ConvTie.InFragmentX mdb target = true) :
    ∃ sp, MM.ConvSpec.dbOfMDb mdb target = some sp ∧
      ∀ fuel, ConvTie.dbFuel mdb ≤ fuel → ∃ c, Gen.MMConv.MetamathConverter_init sp.names.consts.idxOf fuel default mdb = .ok c ∧
        (∃ a pf, Gen.MMConv.get_lemma_by_name sp.names.consts.idxOf fuel c target = .ok a ∧ a.proof? = some pf ∧
          ConvTie.proofAgrees sp pf = true) ∧
        ∀ (cfg : Cfg) (n : Nat) (s : PySt) (acc : List Call), 5 ≤ n →
          XProofTie.outcome (Gen.XProof.exec_proof (ConvTie.convOf sp.names.consts.idxOf fuel c sp target) cfg n sp.labels sp.steps s acc) =
            execProof cfg n sp.db sp.goal sp.labels sp.steps s acc :=
  let ⟨sp, h1, rest⟩ := ConvTie.translation_tie mdb target h
  ⟨sp, MM.ConvSpec.dbOfMDb_of_dbOfCore h1, rest⟩

/-- **coherence of the specification**: on every database of the shape (a predicate on the statements alone) `dbOfMDb` succeeds,
its output agrees with every statement (the conjuncts about `dbOfMDb` of `ConvTie.InFragment` / `ConvTie.InFragmentX`) and its
database is well formed -/
theorem spec_coherent_of_shape (mdb : MDb) (target : String) (h : MM.ConvSpec.FragmentShape mdb target = true)
    (hs : MM.ConvSpec.sugarFree mdb = true) :
    ∃ sp, MM.ConvSpec.dbOfMDb mdb target = some sp ∧ ConvCoh.Coherent mdb target sp ∧ sp.db.wf = true :=
  let ⟨sp, h1, rest⟩ := ConvCoh.coherence mdb target (MM.ConvSpec.coreShape_of_sugarFree h hs)
  ⟨sp, MM.ConvSpec.dbOfMDb_of_dbOfCore h1, rest⟩

/-- the run conditions and the coherence conditions follow from the shape -/
theorem in_fragment_of_shape (mdb : MDb) (target : String) (h : MM.ConvSpec.FragmentShape mdb target = true)
    (hs : MM.ConvSpec.sugarFree mdb = true) :
    ConvTie.InFragmentM mdb (ConvTie.dbFuel mdb) target = true ∧ ConvTie.InFragment mdb target = true ∧
      ConvTie.InFragmentX mdb target = true :=
  have h := MM.ConvSpec.coreShape_of_sugarFree h hs
  ⟨ConvCoh.inFragmentM_of_shape mdb target h, ConvCoh.inFragmentConv_of_shape mdb target h, ConvCoh.inFragmentX_of_shape mdb target h⟩

/-- `converter_text_is_the_model` for every database of the shape `MM.ConvSpec.FragmentShape` — no hypothesis about the run of the
converter or the output of `dbOfMDb` -/
theorem converter_text_is_the_model_of_shape (mdb : MDb) (target : String) (h : MM.ConvSpec.FragmentShape mdb target = true)
    (hs : MM.ConvSpec.sugarFree mdb = true) :
    ∃ sp, MM.ConvSpec.dbOfMDb mdb target = some sp ∧ sp.db.wf = true ∧
      ∀ fuel, ConvTie.dbFuel mdb ≤ fuel → ∃ c, Gen.MMConv.MetamathConverter_init sp.names.consts.idxOf fuel default mdb = .ok c ∧
        (∀ l v, (l, v) ∈ ConvTie.floatPairs mdb →
          sp.table.lookup l = some (Lbl.float (sp.names.vars.idxOf v)) ∧
          c._fp_label_to_pattern.lookup l = (XProofTie.ofDB sp.db sp.goal).floating (Lbl.float (sp.names.vars.idxOf v)) ∧
          Gen.MMConv.resolve_metavar sp.names.consts.idxOf fuel c v =
            .ok ((XProofTie.ofDB sp.db sp.goal).resolveMetavar (sp.names.vars.idxOf v)) ∧
          Gen.MMConv.is_pattern_constructor sp.names.consts.idxOf fuel c l =
            (XProofTie.ofDB sp.db sp.goal).isPatternConstructor (Lbl.float (sp.names.vars.idxOf v))) ∧
        (∀ st ∈ mdb.filter ConvTie.isAxItem, ∃ l lbl, ConvTie.axLabel st = l ∧ sp.table.lookup l = some lbl ∧
          ConvTie.AgreeAxiom sp.names.consts.idxOf fuel c sp.names sp.db sp.goal l lbl) ∧
        (Gen.MMConv.exported_axioms sp.names.consts.idxOf fuel c =
          ((mdb.filter ConvTie.isAxItem).filter fun st => !ConvTie.isPcItem st && !ConvTie.isPrItem st).map ConvTie.axLabel) ∧
        (∃ a pf, Gen.MMConv.get_lemma_by_name sp.names.consts.idxOf fuel c target = .ok a ∧
          a.pattern = (XProofTie.ofDB sp.db sp.goal).targetPattern ∧ a.proof? = some pf ∧ ConvTie.proofAgrees sp pf = true ∧
          Gen.MMConv.lemmas sp.names.consts.idxOf fuel c = [target]) :=
  converter_text_is_the_model mdb target (ConvCoh.inFragmentConv_of_shape mdb target (MM.ConvSpec.coreShape_of_sugarFree h hs))

/-- `translation_text_is_the_model` for every database of the shape `MM.ConvSpec.FragmentShape` -/
theorem translation_text_is_the_model_of_shape (mdb : MDb) (target : String) (h : MM.ConvSpec.FragmentShape mdb target = true)
    (hs : MM.ConvSpec.sugarFree mdb = true) :
    ∃ sp, MM.ConvSpec.dbOfMDb mdb target = some sp ∧
      ∀ fuel, ConvTie.dbFuel mdb ≤ fuel → ∃ c, Gen.MMConv.MetamathConverter_init sp.names.consts.idxOf fuel default mdb = .ok c ∧
        (∃ a pf, Gen.MMConv.get_lemma_by_name sp.names.consts.idxOf fuel c target = .ok a ∧ a.proof? = some pf ∧
          ConvTie.proofAgrees sp pf = true) ∧
        ∀ (cfg : Cfg) (n : Nat) (s : PySt) (acc : List Call), 5 ≤ n →
          XProofTie.outcome (Gen.XProof.exec_proof (ConvTie.convOf sp.names.consts.idxOf fuel c sp target) cfg n sp.labels sp.steps s acc) =
            execProof cfg n sp.db sp.goal sp.labels sp.steps s acc :=
  translation_text_is_the_model mdb target (ConvCoh.inFragmentX_of_shape mdb target (MM.ConvSpec.coreShape_of_sugarFree h hs))

/-- non-vacuity: a concrete database of the shape — constants, a binary constructor, `\imp` / `\app`, three `$f` statements in
shuffled order, an axiom, a rule with two hypotheses, the three proof rules, a goal with a compressed proof
(`MM.ConvSpec.Example.db`); evaluated by the kernel -/
theorem fragment_shape_example : MM.ConvSpec.FragmentShape MM.ConvSpec.Example.db "goal" = true :=
  MM.ConvSpec.Example.db_in_fragment

/-- … to which the theorems therefore apply -/
example : ∃ sp, MM.ConvSpec.dbOfMDb MM.ConvSpec.Example.db "goal" = some sp ∧ sp.db.wf = true :=
  let ⟨sp, h1, h2, _⟩ := converter_text_is_the_model_of_shape _ _ fragment_shape_example MM.ConvSpec.Example.db_sugarFree
  ⟨sp, h1, h2⟩

/-! ## declared notations -/

/-- on a database without `#Notation` statements the specification is the core specification (the one the converter tie is about) -/
theorem spec_without_notations (mdb : MDb) (target : String) (h : MM.ConvSpec.sugarFree mdb = true) :
    MM.ConvSpec.dbOfMDb mdb target = MM.ConvSpec.dbOfCore mdb target :=
  MM.ConvSpec.dbOfMDb_of_sugarFree h target

/-- `FragmentShape` of a database without `#Notation` statements is the notation-free shape `CoreShape` (hypothesis of
`ConvCoh.coherence` / `ConvCoh.inFragment_of_shape`) … -/
theorem core_shape_of_sugarFree (mdb : MDb) (target : String) (h : MM.ConvSpec.FragmentShape mdb target = true)
    (hs : MM.ConvSpec.sugarFree mdb = true) : MM.ConvSpec.CoreShape mdb target = true :=
  MM.ConvSpec.coreShape_of_sugarFree h hs

/-- conservativity: every database of the notation-free shape `CoreShape` has the shape and no `#Notation` statement — so
`FragmentShape` + `sugarFree` (the hypotheses of the `…_of_shape` theorems) is exactly `CoreShape` -/
theorem fragment_shape_of_core_shape (mdb : MDb) (target : String) (h : MM.ConvSpec.CoreShape mdb target = true) :
    MM.ConvSpec.FragmentShape mdb target = true ∧ MM.ConvSpec.sugarFree mdb = true :=
  ⟨MM.ConvSpec.fragmentShape_of_coreShape h, MM.ConvSpec.sugarFree_of_coreShape h⟩

/-- … and whatever the core specification accepts (in particular every database of `ConvTie.InFragment`) has no `#Notation` statement -/
theorem sugarFree_of_spec_core (mdb : MDb) (target : String) (sp : MM.ConvSpec.Spec) (h : MM.ConvSpec.dbOfCore mdb target = some sp) :
    MM.ConvSpec.sugarFree mdb = true ∧ MM.ConvSpec.dbOfMDb mdb target = some sp :=
  ⟨MM.ConvSpec.sugarFree_of_dbOfCore h, MM.ConvSpec.dbOfMDb_of_dbOfCore h⟩

/-- non-vacuity of `FragmentShape` WITH `#Notation` statements: `Example.dbN` (two notations, the second over the first, used in an
axiom and in the goal); kernel evaluation -/
theorem fragment_shape_notation_example : MM.ConvSpec.FragmentShape MM.ConvSpec.Example.dbN "goal" = true :=
  MM.ConvSpec.Example.dbN_in_fragment

/-- … on which `dbOfMDb` returns a well-formed database (`DB.wf`, incl. `notOk`) whose proof `mmVerify` accepts, with exactly the
bodies `n x := f x (x → c)`, `m := n c` at the constructor entries of `n` and `m` -/
theorem spec_notation_example :
    (match MM.ConvSpec.dbOfMDb MM.ConvSpec.Example.dbN "goal" with
     | some sp => sp.db.wf && mmVerify sp.db sp.goal sp.labels sp.steps &&
        (sp.db.ctors.map fun k => (k.sym, k.args, k.body.isSome)) == [(6, [], false), (7, [2, 0], false), (9, [0], true), (10, [], true)] &&
        (sp.db.ctors.filterMap (·.body)) == [MM.Term.con 7 [.var 0, .imp (.var 0) (.con 6 [])], MM.Term.con 9 [.con 6 []]]
     | none => false) = true :=
  MM.ConvSpec.Example.dbN_spec

/-- the clause "a `#Notation` statement comes after the notations its body uses" (KF-C16-forward-notation): the same database with the
two `#Notation` statements exchanged is not of the shape -/
theorem forward_notation_not_in_shape : MM.ConvSpec.FragmentShape MM.ConvSpec.Example.dbFwd "goal" = false :=
  MM.ConvSpec.Example.dbFwd_not_in_fragment

/-- a step that cites the constructor axiom `n-is-pattern` of a declared notation: `xstep` (`xCtor`) pushes
`image db ( n v₁ … vₖ )` — `axiom.pattern`, the notation's closure called on its own metavariables —, and that is the image of
the notation's body -/
theorem notation_axiom_is_body_image (db : DB) (k : Nat) (c : Ctor) (b : MM.Term) (hwf : db.wf = true)
    (hk : db.ctors[k]? = some c) (hb : c.body = some b) :
    image db (.con c.sym (c.args.map .var)) = image db b :=
  MM.image_notation_axiom db hwf k c b hk hb

/-- a database without declared notations: `image` is the plain structural image (symbol applied with nested `\app`) -/
theorem image_without_notations (db : DB) (h : ∀ c ∈ db.ctors, c.body = none) (c : Nat) (xs : List MM.Term) :
    image db (.con c xs) = (xs.map (image db)).foldl (fun a p => NPat.app a p) (.sym c) := by
  rw [MM.image_con_plain db h, ConvTie.imageApp_foldl]

/-! ### a concrete database -/

namespace NotationExample

/-- `$f` statements for `x y z` (`0 1 2`); a binary constructor `( f x y )` (symbol 7), a constant `c` (symbol 3) and the declared
notation `d-is-pattern $a #Pattern ( d x ) $.`, `d-is-sugar $a #Notation ( d x ) ( f x x ) $.` (symbol 9: its body applies the
binary constructor to its argument twice); the axiom `ax $a |- ( d x ) $.`; the three proof rules -/
def db : DB :=
  { floats := [0, 1, 2], impArgs := (0, 1), appArgs := (0, 1),
    ctors := [{ sym := 7, args := [0, 1] }, { sym := 3, args := [] },
              { sym := 9, args := [0], body := some (.con 7 [.var 0, .var 0]) }],
    rules := [⟨[], .con 9 [.var 0]⟩], p1 := (0, 1), p2 := (0, 1, 2), mp := (0, 1) }

/-- `( d ( d c ) )`: the notation applied to itself -/
def goal : MM.Term := .con 9 [.con 9 [.con 3 []]]
/-- `c-is-pattern d-is-pattern ax`: builds `#Pattern ( d c )` and applies the axiom to it -/
def labels : List Lbl := [.ctor 1, .ctor 2, .rule 0]
def steps : List Nat := [1, 2, 3]

/-- `f c c` and `f (f c c) (f c c)` as patterns -/
def fcc : Pat := .app (.app (.sym 7) (.sym 3)) (.sym 3)
def ffcc : Pat := .app (.app (.sym 7) fcc) fcc

end NotationExample

/-- non-vacuity for declared notations: the database `NotationExample.db` is well formed, Metamath accepts the proof of
`|- ( d ( d c ) )` (for Metamath `d` is a constructor like any other), the image of the target has the notation expanded twice
(`f (f c c) (f c c)`), the image of the axiom `|- ( d x )` is `f x x`; so `translation_accepted` applies and the checker publishes
exactly these two patterns.  All facts by kernel evaluation. -/
theorem notation_example :
    NotationExample.db.wf = true ∧
    mmVerify NotationExample.db NotationExample.goal NotationExample.labels NotationExample.steps = true ∧
    (image NotationExample.db NotationExample.goal).expand = NotationExample.ffcc ∧
    NotationExample.db.axiomImages.map NPat.expand =
      [.app (.app (.sym 7) (.mv 0 [] [] [] [] [])) (.mv 0 [] [] [] [] [])] ∧
    ∀ cfg : Cfg, ∃ n s calls g c p,
      translateFull cfg n NotationExample.db NotationExample.goal NotationExample.labels NotationExample.steps
        = some (some (s, calls)) ∧
      PySt.trackAll n (PySt.init [image NotationExample.db NotationExample.goal]) calls ([], [], []) = some (some (s, (g, c, p))) ∧
      (CanonCalls [] calls →
        verify g c p = some ([.app (.app (.sym 7) (.mv 0 [] [] [] [] [])) (.mv 0 [] [] [] [] [])], [NotationExample.ffcc])) := by
  have hwf : NotationExample.db.wf = true := by decide +kernel
  have hv : mmVerify NotationExample.db NotationExample.goal NotationExample.labels NotationExample.steps = true := by
    decide +kernel
  have hg : (image NotationExample.db NotationExample.goal).expand = NotationExample.ffcc := by decide +kernel
  have ha : NotationExample.db.axiomImages.map NPat.expand =
      [.app (.app (.sym 7) (.mv 0 [] [] [] [] [])) (.mv 0 [] [] [] [] [])] := by decide +kernel
  refine ⟨hwf, hv, hg, ha, fun cfg => ?_⟩
  obtain ⟨n, s, calls, g, c, p, h1, h2, h3⟩ :=
    translation_accepted cfg NotationExample.db NotationExample.goal NotationExample.labels NotationExample.steps hwf hv
  exact ⟨n, s, calls, g, c, p, h1, h2, fun hc => by rw [h3 hc, ha, hg]⟩

end C16
