import Pi2.NotationThm
/-!
# Python's `==` is truthful beyond `Shape`: no substitution node inside a notation node

`NPat.peqF_expand` (`Pi2/NotationThm.lean`) says that `a == b` decides equality of the expansions for *shaped* patterns
(every metavariable unconstrained on fresh variables, every substitution node meta-headed).  The memoising serialisation
of a K execution module compares patterns that contain the constrained metavariable `phi0` with `x0` fresh
(`functional`, `func_subst_axiom`), which are not shaped.

`NPat.QF` ("quiet"): substitution nodes `ESubst` / `SSubst` are meta-headed and occur only OUTSIDE notation nodes; a
notation node and the values of its map are free of substitution nodes (`SubFree`).  There is NO condition on
metavariables.  On such patterns `Instantiate.simplify` never pushes a substitution through a metavariable, so it never
looks at a constraint; `==` only compares the constraint lists of two metavariables for equality.

Proof by transport: `cln` moves the freshness constraints of every metavariable into its (uninterpreted) positivity
list, injectively (`encC`).  On `SubFree` patterns `instantiate` commutes with `cln`; on `QF` patterns `==` does; `cln`
of a `QF` pattern is shaped and its expansion is `Pat.cln` of the expansion; `Pat.cln` is injective.  Hence
`peqF_expand_QF`: for `QF` patterns, `a == b` answers `decide (a.expand = b.expand)`.
-/
set_option linter.unusedVariables false
set_option linter.unusedSimpArgs false
open Pat

/-! ## the classes -/
namespace NPat

mutual
/-- no substitution node -/
def SubFree : NPat → Bool
  | .evar _ => true | .svar _ => true | .sym _ => true
  | .mv _ _ _ _ _ _ => true
  | .imp l r => l.SubFree && r.SubFree
  | .app l r => l.SubFree && r.SubFree
  | .ex _ p => p.SubFree | .mu _ p => p.SubFree
  | .esub _ _ _ => false | .ssub _ _ _ => false
  | .inst p m => p.SubFree && SubFreeMap m
def SubFreeMap : List (Nat × NPat) → Bool
  | [] => true
  | (_, v) :: r => v.SubFree && SubFreeMap r
end

/-- substitution nodes are meta-headed and occur only outside notation nodes; no condition on metavariables -/
def QF : NPat → Bool
  | .evar _ => true | .svar _ => true | .sym _ => true
  | .mv _ _ _ _ _ _ => true
  | .imp l r => l.QF && r.QF
  | .app l r => l.QF && r.QF
  | .ex _ p => p.QF | .mu _ p => p.QF
  | .esub p _ q => p.isMetaN && p.QF && q.QF
  | .ssub p _ q => p.isMetaN && p.QF && q.QF
  | .inst p m => p.SubFree && SubFreeMap m

theorem subFreeMap_iff (m : List (Nat × NPat)) : SubFreeMap m = true ↔ ∀ kv ∈ m, kv.2.SubFree = true := by
  induction m with
  | nil => simp [SubFreeMap]
  | cons kv r ih => obtain ⟨k, v⟩ := kv; simp [SubFreeMap, ih]

theorem subFreeMap_append (a b : List (Nat × NPat)) : SubFreeMap (a ++ b) = (SubFreeMap a && SubFreeMap b) := by
  induction a with
  | nil => simp [SubFreeMap]
  | cons kv r ih => obtain ⟨k, v⟩ := kv; simp [SubFreeMap, ih, Bool.and_assoc]

theorem SubFree.qf : (p : NPat) → p.SubFree = true → p.QF = true
  | .evar _, _ | .svar _, _ | .sym _, _ | .mv _ _ _ _ _ _, _ => rfl
  | .imp l r, h | .app l r, h => by
    simp only [SubFree, Bool.and_eq_true] at h
    simp [QF, SubFree.qf l h.1, SubFree.qf r h.2]
  | .ex _ p, h | .mu _ p, h => by simp only [SubFree] at h; simp [QF, SubFree.qf p h]
  | .esub _ _ _, h | .ssub _ _ _, h => by simp [SubFree] at h
  | .inst p m, h => by simpa [QF, SubFree] using h

end NPat

/-- no substitution node -/
def Pat.SubFree : Pat → Bool
  | .evar _ => true | .svar _ => true | .sym _ => true
  | .mv _ _ _ _ _ _ => true
  | .imp l r => l.SubFree && r.SubFree
  | .app l r => l.SubFree && r.SubFree
  | .ex _ p => p.SubFree | .mu _ p => p.SubFree
  | .esub _ _ _ => false | .ssub _ _ _ => false

/-! ## moving the freshness constraints out of the way -/

/-- the three lists as one, injectively -/
def encC (ef sf ps : List VId) : List VId := ef.length :: sf.length :: (ef ++ (sf ++ ps))

theorem encC_inj {a b c a' b' c' : List VId} (h : encC a b c = encC a' b' c') : a = a' ∧ b = b' ∧ c = c' := by
  simp only [encC, List.cons.injEq] at h
  obtain ⟨h1, h2, h3⟩ := h
  obtain ⟨e1, h4⟩ := List.append_inj h3 h1
  obtain ⟨e2, e3⟩ := List.append_inj h4 h2
  exact ⟨e1, e2, e3⟩

theorem encC_beq (a b c a' b' c' : List VId) :
    (encC a b c == encC a' b' c') = (a == a' && b == b' && c == c') := by
  rw [Bool.eq_iff_iff]
  simp only [beq_iff_eq, Bool.and_eq_true]
  exact ⟨fun h => by obtain ⟨e1, e2, e3⟩ := encC_inj h; exact ⟨⟨e1, e2⟩, e3⟩, fun ⟨⟨e1, e2⟩, e3⟩ => by rw [e1, e2, e3]⟩

def Pat.cln : Pat → Pat
  | .evar x => .evar x | .svar x => .svar x | .sym s => .sym s
  | .mv id ef sf ps ns hs => .mv id [] [] (encC ef sf ps) ns hs
  | .imp l r => .imp l.cln r.cln
  | .app l r => .app l.cln r.cln
  | .ex x p => .ex x p.cln | .mu x p => .mu x p.cln
  | .esub p x q => .esub p.cln x q.cln
  | .ssub p x q => .ssub p.cln x q.cln

theorem Pat.cln_inj : ∀ (a b : Pat), a.cln = b.cln → a = b := by
  intro a
  induction a with
  | evar x | svar x | sym x => intro b h; cases b <;> injection h; rename_i h; rw [h]
  | mv id ef sf ps ns hs =>
    intro b h
    cases b <;> injection h
    rename_i h1 _ _ h4 h5 h6
    obtain ⟨e1, e2, e3⟩ := encC_inj h4
    rw [h1, e1, e2, e3, h5, h6]
  | imp l r ihl ihr | app l r ihl ihr =>
    intro b h
    cases b <;> injection h
    rename_i h1 h2
    rw [ihl _ h1, ihr _ h2]
  | ex x p ih | mu x p ih =>
    intro b h
    cases b <;> injection h
    rename_i h1 h2
    rw [h1, ih _ h2]
  | esub p x q ihp ihq | ssub p x q ihp ihq =>
    intro b h
    cases b <;> injection h
    rename_i h1 h2 h3
    rw [ihp _ h1, h2, ihq _ h3]

/-- on patterns without substitution nodes `instantiate` is plain replacement: it commutes with `cln` and creates no
substitution node -/
theorem Py.inst_cln (δ : VId → Option Pat) (hδ : ∀ k v, δ k = some v → v.SubFree = true) : ∀ q : Pat,
    q.SubFree = true →
    Py.inst (fun k => (δ k).map Pat.cln) q.cln = (Py.inst δ q).cln ∧ (Py.inst δ q).SubFree = true := by
  intro q
  induction q with
  | evar _ | svar _ | sym _ => intro _; exact ⟨rfl, rfl⟩
  | mv id ef sf ps ns hs =>
    intro _
    simp only [Pat.cln, Py.inst]
    cases h : δ id with
    | none => exact ⟨rfl, rfl⟩
    | some v => exact ⟨rfl, hδ _ _ h⟩
  | imp l r ihl ihr | app l r ihl ihr =>
    intro h; simp only [Pat.SubFree, Bool.and_eq_true] at h
    simp [Pat.cln, Py.inst, Pat.SubFree, ihl h.1, ihr h.2]
  | ex x p ih | mu x p ih => intro h; simp only [Pat.SubFree] at h; simp [Pat.cln, Py.inst, Pat.SubFree, ih h]
  | esub _ _ _ _ _ | ssub _ _ _ _ _ => intro h; simp [Pat.SubFree] at h

namespace NPat

mutual
def cln : NPat → NPat
  | .evar x => .evar x | .svar x => .svar x | .sym s => .sym s
  | .mv id ef sf ps ns hs => .mv id [] [] (encC ef sf ps) ns hs
  | .imp l r => .imp l.cln r.cln
  | .app l r => .app l.cln r.cln
  | .ex x p => .ex x p.cln | .mu x p => .mu x p.cln
  | .esub p x q => .esub p.cln x q.cln
  | .ssub p x q => .ssub p.cln x q.cln
  | .inst p m => .inst p.cln (clnMap m)
def clnMap : List (Nat × NPat) → List (Nat × NPat)
  | [] => []
  | (k, v) :: r => (k, v.cln) :: clnMap r
end

theorem clnMap_eq_map (m : List (Nat × NPat)) : clnMap m = m.map fun kv => (kv.1, kv.2.cln) := by
  induction m with
  | nil => rfl
  | cons kv r ih => obtain ⟨k, v⟩ := kv; simp [clnMap, ih]

theorem clnMap_append (a b : List (Nat × NPat)) : clnMap (a ++ b) = clnMap a ++ clnMap b := by
  simp [clnMap_eq_map]

theorem keys_clnMap (m : List (Nat × NPat)) : keys (clnMap m) = keys m := by
  simp [clnMap_eq_map, keys, List.map_map, Function.comp_def]

theorem isEmpty_clnMap (m : List (Nat × NPat)) : (clnMap m).isEmpty = m.isEmpty := by
  cases m with
  | nil => rfl
  | cons kv r => obtain ⟨k, v⟩ := kv; rfl

theorem lookup_clnMap (m : List (Nat × NPat)) (i : Nat) : Py.lookup (clnMap m) i = (Py.lookup m i).map cln := by
  induction m with
  | nil => rfl
  | cons kv r ih =>
    obtain ⟨k, v⟩ := kv
    simp only [clnMap, Py.lookup]
    split <;> simp [ih]

theorem filter_clnMap (f : Nat × NPat → Bool) (hf : ∀ k v, f (k, cln v) = f (k, v)) (m : List (Nat × NPat)) :
    (clnMap m).filter f = clnMap (m.filter f) := by
  induction m with
  | nil => rfl
  | cons kv r ih =>
    obtain ⟨k, v⟩ := kv
    simp only [clnMap, List.filter_cons, hf, ih]
    split <;> simp [clnMap]

theorem dedupKeys_clnMap (l : List (Nat × NPat)) (seen : List Nat) :
    dedupKeys (clnMap l) seen = clnMap (dedupKeys l seen) := by
  induction l generalizing seen with
  | nil => rfl
  | cons kv r ih =>
    obtain ⟨k, v⟩ := kv
    simp only [clnMap, dedupKeys]
    split
    · exact ih seen
    · simp [clnMap, ih]

theorem subFree_of_lookup (m : List (Nat × NPat)) (h : SubFreeMap m = true) (i : Nat) (v : NPat)
    (hl : Py.lookup m i = some v) : v.SubFree = true :=
  (subFreeMap_iff m).mp h _ (Py.lookup_mem _ _ _ hl)

theorem subFreeMap_filter (f : Nat × NPat → Bool) (m : List (Nat × NPat)) (h : SubFreeMap m = true) :
    SubFreeMap (m.filter f) = true := by
  rw [subFreeMap_iff] at h ⊢
  intro kv hkv
  exact h kv (List.mem_filter.mp hkv).1

theorem subFreeMap_dedupKeys (l : List (Nat × NPat)) (seen : List Nat) (h : SubFreeMap l = true) :
    SubFreeMap (dedupKeys l seen) = true := by
  rw [subFreeMap_iff] at h ⊢
  intro kv hkv
  exact h kv (mem_dedupKeys _ _ _ hkv)

/-! ## `instantiate` commutes with `cln` on patterns without substitution nodes -/

def ClnOK (n : Nat) : Prop :=
  (∀ δ p, p.SubFree = true → SubFreeMap δ = true →
    instF n (clnMap δ) p.cln = (instF n δ p).map cln ∧ ∀ r, instF n δ p = some r → r.SubFree = true) ∧
  (∀ δ m, SubFreeMap m = true → SubFreeMap δ = true →
    mapF n (clnMap δ) (clnMap m) = (mapF n δ m).map clnMap ∧ ∀ r, mapF n δ m = some r → SubFreeMap r = true) ∧
  (∀ p, p.SubFree = true → metavarsF n p.cln = metavarsF n p)

theorem clnOK_zero : ClnOK 0 :=
  ⟨fun δ p _ _ => ⟨by simp [instF], fun r h => by simp [instF] at h⟩,
   fun δ m _ _ => ⟨by simp [mapF], fun r h => by simp [mapF] at h⟩,
   fun p _ => by simp [metavarsF]⟩

theorem clnOK_step (n : Nat) (ih : ClnOK n) : ClnOK (n + 1) := by
  obtain ⟨ihI, ihM, ihV⟩ := ih
  refine ⟨?_, ?_, ?_⟩
  · intro δ p hp hδ
    cases p with
    | evar x | svar x | sym x =>
      exact ⟨by simp [instF, cln], fun r h => by simp [instF] at h; subst h; rfl⟩
    | mv id ef sf ps ns hs =>
      constructor
      · simp only [cln, instF, lookup_clnMap, Option.map_some]
        cases Py.lookup δ id <;> simp [cln]
      · intro r h
        simp only [instF, Option.some.injEq] at h
        subst h
        cases hl : Py.lookup δ id with
        | none => rfl
        | some q => exact subFree_of_lookup δ hδ id q hl
    | imp l r | app l r =>
      simp only [SubFree, Bool.and_eq_true] at hp
      obtain ⟨e1, s1⟩ := ihI δ l hp.1 hδ
      obtain ⟨e2, s2⟩ := ihI δ r hp.2 hδ
      constructor
      · simp only [cln, instF, isEmpty_clnMap, e1, e2]
        split
        · simp [cln]
        · cases instF n δ l <;> cases instF n δ r <;> rfl
      · intro x h
        simp only [instF] at h
        split at h
        · simp only [Option.some.injEq] at h; subst h; simp [SubFree, hp.1, hp.2]
        · simp only [Option.bind_eq_bind, Option.bind_eq_some_iff, Option.pure_def, Option.some.injEq] at h
          obtain ⟨a, ha, b, hb, rfl⟩ := h
          simp [SubFree, s1 a ha, s2 b hb]
    | ex y q | mu y q =>
      simp only [SubFree] at hp
      obtain ⟨e1, s1⟩ := ihI δ q hp hδ
      constructor
      · simp only [cln, instF, isEmpty_clnMap, e1]
        split
        · simp [cln]
        · cases instF n δ q <;> rfl
      · intro x h
        simp only [instF] at h
        split at h
        · simp only [Option.some.injEq] at h; subst h; simpa [SubFree] using hp
        · simp only [Option.bind_eq_bind, Option.bind_eq_some_iff, Option.pure_def, Option.some.injEq] at h
          obtain ⟨a, ha, rfl⟩ := h
          simpa [SubFree] using s1 a ha
    | esub _ _ _ | ssub _ _ _ => simp [SubFree] at hp
    | inst q m =>
      simp only [SubFree, Bool.and_eq_true] at hp
      obtain ⟨e1, s1⟩ := ihM δ m hp.2 hδ
      have e2 := ihV q hp.1
      constructor
      · simp only [cln, instF, e1, e2, keys_clnMap, Option.bind_eq_bind, Option.pure_def]
        cases hm : mapF n δ m with
        | none => simp
        | some m' =>
          cases hv : metavarsF n q with
          | none => simp
          | some mvs =>
            simp only [Option.map_some, Option.bind_some, Option.some.injEq]
            rw [filter_clnMap _ (fun k v => rfl), dedupKeys_clnMap, ← clnMap_append]
            rfl
      · intro x h
        simp only [instF, Option.bind_eq_bind, Option.bind_eq_some_iff, Option.pure_def, Option.some.injEq] at h
        obtain ⟨m', hm', mvs, _, rfl⟩ := h
        simp only [SubFree, hp.1, Bool.true_and, subFreeMap_append, Bool.and_eq_true]
        exact ⟨s1 m' hm', subFreeMap_dedupKeys _ _ (subFreeMap_filter _ _ hδ)⟩
  · intro δ m hm hδ
    cases m with
    | nil => exact ⟨by simp [mapF, clnMap], fun r h => by simp [mapF] at h; subst h; rfl⟩
    | cons kv r =>
      obtain ⟨k, v⟩ := kv
      simp only [SubFreeMap, Bool.and_eq_true] at hm
      obtain ⟨e1, s1⟩ := ihI δ v hm.1 hδ
      obtain ⟨e2, s2⟩ := ihM δ r hm.2 hδ
      constructor
      · simp only [clnMap, mapF, e1, e2, Option.bind_eq_bind, Option.pure_def]
        cases instF n δ v <;> cases mapF n δ r <;> rfl
      · intro x h
        simp only [mapF, Option.bind_eq_bind, Option.bind_eq_some_iff, Option.pure_def, Option.some.injEq] at h
        obtain ⟨a, ha, b, hb, rfl⟩ := h
        simp [SubFreeMap, s1 a ha, s2 b hb]
  · intro p hp
    cases p with
    | evar x | svar x | sym x | mv id ef sf ps ns hs => rfl
    | imp l r | app l r =>
      simp only [SubFree, Bool.and_eq_true] at hp
      simp only [cln, metavarsF, ihV l hp.1, ihV r hp.2]
    | ex y q | mu y q => simp only [SubFree] at hp; simp only [cln, metavarsF, ihV q hp]
    | esub _ _ _ | ssub _ _ _ => simp [SubFree] at hp
    | inst q m =>
      simp only [SubFree, Bool.and_eq_true] at hp
      obtain ⟨e1, s1⟩ := ihI m q hp.1 hp.2
      simp only [cln, metavarsF, e1, Option.bind_eq_bind]
      cases hi : instF n m q with
      | none => rfl
      | some s => simp only [Option.map_some, Option.bind_some]; exact ihV s (s1 s hi)

theorem clnOK_all (n : Nat) : ClnOK n := by
  induction n with
  | zero => exact clnOK_zero
  | succ n ih => exact clnOK_step n ih

theorem instF_cln {n : Nat} {δ : List (Nat × NPat)} {p : NPat} (hp : p.SubFree = true) (hδ : SubFreeMap δ = true) :
    instF n (clnMap δ) p.cln = (instF n δ p).map cln := ((clnOK_all n).1 δ p hp hδ).1

theorem instF_subFree {n : Nat} {δ : List (Nat × NPat)} {p r : NPat} (hp : p.SubFree = true)
    (hδ : SubFreeMap δ = true) (h : instF n δ p = some r) : r.SubFree = true := ((clnOK_all n).1 δ p hp hδ).2 r h

/-! ## `==` commutes with `cln` on quiet patterns -/

theorem isMetaN_cln (p : NPat) : p.cln.isMetaN = p.isMetaN := by
  cases p <;> rfl

theorem QF.cln_inst {p : NPat} {m : List (Nat × NPat)} (h : (NPat.inst p m).QF = true) :
    p.SubFree = true ∧ SubFreeMap m = true := by
  simpa [QF] using h

/-- the reflected case: a non-notation pattern against a notation node -/
theorem peqF_instR (n : Nat) (a p : NPat) (m : List (Nat × NPat)) (ha : a.isInst = false) :
    peqF (n + 1) a (.inst p m) = (instF n m p).bind fun s => peqF n s a := by
  cases a <;> first | rfl | (simp [isInst] at ha)

theorem isInst_cln (a : NPat) : a.cln.isInst = a.isInst := by
  cases a <;> rfl

theorem peqF_cln (n : Nat) : ∀ a b : NPat, a.QF = true → b.QF = true → peqF n a.cln b.cln = peqF n a b := by
  induction n with
  | zero => intro a b _ _; simp [peqF]
  | succ n ih =>
    intro a b ha hb
    have instL : ∀ p m, (NPat.inst p m).QF = true → ∀ b, b.QF = true →
        peqF (n + 1) (NPat.inst p m).cln b.cln = peqF (n + 1) (NPat.inst p m) b := by
      intro p m hpm b hb
      obtain ⟨hp, hm⟩ := QF.cln_inst hpm
      simp only [cln, peqF, Option.bind_eq_bind, instF_cln hp hm]
      cases hi : instF n m p with
      | none => rfl
      | some s =>
        simp only [Option.map_some, Option.bind_some]
        exact ih s b (SubFree.qf s (instF_subFree hp hm hi)) hb
    have instR : ∀ a, a.isInst = false → a.QF = true → ∀ p m, (NPat.inst p m).QF = true →
        peqF (n + 1) a.cln (NPat.inst p m).cln = peqF (n + 1) a (NPat.inst p m) := by
      intro a hai ha p m hpm
      obtain ⟨hp, hm⟩ := QF.cln_inst hpm
      have e : (NPat.inst p m).cln = NPat.inst p.cln (clnMap m) := by simp [cln]
      rw [e, peqF_instR n a.cln _ _ (by rw [isInst_cln]; exact hai), peqF_instR n a _ _ hai, instF_cln hp hm]
      cases hi : instF n m p with
      | none => rfl
      | some s =>
        simp only [Option.map_some, Option.bind_some]
        exact ih s a (SubFree.qf s (instF_subFree hp hm hi)) ha
    cases a with
    | inst p m => exact instL p m ha b hb
    | mv id ef sf ps ns hs =>
      cases b with
      | inst p m => exact instR _ rfl ha p m hb
      | mv id' ef' sf' ps' ns' hs' =>
        simp only [cln, peqF, encC_beq, Option.some.injEq]
        simp [Bool.and_assoc]
      | _ => rfl
    | _ =>
      cases b with
      | inst p m => exact instR _ rfl ha p m hb
      | _ =>
        -- different classes: both sides are `some false`; same class: the fields are compared by `ih`
        first
        | rfl
        | simp only [QF, Bool.and_eq_true] at ha hb
          simp only [cln, peqF, ih, *]

/-! ## `cln` of a quiet pattern is shaped, and expands to `Pat.cln` of the expansion -/

mutual
theorem cln_shape_QF : (p : NPat) → p.QF = true → p.cln.Shape = true
  | .evar _, _ | .svar _, _ | .sym _, _ | .mv _ _ _ _ _ _, _ => rfl
  | .imp l r, h | .app l r, h => by
    simp only [QF, Bool.and_eq_true] at h
    simp [cln, Shape, cln_shape_QF l h.1, cln_shape_QF r h.2]
  | .ex _ p, h | .mu _ p, h => by simp only [QF] at h; simp [cln, Shape, cln_shape_QF p h]
  | .esub p _ q, h | .ssub p _ q, h => by
    simp only [QF, Bool.and_eq_true] at h
    simp [cln, Shape, isMetaN_cln, h.1.1, cln_shape_QF p h.1.2, cln_shape_QF q h.2]
  | .inst p m, h => by
    simp only [QF, Bool.and_eq_true] at h
    simp [cln, Shape, cln_shape_QF p (SubFree.qf p h.1), clnMap_shape m h.2]
theorem clnMap_shape : (m : List (Nat × NPat)) → SubFreeMap m = true → ShapeMap (clnMap m) = true
  | [], _ => rfl
  | (_, v) :: r, h => by
    simp only [SubFreeMap, Bool.and_eq_true] at h
    simp [clnMap, ShapeMap, cln_shape_QF v (SubFree.qf v h.1), clnMap_shape r h.2]
end

mutual
theorem expand_cln : (p : NPat) → p.SubFree = true → p.cln.expand = p.expand.cln ∧ p.expand.SubFree = true
  | .evar _, _ | .svar _, _ | .sym _, _ | .mv _ _ _ _ _ _, _ => ⟨rfl, rfl⟩
  | .imp l r, h | .app l r, h => by
    simp only [SubFree, Bool.and_eq_true] at h
    obtain ⟨e1, s1⟩ := expand_cln l h.1
    obtain ⟨e2, s2⟩ := expand_cln r h.2
    exact ⟨by simp [cln, expand, Pat.cln, e1, e2], by simp [expand, Pat.SubFree, s1, s2]⟩
  | .ex _ p, h | .mu _ p, h => by
    simp only [SubFree] at h
    obtain ⟨e1, s1⟩ := expand_cln p h
    exact ⟨by simp [cln, expand, Pat.cln, e1], by simp [expand, Pat.SubFree, s1]⟩
  | .esub _ _ _, h | .ssub _ _ _, h => by simp [SubFree] at h
  | .inst p m, h => by
    simp only [SubFree, Bool.and_eq_true] at h
    obtain ⟨e1, s1⟩ := expand_cln p h.1
    obtain ⟨e2, s2⟩ := lookup_expandMap_cln m h.2
    have : Py.lookup (expand.expandMap (clnMap m)) = fun k => (Py.lookup (expand.expandMap m) k).map Pat.cln := by
      funext k; exact e2 k
    simp only [cln, expand, e1, this]
    exact Py.inst_cln _ s2 _ s1
theorem lookup_expandMap_cln : (m : List (Nat × NPat)) → SubFreeMap m = true →
    (∀ k, Py.lookup (expand.expandMap (clnMap m)) k = (Py.lookup (expand.expandMap m) k).map Pat.cln) ∧
    (∀ k v, Py.lookup (expand.expandMap m) k = some v → v.SubFree = true)
  | [], _ => ⟨fun _ => rfl, fun k v h => by simp [expand.expandMap, Py.lookup] at h⟩
  | (k0, v0) :: r, h => by
    simp only [SubFreeMap, Bool.and_eq_true] at h
    obtain ⟨e1, s1⟩ := expand_cln v0 h.1
    obtain ⟨e2, s2⟩ := lookup_expandMap_cln r h.2
    constructor
    · intro k
      simp only [clnMap, expand.expandMap, Py.lookup]
      split
      · simp [e1]
      · exact e2 k
    · intro k v hv
      simp only [expand.expandMap, Py.lookup] at hv
      split at hv
      · cases hv; exact s1
      · exact s2 k v hv
end

theorem expand_cln_QF : (p : NPat) → p.QF = true → p.cln.expand = p.expand.cln
  | .evar _, _ | .svar _, _ | .sym _, _ | .mv _ _ _ _ _ _, _ => rfl
  | .imp l r, h | .app l r, h => by
    simp only [QF, Bool.and_eq_true] at h
    simp [cln, expand, Pat.cln, expand_cln_QF l h.1, expand_cln_QF r h.2]
  | .ex _ p, h | .mu _ p, h => by simp only [QF] at h; simp [cln, expand, Pat.cln, expand_cln_QF p h]
  | .esub p _ q, h | .ssub p _ q, h => by
    simp only [QF, Bool.and_eq_true] at h
    simp [cln, expand, Pat.cln, expand_cln_QF p h.1.2, expand_cln_QF q h.2]
  | .inst p m, h => (expand_cln _ (by simpa [QF, SubFree] using h)).1

/-- **Python's `==` is truthful on quiet patterns**: whatever the constraints of the metavariables, if no substitution
node occurs inside a notation node (and substitution nodes are meta-headed), `a == b` answers whether the expansions
are equal -/
theorem peqF_expand_QF (n : Nat) (a b : NPat) (r : Bool) (ha : a.QF = true) (hb : b.QF = true)
    (h : peqF n a b = some r) : r = decide (a.expand = b.expand) := by
  rw [← peqF_cln n a b ha hb] at h
  have := peqF_expand n a.cln b.cln r (cln_shape_QF a ha) (cln_shape_QF b hb) h
  rw [expand_cln_QF a ha, expand_cln_QF b hb] at this
  rw [this]
  by_cases e : a.expand = b.expand
  · simp [e]
  · have : ¬ a.expand.cln = b.expand.cln := fun h => e (Pat.cln_inj _ _ h)
    simp [e, this]

end NPat

#print axioms NPat.peqF_expand_QF
